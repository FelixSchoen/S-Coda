/-
  C19 — token annotations agree with the detokenised timeline.
  `getInfo` and `detokenise` are two folds over the same token list; the theorems say that their
  clocks coincide on every stream the detokeniser accepts, so the time annotated on a note token is
  the tick at which `detokenise` places that note.
-/
import SCoda.Model.Token
import SCoda.Lemmas.ModifyAt
import SCoda.Lemmas.Detok
import SCoda.Lemmas.Sort
namespace SCoda.C19
open SCoda

/-- `detokenise` as a fold returning the whole state -/
def detokFold (c : Cfg) (toks : List Tok) : Except Err DetokSt :=
  toks.foldl (fun (acc : Except Err DetokSt) t =>
    match acc with | .ok d => dstep c d t | .error e => .error e) (Except.ok (DetokSt.init c))

/-- `get_info` as a fold returning the whole state -/
def infoFold (c : Cfg) (cof : Int → Int) (imp : Bool) (toks : List Tok) : InfoSt :=
  toks.foldl (infoStep c cof imp)
    { capTotal := c.capacity c.defNum c.defDen, capRem := c.capacity c.defNum c.defDen }


theorem modifyAt_length {α} (f : α → α) (i : Nat) (l : List α) : (modifyAt f i l).length = l.length :=
  length_modifyAt f i l

theorem detokFold_foldlM (c : Cfg) (toks : List Tok) : detokFold c toks = toks.foldlM (dstep c) (DetokSt.init c) :=
  foldl_bind (dstep c) _ (fun acc _ => by cases acc <;> rfl) toks (.ok (DetokSt.init c))

/-- the four clock fields of the two states coincide -/
def Clk (s : InfoSt) (d : DetokSt) : Prop :=
  s.curTime = d.curTime ∧ s.curTimeBar = d.curTimeBar ∧ s.capTotal = d.capTotal ∧ s.capRem = d.capRem

theorem dstep_note {c : Cfg} {d d' : DetokSt} {tr : Option Int} {p : Int} {v w : Option Int}
    (h : dstep c d (.note tr p v w) = .ok d') :
    ∃ d1 : DetokSt, d1.curTime = d.curTime ∧ d1.curTimeBar = d.curTimeBar ∧ d1.capTotal = d.capTotal
      ∧ d1.capRem = d.capRem ∧ d1.seqs = d.seqs ∧ dpart c d1 (.pit p) = .ok d' :=
  ⟨{ d with prvTrack := tr.getD d.prvTrack, prvValue := v.getD d.prvValue, prvVel := w.getD d.prvVel },
    rfl, rfl, rfl, rfl, rfl, Detok.dstep_note_eq c d tr p v w ▸ h⟩

theorem dpart_pit {c : Cfg} {d d' : DetokSt} {p : Int} (h : dpart c d (.pit p) = .ok d') :
    d'.curTime = d.curTime ∧ d'.curTimeBar = d.curTimeBar ∧ d'.capTotal = d.capTotal
      ∧ d'.capRem = d.capRem ∧ d'.prvVel = d.prvVel ∧ d'.prvValue = d.prvValue
      ∧ ∃ l : List Msg, d'.seqs[d.prvTrack.toNat]? = some l
        ∧ Msg.mkOn 0 p d.prvVel d.curTime ∈ l ∧ Msg.mkOff 0 p (d.curTime + d.prvValue) ∈ l := by
  simp only [dpart] at h
  split at h
  · cases h
  · rename_i hc
    simp only [Bool.or_eq_true, decide_eq_true_eq, not_or, Int.not_lt, Nat.not_le] at hc
    cases h
    refine ⟨rfl, rfl, rfl, rfl, rfl, rfl, ?_⟩
    simp only [addAbs, getElem?_modifyAt, if_true]
    have : d.seqs[d.prvTrack.toNat]? = some (d.seqs[d.prvTrack.toNat]'hc.2) := by simp
    rw [this]
    exact ⟨_, rfl, mem_insort_of_mem _ (mem_insort_self _ _), mem_insort_self _ _⟩

theorem infoStep_pos (c : Cfg) (cof : Int → Int) (imp : Bool) (s : InfoSt) (t : Tok) :
    (infoStep c cof imp s t).pos = s.pos + 1 := by
  simp [infoStep]

theorem infoStep_out (c : Cfg) (cof : Int → Int) (imp : Bool) (s : InfoSt) (t : Tok) :
    ∃ p q, (infoStep c cof imp s t).out = (s.pos, s.curTime, s.curTimeBar, p, q) :: s.out := by
  cases t <;> simp only [infoStep] <;> (try split) <;> exact ⟨_, _, rfl⟩

theorem infoStep_out_note (c : Cfg) (cof : Int → Int) (imp : Bool) (s : InfoSt)
    (tr : Option Int) (p : Int) (v w : Option Int) :
    (infoStep c cof imp s (.note tr p v w)).out
      = (s.pos, s.curTime, s.curTimeBar, some p, some (cof p)) :: s.out := by
  simp [infoStep]

theorem step_clk {c : Cfg} (cof : Int → Int) (imp : Bool) {s : InfoSt} {d d' : DetokSt} {t : Tok}
    (hc : Clk s d) (h : dstep c d t = .ok d') : Clk (infoStep c cof imp s t) d' := by
  obtain ⟨h1, h2, h3, h4⟩ := hc
  cases t with
  | note tr p v w =>
    obtain ⟨d1, e1, e2, e3, e4, -, hp⟩ := dstep_note h
    obtain ⟨f1, f2, f3, f4, -⟩ := dpart_pit hp
    exact ⟨h1.trans (f1.trans e1).symm, h2.trans (f2.trans e2).symm, h3.trans (f3.trans e3).symm,
      h4.trans (f4.trans e4).symm⟩
  | tsig a b =>
    have h' : dpart c d (.tsig a b) = .ok d' := h
    rw [dpart] at h'
    by_cases hb : d.curTimeBar > 0
    · rw [if_pos hb] at h'
      cases h'
      simp only [Clk, infoStep, if_pos (h2 ▸ hb)]
      exact ⟨h1, h2, h3, h4⟩
    · rw [if_neg hb] at h'
      dsimp only at h'
      simp only [Clk, infoStep, if_neg (h2 ▸ hb)]
      split at h'
      · cases h'
      · cases h'
        exact ⟨h1, h2, rfl, rfl⟩
  | bar => cases h; exact ⟨by show s.curTime + s.capRem = d.curTime + d.capRem; rw [h1, h4], rfl, h3, h3⟩
  | rest v => cases h; exact ⟨congrArg (· + v) h1, congrArg (· + v) h2, h3, congrArg (· - v) h4⟩
  | _ => cases h; exact ⟨h1, h2, h3, h4⟩

theorem info_foldl (c : Cfg) (cof : Int → Int) (imp : Bool) (s : InfoSt) (toks : List Tok) :
    (toks.foldl (infoStep c cof imp) s).pos = s.pos + (toks.length : Int) ∧
    ∃ rows, rows.length = toks.length ∧ (toks.foldl (infoStep c cof imp) s).out = rows ++ s.out := by
  induction toks generalizing s with
  | nil => exact ⟨by simp, [], rfl, rfl⟩
  | cons t ts ih =>
    obtain ⟨hp, rows, hl, ho⟩ := ih (infoStep c cof imp s t)
    obtain ⟨p, q, hq⟩ := infoStep_out c cof imp s t
    refine ⟨?_, rows ++ [(s.pos, s.curTime, s.curTimeBar, p, q)], ?_, ?_⟩
    · simp only [List.foldl, hp, infoStep_pos, List.length_cons]; omega
    · simp [hl]
    · simp only [List.foldl, ho, hq]; simp

theorem infoFold_pos (c : Cfg) (cof : Int → Int) (imp : Bool) (toks : List Tok) :
    (infoFold c cof imp toks).pos = (toks.length : Int) := by
  have := (info_foldl c cof imp
    { capTotal := c.capacity c.defNum c.defDen, capRem := c.capacity c.defNum c.defDen } toks).1
  simpa [infoFold] using this

theorem infoFold_out_length (c : Cfg) (cof : Int → Int) (imp : Bool) (toks : List Tok) :
    (infoFold c cof imp toks).out.length = toks.length := by
  obtain ⟨-, rows, hl, ho⟩ := info_foldl c cof imp
    { capTotal := c.capacity c.defNum c.defDen, capRem := c.capacity c.defNum c.defDen } toks
  simp only [infoFold, ho]; simp [hl]

theorem clk_foldl {c : Cfg} (cof : Int → Int) (imp : Bool) (toks : List Tok) (s : InfoSt) (d0 d : DetokSt)
    (hc : Clk s d0) (h : toks.foldlM (dstep c) d0 = .ok d) : Clk (toks.foldl (infoStep c cof imp) s) d := by
  induction toks generalizing s d0 with
  | nil => cases h; exact hc
  | cons t ts ih =>
    rw [List.foldlM_cons] at h
    cases hd : dstep c d0 t with
    | error e => rw [hd] at h; cases h
    | ok d1 => rw [hd] at h; exact ih _ _ (step_clk cof imp hc hd) h

theorem getInfo_eq (c : Cfg) (cof : Int → Int) (imp : Bool) (toks : List Tok) :
    getInfo c cof imp toks = (infoFold c cof imp toks).out.reverse := by
  rfl

/-- the row at position `pre.length` is the head of the output after stepping over `t` -/
theorem getInfo_at (c : Cfg) (cof : Int → Int) (imp : Bool) (pre : List Tok) (t : Tok) (post : List Tok) :
    (getInfo c cof imp (pre ++ t :: post))[pre.length]? =
      (infoStep c cof imp (infoFold c cof imp pre) t).out.head? := by
  rw [getInfo_eq]
  have : infoFold c cof imp (pre ++ t :: post)
      = post.foldl (infoStep c cof imp) (infoStep c cof imp (infoFold c cof imp pre) t) := by
    simp [infoFold, List.foldl_append]
  rw [this]
  obtain ⟨-, rows, -, ho⟩ := info_foldl c cof imp (infoStep c cof imp (infoFold c cof imp pre) t) post
  obtain ⟨p, q, hq⟩ := infoStep_out c cof imp (infoFold c cof imp pre) t
  rw [ho, hq]
  have hl := infoFold_out_length c cof imp pre
  simp only [List.reverse_append, List.reverse_cons, List.append_assoc, List.head?_cons]
  rw [List.getElem?_append_right (by simp [hl])]
  simp [hl]

/-- the row written for the token at position `pre.length` carries the clock after `pre` -/
theorem row_at (c : Cfg) (cof : Int → Int) (imp : Bool) (pre : List Tok) (t : Tok) (post : List Tok) :
    ∃ p q, (getInfo c cof imp (pre ++ t :: post))[pre.length]? =
      some ((pre.length : Int), (infoFold c cof imp pre).curTime, (infoFold c cof imp pre).curTimeBar, p, q) := by
  obtain ⟨p, q, hq⟩ := infoStep_out c cof imp (infoFold c cof imp pre) t
  exact ⟨p, q, by rw [getInfo_at, hq, infoFold_pos]; rfl⟩

theorem detokenise_eq (c : Cfg) (toks : List Tok) :
    detokenise c toks = (detokFold c toks).map (·.seqs) := by
  unfold detokenise detokFold
  generalize List.foldl _ _ toks = r
  cases r <;> rfl

/-- exactly one annotation row per token -/
theorem lengths (c : Cfg) (cof : Int → Int) (imp : Bool) (toks : List Tok) :
    (getInfo c cof imp toks).length = toks.length := by
  rw [getInfo_eq, List.length_reverse, infoFold_out_length]

/-- positions count 0, 1, 2, … -/
theorem positions (c : Cfg) (cof : Int → Int) (imp : Bool) (toks : List Tok) (i : Nat)
    (h : i < (getInfo c cof imp toks).length) :
    ((getInfo c cof imp toks)[i]).1 = (i : Int) := by
  have hl := lengths c cof imp toks
  have hi : i < toks.length := by omega
  have hsplit : toks = toks.take i ++ toks[i] :: toks.drop (i + 1) := by simp
  have hlen : (toks.take i).length = i := by simp; omega
  obtain ⟨p, q, hr⟩ := row_at c cof imp (toks.take i) toks[i] (toks.drop (i + 1))
  rw [← hsplit, hlen] at hr
  rw [List.getElem?_eq_getElem h] at hr
  simp only [Option.some.injEq] at hr
  rw [hr]

/-- the two clocks coincide on every stream the detokeniser accepts (any stream over the
    vocabulary, also ones no tokenise call produced) -/
theorem clocks_agree (c : Cfg) (cof : Int → Int) (imp : Bool) (toks : List Tok) (d : DetokSt)
    (h : detokFold c toks = .ok d) :
    let s := infoFold c cof imp toks
    s.curTime = d.curTime ∧ s.curTimeBar = d.curTimeBar ∧ s.capTotal = d.capTotal ∧ s.capRem = d.capRem
      ∧ s.pos = (toks.length : Int) := by
  have hc : Clk { capTotal := c.capacity c.defNum c.defDen, capRem := c.capacity c.defNum c.defDen }
      (DetokSt.init c) := ⟨rfl, rfl, rfl, rfl⟩
  obtain ⟨h1, h2, h3, h4⟩ := clk_foldl cof imp toks _ _ d hc (detokFold_foldlM c toks ▸ h)
  exact ⟨h1, h2, h3, h4, infoFold_pos c cof imp toks⟩

/-- **same clock**: for a note token, the annotated time is the onset at which `detokenise`
    places the note, and the pitch / circle-of-fifths annotations are the note's -/
theorem note_annotation (c : Cfg) (cof : Int → Int) (imp : Bool) (pre post : List Tok)
    (tr : Option Int) (p : Int) (v w : Option Int) (d d' : DetokSt)
    (hpre : detokFold c pre = .ok d) (hstep : dstep c d (.note tr p v w) = .ok d') :
    -- the annotation row of this token
    (getInfo c cof imp (pre ++ Tok.note tr p v w :: post))[pre.length]? =
        some ((pre.length : Int), d.curTime, d.curTimeBar, some p, some (cof p))
    -- and where detokenise puts the note: a note-on of pitch p at tick d.curTime in the sequence
    -- of the running track, with its note-off `value` ticks later
    ∧ ∃ (i : Nat) (l : List Msg), d'.seqs[i]? = some l
        ∧ Msg.mkOn 0 p d'.prvVel d.curTime ∈ l ∧ Msg.mkOff 0 p (d.curTime + d'.prvValue) ∈ l
        ∧ d'.curTime = d.curTime := by
  obtain ⟨h1, h2, -, -, -⟩ := clocks_agree c cof imp pre d hpre
  obtain ⟨d1, e1, -, -, -, -, hp⟩ := dstep_note hstep
  obtain ⟨f1, -, -, -, f5, f6, l, hl, hon, hoff⟩ := dpart_pit hp
  refine ⟨?_, _, l, hl, ?_, ?_, ?_⟩
  · rw [getInfo_at, infoStep_out_note, infoFold_pos, ← h1, ← h2]; rfl
  · rw [f5, ← e1]; exact hon
  · rw [f6, ← e1]; exact hoff
  · rw [f1, e1]

/-! non-vacuity: a concrete stream with a rest, a bar token in a partly filled bar, a mid-bar
    signature token and a note is accepted, and its note is annotated with tick 96 -/
def exCfg : Cfg := { steps := [2, 3, 4, 6, 8, 12, 16, 24], values := [4, 6, 8, 9, 12, 16, 18, 24, 36], bins := [127] }
example : (detokFold exCfg [.rest 12, .tsig 6 8, .bar, .note (some 0) 60 (some 24) (some 127)]).toOption.isSome = true := by
  decide +kernel
example : ((getInfo exCfg (fun _ => 0) false [.rest 12, .tsig 6 8, .bar, .note (some 0) 60 (some 24) (some 127)])[3]?).map (·.2.1)
    = some 96 := by
  decide +kernel

end SCoda.C19
