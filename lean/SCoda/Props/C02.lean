/-
  C02 — vocabulary is closed under tokenise; encode and decode are inverse bijections.
  `vocabSeq c` is the construction sequence of `_construct_dictionary` (entry i receives id i; a
  later duplicate key would overwrite an earlier id, exactly as in the Python dict), so
  `dictionarySize` (the separately incremented counter) equals the number of dict entries iff the
  sequence has no duplicates.
-/
import SCoda.Model.Token
import SCoda.Lemmas.Vocab
import SCoda.Lemmas.Tokenise
import SCoda.Lemmas.Detok
namespace SCoda.C02
open SCoda

/-- the configuration side conditions under which the vocabulary is a bijection: the step sizes,
    note values and velocity-bin values are duplicate free (D16: some `get_velocity_bins(n)` repeat
    127), and the two default-signature settings coincide (the dictionary uses the denominator, the
    emitted token the numerator) -/
structure CfgWF (c : Cfg) : Prop where
  steps_nodup : c.steps.Nodup
  values_nodup : c.values.Nodup
  bins_nodup : c.bins.Nodup
  def_eq : c.defNum = c.defDen

/-- no two entries of the construction sequence are equal: ids are one-to-one -/
theorem vocab_nodup (c : Cfg) (h : CfgWF c) : (vocabSeq c).Nodup := by
  exact Vocab.nodup_vocabSeq c h.steps_nodup h.values_nodup h.bins_nodup

/-- the reported size is the number of entries (of the dict: distinct keys) -/
theorem vocab_size (c : Cfg) (h : CfgWF c) : dictionarySize c = (vocabSeq c).eraseDups.length := by
  rw [Vocab.eraseDups_of_nodup (vocab_nodup c h)]; rfl

/-- ids are the consecutive positions 0..size-1 -/
theorem ids_consecutive (c : Cfg) (h : CfgWF c) (i : Nat) (hi : i < (vocabSeq c).length) :
    encodeTok c ((vocabSeq c)[i]) = some i := by
  have := Vocab.lastIdxGo_getElem (vocab_nodup c h) i hi 0 Option.none
  simpa [encodeTok] using this

theorem decode_encode (c : Cfg) (h : CfgWF c) (t : Tok) (ht : t ∈ vocabSeq c) :
    ∃ i, encodeTok c t = some i ∧ i < dictionarySize c ∧ decodeId c i = some t := by
  obtain ⟨i, hi, rfl⟩ := List.getElem_of_mem ht
  refine ⟨i, ids_consecutive c h i hi, hi, ?_⟩
  simp [decodeId, List.getElem?_eq_getElem hi, ids_consecutive c h i hi]

theorem encode_decode (c : Cfg) (h : CfgWF c) (i : Nat) (hi : i < dictionarySize c) :
    ∃ t, decodeId c i = some t ∧ t ∈ vocabSeq c ∧ encodeTok c t = some i := by
  have hi' : i < (vocabSeq c).length := hi
  refine ⟨(vocabSeq c)[i], ?_, List.getElem_mem _, ids_consecutive c h i hi'⟩
  simp [decodeId, List.getElem?_eq_getElem hi', ids_consecutive c h i hi']

theorem decode_encode_list (c : Cfg) (h : CfgWF c) (ts : List Tok) (hts : ∀ t ∈ ts, t ∈ vocabSeq c) :
    ∃ ids, encode c ts = some ids ∧ decode c ids = some ts := by
  induction ts with
  | nil => exact ⟨[], by simp [encode], by simp [decode]⟩
  | cons t ts ih =>
    obtain ⟨ids, h1, h2⟩ := ih (fun x hx => hts x (by simp [hx]))
    obtain ⟨i, e1, _, e2⟩ := decode_encode c h t (hts t (by simp))
    simp only [encode, decode] at h1 h2 ⊢
    refine ⟨i :: ids, ?_, ?_⟩
    · simp [List.mapM_cons, e1, h1]
    · simp [List.mapM_cons, e2, h2]

/-- every event's channel is a track index (what the merge glue guarantees: track i is put on channel i) -/
def ChannelsOk (c : Cfg) (evs : List (Int × Pairing)) : Prop :=
  ∀ ev ∈ evs, ∀ m ∈ ev.2.head?, 0 ≤ m.ch ∧ m.ch < (c.numTracks : Int)

/-- **closure**: every token `tokenise` emits for an input it accepts is a member of the vocabulary,
    from any carried state -/
theorem tokenise_closed (c : Cfg) (h : CfgWF c) (st st' : TokSt) (evs : List (Int × Pairing)) (toks : List Tok)
    (hch : ChannelsOk c evs) (hok : tokeniseCore c st evs = .ok (toks, st')) :
    ∀ t ∈ toks, t ∈ vocabSeq c := by
  exact Tokenise.tokeniseCore_closed c h.def_eq st st' evs toks hch hok

theorem encode_total_on_tokenise (c : Cfg) (h : CfgWF c) (st st' : TokSt) (evs : List (Int × Pairing))
    (toks : List Tok) (hch : ChannelsOk c evs) (hok : tokeniseCore c st evs = .ok (toks, st')) :
    ∃ ids, encode c toks = some ids := by
  obtain ⟨ids, h1, _⟩ := decode_encode_list c h toks (tokenise_closed c h st st' evs toks hch hok)
  exact ⟨ids, h1⟩

/-- every vocabulary token is accepted by `detokenise` (from any state with one output sequence per track) -/
theorem detok_accepts (c : Cfg) (t : Tok) (ht : t ∈ vocabSeq c) (d : DetokSt)
    (hd : d.seqs.length = c.numTracks) (hp : 0 ≤ d.prvTrack ∧ d.prvTrack < (c.numTracks : Int))
    (hn : 0 < c.numTracks) :
    ∃ d', dstep c d t = .ok d' ∧ d'.seqs.length = c.numTracks
      ∧ 0 ≤ d'.prvTrack ∧ d'.prvTrack < (c.numTracks : Int) := by
  obtain ⟨d', e, h1, h2, h3⟩ := Detok.dstep_ok c t ht d hn ⟨hd, hp.1, hp.2⟩
  exact ⟨d', e, h1, h2, h3⟩

theorem detokenise_accepts (c : Cfg) (toks : List Tok) (h : ∀ t ∈ toks, t ∈ vocabSeq c) (hn : 0 < c.numTracks) :
    ∃ seqs, detokenise c toks = .ok seqs := by
  obtain ⟨d', e, _⟩ := Detok.dsteps_ok c toks h (DetokSt.init c) hn (Detok.init_inv c hn)
  exact ⟨d'.seqs, by rw [Detok.detokenise_foldlM, e]; rfl⟩

/-! the full statement without `bins_nodup` is false of the library (known finding D16):
    `get_velocity_bins(19)` ends in 127, 127 -/
def badCfg : Cfg := { steps := [2], values := [4], bins := [122, 127, 127], pitchLo := 60, pitchHi := 60 }
theorem vocab_not_nodup_with_duplicate_bins : ¬ (vocabSeq badCfg).Nodup := by
  decide +kernel
theorem size_mismatch_with_duplicate_bins : dictionarySize badCfg ≠ (vocabSeq badCfg).eraseDups.length := by
  decide +kernel

def exCfg : Cfg := { steps := [2, 3, 4], values := [4, 6], bins := [63, 127], numTracks := 2, pitchLo := 60, pitchHi := 61,
                     fuseVel := false }
example : CfgWF exCfg := by
  constructor <;> decide
example : Tok.note (some 1) 61 (some 6) Option.none ∈ vocabSeq exCfg := by
  decide +kernel

end SCoda.C02
