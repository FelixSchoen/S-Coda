/-
  C01, third part — closes audit items A4 and A5 (docs/audit_report_round1.md).

  The theorems of `Props/C01.lean` and `Props/C01b.lean` (through `C01.core_sim_mono`, `Lemmas/TokSim.lean`) speak about the event list `extract tracks` (the model of
  the glue set_channel + merge + normalise + interleaved pairings) and about an instrumented emission log.
  Here the statements are about the *tracks* and about the *returned sequences*, with the right-hand
  sides written from the independent semantics of `Model/Roll.lean` (`eventsRel`, `eventsAbs`,
  `notesOf`, `durRel`, `durAbs`).

  All predicates on the input (`ValidTrack`, `ValidCore`, `SigPlacement`, `ValidTracks`, `Padded`, `HasTail`) are
  decidable and mention neither `extract` nor `specLog` nor the tokeniser; the specification-side definitions
  (`trackEvents`, `trackNotes`, `pieceNotes`, `sigChanges`, `pieceEnd`, `lastOnset`) are in `Lemmas/ExtractL.lean`,
  `binValue` and `barCeil` in `Lemmas/SpecLogL.lean`.

  Two layers meet here.  What one call makes of *any* acceptable event list — the returned sequences, the final clock —
  is `CallSeqsL.call_seqs` and `ExtractL.specLog_clock`; what `extract` makes of the tracks is `ExtractL.extract_perm` and
  its readings.  This file shows that valid tracks give acceptable events and reads the first layer through the second.
-/
import SCoda.Props.C01b
import SCoda.Props.C01Glue
import SCoda.Lemmas.CallSeqsL
namespace SCoda.C01c
open SCoda SCoda.C01 SCoda.ExtractL

/-- a time signature the tokeniser can express: positive, a whole number of eighths inside the
    configured range, and a bar of positive length on the grid `g` -/
def SigOk (c : Cfg) (g : Int) (num den : Int) : Prop :=
  0 < den ∧ 0 < num ∧ (num * c.defDen) % den = 0
    ∧ c.tsLo ≤ (num * c.defDen) / den ∧ (num * c.defDen) / den ≤ c.tsHi
    ∧ 0 < c.capacity num den ∧ c.capacity num den % g = 0

/-- one track (number `i`, relative message list `r`) meets the tokeniser's input constraints.
    Everything is said about the timed events / notes of the track on channel `i`
    (`trackEvents`, `trackNotes` — `Roll` semantics, no pairing code):
    well-formed, every note of positive length, onset on the grid, pitch in range, duration a note
    value, velocity not above the top bin; every time signature on the grid and expressible;
    the track's length on the grid. -/
def ValidTrack (c : Cfg) (g : Int) (i : Nat) (r : List Msg) : Prop :=
  OkRel r ∧ WF (trackEvents i r)
    ∧ (∀ n ∈ trackNotes i r, n.on < n.off ∧ n.on % g = 0 ∧ c.pitchLo ≤ n.pitch ∧ n.pitch ≤ c.pitchHi
          ∧ (n.off - n.on) ∈ c.values ∧ ∃ b ∈ c.bins, n.vel ≤ b)
    ∧ (∀ e ∈ eventsRel r, e.ty = .timeSignature → e.time % g = 0 ∧ SigOk c g e.num e.den)
    ∧ durRel r % g = 0

/-- all tracks are valid and there is one per configured track: what success and the note round trip
    need (signature *placement* is not needed for these: the tokeniser skips a mid-bar signature) -/
def ValidCore (c : Cfg) (g : Int) (tracks : List (List Msg)) : Prop :=
  tracks.length = c.numTracks ∧ ∀ x ∈ tracks.zipIdx, ValidTrack c g x.2 x.1

instance (c : Cfg) (g : Int) (num den : Int) : Decidable (SigOk c g num den) := by
  unfold SigOk; infer_instance
instance (r : List Msg) : Decidable (OkRel r) := by
  unfold OkRel NonNegWaits; infer_instance
instance (c : Cfg) (g : Int) (i : Nat) (r : List Msg) : Decidable (ValidTrack c g i r) := by
  unfold ValidTrack; infer_instance
instance (c : Cfg) (g : Int) (tracks : List (List Msg)) : Decidable (ValidCore c g tracks) := by
  unfold ValidCore; infer_instance

theorem ValidCore.track {c : Cfg} {g : Int} {tracks : List (List Msg)} (h : ValidCore c g tracks)
    {i : Nat} {r : List Msg} (hi : tracks[i]? = some r) : ValidTrack c g i r :=
  h.2 (r, i) (List.mem_zipIdx_iff_getElem?.2 hi)

theorem ValidTrack.notes {c : Cfg} {g : Int} {i : Nat} {r : List Msg} (h : ValidTrack c g i r) :
    ∀ n ∈ trackNotes i r, n.on < n.off ∧ n.on % g = 0 ∧ c.pitchLo ≤ n.pitch ∧ n.pitch ≤ c.pitchHi
      ∧ (n.off - n.on) ∈ c.values ∧ ∃ b ∈ c.bins, n.vel ≤ b := h.2.2.1
theorem ValidTrack.sigs {c : Cfg} {g : Int} {i : Nat} {r : List Msg} (h : ValidTrack c g i r) :
    ∀ e ∈ eventsRel r, e.ty = .timeSignature → e.time % g = 0 ∧ SigOk c g e.num e.den := h.2.2.2.1
theorem ValidTrack.durGrid {c : Cfg} {g : Int} {i : Nat} {r : List Msg} (h : ValidTrack c g i r) : durRel r % g = 0 :=
  h.2.2.2.2

theorem ValidCore.okRel {c : Cfg} {g : Int} {tracks : List (List Msg)} (h : ValidCore c g tracks) :
    ∀ t ∈ tracks, OkRel t := by
  intro t ht
  obtain ⟨i, hi⟩ := List.getElem?_of_mem ht
  exact (h.track hi).1

theorem ValidCore.good {c : Cfg} {g : Int} {tracks : List (List Msg)} (h : ValidCore c g tracks) :
    ∀ i r, tracks[i]? = some r → TrackGood i r := by
  intro i r hi
  obtain ⟨h1, h2, h3, _⟩ := h.track hi
  exact ⟨h1, h2, fun n hn => (h3 n hn).1⟩

/-- **A4(a)**: for valid tracks, the note events that the glue `extract` hands to the tokeniser are —
    each exactly once — the notes of the tracks, track `i` on channel `i`, with pitch, onset, end and
    velocity as read off the tracks by the independent `notesOf ∘ eventsRel` (`pieceNotes`, `trackNotes`;
    for a single-channel track `trackNotes i r = (notesOf (eventsRel r)).map (ch := i)`,
    `ExtractL.trackNotes_single`); the events come in onset order; and, track for track, the note events
    on channel `i` are exactly the notes of track `i`.  (That every other event is a time signature or an
    INTERNAL message is `Glue.extract_shape`.)  Closes A4(a): a glue that dropped or mis-paired a note
    would violate this. -/
theorem extract_notes (c : Cfg) (g : Int) (tracks : List (List Msg)) (hv : ValidCore c g tracks) :
    ((extract c.ppqn tracks).filterMap evNote).Perm (pieceNotes tracks)
    ∧ (extract c.ppqn tracks).Pairwise (fun a b => ∀ x ∈ a.2.head?, ∀ y ∈ b.2.head?, x.time ≤ y.time)
    ∧ ∀ (i : Nat) (r : List Msg), tracks[i]? = some r →
        (((extract c.ppqn tracks).filterMap evNote).filter (fun n => n.ch == (i : Int))).Perm (trackNotes i r) := by
  have hP := extract_notes_perm c.ppqn tracks hv.good
  refine ⟨hP, Glue.extract_ordered c.ppqn tracks, ?_⟩
  intro i r hi
  refine (hP.filter _).trans ?_
  rw [pieceNotes_filter_ch tracks i r hi]

/-- **A4(b), first half**: the events `extract` makes of valid tracks satisfy the hypothesis `EvsValid`
    of the success theorem `C01.tokenise_succeeds_partial` (so that hypothesis follows from the
    track-level constraints: grid, pitch range, note values, bins, expressible signatures) -/
theorem valid_tracks_evs (c : Cfg) (hc : CfgOk c) (g : Int) (tracks : List (List Msg)) (hv : ValidCore c g tracks) :
    EvsValid c g (extract c.ppqn tracks) := by
  have _ := hc  -- not needed: the events are read off `extract_head`, whatever the resolution
  have hsig : ∀ {m : Msg} {i r}, tracks[i]? = some r → m ∈ trackEvents i r → m.ty = .timeSignature →
      m.time % g = 0 ∧ SigOk c g m.num m.den := by
    intro m i r hi hme hty
    simp only [trackEvents, List.mem_map] at hme
    obtain ⟨e, he, rfl⟩ := hme
    exact (hv.track hi).sigs e he hty
  refine ⟨fun ev hev m hm => ?_, fun ev hev m hm hty => ?_, fun ev hev m hm hty => ?_⟩
  · rcases extract_head c.ppqn tracks hv.good ev hev m hm with ⟨off, _, _, hp⟩ | ⟨_, hty, i, r, hi, hme⟩ | ⟨_, _, ht⟩
    · obtain ⟨i, r, hi, _, hn⟩ := piecePairs_note hp
      exact ((hv.track hi).notes _ hn).2.1
    · exact (hsig hi hme hty).1
    · rw [ht]
      rcases pieceEnd_mem tracks with h0 | ⟨r, hr, he⟩
      · rw [h0]; rfl
      · obtain ⟨i, hi⟩ := List.getElem?_of_mem hr
        rw [he]; exact (hv.track hi).durGrid
  · obtain ⟨off, he, hp⟩ := extract_head_on c.ppqn tracks hv.good ev hev m hm hty
    obtain ⟨i, r, hi, _, hn⟩ := piecePairs_note hp
    obtain ⟨_, _, h3, h4, h5, h6⟩ := (hv.track hi).notes _ hn
    exact ⟨off, he, h3, h4, h5, binIndex_lt _ _ h6⟩
  · obtain ⟨i, r, hi, hme⟩ := extract_head_ts c.ppqn tracks hv.good ev hev m hm hty
    obtain ⟨_, _, _, h3, h4, h5, h6, h7⟩ := hsig hi hme hty
    exact ⟨h3, h4, h5, h6, h7⟩

theorem extract_shape' (c : Cfg) (hc : CfgOk c) (g : Int) (tracks : List (List Msg)) (hv : ValidCore c g tracks) :
    Shape (extract c.ppqn tracks) := by
  intro ev hev
  rcases Glue.extract_shape c.ppqn (Int.le_of_lt hc.ppqn_pos) tracks hv.okRel ev hev with ⟨on, off, h1, h2, _⟩ | ⟨m, h1, hty⟩
  · exact Or.inl ⟨on, off, h1, h2⟩
  · refine Or.inr ⟨m, h1, ?_⟩
    rcases hty with hty | hty <;> rw [hty] <;> decide

theorem valid_hts (c : Cfg) (g : Int) (tracks : List (List Msg)) (hv : ValidCore c g tracks) :
    ∀ t ∈ tracks, ∀ m ∈ t, m.ty = .timeSignature → 0 < m.den ∧ 0 < m.num := by
  intro t ht m hm hty
  obtain ⟨i, hi⟩ := List.getElem?_of_mem ht
  obtain ⟨e, he, h1, h2, h3⟩ := msg_event t 0 m hm (by rw [hty]; decide)
  obtain ⟨_, hs⟩ := (hv.track hi).sigs e he (h1.trans hty)
  rw [← h2, ← h3]
  exact ⟨hs.1, hs.2.1⟩

theorem valid_tracks_evsOk (c : Cfg) (g : Int) (tracks : List (List Msg)) (hv : ValidCore c g tracks) :
    EvsOk c 0 0 (extract c.ppqn tracks) :=
  extract_evsOk c tracks hv.1 hv.okRel (valid_hts c g tracks hv)

/-- **A4(b)**: tokenisation of every valid piece succeeds from the initial state.
    Hypotheses: `CfgOk` (positive step sizes / ppqn, default signature n/n), the grid condition `GridOk`
    on the step sizes (sufficient for the greedy rest decomposition), the default bar on the grid, and
    the input-level `ValidCore` (implied by `ValidTracks`). -/
theorem tokenise_succeeds_tracks (c : Cfg) (hc : CfgOk c) (g : Int) (hg : GridOk c g)
    (hdef : c.capacity c.defNum c.defDen % g = 0) (tracks : List (List Msg)) (hv : ValidCore c g tracks) :
    ∃ toks st', tokeniseCore c (TokSt.init c) (extract c.ppqn tracks) = .ok (toks, st') := by
  have hpos := hc.defCap_pos
  exact tokenise_succeeds_partial c hc g hg (TokSt.init c) _ (valid_tracks_evsOk c g tracks hv)
    (valid_tracks_evs c hc g tracks hv) (extract_nonempty c.ppqn tracks hv.okRel) rfl hpos hdef (Int.le_refl 0) hpos hdef

/-- **what `extract` makes of valid tracks is an event list the round trip of a call applies to** (`CallSeqsL.CallOk`) -/
theorem valid_callOk (c : Cfg) (hc : CfgOk c) (g : Int) (tracks : List (List Msg)) (hv : ValidCore c g tracks) :
    CallSeqsL.CallOk c (extract c.ppqn tracks) where
  ok := valid_tracks_evsOk c g tracks hv
  caps := fun ev hev m hm hty => ((valid_tracks_evs c hc g tracks hv).sigOk ev hev m hm hty).2.2.2.1
  shape := extract_shape' c hc g tracks hv
  notePos := (extract_notes_chain c.ppqn tracks hv.good).1
  chain := (extract_notes_chain c.ppqn tracks hv.good).2

/-- **the detokenised sequences of a valid piece**: `CallSeqsL.call_seqs` for what `extract` makes of the tracks, a note
    event's end bounded by the end of the piece and the note events on channel `i` read as the notes of track `i` -/
theorem run_seqs (c : Cfg) (hc : CfgOk c) (g : Int) (tracks : List (List Msg))
    (hv : ValidCore c g tracks) (toks : List Tok) (st' : TokSt)
    (h : tokeniseCore c (TokSt.init c) (extract c.ppqn tracks) = .ok (toks, st')) :
    ∃ seqs, detokenise c toks = .ok seqs ∧ seqs.length = c.numTracks ∧
      ∀ (i : Nat) (s : List Msg), seqs[i]? = some s →
        MergeL.Sorted s
        ∧ (∀ m ∈ s, 0 ≤ m.time ∧
            (m.time ≤ (specLog c (TokSt.init c) (extract c.ppqn tracks)).1.cur ∨ m.time ≤ pieceEnd tracks))
        ∧ (0 < (specLog c (TokSt.init c) (extract c.ppqn tracks)).1.cur →
            ∃ m ∈ s, m.time = (specLog c (TokSt.init c) (extract c.ppqn tracks)).1.cur)
        ∧ ∀ r, tracks[i]? = some r →
            (notesOf (eventsAbs s)).Perm ((trackNotes i r).map ((fun n : Note => { n with ch := 0 }) ∘ binShift c 0)) := by
  obtain ⟨hP, _, hPi⟩ := extract_notes c g tracks hv
  obtain ⟨seqs, h1, h2, h3⟩ := CallSeqsL.call_seqs c hc _ (valid_callOk c hc g tracks hv) toks st' h
  refine ⟨seqs, h1, h2, fun i s hs => ?_⟩
  obtain ⟨hsorted, hle, hex, hnotes⟩ := h3 i s hs
  refine ⟨hsorted, fun m hm => ⟨(hle m hm).1, (hle m hm).2.imp id fun ⟨n, hn, hmn⟩ => ?_⟩, hex,
    fun r hi => hnotes.trans ((hPi i r hi).map _)⟩
  have := (pieceNotes_bounds tracks hv.okRel n (hP.mem_iff.1 hn)).2
  omega

/-- **A4(c,d) — the note round trip, track for track**: whenever `tokenise` accepts the valid tracks (it
    does: `tokenise_succeeds_tracks`), `detokenise` of the tokens returns one sequence per track, and the
    notes of sequence `i` — read off its absolute messages by the independent `notesOf ∘ eventsAbs` — are
    exactly the notes of track `i` (pitch, onset, end) on channel 0 with each velocity replaced by the value
    of its bin, `binValue` = the smallest bin value not below the velocity (specified without `binIndex`).
    Extra hypothesis: the bin values are non-decreasing (true of `get_velocity_bins`). -/
theorem roundtrip_notes (c : Cfg) (hc : CfgOk c) (hn : 0 < c.numTracks) (hbins : c.bins.Pairwise (· ≤ ·))
    (g : Int) (tracks : List (List Msg)) (hv : ValidCore c g tracks) (toks : List Tok) (st' : TokSt)
    (h : tokeniseCore c (TokSt.init c) (extract c.ppqn tracks) = .ok (toks, st')) :
    ∃ seqs, detokenise c toks = .ok seqs ∧ seqs.length = c.numTracks ∧
      ∀ (i : Nat) (r s : List Msg), tracks[i]? = some r → seqs[i]? = some s →
        (notesOf (eventsAbs s)).Perm
          ((trackNotes i r).map (fun n => { n with ch := 0, vel := binValue c.bins n.vel })) := by
  have _ := hn
  obtain ⟨seqs, h1, h2, h3⟩ := run_seqs c hc g tracks hv toks st' h
  refine ⟨seqs, h1, h2, fun i r s hi hs => ((h3 i s hs).2.2.2 r hi).trans ?_⟩
  have hmap : (trackNotes i r).map ((fun n : Note => { n with ch := 0 }) ∘ binShift c 0)
      = (trackNotes i r).map (fun n => { n with ch := 0, vel := binValue c.bins n.vel }) := by
    apply List.map_congr_left
    intro n hn'
    obtain ⟨_, _, _, _, _, h6⟩ := (hv.track hi).notes n hn'
    show ({ (binShift c 0 n) with ch := 0 } : Note) = { n with ch := 0, vel := binValue c.bins n.vel }
    simp only [binShift, bins_lookup c.bins n.vel hbins h6, Note.mk.injEq, true_and, and_true]
    constructor <;> omega
  rw [hmap]

/-- `roundtrip_notes` for single-channel tracks (the property's "one single-channel sequence per track"):
    sequence `i` holds exactly the notes `notesOf (eventsRel track_i)` of the track's own relative list —
    pitch, onset, end — on channel 0 with each velocity replaced by the value of its bin (A4) -/
theorem roundtrip_notes_single (c : Cfg) (hc : CfgOk c) (hn : 0 < c.numTracks) (hbins : c.bins.Pairwise (· ≤ ·))
    (g : Int) (tracks : List (List Msg)) (hv : ValidCore c g tracks)
    (hone : ∀ r ∈ tracks, ∃ ch0, OneChannel ch0 r) (toks : List Tok) (st' : TokSt)
    (h : tokeniseCore c (TokSt.init c) (extract c.ppqn tracks) = .ok (toks, st')) :
    ∃ seqs, detokenise c toks = .ok seqs ∧ seqs.length = c.numTracks ∧
      ∀ (i : Nat) (r s : List Msg), tracks[i]? = some r → seqs[i]? = some s →
        (notesOf (eventsAbs s)).Perm
          ((notesOf (eventsRel r)).map (fun n => { n with ch := 0, vel := binValue c.bins n.vel })) := by
  obtain ⟨seqs, h1, h2, h3⟩ := roundtrip_notes c hc hn hbins g tracks hv toks st' h
  refine ⟨seqs, h1, h2, ?_⟩
  intro i r s hi hs
  obtain ⟨ch0, hch⟩ := hone r (List.mem_of_getElem? hi)
  have := h3 i r s hi hs
  rw [trackNotes_single i ch0 r hch, List.map_map] at this
  exact this

/-- **C01, notes, end to end**: every valid piece is tokenised, and detokenising returns, track for track,
    exactly its notes with each velocity replaced by the value of its bin (closes A4). -/
theorem roundtrip_piece (c : Cfg) (hc : CfgOk c) (hn : 0 < c.numTracks) (hbins : c.bins.Pairwise (· ≤ ·))
    (g : Int) (hg : GridOk c g) (hdef : c.capacity c.defNum c.defDen % g = 0)
    (tracks : List (List Msg)) (hv : ValidCore c g tracks) :
    ∃ toks st' seqs, tokeniseCore c (TokSt.init c) (extract c.ppqn tracks) = .ok (toks, st')
      ∧ detokenise c toks = .ok seqs ∧ seqs.length = c.numTracks ∧
      ∀ (i : Nat) (r s : List Msg), tracks[i]? = some r → seqs[i]? = some s →
        (notesOf (eventsAbs s)).Perm
          ((trackNotes i r).map (fun n => { n with ch := 0, vel := binValue c.bins n.vel })) := by
  obtain ⟨toks, st', h⟩ := tokenise_succeeds_tracks c hc g hg hdef tracks hv
  obtain ⟨seqs, h1, h2, h3⟩ := roundtrip_notes c hc hn hbins g tracks hv toks st' h
  exact ⟨toks, st', seqs, h, h1, h2, h3⟩

/-- **signatures on bar boundaries**, at input level: within a track no two time signatures share a tick,
    signatures of different tracks on one tick agree, and every signature *change* of the piece
    (`sigChanges`: all time-signature events in tick order, repeats of the signature in force dropped)
    stands on a bar line of the grid induced by the earlier changes (`OnBars`, starting from the default
    signature at tick 0) -/
def SigPlacement (c : Cfg) (tracks : List (List Msg)) : Prop :=
  SigsStrict tracks ∧ SigsAgree tracks ∧ OnBars c (clock0 c) (sigChanges tracks)

/-- the input class of C01: valid tracks whose signatures are placed on bar boundaries -/
def ValidTracks (c : Cfg) (g : Int) (tracks : List (List Msg)) : Prop :=
  ValidCore c g tracks ∧ SigPlacement c tracks

instance (tracks : List (List Msg)) : Decidable (SigsStrict tracks) := by unfold SigsStrict; infer_instance
instance (tracks : List (List Msg)) : Decidable (SigsAgree tracks) := by unfold SigsAgree; infer_instance
instance (c : Cfg) (tracks : List (List Msg)) : Decidable (SigPlacement c tracks) := by
  unfold SigPlacement; infer_instance
instance (c : Cfg) (g : Int) (tracks : List (List Msg)) : Decidable (ValidTracks c g tracks) := by
  unfold ValidTracks; infer_instance
instance (tracks : List (List Msg)) : Decidable (Padded tracks) := by unfold Padded; infer_instance
instance (tracks : List (List Msg)) : Decidable (EndsInRest tracks) := by unfold EndsInRest; infer_instance

theorem ValidTracks.core {c : Cfg} {g : Int} {tracks : List (List Msg)} (h : ValidTracks c g tracks) :
    ValidCore c g tracks := h.1

/-- the end of the last bar, computed from the input alone: the first bar line at or after the end of the
    piece (`pieceEnd` = the longest track) on the grid induced by the signature changes -/
def lastBarEnd (c : Cfg) (tracks : List (List Msg)) : Int := barCeil c (sigChanges tracks) (pieceEnd tracks)

/-- **the input class of known finding D15**: the piece does not end in a rest (`EndsInRest`: every timed
    event lies strictly before the end of the piece — e.g. every track is padded, `ExtractL.padded_endsInRest`),
    and it extends beyond the first bar line at or after its last onset (`lastOnset`: the latest note onset or
    signature change) — some note is still sounding there.  Then the tokeniser's clock, which only advances
    to onsets and to the end of a final rest, stops short of the end of the piece. -/
def HasTail (c : Cfg) (tracks : List (List Msg)) : Prop :=
  ¬ EndsInRest tracks ∧ barCeil c (sigChanges tracks) (lastOnset tracks) < pieceEnd tracks

instance (c : Cfg) (tracks : List (List Msg)) : Decidable (HasTail c tracks) := by unfold HasTail; infer_instance

/-- **the final clock of the specification log of a valid piece**: `ExtractL.specLog_clock` for what `extract` makes of the
    tracks, read at the end of the piece -/
theorem clock_facts (c : Cfg) (hc : CfgOk c) (g : Int) (tracks : List (List Msg)) (hv : ValidTracks c g tracks) :
    (specLog c (TokSt.init c) (extract c.ppqn tracks)).1.cur
        = barCeil c (sigChanges tracks) (lastHead (extract c.ppqn tracks) 0)
    ∧ 0 ≤ lastHead (extract c.ppqn tracks) 0
    ∧ lastHead (extract c.ppqn tracks) 0 ≤ (specLog c (TokSt.init c) (extract c.ppqn tracks)).1.cur
    ∧ (specLog c (TokSt.init c) (extract c.ppqn tracks)).1.cur ≤ lastBarEnd c tracks
    ∧ pieceEnd tracks ≤ lastBarEnd c tracks
    ∧ (pieceEnd tracks ≤ (specLog c (TokSt.init c) (extract c.ppqn tracks)).1.cur →
        (specLog c (TokSt.init c) (extract c.ppqn tracks)).1.cur = lastBarEnd c tracks) := by
  obtain ⟨hcore, hst, hag, hob⟩ := hv
  have hok := hcore.okRel
  have hev := valid_tracks_evsOk c g tracks hcore
  have hne := extract_nonempty c.ppqn tracks hok
  have hts := extract_ts c.ppqn tracks hok hst hag
  have hcall := valid_callOk c hc g tracks hcore
  have hC := specLog_clock c hc _ hev hcall.caps hcall.shape (by rw [hts]; exact hob)
  rw [hts] at hC
  obtain ⟨hK, hL0, hT⟩ := hC
  have hLle : lastHead (extract c.ppqn tracks) 0 ≤ pieceEnd tracks := by
    rcases (lastHead_max (extract c.ppqn tracks) 0 hev.ordered hne).2 with h | ⟨ev, hev', m, hm, h⟩
    · rw [h]; exact pieceEnd_nonneg tracks
    · rw [h]; exact final_time_le tracks hok m (Glue.extract_head_mem c.ppqn tracks ev hev' m hm)
  obtain ⟨h1, h2, h3⟩ := hT _ hLle
  rw [← hK] at h2 h3
  exact ⟨hK, hL0, by rw [hK]; exact (hT _ (Int.le_refl _)).1, h2, h1, fun h => (h3 h).symm⟩

/-- **outside `HasTail` the final clock is the end of the last bar**: in both cases below the end of the piece is not
    beyond the clock, and `clock_facts` closes -/
theorem final_clock (c : Cfg) (hc : CfgOk c) (g : Int) (tracks : List (List Msg))
    (hv : ValidTracks c g tracks) (hnt : ¬ HasTail c tracks) :
    (specLog c (TokSt.init c) (extract c.ppqn tracks)).1.cur = lastBarEnd c tracks
    ∧ pieceEnd tracks ≤ lastBarEnd c tracks := by
  obtain ⟨hK, hL0, hLK, _, hTle, hKT⟩ := clock_facts c hc g tracks hv
  obtain ⟨hcore, hst, hag, hob⟩ := hv
  have hsigHead := sigChanges_head c.ppqn tracks hcore.okRel hst hag
  have hok := hcore.okRel
  have hev := valid_tracks_evsOk c g tracks hcore
  have hts := extract_ts c.ppqn tracks hok hst hag
  obtain ⟨hmax, hmem⟩ := lastHead_max (extract c.ppqn tracks) 0 hev.ordered (extract_nonempty c.ppqn tracks hok)
  have hfin : pieceEnd tracks ≤ (specLog c (TokSt.init c) (extract c.ppqn tracks)).1.cur := by
    by_cases hint : ∃ m ∈ GlueAux.final tracks, m.ty = .internal
    · -- the piece is padded: the clock is taken to the end of the piece
      obtain ⟨m, hm, hty⟩ := hint
      obtain ⟨ev, hev', hev2⟩ := extract_internal c.ppqn tracks hok m hm hty
      have h1 := hmax ev hev' m (by rw [hev2]; simp)
      rw [final_internal_end tracks hok m hm hty] at h1
      omega
    · -- no end marker: the last event is the last onset
      have hLon : lastHead (extract c.ppqn tracks) 0 = lastOnset tracks := by
        unfold lastOnset
        obtain ⟨s0, s1, s2⟩ := listMax_spec ((pieceNotes tracks).map (·.on) ++ (sigChanges tracks).map (·.time))
        have hP := (extract_notes c g tracks hcore).1
        apply Int.le_antisymm
        · rcases hmem with h | ⟨ev, hev', m, hm, h⟩
          · rw [h]; exact s0
          · rw [h]
            apply s1
            rw [List.mem_append]
            rcases extract_head c.ppqn tracks hcore.good ev hev' m hm with ⟨off, _, _, hp⟩ | ⟨he, hty, _⟩ | ⟨_, hty, _⟩
            · exact Or.inl (List.mem_map.2 ⟨NotesL.mkNote (m, off), by rw [pieceNotes_eq]; exact List.mem_map_of_mem hp, rfl⟩)
            · have : m ∈ sigChanges tracks := by
                rw [← hts, List.mem_filterMap]
                exact ⟨ev, hev', by simp [tsOf, he, hty]⟩
              exact Or.inr (List.mem_map.2 ⟨_, this, rfl⟩)
            · exact absurd ⟨m, Glue.extract_head_mem c.ppqn tracks ev hev' m hm, hty⟩ hint
        · rcases s2 with h | h
          · rw [h]; exact hL0
          · rcases List.mem_append.1 h with h | h
            · obtain ⟨n, hn', hne'⟩ := List.mem_map.1 h
              have hn2 := hP.mem_iff.2 hn'
              rw [List.mem_filterMap] at hn2
              obtain ⟨ev, hev', hevn⟩ := hn2
              obtain ⟨on, off, h1, rfl⟩ := evNote_some hevn
              rw [← hne']
              exact hmax ev hev' on (by rw [h1]; simp)
            · obtain ⟨m, hm', hme⟩ := List.mem_map.1 h
              obtain ⟨ev, hev', hmh, _⟩ := hsigHead m hm'
              rw [← hme]
              exact hmax ev hev' m hmh
      by_cases hp : EndsInRest tracks
      · by_cases hpos : 0 < pieceEnd tracks
        · exact absurd (padded_internal tracks hok hp hpos) hint
        · omega
      · rw [hLon] at hK
        rw [hK]
        apply Classical.byContradiction
        intro hlt
        exact hnt ⟨hp, by omega⟩
  exact ⟨hKT hfin, hTle⟩

/-- **what the detokenised sequences of a valid piece hold**: `run_seqs` with the clock bounded by `clock_facts`, `final_clock` -/
theorem seq_facts (c : Cfg) (hc : CfgOk c) (g : Int) (tracks : List (List Msg))
    (hv : ValidTracks c g tracks) (toks : List Tok) (st' : TokSt)
    (h : tokeniseCore c (TokSt.init c) (extract c.ppqn tracks) = .ok (toks, st')) :
    ∃ seqs, detokenise c toks = .ok seqs ∧ seqs.length = c.numTracks ∧
      ∀ (i : Nat) (s : List Msg), seqs[i]? = some s →
        MergeL.Sorted s ∧ (∀ m ∈ s, 0 ≤ m.time ∧ m.time ≤ lastBarEnd c tracks)
        ∧ (¬ HasTail c tracks → lastBarEnd c tracks = 0 ∨ ∃ m ∈ s, m.time = lastBarEnd c tracks)
        ∧ ∀ r, tracks[i]? = some r → ∀ n ∈ trackNotes i r, ∃ m ∈ s, m.time = n.off := by
  obtain ⟨seqs, h1, h2, h3⟩ := run_seqs c hc g tracks hv.core toks st' h
  obtain ⟨_, _, _, hCle, hTle, _⟩ := clock_facts c hc g tracks hv
  refine ⟨seqs, h1, h2, fun i s hs => ?_⟩
  obtain ⟨hsorted, hle, hex, hnotes⟩ := h3 i s hs
  refine ⟨hsorted, fun m hm => ⟨(hle m hm).1, by have := (hle m hm).2; omega⟩, ?_, ?_⟩
  · intro hnt
    rw [(final_clock c hc g tracks hv hnt).1] at hex
    have := pieceEnd_nonneg tracks
    by_cases h0 : lastBarEnd c tracks = 0
    · exact Or.inl h0
    · exact Or.inr (hex (by omega))
  · intro r hi n hnr
    -- the notes of sequence `i` are the notes of track `i` with the velocity binned: same note-off ticks
    have hmem : ((fun n : Note => { n with ch := 0 }) ∘ binShift c 0) n ∈ notesOf (eventsAbs s) :=
      (hnotes r hi).mem_iff.2 (List.mem_map.2 ⟨n, hnr, rfl⟩)
    obtain ⟨f, hf, hoff⟩ := notesGo_off_src (eventsAbs s) [] _ hmem
    refine ⟨f, (List.mem_filter.1 hf).1, ?_⟩
    rw [← hoff]
    simp only [Function.comp, binShift]
    omega

/-- **A5 — the duration clause, input level**: for valid tracks (signatures on bar boundaries) outside the
    input class `HasTail` of known finding D15, every sequence returned by `detokenise` has as its duration
    (`durAbs`, the tick of its last message) exactly the end of the last bar `lastBarEnd`: the piece's length
    rounded up to the bar grid that is induced by the piece's signature changes.  Both `HasTail` and
    `lastBarEnd` are computed from the tracks alone (no `specLog`, no `extract`). -/
theorem duration_no_tail (c : Cfg) (hc : CfgOk c) (hn : 0 < c.numTracks) (g : Int) (tracks : List (List Msg))
    (hv : ValidTracks c g tracks) (hnt : ¬ HasTail c tracks) (toks : List Tok) (st' : TokSt)
    (h : tokeniseCore c (TokSt.init c) (extract c.ppqn tracks) = .ok (toks, st')) :
    ∃ seqs, detokenise c toks = .ok seqs ∧ seqs.length = c.numTracks ∧
      ∀ (i : Nat) (s : List Msg), seqs[i]? = some s → durAbs s = lastBarEnd c tracks := by
  have _ := hn
  obtain ⟨seqs, h1, h2, h3⟩ := seq_facts c hc g tracks hv toks st' h
  exact ⟨seqs, h1, h2, fun i s hs =>
    let ⟨hsorted, hle, hex, _⟩ := h3 i s hs
    durAbs_bounds s _ hsorted hle (hex hnt)⟩

/-- **C01, duration, end to end**: every valid piece outside D15 is tokenised, and every detokenised sequence
    lasts exactly to the end of the last bar (closes A5) -/
theorem duration_piece (c : Cfg) (hc : CfgOk c) (hn : 0 < c.numTracks) (g : Int) (hg : GridOk c g)
    (hdef : c.capacity c.defNum c.defDen % g = 0) (tracks : List (List Msg))
    (hv : ValidTracks c g tracks) (hnt : ¬ HasTail c tracks) :
    ∃ toks st' seqs, tokeniseCore c (TokSt.init c) (extract c.ppqn tracks) = .ok (toks, st')
      ∧ detokenise c toks = .ok seqs ∧ seqs.length = c.numTracks
      ∧ ∀ (i : Nat) (s : List Msg), seqs[i]? = some s → durAbs s = lastBarEnd c tracks := by
  obtain ⟨toks, st', h⟩ := tokenise_succeeds_tracks c hc g hg hdef tracks hv.core
  obtain ⟨seqs, h1, h2, h3⟩ := duration_no_tail c hc hn g tracks hv hnt toks st' h
  exact ⟨toks, st', seqs, h, h1, h2, h3⟩

/-- track 0 (channel 0): 4/4, note 60 [0,24), 6/8 at tick 192, note 62 [204,216), padded to 264;
    track 1 (on channel 5 in the input, re-tagged 1): note 48 [60,72), note 50 [120,156) — the rest from 72
    to 120 crosses the bar line at 96 —, padded to 264 -/
def exTracks : List (List Msg) :=
  [[Msg.mkTimeSig 0 4 4 pyNone, Msg.mkOn 0 60 64 pyNone, Msg.mkWait 0 24, Msg.mkOff 0 60 pyNone, Msg.mkWait 0 168,
    Msg.mkTimeSig 0 6 8 pyNone, Msg.mkWait 0 12, Msg.mkOn 0 62 100 pyNone, Msg.mkWait 0 12, Msg.mkOff 0 62 pyNone,
    Msg.mkWait 0 48],
   [Msg.mkWait 5 60, Msg.mkOn 5 48 30 pyNone, Msg.mkWait 5 12, Msg.mkOff 5 48 pyNone, Msg.mkWait 5 48,
    Msg.mkOn 5 50 127 pyNone, Msg.mkWait 5 36, Msg.mkOff 5 50 pyNone, Msg.mkWait 5 108]]

/-- the example satisfies every hypothesis of `roundtrip_piece` (configuration `C01.exCfg`: two tracks,
    bins 63 / 127, velocity not fused; grid unit 2) -/
example : CfgOk exCfg ∧ 0 < exCfg.numTracks ∧ exCfg.bins.Pairwise (· ≤ ·) ∧ GridOk exCfg 2
    ∧ exCfg.capacity exCfg.defNum exCfg.defDen % 2 = 0 ∧ ValidCore exCfg 2 exTracks := by
  refine ⟨by constructor <;> decide, by decide, by decide, by constructor <;> decide, by decide, by decide⟩

/-- the example's tracks are single-channel (channel 0 and channel 5), so `roundtrip_notes_single` applies -/
example : ∀ r ∈ exTracks, ∃ ch0, OneChannel ch0 r := by
  intro r hr
  simp only [exTracks, List.mem_cons, List.not_mem_nil, or_false] at hr
  rcases hr with rfl | rfl
  · exact ⟨0, by unfold OneChannel; decide⟩
  · exact ⟨5, by unfold OneChannel; decide⟩

/-- the independent reading of the example's tracks -/
example : pieceNotes exTracks =
    [{ ch := 0, pitch := 60, on := 0, off := 24, vel := 64 }, { ch := 0, pitch := 62, on := 204, off := 216, vel := 100 },
     { ch := 1, pitch := 48, on := 60, off := 72, vel := 30 }, { ch := 1, pitch := 50, on := 120, off := 156, vel := 127 }] := by
  decide +kernel

/-- … and what `extract` hands to the tokeniser (onset order) -/
example : (extract exCfg.ppqn exTracks).filterMap evNote =
    [{ ch := 0, pitch := 60, on := 0, off := 24, vel := 64 }, { ch := 1, pitch := 48, on := 60, off := 72, vel := 30 },
     { ch := 1, pitch := 50, on := 120, off := 156, vel := 127 }, { ch := 0, pitch := 62, on := 204, off := 216, vel := 100 }] := by
  decide +kernel

/-- … and the notes of the detokenised sequences: the same, velocities 64, 100 ↦ 127 and 30 ↦ 63 -/
example : (match tokeniseCore exCfg (TokSt.init exCfg) (extract exCfg.ppqn exTracks) with
      | .ok (toks, _) => (match detokenise exCfg toks with
          | .ok seqs => seqs.map (fun s => notesOf (eventsAbs s))
          | .error _ => [])
      | .error _ => []) =
    [[{ ch := 0, pitch := 60, on := 0, off := 24, vel := 127 }, { ch := 0, pitch := 62, on := 204, off := 216, vel := 127 }],
     [{ ch := 0, pitch := 48, on := 60, off := 72, vel := 63 }, { ch := 0, pitch := 50, on := 120, off := 156, vel := 127 }]] := by
  decide +kernel

example : binValue [63, 127] 30 = 63 ∧ binValue [63, 127] 63 = 63 ∧ binValue [63, 127] 64 = 127 := by decide +kernel

/-- the duration clause as the property text states it (no tail exclusion): FALSE, see
    `duration_statement_false`; proved outside the D15 class as `duration_no_tail` -/
def duration_statement : Prop :=
  ∀ (c : Cfg) (_ : CfgOk c) (_ : 0 < c.numTracks) (g : Int) (tracks : List (List Msg)) (_ : ValidTracks c g tracks)
    (toks : List Tok) (st' : TokSt) (_ : tokeniseCore c (TokSt.init c) (extract c.ppqn tracks) = .ok (toks, st')),
    ∃ seqs, detokenise c toks = .ok seqs ∧
      ∀ (i : Nat) (s : List Msg), seqs[i]? = some s → durAbs s = lastBarEnd c tracks

/-- D15's example as a track: 2/4, one note [40, 76), no final rest -/
def d15Tracks : List (List Msg) :=
  [[Msg.mkTimeSig 0 2 4 pyNone, Msg.mkWait 0 40, Msg.mkOn 0 60 64 pyNone, Msg.mkWait 0 36, Msg.mkOff 0 60 pyNone]]

/-- the audit's example (A5): 4/4, one note [0, 24) starting on the bar line, no final rest -/
def a5Tracks : List (List Msg) :=
  [[Msg.mkTimeSig 0 4 4 pyNone, Msg.mkOn 0 60 64 pyNone, Msg.mkWait 0 24, Msg.mkOff 0 60 pyNone]]

/-- both are valid pieces inside the class `HasTail`; the end of the last bar is 96 in both -/
example : ValidTracks d15Cfg 2 d15Tracks ∧ HasTail d15Cfg d15Tracks ∧ lastBarEnd d15Cfg d15Tracks = 96
    ∧ ValidTracks d15Cfg 2 a5Tracks ∧ HasTail d15Cfg a5Tracks ∧ lastBarEnd d15Cfg a5Tracks = 96 := by decide +kernel

/-- **D15 refutes the unrestricted duration clause** (kernel-checked on the model; replayed on the real
    implementation: the detokenised duration is 76, the end of the last bar is 96) -/
theorem duration_statement_false : ¬ duration_statement := by
  intro h
  have hc : CfgOk d15Cfg := by constructor <;> decide
  have hv : ValidTracks d15Cfg 2 d15Tracks := by decide +kernel
  have hrun : tokeniseCore d15Cfg (TokSt.init d15Cfg) (extract d15Cfg.ppqn d15Tracks)
      = .ok ([Tok.tsig 4 8, .rest 24, .rest 16, .note (some 0) 60 (some 36) (some 127), .rest 8, .bar],
          { curTime := 48, curTimeBar := 0, tsNum := 2, tsDen := 4, capRem := 48, prvTrack := 0, prvValue := 36,
            prvVel := 127 }) := by rfl
  obtain ⟨seqs, h1, h2⟩ := h d15Cfg hc (by decide) 2 d15Tracks hv _ _ hrun
  have hd : detokenise d15Cfg [Tok.tsig 4 8, .rest 24, .rest 16, .note (some 0) 60 (some 36) (some 127), .rest 8, .bar]
      = .ok [[Msg.mkTimeSig 0 2 4 0, Msg.mkOn 0 60 127 40, Msg.mkInternal 0 48, Msg.mkOff 0 60 76]] := by rfl
  rw [hd] at h1
  cases h1
  have := h2 0 _ rfl
  revert this
  decide +kernel

/-- the non-vacuity example is a valid piece outside `HasTail` (it is padded); its last bar ends at 264 =
    96 + 96 + 72, and that is the duration of both detokenised sequences -/
example : ValidTracks exCfg 2 exTracks ∧ ¬ HasTail exCfg exTracks ∧ lastBarEnd exCfg exTracks = 264 := by decide +kernel

example : (match tokeniseCore exCfg (TokSt.init exCfg) (extract exCfg.ppqn exTracks) with
      | .ok (toks, _) => (match detokenise exCfg toks with
          | .ok seqs => seqs.map durAbs
          | .error _ => [])
      | .error _ => []) = [264, 264] := by
  decide +kernel

/-- an unpadded piece outside `HasTail`: 2/4, note [40, 48) ending on the bar line -/
example : ValidTracks d15Cfg 2 [[Msg.mkTimeSig 0 2 4 pyNone, Msg.mkWait 0 40, Msg.mkOn 0 60 64 pyNone, Msg.mkWait 0 8,
      Msg.mkOff 0 60 pyNone]]
    ∧ ¬ HasTail d15Cfg [[Msg.mkTimeSig 0 2 4 pyNone, Msg.mkWait 0 40, Msg.mkOn 0 60 64 pyNone, Msg.mkWait 0 8,
      Msg.mkOff 0 60 pyNone]] := by decide +kernel

end SCoda.C01c
