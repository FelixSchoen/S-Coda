/-
  "The source is not changed by the call" (C08 split, C09 bar splitting, C16 copies) — purity typing.
  `Gen.purityFns` (regenerated from /repo on every run) describes, for RelativeSequence.split,
  Sequence.split, Sequence.sequences_split_bars and the six copy methods, every assignment and every
  *write site* (attribute store, subscript store, `del`, call of a method that modifies its receiver),
  with two maybe-shared bits per variable: `x.obj` (x may BE an object that existed before the call) and
  `x.elem` (x may HOLD such objects).  The rules are documented in tools/gen_lean.py (gen_purity_facts):
  deep copies are clean, shallow copies are new containers of the same elements, taking an element out
  or calling a method gives something as shared as its receiver and arguments, constructors build new
  objects holding their arguments.  The certificate is re-checked here (`purity_cert_closed`);
  `routes_write_nothing_shared` says that under it the receiver of every write site is an object
  allocated during the call: the routes modify nothing that existed before.
  (Filling a view cache through the `abs` / `rel` properties is not a write site: it changes no content.)
  Trusted: the typing rules as a description of Python aliasing, the list of modifying method names, and
  the translator's parse.  The same is observed on the real objects by the `pure` / `inputs` clauses of the
  C08 / C09 oracles and by C16's snapshot harness.
-/
import SCoda.Gen.PurityFacts
import SCoda.Props.C11c
namespace SCoda.Purity
open SCoda.Gen SCoda.C11

def closedAssigns (fn : TaintFn) : Bool :=
  fn.assigns.all (fun a => !infoTainted fn.cert [] a.2 || fn.cert.contains a.1)

/-- the certificate is a solution of the sharing rules -/
theorem purity_cert_closed : purityFns.all closedAssigns = true := by decide +kernel

/-- **no write site of the split / copy routes acts on an object that existed before the call** -/
theorem routes_write_nothing_shared : purityFns.all (sinksClean []) = true := by decide +kernel

/-- all nine routes are analysed, and the analysis sees write sites and shared values (not vacuous) -/
theorem purity_routes_seen :
    purityRoutes = ["RelativeSequence.split", "Sequence.split", "Sequence.sequences_split_bars", "Sequence.copy",
      "AbstractSequence.copy", "Message.copy", "Bar.copy", "Track.copy", "Composition.copy"]
    ∧ 10 ≤ (purityFns.map (fun f => f.sinks.length)).foldl (· + ·) 0
    ∧ 10 ≤ (purityFns.map (fun f => f.cert.length)).foldl (· + ·) 0 := by decide +kernel

end SCoda.Purity
