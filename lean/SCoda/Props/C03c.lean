/-
  C03 — stateful bar-by-bar tokenisation is equivalent to tokenising the whole piece, stated against the
  *input*: chunks are sequences of whole bars (`ChunksL.BarEv`: a signature and bar-relative events), the whole
  piece lays chunk `i` at the summed bar lengths of the chunks before it (`ChunksL.joinChunks`), and the
  only excluded inputs are those of the known finding D19, described by the input-level predicate
  `ChunksL.Stalls`.  Closes audit item A1 (docs/audit_report_round1.md).
-/
import SCoda.Lemmas.ChunksL
import SCoda.Model.Extract
import SCoda.Model.Bar
import SCoda.Model.Roll
namespace SCoda.C03c
open SCoda SCoda.C01 SCoda.ChunksL

/-- **A1 (i)**: a call on a sequence of whole bars, started on a bar line, that the tokeniser accepts ends on a
    bar line with the last bar's length in force; its clock has advanced by exactly the summed bar capacities
    if and only if the chunk is not in the D19 class `Stalls` (otherwise it falls short); and in the D19 class
    proper — the last onset of the chunk sits on the line on which its last bar starts — it has advanced by the
    summed capacities of all bars but the last. -/
theorem call_end_wholebars (c : Cfg) (hc : CfgOk c) (st st' : TokSt) (bars : List BarEv) (toks : List Tok)
    (hst : OnLine c st) (hok : BarsOk c (c.capacity st.tsNum st.tsDen) bars)
    (h : tokeniseCore c st (layBars c bars) = .ok (toks, st')) :
    st'.curTimeBar = 0 ∧ st'.capRem = c.capacity st'.tsNum st'.tsDen
      ∧ c.capacity st'.tsNum st'.tsDen = lastCap c (c.capacity st.tsNum st.tsDen) bars
      ∧ (st'.curTime = st.curTime + chunkLen c bars ↔ ¬ Stalls c bars)
      ∧ (Stalls c bars → st'.curTime < st.curTime + chunkLen c bars)
      ∧ (bars ≠ [] → lastOnset (layBars c bars) = chunkLen c bars.dropLast →
          st'.curTime = st.curTime + chunkLen c bars.dropLast) := by
  obtain ⟨h1, h2, h3, h4, h5⟩ := call_end c hc st st' bars toks hst hok h
  refine ⟨h1.bar, h1.rem, h2, ⟨fun he hs => ?_, h3⟩, h4, h5⟩
  have := h4 hs
  omega

/-- **the specification log of whole bars in closed form** (A1: "`foldClock` has no closed form in bar lengths").  From a
    state on a bar line, the specification log `specLog` of well-formed whole bars laid end to end is `gridLog`: the
    notes of every bar at the bar's start plus their tick, and a bar end at every cumulative bar length — exactly, if the
    bars are not in the D19 class, and otherwise short of the last bar ends `pend`.  `gridLog` mentions no clock, no
    token, and no event that is not a note. -/
theorem wholebars_log (c : Cfg) (st : TokSt) (bars : List BarEv)
    (hst : OnLine c st) (hok : BarsOk c (c.capacity st.tsNum st.tsDen) bars) :
    ∃ pend : List Int, (specLog c st (layBars c bars)).2 ++ pend.map Emit.barEnd = gridLog c st.curTime bars
      ∧ (¬ Stalls c bars → pend = []) := by
  obtain ⟨_, _, _, s4, _, _, s7⟩ := chunk_specLog c st bars hst.bar hst.rem hst.cap hok
  refine ⟨_, s7, fun hns => ?_⟩
  rw [s4 hns, Int.sub_self, adv_zero]

/-- **C03, stated against the input (closes A1).**  A piece is a sequence of well-formed whole bars (`BarsOk`), grouped
    in any way into consecutive chunks; every chunk is tokenised by its own call, the state being threaded
    (`runChunks`, from a state `st` on a bar line related to the detokeniser state `d`).  If no chunk but the last is
    in the D19 class `Stalls` and the calls are accepted, then
    * the events `runChunks` laid out with the implementation's own clock are the chunks laid at the *cumulative bar
      lengths* of the chunks before them (`joinChunks`);
    * the single call on these joined events is accepted and returns exactly the concatenated token list and the
      last call's state (so both streams detokenise to the same sequences, trivially);
    * the detokeniser, run over that stream, emits — time-signature messages aside — exactly the specification log of
      the joined events: every note on its track at its onset with its duration and binned velocity, and every bar
      end of the grid; and it ends in a state related to the tokeniser's, on a bar line. -/
theorem chunked_wholebars (c : Cfg) (hc : CfgOk c) (st st' : TokSt) (d : DetokSt) (chunks : List (List BarEv))
    (toks : List Tok) (whole : List (Int × Pairing))
    (hrel : Rel c st d) (hst : OnLine c st)
    (hok : BarsOk c (c.capacity st.tsNum st.tsDen) chunks.flatten)
    (hns : ∀ ch ∈ chunks.dropLast, ¬ Stalls c ch)
    (hrun : runChunks c st st (chunks.map (layBars c)) = .ok (toks, st', whole)) :
    whole = joinChunks c chunks
      ∧ tokeniseCore c st (joinChunks c chunks) = .ok (toks, st')
      ∧ st'.curTimeBar = 0
      ∧ ∃ d' log, dfold c d toks = .ok (d', log) ∧ Rel c st' d'
          ∧ log.filter notTsig = (specLog c st (joinChunks c chunks)).2
          ∧ ∃ pend : List Int, log.filter notTsig ++ pend.map Emit.barEnd = gridLog c st.curTime chunks.flatten
              ∧ (¬ Stalls c chunks.flatten → pend = []) := by
  obtain ⟨h1, h2, h3⟩ := run_single c hc st chunks st st' toks whole hst hok hns hrun
  rw [Int.sub_self, shiftEvs_zero] at h1
  have hlaid := layBars_ok c _ chunks.flatten hok
  rw [← joinChunks_flatten] at hlaid
  obtain ⟨d', log, s1, s2, s3, _⟩ := sim_partial c hc st st' d (joinChunks c chunks) toks hrel (hlaid.evsOk st.curTime)
    hst.cap (fun ev hev m hm hty => (hlaid.sigPos ev hev m hm hty).2.2) h2
  obtain ⟨pend, p1, p2⟩ := wholebars_log c st chunks.flatten hst hok
  rw [← joinChunks_flatten, ← s3] at p1
  exact ⟨h1, h2, h3.bar, d', log, s1, s2, s3, pend, p1, p2⟩

/-- **C03 against a single call on any presentation of the piece** (A1 (iv)).  The single call of the real pipeline does
    not receive the chunks' events laid end to end: merging the whole piece drops the time signature every chunk
    repeats and the cap messages between chunks, and may order simultaneous notes of different tracks differently.
    Let `bars'` be any well-formed presentation of the piece with the same bar lengths and, bar by bar, the same
    note events up to order (`SameNotes`).  If neither presentation is in the D19 class and both the threaded calls
    and the single call on `bars'` are accepted, then — time signatures aside — each token stream makes the
    detokeniser emit exactly the notes and bar ends of its presentation (`gridLog`), and the two logs are the same
    collection of notes (track, pitch, velocity bin, onset, end) and bar ends. -/
theorem chunked_vs_single (c : Cfg) (hc : CfgOk c) (st st' stS : TokSt) (d : DetokSt) (chunks : List (List BarEv))
    (bars' : List BarEv) (toks toksS : List Tok) (whole : List (Int × Pairing))
    (hrel : Rel c st d) (hst : OnLine c st)
    (hok : BarsOk c (c.capacity st.tsNum st.tsDen) chunks.flatten)
    (hok' : BarsOk c (c.capacity st.tsNum st.tsDen) bars') (hsame : SameNotes c chunks.flatten bars')
    (hns : ∀ ch ∈ chunks.dropLast, ¬ Stalls c ch) (hnsP : ¬ Stalls c chunks.flatten) (hnsS : ¬ Stalls c bars')
    (hrun : runChunks c st st (chunks.map (layBars c)) = .ok (toks, st', whole))
    (hsingle : tokeniseCore c st (layBars c bars') = .ok (toksS, stS)) :
    ∃ d' log dS logS, dfold c d toks = .ok (d', log) ∧ dfold c d toksS = .ok (dS, logS)
      ∧ log.filter notTsig = gridLog c st.curTime chunks.flatten
      ∧ logS.filter notTsig = gridLog c st.curTime bars'
      ∧ (log.filter notTsig).Perm (logS.filter notTsig) := by
  obtain ⟨_, _, _, d', log, a1, _, _, pend, a4, a5⟩ := chunked_wholebars c hc st st' d chunks toks whole hrel hst hok hns hrun
  rw [a5 hnsP, List.map_nil, List.append_nil] at a4
  have hlaid := layBars_ok c _ bars' hok'
  obtain ⟨dS, logS, s1, _, s3, _⟩ := sim_partial c hc st stS d (layBars c bars') toksS hrel (hlaid.evsOk st.curTime)
    hst.cap (fun ev hev m hm hty => (hlaid.sigPos ev hev m hm hty).2.2) hsingle
  obtain ⟨pend', p1, p2⟩ := wholebars_log c st bars' hst hok'
  rw [p2 hnsS, List.map_nil, List.append_nil] at p1
  refine ⟨d', log, dS, logS, a1, s1, a4, by rw [s3, p1], ?_⟩
  rw [a4, s3, p1]
  exact gridLog_perm c _ _ _ hsame

/-- **C03 from the empty state dictionary, through `detokenise`** (A1): for a piece of whole bars grouped into chunks none
    of which but the last is in the D19 class, the concatenated tokens of the threaded calls are the tokens of the
    single call on the chunks laid at their cumulative lengths, `detokenise` accepts them, and the sequences it
    returns are built from an emission log that — time signatures aside — is the specification log of the piece. -/
theorem chunked_wholebars_init (c : Cfg) (hc : CfgOk c) (hn : 0 < c.numTracks) (st' : TokSt) (chunks : List (List BarEv))
    (toks : List Tok) (whole : List (Int × Pairing))
    (hok : BarsOk c (c.capacity c.defNum c.defDen) chunks.flatten)
    (hns : ∀ ch ∈ chunks.dropLast, ¬ Stalls c ch)
    (hrun : runChunks c (TokSt.init c) (TokSt.init c) (chunks.map (layBars c)) = .ok (toks, st', whole)) :
    tokeniseCore c (TokSt.init c) (joinChunks c chunks) = .ok (toks, st')
      ∧ ∃ (d : DetokSt) (log : List Emit), detokenise c toks = .ok d.seqs ∧ d.seqs = log.foldl applyEmit (DetokSt.init c).seqs
          ∧ log.filter notTsig = (specLog c (TokSt.init c) (joinChunks c chunks)).2 := by
  have hrel := rel_init c hc hn
  obtain ⟨_, h2, _, d', log, h4, _, h6, _⟩ := chunked_wholebars c hc (TokSt.init c) st' (DetokSt.init c) chunks toks whole hrel
    ⟨rfl, rfl, hrel.remPos⟩ hok hns hrun
  obtain ⟨e1, e2⟩ := dfold_detokenise c toks d' log h4
  exact ⟨h2, d', log, e1, e2, h6⟩

/-- the statement of `chunked_wholebars` without the hypothesis that no chunk but the last stalls (only its last
    conclusion, the one the property is about) -/
def chunked_wholebars_statement : Prop :=
  ∀ (c : Cfg) (_ : CfgOk c) (st st' : TokSt) (d : DetokSt) (chunks : List (List BarEv))
    (toks : List Tok) (whole : List (Int × Pairing))
    (_ : Rel c st d) (_ : OnLine c st) (_ : BarsOk c (c.capacity st.tsNum st.tsDen) chunks.flatten)
    (_ : runChunks c st st (chunks.map (layBars c)) = .ok (toks, st', whole)),
    ∃ d' log, dfold c d toks = .ok (d', log) ∧ log.filter notTsig = (specLog c st (joinChunks c chunks)).2

/-- the D19 witness as whole-bar chunks: 3/8, two bars, one call each, each bar one 36-tick note on the bar line -/
def d19Chunks : List (List BarEv) :=
  [[{ num := 3, den := 8, evs := [(0, [Msg.mkTimeSig 0 3 8 0]), (0, [Msg.mkOn 0 60 64 0, Msg.mkOff 0 60 36])] }],
   [{ num := 3, den := 8, evs := [(0, [Msg.mkTimeSig 0 3 8 0]), (0, [Msg.mkOn 0 62 64 0, Msg.mkOff 0 62 36])] }]]

/-- what the two threaded calls return on the D19 witness -/
def d19Run : List Tok × TokSt × List (Int × Pairing) :=
  match runChunks d19Cfg (TokSt.init d19Cfg) (TokSt.init d19Cfg) (d19Chunks.map (layBars d19Cfg)) with
  | .ok r => r
  | .error _ => ([], TokSt.init d19Cfg, [])

/-- what the detokeniser emits on the concatenated tokens of the D19 witness -/
def d19Log : List Emit :=
  match dfold d19Cfg (DetokSt.init d19Cfg) d19Run.1 with
  | .ok r => r.2
  | .error _ => []

/-- **D19, as whole-bar chunks**: the piece is well formed, its first chunk is in the class `Stalls`, both calls are
    accepted and leave the clock at 0 (instead of 36 and 72); the chunked stream detokenises to both notes at tick 0
    and no bar end, whereas the piece has a bar end at 36 and the second note there. -/
theorem d19_facts :
    BarsOk d19Cfg (d19Cfg.capacity 8 8) d19Chunks.flatten
      ∧ (∀ ch ∈ d19Chunks, Stalls d19Cfg ch)
      ∧ runChunks d19Cfg (TokSt.init d19Cfg) (TokSt.init d19Cfg) (d19Chunks.map (layBars d19Cfg)) = .ok d19Run
      ∧ d19Run.2.1.curTime = 0
      ∧ d19Log.filter notTsig = [.note 0 60 127 0 36, .note 0 62 127 0 36]
      ∧ (specLog d19Cfg (TokSt.init d19Cfg) (joinChunks d19Cfg d19Chunks)).2
          = [.note 0 60 127 0 36, .barEnd 36, .note 0 62 127 36 72] := by
  refine ⟨by decide, by decide, by rfl, by decide, by decide, by decide⟩

theorem chunked_wholebars_statement_false : ¬ chunked_wholebars_statement := by
  intro h
  have hc : CfgOk d19Cfg := by constructor <;> decide
  have hrel : Rel d19Cfg (TokSt.init d19Cfg) (DetokSt.init d19Cfg) := rel_init d19Cfg hc (by decide)
  obtain ⟨f1, _, f3, _, f5, f6⟩ := d19_facts
  obtain ⟨d', log, h1, h2⟩ := h d19Cfg hc (TokSt.init d19Cfg) d19Run.2.1 (DetokSt.init d19Cfg) d19Chunks d19Run.1 d19Run.2.2
    hrel (by decide) f1 f3
  have hlog : log = d19Log := by
    unfold d19Log
    rw [h1]
  rw [hlog, f5, f6] at h2
  revert h2
  decide +kernel

/-! ## non-vacuity: a piece of four bars (4/4, an empty 4/4 bar, 6/8, 6/8) on two tracks, in three chunks

  The bars below are what the real pipeline hands to the tokeniser core for this piece (`sequences_split_bars`, then
  `Bar.to_sequence` of each chunk, then the merge inside `tokenise`); replayed on the implementation, and re-computed
  here by the model `extract` from the bars' relative sequences. -/

def exCfg : Cfg := { steps := [2, 3, 4, 6, 8, 12, 16, 24], values := [4, 6, 8, 9, 12, 16, 18, 24, 36], bins := [96, 127],
                     numTracks := 2, fuseVel := false }

/-- 4/4: two notes and the cap message of the trailing rest -/
def exBar1 : BarEv := { num := 4, den := 4, evs :=
  [(0, [Msg.mkTimeSig 0 4 4 0]), (0, [Msg.mkOn 0 60 64 0, Msg.mkOff 0 60 24]), (1, [Msg.mkOn 1 48 30 48, Msg.mkOff 1 48 72]),
   (0, [Msg.mkInternal 0 96])] }
/-- 4/4, empty: only the signature every chunk starts with -/
def exBar2 : BarEv := { num := 4, den := 4, evs := [(0, [Msg.mkTimeSig 0 4 4 0])] }
/-- 6/8: the signature change and a note that ends with the bar -/
def exBar3 : BarEv := { num := 6, den := 8, evs := [(0, [Msg.mkTimeSig 0 6 8 0]), (1, [Msg.mkOn 1 50 100 36, Msg.mkOff 1 50 72])] }
/-- 6/8: one note on the bar line and the cap message of the trailing rest -/
def exBar4 : BarEv := { num := 6, den := 8, evs :=
  [(0, [Msg.mkTimeSig 0 6 8 0]), (0, [Msg.mkOn 0 62 64 0, Msg.mkOff 0 62 12]), (0, [Msg.mkInternal 0 72])] }

def exChunks : List (List BarEv) := [[exBar1], [exBar2, exBar3], [exBar4]]

/-- the same piece as the single call sees it: the merge has dropped the repeated signatures of bars 2 and 4 and the cap
    message between the chunks -/
def exWhole : List BarEv :=
  [{ exBar1 with evs := exBar1.evs.dropLast }, { exBar2 with evs := [] }, exBar3, { exBar4 with evs := exBar4.evs.drop 1 }]

example : CfgOk exCfg := by constructor <;> decide
example : OnLine exCfg (TokSt.init exCfg) := by decide +kernel
example : BarsOk exCfg (exCfg.capacity 8 8) exChunks.flatten := by decide +kernel
example : BarsOk exCfg (exCfg.capacity 8 8) exWhole := by decide +kernel
example : SameNotes exCfg exChunks.flatten exWhole := by decide +kernel
example : ∀ ch ∈ exChunks.dropLast, ¬ Stalls exCfg ch := by decide +kernel
example : ¬ Stalls exCfg exChunks.flatten ∧ ¬ Stalls exCfg exWhole := by decide +kernel
example : chunkLen exCfg [exBar2, exBar3] = 168 := by decide +kernel
/-- `call_end_wholebars` on the middle chunk: the clock advances by 96 + 72 -/
example : ∃ toks st', tokeniseCore exCfg (TokSt.init exCfg) (layBars exCfg [exBar2, exBar3]) = .ok (toks, st')
    ∧ st'.curTime = 168 ∧ st'.curTimeBar = 0 := ⟨_, _, rfl, rfl, rfl⟩
/-- the hypotheses of `chunked_wholebars` / `chunked_vs_single` hold of the piece: the three threaded calls are accepted
    (and end at 96 + 96 + 72 + 72), and so is the single call on the merged presentation -/
example : ∃ toks st' whole, runChunks exCfg (TokSt.init exCfg) (TokSt.init exCfg) (exChunks.map (layBars exCfg)) = .ok (toks, st', whole)
    ∧ st'.curTime = 336 ∧ whole = joinChunks exCfg exChunks := ⟨_, _, _, rfl, rfl, by decide⟩
example : ∃ toksS stS, tokeniseCore exCfg (TokSt.init exCfg) (layBars exCfg exWhole) = .ok (toksS, stS) ∧ stS.curTime = 336 :=
  ⟨_, _, rfl, rfl⟩
/-- what the three threaded calls, and the single call on the merged presentation, return on the piece -/
def exRun : List Tok × TokSt × List (Int × Pairing) :=
  match runChunks exCfg (TokSt.init exCfg) (TokSt.init exCfg) (exChunks.map (layBars exCfg)) with
  | .ok r => r
  | .error _ => ([], TokSt.init exCfg, [])
def exSingle : List Tok × TokSt :=
  match tokeniseCore exCfg (TokSt.init exCfg) (layBars exCfg exWhole) with
  | .ok r => r
  | .error _ => ([], TokSt.init exCfg)
/-- all hypotheses of `chunked_vs_single` hold together on the piece; its conclusion, evaluated -/
example : ∃ log logS : List Emit, (log.filter notTsig).Perm (logS.filter notTsig)
    ∧ log.filter notTsig = gridLog exCfg 0 exChunks.flatten := by
  have hc : CfgOk exCfg := by constructor <;> decide
  obtain ⟨_, log, _, logS, _, _, h3, _, h5⟩ := chunked_vs_single exCfg hc (TokSt.init exCfg) exRun.2.1 exSingle.2
    (DetokSt.init exCfg) exChunks exWhole exRun.1 exSingle.1 exRun.2.2 (rel_init exCfg hc (by decide)) (by decide) (by decide)
    (by decide) (by decide) (by decide) (by decide) (by decide) (by rfl) (by rfl)
  exact ⟨log, logS, h5, h3⟩
/-- the closed form of the piece: every note at its bar's start plus its tick, bar ends at 96, 192, 264, 336 -/
example : gridLog exCfg 0 exChunks.flatten =
    [.note 0 60 96 0 24, .note 1 48 96 48 72, .barEnd 96, .barEnd 192, .note 1 50 127 228 264, .barEnd 264,
     .note 0 62 96 264 276, .barEnd 336] := by decide +kernel
/-- the D19 witness is in the class `Stalls` -/
example : Stalls exCfg [{ num := 3, den := 8, evs := d19Evs }] := by decide +kernel

/-- the bars of the example as `sequences_split_bars` returns them (relative sequences, per track) -/
def exTrack0 : List (List Msg) :=
  [[Msg.mkTimeSig 0 4 4 pyNone, Msg.mkOn 0 60 64 pyNone, Msg.mkWait 0 24, Msg.mkOff 0 60 pyNone, Msg.mkWait 0 72],
   [Msg.mkTimeSig 0 4 4 pyNone, Msg.mkWait 0 96],
   [Msg.mkTimeSig 0 6 8 pyNone, Msg.mkWait 0 72],
   [Msg.mkTimeSig 0 6 8 pyNone, Msg.mkOn 0 62 64 pyNone, Msg.mkWait 0 12, Msg.mkOff 0 62 pyNone, Msg.mkWait 0 60]]
def exTrack1 : List (List Msg) :=
  [[Msg.mkTimeSig 0 4 4 pyNone, Msg.mkWait 0 48, Msg.mkOn 0 48 30 pyNone, Msg.mkWait 0 24, Msg.mkOff 0 48 pyNone, Msg.mkWait 0 24],
   [Msg.mkTimeSig 0 4 4 pyNone, Msg.mkWait 0 96],
   [Msg.mkTimeSig 0 6 8 pyNone, Msg.mkWait 0 36, Msg.mkOn 0 50 100 pyNone, Msg.mkWait 0 36, Msg.mkOff 0 50 pyNone],
   [Msg.mkTimeSig 0 6 8 pyNone, Msg.mkWait 0 72]]
/-- `Bar.to_sequence(bars[lo:hi])` per track -/
def exChunkTracks (lo hi : Nat) : List (List Msg) :=
  [((exTrack0.drop lo).take (hi - lo)).flatten, ((exTrack1.drop lo).take (hi - lo)).flatten]

/-- what `tokenise` extracts from each chunk of real bars is the chunk's whole-bar presentation … -/
example : extract 24 (exChunkTracks 0 1) = layBars exCfg [exBar1] ∧ extract 24 (exChunkTracks 1 3) = layBars exCfg [exBar2, exBar3]
    ∧ extract 24 (exChunkTracks 3 4) = layBars exCfg [exBar4] := by decide +kernel
/-- … what it extracts from all bars at once is the merged presentation … -/
example : extract 24 (exChunkTracks 0 4) = layBars exCfg exWhole := by decide +kernel
/-- … and that is *not* the chunks' events laid end to end: A1 (ii) as worded in the audit
    (`extract (concatenated bars) = evs1 ++ shiftEvs L evs2 …`) is false; the two differ by events that emit nothing
    (`SameNotes`), which is what `chunked_vs_single` is stated for. -/
example : extract 24 (exChunkTracks 0 4) ≠ joinChunks exCfg exChunks := by decide +kernel

/-- **The glue statement (A1 (ii)) as first worded — false as it stands.**  For bars produced by `splitBars` from
    well-formed tracks, what `extract` makes of any run `[lo, hi)` of them (per track `barsToSeq`, i.e.
    `Bar.to_sequence`) is a well-formed whole-bar chunk `bars` after any running bar length `C` (a run of real bars
    always announces its first signature), it has one `BarEv` per bar with that bar's signature, and bar by bar it has
    the same lengths and — up to the order of simultaneous events — the same notes as the one-bar runs.
    It is kept as a `Prop` because two later files are about it: `C03e.extract_wholebars_statement_false` refutes it
    (a zero-length note on a bar line, D18/D18b, swallows a later note of its pitch when the bars are merged in one
    run), and `C03f.extract_wholebars_nozero` proves it verbatim with the missing hypotheses; `C03f.extract_wholebars_full`
    is the same conclusion from input-level hypotheses.  No theorem of this file depends on it.  It is kernel-checked on the example above, and it was fuzzed
    against the implementation (`BarsOk`, the signatures and the notes up to order: 0 failures in 17 000 runs of
    random pieces; the notes agreed *in* order only in 98 % of the first 2 500 runs, whence `Perm` in `SameNotes`). -/
def extract_wholebars_statement : Prop :=
  ∀ (c : Cfg) (values : List Int) (tracks : List (List Msg)) (tb : List (List Bar)),
    (∀ t ∈ tracks, OkRel t ∧ WF (eventsRel t)) →
    splitBars c.ppqn values tracks 0 false = .ok tb → tb.length = c.numTracks →
    ∀ (lo hi : Nat) (C : Int), lo < hi → (∀ bs ∈ tb, hi ≤ bs.length) →
      ∃ bars : List BarEv,
        extract c.ppqn (tb.map (fun bs => barsToSeq ((bs.drop lo).take (hi - lo)))) = layBars c bars
          ∧ BarsOk c C bars
          ∧ bars.map (fun b => (b.num, b.den)) = (((tb.headD []).drop lo).take (hi - lo)).map (fun b => (b.num, b.den))
          ∧ ∃ one : List BarEv,
              (∀ i, i < hi - lo → ∀ b ∈ one[i]?,
                  extract c.ppqn (tb.map (fun bs => barsToSeq ((bs.drop (lo + i)).take 1))) = layBars c [b])
              ∧ one.length = hi - lo ∧ SameNotes c bars one

end SCoda.C03c
