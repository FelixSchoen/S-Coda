/-
  C03, the glue to the bars of the real pipeline (audit item A1 (ii)): what the tokeniser's `extract` makes of a run
  of bars produced by `splitBars` (`Sequence.sequences_split_bars`, per track `barsToSeq` = `Bar.to_sequence`) is a
  well-formed whole-bar chunk (`ChunksL.BarsOk`) — the object `C03c.chunked_vs_single` is stated for.

  `C03c.extract_wholebars_statement` is FALSE as stated (`extract_wholebars_statement_false`): a zero-length note (known
  finding D18/D18b) in one bar swallows a later note of the same pitch when the bars are merged in one run but not when
  they are merged bar by bar; replayed on the implementation, which behaves the same.  Proved here are its first three
  conjuncts for every run `[lo, hi)` — under positive signatures on the meta track (`SigsPos`, input level) and every bar
  sequence of the run being a good track on its own (`ExtractL.TrackGood`: well-formed on its track's channel, no
  zero-length note; decidable, about the bars, independent of `extract`) — and the full conclusion for one-bar runs.
  The last conjunct (`SameNotes` against the one-bar runs) for runs of two or more bars, and the derivation of the
  bar-level `TrackGood` from the tracks (`WF`, `NoZeroNotes`, one channel per track), are in Props/C03f.  All of them
  are read off one statement about a run, `GlueL.splitBars_run` (Lemmas/SplitRunL; for `RunOk` runs `GlueL.run_full`).
-/
import SCoda.Props.C03c
import SCoda.Lemmas.SplitRunL
namespace SCoda.C03e
open SCoda SCoda.C01 SCoda.ChunksL SCoda.C03c SCoda.GlueL SCoda.ExtractL

theorem mem_of_mem_slice {α} {lo n : Nat} {l : List α} {x : α} (h : x ∈ (l.drop lo).take n) : x ∈ l :=
  (List.drop_sublist _ _).subset ((List.take_sublist _ _).subset h)

theorem layBars_noNotes (c : Cfg) : ∀ (bars : List BarEv), (layBars c bars).filter isNoteEv = [] →
    ∀ b ∈ bars, b.evs.filter isNoteEv = [] := by
  intro bars
  induction bars with
  | nil => intro _ b hb; simp at hb
  | cons a bs ih =>
    intro h b hb
    simp only [layBars, List.filter_append, List.append_eq_nil_iff] at h
    rcases List.mem_cons.1 hb with rfl | hb
    · exact h.1
    · apply ih _ b hb
      have h2 := h.2
      rw [noteEv_shift] at h2
      unfold shiftEvs at h2
      simpa using h2

/-- one track, two 4/4 bars: a zero-length note of pitch 60 on the first bar line, a 24-tick note of pitch 60 on the second -/
def zTrack : List Msg :=
  [Msg.mkTimeSig 0 4 4 pyNone, Msg.mkOn 0 60 64 pyNone, Msg.mkOff 0 60 pyNone, Msg.mkWait 0 96,
   Msg.mkOn 0 60 64 pyNone, Msg.mkWait 0 24, Msg.mkOff 0 60 pyNone, Msg.mkWait 0 72]

def zCfg : Cfg := { steps := [2, 3, 4, 6, 8, 12, 16, 24], values := [4, 6, 8, 9, 12, 16, 18, 24, 36], bins := [127] }

/-- the bars `splitBars` makes of it: both keep their note (inside one bar the note-on comes before its note-off) -/
def zBars : List (List Bar) :=
  [[{ seq := [Msg.mkTimeSig 0 4 4 pyNone, Msg.mkOn 0 60 64 pyNone, Msg.mkOff 0 60 pyNone, Msg.mkWait 0 96], num := 4, den := 4, key := pyNone },
    { seq := [Msg.mkTimeSig 0 4 4 pyNone, Msg.mkOn 0 60 64 pyNone, Msg.mkWait 0 24, Msg.mkOff 0 60 pyNone, Msg.mkWait 0 72], num := 4, den := 4,
      key := pyNone }]]

/-- **the D18 witness for the glue**: the track is well formed, `splitBars` accepts it; the second bar tokenised alone
    hands the core its note, the two bars tokenised together hand it no note at all (sorting the absolute view puts the
    zero-length note's note-off before its note-on, `normalise` then drops that note-off, counts the second note-on as
    nested and removes the first as unclosed). -/
theorem d18_facts :
    (∀ t ∈ [zTrack], OkRel t ∧ WF (eventsRel t))
      ∧ splitBars zCfg.ppqn [] [zTrack] 0 false = .ok zBars
      ∧ extract 24 (zBars.map (fun bs => barsToSeq ((bs.drop 1).take 1)))
          = [(0, [Msg.mkTimeSig 0 4 4 0]), (0, [Msg.mkOn 0 60 64 0, Msg.mkOff 0 60 24]), (0, [Msg.mkInternal 0 96])]
      ∧ extract 24 (zBars.map (fun bs => barsToSeq ((bs.drop 0).take 2)))
          = [(0, [Msg.mkTimeSig 0 4 4 0]), (0, [Msg.mkInternal 0 192])] := by
  refine ⟨?_, ?_, by decide +kernel, by decide +kernel⟩
  · intro t ht
    simp only [List.mem_singleton] at ht
    subst ht
    exact ⟨⟨show ∀ m ∈ zTrack, m.ty = .wait → 0 ≤ m.time by decide, show ∀ m ∈ zTrack, m.ty ≠ .internal by decide⟩,
      (wfB_iff _).1 (by decide)⟩
  · exact Strong589LB.ok_of_toOption (by decide +kernel)

theorem extract_wholebars_statement_false : ¬ extract_wholebars_statement := by
  intro h
  obtain ⟨f1, f2, f3, f4⟩ := d18_facts
  obtain ⟨bars, hlay, _, hsig, one, hone, hlen, hsame⟩ := h zCfg [] [zTrack] zBars f1 f2 rfl 0 2 96 (by omega) (by decide)
  have hlay' : layBars zCfg bars = [(0, [Msg.mkTimeSig 0 4 4 0]), (0, [Msg.mkInternal 0 192])] := by
    rw [← hlay]; exact f4
  have hno : ∀ b ∈ bars, b.evs.filter isNoteEv = [] := layBars_noNotes zCfg bars (by rw [hlay']; decide)
  have hbl : bars.length = 2 := by
    have := congrArg List.length hsig
    simpa [zBars] using this
  match bars, one, hbl, hlen, hsame, hno, hone with
  | [b0, b1], [o0, o1], _, _, hsame, hno, hone =>
    have h1 := hone 1 (by omega) o1 (by simp)
    have e1 : o1.evs = [(0, [Msg.mkTimeSig 0 4 4 0]), (0, [Msg.mkOn 0 60 64 0, Msg.mkOff 0 60 24]), (0, [Msg.mkInternal 0 96])] := by
      have : extract zCfg.ppqn (zBars.map (fun bs => barsToSeq ((bs.drop (0 + 1)).take 1))) = o1.evs := by
        rw [h1]; simp [layBars, shiftEvs_nil]
      rw [← this]; exact f3
    have hp := hsame.2.2.2.1
    rw [hno b1 (by simp), e1] at hp
    exact absurd hp.length_eq (by decide)
  | [], _, hsig, _, _, _, _ => simp at hsig
  | [_], _, hsig, _, _, _, _ => simp at hsig
  | _ :: _ :: _ :: _, _, hsig, _, _, _, _ => simp at hsig
  | [_, _], [], _, hlen, _, _, _ => simp at hlen
  | [_, _], [_], _, hlen, _, _, _ => simp at hlen
  | [_, _], _ :: _ :: _ :: _, _, hlen, _, _, _ => simp at hlen

instance (r : List Msg) : Decidable (OkRel r) := by unfold OkRel NonNegWaits; infer_instance
instance (i : Nat) (r : List Msg) : Decidable (TrackGood i r) := by unfold TrackGood; infer_instance

/-- **A1 (ii), any run of well-shaped bar sequences.**  Per configured track a list of bar sequences along the
    signatures `sigs` (`RunOk`: each sequence headed by its signature message and holding no other, exactly one bar
    long, and a good track on its own — well-formed once on its track's channel, no zero-length note): what the
    tokeniser's `extract` makes of the sequences concatenated per track (`Bar.to_sequence`) is `layBars` of a well-formed
    whole-bar chunk after any running bar length `C`, with one bar per signature. -/
theorem extract_run (c : Cfg) (hp : 0 ≤ c.ppqn) (sigs : List (Int × Int)) (segs : List (List (List Msg)))
    (h : RunOk c sigs segs) (C : Int) :
    ∃ bars : List BarEv, extract c.ppqn (segs.map List.flatten) = layBars c bars ∧ BarsOk c C bars
      ∧ bars.map (fun b => (b.num, b.den)) = sigs :=
  have _ := hp
  let ⟨h1, h2, h3, _⟩ := run_full h C
  ⟨_, h1, h2, h3⟩

/-- **A1 (ii), structural part, for the bars of the real pipeline.**  For bars returned by `splitBars`, one list per
    configured track: if every bar sequence of the run `[lo, hi)` is a good track on its own (on its track's channel:
    well-formed, no zero-length note — the class of known finding D18 is excluded) and the run's signatures are
    positive with bars of positive length, then what `extract` makes of the run is `layBars` of a well-formed
    whole-bar chunk after any running bar length `C`, with one `BarEv` per bar carrying that bar's signature. -/
theorem extract_wholebars_bars (c : Cfg) (hp : 0 ≤ c.ppqn) (values : List Int) (tracks : List (List Msg)) (tb : List (List Bar))
    (h : splitBars c.ppqn values tracks 0 false = .ok tb) (hn : tb.length = c.numTracks)
    (lo hi : Nat) (C : Int) (hlo : lo < hi) (hhi : ∀ bs ∈ tb, hi ≤ bs.length)
    (hgood : ∀ i bs, tb[i]? = some bs → ∀ b ∈ (bs.drop lo).take (hi - lo), TrackGood i b.seq)
    (hpos : ∀ b ∈ ((tb.headD []).drop lo).take (hi - lo), 0 < b.num ∧ 0 < b.den ∧ 0 < c.capacity b.num b.den) :
    ∃ bars : List BarEv,
      extract c.ppqn (tb.map (fun bs => barsToSeq ((bs.drop lo).take (hi - lo)))) = layBars c bars
        ∧ BarsOk c C bars
        ∧ bars.map (fun b => (b.num, b.den)) = (((tb.headD []).drop lo).take (hi - lo)).map (fun b => (b.num, b.den)) :=
  have _ := hp
  let ⟨bars, h1, h2, h3, _⟩ := splitBars_run c values tracks tb h hn lo hi C hlo hhi hgood hpos
  ⟨bars, h1, h2, h3⟩

/-- the default 4/4 and every time-signature message of the meta track (track 0) are positive with bars of positive
    length (input level) -/
def SigsPos (c : Cfg) (tracks : List (List Msg)) : Prop :=
  0 < c.capacity 4 4 ∧ ∀ m ∈ tracks.headD [], m.ty = .timeSignature → 0 < m.num ∧ 0 < m.den ∧ 0 < c.capacity m.num m.den

instance (c : Cfg) (tracks : List (List Msg)) : Decidable (SigsPos c tracks) := by unfold SigsPos; infer_instance

theorem bars_pos (c : Cfg) (values : List Int) (tracks : List (List Msg)) (tb : List (List Bar))
    (h : splitBars c.ppqn values tracks 0 false = .ok tb) (hs : SigsPos c tracks) :
    ∀ b ∈ tb.headD [], 0 < b.num ∧ 0 < b.den ∧ 0 < c.capacity b.num b.den := by
  intro b hb
  rcases splitBars_sig_src c.ppqn values tracks tb h b hb with h1 | ⟨m, hm, hty, h1⟩
  · rw [Prod.mk.injEq] at h1
    rw [h1.1, h1.2]
    exact ⟨by decide, by decide, hs.1⟩
  · rw [Prod.mk.injEq] at h1
    rw [h1.1, h1.2]
    exact hs.2 m hm hty

/-- **A1 (ii), structural part, with the signatures constrained on the input** (`SigsPos`): as `extract_wholebars_bars`,
    the positivity of the bars' signatures following from that of the meta track's signature messages.  The one
    hypothesis left on the bars is that each bar sequence of the run is a good track on its own (`TrackGood`: on its
    track's channel well-formed and without zero-length notes). -/
theorem extract_wholebars_partial (c : Cfg) (hp : 0 ≤ c.ppqn) (values : List Int) (tracks : List (List Msg)) (tb : List (List Bar))
    (hs : SigsPos c tracks)
    (h : splitBars c.ppqn values tracks 0 false = .ok tb) (hn : tb.length = c.numTracks)
    (lo hi : Nat) (C : Int) (hlo : lo < hi) (hhi : ∀ bs ∈ tb, hi ≤ bs.length)
    (hgood : ∀ i bs, tb[i]? = some bs → ∀ b ∈ (bs.drop lo).take (hi - lo), TrackGood i b.seq) :
    ∃ bars : List BarEv,
      extract c.ppqn (tb.map (fun bs => barsToSeq ((bs.drop lo).take (hi - lo)))) = layBars c bars
        ∧ BarsOk c C bars
        ∧ bars.map (fun b => (b.num, b.den)) = (((tb.headD []).drop lo).take (hi - lo)).map (fun b => (b.num, b.den)) :=
  extract_wholebars_bars c hp values tracks tb h hn lo hi C hlo hhi hgood
    (fun b hb => bars_pos c values tracks tb h hs b (mem_of_mem_slice hb))

theorem sameNotes_refl (c : Cfg) : ∀ bars : List BarEv, SameNotes c bars bars := by
  intro bars
  induction bars with
  | nil => trivial
  | cons b bs ih => exact ⟨rfl, List.Perm.refl _, ih⟩

/-- **A1 (ii) for one-bar runs: the full conclusion of `extract_wholebars_statement`** (`hi = lo + 1`, the case the
    correspondence check of C03 and the finest partition use): the bar tokenised alone is a well-formed one-bar chunk
    with the bar's signature (and trivially has its own notes). -/
theorem extract_wholebars_onebar (c : Cfg) (hp : 0 ≤ c.ppqn) (values : List Int) (tracks : List (List Msg)) (tb : List (List Bar))
    (hs : SigsPos c tracks)
    (h : splitBars c.ppqn values tracks 0 false = .ok tb) (hn : tb.length = c.numTracks)
    (lo : Nat) (C : Int) (hhi : ∀ bs ∈ tb, lo + 1 ≤ bs.length)
    (hgood : ∀ i bs, tb[i]? = some bs → ∀ b ∈ (bs.drop lo).take (lo + 1 - lo), TrackGood i b.seq) :
    ∃ bars : List BarEv,
      extract c.ppqn (tb.map (fun bs => barsToSeq ((bs.drop lo).take (lo + 1 - lo)))) = layBars c bars
        ∧ BarsOk c C bars
        ∧ bars.map (fun b => (b.num, b.den)) = (((tb.headD []).drop lo).take (lo + 1 - lo)).map (fun b => (b.num, b.den))
        ∧ ∃ one : List BarEv,
            (∀ i, i < lo + 1 - lo → ∀ b ∈ one[i]?,
                extract c.ppqn (tb.map (fun bs => barsToSeq ((bs.drop (lo + i)).take 1))) = layBars c [b])
            ∧ one.length = lo + 1 - lo ∧ SameNotes c bars one :=
  have _ := hp
  splitBars_run c values tracks tb h hn lo (lo + 1) C (by omega) hhi hgood
    (fun b hb => bars_pos c values tracks tb h hs b (mem_of_mem_slice hb))

/-! ### non-vacuity: two tracks, three bars (4/4, 4/4, 6/8), a note of track 0 crossing the first bar line -/

def gTrack0 : List Msg :=
  [Msg.mkTimeSig 0 4 4 pyNone, Msg.mkWait 0 72, Msg.mkOn 0 60 64 pyNone, Msg.mkWait 0 48, Msg.mkOff 0 60 pyNone, Msg.mkWait 0 72,
   Msg.mkTimeSig 0 6 8 pyNone, Msg.mkOn 0 62 64 pyNone, Msg.mkWait 0 12, Msg.mkOff 0 62 pyNone, Msg.mkWait 0 60]
def gTrack1 : List Msg :=
  [Msg.mkWait 0 48, Msg.mkOn 0 48 30 pyNone, Msg.mkWait 0 24, Msg.mkOff 0 48 pyNone, Msg.mkWait 0 156,
   Msg.mkOn 0 50 100 pyNone, Msg.mkWait 0 36, Msg.mkOff 0 50 pyNone]

def gBars : List (List Bar) :=
  match splitBars 24 [] [gTrack0, gTrack1] 0 false with
  | .ok tb => tb
  | .error _ => []

theorem gBars_eq : splitBars C03c.exCfg.ppqn [] [gTrack0, gTrack1] 0 false = .ok gBars :=
  Strong589LB.ok_of_toOption (by decide +kernel)

/-- the bars: the crossing note is closed at the first bar line and struck again after it; the third bar is 6/8 -/
example : gBars.map (fun bs => bs.map (fun b => (b.num, b.den, b.seq.length))) = [[(4, 4, 5), (4, 4, 5), (6, 8, 5)], [(4, 4, 6), (4, 4, 2), (6, 8, 5)]] := by
  decide +kernel

/-- what the hypotheses of the theorems of this file ask of the bars, evaluated once: one list per configured track,
    three bars each, positive signatures and bar lengths on the meta track -/
theorem gBars_shape : gBars.length = C03c.exCfg.numTracks ∧ (∀ bs ∈ gBars, 3 ≤ bs.length)
    ∧ ∀ b ∈ gBars.headD [], 0 < b.num ∧ 0 < b.den ∧ 0 < C03c.exCfg.capacity b.num b.den := by decide +kernel

theorem gBars_good : ∀ i bs, gBars[i]? = some bs → ∀ b ∈ bs, TrackGood i b.seq := by
  have h : ∀ x ∈ gBars.zipIdx, ∀ b ∈ x.1, TrackGood x.2 b.seq := by decide +kernel
  exact fun i bs hi => h (bs, i) (List.mem_zipIdx_iff_getElem?.2 hi)

/-- all hypotheses of `extract_wholebars_bars` hold of the example, for the whole piece … -/
example : ∃ bars : List BarEv,
    extract 24 (gBars.map (fun bs => barsToSeq ((bs.drop 0).take (3 - 0)))) = layBars C03c.exCfg bars ∧ BarsOk C03c.exCfg 7 bars
      ∧ bars.map (fun b => (b.num, b.den)) = [(4, 4), (4, 4), (6, 8)] :=
  extract_wholebars_bars C03c.exCfg (by decide) [] [gTrack0, gTrack1] gBars gBars_eq gBars_shape.1 0 3 7 (by omega)
    gBars_shape.2.1 (fun i bs h b hb => gBars_good i bs h b (mem_of_mem_slice hb))
    (fun b hb => gBars_shape.2.2 b (mem_of_mem_slice hb))

/-- … `SigsPos` holds of its tracks, so `extract_wholebars_partial` applies to every run of it, e.g. bars 1 and 2 (a
    4/4 bar followed by the change to 6/8) after a running bar length that is not 96 … -/
example : SigsPos C03c.exCfg [gTrack0, gTrack1] := by decide +kernel
example : ∃ bars : List BarEv,
    extract 24 (gBars.map (fun bs => barsToSeq ((bs.drop 1).take (3 - 1)))) = layBars C03c.exCfg bars ∧ BarsOk C03c.exCfg 72 bars
      ∧ bars.map (fun b => (b.num, b.den)) = [(4, 4), (6, 8)] :=
  extract_wholebars_partial C03c.exCfg (by decide) [] [gTrack0, gTrack1] gBars (by decide) gBars_eq gBars_shape.1 1 3 72 (by omega)
    gBars_shape.2.1 (fun i bs h b hb => gBars_good i bs h b (mem_of_mem_slice hb))

/-- … the run is a `RunOk` run (the hypothesis of `extract_run`) … -/
example : RunOk C03c.exCfg (sigsOf gBars 0 3) (segsOf gBars 0 3) :=
  splitBars_runOk C03c.exCfg [] [gTrack0, gTrack1] gBars gBars_eq gBars_shape.1 0 3 (by omega) gBars_shape.2.1
    (fun i bs h b hb => gBars_good i bs h b (mem_of_mem_slice hb)) (fun b hb => gBars_shape.2.2 b (mem_of_mem_slice hb))

/-- … and `extract_wholebars_onebar` applies to its last bar (6/8) -/
example : ∃ bars : List BarEv,
    extract 24 (gBars.map (fun bs => barsToSeq ((bs.drop 2).take (2 + 1 - 2)))) = layBars C03c.exCfg bars ∧ BarsOk C03c.exCfg 96 bars
      ∧ SameNotes C03c.exCfg bars bars := by
  obtain ⟨bars, h1, h2, _, _, _, _, _⟩ := extract_wholebars_onebar C03c.exCfg (by decide) [] [gTrack0, gTrack1] gBars (by decide) gBars_eq
    gBars_shape.1 2 96 gBars_shape.2.1 (fun i bs h b hb => gBars_good i bs h b (mem_of_mem_slice hb))
  exact ⟨bars, h1, h2, sameNotes_refl _ bars⟩

/-! `C03c.extract_wholebars_statement` is a `def`, not a theorem (it is false as stated); its corrected form, with the
  last conjunct for runs of any length and input-level hypotheses only, is `C03f.extract_wholebars_full`. -/

end SCoda.C03e
