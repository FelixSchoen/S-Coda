/-
  TIE BY TRANSLATION of the one link every translator uses by name: `AbsoluteSequence.sort`
  (`self._messages.sort(key=lambda x: (x.time, -1 if x.channel is None else x.channel, x.message_type, x.note))`,
  scoda/sequences/absolute_sequence.py) and `MessageType.__lt__` (scoda/enumerations/message_type.py).

  Gen/SortFns.lean (tools/py2lean_sort.py) is the translation of the key lambda, of `__lt__`, of the member order of the
  enum and of the `list.sort` call; Model/SortLib.lean is the model of the Python language features they use.
  Modelling CPython's timsort by an insertion sort rests on `stable_sort_is_isortBy` (for a strict weak order any stable
  sort returns the list `isortBy` returns); what remains assumed is "CPython's list.sort is a stable comparison sort".
  The generated `sort` is `.ok (sortAbs l)` exactly on `SortDom l` (no two messages whose keys cannot be compared) and
  raises TypeError outside it, as the real code does.

  The domain, in words.  Python compares the key tuples component by component and only up to the first component that
  differs.  With the `Msg` model (`None` = `pyNone`):
    - `time`: `None < 3` raises; `None == None` does not.  So either ALL times are None or none is.
    - `channel`: never raises (`None` is replaced by -1 by the lambda itself).
    - `message_type`: never raises in the model (`Msg.ty` is always a member; `Message()` with `message_type=None` is outside
      the `Msg` model: real code `ValueError: None is not in list` / `TypeError`, depending on the side).
    - `note`: reached only by two messages EQUAL in (time, channel, type); then both notes must be None or both ints.
      Two TIME_SIGNATUREs on one tick and channel (both notes None) are fine: equal keys, order kept.  A NOTE_ON with a note
      and a hand-built NOTE_ON without one on the same tick and channel: TypeError.
-/
import SCoda.Lemmas.SortTieL
import SCoda.Lemmas.PyLoop
import SCoda.Gen.Tables
import SCoda.Gen.AbsFns2
import SCoda.Gen.ViewFns
namespace SCoda.SortTie

open SCoda SCoda.SortLib SCoda.Gen.Sort SCoda.SortTieL

/-- For a strict weak order on the elements of `l`, EVERY stable sort of `l` (a permutation that is sorted and keeps the
    relative order inside each class of equivalent elements) is the list the insertion sort `isortBy` returns.
    This discharges "timsort is modelled by insertion sort"; the remaining assumption is that CPython's `list.sort`
    is a stable comparison sort.  (Closes the `list.sort` half of the `sort ↦ sortAbs` link, DESIGN §2.2 / §9.2c.) -/
theorem stable_sort_is_isortBy {α : Type} {lt : α → α → Bool} {l out : List α}
    (hswo : StrictWeakOrderOn lt l) (hout : IsStableSortOf lt l out) : out = isortBy lt l :=
  stable_sort_unique hswo.irrefl hout (isortBy_isStableSortOf hswo)

/-- the insertion sort is itself a stable sort, so the characterisation is not vacuous -/
theorem isortBy_is_stable_sort {α : Type} {lt : α → α → Bool} {l : List α}
    (hswo : StrictWeakOrderOn lt l) : IsStableSortOf lt l (isortBy lt l) := isortBy_isStableSortOf hswo

example : IsStableSortOf (fun a b : Nat × Nat => decide (a.1 < b.1)) [(2, 0), (1, 1), (2, 2), (1, 3)]
    [(1, 1), (1, 3), (2, 0), (2, 2)] := by
  have h : [(1, 1), (1, 3), (2, 0), (2, 2)] = isortBy (fun a b : Nat × Nat => decide (a.1 < b.1)) [(2, 0), (1, 1), (2, 2), (1, 3)] := by decide +kernel
  rw [h]
  apply isortBy_isStableSortOf
  refine ⟨by decide, ?_, ?_⟩
  · intro a _ b _ c _; simp only [decide_eq_true_eq]; omega
  · intro a _ b _ c _; simp only [decide_eq_false_iff_not]; omega

/-- the members the translator read off the class body are the constructors of `MType` in the model's order -/
theorem members_eq : messageTypeMembers = MType.all := by decide +kernel

/-- … and carry the names that RUNNING the code lists (`Gen.messageTypeOrder`: iteration order, aliases dropped) -/
theorem memberNames_eq :
    messageTypeMemberNames = Gen.messageTypeOrder ∧ messageTypeMembers.map MType.name = messageTypeMemberNames := by
  decide +kernel

/-- The translated `MessageType.__lt__` on two members is `<` on `MType.rank` (the position in the declaration order). -/
theorem messageTypeLt_eq (a b : MType) : messageTypeLt a (.mtype b) = .ok (decide (a.rank < b.rank)) :=
  messageTypeLt_mtype a b

/-- `MessageType.X < None` and `MessageType.X < 3` call `__lt__` and die in `values.index(other)`: ValueError
    (real code: `ValueError: None is not in list`), while `None < MessageType.X` is a TypeError. -/
theorem messageTypeLt_nonmember (a : MType) (i : Int) :
    messageTypeLt a .none = .error .valueError ∧ messageTypeLt a (.int i) = .error .valueError ∧
    KVal.lt messageTypeLt .none (.mtype a) = .error .typeError ∧ KVal.lt messageTypeLt (.int i) (.mtype a) = .error .typeError := by
  refine ⟨?_, ?_, rfl, rfl⟩ <;> cases a <;> rfl

/-- `Comparable a b` (Lemmas/SortTieL.lean): Python can compare the two keys — `a.time`, `b.time` both None or both ints,
    and if the two messages agree in (time, channel, type) their notes are both None or both ints. -/
example : Comparable (Msg.mkTimeSig 0 4 4 0) (Msg.mkTimeSig 0 3 4 0) := by decide +kernel
example : Comparable (Msg.mkOn 0 60 90 0) { ty := .timeSignature, time := 0 } := by decide +kernel
example : ¬ Comparable (Msg.mkOn 0 60 90 0) { ty := .noteOn, time := 0 } := by decide +kernel

/-- The hand model's order is Python's: `keyLe a b` holds iff `key(b) < key(a)` is False, for every pair of messages whose
    keys Python can compare.  (Closes the key-lambda + `__lt__` half of the `sort ↦ sortAbs` link.) -/
theorem keyLe_iff (a b : Msg) (h : Comparable a b) :
    keyLe a b = true ↔ keyLt (sortKey b) (sortKey a) = .ok false := by
  rw [keyLt_sortKey b a (comparable_symm h)]
  cases keyLe a b <;> simp

/-- the same as an equation, in the direction the sort uses it -/
theorem keyLt_eq (a b : Msg) (h : Comparable a b) : keyLt (sortKey a) (sortKey b) = .ok (!keyLe b a) :=
  keyLt_sortKey a b h

example : keyLe (Msg.mkOn 1 60 90 5) (Msg.mkOff 1 60 5) = false ∧
    keyLt (sortKey (Msg.mkOff 1 60 5)) (sortKey (Msg.mkOn 1 60 90 5)) = .ok true := by decide +kernel

/-- `Comparable` is exactly the domain of Python's comparison of two keys: inside it answers, outside it raises TypeError. -/
theorem keyLt_ok_iff_comparable (a b : Msg) :
    (∃ r, keyLt (sortKey a) (sortKey b) = .ok r) ↔ Comparable a b := by
  rw [keyLt_sortKey_eq]
  split <;> simp [*]

theorem keyLt_raises (a b : Msg) (h : ¬ Comparable a b) : keyLt (sortKey a) (sortKey b) = .error .typeError :=
  keyLt_sortKey_error a b h

/-- `keyLe_iff` WITHOUT the hypothesis … -/
def keyLe_iff_statement : Prop := ∀ a b : Msg, keyLe a b = true ↔ keyLt (sortKey b) (sortKey a) = .ok false

/-- … is false: a NOTE_ON with note 60 and a hand-built NOTE_ON without a note on the same tick and channel.  The hand
    model says "None (= -1) sorts first"; the real code raises
    `TypeError: '<' not supported between instances of 'NoneType' and 'int'` (replayed on /repo). -/
theorem keyLe_iff_statement_false : ¬ keyLe_iff_statement := by
  intro h
  have := h { ty := .noteOn, time := 0 } (Msg.mkOn 0 60 90 0)
  revert this; decide

/-- the input-level domain of `AbsoluteSequence.sort`: any two messages of the list have comparable keys -/
def SortDom (l : List Msg) : Prop := ∀ a ∈ l, ∀ b ∈ l, Comparable a b

instance (l : List Msg) : Decidable (SortDom l) := by unfold SortDom; exact inferInstance

/-- a sufficient, more familiar condition: every message has a time, and a message has a note iff it is a note message -/
theorem sortDom_of_wellFormed (l : List Msg) (ht : ∀ m ∈ l, m.time ≠ pyNone)
    (hn : ∀ m ∈ l, (m.note = pyNone ↔ m.isNote = false)) : SortDom l := by
  intro a ha b hb
  refine ⟨by simp [ht a ha, ht b hb], fun _ _ hty => ?_⟩
  rw [hn a ha, hn b hb]
  simp [Msg.isNote, Msg.isOn, Msg.isOff, hty]

/-- `AbsoluteSequence.sort` through any projection `msgOf` (the message itself, a heap reference, a tagged message), on every
    list: inside the domain the hand model's stable insertion sort by `keyLe`, outside TypeError. -/
theorem sortOf_eq {α : Type} (msgOf : α → Msg) (l : List α) :
    sortOf msgOf l =
      if SortDom (l.map msgOf) then .ok (isort (fun a b => keyLe (msgOf a) (msgOf b)) l) else .error .typeError := by
  have hd : SortDom (l.map msgOf) ↔ ∀ a ∈ l, ∀ b ∈ l, Comparable (msgOf a) (msgOf b) := by simp [SortDom]
  unfold sortOf
  simp only [pyListSort, Bool.false_eq_true, if_false]
  split
  · rename_i h
    rw [isortM_ok _ _ l fun a ha b hb => keyLt_sortKey _ _ (hd.1 h a ha b hb), isortBy_eq_isort]
    simp only [Bool.not_not]
  · rename_i h
    exact isortM_error msgOf l fun h' => h (hd.2 h')

/-- inside the domain the generated function returns the hand model's stable insertion sort by `keyLe`. -/
theorem sortOf_eq_isort {α : Type} (msgOf : α → Msg) (l : List α) (h : SortDom (l.map msgOf)) :
    sortOf msgOf l = .ok (isort (fun a b => keyLe (msgOf a) (msgOf b)) l) :=
  (sortOf_eq msgOf l).trans (if_pos h)

/-- THE TIE: on every list whose keys Python can compare, the translated `AbsoluteSequence.sort` returns exactly the hand
    model `sortAbs l`.  (Discharges the link `AbsoluteSequence.sort ↦ SCoda.sortAbs` of tools/py2lean.py.) -/
theorem sort_eq (l : List Msg) (h : SortDom l) : Gen.Sort.sort l = .ok (sortAbs l) := by
  have := sortOf_eq_isort id l (by simpa using h)
  simpa [Gen.Sort.sort, sortAbs] using this

example : SortDom [Msg.mkOn 0 60 90 5, Msg.mkTimeSig 0 4 4 5, Msg.mkTimeSig 0 3 4 5, Msg.mkOff 0 60 5, Msg.mkWait 0 2] ∧
    Gen.Sort.sort [Msg.mkOn 0 60 90 5, Msg.mkTimeSig 0 4 4 5, Msg.mkTimeSig 0 3 4 5, Msg.mkOff 0 60 5, Msg.mkWait 0 2]
      = .ok [Msg.mkWait 0 2, Msg.mkTimeSig 0 4 4 5, Msg.mkTimeSig 0 3 4 5, Msg.mkOff 0 60 5, Msg.mkOn 0 60 90 5] := by
  decide +kernel

/-- Outside the domain the translated sort raises TypeError (through any projection).  Together with `sortOf_eq_isort` this is
    the complete behaviour of the translated function; that CPython's timsort — which compares other pairs — ALSO raises on
    every such list is not a theorem about this model: any correct comparison sort must compare two adjacent elements of an
    equivalence class at some point, and tools/diff_py2lean_sort.py observes TypeError on every sampled list outside the domain
    (lengths up to 200). -/
theorem sortOf_raises {α : Type} (msgOf : α → Msg) (l : List α) (h : ¬ SortDom (l.map msgOf)) :
    sortOf msgOf l = .error .typeError :=
  (sortOf_eq msgOf l).trans (if_neg h)

theorem sort_raises (l : List Msg) (h : ¬ SortDom l) : Gen.Sort.sort l = .error .typeError :=
  sortOf_raises id l (by simpa using h)

/-- the translated sort succeeds exactly on the domain -/
theorem sort_ok_iff (l : List Msg) : (∃ r, Gen.Sort.sort l = .ok r) ↔ SortDom l := by
  rw [Gen.Sort.sort, sortOf_eq, List.map_id]
  split <;> simp [*]

/-- `sort_eq` WITHOUT the domain … -/
def sort_eq_statement : Prop := ∀ l : List Msg, Gen.Sort.sort l = .ok (sortAbs l)

/-- … is false: `[NOTE_ON(time 0, note 60), NOTE_ON(time 0, note None)]` — the real `sort()` raises TypeError (replayed),
    the generated function answers `.error .typeError`, the hand model sorts the `None` first. -/
theorem sort_eq_statement_false : ¬ sort_eq_statement := by
  intro h
  have := h [Msg.mkOn 0 60 90 0, { ty := .noteOn, time := 0 }]
  revert this; decide

/-- two points at the edge of the domain, evaluated: two TIME_SIGNATUREs on one tick and channel are fine (equal keys, order
    kept); mixing a message without a time into a timed sequence raises. -/
example : Gen.Sort.sort [Msg.mkTimeSig 0 4 4 0, Msg.mkTimeSig 0 3 4 0] = .ok [Msg.mkTimeSig 0 4 4 0, Msg.mkTimeSig 0 3 4 0] ∧
    Gen.Sort.sort [Msg.mkOn 0 60 90 3, { ty := .noteOn, note := 60 }] = .error .typeError ∧
    Gen.Sort.sort [{ ty := .noteOn, note := 61 }, { ty := .noteOn, note := 60 }]
      = .ok [{ ty := .noteOn, note := 60 }, { ty := .noteOn, note := 61 }] := by decide +kernel

/-- the generated comparison as a total function (what a stable sort is parameterised by) -/
def keyLtB (a b : Msg) : Bool :=
  match keyLt (sortKey a) (sortKey b) with
  | .ok r => r
  | .error _ => false

theorem keyLtB_eq (a b : Msg) (h : Comparable a b) : keyLtB a b = !keyLe b a := by
  simp [keyLtB, keyLt_sortKey a b h]

/-- On a list in the domain, Python's `key(a) < key(b)` is a strict weak order (irreflexive, transitive, "not smaller"
    transitive): the precondition under which "the stable sort" is a well-defined function. -/
theorem generated_order_strictWeakOrder (l : List Msg) (h : SortDom l) : StrictWeakOrderOn keyLtB l :=
  swo_congr (notKeyLe_swo id l) (fun a ha b hb => keyLtB_eq a b (h a ha b hb))

/-- `sortAbs l` is a stable sort of `l` by the generated order, and ANY stable sort of `l` by the generated order is
    `sortAbs l` — whatever algorithm CPython uses, as long as it is a stable comparison sort. -/
theorem any_stable_sort_eq_sortAbs (l out : List Msg) (h : SortDom l) :
    IsStableSortOf keyLtB l out ↔ out = sortAbs l := by
  have hswo := generated_order_strictWeakOrder l h
  have he : isortBy keyLtB l = sortAbs l := by
    have hs := isortM_ok (fun a b => keyLt (sortKey a) (sortKey b)) keyLtB l
      (fun a ha b hb => by rw [keyLtB_eq a b (h a ha b hb)]; exact keyLt_sortKey a b (h a ha b hb))
    have hs' := isortM_ok (fun a b => keyLt (sortKey a) (sortKey b)) (fun a b => !keyLe b a) l
      (fun a ha b hb => keyLt_sortKey a b (h a ha b hb))
    rw [hs] at hs'
    have := Except.ok.inj hs'
    rw [this, isortBy_eq_isort]; simp only [Bool.not_not]; rfl
  constructor
  · intro hout; rw [← he]; exact stable_sort_is_isortBy hswo hout
  · rintro rfl; rw [← he]; exact isortBy_isStableSortOf hswo

example : IsStableSortOf keyLtB [Msg.mkOn 0 60 90 5, Msg.mkTimeSig 0 4 4 5, Msg.mkTimeSig 0 3 4 5]
    [Msg.mkTimeSig 0 4 4 5, Msg.mkTimeSig 0 3 4 5, Msg.mkOn 0 60 90 5] :=
  (any_stable_sort_eq_sortAbs _ _ (by decide)).2 (by decide)

/-- tools/py2lean_abs2.py maps `self.sort()` to `sortRefs heap` (Gen/AbsFns2.lean) by name; this is what the translated
    `sort` computes on a list of references, whenever the referenced messages are in the domain. -/
theorem sortRefs_discharged (h : Gen.Abs2.Heap) (l : List Nat) (hd : SortDom (l.map (Gen.Abs2.hGet h))) :
    sortOf (Gen.Abs2.hGet h) l = .ok (Gen.Abs2.sortRefs h l) :=
  sortOf_eq_isort (Gen.Abs2.hGet h) l hd

/-- tools/py2lean.py maps `self.sort()` to `SCoda.sortAbs` by name (`Gen.View.normaliseAbsolute`, `merge`, …): the
    translated `normalise_absolute` is the translated `sort`. -/
theorem viewSort_discharged (l : List Msg) (hd : SortDom l) :
    (Gen.View.normaliseAbsolute l).toOption = (Gen.Sort.sort l).toOption := by
  rw [sort_eq l hd]; rfl

end SCoda.SortTie
