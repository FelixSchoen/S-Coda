/-
  Tie between the *generated* translation of the `Sequence` wrapper (Gen/WrapFns.lean, re-read from
  sequence.py on every run by tools/py2lean_wrap.py) and the hand-written wrapper model `SCoda.Seq`
  (Model/Wrapper.lean) that the C04 / C16 / C18 theorems are about and that the driver executes.

  Each theorem says: for every environment, every wrapper state and every argument, the translated
  method and the model function compute the same state and the same result, or the same error.
  A change to sequence.py that alters what a wrapper method does to either view or either stale flag
  (forgetting an `invalidate_*`, invalidating the wrong view, reading `_abs` instead of `abs`, dropping the
  `finally` of an iterator, swapping the order of two calls, …) changes the generated definition and
  breaks the corresponding theorem here.
-/
import SCoda.Gen.WrapFns
import SCoda.Gen.Tables
import SCoda.Lemmas.PyLoop
namespace SCoda.WrapTie
open SCoda

def unit {α} (x : Except Err α) : Except Err (α × Unit) := (fun s => (s, ())) <$> x

@[simp] theorem ok_bind {α β} (a : α) (k : α → Except Err β) : (Except.ok a >>= k) = k a := rfl
@[simp] theorem error_bind {α β} (x : Err) (k : α → Except Err β) : (Except.error x >>= k) = .error x := rfl
@[simp] theorem map_ok {α β} (f : α → β) (a : α) : f <$> (Except.ok a : Except Err α) = .ok (f a) := rfl
@[simp] theorem map_error {α β} (f : α → β) (x : Err) : f <$> (Except.error x : Except Err α) = .error x := rfl
@[simp] theorem throw_eq {α} (x : Err) : (throw x : Except Err α) = .error x := rfl
@[simp] theorem pure_eq {α} (a : α) : (pure a : Except Err α) = .ok a := rfl

attribute [simp] forIn_ok_yield

/-- the loop of `messages_abs` / `messages_rel`: every iteration invalidates the other view (`u`) and edits one message -/
theorem foldl_edit (u : Seq → Seq) (hu : ∀ s, u (u s) = u s) (f : Msg → Msg) (s : Seq) (l acc : List Msg) :
    List.foldl (fun (b : Seq × List Msg) a => (u b.fst, b.snd ++ [f a])) (s, acc) l
      = (if l = [] then s else u s, acc ++ l.map f) := by
  induction l generalizing s acc with
  | nil => simp
  | cons x xs ih =>
    rw [List.foldl_cons, ih]
    by_cases h : xs = [] <;> simp [h, hu]

theorem getAbs_eq (e : Env) (s : Seq) : Gen.Wrap.getAbs e s = s.readAbs := by
  obtain ⟨a, r, sa, sr⟩ := s
  cases sa <;> cases sr <;> rfl

theorem getRel_eq (e : Env) (s : Seq) : Gen.Wrap.getRel e s = s.readRel := by
  obtain ⟨a, r, sa, sr⟩ := s
  cases sa <;> cases sr <;> rfl

/-- the list `readAbs` returns is the absolute view of the state it returns (what `return self._abs` reads) -/
theorem readAbs_snd (s s' : Seq) (a : List Msg) (h : s.readAbs = .ok (s', a)) : a = s'.abs := by
  obtain ⟨a0, r0, sa, sr⟩ := s
  cases sa <;> cases sr <;> simp [Seq.readAbs] at h <;> obtain ⟨rfl, rfl⟩ := h <;> rfl

theorem readRel_snd (s s' : Seq) (r : List Msg) (h : s.readRel = .ok (s', r)) : r = s'.rel := by
  obtain ⟨a0, r0, sa, sr⟩ := s
  cases sa <;> cases sr <;> simp [Seq.readRel] at h <;> obtain ⟨rfl, rfl⟩ := h <;> rfl

/-- a wrapper method that starts by reading the relative view: the generated guard "the property returned its own
    view" never fires (`readRel_snd`), so the method is `readRel` followed by the rest -/
theorem viaRel {β} (e : Env) (s : Seq) (k k' : Seq × List Msg → Except Err β) :
    (Gen.Wrap.getRel e s >>= fun r1 => if (r1.2 != r1.1.rel) = true then k' r1 else k r1) = s.readRel >>= k := by
  rw [getRel_eq]
  cases h : s.readRel with
  | error x => rfl
  | ok p => obtain ⟨s', r⟩ := p; cases readRel_snd s s' r h; simp

theorem viaAbs {β} (e : Env) (s : Seq) (k k' : Seq × List Msg → Except Err β) :
    (Gen.Wrap.getAbs e s >>= fun r1 => if (r1.2 != r1.1.abs) = true then k' r1 else k r1) = s.readAbs >>= k := by
  rw [getAbs_eq]
  cases h : s.readAbs with
  | error x => rfl
  | ok p => obtain ⟨s', a⟩ := p; cases readAbs_snd s s' a h; simp

theorem readRel_congr {β} (s : Seq) (k k' : Seq × List Msg → Except Err β)
    (h : ∀ s', s'.relStale = false → k (s', s'.rel) = k' (s', s'.rel)) : s.readRel >>= k = s.readRel >>= k' := by
  obtain ⟨a, r, sa, sr⟩ := s
  cases sr <;> cases sa <;> first | rfl | exact h _ rfl

theorem readAbs_congr {β} (s : Seq) (k k' : Seq × List Msg → Except Err β)
    (h : ∀ s', s'.absStale = false → k (s', s'.abs) = k' (s', s'.abs)) : s.readAbs >>= k = s.readAbs >>= k' := by
  obtain ⟨a, r, sa, sr⟩ := s
  cases sr <;> cases sa <;> first | rfl | exact h _ rfl

theorem readRel_fresh (s : Seq) (h : s.relStale = false) : s.readRel = .ok (s, s.rel) := by
  simp only [Seq.readRel, h, Bool.false_eq_true, if_false]

theorem readAbs_fresh (s : Seq) (h : s.absStale = false) : s.readAbs = .ok (s, s.abs) := by
  simp only [Seq.readAbs, h, Bool.false_eq_true, if_false]

theorem invalidateAbs_eq (e : Env) (s : Seq) : Gen.Wrap.invalidateAbs e s = .ok ({ s with absStale := true }, ()) := rfl
theorem invalidateRel_eq (e : Env) (s : Seq) : Gen.Wrap.invalidateRel e s = .ok ({ s with relStale := true }, ()) := rfl

/-- the shape of a mutator implemented on the relative view: read `rel` (guarded), apply the view method `v`, invalidate
    the absolute view.  It is `onRel f` whenever `v` is `f` paired with `()`. -/
theorem relMut (e : Env) (s : Seq) (v : List Msg → Except Err (List Msg × Unit)) (f : List Msg → Except Err (List Msg))
    (hv : ∀ r, v r = f r >>= fun r' => .ok (r', ())) :
    (do let r1 ← Gen.Wrap.getRel e s
        if r1.2 != r1.1.rel then throw Err.fuel
        let v2 ← v r1.1.rel
        let r3 ← Gen.Wrap.invalidateAbs e { r1.1 with rel := v2.1 }
        return (r3.1, ())) = unit (s.onRel f) := by
  simp only [viaRel, Seq.onRel, unit, map_eq_pure_bind, bind_assoc, hv]
  refine readRel_congr s _ _ fun s' _ => ?_
  cases f s'.rel <;> rfl

theorem absMut (e : Env) (s : Seq) (v : List Msg → Except Err (List Msg × Unit)) (f : List Msg → Except Err (List Msg))
    (hv : ∀ a, v a = f a >>= fun a' => .ok (a', ())) :
    (do let r1 ← Gen.Wrap.getAbs e s
        if r1.2 != r1.1.abs then throw Err.fuel
        let v2 ← v r1.1.abs
        let r3 ← Gen.Wrap.invalidateRel e { r1.1 with abs := v2.1 }
        return (r3.1, ())) = unit (s.onAbs f) := by
  simp only [viaAbs, Seq.onAbs, unit, map_eq_pure_bind, bind_assoc, hv]
  refine readAbs_congr s _ _ fun s' _ => ?_
  cases f s'.abs <;> rfl

theorem refresh_eq (e : Env) (s : Seq) : Gen.Wrap.refresh e s = unit s.refresh := by
  obtain ⟨a, r, sa, sr⟩ := s
  cases sa <;> cases sr <;> rfl

theorem copy_eq (e : Env) (s : Seq) : Gen.Wrap.copy e s = .ok (s, s.copy) := by
  obtain ⟨a, r, sa, sr⟩ := s
  cases sa <;> cases sr <;>
    (first | rfl | simp [Gen.Wrap.copy, Gen.Wrap.getAbs, Gen.Wrap.getRel, Seq.copy, View.seq_init, Seq.ofAbs, Seq.ofRel])

theorem pad_eq (e : Env) (s : Seq) (n : Int) : Gen.Wrap.pad e s n = unit (s.padSeq n) :=
  relMut e s (View.rel_pad e · n) _ fun _ => rfl

theorem setChannel_eq (e : Env) (s : Seq) (c : Int) : Gen.Wrap.setChannel e s c = unit (s.setChannelSeq c) :=
  relMut e s (View.rel_set_channel e · c) _ fun _ => rfl

theorem normalise_eq (e : Env) (s : Seq) : Gen.Wrap.normalise e s = unit s.normaliseSeq :=
  relMut e s (View.rel_normalise_relative e) _ fun _ => rfl

theorem cutoff_eq (e : Env) (s : Seq) (m r : Int) : Gen.Wrap.cutoff e s m r = unit (s.cutoffSeq m r) :=
  absMut e s (View.abs_cutoff e · m r) _ fun _ => rfl

theorem addAbs_eq (e : Env) (s : Seq) (m : Msg) : Gen.Wrap.addAbsoluteMessage e s m = unit (s.addAbsMsg m) :=
  absMut e s (View.abs_add_message e · m) _ fun _ => rfl

theorem addRel_eq (e : Env) (s : Seq) (m : Msg) (i : Option Nat) :
    Gen.Wrap.addRelativeMessage e s m i = unit (s.addRelMsg m i) :=
  relMut e s (View.rel_add_message e · m i) _ fun _ => by cases i <;> rfl

theorem overwriteAbs_eq (e : Env) (s : Seq) (ms : List Msg) :
    Gen.Wrap.overwriteAbsoluteMessages e s ms = .ok (s.overwriteAbs ms, ()) := by
  simp [Gen.Wrap.overwriteAbsoluteMessages, View.abs_add_message, Gen.Wrap.invalidateRel, Seq.overwriteAbs]

theorem overwriteRel_eq (e : Env) (s : Seq) (ms : List Msg) :
    Gen.Wrap.overwriteRelativeMessages e s ms = .ok (s.overwriteRel ms, ()) := by
  simp [Gen.Wrap.overwriteRelativeMessages, View.rel_add_message, Gen.Wrap.invalidateAbs, Seq.overwriteRel,
    foldl_snoc_map (fun m : Msg => m)]


theorem messagesAbs_eq (e : Env) (s : Seq) (f : Msg → Msg) : Gen.Wrap.messagesAbs e s f = unit (s.editAbs f) := by
  simp only [Gen.Wrap.messagesAbs, viaAbs, Seq.editAbs, Seq.onAbs, unit, map_eq_pure_bind, bind_assoc, invalidateRel_eq, ok_bind, pure_eq, forIn_ok_yield, foldl_edit (fun s => { s with relStale := true }) (fun _ => rfl)]
  exact readAbs_congr s _ _ fun s' _ => by split <;> rfl

theorem messagesRel_eq (e : Env) (s : Seq) (f : Msg → Msg) : Gen.Wrap.messagesRel e s f = unit (s.editRel f) := by
  simp only [Gen.Wrap.messagesRel, viaRel, Seq.editRel, Seq.onRel, unit, map_eq_pure_bind, bind_assoc, invalidateAbs_eq, ok_bind, pure_eq, forIn_ok_yield, foldl_edit (fun s => { s with absStale := true }) (fun _ => rfl)]
  exact readRel_congr s _ _ fun s' _ => by split <;> rfl

theorem quantise_eq (e : Env) (s : Seq) (st : Option (List Int)) :
    Gen.Wrap.quantise e s st = unit (Seq.quantiseSeq e s st) :=
  absMut e s (View.abs_quantise e · st) _ fun _ => rfl

theorem quantiseNoteLengths_eq (e : Env) (s : Seq) (v : Option (List Int)) (std : Int) (dne : Bool) :
    Gen.Wrap.quantiseNoteLengths e s v std dne = unit (Seq.qnlSeq e s v std dne) :=
  absMut e s (View.abs_quantise_note_lengths e · v std dne) _ fun _ => rfl

theorem unit_bind {α β} (x : Except Err α) (k : α × Unit → Except Err β) : unit x >>= k = x >>= fun a => k (a, ()) := by
  cases x <;> rfl

/-- `quantise_and_normalise(step_sizes, note_values, standard_length, do_not_extend)` is the three calls in order -/
theorem quantiseAndNormalise_eq' (e : Env) (s : Seq) (st v : Option (List Int)) (std : Int) (dne : Bool) :
    Gen.Wrap.quantiseAndNormalise e s st v std dne =
      unit (do let s ← Seq.quantiseSeq e s st; let s ← Seq.qnlSeq e s v std dne; Seq.normaliseSeq s) := by
  simp only [Gen.Wrap.quantiseAndNormalise, quantise_eq, quantiseNoteLengths_eq, normalise_eq, unit_bind]
  cases Seq.quantiseSeq e s st with
  | error x => rfl
  | ok s1 =>
    simp only [ok_bind]
    cases Seq.qnlSeq e s1 v std dne with
    | error x => rfl
    | ok s2 =>
      simp only [ok_bind]
      cases s2.normaliseSeq <;> rfl

/-- with the defaults of the signature (`None, None, PPQN, False`) it is the model's `quantiseAndNormalise` -/
theorem quantiseAndNormalise_eq (e : Env) (s : Seq) :
    Gen.Wrap.quantiseAndNormalise e s none none e.ppqn false = unit (Seq.quantiseAndNormalise e s) :=
  quantiseAndNormalise_eq' e s none none e.ppqn false

theorem scale_eq (e : Env) (s : Seq) (k : Int) (m : Option Seq) (q : Bool) :
    Gen.Wrap.scale e s k m q = unit (Seq.scaleSeq e s k q) := by
  simp only [Gen.Wrap.scale, viaRel, Seq.scaleSeq, Seq.onRel, unit, map_eq_pure_bind, bind_assoc, quantiseAndNormalise_eq]
  refine readRel_congr s _ _ fun s' _ => ?_
  cases q
  · rfl
  · simp only [View.rel_scale, ok_bind, invalidateAbs_eq, if_true, pure_eq]

theorem transpose_eq (e : Env) (s : Seq) (by_ : Int) : Gen.Wrap.transpose e s by_ = Seq.transposeSeq e s by_ := by
  simp only [Gen.Wrap.transpose, viaRel, Seq.transposeSeq, normalise_eq, quantiseNoteLengths_eq]
  refine readRel_congr s _ _ fun s' _ => ?_
  simp only [View.rel_transpose, ok_bind, invalidateAbs_eq]
  generalize transposeRel e.noteLo e.noteHi (fun k => e.tk k by_) by_ s'.rel = tr
  obtain ⟨r', sh⟩ := tr
  cases sh
  · rfl
  · simp only [if_true, unit_bind]
    cases Seq.normaliseSeq _ with
    | error x => rfl
    | ok s1 => simp only [ok_bind]; cases Seq.qnlSeq e s1 none e.ppqn false <;> rfl

theorem split_eq (e : Env) (s : Seq) (caps : List Int) : Gen.Wrap.split e s caps = Seq.splitSeq s caps := by
  simp only [Gen.Wrap.split, viaRel, Seq.splitSeq]
  refine readRel_congr s _ _ fun s' _ => ?_
  simp only [View.rel_split]
  cases SCoda.split s'.rel caps <;> rfl

/-- reading the relative view of every argument (`[seq.rel for seq in sequences]`) -/
def readRels (others : List Seq) : Except Err (List (List Msg)) := others.mapM (fun x => (·.2) <$> x.readRel)
def readAbss (others : List Seq) : Except Err (List (List Msg)) := others.mapM (fun x => (·.2) <$> x.readAbs)

theorem readAbs_err (s : Seq) (x : Err) (h : s.readAbs = .error x) : x = .sequenceStale := by
  obtain ⟨a, r, sa, sr⟩ := s
  cases sa <;> cases sr <;> simp [Seq.readAbs] at h <;> exact h.symm

theorem readAbss_err : ∀ (l : List Seq) (x : Err), readAbss l = .error x → x = .sequenceStale := by
  intro l
  induction l with
  | nil => intro x h; cases h
  | cons s ss ih =>
    intro x h
    simp only [readAbss, List.mapM_cons] at h
    cases hs : s.readAbs with
    | error y =>
      rw [hs] at h; simp only [map_error, error_bind] at h
      injection h with h; subst h; exact readAbs_err s _ hs
    | ok p =>
      rw [hs] at h; simp only [map_ok, ok_bind] at h
      cases hm : List.mapM (fun x : Seq => (·.2) <$> x.readAbs) ss with
      | error y => rw [hm] at h; simp only [error_bind] at h; injection h with h; subst h; exact ih _ hm
      | ok l' => rw [hm] at h; cases h

theorem getRel_view (e : Env) (x : Seq) :
    (do let r ← Gen.Wrap.getRel e x; pure r.2 : Except Err (List Msg)) = (·.2) <$> x.readRel := by
  rw [getRel_eq]; cases x.readRel <;> rfl

theorem getAbs_view (e : Env) (x : Seq) :
    (do let r ← Gen.Wrap.getAbs e x; pure r.2 : Except Err (List Msg)) = (·.2) <$> x.readAbs := by
  rw [getAbs_eq]; cases x.readAbs <;> rfl

/-- `concatenate(sequences)`: the receiver's relative view is read first, then every argument's; the model's
    `concatSeq` receives the arguments' relative views -/
theorem concatenate_eq (e : Env) (s : Seq) (others : List Seq) :
    Gen.Wrap.concatenate e s others =
      (do let p ← s.readRel; let rels ← readRels others; unit (p.1.concatSeq rels)) := by
  simp only [Gen.Wrap.concatenate, viaRel, getRel_view]
  refine readRel_congr s _ _ fun s' hs => ?_
  simp only [readRels, Seq.concatSeq, Seq.onRel, readRel_fresh s' hs]
  cases List.mapM (fun x => (fun x => x.snd) <$> x.readRel) others <;> rfl

/-- `merge(sequences)`: receiver's absolute view, every argument's absolute view, then `normalise()` -/
theorem merge_eq (e : Env) (s : Seq) (others : List Seq) :
    Gen.Wrap.merge e s others =
      (do let p ← s.readAbs; let abss ← readAbss others; unit (p.1.mergeSeq abss)) := by
  simp only [Gen.Wrap.merge, viaAbs, getAbs_view, normalise_eq]
  refine readAbs_congr s _ _ fun s' hs => ?_
  simp only [readAbss, Seq.mergeSeq, Seq.onAbs, readAbs_fresh s' hs]
  cases List.mapM (fun x => (fun x => x.snd) <$> x.readAbs) others with
  | error x => rfl
  | ok abss =>
    simp only [ok_bind, View.abs_merge, invalidateRel_eq, unit_bind]
    cases Seq.normaliseSeq _ <;> rfl

/-- `concatSeq` / `mergeSeq` begin with the read of the receiver's view themselves: reading it first changes nothing -/
theorem concat_readRel (s : Seq) (o : List (List Msg)) :
    (do let p ← s.readRel; unit (p.1.concatSeq o)) = unit (s.concatSeq o) := by
  obtain ⟨a, r, sa, sr⟩ := s
  cases sa <;> cases sr <;> rfl

theorem merge_readAbs (s : Seq) (o : List (List Msg)) :
    (do let p ← s.readAbs; unit (p.1.mergeSeq o)) = unit (s.mergeSeq o) := by
  obtain ⟨a, r, sa, sr⟩ := s
  cases sa <;> cases sr <;> rfl

theorem getSequenceDuration_eq (e : Env) (s : Seq) :
    Gen.Wrap.getSequenceDuration e s = (do let p ← s.readAbs; let d ← absDuration p.2; pure (p.1, d)) := by
  simp only [Gen.Wrap.getSequenceDuration, viaAbs]
  refine readAbs_congr s _ _ fun s' _ => ?_
  simp only [View.abs_get_sequence_duration]
  cases absDuration s'.abs <;> rfl

theorem isEmpty_eq (e : Env) (s : Seq) :
    Gen.Wrap.isEmpty e s = (do let p ← s.readRel; pure (p.1, !(p.2.any (·.ty == .noteOn)))) := by
  simp only [Gen.Wrap.isEmpty, viaRel]
  exact readRel_congr s _ _ fun s' _ => rfl

/-- `Sequence.is_channel_consistent`: the absolute view is read (regenerated if stale) and every channel compared with the first -/
theorem isChannelConsistent_eq (e : Env) (s : Seq) :
    Gen.Wrap.isChannelConsistent e s =
      (do let p ← s.readAbs; pure (p.1, p.2.all (fun m => m.ch == (p.2.headD default).ch))) := by
  simp only [Gen.Wrap.isChannelConsistent, viaAbs]
  exact readAbs_congr s _ _ fun s' _ => rfl

/-- `Sequence.get_sequence_channel`: the first channel of the absolute view if all agree; `SequenceException` / `IndexError` otherwise -/
theorem getSequenceChannel_eq (e : Env) (s : Seq) :
    Gen.Wrap.getSequenceChannel e s =
      (do let p ← s.readAbs
          if p.2.all (fun m => m.ch == (p.2.headD default).ch) then
            (match p.2.head? with | some m => pure (p.1, m.ch) | none => throw .indexError)
          else throw .sequenceError) := by
  simp only [Gen.Wrap.getSequenceChannel, viaAbs]
  refine readAbs_congr s _ _ fun s' _ => ?_
  simp only [View.abs_get_sequence_channel]
  split
  · cases s'.abs.head? <;> rfl
  · rfl

/-- every method the translator is asked for is covered by a theorem of this file (tripwire: a method added to
    the translator's list without an equality theorem fails here) -/
theorem translated_covered :
    Gen.Wrap.translated = ["invalidate_abs", "invalidate_rel", "abs", "rel", "refresh", "copy", "add_absolute_message",
      "add_relative_message", "normalise", "concatenate", "cutoff", "merge", "messages_abs", "messages_rel",
      "overwrite_absolute_messages", "overwrite_relative_messages", "pad", "set_channel", "split", "quantise",
      "quantise_note_lengths", "quantise_and_normalise", "scale", "transpose", "get_sequence_duration", "is_empty", "equals",
      "get_sequence_channel", "is_channel_consistent", "__eq__"] := rfl

/-- **`Sequence.equals`**: both absolute views are read (regenerating them if stale), the flags are handed on in the order of the
    signature, the receiver's view ends up sorted in place — the model's `equalsSeq` -/
theorem equals_eq (e : Env) (s t : Seq) (ic its iks iv : Bool) :
    Gen.Wrap.equals e s t ic its iks iv =
      (fun r => (r.1, r.2.2)) <$> Seq.equalsSeq e { ignoreCh := ic, ignoreTs := its, ignoreKs := iks, ignoreVel := iv } s t := by
  simp only [Gen.Wrap.equals, viaAbs]
  simp only [Seq.equalsSeq, getAbs_eq, map_eq_pure_bind, bind_assoc]
  refine readAbs_congr s _ _ fun s' _ => ?_
  cases t.readAbs <;> rfl

/-- the default arguments of the translated and linked methods, as a tripwire: the generated functions take every parameter explicitly, the
    call sites inside the library fill in these defaults (the translator does that from the source), and a caller's `seq.scale(2)` means
    what this table says.  A changed default changes the regenerated table and breaks this theorem. -/
theorem defaults_pinned :
    Gen.Wrap.defaults = ["RelativeSequence.add_message(index=None)", "RelativeSequence.scale(meta_sequence=None)", "AbsoluteSequence.quantise(step_sizes=None)", "AbsoluteSequence.quantise_note_lengths(note_values=None)", "AbsoluteSequence.quantise_note_lengths(standard_length=PPQN)", "AbsoluteSequence.quantise_note_lengths(do_not_extend=False)", "AbsoluteSequence.equals(ignore_channel=False)", "AbsoluteSequence.equals(ignore_time_signature=False)", "AbsoluteSequence.equals(ignore_key_signature=False)", "AbsoluteSequence.equals(ignore_velocity=False)", "Sequence.add_relative_message(index=None)", "Sequence.quantise(step_sizes=None)", "Sequence.quantise_note_lengths(note_values=None)", "Sequence.quantise_note_lengths(standard_length=PPQN)", "Sequence.quantise_note_lengths(do_not_extend=False)", "Sequence.quantise_and_normalise(step_sizes=None)", "Sequence.quantise_and_normalise(note_values=None)", "Sequence.quantise_and_normalise(standard_length=PPQN)", "Sequence.quantise_and_normalise(do_not_extend=False)", "Sequence.scale(meta_sequence=None)", "Sequence.scale(quantise_afterwards=True)", "Sequence.equals(ignore_channel=False)", "Sequence.equals(ignore_time_signature=False)", "Sequence.equals(ignore_key_signature=False)", "Sequence.equals(ignore_velocity=False)"] := rfl

/-- `MessageType` in source order is the order the models sort by (`MType.rank`): swapping two members of the Python enum changes the
    regenerated list and breaks this theorem -/
theorem message_type_order : Gen.messageTypeOrder = MType.names := rfl

/-- **`Sequence.__eq__`** (`a == b` on two sequences): exactly `equals` with every ignore flag `False` — same state, same verdict, same
    error (audit round 3, O1: `==` had no theorem) -/
theorem eqDunder_eq (e : Env) (s t : Seq) :
    Gen.Wrap.eqDunder e s t = Gen.Wrap.equals e s t false false false false := by
  unfold Gen.Wrap.eqDunder Gen.Wrap.equals View.abs___eq__
  rfl

end SCoda.WrapTie
