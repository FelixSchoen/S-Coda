/-
  C06 — note-length quantisation yields only allowed durations and never moves onsets.
  `quantiseNoteLengths values stdLen dne a` models `AbsoluteSequence.quantise_note_lengths`:
  sort, pair the notes per channel (`pairingsSorted`), treat every pairing `[on, off]` locally
  (`qnlChannel`), rebuild the list from the pairings plus the non-note messages, sort.
-/
import SCoda.Model.Quantise
import SCoda.Model.Roll
import SCoda.Lemmas.NoteLengths
namespace SCoda.C06
open SCoda

/-- the allowed durations that fit a note starting at `onT` and ending at `offT` whose key's next note
    starts at `nextOn`: not past the next onset, and (with `dne`, "do not extend") not longer than the note -/
def fits (dne : Bool) (onT offT : Int) (nextOn : Option Int) (x : Int) : Prop :=
  (∀ nt ∈ nextOn, onT + x ≤ nt) ∧ (dne = true → x ≤ offT - onT)

/-- the two filters of `quantise_note_lengths` (the two loops that `remove` from `valid_durations`, with Python's `list.remove`
    semantics on duplicates) keep exactly the allowed values that fit -/
theorem validDurations_spec (values : List Int) (dne : Bool) (onT offT : Int) (nextOn : Option Int) (x : Int) :
    x ∈ validDurations values dne onT offT nextOn ↔ x ∈ values ∧ fits dne onT offT nextOn x := by
  unfold fits
  exact NL.mem_validDurations values dne onT offT nextOn x

theorem nearest_spec (t : Int) (valid : List Int) (h : valid ≠ []) :
    ∃ v, nearest t valid = .ok v ∧ v ∈ valid ∧ ∀ w ∈ valid, (v - t).natAbs ≤ (w - t).natAbs :=
  NL.nearest_spec t valid h

def TwoEl (ps : List Pairing) : Prop := ∀ p ∈ ps, ∃ on off, p = [on, off]

/-- **the local rule** for one channel: same number of pairings out as in; pairing `i` is either removed
    (`[]`) — exactly when no allowed duration fits — or keeps its note-on untouched and gets a note-off
    whose distance to the note-on is an allowed duration that fits and is closest to the original duration -/
theorem qnlChannel_spec (values : List Int) (dne : Bool) (ps : List Pairing) (h2 : TwoEl ps) :
    ∃ out, qnlChannel values dne ps = .ok out ∧ out.length = ps.length
      ∧ ∀ i on off, ps[i]? = some [on, off] →
          let nx := nextOnset ps i on.note
          let cur := off.time - on.time
          (out[i]? = some [] ∧ ∀ x ∈ values, ¬ fits dne on.time off.time nx x)
          ∨ (∃ x, out[i]? = some [on, { off with time := on.time + x }] ∧ x ∈ values ∧ fits dne on.time off.time nx x
               ∧ ∀ y ∈ values, fits dne on.time off.time nx y → (x - cur).natAbs ≤ (y - cur).natAbs) := by
  refine ⟨_, NL.qnlChannel_eq values dne ps h2, by simp, ?_⟩
  intro i on off hi
  have hout : (ps.zipIdx.map (NL.stepOne values dne ps))[i]? = some (NL.stepOne values dne ps ([on, off], i)) := by
    simp [List.getElem?_zipIdx, hi]
  have hspec := NL.chosenAt_spec values dne (nextOnset ps i on.note) on.time off.time
  simp only [hout, NL.stepOne_eq]
  cases hc : NL.chosenAt values dne (nextOnset ps i on.note) on.time off.time with
  | none => exact Or.inl ⟨rfl, fun x hx hf => (hspec.1.1 hc) x ⟨hx, hf⟩⟩
  | some x =>
    obtain ⟨h1, h2⟩ := hspec.2 x hc
    exact Or.inr ⟨x, rfl, h1.1, h1.2, fun y hy hf => h2 y ⟨hy, hf⟩⟩

/-- the note pairings of any list are two-element pairings (imputation closes every note-on) -/
theorem pairings_twoEl (stdLen : Int) (a : List Msg) :
    ∀ c ∈ pairingsSorted notePairTypes stdLen true a, TwoEl c.2 := by
  intro c hc p hp
  obtain ⟨on, off, h, _⟩ := NL.pairings_good stdLen a c hc p hp
  exact ⟨on, off, h⟩

theorem total (values : List Int) (stdLen : Int) (dne : Bool) (a : List Msg) :
    ∃ out, quantiseNoteLengths values stdLen dne a = .ok out :=
  ⟨_, NL.quantise_eq values stdLen dne a⟩

private theorem mem_notes (values : List Int) (stdLen : Int) (dne : Bool) (a : List Msg) (m : Msg)
    (hm : m ∈ (pairingsSorted notePairTypes stdLen true (sortAbs a)).flatMap (NL.chanOut values dne)) :
    ∃ (on off : Msg) (x : Int), x ∈ values ∧ on.ty = .noteOn ∧ off.ty = .noteOff ∧ off.nkey = on.nkey ∧ on ∈ a
      ∧ on ∈ (pairingsSorted notePairTypes stdLen true (sortAbs a)).flatMap (NL.chanOut values dne)
      ∧ (m = on ∨ m = { off with time := on.time + x }) := by
  obtain ⟨c, hc, hmc⟩ := List.mem_flatMap.1 hm
  obtain ⟨on, off, x, h1, h2, h3, h4, h5, h6, h7⟩ :=
    NL.mem_chanOut values dne (sortAbs a) c (NL.pairings_good stdLen (sortAbs a) c hc) m hmc
  exact ⟨on, off, x, h1, h2, h3, h4, (mem_sortAbs a on).1 h5, List.mem_flatMap.2 ⟨c, hc, h6⟩, h7⟩

theorem out_eq (values : List Int) (stdLen : Int) (dne : Bool) (a out : List Msg)
    (h : quantiseNoteLengths values stdLen dne a = .ok out) :
    out = sortAbs ((pairingsSorted notePairTypes stdLen true (sortAbs a)).flatMap (NL.chanOut values dne)
        ++ (sortAbs a).filter (fun m => m.ty != .noteOn && m.ty != .noteOff)) := by
  rw [NL.quantise_eq] at h
  exact (Except.ok.inj h).symm

theorem others_same (values : List Int) (stdLen : Int) (dne : Bool) (a out : List Msg)
    (h : quantiseNoteLengths values stdLen dne a = .ok out) :
    (nonNotes out).Perm (nonNotes a) := by
  rw [out_eq values stdLen dne a out h]
  unfold nonNotes
  refine ((sortAbs_perm _).filter _).trans ?_
  rw [List.filter_append, List.filter_filter]
  have h0 : List.filter (fun m => m.ty != .noteOn && m.ty != .noteOff)
      ((pairingsSorted notePairTypes stdLen true (sortAbs a)).flatMap (NL.chanOut values dne)) = [] := by
    rw [List.filter_eq_nil_iff]
    intro m hm
    obtain ⟨on, off, x, _, h2, h3, _, _, _, h7⟩ := mem_notes values stdLen dne a m hm
    rcases h7 with rfl | rfl
    · simp [h2]
    · simp [h3]
  rw [h0, List.nil_append]
  simp only [Bool.and_self]
  exact (sortAbs_perm a).filter _

/-- onsets are never moved and no note-on is invented: every note-on of the result is a note-on of
    the input, unchanged (pitch, channel, velocity, time) -/
theorem onsets_kept (values : List Int) (stdLen : Int) (dne : Bool) (a out : List Msg)
    (h : quantiseNoteLengths values stdLen dne a = .ok out) :
    ∀ m ∈ out, m.ty = .noteOn → m ∈ a := by
  rw [out_eq values stdLen dne a out h]
  intro m hm hty
  rcases List.mem_append.1 ((mem_sortAbs _ m).1 hm) with hm | hm
  · obtain ⟨on, off, x, _, _, h3, _, h5, _, h7⟩ := mem_notes values stdLen dne a m hm
    rcases h7 with rfl | rfl
    · exact h5
    · simp [h3] at hty
  · simp [hty] at hm

/-- every note-off of the result stands at an allowed distance after a note-on of its channel and pitch in the result (after its
    own note-on: `qnl_durations` in Props/C06b.lean) -/
theorem durations (values : List Int) (stdLen : Int) (dne : Bool) (a out : List Msg)
    (h : quantiseNoteLengths values stdLen dne a = .ok out) :
    ∀ m ∈ out, m.ty = .noteOff → ∃ on ∈ out, on.ty = .noteOn ∧ on.nkey = m.nkey ∧ (m.time - on.time) ∈ values := by
  rw [out_eq values stdLen dne a out h]
  intro m hm hty
  rcases List.mem_append.1 ((mem_sortAbs _ m).1 hm) with hm | hm
  · obtain ⟨on, off, x, h1, h2, h3, h4, _, h6, h7⟩ := mem_notes values stdLen dne a m hm
    rcases h7 with rfl | rfl
    · rw [h2] at hty; cases hty
    · refine ⟨on, (mem_sortAbs _ on).2 (List.mem_append_left _ h6), h2, ?_, ?_⟩
      · rw [← h4]; rfl
      · have : on.time + x - on.time = x := by omega
        simpa [this] using h1
  · simp [hty] at hm

/-- `quantise_note_lengths` keeps the ticks non-negative and invents no wait: a note-on is an input note-on, a note-off
    lies an allowed (non-negative) duration after one, everything else is an input message -/
theorem out_bounds (values : List Int) (hv : ∀ v ∈ values, 0 ≤ v) (stdLen : Int) (dne : Bool) (a out : List Msg)
    (ha : ∀ m ∈ a, 0 ≤ m.time ∧ m.ty ≠ .wait) (hq : quantiseNoteLengths values stdLen dne a = .ok out) :
    ∀ m ∈ out, 0 ≤ m.time ∧ m.ty ≠ .wait := by
  intro m hm
  by_cases hon : m.ty = .noteOn
  · exact ⟨(ha m (onsets_kept values stdLen dne a out hq m hm hon)).1, by rw [hon]; simp⟩
  · by_cases hoff : m.ty = .noteOff
    · obtain ⟨on, hon', hty, _, hd⟩ := durations values stdLen dne a out hq m hm hoff
      have h1 := (ha on (onsets_kept values stdLen dne a out hq on hon' hty)).1
      have h2 := hv _ hd
      exact ⟨by omega, by rw [hoff]; simp⟩
    · have : m ∈ nonNotes out := by
        simp only [nonNotes, List.mem_filter, Bool.and_eq_true, bne_iff_ne, ne_eq]
        exact ⟨hm, hon, hoff⟩
      exact ha m (List.mem_filter.1 ((others_same values stdLen dne a out hq).mem_iff.1 this)).1

theorem sorted_out (values : List Int) (stdLen : Int) (dne : Bool) (a out : List Msg)
    (h : quantiseNoteLengths values stdLen dne a = .ok out) : TimeSorted out := by
  rw [out_eq values stdLen dne a out h]
  exact sortAbs_timeSorted _

def ex : List Msg := [Msg.mkOn 0 60 64 0, Msg.mkOff 0 60 10, Msg.mkOn 0 60 70 12, Msg.mkOff 0 60 40, Msg.mkInternal 0 48]
example : quantiseNoteLengths [6, 12, 24] 24 false ex =
    .ok [Msg.mkOn 0 60 64 0, Msg.mkOff 0 60 12, Msg.mkOn 0 60 70 12, Msg.mkOff 0 60 36, Msg.mkInternal 0 48] := by
  rfl
example : quantiseNoteLengths [24] 24 true ex = .ok [Msg.mkOn 0 60 70 12, Msg.mkOff 0 60 36, Msg.mkInternal 0 48] := by
  rfl

end SCoda.C06
