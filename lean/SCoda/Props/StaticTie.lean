/-
  Tie between the *generated* translation of the static / file-level layer (Gen/StaticFns.lean, re-read from
  scoda/sequences/sequence.py and scoda/midi/*.py on every run by tools/py2lean_static.py) and the hand models
  `splitBars` (Model/Bar.lean), `parseMido` / `parseTrack` (Model/MidiParse.lean), `convert` (Model/Midi.lean) that the
  C09 / C03 / C10 and C12 / C13 theorems are about and that the driver executes.

  The translation runs on top of the translated `Sequence` wrapper and the translated `Bar.__init__`; the equalities of
  Props/WrapTie.lean and Props/ElemTie.lean are used to compute through them.
-/
import SCoda.Lemmas.ConvertTieL
import SCoda.Model.BarOps
namespace SCoda.StaticTie
open SCoda SCoda.WrapTie SCoda.StaticTieL SCoda.SB SCoda.ElemTie

/-- **`Sequence.sequences_split_bars(sequences, meta_track_index, quantise_note_lengths)` as translated from sequence.py is
    the hand model `splitBars` on the relative views of the inputs**: same exception, or the same bars track by track (a
    translated bar is compared through `GBar.toBar`: relative view of its sequence, numerator, denominator, key).  All
    inputs, every wrapper state, both settings of the flag, any meta index (out of range: IndexError on both sides), the
    stated fuel of the `while` loop included (the translated loop and `splitBarsGo` run out of fuel together).
    Hypotheses (each replayed on the real code at an excluded point, see the report):
    `hread` no input has both views stale (C04's invariant; the code would copy such a sequence to an empty one, the model
    raises); `hmeta` the absolute view of the *meta* sequence, where fresh, is the conversion of its relative view (the code
    reads the signatures from the fresh absolute view of the copy, the model from `toAbs` of the relative view);
    `hsig` time signatures on the meta track have numerator ≥ 0 and denominator > 0 and `hp` PPQN ≥ 0: the domain on which
    Python's `int(PPQN * (n / (d / 4)))` and `int(n * PPQN / (d / 4))` are the model's integer `n * PPQN * 4 / d` (audit A15).
    Removes the link `sequences_split_bars ↦ splitBars` from the assumptions (DESIGN §9.2c). -/
theorem sequencesSplitBars_eq (e : Env) (seqs : List Seq) (mi : Nat) (rq : Bool) (hp : 0 ≤ e.ppqn)
    (hread : ∀ s ∈ seqs, Readable s)
    (hmeta : ∀ s, seqs[mi]? = some s → AbsCoherent s)
    (hsig : ∀ s p, seqs[mi]? = some s → s.readRel = .ok p → ∀ m ∈ p.2, m.ty = .timeSignature → 0 ≤ m.num ∧ 0 < m.den) :
    (fun tb => tb.map (·.map GBar.toBar)) <$> Gen.Static.sequencesSplitBars e seqs mi rq =
      (do let rels ← readRels seqs
          splitBars e.ppqn e.defValues rels mi rq) :=
  (R6L.sequencesSplitBars_spec e seqs mi rq hp hread (fun s hs => R6L.AbsCoherentSigs_of_AbsCoherent s (hmeta s hs)) hsig).1

/-- the link `View.seq_split_bars` used by the element-layer translation (`Composition.from_sequences`) is the translated
    function up to the stale absolute view of every bar's sequence -/
theorem seq_split_bars_link (e : Env) (seqs : List Seq) (mi : Nat) (rq : Bool) (hp : 0 ≤ e.ppqn)
    (hread : ∀ s ∈ seqs, Readable s) (hmeta : ∀ s, seqs[mi]? = some s → AbsCoherent s)
    (hsig : ∀ s p, seqs[mi]? = some s → s.readRel = .ok p → ∀ m ∈ p.2, m.ty = .timeSignature → 0 ≤ m.num ∧ 0 < m.den) :
    View.seq_split_bars e seqs mi rq =
      (fun tb => tb.map (·.map (fun g => GBar.ofBar g.toBar))) <$> Gen.Static.sequencesSplitBars e seqs mi rq :=
  R6L.seq_split_bars_link_of_eq e seqs mi rq (sequencesSplitBars_eq e seqs mi rq hp hread hmeta hsig)

/-- every bar the translated `sequences_split_bars` returns is in the state `Bar.__init__` leaves it in: relative view fresh,
    absolute view stale — so `GBar.toBar` forgets nothing that can be observed -/
theorem sequencesSplitBars_constructed (e : Env) (seqs : List Seq) (mi : Nat) (rq : Bool) (hp : 0 ≤ e.ppqn)
    (hread : ∀ s ∈ seqs, Readable s)
    (hmeta : ∀ s, seqs[mi]? = some s → AbsCoherent s)
    (hsig : ∀ s p, seqs[mi]? = some s → s.readRel = .ok p → ∀ m ∈ p.2, m.ty = .timeSignature → 0 ≤ m.num ∧ 0 < m.den)
    (tb : List (List GBar)) (h : Gen.Static.sequencesSplitBars e seqs mi rq = .ok tb) :
    ∀ bars ∈ tb, ∀ g ∈ bars, g.sequence.absStale = true ∧ g.sequence.relStale = false :=
  (R6L.sequencesSplitBars_spec e seqs mi rq hp hread (fun s hs => R6L.AbsCoherentSigs_of_AbsCoherent s (hmeta s hs)) hsig).2 tb h

/-- inputs given by their relative views (`Sequence(relative_sequence=…)`): no hypothesis on the wrapper states is left -/
theorem sequencesSplitBars_ofRel (e : Env) (rels : List (List Msg)) (mi : Nat) (rq : Bool) (hp : 0 ≤ e.ppqn)
    (hsig : ∀ r, rels[mi]? = some r → ∀ m ∈ r, m.ty = .timeSignature → 0 ≤ m.num ∧ 0 < m.den) :
    (fun tb => tb.map (·.map GBar.toBar)) <$> Gen.Static.sequencesSplitBars e (rels.map Seq.ofRel) mi rq =
      splitBars e.ppqn e.defValues rels mi rq := by
  have hread : ∀ s ∈ rels.map Seq.ofRel, Readable s := by
    intro s hs; obtain ⟨r, _, rfl⟩ := List.mem_map.mp hs; simp [Readable, Seq.ofRel]
  have hmem : ∀ s, (rels.map Seq.ofRel)[mi]? = some s → ∃ r, rels[mi]? = some r ∧ s = Seq.ofRel r := by
    intro s hs
    rw [List.getElem?_map] at hs
    cases hr : rels[mi]? with
    | none => rw [hr] at hs; cases hs
    | some r => rw [hr] at hs; exact ⟨r, rfl, (Option.some.inj hs).symm⟩
  have h := (R6L.sequencesSplitBars_spec e (rels.map Seq.ofRel) mi rq hp hread
    (fun s hs => by obtain ⟨r, _, rfl⟩ := hmem s hs; exact R6L.AbsCoherentSigs_of_absStale _ rfl)
    (fun s p hs hpp m hm => by obtain ⟨r, hr, rfl⟩ := hmem s hs; cases hpp; exact hsig r hr m hm)).1
  rwa [readRels_relView _ hread, List.map_map, show WrapperL.relView ∘ Seq.ofRel = id from rfl, List.map_id] at h

/-! non-vacuity: a 3/4 piece of 120 ticks on the meta track and a second track; all hypotheses hold, the conclusion is
    evaluated by the kernel -/
def exMeta : List Msg := [Msg.mkTimeSig 0 3 4 pyNone, Msg.mkOn 0 60 90 pyNone, Msg.mkWait 0 100, Msg.mkOff 0 60 pyNone, Msg.mkWait 0 20]
def exOther : List Msg := [Msg.mkOn 1 64 80 pyNone, Msg.mkWait 1 30, Msg.mkOff 1 64 pyNone]

example : (0 ≤ genEnv.ppqn) ∧ (∀ r, [exMeta, exOther][0]? = some r → ∀ m ∈ r, m.ty = .timeSignature → 0 ≤ m.num ∧ 0 < m.den) := by
  refine ⟨by decide, ?_⟩
  intro r hr
  simp only [List.getElem?_cons_zero, Option.some.injEq] at hr
  subst hr
  decide +kernel

set_option maxRecDepth 100000 in
example : (fun tb => tb.map (·.map GBar.toBar)) <$> Gen.Static.sequencesSplitBars genEnv [Seq.ofRel exMeta, Seq.ofRel exOther] 0 true
    = splitBars genEnv.ppqn genEnv.defValues [exMeta, exOther] 0 true := by decide +kernel

set_option maxRecDepth 100000 in
example : ((fun tb => tb.map (·.map (fun (b : Bar) => (b.num, b.den, totalWait b.seq)))) <$>
      splitBars genEnv.ppqn genEnv.defValues [exMeta, exOther] 0 true)
    = .ok [[(3, 4, 72), (3, 4, 72)], [(3, 4, 72), (3, 4, 72)]] := by decide +kernel

/-- **`MidiMessage.parse_mido_message(mido_message)` as translated from midi_message.py is the hand model `parseMido`**, for
    every mido message (every kind, with or without a channel attribute, any key name: `KeyError` on both sides when the
    name is not in `MusicMapping.KeyKeyMapping`).  No hypothesis.  Ties the model of Model/MidiParse.lean (which the sampled
    correspondence check does not reach) to the source. -/
theorem parseMidoMessage_eq (e : Env) (m : MidoMsg) : Gen.Static.parseMidoMessage e m = parseMido m :=
  StaticTieL.parseMidoMessage_eq e m

/-- **`MidiTrack.parse_mido_track(mido_track)` as translated is `parseTrack`**: every message parsed in order, the first
    exception wins.  No hypothesis. -/
theorem parseMidoTrack_eq (e : Env) (t : List MidoMsg) : Gen.Static.parseMidoTrack e t = parseTrack t := by
  unfold Gen.Static.parseMidoTrack
  dsimp only
  rw [forIn_collectM (fun l (_ : Unit) => l) (Gen.Static.parseMidoTrack_loop1 e) parseMido ()
    (fun a acc => by simp only [Gen.Static.parseMidoTrack_loop1, parseMidoMessage_eq]), parseTrack_eq_mapM]
  cases t.mapM parseMido <;> rfl

example : Gen.Static.parseMidoMessage genEnv { type := .noteOn, time := 5, channel := some 2, note := 60, velocity := 0 }
    = .ok { ty := .noteOff, ch := 2, time := 5, note := 60, vel := 0 } := by decide +kernel
example : Gen.Static.parseMidoMessage genEnv { type := .keySignature, time := 0, key := "H" } = .error .keyError := by decide +kernel
example : Gen.Static.parseMidoTrack genEnv [{ type := .keySignature, key := "F#m" }, { type := .other, time := 7 }]
    = .ok [{ ty := .keySignature, ch := pyNone, time := 0, key := 3 }, { ty := .sequenceControl, ch := pyNone, time := 7 }] := by
  decide +kernel

/-- **`MidiFile.convert(track_indices, meta_track_indices, meta_track_index)` as translated from midi_file.py is the hand model
    `convert`** (Model/Midi.lean) on the file's tracks and resolution: same list of sequences (same views, same stale flags)
    or the same exception (`IndexError` for an empty group, `ValueError` for a meta index out of range), for every file, every
    grouping (a track listed twice reaches the first group only, tracks outside every group and every meta list are skipped),
    every meta list and every target index.  No hypothesis.  The running position is an exact rational on both sides (the
    translation accumulates `time * (PPQN / ticks_per_beat)`, the model rounds `ticks * PPQN / ticks_per_beat`); Python
    accumulates IEEE doubles — the idealisation recorded in DESIGN §5 / §9.3b (`ticks_per_beat = 0`: Python raises
    ZeroDivisionError, both Lean sides divide totally).  `current_sequence` is a reference local (`PRef`): the proof shows it
    always names `sequences[g][k]` or `meta_sequence` where it is used (no AttributeError / StopIteration / ValueError of
    `list.index` is ever raised).  Removes the link "`MidiFile.convert` ↦ `convert`, tied by sampling only" (DESIGN §9.2c). -/
theorem convert_eq (e : Env) (f : GMidiFile) (groups : List (List Nat)) (metaIdx : List Nat) (target : Int) :
    (·.2) <$> Gen.Static.convert e f groups metaIdx target = SCoda.convert e.ppqn f.ppqn f.tracks groups metaIdx target := by
  rw [MidiL.convert_eq]
  unfold Gen.Static.convert
  have h1 := tracks_loop e f.ppqn groups metaIdx f.tracks.zipIdx
    { seqs := groups.map (fun g => g.map (fun _ => Seq.new)) } (by simp)
  simp only [dcOf, Option.getD_none] at h1
  simp only [h1]
  cases hs : foldlM' (convTrack e.ppqn f.ppqn groups metaIdx) { seqs := groups.map (fun g => g.map (fun _ => Seq.new)) } f.tracks.zipIdx with
  | error x => rfl
  | ok s =>
    have hdc := fold_convTrack_dc _ _ _ _ _ _ _ hs (by simp)
    simp only [Except.map, ok_bind, loop3_eq]
    rw [MidiL.groups_fold, ← mapM_map]
    cases hl : s.seqs.mapM MidiL.groupSlot with
    | error x => rfl
    | ok os =>
      simp only [ok_bind, pure_bind, map_ok, Except.map, List.nil_append]
      generalize os.map (·.2) = merged
      unfold MidiL.finish
      by_cases hb : (decide (0 > target) || decide (target ≥ (merged.length : Int))) = true
      · rw [if_pos hb, if_pos hb]
        rfl
      · have h0 : 0 ≤ target := by simp only [Bool.or_eq_true, decide_eq_true_eq] at hb; omega
        have hl' : target < merged.length := by simp only [Bool.or_eq_true, decide_eq_true_eq] at hb; omega
        rw [if_neg hb, if_neg hb]
        have hi : target.toNat < merged.length := by omega
        have hget : merged[target.toNat]? = some merged[target.toNat] := List.getElem?_eq_getElem hi
        simp only [pyGetInt_nat _ _ h0, pySetInt_nat _ _ _ h0, pyGetNat, hget, ok_bind, merge_model, unit_bind, readAbss, List.mapM_cons,
          List.mapM_nil, pySetNat, hi, if_true, List.length_set, List.getElem?_set_self hi, getMessageTimesOfType_eq, addAbs_eq,
          List.set_set, pure_eq]
        cases s.metaSeq.readAbs with
        | error x => rfl
        | ok pm =>
          simp only [map_ok, ok_bind]
          cases (merged[target.toNat]).mergeSeq [pm.2] with
          | error x => rfl
          | ok mt =>
            simp only [ok_bind]
            cases mt.readAbs with
            | error x => rfl
            | ok pa =>
              simp only [ok_bind, filter_ty]
              have hany : ((qOf (timesOfType MType.timeSignature pa.2)).map (fun t : Int × Msg => decide (t.1 = 0))).any id =
                  (timesOfType MType.timeSignature pa.2).any (fun m => m.time == 0) := by
                simp only [qOf, List.any_map, List.map_map, Function.comp_def, id]
                congr 1
              have hch : (if s.defCh.getD pyNone = pyNone then (0 : Int) else s.defCh.getD pyNone) = s.defCh.getD 0 := by
                cases hd : s.defCh with
                | none => rfl
                | some c =>
                  have : c ≠ pyNone := fun h => hdc (by rw [hd, h])
                  simp [this]
              rw [hany, hch]
              simp only [Msg.mkTimeSig, ← set_eq_modifyAt]
              cases ((timesOfType MType.timeSignature pa.2).any fun m => m.time == 0) with
              | true => rfl
              | false =>
                simp only [Bool.not_false, if_true, Bool.false_eq_true, if_false]
                cases pa.1.addAbsMsg _ <;> rfl


/-- `MidiFile()`: no tracks, the library resolution -/
theorem midiFileInit_eq (e : Env) : Gen.Static.midiFileInit e = .ok { tracks := [], ppqn := e.ppqn } := rfl

/-- `MidiFile.parse_mido(mido_file)`: resolution taken over, every track parsed and appended -/
theorem parseMido_eq (e : Env) (f : GMidiFile) (mf : MidoFile) :
    Gen.Static.parseMido e f mf =
      (mf.tracks.mapM parseTrack).map (fun ts => ({ tracks := f.tracks ++ ts, ppqn := mf.ticksPerBeat }, ())) := by
  unfold Gen.Static.parseMido
  dsimp only
  rw [forIn_collectM (fun ts (ppqn : Int) => ({ tracks := ts, ppqn := ppqn } : GMidiFile)) (Gen.Static.parseMido_loop1 e) parseTrack
    mf.ticksPerBeat (fun a acc => by simp only [Gen.Static.parseMido_loop1, parseMidoTrack_eq])]
  cases mf.tracks.mapM parseTrack <;> rfl

/-- `MidiFile.open(path)`: a new file object filled by the parser from what `mido` read -/
theorem midiFileOpen_eq (e : Env) (mf : MidoFile) :
    Gen.Static.midiFileOpen e (some mf) = (mf.tracks.mapM parseTrack).map (fun ts => { tracks := ts, ppqn := mf.ticksPerBeat }) := by
  unfold Gen.Static.midiFileOpen
  simp only [midiFileInit_eq, ok_bind, View.mido_open, Option.getD_some, parseMido_eq]
  cases mf.tracks.mapM parseTrack <;> simp [Except.map]

/-- **`Sequence.sequences_load(midi_file=f, track_indices, meta_track_indices, target)` as translated**: the defaults are one
    group per track and every track a meta track, then `convert` (the shape `C13.saveLoad` assumes) -/
theorem sequencesLoad_eq (e : Env) (path : Option MidoFile) (f : GMidiFile) (groups : Option (List (List Nat))) (metaIdx : Option (List Nat))
    (target : Int) :
    Gen.Static.sequencesLoad e path (some f) groups metaIdx target =
      SCoda.convert e.ppqn f.ppqn f.tracks (groups.getD ((List.range f.tracks.length).map (fun i => [i])))
        (metaIdx.getD (List.range f.tracks.length)) target := by
  have hz1 : f.tracks.zipIdx.map (fun p => [p.2]) = (List.range f.tracks.length).map (fun i => [i]) := by
    rw [List.range_eq_range', ← List.zipIdx_map_snd 0 f.tracks, List.map_map]; rfl
  have hz2 : f.tracks.zipIdx.map (fun p => p.2) = List.range f.tracks.length := by
    rw [List.range_eq_range', ← List.zipIdx_map_snd 0 f.tracks]
  unfold Gen.Static.sequencesLoad
  rw [← convert_eq]
  cases groups <;> cases metaIdx <;> simp only [pyUnwrap, ok_bind, pure_eq, hz1, hz2, Option.getD] <;>
    (cases Gen.Static.convert e f _ _ target <;> rfl)

/-- **`Sequence.sequences_load(file_path=path, …)` as translated**: the file is parsed message by message (`parseMido` /
    `parseTrack`, the first unknown key name raises `KeyError`), then loaded as above -/
theorem sequencesLoad_path_eq (e : Env) (mf : MidoFile) (groups : Option (List (List Nat))) (metaIdx : Option (List Nat)) (target : Int) :
    Gen.Static.sequencesLoad e (some mf) none groups metaIdx target =
      (do let ts ← mf.tracks.mapM parseTrack
          SCoda.convert e.ppqn mf.ticksPerBeat ts (groups.getD ((List.range ts.length).map (fun i => [i])))
            (metaIdx.getD (List.range ts.length)) target) := by
  have h := fun f => sequencesLoad_eq e (some mf) f groups metaIdx target
  unfold Gen.Static.sequencesLoad at h ⊢
  simp only [midiFileOpen_eq]
  cases hts : mf.tracks.mapM parseTrack with
  | error x => rfl
  | ok ts =>
    simp only [Except.map, ok_bind]
    exact h { tracks := ts, ppqn := mf.ticksPerBeat }

/-! non-vacuity: a two-track file at 480 ticks per beat, both tracks in one group; evaluated by the kernel -/
def exFile : GMidiFile :=
  { ppqn := 480,
    tracks := [[{ ty := .timeSignature, ch := pyNone, time := 0, num := 3, den := 4 }, { ty := .noteOn, ch := 2, time := 0, note := 60, vel := 90 },
                { ty := .noteOff, ch := 2, time := 470, note := 60, vel := 0 }],
               [{ ty := .sequenceControl, ch := pyNone, time := 5 }, { ty := .noteOn, ch := 1, time := 240, note := 64, vel := 70 },
                { ty := .noteOff, ch := 1, time := 240, note := 64, vel := 0 }]] }

set_option maxRecDepth 100000 in
example : (·.2) <$> Gen.Static.convert genEnv exFile [[0, 1]] [0] 0 = SCoda.convert 24 480 exFile.tracks [[0, 1]] [0] 0 := by decide +kernel

set_option maxRecDepth 100000 in
example : ((fun r => r.2.map (fun (s : Seq) => s.rel.map (fun m => (m.ty, m.ch, m.time, m.note)))) <$>
      Gen.Static.convert genEnv exFile [[0, 1]] [0] 0) =
    .ok [[(.timeSignature, 0, -1, -1), (.noteOn, 2, -1, 60), (.wait, 1, 12, -1), (.noteOn, 1, -1, 64), (.wait, 1, 12, -1),
          (.noteOff, 1, -1, 64), (.noteOff, 2, -1, 60)]] := by decide +kernel

/-- `Sequence.to_midi_track()`: the relative view is read (regenerated if stale) and handed over message by message -/
theorem toMidiTrack_eq (e : Env) (s : Seq) : Gen.Static.toMidiTrack e s = (do let p ← s.readRel; pure (p.1, p.2)) := by
  unfold Gen.Static.toMidiTrack
  simp only [getRel_eq, View.rel_to_midi_track]
  cases hr : s.readRel with
  | error x => rfl
  | ok p =>
    have := readRel_snd _ _ _ (show s.readRel = .ok (p.1, p.2) from hr)
    simp only [ok_bind, pure_eq]
    rw [this]

/-- **`Sequence.sequences_save(sequences, path)` as translated**: the returned `MidiFile` holds one track per sequence, the
    messages of its relative view, at the library resolution (the write to the file system is not modelled) -/
theorem sequencesSave_eq (e : Env) (seqs : List Seq) :
    Gen.Static.sequencesSave e seqs () = (do let rels ← readRels seqs; pure { tracks := rels, ppqn := e.ppqn }) := by
  unfold Gen.Static.sequencesSave
  simp only [midiFileInit_eq, ok_bind]
  rw [forIn_range_slots (fun xs ts => (xs, ({ tracks := ts, ppqn := e.ppqn } : GMidiFile))) (Gen.Static.sequencesSave_loop1 e)
    (fun s => s.readRel) (fun ts r => ts ++ [r])
    (fun xs ts i hi => by
      simp only [Gen.Static.sequencesSave_loop1, pyGetNat_lt _ _ hi, pySetNat_lt _ _ _ hi, ok_bind, toMidiTrack_eq, bind_assoc, pure_bind])
    seqs []]
  simp only [foldl_snoc_map fun r => r, List.map_id', List.nil_append, readRels, ← mapM_map]
  cases seqs.mapM Seq.readRel <;> rfl

/-- tripwire: the list of translated static functions; each has an equality theorem above (`get_message_times_of_type`:
    `StaticTieL.getMessageTimesOfType_eq`) -/
theorem translated_covered :
    Gen.Static.translated = ["Sequence.get_message_times_of_type", "Sequence.sequences_split_bars", "MidiMessage.parse_mido_message",
      "MidiTrack.parse_mido_track", "MidiFile.__init__", "MidiFile.parse_mido", "MidiFile.open", "MidiFile.convert",
      "Sequence.sequences_load", "Sequence.to_midi_track", "Sequence.sequences_save"] := rfl

end SCoda.StaticTie
