/-
  Pairing ↔ notes: on a sorted well-formed list the per-channel pairings computed by
  `get_message_pairings` are exactly the notes (`notesOf`, the specification-side reading),
  and three consequences that close clauses of C17, C18 and C14:
  * C17: `equals = true` implies equal notes and equal signatures (general sensitivity);
  * C18: cut-off at the level of notes;
  * C14: every note-on that `Sequence.transpose` returns is a note-on of the shifted list, with its pitch, channel and velocity.
-/
import SCoda.Model.Pairing
import SCoda.Model.Wrapper
import SCoda.Model.Roll
import SCoda.Lemmas.EqualsContent
import SCoda.Lemmas.CutoffNotes
import SCoda.Lemmas.WrapperL
namespace SCoda.Notes
open SCoda

/-- a two-element pairing read as a note; written out for the statements, it is `NotesL.toPair` then `NotesL.mkNote`
    (`toNote_eq`) -/
def toNote : Pairing → Option Note
  | [on, off] => some { ch := on.ch, pitch := on.note, on := on.time, off := off.time, vel := on.vel }
  | _ => Option.none

/-- all note pairings of all channels (`NotesL.allP` of the pairings, by `rfl`) -/
def notePairings (ppqn : Int) (a : List Msg) : List Pairing :=
  (pairings notePairTypes ppqn true a).flatMap (·.2)

theorem toNote_eq (p : Pairing) : toNote p = (NotesL.toPair p).map NotesL.mkNote := by
  unfold toNote NotesL.toPair
  split <;> simp [NotesL.mkNote]

/-- **pairing = notes**: if the sorted list is well-formed, the pairings are its notes (up to the
    order in which channels are listed), every pairing consists of two messages of the list (nothing
    is imputed), and within a pairing the note-off belongs to the note-on's channel and pitch -/
theorem pairings_notes (ppqn : Int) (a : List Msg) (hwf : WF (sortAbs a)) :
    ((notePairings ppqn a).filterMap toNote).Perm (notesOf (sortAbs a))
    ∧ ∀ p ∈ notePairings ppqn a, ∃ on off, p = [on, off] ∧ on ∈ a ∧ off ∈ a
        ∧ on.ty = .noteOn ∧ off.ty = .noteOff ∧ off.nkey = on.nkey := by
  obtain ⟨h1, -, h3⟩ := NotesL.pairingsSorted_sim notePairTypes rfl rfl ppqn (sortAbs a) hwf
  constructor
  · have e1 : (notePairings ppqn a).filterMap toNote
        = ((NotesL.allP (pairings notePairTypes ppqn true a)).filterMap NotesL.toPair).map NotesL.mkNote := by
      rw [List.map_filterMap]
      have : toNote = fun p => (NotesL.toPair p).map NotesL.mkNote := funext toNote_eq
      rw [this]
      rfl
    rw [e1, notesOf, NotesL.notesGo_eq]
    exact h1.map _
  · intro p hp
    simp only [notePairings, List.mem_flatMap] at hp
    obtain ⟨c, hc, hpc⟩ := hp
    rcases h3 c hc p hpc with ⟨on, off, rfl, g1, g2, g3, _, g5, g6⟩ | ⟨m, rfl, g1, g2, _⟩
    · exact ⟨on, off, rfl, (mem_sortAbs a on).1 g5, (mem_sortAbs a off).1 g6, g1, g2, g3⟩
    · -- a single message among note pairings: `NotesL.Closed` does not say that its type is a paired one, `NL.pairings_good` does
      obtain ⟨on, off, e, _⟩ := NL.pairings_good ppqn (sortAbs a) c hc _ hpc
      cases e

/-- the time signatures of a sequence, in canonical order, as (tick, numerator, denominator): `NotesBL.tsT (sortAbs a)` -/
def tsOf (a : List Msg) : List (Int × Int × Int) :=
  ((sortAbs a).filter (·.ty == .timeSignature)).map (fun m => (m.time, m.num, m.den))
/-- its key signatures as (tick, key): `NotesBL.ksT (sortAbs a)` -/
def ksOf (a : List Msg) : List (Int × Int) :=
  ((sortAbs a).filter (·.ty == .keySignature)).map (fun m => (m.time, m.key))

/-- **equals is sound**: two well-formed sequences that compare equal (no flags) have the same notes —
    channel, pitch, onset, end (hence duration) and velocity — and the same time and key signatures at
    the same ticks; so a difference in any of these makes `equals` fail.  For every flag set, with the channels of the
    signatures: `NotesB.equals_sound_all` -/
theorem equals_sound (ppqn : Int) (a b : List Msg) (ha : WF (sortAbs a)) (hb : WF (sortAbs b))
    (h : equalsAbs ppqn {} a b = true) :
    (notesOf (sortAbs a)).Perm (notesOf (sortAbs b))
    ∧ (tsOf a).Perm (tsOf b) ∧ (ksOf a).Perm (ksOf b) := by
  obtain ⟨h1, h2, h3⟩ := NotesBL.sound_content ppqn {} a b ha hb h
  have en : ∀ c, NotesBL.notesC {} c = notesOf (sortAbs c) := fun c => List.map_id _
  have et : ∀ c, tsOf c = (NotesBL.tsC {} c).map (·.2) := fun c => by
    simp only [tsOf, NotesBL.tsC, Bool.false_eq_true, if_false, List.map_map]; rfl
  have ek : ∀ c, ksOf c = (NotesBL.ksC {} c).map (·.2) := fun c => by
    simp only [ksOf, NotesBL.ksC, Bool.false_eq_true, if_false, List.map_map]; rfl
  rw [en, en] at h1
  rw [et, et, ek, ek]
  exact ⟨h1, h2.map _, h3.map _⟩

def PosDur (a : List Msg) : Prop := ∀ n ∈ notesOf a, n.on < n.off

/-- cut-off with maximum `m` and replacement `1 ≤ r ≤ m` shortens exactly the notes longer than `m` to
    `r` and leaves every other note (and every onset, pitch, channel, velocity) unchanged.  With `r = 0` the note-off of a shortened
    note is sorted before its note-on, which then takes the next note-off of its key (finding D22,
    `Gaps.cutoff_r0_statement_false`) -/
theorem cutoff_notes (m r : Int) (hr : 1 ≤ r ∧ r ≤ m) (a : List Msg) (hwf : WF (sortAbs a)) (hpd : PosDur (sortAbs a)) :
    (notesOf (cutoff m r a)).Perm
      ((notesOf (sortAbs a)).map (fun n => if n.off - n.on > m then { n with off := n.on + r } else n)) := by
  exact NotesL.cutoff_notes_core m r hr (sortAbs a) (sortAbs_sorted a) hwf hpd

/-- note-ons of `normalise r` are note-ons of `r` (nothing is invented or re-pitched) -/
theorem normalise_note_ons (r : List Msg) : ∀ m ∈ normalise r, m.ty = .noteOn → m ∈ r := by
  intro m hm hty
  rcases normalise_entries r m hm with ⟨h, _⟩ | ⟨_, h⟩
  · rw [hty] at h; cases h
  · exact h

/-- the absolute view regenerated from a relative one holds the same note-ons up to their tick -/
theorem toAbs_note_ons (r : List Msg) : ∀ m ∈ toAbs r, m.ty = .noteOn → ∃ m0 ∈ r, m0.ty = .noteOn ∧ m = { m0 with time := m.time } := by
  intro m hm hty
  obtain ⟨m0, h0, -, t, rfl⟩ := eventsRelGo_src r 0 m (mem_toAbs_events hm (by rw [hty]; exact fun h => nomatch h))
  exact ⟨m0, h0, hty, rfl⟩

/-- **C14 glue**: whatever `Sequence.transpose` does after the pitch shift (normalise, note-length
    quantisation), every note-on of the result is a note-on of the shifted relative view with the same
    pitch, channel and velocity — so "in range" and "pitch class shifted by the interval" carry over
    from `C14.in_range` / `C14.image_pointwise` to the final sequence -/
theorem transposeSeq_note_ons (e : Env) (r : List Msg) (by_ : Int) (s' : Seq) (flag : Bool) (a' : List Msg)
    (h : Seq.transposeSeq e (Seq.ofRel r) by_ = .ok (s', flag))
    (ha : ∃ s'', s'.readAbs = .ok (s'', a')) :
    flag = (transposeRel e.noteLo e.noteHi (fun k => e.tk k by_) by_ r).2
    ∧ ∀ m ∈ a', m.ty = .noteOn →
        ∃ m0 ∈ (transposeRel e.noteLo e.noteHi (fun k => e.tk k by_) by_ r).1,
          m0.ty = .noteOn ∧ m0.note = m.note ∧ m0.ch = m.ch ∧ m0.vel = m.vel := by
  obtain ⟨s'', hs''⟩ := ha
  obtain ⟨hf, h0, h1⟩ := WrapperL.transposeSeq_ok (s0 := Seq.ofRel r) rfl h
  refine ⟨hf, fun m hm hty => ?_⟩
  -- `m` is a re-timed note-on of the shifted list: read off its absolute view (nothing wrapped) or kept by the wrapped branch
  obtain ⟨m0, hm0, t0, e0⟩ : ∃ m0 ∈ (transposeRel e.noteLo e.noteHi (fun k => e.tk k by_) by_ r).1,
      m0.ty = m.ty ∧ m = { m0 with time := m.time } := by
    cases flag with
    | false =>
      rw [h0 rfl] at hs''
      simp only [Seq.readAbs, if_true, Bool.false_eq_true, if_false, Except.ok.injEq, Prod.mk.injEq] at hs''
      obtain ⟨_, rfl⟩ := hs''
      obtain ⟨m0, hm0, t0, e0⟩ := toAbs_note_ons _ m hm hty
      exact ⟨m0, hm0, t0.trans hty.symm, e0⟩
    | true =>
      obtain ⟨out, hq, rfl⟩ := h1 rfl
      simp only [Seq.readAbs, Bool.false_eq_true, if_false, Except.ok.injEq, Prod.mk.injEq] at hs''
      obtain ⟨_, rfl⟩ := hs''
      exact WrapperL.wrapped_src hq m hm (by rw [hty]; decide) (by rw [hty]; decide)
  exact ⟨m0, hm0, t0.trans hty, by rw [e0], by rw [e0], by rw [e0]⟩

def ex : List Msg := [Msg.mkOn 0 60 64 0, Msg.mkOn 1 60 70 0, Msg.mkOff 0 60 24, Msg.mkOn 0 62 80 24, Msg.mkOff 1 60 30, Msg.mkOff 0 62 70]
example : (notePairings 24 ex).filterMap toNote =
    [{ ch := 0, pitch := 60, on := 0, off := 24, vel := 64 }, { ch := 0, pitch := 62, on := 24, off := 70, vel := 80 },
     { ch := 1, pitch := 60, on := 0, off := 30, vel := 70 }] := by
  decide +kernel
example : (notesOf (cutoff 40 12 ex)).map (fun n => (n.pitch, n.on, n.off)) = [(60, 0, 24), (60, 0, 30), (62, 24, 36)] := by
  decide +kernel

end SCoda.Notes
