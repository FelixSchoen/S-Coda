/-
  Tie between the *generated* translation of the element layer (Gen/ElemFns.lean, re-read from
  scoda/elements/{bar,track,composition}.py on every run by tools/py2lean_elem.py) and the hand model of
  `Bar` (Model/Bar.lean: `mkBar`, `Bar.copy`, `barsToSeq`) that the C10 / C09 / C14 theorems are about and
  that the driver executes.  The translation runs on top of the translated `Sequence` wrapper; the
  equalities of `Props/WrapTie.lean` are used to compute through it.

  `barInit_eq` needs `0 ≤ numerator`, `0 < denominator`, `0 ≤ PPQN`: on this domain Python's
  `int(n * PPQN / (d / 4))` (true divisions, then truncation) is the model's integer `n * PPQN * 4 / d`
  (`C11.barCapacityPy_eq`); outside it the two can differ (audit A15: truncation against floor, e.g. -7/8 at PPQN 1).
-/
import SCoda.Gen.ElemFns
import SCoda.Props.WrapTie
import SCoda.Props.C11b
import SCoda.Lemmas.BarChL
import SCoda.Model.BarOps
namespace SCoda.ElemTie
open SCoda SCoda.WrapTie

theorem totalWait_eq_sum (r : List Msg) :
    ((r.filter (fun m => m.ty == MType.wait)).map (fun m => m.time)).sum = totalWait r := by
  induction r with
  | nil => rfl
  | cons m ms ih =>
    by_cases h : m.ty == MType.wait <;> simp [h, totalWait, ih]

/-- the capacity expression of `Bar.__init__`, evaluated in Python's int/float tower, is the model's
    integer capacity -/
theorem pyIntOf_barCap (n ppqn d : Int) (hn : 0 ≤ n) (hp : 0 ≤ ppqn) (hd : 0 < d) :
    pyIntOf (((PyNum.int n).mul (PyNum.int ppqn)).truediv ((PyNum.int d).truediv (PyNum.int 4))) = barCapacity ppqn n d := by
  have h := C11.barCapacityPy_eq n ppqn d hn hp hd
  unfold barCapacityPy at h
  simp [pyIntOf, h]

theorem ite_bind {α β} (c : Prop) [Decidable c] (x y : Except Err α) (f : α → Except Err β) :
    ((if c then x else y) >>= f) = if c then x >>= f else y >>= f := by
  split <;> rfl

/-- an operation on the relative view reads it first (regenerating a stale one); what follows runs on a fresh view -/
theorem onRel_readRel (s : Seq) (f : List Msg → Except Err (List Msg)) :
    s.onRel f = s.readRel >>= fun p => Seq.onRel ⟨s.abs, p.2, p.1.absStale, false⟩ f := by
  obtain ⟨a, r, sa, sr⟩ := s
  cases sa <;> cases sr <;> rfl

theorem onRel_fresh (a r : List Msg) (sa : Bool) (f : List Msg → Except Err (List Msg)) :
    Seq.onRel ⟨a, r, sa, false⟩ f = (do let r' ← f r; .ok ⟨a, r', true, false⟩) := rfl

/-- **the translated constructor, for every signature, PPQN, `default_channel` and wrapper state — no hypothesis**: it is
    the flattened constructor `BarL.mkBarCap` on whatever its float expression for the capacity evaluates to.  After the
    first call (`normalise`) the relative view is fresh, so every later wrapper call is a pure step (`onRel_fresh`). -/
theorem barInit_cap (e : Env) (s : Seq) (n d key c : Int) :
    Gen.Elem.barInit e s n d key c =
      (do let p ← s.readRel
          let b ← BarL.mkBarCap (pyIntOf (((PyNum.int n).mul (PyNum.int e.ppqn)).truediv ((PyNum.int d).truediv (PyNum.int 4))))
            p.2 n d key (chanOf c)
          pure { sequence := { abs := s.abs, rel := b.seq, absStale := true, relStale := false }, num := n, den := d, key := key }) := by
  generalize hcap : pyIntOf (((PyNum.int n).mul (PyNum.int e.ppqn)).truediv ((PyNum.int d).truediv (PyNum.int 4))) = cap
  cases hr : s.readRel with
  | error x =>
    simp only [Gen.Elem.barInit, WrapTie.normalise_eq, Seq.normaliseSeq, onRel_readRel s, hr, unit, error_bind, map_error]
  | ok p =>
    simp only [Gen.Elem.barInit, WrapTie.normalise_eq, Seq.normaliseSeq, onRel_readRel s, hr, hcap, messagesRel_eq, pad_eq,
      overwriteRel_eq, addRel_eq, unit, Seq.editRel, Seq.padSeq, Seq.overwriteRel, Seq.addRelMsg, onRel_fresh, ok_bind, map_ok,
      throw_eq, error_bind, pure_eq, List.map_id, Seq.insertAt, totalWait_eq_sum, BarL.mkBarCap, BarL.bodyCap]
    -- both sides are the same if-tree up to the spelling of the conditions; `ite_bind` moves the model's last bind to the leaves
    by_cases h2 : totalWait (normalise p.2) < cap <;>
      simp only [h2, if_true, if_false, decide_eq_true_eq, gt_iff_lt, Nat.one_lt_cast, ite_bind, error_bind, ok_bind,
        List.all_map, Function.comp_def, id, Msg.mkTimeSig, chanOf] <;> rfl

/-- **`Bar(sequence, numerator, denominator, key, default_channel)` as translated from bar.py is `mkBarCh` on the
    relative view of the sequence, for EVERY `default_channel`** (audit round 3, R7): same exception or same bar, the
    leading time-signature event on channel `chanOf default_channel` (`None` ↦ 0, `Message.__init__`); the sequence is
    left with exactly the bar's relative view, relative view fresh, absolute view stale and untouched.  (`default_channel`
    is not kept by the bar: it lives on only as the channel of that event.) -/
theorem barInit_eq_ch (e : Env) (s : Seq) (n d key c : Int) (hn : 0 ≤ n) (hd : 0 < d) (hp : 0 ≤ e.ppqn) :
    Gen.Elem.barInit e s n d key c =
      (do let p ← s.readRel
          let b ← mkBarCh e.ppqn p.2 n d key (chanOf c)
          pure { sequence := { abs := s.abs, rel := b.seq, absStale := true, relStale := false }, num := n, den := d, key := key }) := by
  rw [barInit_cap, pyIntOf_barCap n e.ppqn d hn hp hd]
  simp only [BarL.mkBarCh_eq]

/-- **`Bar(sequence, numerator, denominator, key)` as translated from bar.py is `mkBar` on the relative view
    of the sequence**: same exception or same bar; the sequence is left with exactly the bar's relative
    view, relative view fresh, absolute view stale and untouched.  (The instance `default_channel = 0` of
    `barInit_eq_ch`.) -/
theorem barInit_eq (e : Env) (s : Seq) (n d key : Int) (hn : 0 ≤ n) (hd : 0 < d) (hp : 0 ≤ e.ppqn) :
    Gen.Elem.barInit e s n d key 0 =
      (do let p ← s.readRel
          let b ← mkBar e.ppqn p.2 n d key
          pure { sequence := { abs := s.abs, rel := b.seq, absStale := true, relStale := false }, num := n, den := d, key := key }) := by
  rw [barInit_eq_ch e s n d key 0 hn hd hp]
  rfl

/-- forgetting the wrapper state: the translated constructor computes the model's bar, for every `default_channel` -/
theorem barInit_toBar_ch (e : Env) (s : Seq) (n d key c : Int) (hn : 0 ≤ n) (hd : 0 < d) (hp : 0 ≤ e.ppqn) :
    GBar.toBar <$> Gen.Elem.barInit e s n d key c = (do let p ← s.readRel; mkBarCh e.ppqn p.2 n d key (chanOf c)) := by
  rw [barInit_eq_ch e s n d key c hn hd hp]
  cases s.readRel with
  | error x => rfl
  | ok p =>
    simp only [ok_bind]
    cases h : mkBarCh e.ppqn p.2 n d key (chanOf c) with
    | error x => rfl
    | ok b =>
      obtain ⟨_, _, _, rfl⟩ := BarChL.mkBarCh_ok h
      rfl

/-- forgetting the wrapper state: the translated constructor computes the model's bar -/
theorem barInit_toBar (e : Env) (s : Seq) (n d key : Int) (hn : 0 ≤ n) (hd : 0 < d) (hp : 0 ≤ e.ppqn) :
    GBar.toBar <$> Gen.Elem.barInit e s n d key 0 = (do let p ← s.readRel; mkBar e.ppqn p.2 n d key) :=
  barInit_toBar_ch e s n d key 0 hn hd hp

/-- **what every successfully constructed bar looks like — no hypothesis on the signature, PPQN or the wrapper state**:
    relative view fresh, absolute view stale, the arguments stored, and the leading event of the relative view is the
    bar's time signature on channel `chanOf default_channel` -/
theorem barInit_shape (e : Env) (s : Seq) (n d key c : Int) (g : GBar)
    (h : Gen.Elem.barInit e s n d key c = .ok g) :
    g.sequence.absStale = true ∧ g.sequence.relStale = false ∧ g.num = n ∧ g.den = d ∧ g.key = key ∧
      g.sequence.rel.head? = some (Msg.mkTimeSig (chanOf c) n d pyNone) := by
  rw [barInit_cap] at h
  obtain ⟨p, _, h⟩ := bind_eq_ok h
  obtain ⟨b, hb, h⟩ := bind_eq_ok h
  rw [BarL.mkBarCap_eq] at hb
  split at hb <;> cases hb
  cases h
  exact ⟨rfl, rfl, rfl, rfl, rfl, rfl⟩

theorem barInit_flags (e : Env) (s : Seq) (n d key : Int) (hn : 0 ≤ n) (hd : 0 < d) (hp : 0 ≤ e.ppqn) (g : GBar)
    (h : Gen.Elem.barInit e s n d key 0 = .ok g) :
    g.sequence.absStale = true ∧ g.sequence.relStale = false ∧ g.num = n ∧ g.den = d ∧ g.key = key := by
  obtain ⟨h1, h2, h3, h4, h5, _⟩ := barInit_shape e s n d key 0 g h
  exact ⟨h1, h2, h3, h4, h5⟩

/-! ### `Bar.copy` (bar.py:57-66, second repair of D37): the copy is constructed on the channel of the bar's own leading
    time-signature message as it is NOW, read through the `rel` property of the bar's sequence -/

theorem readRel_leaves_fresh {s : Seq} {p : Seq × List Msg} (h : s.readRel = .ok p) :
    p.1.relStale = false ∧ p.1.rel = p.2 ∧ p.1.readRel = .ok (p.1, p.2) ∧ p.1.copy.readRel = .ok (p.1.copy, p.2) := by
  obtain ⟨a, r, sa, sr⟩ := s
  cases sa <;> cases sr <;> simp [Seq.readRel] at h <;> subst h <;> simp [Seq.readRel, Seq.copy, Seq.ofRel]

/-- **`Bar.copy()` as translated, for every bar record and every wrapper state of its sequence — no hypothesis**: the
    relative view is read through the `rel` property (a stale view is regenerated and STAYS regenerated in the original:
    `Bar.copy` is not free of effects on a bar whose relative view is stale; `SequenceException` when both views are
    stale), the channel of its first TIME_SIGNATURE message is taken (`sigChan`; 0 if there is none), and a new bar is
    constructed from a copy of the sequence with that channel as `default_channel`.  A `copy` that passes channel 0, or a
    channel stored at construction, changes the regenerated function and breaks this theorem. -/
theorem barCopy_eq (e : Env) (g : GBar) :
    Gen.Elem.barCopy e g =
      (do let p ← g.sequence.readRel
          let c ← Gen.Elem.barInit e p.1.copy g.num g.den g.key (sigChan p.2)
          pure ({ g with sequence := p.1 }, c)) := by
  simp only [Gen.Elem.barCopy, getRel_eq, copy_eq]
  cases g.sequence.readRel with
  | error x => rfl
  | ok p => rfl

/-- **`Bar.copy()` as translated is the model's copy on the bar's OWN channel** (`Bar.copyOwn`'s body on the relative view
    as read): a new bar constructed from the relative view, the leading event on the channel of the view's first
    time-signature message.  No hypothesis on the wrapper state (both views stale: the same `SequenceException` on both
    sides — `copy` reads the view before it copies the sequence). -/
theorem barCopy_toBar_own (e : Env) (g : GBar) (hn : 0 ≤ g.num) (hd : 0 < g.den) (hp : 0 ≤ e.ppqn) :
    (fun p => p.2.toBar) <$> Gen.Elem.barCopy e g =
      (do let p ← g.sequence.readRel; mkBarCh e.ppqn p.2 g.num g.den g.key (chanOf (sigChan p.2))) := by
  rw [barCopy_eq]
  cases hr : g.sequence.readRel with
  | error x => rfl
  | ok p =>
    have hb := barInit_toBar_ch e p.1.copy g.num g.den g.key (sigChan p.2) hn hd hp
    rw [(readRel_leaves_fresh hr).2.2.2] at hb
    simp only [ok_bind] at hb ⊢
    rw [← hb]
    cases Gen.Elem.barInit e p.1.copy g.num g.den g.key (sigChan p.2) <;> rfl

/-- **`Bar.copy()` as translated is the model's `Bar.copy`** for a bar whose own time-signature message is on channel 0
    (`hc`; so for every bar built with the default `default_channel` and not moved since — the hand model `mkBar` puts
    the leading event on channel 0; `barCopy_toBar_own` is the statement for every channel). -/
theorem barCopy_toBar (e : Env) (g : GBar) (hn : 0 ≤ g.num) (hd : 0 < g.den) (hp : 0 ≤ e.ppqn)
    (hc : ∀ p, g.sequence.readRel = .ok p → chanOf (sigChan p.2) = 0) :
    (fun p => p.2.toBar) <$> Gen.Elem.barCopy e g =
      (do let p ← g.sequence.readRel; mkBar e.ppqn p.2 g.num g.den g.key) := by
  rw [barCopy_toBar_own e g hn hd hp]
  cases hr : g.sequence.readRel with
  | error x => rfl
  | ok p =>
    simp only [ok_bind]
    rw [hc p hr]
    rfl

/-- a bar in the state its constructor leaves it in copies to `Bar.copyOwn` of its model -/
theorem barCopy_constructed_own (e : Env) (g : GBar) (hn : 0 ≤ g.num) (hd : 0 < g.den) (hp : 0 ≤ e.ppqn)
    (hr : g.sequence.relStale = false) :
    (fun p => p.2.toBar) <$> Gen.Elem.barCopy e g = Bar.copyOwn e.ppqn g.toBar := by
  rw [barCopy_toBar_own e g hn hd hp]
  obtain ⟨⟨a, r, sa, sr⟩, n, d, k⟩ := g
  simp only at hr
  subst hr
  rfl

/-- a bar in the state its constructor leaves it in copies to `Bar.copy` of its model when its signature message is on
    channel 0 (see `barCopy_toBar`; every channel: `barCopy_constructed_own`) -/
theorem barCopy_constructed (e : Env) (g : GBar) (hn : 0 ≤ g.num) (hd : 0 < g.den) (hp : 0 ≤ e.ppqn)
    (hr : g.sequence.relStale = false) (hc : chanOf (sigChan g.sequence.rel) = 0) :
    (fun p => p.2.toBar) <$> Gen.Elem.barCopy e g = Bar.copy e.ppqn g.toBar := by
  rw [barCopy_constructed_own e g hn hd hp hr]
  show mkBarCh e.ppqn g.sequence.rel g.num g.den g.key (chanOf (sigChan g.sequence.rel)) = _
  rw [hc]
  rfl

/-- **the statement whose failure was D37, and (audit round 4, D1) still failed after the first repair for a bar moved to
    another channel**: whenever `Bar.copy()` (as translated) of a bar succeeds, the relative view of the bar could be read
    (`rel`), the bar itself is unchanged except that a stale relative view has been regenerated, the copy carries the bar's
    numerator, denominator and key, it is in the constructed state, and the leading event of its relative view is the time
    signature ON THE CHANNEL OF THE BAR'S OWN FIRST TIME-SIGNATURE MESSAGE AS IT IS NOW (`sigChan rel`; 0 if the bar has
    none) — for every bar record, every wrapper state of its sequence, every signature and PPQN (no hypothesis). -/
theorem barCopy_sig_channel (e : Env) (g : GBar) (p : GBar × GBar)
    (h : Gen.Elem.barCopy e g = .ok p) :
    ∃ s' rel, g.sequence.readRel = .ok (s', rel) ∧ p.1 = { g with sequence := s' } ∧
      p.2.num = g.num ∧ p.2.den = g.den ∧ p.2.key = g.key ∧
      p.2.sequence.rel.head? = some (Msg.mkTimeSig (chanOf (sigChan rel)) g.num g.den pyNone) ∧
      p.2.sequence.absStale = true ∧ p.2.sequence.relStale = false := by
  rw [barCopy_eq] at h
  obtain ⟨q, hr, h⟩ := bind_eq_ok h
  obtain ⟨c, hi, h⟩ := bind_eq_ok h
  cases h
  obtain ⟨h1, h2, h3, h4, h5, h7⟩ := barInit_shape e q.1.copy g.num g.den g.key (sigChan q.2) c hi
  exact ⟨q.1, q.2, hr, rfl, h3, h4, h5, h7, h1, h2⟩

/-- **bar and copy agree on the channel of the leading time signature** (D37 repaired): a bar constructed with
    `default_channel = c` and any copy of it both start with the time-signature event on channel `chanOf c`; the bar itself
    is not changed by being copied. -/
theorem barCopy_of_constructed (e : Env) (s : Seq) (n d key c : Int) (g : GBar)
    (hg : Gen.Elem.barInit e s n d key c = .ok g) (p : GBar × GBar) (h : Gen.Elem.barCopy e g = .ok p) :
    p.1 = g ∧
      p.2.sequence.rel.head? = some (Msg.mkTimeSig (chanOf c) n d pyNone) ∧
      g.sequence.rel.head? = some (Msg.mkTimeSig (chanOf c) n d pyNone) ∧
      p.2.sequence.rel.head? = g.sequence.rel.head? := by
  obtain ⟨g1, g2, g3, g4, g5, g7⟩ := barInit_shape e s n d key c g hg
  obtain ⟨s', rel, hr, c1, _, _, _, c5, _, _⟩ := barCopy_sig_channel e g p h
  have hrd : g.sequence.readRel = .ok (g.sequence, g.sequence.rel) := by simp [Seq.readRel, g2]
  rw [hrd] at hr
  injection hr with hr
  injection hr with hr1 hr2
  subst hr1 hr2
  rw [BarChL.sigChan_of_head g7, BarChL.chanOf_of_ne (BarChL.chanOf_ne_none c), g3, g4] at c5
  exact ⟨c1, c5, g7, c5.trans g7.symm⟩

/-- **what remains true of the statement of the first repair** (`barCopy_default_channel`: "the copy carries the bar's
    `default_channel`"): the copy of a bar constructed with `default_channel = c` AND NOT EDITED SINCE has the bar's
    numerator, denominator and key, is in the constructed state, and its leading event is the time signature on channel
    `chanOf c` (`None` ↦ 0).  For a bar edited since, the channel is the bar's current one: `barCopy_sig_channel`. -/
theorem barCopy_default_channel (e : Env) (s : Seq) (n d key c : Int) (g : GBar)
    (hg : Gen.Elem.barInit e s n d key c = .ok g) (p : GBar × GBar) (h : Gen.Elem.barCopy e g = .ok p) :
    p.2.num = n ∧ p.2.den = d ∧ p.2.key = key ∧
      p.2.sequence.rel.head? = some (Msg.mkTimeSig (chanOf c) n d pyNone) ∧
      p.2.sequence.absStale = true ∧ p.2.sequence.relStale = false := by
  obtain ⟨_, _, g3, g4, g5, _⟩ := barInit_shape e s n d key c g hg
  obtain ⟨_, _, _, _, c2, c3, c4, _, c6, c7⟩ := barCopy_sig_channel e g p h
  obtain ⟨_, c5, _, _⟩ := barCopy_of_constructed e s n d key c g hg p h
  exact ⟨c2.trans g3, c3.trans g4, c4.trans g5, c5, c6, c7⟩

/-! non-vacuity, on the recorded input of D37 (known_findings.json): `Bar(on 60 (channel 3), wait 24, off 60, 4, 4, None,
    default_channel=3)` and its copy.  The domain hypotheses of `barInit_eq_ch` hold (PPQN 24 ≥ 0, 0 ≤ 4, 0 < 4); bar and copy are evaluated by the
    kernel: both `[TS 4/4 on channel 3, on 60, wait 24, off 60, wait 72]`.  (Before the repairs the copy's first event was
    `TS 4/4 on channel 0`.)  Then the audit's witness (round 4, D1): the same bar after `bar.sequence.set_channel(0)` — with the first
    repair (f9ef398) the copy's first event stayed on channel 3. -/
def exD37 : List Msg := [Msg.mkOn 3 60 64 pyNone, Msg.mkWait 3 24, Msg.mkOff 3 60 pyNone]
def exD37Bar : GBar :=
  { sequence := { abs := [], rel := [Msg.mkTimeSig 3 4 4 pyNone, Msg.mkOn 3 60 64 pyNone, Msg.mkWait 3 24, Msg.mkOff 3 60 pyNone, Msg.mkWait 3 72],
                  absStale := true, relStale := false }, num := 4, den := 4, key := pyNone }
/-- the bar after `bar.sequence.set_channel(0)` -/
def exD37Bar0 : GBar :=
  { sequence := { abs := [], rel := [Msg.mkTimeSig 0 4 4 pyNone, Msg.mkOn 0 60 64 pyNone, Msg.mkWait 0 24, Msg.mkOff 0 60 pyNone, Msg.mkWait 0 72],
                  absStale := true, relStale := false }, num := 4, den := 4, key := pyNone }

example : 0 ≤ genEnv.ppqn ∧ (0 : Int) ≤ 4 ∧ (0 : Int) < 4 := by decide +kernel

set_option maxRecDepth 100000 in
example : Gen.Elem.barInit genEnv (Seq.ofRel exD37) 4 4 pyNone 3 = .ok exD37Bar := by decide +kernel

set_option maxRecDepth 100000 in
/-- channel 3 at construction: the copy is the bar -/
example : Gen.Elem.barCopy genEnv exD37Bar = .ok (exD37Bar, exD37Bar) := by decide +kernel

set_option maxRecDepth 100000 in
/-- channel 3: the copy's leading event is the 4/4 signature on channel 3 -/
example : (Gen.Elem.barCopy genEnv exD37Bar).toOption.map (fun p => p.2.sequence.rel.head?) =
    some (some (Msg.mkTimeSig 3 4 4 pyNone)) := by decide +kernel

set_option maxRecDepth 100000 in
/-- **the audit's witness**: channel 3 at construction, then the translated `Sequence.set_channel(0)` on the bar's sequence … -/
example : (Gen.Wrap.setChannel genEnv exD37Bar.sequence 0).toOption.map (fun r => ({ exD37Bar with sequence := r.1 } : GBar)) =
    some exD37Bar0 := by decide +kernel

set_option maxRecDepth 100000 in
/-- … and the copy of THAT bar is the bar as it is now, the signature event on channel 0 -/
example : Gen.Elem.barCopy genEnv exD37Bar0 = .ok (exD37Bar0, exD37Bar0) ∧
    exD37Bar0.sequence.rel.head? = some (Msg.mkTimeSig 0 4 4 pyNone) := by decide +kernel

/-- the same through the hand model: `Bar.copyOwn` of the model's bars -/
example : Bar.copyOwn genEnv.ppqn exD37Bar.toBar = .ok exD37Bar.toBar ∧ Bar.copyOwn genEnv.ppqn exD37Bar0.toBar = .ok exD37Bar0.toBar :=
  ⟨by decide +kernel, by decide +kernel⟩

set_option maxRecDepth 100000 in
/-- `default_channel=None`: the event is on channel 0 (`Message.__init__`) -/
example : (Gen.Elem.barInit genEnv (Seq.ofRel exD37) 4 4 pyNone pyNone).toOption.map
    (fun g => g.sequence.rel.head?) = some (some (Msg.mkTimeSig 0 4 4 pyNone)) := by decide +kernel

/-- **`Bar.transpose(by)` as translated**: the key (if any) goes through `Key.transpose_key`, the sequence
    through the wrapper's `transpose`; the flag is the sequence's -/
theorem barTranspose_eq (e : Env) (g : GBar) (by_ : Int) :
    Gen.Elem.barTranspose e g by_ =
      (fun p => ({ g with key := if g.key ≠ pyNone then e.tk g.key by_ else g.key, sequence := p.1 }, p.2)) <$>
        Seq.transposeSeq e g.sequence by_ := by
  by_cases hk : g.key = pyNone
  · simp only [Gen.Elem.barTranspose, transpose_eq, hk, ne_eq, not_true_eq_false, decide_false, if_false]
    cases Seq.transposeSeq e g.sequence by_ <;> simp
  · simp only [Gen.Elem.barTranspose, transpose_eq, hk, ne_eq, not_false_eq_true, decide_true, if_true]
    cases Seq.transposeSeq e g.sequence by_ <;> rfl

theorem barIsEmpty_eq (e : Env) (g : GBar) :
    Gen.Elem.barIsEmpty e g =
      (do let p ← g.sequence.readRel; pure ({ g with sequence := p.1 }, !(p.2.any (·.ty == .noteOn)))) := by
  simp only [Gen.Elem.barIsEmpty, isEmpty_eq]
  cases g.sequence.readRel <;> rfl

theorem flatten_singletons {α β} (l : List α) (f : α → β) : (l.map (fun x => [f x])).flatten = l.map f := by
  induction l with
  | nil => rfl
  | cons x xs ih => simp [ih]

/-- **`Bar.to_sequence(bars)` as translated**: a new sequence whose relative view is the concatenation of the
    bars' relative views (each read through its `rel` property; the loop collects `bar.sequence`) -/
theorem barsToSequence_eq (e : Env) (bars : List GBar) :
    Gen.Elem.barsToSequence e bars =
      (do let rels ← readRels (bars.map (·.sequence))
          pure { abs := [], rel := rels.flatten, absStale := true, relStale := false }) := by
  simp only [Gen.Elem.barsToSequence, concatenate_eq]
  simp [flatten_singletons]
  cases readRels (bars.map (·.sequence)) with
  | error x => rfl
  | ok rels => simp [Seq.new, Seq.readRel, Seq.concatSeq, Seq.onRel, unit, toRel, toRelGo, concatenate]

/-- for constructed bars (relative view fresh) that is the model's `barsToSeq` -/
theorem barsToSequence_constructed (e : Env) (bars : List GBar) (h : ∀ g ∈ bars, g.sequence.relStale = false) :
    Gen.Elem.barsToSequence e bars =
      .ok { abs := [], rel := barsToSeq (bars.map GBar.toBar), absStale := true, relStale := false } := by
  rw [barsToSequence_eq, readRels, List.mapM_map,
    mapM_eq_map _ (·.sequence.rel) bars fun g hg => by simp [Seq.readRel, h g hg]]
  simp [barsToSeq, GBar.toBar, List.map_map, Function.comp_def]

/-- tripwire: the list of translated element methods -/
theorem translated_covered :
    Gen.Elem.translated = ["Bar.__init__", "Bar.copy", "Bar.is_empty", "Bar.transpose", "Bar.to_sequence", "Track.__init__",
      "Track.copy", "Track.to_sequence", "Composition.__init__", "Composition.copy", "Composition.from_sequences",
      "Composition.to_sequences"] := rfl

/-! ### Track and Composition (no hand model: the theorems characterise the translated methods directly) -/

/-- `Track.to_sequence()` is `Bar.to_sequence(self.bars)` -/
theorem trackToSequence_eq (e : Env) (t : GTrack) :
    Gen.Elem.trackToSequence e t = (fun s => (t, s)) <$> Gen.Elem.barsToSequence e t.bars := by
  simp only [Gen.Elem.trackToSequence]
  cases Gen.Elem.barsToSequence e t.bars <;> rfl

/-- `Composition(tracks)` just stores the tracks -/
theorem compInit_eq (e : Env) (ts : List GTrack) : Gen.Elem.compInit e ts = .ok { tracks := ts } := rfl

/-- **`Track.copy()` copies every bar (`Bar.copy`) and constructs a new track from the copies** — a shallow copy that reuses the bars
    changes the regenerated function and breaks this theorem -/
theorem trackCopy_eq (e : Env) (t : GTrack) :
    Gen.Elem.trackCopy e t =
      (do let bs ← t.bars.mapM (fun b => (·.2) <$> Gen.Elem.barCopy e b)
          let c ← Gen.Elem.trackInit e bs ()
          pure (t, c)) := by
  simp only [Gen.Elem.trackCopy, bind_pure_comp]

/-- **`Composition.copy()` copies every track (`Track.copy`)** -/
theorem compCopy_eq (e : Env) (c : GComposition) :
    Gen.Elem.compCopy e c =
      (do let ts ← c.tracks.mapM (fun t => (·.2) <$> Gen.Elem.trackCopy e t)
          pure (c, { tracks := ts })) := by
  simp only [Gen.Elem.compCopy, bind_pure_comp, compInit_eq]
  cases List.mapM (fun t => (·.2) <$> Gen.Elem.trackCopy e t) c.tracks <;> rfl

/-- **`Composition.to_sequences()` is `Track.to_sequence()` of every track, in order** -/
theorem compToSequences_eq (e : Env) (c : GComposition) :
    Gen.Elem.compToSequences e c =
      (fun ss => (c, ss)) <$> c.tracks.mapM (fun t => (·.2) <$> Gen.Elem.trackToSequence e t) := by
  have h := fun l init => forIn_collectM (fun l (_ : Unit) => l) _ (fun t => (·.2) <$> Gen.Elem.trackToSequence e t) ()
    (fun _ _ => rfl) l init
  simp only [bind_map_left] at h
  simp only [Gen.Elem.compToSequences, h]
  cases List.mapM (fun t => (·.2) <$> Gen.Elem.trackToSequence e t) c.tracks <;> simp


/-- `for i in range(0, len(l)): … l[i] …` visits the elements of `l` in order -/
theorem range_mapM_get {α β} (l : List α) (g : α → Except Err β) :
    (List.range l.length).mapM (fun i => (do let x ← pyGetNat l i; g x : Except Err β)) = l.mapM g := by
  induction l with
  | nil => rfl
  | cons a as ih =>
    rw [List.length_cons, List.range_succ_eq_map, List.mapM_cons, List.mapM_map, List.mapM_cons]
    have h : (fun i => (do let x ← pyGetNat (a :: as) (i + 1); g x : Except Err β)) =
        (fun i => (do let x ← pyGetNat as i; g x : Except Err β)) := by
      funext i; simp [pyGetNat]
    simp only [Function.comp_def, Nat.succ_eq_add_one, h, ih]
    simp [pyGetNat]

/-- what `Track.__init__` computes from the program changes of the concatenated bars -/
def trackProgram (bars : List GBar) (pcs : List Msg) : Except Err GTrack :=
  match pcs with
  | [] => .ok { bars := bars, program := pyNone }
  | p :: _ => if pcs.all (fun m => decide (m.prog = p.prog)) then .ok { bars := bars, program := p.prog } else .error .sequenceError

/-- **`Track(bars)`**: the bars are stored; the program is that of the first program change of the concatenated bars (read through
    `messages_rel()`), `None` without any, and a `TrackException` (error code `sequenceError`) when two program changes disagree -/
theorem trackInit_eq (e : Env) (bars : List GBar) :
    Gen.Elem.trackInit e bars () =
      (do let s ← Gen.Elem.barsToSequence e bars
          let r ← Gen.Wrap.messagesRel e s id
          trackProgram bars (r.1.rel.filter (fun m => m.ty == MType.programChange))) := by
  simp only [Gen.Elem.trackInit]
  cases Gen.Elem.barsToSequence e bars with
  | error x => rfl
  | ok s =>
    simp only [ok_bind]
    cases Gen.Wrap.messagesRel e s id with
    | error x => rfl
    | ok r =>
      simp only [ok_bind]
      cases hp : r.1.rel.filter (fun m => m.ty == MType.programChange) with
      | nil => simp [trackProgram]
      | cons p ps =>
        simp [trackProgram, pyGetInt, pyGetNat,
          fun (l : List Msg) (g : Msg → Bool) => mapM_eq_map (ε := Err) (fun x => .ok (g x)) g l (fun _ _ => rfl)]
        have h : (∃ a ∈ ps, ¬a.prog = p.prog) ↔ ¬ ∀ x ∈ ps, x.prog = p.prog := by simp
        simp only [h, ite_not]

/-- **`Composition.from_sequences(sequences, meta_track_index)`**: split into bars (link `View.seq_split_bars`, re-quantisation on by
    default), one `Track` per list of bars, in order -/
theorem compFromSequences_eq (e : Env) (seqs : List Seq) (metaIdx : Nat) :
    Gen.Elem.compFromSequences e seqs metaIdx =
      (do let tb ← View.seq_split_bars e seqs metaIdx true
          let ts ← tb.mapM (fun bs => Gen.Elem.trackInit e bs ())
          pure { tracks := ts }) := by
  simp only [Gen.Elem.compFromSequences]
  cases View.seq_split_bars e seqs metaIdx true with
  | error x => rfl
  | ok tb =>
    simp only [ok_bind]
    have h := forIn_collectM (fun l (_ : Unit) => l) _
      (fun i => (do let x ← pyGetNat tb i; Gen.Elem.trackInit e x () : Except Err GTrack)) () (fun _ _ => rfl)
      (List.range tb.length) ([] : List GTrack)
    rw [range_mapM_get] at h
    simp only [bind_assoc] at h
    rw [h]
    cases List.mapM (fun x => Gen.Elem.trackInit e x ()) tb <;> simp [compInit_eq]

/-- tripwire: a changed default argument of a translated element method changes this list -/
theorem elem_defaults_pinned :
    Gen.Elem.defaults = ["Bar.__init__(key=None)", "Bar.__init__(default_channel=0)", "Track.__init__(name=None)", "Composition.from_sequences(meta_track_index=0)"] :=
  rfl

end SCoda.ElemTie
