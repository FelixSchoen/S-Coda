/-
  Audit round 4, item C6: `AbsTie2.equalsAbs_eq` concludes `∃ h', …` with `h'` unconstrained.  Here the stronger statement
  ("only adds objects"): the final heap EXTENDS the initial one (`h' = h ++ x`, as `AbsTie2.interleaved_eq` states it
  for `get_interleaved_message_pairings`), with the consequences spelt out: every old cell keeps its position and content, every
  sequence of old references reads as before.
-/
import SCoda.Props.AbsTie2
import SCoda.Lemmas.AbsTie2LE
namespace SCoda.AbsTie2G
open SCoda SCoda.Gen.Abs2 SCoda.AbsTie2L SCoda.AbsTie2

/-- **`equals` only adds objects** (closes audit round 4 C6 for `AbsTie2.equalsAbs_eq`): the generated `equals` returns the model's
    Boolean and the two sorted reference lists, and the heap it returns is the initial heap with message objects APPENDED (those the
    two calls of `get_interleaved_message_pairings` create: imputed note-offs); no existing object is moved or changed.
    Hypotheses as `equalsAbs_eq`: references point into the heap, no channel `None`. -/
theorem equalsAbs_eq_grows (h : Heap) (self other : List Nat) (f : EqFlags)
    (hs : RefsOk h self) (ho : RefsOk h other) (hc : HeapChOk h) :
    ∃ x, Gen.Abs2.equals h self other f.ignoreCh f.ignoreTs f.ignoreKs f.ignoreVel
      = .ok (h ++ x, sortRefs h self, sortRefs h other, SCoda.equalsAbs Gen.ppqn f (deref h self) (deref h other)) :=
  equals_spec_grows h self other f hs ho hc

theorem equalsAbs_old_cells (h : Heap) (self other : List Nat) (f : EqFlags)
    (hs : RefsOk h self) (ho : RefsOk h other) (hc : HeapChOk h) :
    ∃ h', Gen.Abs2.equals h self other f.ignoreCh f.ignoreTs f.ignoreKs f.ignoreVel
      = .ok (h', sortRefs h self, sortRefs h other, SCoda.equalsAbs Gen.ppqn f (deref h self) (deref h other))
      ∧ h.length ≤ h'.length ∧ (∀ i, i < h.length → h'[i]? = h[i]?) ∧ (∀ i, i < h.length → hGet h' i = hGet h i)
      ∧ ∀ refs, RefsOk h refs → deref h' refs = deref h refs ∧ sortRefs h' refs = sortRefs h refs := by
  obtain ⟨x, hx⟩ := equalsAbs_eq_grows h self other f hs ho hc
  refine ⟨h ++ x, hx, by simp, ?_, ?_, ?_⟩
  · intro i hi; exact List.getElem?_append_left hi
  · intro i hi; exact hGet_mono (List.prefix_append h x) hi
  · intro refs hr; exact ⟨deref_mono (List.prefix_append h x) hr, sortRefs_mono (List.prefix_append h x) hr⟩

/-- `equalsAbs_eq` follows -/
example (h : Heap) (self other : List Nat) (f : EqFlags) (hs : RefsOk h self) (ho : RefsOk h other) (hc : HeapChOk h) :
    ∃ h', Gen.Abs2.equals h self other f.ignoreCh f.ignoreTs f.ignoreKs f.ignoreVel
      = .ok (h', sortRefs h self, sortRefs h other, SCoda.equalsAbs Gen.ppqn f (deref h self) (deref h other)) := by
  obtain ⟨x, hx⟩ := equalsAbs_eq_grows h self other f hs ho hc
  exact ⟨_, hx⟩

/-- non-vacuity, with a heap that really grows: `self` = an unclosed note-on (its note-off is imputed: one NEW object), `other` = the
    same note closed; the three hypotheses hold, the returned heap is the old one with one message appended -/
def exH : Heap := [{ ty := .noteOn, ch := 1, time := 0, note := 60, vel := 90 },
  { ty := .noteOn, ch := 1, time := 0, note := 60, vel := 90 }, { ty := .noteOff, ch := 1, time := 24, note := 60 }]

example : RefsOk exH [0] ∧ RefsOk exH [2, 1] ∧ HeapChOk exH := by decide +kernel

example : (Gen.Abs2.equals exH [0] [2, 1] false false false false).map (fun r => (r.1.take 3 == exH, r.1.length, r.2.1, r.2.2.1, r.2.2.2))
    = .ok (true, 4, [0], [1, 2], true) := by decide +kernel

end SCoda.AbsTie2G

