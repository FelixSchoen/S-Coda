/-
  TOKENISER TIE, part 2 (audit round 4, item C6 first bullet): the tie of Props/TokTie.lean composed with the property
  theorems of Props/C01*.lean / C03*.lean.

  WHICH `ppqn` THE SOURCE USES (notelike_tokenisation.py, `tokenise`):
    * the bar capacities are `int(self.ppqn * 4 * n / d)` (lines 98, 232): the OBJECT's `ppqn`;
    * the pairings are `sequence_bar.get_interleaved_message_pairings([...])` (line 149) WITHOUT `standard_length`, whose default
      is the MODULE constant `PPQN` (sequence.py:330, absolute_sequence.py:460 → `get_message_pairings`, line 454: the note-off
      imputed for an unclosed note-on stands at `time + standard_length`).
  So the source MIXES the two: for a tokeniser built with `ppqn=48` an unclosed note would get length 24, not 48.  The tie
  `TokTie.tokenise_eq` says exactly that (`tokeniseCore (cfgOf o)` on `extract Gen.ppqn rels`); the property theorems are about
  `extract c.ppqn tracks`.

  RESULT: the mix is not observable on the domain of every property theorem.  `Sequence.merge` (line 146) sorts and normalises
  the piece, after which no note-on is left unclosed, PROVIDED the tracks have non-negative waits (`OkRel`, a hypothesis of every
  C01 / C03 theorem): `TokPpqnL.extract_ppqn_irrel`.  Hence `tokenise_eq_gen` / `tokenise_fresh_gen` below, about
  `extract (cfgOf o).ppqn rels`, which compose with `C01c.*` (`tokenise_roundtrip_gen`).  OUTSIDE that domain (a negative wait) the
  mix IS observable and the hand model `tokeniseCore ∘ extract c.ppqn` differs from the code: `extract_ppqn_statement_false`,
  `negwait_code_vs_model` (replayed on /repo, see there).

  The hypothesis on time-signature events is stated on the INPUT messages (`TsInOk`), not on `extract …`.
-/
import SCoda.Props.TokTie
import SCoda.Lemmas.TokPpqnL
import SCoda.Props.C01c
import SCoda.Lemmas.TokLib3L
namespace SCoda.TokTie2
open SCoda SCoda.TokLib SCoda.Gen.Tok SCoda.TokTieL SCoda.TokTie SCoda.C01 SCoda.ExtractL SCoda.TokLib3L SCoda.RenderL


theorem cfgOf_ppqn (o : TokObj) : (cfgOf o).ppqn = o.ppqn := rfl

/-- INPUT-LEVEL side condition on time signatures: every time-signature message of the tracks has a non-zero denominator and
    a non-negative bar length (`int(ppqn * 4 * n / d)` raises ZeroDivisionError resp. truncates toward zero otherwise) -/
def TsInOk (ppqn : Int) (rels : List (List Msg)) : Prop :=
  ∀ t ∈ rels, ∀ m ∈ t, m.ty = .timeSignature → m.den ≠ 0 ∧ 0 ≤ ppqn * 4 * m.num

instance (ppqn : Int) (rels : List (List Msg)) : Decidable (TsInOk ppqn rels) := by
  unfold TsInOk; infer_instance

/-- the input-level condition gives the event-level one of `TokTie.tokenise_eq'`, for whatever `standard_length` -/
theorem tsEvOk_of_input (ppqn p : Int) (rels : List (List Msg)) (h : TsInOk ppqn rels) :
    ∀ ev ∈ extract p rels, TsEvOk ppqn ev := by
  intro ev hev m hm hty
  obtain ⟨t, ht, m0, hm0, h0, hnum, hden⟩ := Glue.extract_timesig p rels ev hev m (by simp [hm]) hty
  have := h t ht m0 hm0 h0
  rw [hnum, hden] at this
  exact this

/-- WHAT THE SOURCE COMPUTES, for every input (no condition on the waits): `tokeniseCore` with the OBJECT's `ppqn` in the bar
    capacities, on the pairings imputed with the MODULE constant `PPQN` (`Gen.ppqn`).  `TokTie.tokenise_eq'` with the
    time-signature condition moved to the input messages. -/
theorem tokenise_eq_in (o : TokObj) (rels : List (List Msg)) (d : List (String × Int))
    (hlen : (rels.length : Int) = o.numTracks)
    (hd : (stOfDict o d).tsDen ≠ 0) (hn : 0 ≤ o.ppqn * 4 * (stOfDict o d).tsNum) (hts : TsInOk o.ppqn rels) :
    tokenise o (rels.map LSeq.rel) true true (some d) =
      liftE (fun r => (writeSt d r.2, r.1.map render))
        (tokeniseCore (cfgOf o) (stOfDict o d) (extract Gen.ppqn rels)) :=
  tokenise_eq' o rels d hlen hd hn (tsEvOk_of_input _ _ rels hts)

/-- **THE TIE IN THE FORM THE PROPERTY THEOREMS USE** (closes C6, first bullet): for tracks with non-negative waits and no
    INTERNAL message (`OkRel`, assumed by every C01 / C03 theorem) the generated `tokenise` is the hand model `tokeniseCore` of
    the object's configuration applied to `extract (cfgOf o).ppqn rels` — the tokeniser's OWN `ppqn`, for any value of it.
    Other hypotheses as in `TokTie.tokenise_eq` (`hlen`, `hd`, `hn`), `hts` on the input messages. -/
theorem tokenise_eq_gen (o : TokObj) (rels : List (List Msg)) (d : List (String × Int))
    (hok : ∀ t ∈ rels, OkRel t) (hlen : (rels.length : Int) = o.numTracks)
    (hd : (stOfDict o d).tsDen ≠ 0) (hn : 0 ≤ o.ppqn * 4 * (stOfDict o d).tsNum) (hts : TsInOk o.ppqn rels) :
    tokenise o (rels.map LSeq.rel) true true (some d) =
      liftE (fun r => (writeSt d r.2, r.1.map render))
        (tokeniseCore (cfgOf o) (stOfDict o d) (extract (cfgOf o).ppqn rels)) := by
  rw [TokPpqnL.extract_ppqn_irrel (cfgOf o).ppqn Gen.ppqn rels hok]
  exact tokenise_eq_in o rels d hlen hd hn hts

/-- stateless call (`state_dict=None`), general `ppqn` -/
theorem tokenise_fresh_gen (o : TokObj) (rels : List (List Msg))
    (hok : ∀ t ∈ rels, OkRel t) (hlen : (rels.length : Int) = o.numTracks) (hp : 0 ≤ o.ppqn) (hts : TsInOk o.ppqn rels) :
    tokenise o (rels.map LSeq.rel) true true none =
      liftE (fun r => (writeSt [] r.2, r.1.map render))
        (tokeniseCore (cfgOf o) (TokSt.init (cfgOf o)) (extract (cfgOf o).ppqn rels)) := by
  rw [TokPpqnL.extract_ppqn_irrel (cfgOf o).ppqn Gen.ppqn rels hok]
  exact tokenise_fresh' o rels hlen hp (tsEvOk_of_input _ _ rels hts)

/-! #### the hypothesis `OkRel` is needed: a negative wait makes the mix observable -/

/-- a track that starts with a NEGATIVE wait: the note-on is at tick -6, its note-off at -4.  `to_relative_sequence` clamps both
    to tick 0, the re-sort of `to_absolute_sequence` then puts the note-off first, and the note-on is unclosed when the pairings
    are read: it gets the imputed length `standard_length`. -/
def negTracks : List (List Msg) :=
  [[Msg.mkWait 0 (-6), Msg.mkOn 0 60 64 pyNone, Msg.mkWait 0 2, Msg.mkOff 0 60 pyNone, Msg.mkWait 0 16]]

/-- the unrestricted statement (kept as a `def`) -/
def extract_ppqn_statement : Prop := ∀ (p q : Int) (tracks : List (List Msg)), extract p tracks = extract q tracks

/-- … is false: on `negTracks` the imputed note-off stands at 24 resp. 48.  Replayed on /repo: on the merged
    `negTracks`, `get_interleaved_message_pairings(standard_length=24)` gives the note `[0, 24)`, `standard_length=48` the note `[0, 48)`. -/
theorem extract_ppqn_statement_false : ¬ extract_ppqn_statement := by
  intro h
  have := h 24 48 negTracks
  revert this
  decide +kernel

/-- a tokeniser with `ppqn = 48` (`step_sizes=[12, 24, 48]`, `note_values=[24, 48, 96]`, otherwise the defaults) -/
def tk48 : TokObj := initObj (some 48) 1 (21, 108) (some [12, 24, 48]) (some [24, 48, 96]) [127] (2, 16) true true true true true

/-- FINDING (domain: a negative wait, outside `OkRel`): what the CODE does on `negTracks` with `ppqn = 48` — note value 24, the
    module constant (replayed on /repo: `Tokeniser(ppqn=48, step_sizes=[12,24,48], note_values=[24,48,96]).tokenise([negTracks])`
    = `['trk_00-pit_060-val_24-vel_127', 'rst_12', 'rst_48', 'rst_48', 'rst_48', 'rst_24', 'rst_12', 'bar']`, as computed here
    from the generated code through `TokTie.tokenise_fresh'`) — against the hand model on `extract c.ppqn`: note value 48. -/
theorem negwait_code_vs_model :
    tokenise tk48 (negTracks.map LSeq.rel) true true none =
        .ok ([("cur_time", 192), ("cur_time_bar", 0), ("cur_time_signature_numerator", 8), ("cur_time_signature_denominator", 8),
              ("cur_bar_capacity_remaining", 192), ("prv_track", 0), ("prv_value", 24), ("prv_velocity", 127)],
             ["trk_00-pit_060-val_24-vel_127", "rst_12", "rst_48", "rst_48", "rst_48", "rst_24", "rst_12", "bar"])
    ∧ (tokeniseCore (cfgOf tk48) (TokSt.init (cfgOf tk48)) (extract (cfgOf tk48).ppqn negTracks)).map (·.1.map render) =
        .ok ["trk_00-pit_060-val_48-vel_127", "rst_12", "rst_48", "rst_48", "rst_48", "rst_24", "rst_12", "bar"] := by
  constructor
  · rw [tokenise_fresh' tk48 negTracks rfl (by decide)
      (tsEvOk_of_input _ _ _ (by decide))]
    decide +kernel
  · decide +kernel

/-- non-vacuity of `tokenise_fresh_gen` at `ppqn = 48`: a valid one-track piece (a half note, a half rest, a whole note) satisfies
    all hypotheses, and the conclusion evaluates to the tokens the real code returns (replayed on /repo:
    `['trk_00-pit_060-val_48-vel_127', 'rst_48', 'rst_48', 'trk_00-pit_062-val_96-vel_127', 'rst_48', 'rst_48', 'bar']`) -/
def goodTracks : List (List Msg) :=
  [[Msg.mkOn 0 60 64 pyNone, Msg.mkWait 0 48, Msg.mkOff 0 60 pyNone, Msg.mkWait 0 48, Msg.mkOn 0 62 64 pyNone, Msg.mkWait 0 96,
    Msg.mkOff 0 62 pyNone]]

example : (∀ t ∈ goodTracks, OkRel t) ∧ (goodTracks.length : Int) = tk48.numTracks ∧ 0 ≤ tk48.ppqn ∧ TsInOk tk48.ppqn goodTracks
    ∧ tokenise tk48 (goodTracks.map LSeq.rel) true true none =
        .ok ([("cur_time", 192), ("cur_time_bar", 0), ("cur_time_signature_numerator", 8), ("cur_time_signature_denominator", 8),
              ("cur_bar_capacity_remaining", 192), ("prv_track", 0), ("prv_value", 96), ("prv_velocity", 127)],
             ["trk_00-pit_060-val_48-vel_127", "rst_48", "rst_48", "trk_00-pit_062-val_96-vel_127", "rst_48", "rst_48", "bar"]) := by
  refine ⟨by decide, rfl, by decide, by decide, ?_⟩
  rw [tokenise_fresh_gen tk48 goodTracks (by decide) rfl (by decide) (by decide)]
  decide +kernel

/-! ### 2. the call flags

  `flag_running_time_signature=False` is not implemented by the source (line 82: `raise NotImplementedError()`).  The hand model
  `tokeniseCore` / `applyRest` has NO `insert_bar_token` parameter (it always emits the bar token): the property theorems C01 / C03
  are about the DEFAULT call flags only; `tokenise_defaults` shows that the flags at which the tie is stated are the defaults of
  the signature as written in the source (`Gen.Tok.defaults`, read from the AST on every run).  Props/TokTie3.lean ties the
  generated `tokenise` for BOTH values of `insert_bar_token`: `False` is the default call with the bar tokens deleted, same state
  (`TokTie3.tokenise_eq_flag`, `tokenise_no_bar`). -/

/-- `flag_running_time_signature=False`: NotImplementedError, whatever the other arguments -/
theorem tokenise_not_running (o : TokObj) (tracks : List LSeq) (ibt : Bool) (d : Option (List (String × Int))) :
    tokenise o tracks ibt false d = .error .notImplementedError := rfl

/-- the flags of `tokenise_eq(')`, `tokenise_fresh(')`, `tokenise_eq_gen` — `insert_bar_token = true`,
    `flag_running_time_signature = true`, and `state_dict = None` for the `_fresh` forms — are the defaults of the signature -/
theorem tokenise_defaults :
    "tokenise(insert_bar_token=True)" ∈ Gen.Tok.defaults ∧ "tokenise(flag_running_time_signature=True)" ∈ Gen.Tok.defaults
    ∧ "tokenise(state_dict=None)" ∈ Gen.Tok.defaults := by decide +kernel


/-- the tokens `tokeniseCore` emits on events whose channels are track indices satisfy the side condition `TokOkD` of the
    `detokenise` tie (they are vocabulary tokens: `Tokenise.tokeniseCore_closed`), for a configuration with natural-number fields -/
theorem tokens_okD (c : Cfg) (hc : CfgOk c) (hlo : 0 ≤ c.pitchLo) (hts : 0 ≤ c.tsLo) (st st' : TokSt)
    (evs : List (Int × Pairing)) (toks : List Tok)
    (hch : ∀ ev ∈ evs, ∀ m ∈ ev.2.head?, 0 ≤ m.ch ∧ m.ch < (c.numTracks : Int))
    (h : tokeniseCore c st evs = .ok (toks, st')) : ∀ t ∈ toks, TokOkD c.ppqn t := by
  intro t ht
  have hv := Tokenise.tokeniseCore_closed c hc.def_eq st st' evs toks hch h t ht
  have hnn : CfgNonneg c :=
    { steps := fun x hx => Int.le_of_lt (hc.steps_pos x hx), values := hc.values_nonneg, bins := hc.bins_nonneg,
      pitchLo := hlo, tsLo := hts, defDen := Int.le_of_lt hc.def_pos }
  refine ⟨vocab_tokOk c hnn t hv, ?_⟩
  intro a b e
  subst e
  obtain ⟨⟨h1, _⟩, rfl⟩ := Vocab.tsig_mem.1 hv
  refine ⟨hc.def_pos, ?_⟩
  have hp := hc.ppqn_pos
  have ha : 0 ≤ a := by omega
  have : 0 ≤ c.ppqn * 4 := by omega
  exact Int.mul_nonneg this ha

/-- **C01's note round trip (`C01c.roundtrip_piece`) about the TRANSLATED code** — the composition of the tie with a property
    theorem, for ANY `ppqn > 0` (closes C6, first bullet).  For a tokeniser object `o` (as `__init__` builds it) whose hand-model
    configuration satisfies the side conditions of C01 (`CfgOk`, `GridOk`, default bar on the grid, non-decreasing bins,
    natural-number pitch / signature ranges, at least one track) and every VALID piece `rels` (`C01c.ValidCore`, input level):
    the generated `tokenise` (default flags, `state_dict=None`) succeeds with some strings `strs`; the generated `detokenise`
    accepts `strs` and returns one sequence per track; and the notes of sequence `i` — read off its absolute messages by the
    independent `notesOf ∘ eventsAbs` — are exactly the notes of track `i` with each velocity replaced by the value of its bin. -/
theorem tokenise_roundtrip_gen (o : TokObj) (hc : CfgOk (cfgOf o)) (hnt : 0 < o.numTracks)
    (hlo : 0 ≤ o.pitchRange.1) (hts : 0 ≤ o.timeSignatureRange.1) (hbins : o.velocityBins.Pairwise (· ≤ ·))
    (g : Int) (hg : GridOk (cfgOf o) g)
    (hdef : (cfgOf o).capacity (cfgOf o).defNum (cfgOf o).defDen % g = 0)
    (rels : List (List Msg)) (hv : C01c.ValidCore (cfgOf o) g rels) :
    ∃ (d : List (String × Int)) (strs : List String) (seqs : List (List Msg)),
      tokenise o (rels.map LSeq.rel) true true none = .ok (d, strs)
      ∧ Gen.Tok.detokenise o strs = .ok (seqs.map LSeq.abs)
      ∧ seqs.length = (cfgOf o).numTracks
      ∧ ∀ (i : Nat) (r s : List Msg), rels[i]? = some r → seqs[i]? = some s →
          (notesOf (eventsAbs s)).Perm
            ((trackNotes i r).map (fun n => { n with ch := 0, vel := binValue (cfgOf o).bins n.vel })) := by
  have hn : 0 < (cfgOf o).numTracks := by show 0 < o.numTracks.toNat; omega
  obtain ⟨toks, st', seqs, h1, h2, h3, h4⟩ := C01c.roundtrip_piece (cfgOf o) hc hn hbins g hg hdef rels hv
  have hok := hv.okRel
  have hlen : (rels.length : Int) = o.numTracks := by
    have := hv.1
    show ((rels.length : Nat) : Int) = o.numTracks
    rw [this]; show ((o.numTracks.toNat : Nat) : Int) = o.numTracks; omega
  have hp : 0 ≤ o.ppqn := Int.le_of_lt hc.ppqn_pos
  have htsin : TsInOk o.ppqn rels := by
    intro t ht m hm hty
    obtain ⟨i, hi⟩ := List.getElem?_of_mem ht
    obtain ⟨e, he, e1, e2, e3⟩ := msg_event t 0 m hm (by rw [hty]; decide)
    obtain ⟨-, -, -, hsigs, -⟩ := hv.track hi
    obtain ⟨_, hs⟩ := hsigs e he (e1.trans hty)
    rw [← e2, ← e3]
    have hd := hs.1
    have hnum := hs.2.1
    refine ⟨by omega, ?_⟩
    have : 0 ≤ o.ppqn * 4 := by omega
    exact Int.mul_nonneg this (Int.le_of_lt hnum)
  have hch := (C01c.valid_tracks_evsOk (cfgOf o) g rels hv).chans
  have htoks := tokens_okD (cfgOf o) hc hlo hts _ st' _ toks hch h1
  refine ⟨writeSt [] st', toks.map render, seqs, ?_, ?_, h3, h4⟩
  · rw [tokenise_fresh_gen o rels hok hlen hp htsin, h1]; rfl
  · rw [detokenise_eq o toks hp htoks, h2]; rfl

/-- non-vacuity of `tokenise_roundtrip_gen` at `ppqn = 48`: the object `tk48` and the piece `goodTracks` (grid 12) satisfy every
    hypothesis -/
example : CfgOk (cfgOf tk48) ∧ 0 < tk48.numTracks ∧ 0 ≤ tk48.pitchRange.1 ∧ 0 ≤ tk48.timeSignatureRange.1
    ∧ tk48.velocityBins.Pairwise (· ≤ ·) ∧ GridOk (cfgOf tk48) 12
    ∧ (cfgOf tk48).capacity (cfgOf tk48).defNum (cfgOf tk48).defDen % 12 = 0 ∧ C01c.ValidCore (cfgOf tk48) 12 goodTracks := by
  refine ⟨⟨by decide, by decide, by decide, by decide, by decide, by decide⟩, by decide, by decide, by decide, by decide,
    ⟨by decide, by decide, by decide, by decide, by decide⟩, by decide, by decide +kernel⟩

/-! ### 4. `__init__` for EVERY `velocity_bins` (audit round 4, item C2)

  The link for `get_velocity_bins` is the translated function (`TokLib.linkVelocityBinsFn`, Model/TokLib3.lean), which succeeds
  for every `n ≠ 0` (`TokLib3L.linkVelocityBinsFn_eq`): the translated `__init__` succeeds for EVERY argument list with
  `velocity_bins ≠ 0`, so the conditional theorems `TokTie.tokInit_nodup / _sorted / _cfgWF / _cfg` ("every constructible
  tokeniser") are not silent outside 1..64.  `velocity_bins = 0`: ZeroDivisionError, as in the source. -/

/-- the translated constructor for every `velocity_bins ≠ 0`: it SUCCEEDS; the object is `initObj` with the bins
    `velocityBinsInt vb` (= the hand transcription `getVelocityBinsPy 127 vb` of the C11 theorems, read as ints; `vb.toNat` of
    them) and the rendered vocabulary `vocabSeq` of its hand-model configuration -/
theorem tokInit_eq_any (ppqn : Option Int) (numTracks : Int) (pitchRange : Int × Int) (stepSizes noteValues : Option (List Int))
    (vb : Int) (tsRange : Int × Int) (running fuseTrk fuseVal fuseVel simplify : Bool) (hvb : vb ≠ 0) :
    tokInit ppqn numTracks pitchRange stepSizes noteValues vb tsRange running fuseTrk fuseVal fuseVel simplify =
      .ok (finish (pushAll
        (initObj ppqn numTracks pitchRange stepSizes noteValues (velocityBinsInt vb) tsRange running fuseTrk fuseVal fuseVel simplify)
        ((vocabSeq (cfgOf (initObj ppqn numTracks pitchRange stepSizes noteValues (velocityBinsInt vb) tsRange running fuseTrk
          fuseVal fuseVel simplify))).map render))) := by
  rw [tokInit_eq', linkVelocityBinsFn_eq vb hvb]

/-- `velocity_bins = 0`: ZeroDivisionError for every other argument (replayed on /repo: `Tokeniser(velocity_bins=0)` raises
    `ZeroDivisionError: division by zero`, from `round(velocity_max / velocity_bins)`, util.py:31) -/
theorem tokInit_zero (ppqn : Option Int) (numTracks : Int) (pitchRange : Int × Int) (stepSizes noteValues : Option (List Int))
    (tsRange : Int × Int) (running fuseTrk fuseVal fuseVel simplify : Bool) :
    tokInit ppqn numTracks pitchRange stepSizes noteValues 0 tsRange running fuseTrk fuseVal fuseVel simplify
      = .error .zeroDivisionError := by
  rw [tokInit_eq']; rfl

/-- **EVERY argument list with `velocity_bins ≠ 0` is constructible**, and the constructed tokeniser has duplicate-free, strictly
    ascending step sizes and note values with exactly the entries passed (the conclusions of `TokTie.tokInit_nodup` /
    `tokInit_sorted`, without their condition), `vb.toNat` velocity bins, and the configuration of `initObj` -/
theorem tokInit_total (ppqn : Option Int) (numTracks : Int) (pitchRange : Int × Int) (stepSizes noteValues : Option (List Int))
    (vb : Int) (tsRange : Int × Int) (running fuseTrk fuseVal fuseVel simplify : Bool) (hvb : vb ≠ 0) :
    ∃ o, tokInit ppqn numTracks pitchRange stepSizes noteValues vb tsRange running fuseTrk fuseVal fuseVel simplify = .ok o
      ∧ (cfgOf o).steps.Nodup ∧ (cfgOf o).values.Nodup
      ∧ ((cfgOf o).steps.Pairwise (· < ·) ∧ ∀ a, a ∈ (cfgOf o).steps ↔ a ∈ stepSizes.getD Gen.defaultStepSizesShift1)
      ∧ ((cfgOf o).values.Pairwise (· < ·) ∧ ∀ a, a ∈ (cfgOf o).values ↔ a ∈ noteValues.getD Gen.defaultNoteValues)
      ∧ o.velocityBins = velocityBinsInt vb ∧ o.velocityBins.length = vb.toNat := by
  obtain ⟨o, h⟩ : ∃ o, tokInit ppqn numTracks pitchRange stepSizes noteValues vb tsRange running fuseTrk fuseVal fuseVel simplify = .ok o :=
    ⟨_, tokInit_eq_any ppqn numTracks pitchRange stepSizes noteValues vb tsRange running fuseTrk fuseVal fuseVel simplify hvb⟩
  obtain ⟨bins, hb, hc⟩ := tokInit_cfg _ _ _ _ _ _ _ _ _ _ _ _ o h
  rw [linkVelocityBinsFn_eq vb hvb] at hb
  cases hb
  have hbins : o.velocityBins = velocityBinsInt vb := congrArg Cfg.bins hc
  have hn := tokInit_nodup _ _ _ _ _ _ _ _ _ _ _ _ o h
  have hs := tokInit_sorted _ _ _ _ _ _ _ _ _ _ _ _ o h
  exact ⟨o, h, hn.1, hn.2, hs.1, hs.2, hbins, by rw [hbins, velocityBinsInt_length]⟩

/-- `C02.CfgWF` for EVERY constructible tokeniser: for every argument list with `velocity_bins ≠ 0` the constructor succeeds and
    the configuration is `CfgWF` as soon as `get_velocity_bins(vb)` has distinct bins — a decidable condition on the NUMBER `vb`
    alone (finding D16b: for some counts the function repeats 127; then `dictionary_size` overcounts, see the example below) -/
theorem tokInit_cfgWF_any (ppqn : Option Int) (numTracks : Int) (pitchRange : Int × Int) (stepSizes noteValues : Option (List Int))
    (vb : Int) (tsRange : Int × Int) (running fuseTrk fuseVal fuseVel simplify : Bool) (hvb : vb ≠ 0)
    (hb : (velocityBinsInt vb).Nodup) :
    ∃ o, tokInit ppqn numTracks pitchRange stepSizes noteValues vb tsRange running fuseTrk fuseVal fuseVel simplify = .ok o
      ∧ C02.CfgWF (cfgOf o) := by
  obtain ⟨o, h, _, _, _, _, hbins, _⟩ :=
    tokInit_total ppqn numTracks pitchRange stepSizes noteValues vb tsRange running fuseTrk fuseVal fuseVel simplify hvb
  exact ⟨o, h, tokInit_cfgWF _ _ _ _ _ _ _ _ _ _ _ _ o h (by rw [hbins]; exact hb)⟩

/-- the counts the audit names: 100 bins are distinct (Python: `dictionary_size == len(dictionary) == 79227`); 65 and 128 bins
    repeat 127 (Python, 65: `dictionary_size 51507`, `len(dictionary) 49923`; 128: 101403 / 100611) — D16b, a defect of
    `get_velocity_bins`, INSIDE the scope of the theorems; a negative count gives a tokeniser without bins -/
example : (velocityBinsInt 100).Nodup ∧ ¬ (velocityBinsInt 65).Nodup ∧ ¬ (velocityBinsInt 128).Nodup
    ∧ (velocityBinsInt 65).length = 65 ∧ velocityBinsInt (-1) = [] ∧ velocityBinsInt 4 = [48, 80, 112, 127] := by
  -- `Nodup` decided on the unevaluated list would compute every bin once per comparison: 100 bins are 1 … 100
  have h100 : velocityBinsInt 100 = (List.range 100).map (fun i : Nat => (i : Int) + 1) := by decide +kernel
  refine ⟨?_, ?_, ?_, velocityBinsInt_length 65, by decide +kernel, by decide +kernel⟩
  · rw [h100]
    exact List.Pairwise.map _ (fun a b h => by omega) List.nodup_range
  · exact not_nodup_of_getElem? (i := 63) (j := 64) (a := 127) (by decide) (by decide +kernel) (by decide +kernel)
  · exact not_nodup_of_getElem? (i := 126) (j := 127) (a := 127) (by decide) (by decide +kernel) (by decide +kernel)

end SCoda.TokTie2
