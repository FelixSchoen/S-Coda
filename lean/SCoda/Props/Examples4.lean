/-
  Audit round 4, item C7 (non-vacuity), part 1: C12c / C12n.

  For every theorem listed there with ≥ 3 hypotheses and no (or only a trivial) example, a concrete NON-TRIVIAL input that
  satisfies ALL hypotheses together, and the conclusion obtained / evaluated on it.  No new property is claimed here.
-/
import SCoda.Props.C12c
namespace SCoda.Examples4
open SCoda SCoda.C13 SCoda.C13b SCoda.C12n SCoda.C12c SCoda.WrapTie SCoda.MidoCodecL SCoda.E2E

/-- track 0: 3/4 in D (key index 2), a control change, a note on channel 0 over [0,24), a note on channel 1 over [24,36),
    then 4/4 in E (key index 4) at tick 36 and a third note over [36,48) -/
def trkA : List Msg :=
  [Msg.mkTimeSig 0 3 4 pyNone, { ty := .keySignature, key := 2 }, { ty := .controlChange, ctl := 64, vel := 100 },
   Msg.mkOn 0 60 90 pyNone, Msg.mkWait 0 24, Msg.mkOff 0 60 pyNone, Msg.mkOn 1 62 80 pyNone, Msg.mkWait 0 12, Msg.mkOff 1 62 pyNone,
   Msg.mkTimeSig 0 4 4 pyNone, { ty := .keySignature, key := 4 }, Msg.mkOn 0 65 70 pyNone, Msg.mkWait 0 12, Msg.mkOff 0 65 pyNone]
/-- track 1: one note on channel 1 -/
def trkB : List Msg := [Msg.mkOn 1 64 70 pyNone, Msg.mkWait 1 36, Msg.mkOff 1 64 pyNone]

theorem trkA_savedX : SavedX trkA :=
  ⟨⟨by unfold NonNegWaits; decide +kernel, by decide +kernel⟩, by decide +kernel, by decide +kernel, by unfold C15.PosDur; decide +kernel, by decide +kernel,
    by decide +kernel, by unfold C15.PosDur; decide +kernel⟩

theorem trkB_savedX : SavedX trkB :=
  ⟨⟨by unfold NonNegWaits; decide +kernel, by decide +kernel⟩, by decide +kernel, by decide +kernel, by unfold C15.PosDur; decide +kernel, by decide +kernel,
    by decide +kernel, by unfold C15.PosDur; decide +kernel⟩

theorem trks_savedX : ∀ r ∈ [trkA, trkB], SavedX r :=
  List.forall_mem_cons.2 ⟨trkA_savedX, List.forall_mem_singleton.2 trkB_savedX⟩

theorem trks_keysOk : ∀ r ∈ [trkA, trkB], KeysOk r := by unfold KeysOk; decide

/-- the input is not `Saved` (two channels in `trkA`): it is in the widened class only -/
example : ¬ Saved trkA :=
  not_saved_of_channels (Msg.mkOn 0 60 90 pyNone) (Msg.mkOn 1 62 80 pyNone) (by decide) (by decide)
    (Or.inl rfl) (Or.inl rfl) (by decide)

/-- all five hypotheses of `C12c.save_load_sounding_gen` together (ppqn 24; `readRels` of the two fresh sequences; `SavedX`;
    `KeysOk` with two key signatures; non-empty), and its conclusion on this input -/
theorem ex_save_load_sounding_gen :
    ∃ f written, Gen.Static.sequencesSave genEnv [Seq.ofRel trkA, Seq.ofRel trkB] () = .ok f ∧ midiFileSave genEnv.ppqn f = .ok written ∧
      ∀ read, ReadBack written read →
        ∃ out, Gen.Static.sequencesLoad genEnv (some read) none none none 0 = .ok out ∧ out.length = [trkA, trkB].length ∧
          ∀ (i : Nat) (r : List Msg) (s s' : Seq) (a : List Msg), [trkA, trkB][i]? = some r → out[i]? = some s → s.readAbs = Except.ok (s', a) →
            ∀ p t, SoundingAt (eventsAbs a) (0, p) t ↔ ∃ c, SoundingAt (eventsRel r) (c, p) t :=
  save_load_sounding_gen genEnv (by decide) [Seq.ofRel trkA, Seq.ofRel trkB] [trkA, trkB] rfl trks_savedX trks_keysOk (by simp)

/-- all four hypotheses of `C12c.save_load_notes_gen` together -/
theorem ex_save_load_notes_gen :
    ∃ f written, Gen.Static.sequencesSave genEnv [Seq.ofRel trkA, Seq.ofRel trkB] () = .ok f ∧ midiFileSave genEnv.ppqn f = .ok written ∧
      ∀ read, ReadBack written read → ∀ out, Gen.Static.sequencesLoad genEnv (some read) none none none 0 = .ok out →
        ∀ (i : Nat) (r : List Msg) (s s' : Seq) (a : List Msg), [trkA, trkB][i]? = some r → out[i]? = some s → s.readAbs = Except.ok (s', a) →
          (notesOf (eventsAbs a)).Perm ((notesOf (eventsRel r)).map (fun n => { n with ch := 0 })) :=
  save_load_notes_gen genEnv (by decide) [Seq.ofRel trkA, Seq.ofRel trkB] [trkA, trkB] rfl trks_savedX trks_keysOk

set_option maxRecDepth 100000 in
/-- the conclusion evaluated by the kernel through the whole translated chain (save, `midiFileSave`, mido's `end_of_track`, load):
    the notes of the two loaded sequences are those saved, on channel 0 -/
example :
    (fun (out : List Seq) => out.map (fun (s : Seq) => notesOf (eventsAbs s.abs))) <$>
    (do let f ← Gen.Static.sequencesSave genEnv [Seq.ofRel trkA, Seq.ofRel trkB] ()
        let written ← midiFileSave genEnv.ppqn f
        Gen.Static.sequencesLoad genEnv (some (readBack0 written)) none none none 0) =
    .ok [[{ ch := 0, pitch := 60, on := 0, off := 24, vel := 90 }, { ch := 0, pitch := 62, on := 24, off := 36, vel := 80 },
          { ch := 0, pitch := 65, on := 36, off := 48, vel := 70 }],
         [{ ch := 0, pitch := 64, on := 0, off := 36, vel := 70 }]] := by decide +kernel

example : (notesOf (eventsRel trkA)).map (fun n => { n with ch := 0 }) =
    [{ ch := 0, pitch := 60, on := 0, off := 24, vel := 90 }, { ch := 0, pitch := 62, on := 24, off := 36, vel := 80 },
     { ch := 0, pitch := 65, on := 36, off := 48, vel := 70 }] := by decide +kernel

/-! ### the signatures in force (7 hypotheses each), on an input WITH signatures -/

theorem trks_ts_present : ∀ r ∈ [trkA, trkB], ∀ m ∈ r, m.ty = .timeSignature → (m.num, m.den) ≠ (pyNone, pyNone) := by decide +kernel
theorem trks_ks_present : ∀ r ∈ [trkA, trkB], ∀ m ∈ r, m.ty = .keySignature → m.key ≠ pyNone := by decide +kernel

/-- the absolute view of loaded sequence 0: both time signatures and both key signatures are there (time, numerator, denominator, key) -/
theorem loaded0 :
    (fun (out : List Seq) => (out.map (fun (s : Seq) => (s.abs.filter (fun m => m.ty == .timeSignature || m.ty == .keySignature)).map
      (fun m => (m.time, m.num, m.den, m.key))))) <$> saveLoad 24 [trkA, trkB] =
    .ok [[(0, -1, -1, 2), (0, 3, 4, -1), (36, -1, -1, 4), (36, 4, 4, -1)], []] := by
  decide +kernel

/-- all seven hypotheses of `C12n.save_load_time_signature_in_forceX` together on the input with two time signatures, at every
    tick `t ≥ 0`, for whatever the load returns -/
theorem ex_time_signature_in_forceX (out : List Seq) (h : saveLoad 24 [trkA, trkB] = .ok out)
    (s s' : Seq) (a : List Msg) (ho : out[0]? = some s) (ha : s.readAbs = Except.ok (s', a)) (t : Int) (ht : 0 ≤ t) :
    (latest .timeSignature (eventsAbs a) t).map tsVal
      = (latest .timeSignature (dfltSig .timeSignature ++ [trkA, trkB].flatMap eventsRel) t).map tsVal :=
  save_load_time_signature_in_forceX 24 (by decide) [trkA, trkB] trks_savedX trks_ts_present out h s s' a ho ha t ht

theorem ex_key_signature_in_forceX (out : List Seq) (h : saveLoad 24 [trkA, trkB] = .ok out)
    (s s' : Seq) (a : List Msg) (ho : out[0]? = some s) (ha : s.readAbs = Except.ok (s', a)) (t : Int) :
    (latest .keySignature (eventsAbs a) t).map keyVal
      = (latest .keySignature (dfltSig .keySignature ++ [trkA, trkB].flatMap eventsRel) t).map keyVal :=
  save_load_key_signature_in_forceX 24 (by decide) [trkA, trkB] trks_savedX trks_ks_present out h s s' a ho ha t

/-- the load of the example, its first sequence, the absolute view read from it -/
def firstAbs : Except Err (List Msg) := do
  let out ← saveLoad 24 [trkA, trkB]
  match out[0]? with
  | some s => (·.2) <$> s.readAbs
  | none => .error .indexError

/-- the left-hand sides evaluated on what the model loads: they agree with the right-hand sides below -/
theorem firstAbs_inforce :
    (fun a => ((latest .timeSignature (eventsAbs a) 10).map tsVal, (latest .timeSignature (eventsAbs a) 40).map tsVal,
               (latest .keySignature (eventsAbs a) 10).map keyVal, (latest .keySignature (eventsAbs a) 40).map keyVal)) <$> firstAbs
      = .ok (some (3, 4), some (4, 4), some 2, some 4) := by decide +kernel

/-- the existential hypotheses (`h`, `ho`, `ha`) are met: the load succeeds with a first sequence whose absolute view reads -/
theorem ex_forceX_inhabited : ∃ out s s' a, saveLoad 24 [trkA, trkB] = .ok out ∧ out[0]? = some s ∧ s.readAbs = Except.ok (s', a) := by
  have h := firstAbs_inforce
  unfold firstAbs at h
  cases hsl : saveLoad 24 [trkA, trkB] with
  | error x => rw [hsl] at h; cases h
  | ok out =>
    rw [hsl] at h
    simp only [WrapTie.ok_bind] at h
    cases ho : out[0]? with
    | none => rw [ho] at h; cases h
    | some s =>
      rw [ho] at h
      dsimp only at h
      cases hra : s.readAbs with
      | error x => rw [hra] at h; cases h
      | ok p => exact ⟨out, s, p.1, p.2, rfl, ho, hra⟩

/-- the right-hand side evaluated: 3/4 in force at tick 10, 4/4 at tick 40; key 2 at tick 10, key 4 at tick 40; the two differ,
    so the statement is exercised on a change of signature -/
example : ((latest .timeSignature (dfltSig .timeSignature ++ [trkA, trkB].flatMap eventsRel) 10).map tsVal,
           (latest .timeSignature (dfltSig .timeSignature ++ [trkA, trkB].flatMap eventsRel) 40).map tsVal,
           (latest .keySignature (dfltSig .keySignature ++ [trkA, trkB].flatMap eventsRel) 10).map keyVal,
           (latest .keySignature (dfltSig .keySignature ++ [trkA, trkB].flatMap eventsRel) 40).map keyVal)
    = (some (3, 4), some (4, 4), some 2, some 4) := by decide +kernel

end SCoda.Examples4

