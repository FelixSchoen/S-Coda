/-
  C11, layer 2 (of the three in `Props/C11.lean`) — no float reaches a tick.
  `Gen.taintFns` (regenerated from /repo on every run) lists, for every function of the modelled
  source files, its assignments, its *tick sinks* (stores into a `.time` field — and into any other attribute, since attribute reads are
  taken to be int-typed —, `time=` keyword
  arguments, the third positional argument of `Message`, every argument handed to a function defined in
  the modelled files (parameters are int-typed by the induction hypothesis, so arguments must be), the values returned by the duration / velocity-bin helpers, tick values formatted into
  tokens) and its return expressions — each as the variables read, whether a float-producing node
  (true division, `**` with an exponent not known to be non-negative, float literal, `float()`, `math.*`, `np.*`) occurs, and the functions called,
  all *outside* `int(…)`/`round(…)`.

  The typing rules: a variable is maybe-float if some assignment to it contains a float node, reads a
  maybe-float variable or calls a maybe-float-returning function; a function is maybe-float-returning
  if some return expression is.  The translator also emits a *certificate* — per function the set of
  maybe-float variables, and the set of maybe-float-returning functions.  It is not trusted: `cert_closed`
  kernel-checks that it is closed under every rule (so it contains the least solution, `least_le_cert`
  proves that for the iterative computation), and `no_float_reaches_a_tick` kernel-checks that under it
  no sink is maybe-float, for the current source.  (Computing the fixpoint inside the kernel takes
  minutes; checking a post-fixpoint is one linear pass.)

  Induction hypothesis built into the facts: attribute reads (`msg.time`, `msg.note`, settings) and
  parameters are int-typed — that is the property's own premise (integer-tick inputs, integer arguments).
  What is trusted: the typing rules of Python's numeric tower as encoded here (`+ - * // %` of ints are
  ints; `/` and `**` may produce floats; `int()`/`round()` return ints) and the translator's parse.
-/
import SCoda.Gen.TaintFacts
namespace SCoda.C11
open SCoda.Gen

def infoTainted (tv : List Nat) (ff : List Nat) (i : TaintInfo) : Bool :=
  i.2.1 || i.1.any (fun v => tv.contains v) || i.2.2.any (fun f => ff.contains f)

/-- the certificate is closed under the rules for this function -/
def closedFn (ff : List Nat) (fn : TaintFn) : Bool :=
  fn.assigns.all (fun a => !infoTainted fn.cert ff a.2 || fn.cert.contains a.1)
  && fn.returns.all (fun r => !infoTainted fn.cert ff r || ff.contains fn.name)

/-- no sink of this function is maybe-float under the certificate -/
def sinksClean (ff : List Nat) (fn : TaintFn) : Bool :=
  fn.sinks.all (fun s => !infoTainted fn.cert ff s.2)

theorem cert_closed : taintFns.all (closedFn taintFloatFns) = true := by decide +kernel

/-- **no float reaches a tick**, for the current source -/
theorem no_float_reaches_a_tick : taintFns.all (sinksClean taintFloatFns) = true := by decide +kernel

/-- the analysis is not vacuous: it sees the sinks, and the certificate must contain the float-returning helper -/
theorem sinks_seen : 40 ≤ (taintFns.map (fun f => f.sinks.length)).foldl (· + ·) 0 := by decide +kernel
theorem float_fn_found :
    taintFloatFns.contains (taintNames.idxOf "get_sequence_duration_relation") = true := by decide +kernel

/-- one round of the iterative analysis: variables newly tainted by the assignments -/
def varStep (ff : List Nat) (assigns : List (Nat × TaintInfo)) (tv : List Nat) : List Nat :=
  assigns.foldl (fun acc a => if !acc.contains a.1 && infoTainted acc ff a.2 then a.1 :: acc else acc) tv

def iter {α} (f : α → α) : Nat → α → α
  | 0, x => x
  | n + 1, x => iter f n (f x)

theorem iter_inv {α} {f : α → α} {P : α → Prop} (hf : ∀ x, P x → P (f x)) : ∀ n x, P x → P (iter f n x)
  | 0, _, h => h
  | n + 1, x, h => iter_inv hf n (f x) (hf x h)

theorem infoTainted_mono {tv tv' ff ff' : List Nat} (i : TaintInfo)
    (h1 : ∀ v ∈ tv, v ∈ tv') (h2 : ∀ f ∈ ff, f ∈ ff') (h : infoTainted tv ff i = true) :
    infoTainted tv' ff' i = true := by
  simp only [infoTainted, Bool.or_eq_true, List.any_eq_true, List.contains_iff_mem] at h ⊢
  rcases h with (h | ⟨v, hv, hv'⟩) | ⟨f, hf, hf'⟩
  · exact Or.inl (Or.inl h)
  · exact Or.inl (Or.inr ⟨v, hv, h1 v hv'⟩)
  · exact Or.inr ⟨f, hf, h2 f hf'⟩

/-- both rounds of the iterative analysis, `varStep` and `C11L.fnStep`, are folds of this shape -/
theorem foldl_addIf_subset {α} (name : α → Nat) (cond : List Nat → α → Bool) (C : List Nat) :
    ∀ (l : List α) (acc : List Nat),
      (∀ x ∈ l, ∀ acc, (∀ v ∈ acc, v ∈ C) → cond acc x = true → name x ∈ C) → (∀ v ∈ acc, v ∈ C) →
      ∀ v ∈ l.foldl (fun acc x => if !acc.contains (name x) && cond acc x then name x :: acc else acc) acc, v ∈ C
  | [], _, _, h => h
  | x :: l, acc, hx, h => by
    rw [List.foldl_cons]
    refine foldl_addIf_subset name cond C l _ (fun y hy => hx y (List.mem_cons_of_mem _ hy)) ?_
    split
    · rename_i hc
      simp only [Bool.and_eq_true] at hc
      exact List.forall_mem_cons.2 ⟨hx x List.mem_cons_self acc h hc.2, h⟩
    · exact h

theorem varStep_le (ff ff' cert : List Nat) (hff : ∀ f ∈ ff, f ∈ ff') (assigns : List (Nat × TaintInfo)) (tv : List Nat)
    (hc : ∀ a ∈ assigns, infoTainted cert ff' a.2 = true → a.1 ∈ cert) (htv : ∀ v ∈ tv, v ∈ cert) :
    ∀ v ∈ varStep ff assigns tv, v ∈ cert :=
  foldl_addIf_subset (fun a : Nat × TaintInfo => a.1) (fun acc a => infoTainted acc ff a.2) cert assigns tv
    (fun a ha _ hacc ht => hc a ha (infoTainted_mono a.2 hacc hff ht)) htv

/-- every variable the iterative analysis taints (with any float-function set below the certificate's)
    is in a certificate closed for these assignments -/
theorem least_le_cert (ff ff' cert : List Nat) (hff : ∀ f ∈ ff, f ∈ ff') (assigns : List (Nat × TaintInfo))
    (hc : ∀ a ∈ assigns, infoTainted cert ff' a.2 = true → a.1 ∈ cert) (n : Nat) :
    ∀ v ∈ iter (varStep ff assigns) n [], v ∈ cert :=
  iter_inv (P := fun tv => ∀ v ∈ tv, v ∈ cert) (fun tv h => varStep_le ff ff' cert hff assigns tv hc h) n [] (by simp)

end SCoda.C11
