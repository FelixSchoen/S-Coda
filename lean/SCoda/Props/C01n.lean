/-
  C01 (tokeniser round trip), the duration clause with the D15 carve-out narrowed — closes audit round 2, item A4a / F5
  ("`HasTail` is wider than the failing class of D15 for the duration clause"), row C01 of its section D table.

  `C01c.HasTail` carves out every piece in which a note extends beyond the first bar line at or after the last onset.
  But when the latest note end lies exactly ON the end of the last bar (4/4, one note [0,96); notes [0,96),[96,192)) the
  detokenised duration is right (replayed on the library: durations 96 and 192): D15 only shortens the duration when the
  latest note end is not the end of the last bar.  `duration_no_tail'` proves the clause outside the narrowed class
  `HasTail'` = `HasTail` ∧ "the latest note end is not the end of the last bar", for the duration of the piece — its longest
  returned sequence, which is what harness/props/C01.py checks; two sharper readings are FALSE, of the model and of the
  library (`duration_each_statement_false`, `duration_pieceEnd_statement_false`).
-/
import SCoda.Props.C01c
namespace SCoda.C01n
open SCoda SCoda.C01 SCoda.ExtractL SCoda.C01c

/-- the latest note end of the piece (`0` for a piece without notes) -/
def noteEnd (tracks : List (List Msg)) : Int := listMax ((pieceNotes tracks).map (·.off))

/-- **the failing class of D15 for the duration clause**: the piece is in `HasTail` (it does not end in a rest and a note
    extends beyond the first bar line at or after the last onset) AND its latest note end is not the end of the last bar.
    Input-level and decidable. -/
def HasTail' (c : Cfg) (tracks : List (List Msg)) : Prop :=
  HasTail c tracks ∧ noteEnd tracks ≠ lastBarEnd c tracks

instance (c : Cfg) (tracks : List (List Msg)) : Decidable (HasTail' c tracks) := by unfold HasTail'; infer_instance

theorem hasTail_of_hasTail' (c : Cfg) (tracks : List (List Msg)) (h : HasTail' c tracks) : HasTail c tracks := h.1

/-- **duration, upper bound, no carve-out** (audit round 2 A4a): for ALL valid pieces — D15's class included — no sequence
    returned by `detokenise` lasts longer than the end of the last bar -/
theorem duration_le (c : Cfg) (hc : CfgOk c) (hn : 0 < c.numTracks) (g : Int) (tracks : List (List Msg))
    (hv : ValidTracks c g tracks) (toks : List Tok) (st' : TokSt)
    (h : tokeniseCore c (TokSt.init c) (extract c.ppqn tracks) = .ok (toks, st')) :
    ∃ seqs, detokenise c toks = .ok seqs ∧ seqs.length = c.numTracks ∧
      ∀ (i : Nat) (s : List Msg), seqs[i]? = some s → durAbs s ≤ lastBarEnd c tracks := by
  have _ := hn
  obtain ⟨seqs, h1, h2, h3⟩ := seq_facts c hc g tracks hv toks st' h
  refine ⟨seqs, h1, h2, fun i s hs => ?_⟩
  obtain ⟨_, hle, _, _⟩ := h3 i s hs
  have h0 : 0 ≤ lastBarEnd c tracks := by
    obtain ⟨_, _, _, _, this, _⟩ := clock_facts c hc g tracks hv
    have := pieceEnd_nonneg tracks
    omega
  exact durAbs_le s _ h0 (fun m hm => (hle m hm).2)

/-- **duration, sequence by sequence** (closes audit round 2 A4a): sequence `i` returned by `detokenise` lasts exactly to
    the end of the last bar whenever the piece is outside D15's class `HasTail` OR some note of track `i` ends at the end of
    the last bar.  (Otherwise it may stop short: `duration_each_statement_false`.) -/
theorem duration_seq (c : Cfg) (hc : CfgOk c) (hn : 0 < c.numTracks) (g : Int) (tracks : List (List Msg))
    (hv : ValidTracks c g tracks) (toks : List Tok) (st' : TokSt)
    (h : tokeniseCore c (TokSt.init c) (extract c.ppqn tracks) = .ok (toks, st')) :
    ∃ seqs, detokenise c toks = .ok seqs ∧ seqs.length = c.numTracks ∧
      ∀ (i : Nat) (r s : List Msg), tracks[i]? = some r → seqs[i]? = some s →
        (¬ HasTail c tracks ∨ ∃ n ∈ trackNotes i r, n.off = lastBarEnd c tracks) → durAbs s = lastBarEnd c tracks := by
  have _ := hn
  obtain ⟨seqs, h1, h2, h3⟩ := seq_facts c hc g tracks hv toks st' h
  refine ⟨seqs, h1, h2, fun i r s hi hs hcase => ?_⟩
  obtain ⟨hsorted, hle, hnt, hoff⟩ := h3 i s hs
  refine durAbs_bounds s _ hsorted hle ?_
  rcases hcase with hno | ⟨n, hn', hnoff⟩
  · exact hnt hno
  · obtain ⟨m, hm, hmt⟩ := hoff r hi n hn'
    exact Or.inr ⟨m, hm, hmt.trans hnoff⟩

/-- **A4a — the duration clause on the exact complement of D15's failing class**: for valid tracks outside `HasTail'` (so:
    outside `HasTail`, or with the latest note end exactly on the end of the last bar) the duration of the detokenised piece
    is the end of the last bar `lastBarEnd`: no returned sequence lasts longer and one lasts exactly that long.  Closes audit
    round 2 item A4a / F5 (row C01): the whole-bar final note or chord without a final rest is covered. -/
theorem duration_no_tail' (c : Cfg) (hc : CfgOk c) (hn : 0 < c.numTracks) (g : Int) (tracks : List (List Msg))
    (hv : ValidTracks c g tracks) (hnt : ¬ HasTail' c tracks) (toks : List Tok) (st' : TokSt)
    (h : tokeniseCore c (TokSt.init c) (extract c.ppqn tracks) = .ok (toks, st')) :
    ∃ seqs, detokenise c toks = .ok seqs ∧ seqs.length = c.numTracks ∧
      (∀ (i : Nat) (s : List Msg), seqs[i]? = some s → durAbs s ≤ lastBarEnd c tracks) ∧
      ∃ (i : Nat) (s : List Msg), seqs[i]? = some s ∧ durAbs s = lastBarEnd c tracks := by
  obtain ⟨seqs, h1, h2, h3⟩ := seq_facts c hc g tracks hv toks st' h
  obtain ⟨seqs', h1', _, hub⟩ := duration_le c hc hn g tracks hv toks st' h
  cases h1.symm.trans h1'
  refine ⟨seqs, h1, h2, hub, ?_⟩
  have hlen : tracks.length = c.numTracks := hv.core.1
  have hget : ∀ i, i < c.numTracks → ∃ s, seqs[i]? = some s := fun i hi =>
    ⟨seqs[i]'(by omega), List.getElem?_eq_getElem (by omega)⟩
  have hzero : lastBarEnd c tracks = 0 → ∃ (i : Nat) (s : List Msg), seqs[i]? = some s ∧ durAbs s = lastBarEnd c tracks := by
    intro hz
    obtain ⟨s, hs⟩ := hget 0 hn
    obtain ⟨hsorted, hle, _, _⟩ := h3 0 s hs
    exact ⟨0, s, hs, durAbs_bounds s _ hsorted hle (Or.inl hz)⟩
  by_cases hT : HasTail c tracks
  · -- inside `HasTail`: the latest note end is the end of the last bar
    have hne : noteEnd tracks = lastBarEnd c tracks := by
      apply Classical.byContradiction
      intro hne; exact hnt ⟨hT, hne⟩
    obtain ⟨_, _, hmax⟩ := listMax_spec ((pieceNotes tracks).map (·.off))
    rcases hmax with hz | hmem
    · exact hzero (by rw [← hne]; exact hz)
    · obtain ⟨n, hnp, hoff⟩ := List.mem_map.1 hmem
      simp only [pieceNotes, List.mem_flatMap] at hnp
      obtain ⟨x, hx, hnx⟩ := hnp
      have hi : tracks[x.2]? = some x.1 := mem_zipIdx_get hx
      have hlt : x.2 < tracks.length := by
        rcases Nat.lt_or_ge x.2 tracks.length with h | h
        · exact h
        · rw [List.getElem?_eq_none h] at hi; cases hi
      obtain ⟨s, hs⟩ := hget x.2 (by omega)
      obtain ⟨hsorted, hle, _, hoffs⟩ := h3 x.2 s hs
      obtain ⟨m, hm, hmt⟩ := hoffs x.1 hi n hnx
      refine ⟨x.2, s, hs, durAbs_bounds s _ hsorted hle (Or.inr ⟨m, hm, ?_⟩)⟩
      rw [hmt, hoff]; exact hne
  · obtain ⟨s, hs⟩ := hget 0 hn
    obtain ⟨hsorted, hle, hno, _⟩ := h3 0 s hs
    exact ⟨0, s, hs, durAbs_bounds s _ hsorted hle (hno hT)⟩

/-- the one-track case (the audit's examples): the returned sequence lasts exactly to the end of the last bar -/
theorem duration_no_tail_single (c : Cfg) (hc : CfgOk c) (hn : c.numTracks = 1) (g : Int) (tracks : List (List Msg))
    (hv : ValidTracks c g tracks) (hnt : ¬ HasTail' c tracks) (toks : List Tok) (st' : TokSt)
    (h : tokeniseCore c (TokSt.init c) (extract c.ppqn tracks) = .ok (toks, st')) :
    ∃ s, detokenise c toks = .ok [s] ∧ durAbs s = lastBarEnd c tracks := by
  obtain ⟨seqs, h1, h2, _, i, s, hs, hd⟩ := duration_no_tail' c hc (by omega) g tracks hv hnt toks st' h
  rw [hn] at h2
  match seqs, h2 with
  | [s0], _ =>
    have hi : i = 0 := by
      rcases Nat.lt_or_ge i 1 with h | h
      · omega
      · rw [List.getElem?_eq_none (by simpa using h)] at hs; cases hs
    subst hi
    simp only [List.getElem?_cons_zero, Option.some.injEq] at hs
    subst hs
    exact ⟨s0, h1, hd⟩

/-- one track / two tracks, note values up to a whole 4/4 bar (96 ticks at 24 per quarter), one velocity bin -/
def nCfg1 : Cfg := { steps := [2, 3, 4, 6, 8, 12, 16, 24], values := [4, 6, 8, 9, 12, 16, 18, 24, 36, 48, 96], bins := [127] }
def nCfg2 : Cfg := { nCfg1 with numTracks := 2 }

/-- the audit's first example: one note [0,96), a whole bar, no final rest -/
def whole1 : List (List Msg) := [[Msg.mkOn 0 60 64 pyNone, Msg.mkWait 0 96, Msg.mkOff 0 60 pyNone]]
/-- the audit's second example: notes [0,96) and [96,192) -/
def whole2 : List (List Msg) :=
  [[Msg.mkOn 0 60 64 pyNone, Msg.mkWait 0 96, Msg.mkOff 0 60 pyNone, Msg.mkOn 0 62 64 pyNone, Msg.mkWait 0 96,
    Msg.mkOff 0 62 pyNone]]
/-- two tracks: a whole-bar note [0,96) and a short note [0,24), no final rests -/
def twoTr : List (List Msg) :=
  [[Msg.mkOn 0 60 64 pyNone, Msg.mkWait 0 96, Msg.mkOff 0 60 pyNone],
   [Msg.mkOn 1 62 64 pyNone, Msg.mkWait 1 24, Msg.mkOff 1 62 pyNone]]
/-- one note [0,48), a rest, and a key signature on the bar line 96 (so the piece does not end in a rest) -/
def keyEnd : List (List Msg) :=
  [[Msg.mkOn 0 60 64 pyNone, Msg.mkWait 0 48, Msg.mkOff 0 60 pyNone, Msg.mkWait 0 48, { ty := .keySignature, key := 3 }]]

/-- the durations of the detokenised sequences, for kernel evaluation -/
def durs (c : Cfg) (tracks : List (List Msg)) : Option (List Int) :=
  match tokeniseCore c (TokSt.init c) (extract c.ppqn tracks) with
  | .ok (toks, _) => (match detokenise c toks with
      | .ok seqs => some (seqs.map durAbs)
      | .error _ => none)
  | .error _ => none

theorem nCfg1_ok : CfgOk nCfg1 := by constructor <;> decide
theorem nCfg2_ok : CfgOk nCfg2 := by constructor <;> decide

/-- both of the audit's examples are valid pieces INSIDE `HasTail` (so `C01c.duration_no_tail` is silent) and OUTSIDE
    `HasTail'` (so `duration_no_tail'` applies); the end of the last bar is 96 resp. 192 … -/
example : ValidTracks nCfg1 2 whole1 ∧ HasTail nCfg1 whole1 ∧ ¬ HasTail' nCfg1 whole1 ∧ lastBarEnd nCfg1 whole1 = 96
    ∧ ValidTracks nCfg1 2 whole2 ∧ HasTail nCfg1 whole2 ∧ ¬ HasTail' nCfg1 whole2 ∧ lastBarEnd nCfg1 whole2 = 192 := by
  decide +kernel
/-- … and these are the detokenised durations (replayed on the library: 96 and 192) -/
example : durs nCfg1 whole1 = some [96] ∧ durs nCfg1 whole2 = some [192] := by decide +kernel

/-- D15's own examples stay excluded -/
example : HasTail' d15Cfg d15Tracks ∧ HasTail' d15Cfg a5Tracks := by decide +kernel

/-- the two-track piece is outside `HasTail'` as well: its longest sequence lasts to the end of the last bar, the other
    one does not (replayed on the library: durations 96 and 24) -/
example : ValidTracks nCfg2 2 twoTr ∧ HasTail nCfg2 twoTr ∧ ¬ HasTail' nCfg2 twoTr ∧ lastBarEnd nCfg2 twoTr = 96
    ∧ durs nCfg2 twoTr = some [96, 24] := by decide +kernel

/-- "outside `HasTail'` EVERY returned sequence lasts to the end of the last bar" (the per-sequence form of
    `C01c.duration_no_tail` with the narrowed carve-out) — FALSE, see `duration_each_statement_false`; the true per-sequence
    statement is `duration_seq` -/
def duration_each_statement : Prop :=
  ∀ (c : Cfg) (_ : CfgOk c) (_ : 0 < c.numTracks) (g : Int) (tracks : List (List Msg)) (_ : ValidTracks c g tracks)
    (_ : ¬ HasTail' c tracks) (toks : List Tok) (st' : TokSt)
    (_ : tokeniseCore c (TokSt.init c) (extract c.ppqn tracks) = .ok (toks, st')),
    ∃ seqs, detokenise c toks = .ok seqs ∧
      ∀ (i : Nat) (s : List Msg), seqs[i]? = some s → durAbs s = lastBarEnd c tracks

/-- two tracks, notes [0,96) and [0,24): sequence 1 lasts 24 ticks, the last bar ends at 96 (kernel-checked on the model;
    replayed on the library: `detokenise` returns durations [96, 24]) -/
theorem duration_each_statement_false : ¬ duration_each_statement := by
  intro hst
  have hd : durs nCfg2 twoTr = some [96, 24] := by decide +kernel
  unfold durs at hd
  cases hr : tokeniseCore nCfg2 (TokSt.init nCfg2) (extract nCfg2.ppqn twoTr) with
  | error e => rw [hr] at hd; cases hd
  | ok p =>
    obtain ⟨toks, st'⟩ := p
    rw [hr] at hd
    simp only at hd
    obtain ⟨seqs, h1, h2⟩ := hst nCfg2 nCfg2_ok (by decide) 2 twoTr (by decide) (by decide) toks st' hr
    rw [h1] at hd
    simp only [Option.some.injEq] at hd
    have h24 : (seqs.map durAbs)[1]? = some 24 := by rw [hd]; rfl
    rw [List.getElem?_map, Option.map_eq_some_iff] at h24
    obtain ⟨s1, hs1, hd1⟩ := h24
    have := h2 1 s1 hs1
    have hl : lastBarEnd nCfg2 twoTr = 96 := by decide +kernel
    omega

/-- narrowing by the end of the PIECE instead of the latest NOTE end: "in `HasTail` but with the end of the piece on a bar
    end, the piece still lasts to the end of the last bar" — FALSE, see `duration_pieceEnd_statement_false` -/
def duration_pieceEnd_statement : Prop :=
  ∀ (c : Cfg) (_ : CfgOk c) (_ : 0 < c.numTracks) (g : Int) (tracks : List (List Msg)) (_ : ValidTracks c g tracks)
    (_ : ¬ (HasTail c tracks ∧ pieceEnd tracks ≠ lastBarEnd c tracks)) (toks : List Tok) (st' : TokSt)
    (_ : tokeniseCore c (TokSt.init c) (extract c.ppqn tracks) = .ok (toks, st')),
    ∃ seqs, detokenise c toks = .ok seqs ∧
      ∃ (i : Nat) (s : List Msg), seqs[i]? = some s ∧ durAbs s = lastBarEnd c tracks

/-- one note [0,48), a rest, a key signature at tick 96: the piece ends on the bar line 96 = the end of the last bar, but a
    key signature moves no tokeniser clock, so the detokenised sequence lasts 48 ticks (kernel-checked on the model; replayed
    on the library: duration 48).  The piece is inside `HasTail'` (latest note end 48 ≠ 96): D15's class, correctly. -/
theorem duration_pieceEnd_statement_false : ¬ duration_pieceEnd_statement := by
  intro hst
  have hd : durs nCfg1 keyEnd = some [48] := by decide +kernel
  unfold durs at hd
  cases hr : tokeniseCore nCfg1 (TokSt.init nCfg1) (extract nCfg1.ppqn keyEnd) with
  | error e => rw [hr] at hd; cases hd
  | ok p =>
    obtain ⟨toks, st'⟩ := p
    rw [hr] at hd
    simp only at hd
    obtain ⟨seqs, h1, i, s, hs, hds⟩ := hst nCfg1 nCfg1_ok (by decide) 2 keyEnd (by decide) (by decide) toks st' hr
    rw [h1] at hd
    simp only [Option.some.injEq] at hd
    have hi : (seqs.map durAbs)[i]? = some (durAbs s) := by rw [List.getElem?_map, hs]; rfl
    rw [hd] at hi
    have hl : lastBarEnd nCfg1 keyEnd = 96 := by decide +kernel
    cases i with
    | zero => simp at hi; omega
    | succ j => simp at hi

example : ValidTracks nCfg1 2 keyEnd ∧ HasTail' nCfg1 keyEnd ∧ pieceEnd keyEnd = lastBarEnd nCfg1 keyEnd := by decide +kernel

end SCoda.C01n
