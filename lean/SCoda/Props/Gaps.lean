/-
  Property theorems closing audit items A12 (C14), A15 (C10) and A17 (C19, C18, C07, C06) of
  docs/audit_report_round1.md.  Helper lemmas are in `Lemmas/GapsL.lean`; the model of `Bar.transpose`
  and the functions built from the generated code (`genTk`, `genEnv`, `genCof`) are in `Model/BarOps.lean`.
-/
import SCoda.Lemmas.GapsL
import SCoda.Lemmas.MergeNotes
import SCoda.Props.Notes
import SCoda.Props.C10
import SCoda.Props.C11b
import SCoda.Props.C02
namespace SCoda.Gaps
open SCoda SCoda.GapsL SCoda.C01 SCoda.C19 SCoda.WrapperL

/-- `m'` is `m` up to the enharmonic spelling of a key signature's key -/
def KsEquiv (m m' : Msg) : Prop :=
  if m.ty = .keySignature then
    m' = { m with key := m'.key } ∧
      (C20.validKey m.key → C20.validKey m'.key ∧ C20.tonicD m'.key = C20.tonicD m.key)
  else m' = m

/-- **transposing back** (A12): with the *generated* key function `Gen.transposeKey` (through `genTk`), when
    the forward transposition moved nothing by octaves, transposing by `-by_` moves nothing by octaves
    either and restores the message list position by position: every note message, wait (hence every
    onset and duration) and other event exactly, every key signature up to enharmonic spelling (valid
    key, same tonic pitch class).  Consequently the notes (channel, pitch, onset, end, velocity) and the
    duration are restored exactly. -/
theorem inverse (lo hi : Int) (by_ : Int) (r : List Msg) (h : lo + 11 ≤ hi)
    (hf : (transposeRel lo hi (fun k => genTk k by_) by_ r).2 = false)
    (hr : ∀ m ∈ r, C14.isNoteMsg m = true → lo ≤ m.note ∧ m.note ≤ hi) :
    let back := transposeRel lo hi (fun k => genTk k (-by_)) (-by_)
                  (transposeRel lo hi (fun k => genTk k by_) by_ r).1
    back.2 = false ∧ Pointwise KsEquiv r back.1
      ∧ notesOf (eventsRel back.1) = notesOf (eventsRel r)
      ∧ durRel back.1 = durRel r := by
  intro back
  have e : back = (r.map (ksBack by_), false) := C14.transposeRel_back lo hi _ _ by_ r h hf hr
  rw [e]
  refine ⟨rfl, ?_, ?_, ?_⟩
  · apply pointwise_map_right
    intro m _
    show KsEquiv m (ksBack by_ m)
    unfold KsEquiv
    by_cases hks : m.ty = .keySignature
    · rw [if_pos hks]
      have hb : (m.ty == MType.keySignature) = true := by simp [hks]
      refine ⟨by simp only [ksBack, hb, if_true], ?_⟩
      intro hv
      simp only [ksBack, hb, if_true]
      exact genTk_back m.key by_ hv
    · rw [if_neg hks]; exact ksBack_note by_ m hks
  · show notesOf (eventsRel (r.map (ksBack by_))) = _
    unfold notesOf eventsRel
    rw [eventsRelGo_ksBack, notesGo_ksBack]
  · exact totalWait_ksBack by_ r

/-- the literal reading "transposing back restores the original *message list*" … -/
def inverse_literal_statement : Prop :=
  ∀ (lo hi by_ : Int) (r : List Msg), lo + 11 ≤ hi →
    (transposeRel lo hi (fun k => genTk k by_) by_ r).2 = false →
    (∀ m ∈ r, C14.isNoteMsg m = true → lo ≤ m.note ∧ m.note ≤ hi) →
    (transposeRel lo hi (fun k => genTk k (-by_)) (-by_) (transposeRel lo hi (fun k => genTk k by_) by_ r).1).1 = r

/-- … is false for the real key function: D♭ (index 12) up a semitone is D (2), D down a semitone is C♯ (7) -/
theorem inverse_literal_statement_false : ¬ inverse_literal_statement := by
  intro h
  have := h 21 108 1 [{ ty := .keySignature, key := 12 }] (by decide) (by decide) (by decide)
  revert this
  decide +kernel

example : Gen.transposeKey 12 1 = some 2 ∧ Gen.transposeKey 2 (-1) = some 7 := by decide +kernel
example : C20.tonicD 12 = C20.tonicD 7 := by decide +kernel

/-- the range hypothesis of `inverse` cannot be dropped: a note that starts BELOW the playable range … -/
def inverse_without_range_statement : Prop :=
  ∀ (lo hi by_ : Int) (r : List Msg), lo + 11 ≤ hi →
    (transposeRel lo hi (fun k => genTk k by_) by_ r).2 = false →
    (transposeRel lo hi (fun k => genTk k (-by_)) (-by_) (transposeRel lo hi (fun k => genTk k by_) by_ r).1).2 = false

/-- … (pitch 10, range 21..108) goes up 20 semitones without wrapping (30) but comes back to 10 < 21 and is
    moved up an octave to 22 with the flag set.  The real code does the same (replayed): a model-independent
    fact, and the reason `inverse` assumes the original notes are in range. -/
theorem inverse_without_range_statement_false : ¬ inverse_without_range_statement := by
  intro h
  have := h 21 108 20 [Msg.mkOn 0 10 64 pyNone, Msg.mkWait 0 24, Msg.mkOff 0 10 pyNone] (by decide) (by decide)
  revert this
  decide +kernel

/-- non-vacuity of `inverse`: a sequence with a note and the D♭ key signature, up a semitone -/
def exInv : List Msg :=
  [{ ty := .keySignature, key := 12 }, Msg.mkOn 0 60 64 pyNone, Msg.mkWait 0 24, Msg.mkOff 0 60 pyNone]
example : (transposeRel 21 108 (fun k => genTk k 1) 1 exInv).2 = false
    ∧ ∀ m ∈ exInv, C14.isNoteMsg m = true → (21:Int) ≤ m.note ∧ m.note ≤ 108 := by decide +kernel
example : (transposeRel 21 108 (fun k => genTk k (-1)) (-1) (transposeRel 21 108 (fun k => genTk k 1) 1 exInv).1).1
    = [{ ty := .keySignature, key := 7 }, Msg.mkOn 0 60 64 pyNone, Msg.mkWait 0 24, Msg.mkOff 0 60 pyNone] := by decide +kernel

/-- **key signatures, RelativeSequence level** (A12): with the generated key function, the key-signature
    events of the result are, in order, the key-signature events of the input with their key replaced
    by `Gen.transposeKey key by_`, which is defined (`some`), a valid key (never `None`) and has the
    tonic shifted by the interval — for every interval, whether or not notes wrap. -/
theorem keys_defined (lo hi : Int) (by_ : Int) (r : List Msg)
    (hk : ∀ m ∈ r, m.ty = .keySignature → C20.validKey m.key) :
    (transposeRel lo hi (fun k => genTk k by_) by_ r).1.filter (·.ty == .keySignature)
        = (r.filter (·.ty == .keySignature)).map (fun m => { m with key := genTk m.key by_ })
    ∧ ∀ m' ∈ (transposeRel lo hi (fun k => genTk k by_) by_ r).1, m'.ty = .keySignature → KeyImage by_ r m' := by
  refine ⟨?_, transposeRel_keys lo hi by_ r hk⟩
  simp only [transposeRel]
  rw [filter_map_of_comp _ (·.ty == .keySignature) _ _ (fun m _ => by simp only [C14.transposeMsg_ty])]
  apply List.map_congr_left
  intro m hm
  have hty : m.ty = .keySignature := by simpa using (List.mem_filter.1 hm).2
  exact (C14.image_pointwise lo hi (fun k => genTk k by_) by_ m).2.1 hty

/-- `Sequence.transpose` never fails on a readable sequence -/
theorem transposeSeq_total (e : Env) (s s0 : Seq) (r : List Msg) (by_ : Int)
    (hread : s.readRel = .ok (s0, r)) : ∃ s' flag, Seq.transposeSeq e s by_ = .ok (s', flag) := by
  rw [transposeSeq_read e s s0 r by_ hread]
  split
  · obtain ⟨out, ho⟩ := C06.total e.defValues e.ppqn false
      (toAbs (normalise (transposeRel e.noteLo e.noteHi (fun k => e.tk k by_) by_ r).1))
    rw [ho]
    exact ⟨_, _, rfl⟩
  · exact ⟨_, _, rfl⟩

/-- **`Sequence.transpose`, nothing wrapped, from any readable state** (A12: the audit noted that the wrapper
    glue started from `Seq.ofRel r` only and spoke of note-ons only): if the call returns `false`, the relative
    view afterwards is exactly the relative content before with every note shifted by the interval and every
    key signature's key mapped — waits, hence onsets and durations, velocities and all other events untouched
    — and the absolute view is regenerated from exactly that list -/
theorem transpose_seq_exact (e : Env) (s s0 s' : Seq) (r : List Msg) (by_ : Int)
    (hrange : e.noteLo + 11 ≤ e.noteHi) (hread : s.readRel = .ok (s0, r))
    (h : Seq.transposeSeq e s by_ = .ok (s', false)) :
    let r' := r.map (fun m =>
      if C14.isNoteMsg m then { m with note := m.note + by_ }
      else if m.ty == .keySignature then { m with key := e.tk m.key by_ } else m)
    (transposeRel e.noteLo e.noteHi (fun k => e.tk k by_) by_ r).2 = false
    ∧ s'.readRel = .ok (s', r')
    ∧ s'.readAbs.map Prod.snd = .ok (toAbs r')
    ∧ durRel r' = durRel r := by
  intro r'
  obtain ⟨hf, h0, _⟩ := transposeSeq_ok hread h
  have hex := C14.exact e.noteLo e.noteHi _ by_ r hrange hf.symm
  rw [h0 rfl, hex]
  refine ⟨hf.symm, rfl, rfl, ?_⟩
  show durRel (r.map _) = durRel r
  rw [← hex]
  exact (C14.timing e.noteLo e.noteHi _ by_ r).1

/-- **key signatures, Sequence level** (A12): from any readable wrapper state (either view fresh), after
    `Sequence.transpose` — also when notes wrapped and the sequence was re-normalised and note-length
    quantised, which may drop repeated key signatures — every key-signature event read through EITHER
    view is the image of a key signature of the original under `Gen.transposeKey · by_`: defined, a valid
    key, tonic shifted by the interval.  None becomes undefined. -/
theorem keys_defined_seq (e : Env) (htk : e.tk = genTk) (s s0 s' : Seq) (r : List Msg) (by_ : Int) (flag : Bool)
    (hread : s.readRel = .ok (s0, r))
    (hk : ∀ m ∈ r, m.ty = .keySignature → C20.validKey m.key)
    (h : Seq.transposeSeq e s by_ = .ok (s', flag)) :
    (∀ s'' a', s'.readAbs = .ok (s'', a') → ∀ m' ∈ a', m'.ty = .keySignature → KeyImage by_ r m')
    ∧ (∀ s'' r', s'.readRel = .ok (s'', r') → ∀ m' ∈ r', m'.ty = .keySignature → KeyImage by_ r m') := by
  obtain ⟨_, h0, h1⟩ := transposeSeq_ok hread h
  rw [htk] at h0 h1
  have hT := transposeRel_keys e.noteLo e.noteHi by_ r hk
  generalize (transposeRel e.noteLo e.noteHi (fun k => genTk k by_) by_ r).1 = r1 at h0 h1 hT
  cases flag with
  | false =>
    rw [h0 rfl]
    refine ⟨fun s'' a' ha => ?_, fun s'' r' hr' => by cases hr'; exact hT⟩
    cases ha
    intro m hm hty
    obtain ⟨m0, hm0, h1, h2⟩ := mem_toAbs_src r1 m hm (by rw [hty]; decide)
    rw [h2]
    exact hT m0 hm0 (by rw [h1, hty])
  | true =>
    obtain ⟨out, hq, rfl⟩ := h1 rfl
    have hOut : ∀ m ∈ out, m.ty = .keySignature → KeyImage by_ r m := by
      intro m hm hty
      obtain ⟨m0, hm0, h1, h2⟩ := wrapped_src hq m hm (by rw [hty]; decide) (by rw [hty]; decide)
      rw [h2]
      exact hT m0 hm0 (by rw [h1, hty])
    refine ⟨fun s'' a' ha => by cases ha; exact hOut, fun s'' r' hr' => ?_⟩
    cases hr'
    intro m hm hty
    obtain ⟨m0, hm0, rfl⟩ := mem_toRel hm (by rw [hty]; decide)
    exact hOut m0 hm0 hty


/-- `Bar.transpose` never fails -/
theorem bar_transpose_total (e : Env) (b : Bar) (by_ : Int) :
    ∃ b' flag, Bar.transpose e b by_ = .ok (b', flag) := by
  rw [barTranspose_eq]
  split
  · obtain ⟨out, ho⟩ := C06.total e.defValues e.ppqn false
      (toAbs (normalise (transposeRel e.noteLo e.noteHi (fun k => e.tk k by_) by_ b.seq).1))
    rw [ho]
    exact ⟨_, _, rfl⟩
  · exact ⟨_, _, rfl⟩

/-- **the bar's sequence is transposed as C14 says** (A12): `Bar.transpose` keeps the bar's time signature
    fields, returns the flag of `RelativeSequence.transpose` on the bar's sequence (so `C14.flag` applies:
    true exactly when some note had to be moved by octaves), and
    * when the flag is false the bar's sequence is the input's with every note shifted by exactly the
      interval, every key signature's key mapped through the key function, and nothing else changed
      (waits — hence onsets, durations, the bar's length — velocities, the leading time signature);
    * when it is true, the sequence is the relative view of the note-length quantised, re-normalised
      shifted sequence. -/
theorem bar_seq_transposed (e : Env) (b b' : Bar) (by_ : Int) (flag : Bool) (hrange : e.noteLo + 11 ≤ e.noteHi)
    (h : Bar.transpose e b by_ = .ok (b', flag)) :
    b'.num = b.num ∧ b'.den = b.den
    ∧ flag = (transposeRel e.noteLo e.noteHi (fun k => e.tk k by_) by_ b.seq).2
    ∧ (flag = false →
        b'.seq = b.seq.map (fun m =>
          if C14.isNoteMsg m then { m with note := m.note + by_ }
          else if m.ty == .keySignature then { m with key := e.tk m.key by_ } else m)
        ∧ durRel b'.seq = durRel b.seq)
    ∧ (flag = true → ∃ v,
        quantiseNoteLengths e.defValues e.ppqn false
          (toAbs (normalise (transposeRel e.noteLo e.noteHi (fun k => e.tk k by_) by_ b.seq).1)) = .ok v
        ∧ b'.seq = toRel v) := by
  obtain ⟨hf, hn, hd, _, h0, h1⟩ := barTranspose_ok h
  refine ⟨hn, hd, hf, fun hff => ?_, h1⟩
  rw [h0 hff]
  exact ⟨C14.exact e.noteLo e.noteHi _ by_ b.seq hrange (hf ▸ hff), (C14.timing e.noteLo e.noteHi _ by_ b.seq).1⟩

/-- **every note of the transposed bar** (A12), wrapped or not: lies in the playable range and is the image
    of a note-on of the original bar with the same channel and velocity and its pitch class shifted by
    exactly the interval -/
theorem bar_notes_image (e : Env) (b b' : Bar) (by_ : Int) (flag : Bool) (hrange : e.noteLo + 11 ≤ e.noteHi)
    (h : Bar.transpose e b by_ = .ok (b', flag)) :
    ∀ m ∈ b'.seq, m.ty = .noteOn →
      e.noteLo ≤ m.note ∧ m.note ≤ e.noteHi
      ∧ ∃ m0 ∈ b.seq, m0.ty = .noteOn ∧ m0.ch = m.ch ∧ m0.vel = m.vel ∧ (m.note - m0.note - by_) % 12 = 0 := by
  intro m hm hty
  obtain ⟨_, _, _, _, h0, h1⟩ := barTranspose_ok h
  -- `m` has the pitch, channel and velocity of a note-on `m2` of the shifted sequence: it is one (nothing wrapped),
  -- or it came from one through `normalise`, note-length quantisation and the two conversions
  obtain ⟨m2, hm2, hty2, en, ec, ev⟩ : ∃ m2 ∈ (transposeRel e.noteLo e.noteHi (fun k => e.tk k by_) by_ b.seq).1,
      m2.ty = .noteOn ∧ m.note = m2.note ∧ m.ch = m2.ch ∧ m.vel = m2.vel := by
    cases flag with
    | false => rw [h0 rfl] at hm; exact ⟨m, hm, hty, rfl, rfl, rfl⟩
    | true =>
      obtain ⟨v, hv, hs⟩ := h1 rfl
      rw [hs] at hm
      obtain ⟨m1, hm1, rfl⟩ := mem_toRel hm (by rw [hty]; decide)
      obtain ⟨m2, hm2, t2, e2⟩ := wrapped_src hv m1 hm1 (by rw [show m1.ty = .noteOn from hty]; decide)
        (by rw [show m1.ty = .noteOn from hty]; decide)
      exact ⟨m2, hm2, t2.trans hty, by rw [e2], by rw [e2], by rw [e2]⟩
  rw [en, ec, ev]
  have hr := C14.in_range e.noteLo e.noteHi (fun k => e.tk k by_) by_ b.seq hrange m2 hm2 (by simp [C14.isNoteMsg, hty2])
  simp only [transposeRel, List.mem_map] at hm2
  obtain ⟨m0, hm0, rfl⟩ := hm2
  have hty0 : m0.ty = .noteOn := by rw [← C14.transposeMsg_ty e.noteLo e.noteHi (fun k => e.tk k by_) by_ m0]; exact hty2
  obtain ⟨e1, e2⟩ := (C14.image_pointwise e.noteLo e.noteHi (fun k => e.tk k by_) by_ m0).1 (by simp [C14.isNoteMsg, hty0])
  exact ⟨hr.1, hr.2, m0, hm0, hty0, by rw [e1], by rw [e1], e2⟩

/-- **the bar's key** (A12): after `Bar.transpose` the `key` field of a bar without a key is still `None`, and
    that of a bar with a (valid) key `k` is `Gen.transposeKey k by_` — defined, a valid key, in particular
    never `None`, with its tonic shifted by the interval -/
theorem bar_key_transposed (e : Env) (htk : e.tk = genTk) (b b' : Bar) (by_ : Int) (flag : Bool)
    (h : Bar.transpose e b by_ = .ok (b', flag)) :
    (b.key = pyNone → b'.key = pyNone)
    ∧ (C20.validKey b.key →
        Gen.transposeKey b.key by_ = some b'.key ∧ C20.validKey b'.key ∧ b'.key ≠ pyNone
        ∧ C20.tonicD b'.key = (C20.tonicD b.key + by_) % 12) := by
  obtain ⟨_, _, _, hkey, _⟩ := barTranspose_ok h
  rw [htk] at hkey
  constructor
  · intro hn; rw [hkey, hn]; rfl
  · intro hv
    have hne := validKey_ne_none b.key hv
    have : (b.key == pyNone) = false := by simpa using hne
    rw [this] at hkey
    simp only [Bool.false_eq_true, if_false] at hkey
    obtain ⟨k', e1, e2, e3, e4⟩ := genTk_valid b.key by_ hv
    rw [hkey, e2]
    exact ⟨e1, e3, validKey_ne_none k' e3, e4⟩

/-- and the key-signature events inside the bar's sequence are transposed by the same interval and
    never undefined (both branches) -/
theorem bar_seq_keys (e : Env) (htk : e.tk = genTk) (b b' : Bar) (by_ : Int) (flag : Bool)
    (hk : ∀ m ∈ b.seq, m.ty = .keySignature → C20.validKey m.key)
    (h : Bar.transpose e b by_ = .ok (b', flag)) :
    ∀ m' ∈ b'.seq, m'.ty = .keySignature → KeyImage by_ b.seq m' := by
  intro m hm hty
  obtain ⟨_, _, _, _, h0, h1⟩ := barTranspose_ok h
  rw [htk] at h0 h1
  have hT := transposeRel_keys e.noteLo e.noteHi by_ b.seq hk
  cases flag with
  | false => rw [h0 rfl] at hm; exact hT m hm hty
  | true =>
    obtain ⟨v, hv, hs⟩ := h1 rfl
    rw [hs] at hm
    obtain ⟨m1, hm1, rfl⟩ := mem_toRel hm (by rw [hty]; decide)
    obtain ⟨m0, hm0, t0, e0⟩ := wrapped_src hv m1 hm1 (by rw [show m1.ty = .keySignature from hty]; decide)
      (by rw [show m1.ty = .keySignature from hty]; decide)
    rw [e0]
    exact hT m0 hm0 (t0.trans hty)

/-! non-vacuity: a 4/4 bar in D♭ with a note near the top of the range, up 3 semitones (wraps) and up 1 -/
def exBar : Bar :=
  { seq := [Msg.mkTimeSig 0 4 4 pyNone, { ty := .keySignature, key := 12 }, Msg.mkOn 0 107 64 pyNone,
            Msg.mkWait 0 24, Msg.mkOff 0 107 pyNone, Msg.mkWait 0 72], num := 4, den := 4, key := 12 }
example : (Bar.transpose genEnv exBar 1).toOption = some
    ({ seq := [Msg.mkTimeSig 0 4 4 pyNone, { ty := .keySignature, key := 2 }, Msg.mkOn 0 108 64 pyNone,
               Msg.mkWait 0 24, Msg.mkOff 0 108 pyNone, Msg.mkWait 0 72], num := 4, den := 4, key := 2 }, false) := by
  decide +kernel
example : ((Bar.transpose genEnv exBar 3).toOption.map (fun p => (p.1.key, p.2, p.1.seq.map (·.note)))) =
    some (4, true, [-1, -1, 98, -1, 98, -1]) := by
  decide +kernel

/-- the arguments for which `mkBar` models `Bar.__init__`: outside it Python's `int(n·PPQN/(d/4))` truncates
    toward zero (negative `n`) or raises `ZeroDivisionError` (`d = 0`), the model floors / yields 0 -/
def BarDomain (ppqn n d : Int) : Prop := 0 ≤ ppqn ∧ 0 ≤ n ∧ 0 < d
instance (ppqn n d : Int) : Decidable (BarDomain ppqn n d) := by unfold BarDomain; infer_instance

/-- on the domain the model's capacity is the int-typed value of the Python expression
    `int(numerator * PPQN / (denominator / 4))` (bar.py:27) -/
theorem bar_capacity_py (ppqn n d : Int) (hD : BarDomain ppqn n d) :
    barCapacityPy n ppqn d = .int (barCapacity ppqn n d) :=
  C11.barCapacityPy_eq n ppqn d hD.2.1 hD.1 hD.2.2

/-- **capacity, honestly** (A15): when `d` divides `n·ppqn·4` the capacity is exactly `n·4/d` quarter notes
    (`capacity · d = n · ppqn · 4`, no rounding); otherwise it is the floor, strictly below -/
theorem bar_capacity_exact (ppqn n d : Int) (hd : 0 < d) :
    (d ∣ n * ppqn * 4 → barCapacity ppqn n d * d = n * ppqn * 4)
    ∧ (¬ d ∣ n * ppqn * 4 →
        barCapacity ppqn n d * d < n * ppqn * 4 ∧ n * ppqn * 4 < (barCapacity ppqn n d + 1) * d) :=
  ediv_exact_or_floor (n * ppqn * 4) d hd

/-- the same in quarter notes, as a rational: `capacity / ppqn = n · 4 / d` when `d ∣ n·ppqn·4` -/
theorem bar_capacity_quarters (ppqn n d : Int) (hd : 0 < d) (hp : 0 < ppqn) (hdv : d ∣ n * ppqn * 4) :
    ((barCapacity ppqn n d : Int) : Rat) / (ppqn : Rat) = (n : Rat) * 4 / (d : Rat) := by
  have h := (bar_capacity_exact ppqn n d hd).1 hdv
  have hq : ((barCapacity ppqn n d : Int) : Rat) * (d : Rat) = (n : Rat) * (ppqn : Rat) * 4 := by
    exact_mod_cast h
  have hd' : (d : Rat) ≠ 0 := by exact_mod_cast hd.ne'
  have hp' : (ppqn : Rat) ≠ 0 := by exact_mod_cast hp.ne'
  field_simp
  linarith

/-- **error kind on the domain** (A15): for `0 ≤ n`, `0 < d` the constructor's capacity is Python's and
    construction either succeeds or raises a bar error (for `d = 0` the real constructor raises
    `ZeroDivisionError`, which is why `C10.bar_error_kind` over all integers is not about the real code) -/
theorem bar_error_kind' (ppqn : Int) (rel : List Msg) (n d key : Int) (hD : BarDomain ppqn n d) :
    barCapacityPy n ppqn d = .int (barCapacity ppqn n d)
    ∧ ((∃ b, mkBar ppqn rel n d key = .ok b) ∨ mkBar ppqn rel n d key = .error .barError) :=
  ⟨bar_capacity_py ppqn n d hD, C10.bar_error_kind ppqn rel n d key⟩

/-- **duration on the domain** (A15): an accepted bar lasts `⌊n·ppqn·4/d⌋` ticks, Python's capacity; that is
    exactly `n·4/d` quarter notes iff `d ∣ n·ppqn·4`, and strictly less otherwise -/
theorem bar_duration' (ppqn : Int) (rel : List Msg) (n d key : Int) (b : Bar) (hD : BarDomain ppqn n d)
    (hw : NonNegWaits rel) (h : mkBar ppqn rel n d key = .ok b) :
    barCapacityPy n ppqn d = .int (durRel b.seq)
    ∧ (d ∣ n * ppqn * 4 → durRel b.seq * d = n * ppqn * 4)
    ∧ (¬ d ∣ n * ppqn * 4 → durRel b.seq * d < n * ppqn * 4 ∧ n * ppqn * 4 < (durRel b.seq + 1) * d) := by
  rw [C10.bar_duration ppqn rel n d key b hw h]
  exact ⟨bar_capacity_py ppqn n d hD, bar_capacity_exact ppqn n d hD.2.2⟩

/-- the property text "lasts exactly numerator × 4 / denominator quarter notes", read literally … -/
def bar_exact_statement : Prop :=
  ∀ (ppqn : Int) (rel : List Msg) (n d key : Int) (b : Bar), BarDomain ppqn n d → NonNegWaits rel →
    mkBar ppqn rel n d key = .ok b → durRel b.seq * d = n * ppqn * 4

/-- … is false: `Bar(Sequence(), 1, 128)` is accepted with 0 ticks (0.75 of a tick is floored away).  The real
    constructor does the same (replayed). -/
theorem bar_exact_statement_false : ¬ bar_exact_statement := by
  intro h
  have := h 24 [] 1 128 pyNone { seq := [Msg.mkTimeSig 0 1 128 pyNone], num := 1, den := 128, key := pyNone }
    (by decide) (by intro m hm; cases hm) (by decide)
  revert this
  decide +kernel

/-- the exact statement holds whenever the signature's length is a whole number of ticks -/
theorem bar_exact_partial (ppqn : Int) (rel : List Msg) (n d key : Int) (b : Bar) (hD : BarDomain ppqn n d)
    (hdv : d ∣ n * ppqn * 4) (hw : NonNegWaits rel) (h : mkBar ppqn rel n d key = .ok b) :
    durRel b.seq * d = n * ppqn * 4 :=
  (bar_duration' ppqn rel n d key b hD hw h).2.1 hdv

/-- on the domain every theorem of `C10` applies unchanged; the two rejection theorems restated with the domain
    made explicit, and the second-signature case at input level: two signature events with different values
    are rejected (an *identical* repeat is dropped by `normalise` and accepted, see below) -/
theorem bar_rejects' (ppqn : Int) (rel : List Msg) (n d key : Int) (_hD : BarDomain ppqn n d) :
    (NonNegWaits rel → barCapacity ppqn n d < durRel rel → mkBar ppqn rel n d key = .error .barError)
    ∧ ((∀ m ∈ rel, m.ty = .timeSignature → (m.num, m.den) ≠ (pyNone, pyNone)) →
        (∃ m1 ∈ rel, ∃ m2 ∈ rel, m1.ty = .timeSignature ∧ m2.ty = .timeSignature
          ∧ (m1.num, m1.den) ≠ (m2.num, m2.den)) → mkBar ppqn rel n d key = .error .barError) := by
  refine ⟨fun hw h => C10.bar_too_long ppqn rel n d key hw h, ?_⟩
  intro h0 ⟨m1, hm1, m2, hm2, t1, t2, hne⟩
  apply C10.bar_conflict ppqn rel n d key _ h0
  by_cases e1 : m1.num = n ∧ m1.den = d
  · refine ⟨m2, hm2, t2, ?_⟩
    by_cases e2 : m2.num = n
    · right; intro e3; exact hne (by rw [e1.1, e1.2, e2, e3])
    · left; exact e2
  · refine ⟨m1, hm1, t1, ?_⟩
    by_cases e2 : m1.num = n
    · right; intro e3; exact e1 ⟨e2, e3⟩
    · left; exact e2

/-- "a second signature is rejected", read literally, is false of model and real code alike: an identical
    repeat is removed by `normalise` before the check -/
def bar_second_sig_statement : Prop :=
  ∀ (ppqn : Int) (rel : List Msg) (n d key : Int), BarDomain ppqn n d →
    1 < (rel.filter (·.ty == .timeSignature)).length → mkBar ppqn rel n d key = .error .barError

theorem bar_second_sig_statement_false : ¬ bar_second_sig_statement := by
  intro h
  have := h 24 [Msg.mkTimeSig 0 4 4 pyNone, Msg.mkWait 0 10, Msg.mkTimeSig 0 4 4 pyNone] 4 4 pyNone
    (by decide) (by decide)
  revert this
  decide +kernel

/-! outside the domain the model and the real constructor differ (model artefacts, documented):
    `d = 0`: model accepts with duration 0, Python raises `ZeroDivisionError`;
    `n = -1, d = 200`: Python's `int(-0.48) = 0` accepts the empty sequence, the model floors to -1 and rejects -/
theorem model_outside_domain_d0 :
    (mkBar 24 [] 3 0 pyNone).toOption.map (fun b => durRel b.seq) = some 0 := by decide +kernel
theorem model_outside_domain_neg :
    mkBar 24 [] (-1) 200 pyNone = .error .barError ∧ barCapacity 24 (-1) 200 = -1 := by decide +kernel

example : BarDomain 24 3 4 ∧ NonNegWaits C10.exRel ∧ (4:Int) ∣ 3 * 24 * 4 := by
  refine ⟨by decide, ?_, by decide⟩
  unfold NonNegWaits; decide
example : BarDomain 24 3 7 ∧ ¬ (7:Int) ∣ 3 * 24 * 4 ∧ barCapacity 24 3 7 = 41 := by decide +kernel
example : (mkBar 24 [Msg.mkTimeSig 0 4 4 pyNone, Msg.mkWait 0 10, Msg.mkTimeSig 0 4 4 pyNone] 4 4 pyNone).toOption.map (·.seq)
    = some [Msg.mkTimeSig 0 4 4 pyNone, Msg.mkWait 0 10, Msg.mkWait 0 86] := by decide +kernel

/-- **same clock, final output** (A17; strengthens `C19.note_annotation`): for any stream `detokenise` accepts
    and any note token in it, the annotation row of that token carries the detokeniser's clock `d.curTime`
    after the preceding tokens, the token's pitch, and `Gen.getPosition pitch` — the generated
    `CircleOfFifths.get_position` — and the sequences RETURNED by `detokenise` for the whole stream contain,
    on the running track, a note-on of that pitch at exactly that tick (with the running velocity) and its
    note-off `value` ticks later.  Notes are never removed by later tokens: in `Model/Token.lean` every
    branch of `dpart` leaves `seqs` alone or inserts with `insort` (`GapsL.dpart_seqsLe`). -/
theorem note_annotation_final (c : Cfg) (imp : Bool) (pre post : List Tok)
    (tr : Option Int) (p : Int) (v w : Option Int) (seqs : List (List Msg))
    (h : detokenise c (pre ++ Tok.note tr p v w :: post) = .ok seqs) :
    ∃ d, detokFold c pre = .ok d
      ∧ (getInfo c genCof imp (pre ++ Tok.note tr p v w :: post))[pre.length]? =
          some ((pre.length : Int), d.curTime, d.curTimeBar, some p, Gen.getPosition p)
      ∧ ∃ l, seqs[(tr.getD d.prvTrack).toNat]? = some l
          ∧ Msg.mkOn 0 p (w.getD d.prvVel) d.curTime ∈ l
          ∧ Msg.mkOff 0 p (d.curTime + v.getD d.prvValue) ∈ l := by
  obtain ⟨d, d', e1, e2, hle⟩ := placed_stays c pre post _ seqs h
  refine ⟨d, e1, ?_, ?_⟩
  · have := (note_annotation c genCof imp pre post tr p v w d d' e1 e2).1
    rw [this, (getPosition_spec p).1]
  · obtain ⟨l, hl, hon, hoff⟩ := dstep_note_placed c d d' tr p v w e2
    obtain ⟨l', hl', hm⟩ := hle _ l hl
    exact ⟨l', hl', hm _ hon, hm _ hoff⟩

/-- the circle-of-fifths annotation is the position of the pitch class: total, in [-5, 6], and the
    `circle_of_fifths_order` table has the pitch class at index position + 5 -/
theorem cof_annotation (p : Int) :
    ∃ q, Gen.getPosition p = some q ∧ -5 ≤ q ∧ q ≤ 6 ∧ Gen.circleOfFifthsOrder[(q + 5).toNat]? = some (p % 12) :=
  C20.getPosition_spec p

/-- **for any stream of vocabulary tokens** (A17; composes with `C02.detokenise_accepts`): every stream over
    the vocabulary — produced by `tokenise` or not — is accepted, and each of its note tokens is annotated
    with the tick at which the returned sequences hold its note-on, with its pitch and with the
    circle-of-fifths position of that pitch -/
theorem note_annotation_vocab (c : Cfg) (hn : 0 < c.numTracks) (imp : Bool) (pre post : List Tok)
    (tr : Option Int) (p : Int) (v w : Option Int)
    (hv : ∀ t ∈ pre ++ Tok.note tr p v w :: post, t ∈ vocabSeq c) :
    ∃ seqs d, detokenise c (pre ++ Tok.note tr p v w :: post) = .ok seqs ∧ detokFold c pre = .ok d
      ∧ (getInfo c genCof imp (pre ++ Tok.note tr p v w :: post))[pre.length]? =
          some ((pre.length : Int), d.curTime, d.curTimeBar, some p, Gen.getPosition p)
      ∧ ∃ l, seqs[(tr.getD d.prvTrack).toNat]? = some l
          ∧ Msg.mkOn 0 p (w.getD d.prvVel) d.curTime ∈ l
          ∧ Msg.mkOff 0 p (d.curTime + v.getD d.prvValue) ∈ l := by
  obtain ⟨seqs, hs⟩ := C02.detokenise_accepts c _ hv hn
  obtain ⟨d, h1, h2, h3⟩ := note_annotation_final c imp pre post tr p v w seqs hs
  exact ⟨seqs, d, hs, h1, h2, h3⟩

/-- **monotone, threaded** (A17; extends `C19.times_monotone` from one call to any number of calls, each
    started from the state the previous one returned — every state reachable by `tokeniseCore` from the
    initial one): in the concatenated stream annotated times never decrease -/
theorem times_monotone_threaded (c : Cfg) (hc : CfgOk c) (calls : List (List (Int × Pairing)))
    (toks : List Tok) (st' : TokSt)
    (hcalls : ∀ evs ∈ calls, EvsOk c 0 0 evs ∧ CapsPos c evs)
    (hcap0 : 0 < c.capacity c.defNum c.defDen)
    (hok : threaded c (TokSt.init c) calls = .ok (toks, st')) (cof : Int → Int) (imp : Bool) :
    List.Pairwise (fun a b => a.2.1 ≤ b.2.1) (getInfo c cof imp toks) := by
  obtain ⟨d', log', b1, _, hm, _⟩ := threaded_init c hc calls toks st' hcalls hcap0 hok
  exact times_of_mono c cof imp toks d' log' hm b1

/-- **bar ends, threaded** (A17; extends `C19.barEnds_increasing`): replaying the concatenated stream of a
    threaded sequence of calls, the bar ends come out strictly increasing across call boundaries, so "the
    start of its bar" (`C19.lastBarEnd`, `C19.in_bar_annotation`) stays unambiguous -/
theorem barEnds_increasing_threaded (c : Cfg) (hc : CfgOk c) (calls : List (List (Int × Pairing)))
    (toks : List Tok) (st' : TokSt)
    (hcalls : ∀ evs ∈ calls, EvsOk c 0 0 evs ∧ CapsPos c evs)
    (hcap0 : 0 < c.capacity c.defNum c.defDen)
    (hok : threaded c (TokSt.init c) calls = .ok (toks, st')) (d : DetokSt) (log : List Emit)
    (h : dfold c (DetokSt.init c) toks = .ok (d, log)) :
    List.Pairwise (· < ·) (log.filterMap (fun e => match e with | .barEnd t => some t | _ => Option.none)) := by
  obtain ⟨d', log', b1, _, _, b4⟩ := threaded_init c hc calls toks st' hcalls hcap0 hok
  rw [h] at b1
  cases b1
  exact b4

/-- a threaded sequence of calls is accepted by the detokeniser as one stream, and the final states
    still describe the same point of the piece -/
theorem threaded_accepted (c : Cfg) (hc : CfgOk c) (calls : List (List (Int × Pairing)))
    (toks : List Tok) (st' : TokSt)
    (hcalls : ∀ evs ∈ calls, EvsOk c 0 0 evs ∧ CapsPos c evs)
    (hcap0 : 0 < c.capacity c.defNum c.defDen)
    (hok : threaded c (TokSt.init c) calls = .ok (toks, st')) :
    ∃ d log, dfold c (DetokSt.init c) toks = .ok (d, log) ∧ d.curTime = st'.curTime
      ∧ d.curTimeBar = st'.curTimeBar := by
  obtain ⟨d', log', b1, b2, _⟩ := threaded_init c hc calls toks st' hcalls hcap0 hok
  exact ⟨d', log', b1, b2.cur, b2.bar⟩

example : (detokenise C19.exCfg [.rest 12, .tsig 6 8, .bar, .note (some 0) 60 (some 24) (some 127), .rest 24, .bar]).toOption
    = some [[Msg.mkInternal 0 96, Msg.mkOn 0 60 127 96, Msg.mkOff 0 60 120, Msg.mkInternal 0 192]] := by
  decide +kernel
example : (getInfo C19.exCfg genCof false [.rest 12, .tsig 6 8, .bar, .note (some 0) 60 (some 24) (some 127), .rest 24, .bar])[3]?
    = some (3, 96, 0, some 60, some 0) := by
  decide +kernel
/-- two threaded calls (a note in each; the second call's onsets are relative to the carried clock) -/
def exCalls : List (List (Int × Pairing)) :=
  [[(0, [Msg.mkOn 0 60 64 12, Msg.mkOff 0 60 36])], [(0, [Msg.mkOn 0 62 64 12, Msg.mkOff 0 62 36])]]
example : (threaded C19.exCfg (TokSt.init C19.exCfg) exCalls).toOption.map (fun r => (r.1, r.2.curTime)) =
    some ([.rest 12, .note (some 0) 60 (some 24) (some 127), .rest 24, .rest 24, .rest 24, .rest 12, .bar,
           .rest 12, .note (some 0) 62 (some 24) (some 127), .rest 24, .rest 24, .rest 24, .rest 12, .bar], 192) := by
  decide +kernel

example : CfgOk C19.exCfg ∧ 0 < C19.exCfg.capacity C19.exCfg.defNum C19.exCfg.defDen
    ∧ ∀ evs ∈ exCalls, EvsOk C19.exCfg 0 0 evs ∧ CapsPos C19.exCfg evs := by
  refine ⟨by constructor <;> decide, by decide, ?_⟩
  intro evs he
  simp only [exCalls, List.mem_cons, List.not_mem_nil, or_false] at he
  rcases he with rfl | rfl <;>
    exact ⟨by constructor <;> decide, by unfold CapsPos; decide⟩

/-- the key signatures of a relative sequence as (tick, key), in sequence order -/
def ksTimed (r : List Msg) : List (Int × Int) :=
  ((eventsRel r).filter (·.ty == .keySignature)).map (fun m => (m.time, m.key))

/-- remove every (tick, key) whose key repeats the previous entry's key, keeping the first of each run -/
def dedupAdjT : Option Int → List (Int × Int) → List (Int × Int)
  | _, [] => []
  | prev, x :: xs => if prev = some x.2 then dedupAdjT prev xs else x :: dedupAdjT (some x.2) xs

theorem dedupAdjT_some (l : List (Int × Int)) : ∀ p, dedupAdjT (some p) l = NotesBL.dedupBy NotesBL.ksV p l := by
  induction l with
  | nil => intro p; rfl
  | cons x xs ih =>
    intro p
    by_cases h : p = x.2
    · simp only [dedupAdjT, NotesBL.dedupBy, NotesBL.ksV, h, if_true]; exact h ▸ ih p
    · simp only [dedupAdjT, NotesBL.dedupBy, NotesBL.ksV, Option.some.injEq, h, if_false, ih x.2]

theorem dedupAdjT_none (l : List (Int × Int)) (q : Int) (h : ∀ x ∈ l, x.2 ≠ q) :
    dedupAdjT Option.none l = NotesBL.dedupBy NotesBL.ksV q l := by
  cases l with
  | nil => rfl
  | cons x xs =>
    have : ¬ q = x.2 := fun e => h x (by simp) e.symm
    simp [dedupAdjT, NotesBL.dedupBy, NotesBL.ksV, this, dedupAdjT_some]

/-- **key signature in force** (A17; mirrors `C07.ts_in_force`, at the level of timed events): a key-signature
    event that differs from the previous one is kept *at its tick*, one that repeats the key in force is gone:
    the (tick, key) list of the output is the input's with adjacent repetitions removed (first of each run
    kept).  So the key in force at every tick is unchanged. -/
theorem ks_in_force (r : List Msg) (hnn : NonNegWaits r)
    (h0 : ∀ m ∈ r, m.ty = .keySignature → m.key ≠ pyNone) :
    ksTimed (normalise r) = dedupAdjT Option.none (ksTimed r) := by
  have h1 : ∀ x ∈ ksTimed r, x.2 ≠ pyNone := by
    intro x hx
    simp only [ksTimed, List.mem_map, List.mem_filter, beq_iff_eq] at hx
    obtain ⟨e, ⟨he, hty⟩, rfl⟩ := hx
    obtain ⟨m0, hm0, -, t, rfl⟩ := eventsRelGo_src r 0 e he
    exact h0 m0 hm0 hty
  rw [dedupAdjT_none _ pyNone h1]
  exact NotesBL.normalise_ksT r hnn

/-! non-vacuity: C, C (repeat, dropped), rest, G (kept at tick 24), G (repeat), rest, C (kept at 48) -/
def exKs : List Msg :=
  [{ ty := .keySignature, key := 0 }, { ty := .keySignature, key := 0 }, Msg.mkWait 0 24,
   { ty := .keySignature, key := 1 }, { ty := .keySignature, key := 1 }, Msg.mkWait 0 24, { ty := .keySignature, key := 0 }]
example : NonNegWaits exKs ∧ ∀ m ∈ exKs, m.ty = .keySignature → m.key ≠ pyNone := by
  unfold NonNegWaits; decide
example : ksTimed (normalise exKs) = [(0, 0), (24, 1), (48, 0)] := by decide +kernel

/-- **pad, wrapper level**: from any state in the wrapper invariant (both views fresh, or either one stale),
    `Sequence.pad(n)` succeeds, keeps the invariant, and through EITHER view the sequence then shows exactly
    the events it had (`r` = its relative content before) and the duration `max(old duration, n)` -/
theorem pad_seq (s s0 : Seq) (r : List Msg) (n : Int) (h : SeqInv s) (hread : s.readRel = .ok (s0, r)) :
    ∃ s', s.padSeq n = .ok s' ∧ SeqInv s' ∧ ViewsShow s' (eventsRel r) (max (durRel r) n) := by
  have hr : OkRel r := by
    obtain ⟨s1, r1, e1, _, ⟨_, r2, e2, ok2, _⟩⟩ := inv_views s h
    rw [hread] at e2; cases e2; exact ok2
  obtain ⟨s', e, hi, hv, _⟩ := onRel_views s s0 r (pad n) h hread (C04.pad_okR n r)
  refine ⟨s', e, hi, ?_⟩
  rw [C18.pad_events, C18.pad_duration n r hr.1] at hv
  exact hv

/-- **set_channel, wrapper level**: through either view, every event has its channel replaced and nothing
    else changes (same ticks, same duration) -/
theorem setChannel_seq (s s0 : Seq) (r : List Msg) (c : Int) (h : SeqInv s) (hread : s.readRel = .ok (s0, r)) :
    ∃ s', s.setChannelSeq c = .ok s' ∧ SeqInv s'
      ∧ ViewsShow s' ((eventsRel r).map (fun m => { m with ch := c })) (durRel r) := by
  obtain ⟨s', e, hi, hv, _⟩ := onRel_views s s0 r (setChannel c) h hread (C04.setChannel_okR c r)
  refine ⟨s', e, hi, ?_⟩
  rw [C18.channel_events, C18.channel_duration] at hv
  exact hv

/-- **scale without re-quantisation, wrapper level** (`scale(k, quantise_afterwards=False)`, integer `k ≥ 1`):
    through either view every event's tick — hence every onset and every note duration — and the total
    duration are multiplied by `k`, and nothing else changes; read through the relative view, the notes are
    exactly the old notes with onset and end multiplied by `k` -/
theorem scale_seq (e : Env) (s s0 : Seq) (r : List Msg) (k : Int) (hk : 1 ≤ k) (h : SeqInv s)
    (hread : s.readRel = .ok (s0, r)) :
    ∃ s', Seq.scaleSeq e s k false = .ok s' ∧ SeqInv s'
      ∧ ViewsShow s' ((eventsRel r).map (fun m => { m with time := k * m.time })) (k * durRel r)
      ∧ ∃ r', s'.readRel = .ok (s', r') ∧
          notesOf (eventsRel r') = (notesOf (eventsRel r)).map (fun n => { n with on := k * n.on, off := k * n.off }) := by
  obtain ⟨s', e1, hi, hv, hr'⟩ := onRel_views s s0 r (scaleRel k) h hread (C04.scaleRel_okR k (by omega) r)
  refine ⟨s', ?_, hi, ?_, scaleRel k r, hr', C18.scale_notes k r hk⟩
  · unfold Seq.scaleSeq
    rw [e1]; rfl
  · rw [C18.scale_events, C18.scale_duration] at hv
    exact hv

/-- the rule by which `cutoff(m, r)` rewrites a note -/
def cutNote (m r : Int) (n : Note) : Note := if n.off - n.on > m then { n with off := n.on + r } else n

/-- **cut-off, wrapper level** (`1 ≤ r ≤ m`): from any state in the invariant whose absolute content `a` is
    well-formed with notes of positive length, `Sequence.cutoff(m, r)` succeeds, keeps the invariant, and read
    through EITHER view the notes are exactly the old notes with those longer than `m` shortened to `r`
    (onset, pitch, channel, velocity unchanged), and the non-note events are the old ones -/
theorem cutoff_seq (s s0 : Seq) (a : List Msg) (m r : Int) (hr : 1 ≤ r ∧ r ≤ m) (h : SeqInv s)
    (hread : s.readAbs = .ok (s0, a)) (hwf : WF (sortAbs a)) (hpd : Notes.PosDur (sortAbs a)) :
    ∃ s', s.cutoffSeq m r = .ok s' ∧ SeqInv s'
      ∧ (∃ s1 a', s'.readAbs = .ok (s1, a')
          ∧ (notesOf (eventsAbs a')).Perm ((notesOf (sortAbs a)).map (cutNote m r))
          ∧ (nonNotes (eventsAbs a')).Perm (nonNotes (eventsAbs a)))
      ∧ (∃ s2 r', s'.readRel = .ok (s2, r')
          ∧ (notesOf (eventsRel r')).Perm ((notesOf (sortAbs a)).map (cutNote m r))
          ∧ (nonNotes (eventsRel r')).Perm (nonNotes (eventsAbs a))) := by
  obtain ⟨s', e1, hi, ha', hok, s'', hr'⟩ :=
    onAbs_views s s0 a (cutoff m r) h hread (C04.cutoff_okA m r (by omega) a)
  have hn : (notesOf (eventsAbs (cutoff m r a))).Perm ((notesOf (sortAbs a)).map (cutNote m r)) := by
    rw [notesOf_eventsAbs]
    exact Notes.cutoff_notes m r hr a hwf hpd
  have ho : (nonNotes (eventsAbs (cutoff m r a))).Perm (nonNotes (eventsAbs a)) :=
    nonNotes_eventsAbs_perm (C18.cutoff_others m r a)
  refine ⟨s', e1, hi, ⟨s', _, ha', hn, ho⟩, ⟨s'', _, hr', ?_, ?_⟩⟩
  · rw [C04.toRel_events _ hok]; exact hn
  · rw [C04.toRel_events _ hok]; exact ho

/-- the counter-examples below start from two notes of one pitch, [0, 30) and [40, 45) -/
def exTwoNotes : List Msg := [Msg.mkOn 0 60 64 0, Msg.mkOff 0 60 30, Msg.mkOn 0 60 64 40, Msg.mkOff 0 60 45]

theorem exTwoNotes_wf : WF (sortAbs exTwoNotes) := by decide

/-- `cutoff_notes` without the restriction `1 ≤ r` (replacement length 0) … -/
def cutoff_r0_statement : Prop :=
  ∀ (m : Int) (a : List Msg), 0 ≤ m → WF (sortAbs a) → Notes.PosDur (sortAbs a) →
    (notesOf (cutoff m 0 a)).Perm ((notesOf (sortAbs a)).map (cutNote m 0))

/-- … is false: the shortened note's note-off lands on its note-on's tick and is sorted BEFORE it, so the
    note-on is left open and captures the next note-off of that pitch.  The real `cutoff(10, 0)` returns the
    same ill-formed list (replayed); a following `normalise()` then deletes both notes. -/
theorem cutoff_r0_statement_false : ¬ cutoff_r0_statement := by
  intro h
  have := h 10 exTwoNotes (by decide) exTwoNotes_wf (by unfold Notes.PosDur; decide)
  revert this
  decide +kernel

example : cutoff 10 0 [Msg.mkOn 0 60 64 0, Msg.mkOff 0 60 30, Msg.mkOn 0 60 64 40, Msg.mkOff 0 60 45]
    = [Msg.mkOff 0 60 0, Msg.mkOn 0 60 64 0, Msg.mkOn 0 60 64 40, Msg.mkOff 0 60 45] := by decide +kernel

/-- what the default flag does: exactly `quantise_and_normalise()` on the exactly scaled sequence — so after
    it the statements of C05 / C06 / C07 (onsets on the grid, durations from the default note values,
    well-formedness) hold of the *scaled* content, not "every duration multiplied by k" -/
theorem scale_default_eq (e : Env) (s : Seq) (k : Int) :
    Seq.scaleSeq e s k true = (Seq.scaleSeq e s k false) >>= Seq.quantiseAndNormalise e := by
  unfold Seq.scaleSeq
  cases s.onRel (fun r => .ok (scaleRel k r)) <;> rfl

/-- "scaling by k multiplies every duration by k", claimed of the default call `scale(k)` … -/
def scale_default_statement : Prop :=
  ∀ (a : List Msg) (k : Int) (s' : Seq), OkAbs a → WF a → 1 ≤ k →
    Seq.scaleSeq genEnv (Seq.ofAbs a) k true = .ok s' →
    ∀ s'' a', s'.readAbs = .ok (s'', a') →
      (notesOf (eventsAbs a')).Perm ((notesOf a).map (fun n => { n with on := k * n.on, off := k * n.off }))

/-- … is false (also of the real code, replayed): notes [0,30) and [40,45) scaled by 2 come out as [0,36) and
    [80,89), because the scaled durations 60 and 10 are not default note values and are re-quantised -/
theorem scale_default_statement_false : ¬ scale_default_statement := by
  intro h
  have := h exTwoNotes 2
    { abs := [Msg.mkOn 0 60 64 0, Msg.mkOff 0 60 36, Msg.mkOn 0 60 64 80, Msg.mkOff 0 60 89],
      rel := [Msg.mkOn 0 60 64 pyNone, Msg.mkWait 0 36, Msg.mkOff 0 60 pyNone, Msg.mkWait 0 44,
              Msg.mkOn 0 60 64 pyNone, Msg.mkWait 0 9, Msg.mkOff 0 60 pyNone],
      absStale := true, relStale := false }
    (by refine ⟨?_, ?_, by decide⟩ <;> simp [exTwoNotes, TimeSorted, NonNegTimes, Msg.mkOn, Msg.mkOff])
    (by rw [← show sortAbs exTwoNotes = exTwoNotes by decide]; exact exTwoNotes_wf)
    (by decide) (by rfl) _ _ rfl
  revert this
  decide +kernel

/-- `C06.qnl_wf` with the hypothesis `0 < v` weakened to `0 ≤ v` … -/
def qnl_wf_zero_statement : Prop :=
  ∀ (values : List Int) (stdLen : Int) (dne : Bool) (a out : List Msg), (∀ v ∈ values, 0 ≤ v) →
    WF (sortAbs a) → Notes.PosDur (sortAbs a) → quantiseNoteLengths values stdLen dne a = .ok out → WF out

/-- … is false (A17: `0 < v` is necessary): with the value 0 allowed, a 5-tick note gets length 0, its note-off
    is sorted before its note-on and the result is ill-formed.  The real `quantise_note_lengths([0, 12])`
    returns the same list (replayed); the default note values are all positive. -/
theorem qnl_wf_zero_statement_false : ¬ qnl_wf_zero_statement := by
  intro h
  have hw := h [0, 12] 24 false [Msg.mkOn 0 60 64 0, Msg.mkOff 0 60 5] [Msg.mkOff 0 60 0, Msg.mkOn 0 60 64 0]
    (by decide) (by decide) (by unfold Notes.PosDur; decide) (by rfl)
  have := hw (0, 60)
  simp [altFrom, Msg.mkOn, Msg.mkOff, Msg.nkey] at this

end SCoda.Gaps
