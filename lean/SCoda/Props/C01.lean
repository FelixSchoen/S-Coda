/-
  C01 — tokenise, encode, decode, detokenise reproduces every valid piece exactly
  C03 — stateful bar-by-bar tokenisation is equivalent to tokenising the whole piece

  The theorems themselves.  The layers beneath: `Lemmas/Tokenise.lean` (a call of the tokeniser as a derivation),
  `Lemmas/DetokLog.lean` (the detokeniser run with its emission log `dfold`), `Lemmas/SpecClock.lean` (the
  specification `specLog`), `Lemmas/TokSim.lean` (the simulation `core_sim_mono`).
-/
import SCoda.Lemmas.TokSim
namespace SCoda.C01
open SCoda

theorem dpart_seqs (c : Cfg) (d d' : DetokSt) (p : Part) (h : dpart c d p = .ok d') :
    d'.seqs = (emitOfPart c d p).foldl applyEmit d.seqs := by
  cases p with
  | pad | sta | sto | rest _ | trk _ | val _ | vel _ =>
    simp only [dpart] at h; cases h; rfl
  | bar => simp only [dpart] at h; cases h; rfl
  | pit p =>
    simp only [dpart] at h
    split at h
    · cases h
    · cases h; rfl
  | tsig a b =>
    simp only [dpart] at h
    simp only [emitOfPart]
    split at h
    · rename_i hb
      cases h; rw [if_pos hb]; rfl
    · rename_i hb
      rw [if_neg hb]
      split at h
      · cases h
      · rename_i hne
        cases h
        simp only
        by_cases hsw : ((d.tsNum != a || d.tsDen != b) || !c.running) = true
        · rw [if_pos hsw, if_pos hsw]
          have hlen : (d.seqs.length == 0) = false := by
            simpa [hsw] using hne
          simp [hlen, applyEmit]
        · rw [if_neg hsw, if_neg hsw]; rfl

theorem dstepLog_fold (c : Cfg) (ps : List Part) (d d' : DetokSt) (log : List Emit)
    (h : dfold.dstepLog c d ps = .ok (d', log)) :
    ps.foldlM (dpart c) d = .ok d' ∧ d'.seqs = log.foldl applyEmit d.seqs := by
  induction ps generalizing d log with
  | nil => simp only [dfold.dstepLog] at h; cases h; exact ⟨rfl, rfl⟩
  | cons p ps ih =>
    obtain ⟨d1, log2, h1, h2, rfl⟩ := dstepLog_cons_inv h
    obtain ⟨e1, e2⟩ := ih d1 log2 h2
    rw [List.foldlM_cons, h1, List.foldl_append]
    exact ⟨e1, by rw [e2, dpart_seqs c d d1 p h1]⟩

theorem dfold_fold (c : Cfg) (toks : List Tok) (d d' : DetokSt) (log : List Emit)
    (h : dfold c d toks = .ok (d', log)) :
    toks.foldlM (dstep c) d = .ok d' ∧ d'.seqs = log.foldl applyEmit d.seqs := by
  induction toks generalizing d log with
  | nil => simp only [dfold] at h; cases h; exact ⟨rfl, rfl⟩
  | cons t ts ih =>
    obtain ⟨d1, log1, log2, h1, h2, rfl⟩ := dfold_cons_inv h
    obtain ⟨e1, e2⟩ := ih d1 log2 h2
    obtain ⟨f1, f2⟩ := dstepLog_fold c t.parts d d1 log1 h1
    rw [List.foldlM_cons, Detok.dstep_eq, f1, List.foldl_append]
    exact ⟨e1, by rw [e2, f2]⟩

/-- `dfold` is `detokenise` plus the log: same final sequences -/
theorem dfold_detokenise (c : Cfg) (toks : List Tok) (d : DetokSt) (log : List Emit)
    (h : dfold c (DetokSt.init c) toks = .ok (d, log)) :
    detokenise c toks = .ok d.seqs ∧ d.seqs = log.foldl applyEmit (DetokSt.init c).seqs := by
  obtain ⟨e1, e2⟩ := dfold_fold c toks _ d log h
  exact ⟨by rw [Detok.detokenise_foldlM, e1]; rfl, e2⟩

/-- the rest lemma: the tokens `applyRest` emits advance the detokeniser's clock by exactly the rest
    and make it emit exactly the bar ends that `advance` lists.  Stated over `applyRest` itself, as the clauses cite it;
    the proofs use `Rests.advance`, `Rests.dfold`, `Rests.all` on a derivation instead. -/
theorem applyRest_sync (c : Cfg) (hc : CfgOk c) (capTotal : Int) (hcap : 0 < capTotal)
    (fuel : Nat) (rest : Int) (k : Clock) (acc acc' : List Tok) (clk' : Int × Int × Int)
    (hk : k.capTotal = capTotal) (hrem : 0 < k.capRem) (hbar : 0 ≤ k.bar)
    (h : applyRest c capTotal fuel rest (k.cur, k.bar, k.capRem) acc = .ok (clk', acc')) :
    ∃ new, acc' = new.reverse ++ acc
      ∧ (∀ t ∈ new, t = Tok.bar ∨ ∃ v, t = Tok.rest v ∧ v ∈ c.steps)
      ∧ let r := advance (rest.toNat + 1) rest k
        clk' = (r.1.cur, r.1.bar, r.1.capRem) ∧ r.1.capTotal = capTotal ∧ 0 < r.1.capRem ∧ 0 ≤ r.1.bar
        ∧ ∀ d : DetokSt, d.curTime = k.cur → d.curTimeBar = k.bar → d.capRem = k.capRem → d.capTotal = capTotal →
            ∃ d', dfold c d new = .ok (d', r.2.map Emit.barEnd)
              ∧ d'.curTime = r.1.cur ∧ d'.curTimeBar = r.1.bar ∧ d'.capRem = r.1.capRem ∧ d'.capTotal = capTotal
              ∧ d'.prvTrack = d.prvTrack ∧ d'.prvValue = d.prvValue ∧ d'.prvVel = d.prvVel
              ∧ d'.tsNum = d.tsNum ∧ d'.tsDen = d.tsDen ∧ d'.seqs.length = d.seqs.length := by
  obtain ⟨new, ends, hR, hacc⟩ := Tokenise.applyRest_rests h
  obtain ⟨a5, a4⟩ := hR.inv hc.steps_pos hbar (Or.inl hrem)
  have hadv : advance (rest.toNat + 1) rest k = (⟨clk'.1, clk'.2.1, capTotal, clk'.2.2⟩, ends) := by
    subst hk; exact hR.advance hc.steps_pos
  refine ⟨new, hacc, hR.all (Or.inl rfl) (fun v hv => Or.inr ⟨v, rfl, hv⟩), ?_⟩
  dsimp only
  rw [hadv]
  refine ⟨rfl, rfl, ?_, a5, fun d h1 h2 h3 h4 => ?_⟩
  · rcases a4 with h | h
    · exact h
    · rw [h.2]; exact hcap
  · obtain ⟨d', f1, -, f2, f3⟩ := hR.dfold hc.steps_pos d (by rw [h1, h2, h3]) h4
    cases f2
    exact ⟨d', f1, rfl, rfl, rfl, f3⟩

theorem dfold_opt (c : Cfg) (d : DetokSt) (b : Bool) (t : Tok) (d1 : DetokSt)
    (h : dfold.dstepLog c d t.parts = .ok (d1, [])) :
    dfold c d (if b = true then [t] else []) = .ok (if b = true then d1 else d, []) := by
  cases b
  · rfl
  · simp [dfold, h]

/-- `CfgOk.capacity_scaled` under the name the clause cites -/
theorem capacity_scaled (c : Cfg) (hc : CfgOk c) (num den : Int) (hd : 0 < den)
    (hdiv : (num * c.defDen) % den = 0) :
    c.capacity ((num * c.defDen) / den) c.defNum = c.capacity num den :=
  hc.capacity_scaled num den hd hdiv

/-! `sim_statement` (the simulation without positivity of the bar capacities) is FALSE for the model —
    `sim_statement_false` below.  `sim_partial` proves it under the two extra hypotheses `hcap0` (the
    start state's bar capacity is positive) and `hcapEv` (every time signature in the events has a
    positive bar capacity).  `roundtrip` and `chunked` do not need them: they are proved from `core_sim_mono`,
    whose invariant is weaker (the bar may be empty). -/

/-- the **simulation** without the two capacity hypotheses of `sim_partial`; false (`sim_statement_false`) -/
def sim_statement : Prop :=
  ∀ (c : Cfg) (_ : CfgOk c) (st st' : TokSt) (d : DetokSt) (evs : List (Int × Pairing)) (toks : List Tok)
    (_ : Rel c st d) (_ : EvsOk c st.curTime st.curTime evs)
    (_ : tokeniseCore c st evs = .ok (toks, st')),
    ∃ d' log, dfold c d toks = .ok (d', log) ∧ Rel c st' d'
      ∧ log.filter notTsig = (specLog c st evs).2
      ∧ st'.curTime = (specLog c st evs).1.cur ∧ st'.curTimeBar = (specLog c st evs).1.bar
      ∧ st'.capRem = (specLog c st evs).1.capRem

/-- **simulation**, with positive bar capacities (C01 core; C03 because the start state is arbitrary): whenever `tokenise` accepts
    the events from state `st`, the detokeniser run over the emitted tokens from any related state
    succeeds, ends in a state related to the tokeniser's final state, and — time-signature messages
    aside — emits exactly the specification log: every note at its onset with its duration and binned
    velocity on its track, and every bar end of the grid. -/
theorem sim_partial (c : Cfg) (hc : CfgOk c) (st st' : TokSt) (d : DetokSt) (evs : List (Int × Pairing)) (toks : List Tok)
    (hrel : Rel c st d) (hev : EvsOk c st.curTime st.curTime evs)
    (hcap0 : 0 < c.capacity st.tsNum st.tsDen)
    (hcapEv : ∀ ev ∈ evs, ∀ m ∈ ev.2.head?, m.ty = .timeSignature → 0 < c.capacity m.num m.den)
    (hok : tokeniseCore c st evs = .ok (toks, st')) :
    ∃ d' log, dfold c d toks = .ok (d', log) ∧ Rel c st' d'
      ∧ log.filter notTsig = (specLog c st evs).2
      ∧ st'.curTime = (specLog c st evs).1.cur ∧ st'.curTimeBar = (specLog c st evs).1.bar
      ∧ st'.capRem = (specLog c st evs).1.capRem := by
  obtain ⟨E, a1, a5, hr, _⟩ := core_sim_ready c hc st st' evs toks ⟨hrel.barNonneg, Or.inl hrel.remPos, hcap0⟩ hev hcapEv hok
  obtain ⟨d', log, b1, b2, b3, _⟩ := a5 d hrel.toRelD
  rw [a1]
  exact ⟨d', log, b1, ⟨b2.cur, b2.bar, b2.rem, b2.tot, b2.trk, b2.val, b2.vel, hr.1, hr.remPos, b2.seqsLen⟩, b3, rfl, rfl, rfl⟩

def cexCfg : Cfg := { ppqn := 1, tsLo := 1, steps := [1, 2], values := [1], bins := [127] }

/-- a time signature whose bar holds 0 ticks (ppqn 1, signature 1/8) is
    accepted by the tokeniser and leaves `capRem = 0`, contradicting `Rel.remPos`. -/
theorem sim_statement_false : ¬ sim_statement := by
  intro h
  have hc : CfgOk cexCfg := by
    constructor <;> decide
  have hrel : Rel cexCfg (TokSt.init cexCfg) (DetokSt.init cexCfg) := by
    constructor <;> decide
  have hev : EvsOk cexCfg (TokSt.init cexCfg).curTime (TokSt.init cexCfg).curTime [(0, [Msg.mkTimeSig 0 1 8 0])] := by
    constructor <;> simp [Msg.mkTimeSig, TokSt.init, cexCfg]
  obtain ⟨d', log, _, h2, _⟩ := h cexCfg hc (TokSt.init cexCfg)
    { curTime := 0, curTimeBar := 0, tsNum := 1, tsDen := 8, capRem := 0, prvTrack := -1, prvValue := -1, prvVel := -1 }
    (DetokSt.init cexCfg) [(0, [Msg.mkTimeSig 0 1 8 0])] [Tok.tsig 1 8] hrel hev rfl
  exact absurd h2.remPos (by decide)

theorem rel_init (c : Cfg) (hc : CfgOk c) (hn : 0 < c.numTracks) : Rel c (TokSt.init c) (DetokSt.init c) := by
  have _ := hn
  refine ⟨rfl, rfl, rfl, rfl, Or.inl (by simp [TokSt.init]), Or.inl (by simp [TokSt.init]), Or.inl (by simp [TokSt.init]), Int.le_refl 0,
    hc.defCap_pos, ?_⟩
  simp [DetokSt.init]

/-- **C01**: single call from the initial state -/
theorem roundtrip (c : Cfg) (hc : CfgOk c) (hn : 0 < c.numTracks) (evs : List (Int × Pairing)) (toks : List Tok) (st' : TokSt)
    (hev : EvsOk c 0 0 evs) (hok : tokeniseCore c (TokSt.init c) evs = .ok (toks, st')) :
    ∃ d log, dfold c (DetokSt.init c) toks = .ok (d, log)
      ∧ detokenise c toks = .ok d.seqs
      ∧ log.filter notTsig = (specLog c (TokSt.init c) evs).2 := by
  have _ := hn
  obtain ⟨E, a1, _, _, a5⟩ := core_sim_mono c hc (TokSt.init c) st' evs toks (Int.le_refl 0) (Or.inr ⟨rfl, rfl⟩) hev hok
  obtain ⟨d', log, b1, _, b3, _⟩ := a5 (DetokSt.init c) (relD_init c)
  exact ⟨d', log, b1, (dfold_detokenise c toks d' log b1).1, by rw [a1]; exact b3⟩

/-! **C03** is `chunked` below: two consecutive calls threading the state equal one call on the joined events
    (the second call's events shifted by the clock the first call ended at, `shiftEvs`), provided the first call
    ends on a bar line (every chunk is a whole number of bars). -/

/-! `specLog_append_statement` is FALSE for the model (`specLog_append_statement_false`): with a
    non-positive bar capacity the specification clock is fuel dependent.  `specLog_append_partial` adds the
    hypothesis that the second call is accepted by the tokeniser, which `chunked` has among its own. -/

/-- both sides are what the detokeniser emits on `toks1 ++ toks2`: the two calls are one call on the joined events
    (`Tokenise.core_append`, which needs the bar line `hbar`) -/
theorem specLog_append_partial (c : Cfg) (st : TokSt) (evs1 evs2 : List (Int × Pairing)) (st1 : TokSt) (toks1 : List Tok)
    (hc : CfgOk c) (h1 : tokeniseCore c st evs1 = .ok (toks1, st1)) (hbar : st1.curTimeBar = 0)
    (hrem : 0 < st.capRem) (hb : 0 ≤ st.curTimeBar)
    (hev1 : EvsOk c st.curTime st.curTime evs1) (hev2 : EvsOk c st1.curTime st1.curTime evs2)
    (toks2 : List Tok) (st2 : TokSt) (h2 : tokeniseCore c st1 evs2 = .ok (toks2, st2)) :
    (specLog c st (evs1 ++ shiftEvs (st1.curTime - st.curTime) evs2)).2
      = (specLog c st evs1).2 ++ (specLog c st1 evs2).2 := by
  have hj := Tokenise.core_append c hc.steps_pos st st1 st2 evs1 evs2 toks1 toks2 h1 hbar
    (fun ev he m hm => by have := hev2.notBefore ev he m hm; omega) h2
  -- a detokeniser state related to `st`
  let d0 : DetokSt := ⟨st.curTime, st.curTimeBar, 0, 0, c.capacity st.tsNum st.tsDen, st.capRem, st.prvTrack, st.prvValue,
    st.prvVel, List.replicate c.numTracks []⟩
  have hd0 : RelD c st d0 := ⟨rfl, rfl, rfl, rfl, Or.inr rfl, Or.inr rfl, Or.inr rfl, by simp [d0]⟩
  obtain ⟨E1, a1, a2, a3, a5⟩ := core_sim_mono c hc st st1 evs1 toks1 hb (Or.inl hrem) hev1 h1
  obtain ⟨d1, log1, b1, b2, b3, _⟩ := a5 d0 hd0
  obtain ⟨E2, f1, _, _, f5⟩ := core_sim_mono c hc st1 st2 evs2 toks2 a2 a3 hev2 h2
  obtain ⟨d2, log2, g1, _, g3, _⟩ := f5 d1 b2
  obtain ⟨E, j1, _, _, j5⟩ := core_sim_mono c hc st st2 _ _ hb (Or.inl hrem) (evsOk_join h1 hev1 hev2) hj
  obtain ⟨d', log, k1, _, k3, _⟩ := j5 d0 hd0
  rw [dfold_append b1 g1] at k1
  cases k1
  rw [j1, a1, f1, ← k3, List.filter_append, b3, g3]

def specLog_append_statement : Prop :=
  ∀ (c : Cfg) (st : TokSt) (evs1 evs2 : List (Int × Pairing)) (st1 : TokSt) (toks1 : List Tok)
    (_ : CfgOk c) (_ : tokeniseCore c st evs1 = .ok (toks1, st1)) (_ : st1.curTimeBar = 0)
    (_ : 0 < st.capRem) (_ : 0 ≤ st.curTimeBar)
    (_ : EvsOk c st.curTime st.curTime evs1) (_ : EvsOk c st1.curTime st1.curTime evs2),
    (specLog c st (evs1 ++ shiftEvs (st1.curTime - st.curTime) evs2)).2
      = (specLog c st evs1).2 ++ (specLog c st1 evs2).2

/-- from a start state whose bar capacity is 0 (`tsNum = 0`) the
    specification clock `advance` never gets past the bar line, and the number of bar ends it lists is
    its fuel, which differs between the joined call and the second call.  (The tokeniser rejects the
    second call, which is the hypothesis `specLog_append_partial` adds.) -/
theorem specLog_append_statement_false : ¬ specLog_append_statement := by
  intro h
  have hc : CfgOk cexCfg := by
    constructor <;> decide
  have hev1 : EvsOk cexCfg 0 0 [] := by
    constructor <;> simp
  have hev2 : EvsOk cexCfg 2 2 [(0, [Msg.mkInternal 0 3])] := by
    constructor <;> simp [Msg.mkInternal, cexCfg]
  have := h cexCfg { curTime := 0, curTimeBar := 1, tsNum := 0, tsDen := 1, capRem := 2 } [] [(0, [Msg.mkInternal 0 3])]
    { curTime := 2, curTimeBar := 0, tsNum := 0, tsDen := 1, capRem := 0 } [Tok.rest 2, Tok.bar] hc rfl rfl
    (by decide) (by decide) hev1 hev2
  exact absurd (congrArg List.length this) (by decide)

theorem chunked (c : Cfg) (hc : CfgOk c) (st st1 st2 : TokSt) (d : DetokSt)
    (evs1 evs2 : List (Int × Pairing)) (toks1 toks2 : List Tok)
    (hrel : Rel c st d)
    (hev1 : EvsOk c st.curTime st.curTime evs1) (hev2 : EvsOk c st1.curTime st1.curTime evs2)
    (h1 : tokeniseCore c st evs1 = .ok (toks1, st1)) (h2 : tokeniseCore c st1 evs2 = .ok (toks2, st2))
    (hbar : st1.curTimeBar = 0) :
    ∃ d' log, dfold c d (toks1 ++ toks2) = .ok (d', log)
      ∧ log.filter notTsig = (specLog c st (evs1 ++ shiftEvs (st1.curTime - st.curTime) evs2)).2 := by
  have hj := Tokenise.core_append c hc.steps_pos st st1 st2 evs1 evs2 toks1 toks2 h1 hbar
    (fun ev he m hm => by have := hev2.notBefore ev he m hm; omega) h2
  obtain ⟨E, a1, _, _, a5⟩ := core_sim_mono c hc st st2 _ _ hrel.barNonneg (Or.inl hrel.remPos) (evsOk_join h1 hev1 hev2) hj
  obtain ⟨d', log, b1, _, b3, _⟩ := a5 d hrel.toRelD
  exact ⟨d', log, b1, by rw [a1]; exact b3⟩

/-! ## non-vacuity: a concrete piece (two tracks, a rest across a bar line, a signature change) -/
def exCfg : Cfg := { steps := [2, 3, 4, 6, 8, 12, 16, 24], values := [4, 6, 8, 9, 12, 16, 18, 24, 36], bins := [63, 127],
                     numTracks := 2, fuseVel := false }

def exEvs : List (Int × Pairing) :=
  [(0, [Msg.mkTimeSig 0 3 4 0]), (0, [Msg.mkOn 0 60 64 0, Msg.mkOff 0 60 24]), (1, [Msg.mkOn 1 48 30 60, Msg.mkOff 1 48 72]),
   (0, [Msg.mkOn 0 62 100 150, Msg.mkOff 0 62 156])]

example : CfgOk exCfg := by
  constructor <;> decide

example : EvsOk exCfg 0 0 exEvs := by
  constructor <;> simp [exEvs, exCfg, Msg.mkTimeSig, Msg.mkOn]

example : (tokeniseCore exCfg (TokSt.init exCfg) exEvs).toOption.isSome = true := by
  rfl

example : (specLog exCfg (TokSt.init exCfg) exEvs).2 =
    [.note 0 60 127 0 24, .note 1 48 63 60 72, .barEnd 72, .barEnd 144, .note 0 62 127 150 156, .barEnd 216] := by
  rfl

end SCoda.C01
