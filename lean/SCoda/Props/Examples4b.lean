/-
  Audit round 4, item C7 (non-vacuity), part 2: `C09n.sound_exact_boundary'` on an input WITH signatures.
-/
import SCoda.Props.C09n
import SCoda.Props.Strong589B
namespace SCoda.Examples4b
open SCoda SCoda.SplitL SCoda.SB SCoda.BarL SCoda.Strong589 SCoda.Strong589L SCoda.Strong589LT SCoda.Strong589LB SCoda.C09n


/-- a meta track WITH signatures: 3/4 at tick 0, 2/4 at tick 144, 4/4 at tick 192 (all on bar starts of the grid they induce:
    0, 72, 144, 192, 288), a key change at tick 72, a zero-length note AT TICK 0 (allowed by `NoZeroOnGrid'`, excluded by
    `Strong589.NoZeroOnGrid`), a note over [0,96) crossing the bar line 72, and a zero-length note at tick 106 (inside bar 1, off the grid) -/
def metaZ : List Msg :=
  [Msg.mkTimeSig 0 3 4 pyNone, Msg.mkOn 0 67 64 pyNone, Msg.mkOff 0 67 pyNone, Msg.mkOn 0 60 64 pyNone, Msg.mkWait 0 72, ksMsg 1,
   Msg.mkWait 0 24, Msg.mkOff 0 60 pyNone, Msg.mkWait 0 10, Msg.mkOn 0 62 64 pyNone, Msg.mkOff 0 62 pyNone, Msg.mkWait 0 38,
   Msg.mkTimeSig 0 2 4 pyNone, Msg.mkWait 0 48, Msg.mkTimeSig 0 4 4 pyNone]
/-- a side track: a note over [80,150) crossing the bar line 144, where the signature changes -/
def sideZ : List Msg := [Msg.mkWait 0 80, Msg.mkOn 1 48 64 pyNone, Msg.mkWait 0 70, Msg.mkOff 1 48 pyNone, Msg.mkWait 0 100]

example : (sigsOf metaZ).map (fun m => (m.time, m.num, m.den)) = [(0, 3, 4), (144, 2, 4), (192, 4, 4)]
    ∧ (List.range 5).map (gridStart 24 (sigsOf metaZ)) = [0, 72, 144, 192, 288] := by decide +kernel

theorem metaZ_pos : PosBars 24 (sigsOf metaZ) := by decide +kernel
theorem metaZ_distinct : DistinctTicks (sigsOf metaZ) := by decide +kernel
theorem metaZ_aligned : ∀ m ∈ sigsOf metaZ, OnGrid 24 (sigsOf metaZ) m.time :=
  (alignedIn_of_B 24 (sigsOf metaZ) [] (by decide +kernel)).1
theorem metaZ_wf : WF metaZ := wf_of_keys _ (by decide)
theorem sideZ_wf : WF sideZ := wf_of_keys _ (by decide)
theorem metaZ_waits : NonNegWaits metaZ := by unfold NonNegWaits; decide
theorem sideZ_waits : NonNegWaits sideZ := by unfold NonNegWaits; decide
theorem metaZ_nozero : NoZeroOnGrid' 24 (sigsOf metaZ) metaZ := noZeroOnGrid'_of_B _ _ _ metaZ_pos (by decide +kernel)
theorem sideZ_nozero : NoZeroOnGrid' 24 (sigsOf metaZ) sideZ := noZeroOnGrid'_of_B _ _ _ metaZ_pos (by decide +kernel)

/-- the hypothesis `hz` is exercised: the track has two zero-length notes, one on the bar start 0 -/
example : (notesOf (eventsRel metaZ)).filter (fun n => n.on == n.off) = [⟨0, 67, 0, 0, 64⟩, ⟨0, 62, 106, 106, 64⟩]
    ∧ ¬ NoZeroOnGrid 24 (sigsOf metaZ) metaZ := by
  refine ⟨by decide +kernel, fun h => ?_⟩
  exact h ⟨0, 67, 0, 0, 64⟩ (by decide +kernel) rfl ⟨0, rfl⟩

theorem splitZ_ok : isOk (splitBars 24 vals [metaZ, sideZ] 0 false) = true ∧ (outOf (splitBars 24 vals [metaZ, sideZ] 0 false)).length = 2 := by
  decide +kernel

/-- **all ten hypotheses of `C09n.sound_exact_boundary'` together, `sigsOf ≠ []`**: the split succeeds, and for the meta track and
    for the side track the bars laid end to end sound exactly what the track sounds -/
theorem ex_sound_exact_boundary' : sigsOf metaZ ≠ [] ∧
    ∃ tb b0 b1, splitBars 24 vals [metaZ, sideZ] 0 false = .ok tb ∧ tb[0]? = some b0 ∧ tb[1]? = some b1 ∧
      (∀ k tick, SoundingAt (eventsRel (barsToSeq b0)) k tick ↔ SoundingAt (eventsRel metaZ) k tick) ∧
      (∀ k tick, SoundingAt (eventsRel (barsToSeq b1)) k tick ↔ SoundingAt (eventsRel sideZ) k tick) := by
  refine ⟨by decide +kernel, ?_⟩
  obtain ⟨h1, h2⟩ := splitZ_ok
  cases h : splitBars 24 vals [metaZ, sideZ] 0 false with
  | error x => rw [h] at h1; cases h1
  | ok tb =>
    rw [h] at h2
    simp only [outOf] at h2
    match tb, h2, h with
    | [b0, b1], _, h =>
      refine ⟨_, b0, b1, rfl, rfl, rfl, ?_, ?_⟩
      · exact fun k tick => sound_exact_boundary' 24 vals [metaZ, sideZ] 0 _ h metaZ rfl metaZ_pos metaZ_distinct metaZ_aligned
          0 metaZ b0 rfl rfl metaZ_waits metaZ_wf metaZ_nozero k tick
      · exact fun k tick => sound_exact_boundary' 24 vals [metaZ, sideZ] 0 _ h metaZ rfl metaZ_pos metaZ_distinct metaZ_aligned
          1 sideZ b1 rfl rfl sideZ_waits sideZ_wf sideZ_nozero k tick

/-- the conclusion evaluated: bars of 3/4, 3/4, 2/4, 4/4; the notes of the bars laid end to end are the track's notes cut at the
    bar lines 72 (meta track) and 144 (side track); both zero-length notes survive -/
example : (outOf (splitBars 24 vals [metaZ, sideZ] 0 false)).map (fun bs => (bs.map (fun b => (b.num, b.den)), notesOf (eventsRel (barsToSeq bs))))
    = [([(3, 4), (3, 4), (2, 4), (4, 4)], [⟨0, 67, 0, 0, 64⟩, ⟨0, 60, 0, 72, 64⟩, ⟨0, 60, 72, 96, 64⟩, ⟨0, 62, 106, 106, 64⟩]),
       ([(3, 4), (3, 4), (2, 4), (4, 4)], [⟨1, 48, 80, 144, 64⟩, ⟨1, 48, 144, 150, 64⟩])] := by decide +kernel

end SCoda.Examples4b


