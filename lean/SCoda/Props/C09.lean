/-
  C09 — bar splitting follows the time signatures and conserves the music.
  `splitBars ppqn values tracks metaIdx requant` models `Sequence.sequences_split_bars`
  (after the repair of D13): a loop that, per round, looks up the signature / key in force,
  splits one bar length off every track (`split t [len]`), optionally re-quantises note lengths
  (shorten only) and builds a `Bar` (`mkBar`), until every track is exhausted in the same round.
-/
import SCoda.Model.Bar
import SCoda.Model.Roll
import SCoda.Props.C08
import SCoda.Props.C10
import SCoda.Lemmas.SplitBars
import SCoda.Lemmas.SplitBarsQ
import SCoda.Lemmas.BarGrid
namespace SCoda.C09
open SCoda SCoda.SplitL SCoda.SB SCoda.BarL SCoda.Strong589L

theorem equal_counts (ppqn : Int) (values : List Int) (tracks : List (List Msg)) (metaIdx : Nat) (requant : Bool)
    (tb : List (List Bar)) (h : splitBars ppqn values tracks metaIdx requant = .ok tb) :
    tb.length = tracks.length ∧ ∃ n, 0 < n ∧ ∀ bs ∈ tb, bs.length = n := by
  obtain ⟨_, r, _, hl, hall⟩ := splitBars_bars ppqn values tracks metaIdx requant tb h
  refine ⟨hl, r + 1, by omega, ?_⟩
  intro bs hbs
  obtain ⟨i, hi, rfl⟩ := List.getElem_of_mem hbs
  exact (hall i _ (List.getElem?_eq_getElem hi)).1

/-- every bar lasts exactly the length of the signature it carries, starts with that signature event
    and holds no other -/
theorem bars_exact (ppqn : Int) (values : List Int) (tracks : List (List Msg)) (metaIdx : Nat) (requant : Bool)
    (tb : List (List Bar)) (h : splitBars ppqn values tracks metaIdx requant = .ok tb) :
    ∀ bs ∈ tb, ∀ b ∈ bs, durRel b.seq = barCapacity ppqn b.num b.den
      ∧ b.seq.head? = some (Msg.mkTimeSig 0 b.num b.den pyNone) ∧ ∀ m ∈ b.seq.tail, m.ty ≠ .timeSignature := by
  obtain ⟨_, r, _, hl, hall⟩ := splitBars_bars ppqn values tracks metaIdx requant tb h
  intro bs hbs b hb
  obtain ⟨i, hi, rfl⟩ := List.getElem_of_mem hbs
  obtain ⟨k, hk, rfl⟩ := List.getElem_of_mem hb
  obtain ⟨g, piece, _, hmk⟩ := (hall i _ (List.getElem?_eq_getElem hi)).2 k _ (List.getElem?_eq_getElem hk)
  obtain ⟨h1, h2, h3, h4, _⟩ := C10.bar_leading_sig ppqn piece g.1 g.2.1 g.2.2 _ hmk
  refine ⟨?_, ?_, h2⟩
  · rw [h3, h4]
    exact C10Ch.bar_duration_ch ppqn piece g.1 g.2.1 g.2.2 0 _ hmk
  · rw [h3, h4]; exact h1

theorem same_column (ppqn : Int) (values : List Int) (tracks : List (List Msg)) (metaIdx : Nat) (requant : Bool)
    (tb : List (List Bar)) (h : splitBars ppqn values tracks metaIdx requant = .ok tb) (i j k : Nat) (b b' : Bar)
    (hb : barAt tb i k = some b) (hb' : barAt tb j k = some b') :
    b.num = b'.num ∧ b.den = b'.den ∧ b.key = b'.key := by
  obtain ⟨metaTrack, r, _, hl, hall⟩ := splitBars_bars ppqn values tracks metaIdx requant tb h
  have hx : ∀ i b, barAt tb i k = some b → ∃ g piece, (sched ppqn metaTrack (r + 1))[k]? = some g ∧
      mkBar ppqn piece g.1 g.2.1 g.2.2 = .ok b := by
    intro i b hb
    obtain ⟨bs, hbs, hb⟩ := Strong589LB.barAt_some.1 hb
    exact (hall i bs hbs).2 k b hb
  obtain ⟨g, piece, hg, hmk⟩ := hx i b hb
  obtain ⟨g', piece', hg', hmk'⟩ := hx j b' hb'
  rw [hg] at hg'
  cases hg'
  obtain ⟨_, _, h3, h4, h5⟩ := C10.bar_leading_sig ppqn piece g.1 g.2.1 g.2.2 _ hmk
  obtain ⟨_, _, h3', h4', h5'⟩ := C10.bar_leading_sig ppqn piece' g.1 g.2.1 g.2.2 _ hmk'
  exact ⟨by rw [h3, h3'], by rw [h4, h4'], by rw [h5, h5']⟩

/-- start tick of bar `k`: the sum of the lengths of the bars before it (read off track 0's bars) -/
def barStart (ppqn : Int) (bars : List Bar) (k : Nat) : Int :=
  ((bars.take k).map (fun b => barCapacity ppqn b.num b.den)).foldl (· + ·) 0

/-- the signature and key changes of the meta track fall on bar boundaries of the grid they induce:
    processing the events in order, each one sits on a bar start, at most one of each kind per bar start -/
def Aligned (ppqn : Int) (sigs keys : List Msg) (bars : List Bar) : Prop :=
  (∀ m ∈ sigs, ∃ k, k < bars.length ∧ m.time = barStart ppqn bars k)
  ∧ (∀ m ∈ keys, ∃ k, k < bars.length ∧ m.time = barStart ppqn bars k)
  ∧ sigs.Pairwise (fun a b => a.time < b.time) ∧ keys.Pairwise (fun a b => a.time < b.time)

theorem barStart_eq (ppqn : Int) (bars : List Bar) (gs : List Sg)
    (h : bars.map (fun b => ((b.num, b.den, b.key) : Sg)) = gs) (k : Nat) :
    barStart ppqn bars k = psum ppqn gs k := by
  subst h
  simp only [barStart, psum, ← List.map_take, List.map_map]
  rfl

theorem run_track0 (ppqn : Int) (values : List Int) (tracks : List (List Msg)) (metaIdx : Nat) (requant : Bool)
    (tb : List (List Bar)) (h : splitBars ppqn values tracks metaIdx requant = .ok tb)
    (bars0 : List Bar) (h0 : tb[0]? = some bars0) :
    ∃ metaTrack r, tracks[metaIdx]? = some metaTrack ∧
      bars0.map (fun b => ((b.num, b.den, b.key) : Sg)) = sched ppqn metaTrack (r + 1) ∧ bars0.length = r + 1 ∧
      (∀ (i : Nat) (t : List Msg), tracks[i]? = some t →
        ∃ tw t' nb, trackRun ppqn values requant (sched ppqn metaTrack (r + 1)) t = .ok (tw, t', nb) ∧
          tb[i]? = some nb ∧ tw[r]? = some false) ∧
      (∀ j, j < r → ∃ t ∈ tracks, ∃ tw t' nb,
        trackRun ppqn values requant (sched ppqn metaTrack (r + 1)) t = .ok (tw, t', nb) ∧ tw[j]? = some true) := by
  obtain ⟨metaTrack, r, hm, hl, hall, hex⟩ := splitBars_run ppqn values tracks metaIdx requant tb h
  have hi : 0 < tracks.length := by rw [← hl]; exact lt_of_getElem?_some h0
  obtain ⟨tw, t', nb, hrun, htb, _⟩ := hall 0 _ (List.getElem?_eq_getElem hi)
  rw [h0] at htb
  cases htb
  have hs := trackRun_sigs ppqn values requant _ _ _ _ _ hrun
  refine ⟨metaTrack, r, hm, hs, ?_, hall, hex⟩
  have := congrArg List.length hs
  rw [List.length_map, sched_length] at this
  exact this

/-- **bar k carries the signature and the key in force at its start** (boundary-aligned changes) -/
theorem bar_signature (ppqn : Int) (values : List Int) (tracks : List (List Msg)) (metaIdx : Nat) (requant : Bool)
    (tb : List (List Bar)) (h : splitBars ppqn values tracks metaIdx requant = .ok tb)
    (metaTrack : List Msg) (hm : tracks[metaIdx]? = some metaTrack) (bars0 : List Bar) (h0 : tb[0]? = some bars0)
    (hal : Aligned ppqn (timesOfType .timeSignature (toAbs metaTrack)) (timesOfType .keySignature (toAbs metaTrack)) bars0)
    (k : Nat) (b : Bar) (hb : bars0[k]? = some b) :
    (b.num, b.den) = sigInForce (timesOfType .timeSignature (toAbs metaTrack)) (barStart ppqn bars0 k)
    ∧ b.key = keyInForce (timesOfType .keySignature (toAbs metaTrack)) (barStart ppqn bars0 k) := by
  obtain ⟨mT, r, hm', hs, hlen, _, _⟩ := run_track0 ppqn values tracks metaIdx requant tb h bars0 h0
  rw [hm] at hm'
  cases hm'
  obtain ⟨_, _, _, _, hbars⟩ := splitBars_bars ppqn values tracks metaIdx requant tb h
  have hcapnn : ∀ b ∈ bars0, 0 ≤ barCapacity ppqn b.num b.den := by
    intro b hb
    obtain ⟨k, hk, rfl⟩ := List.getElem_of_mem hb
    obtain ⟨g, piece, _, hmk⟩ := (hbars 0 bars0 h0).2 k _ (List.getElem?_eq_getElem hk)
    obtain ⟨h1, _, _, hbe⟩ := mkBar_ok hmk
    have := totalWait_nonneg _ (normalise_nonNegWaits piece)
    rw [hbe]
    simp only
    omega
  have hlnn : ∀ g ∈ sched ppqn metaTrack (r + 1), 0 ≤ sgLen ppqn g := by
    intro g hg
    rw [← hs, List.mem_map] at hg
    obtain ⟨b, hb, rfl⟩ := hg
    exact hcapnn b hb
  have hstart : ∀ j, barStart ppqn bars0 j = psum ppqn (sched ppqn metaTrack (r + 1)) j :=
    barStart_eq ppqn bars0 _ hs
  have hG : ∀ j, barStart ppqn bars0 j ≤ barStart ppqn bars0 (j + 1) := fun j => by
    rw [hstart, hstart]; exact psum_mono ppqn _ j (j + 1) hlnn (Nat.le_succ j)
  have hg : (sched ppqn metaTrack (r + 1))[k]? = some (b.num, b.den, b.key) := by
    rw [← hs, List.getElem?_map, hb]; rfl
  obtain ⟨hal1, hal2, hal3, hal4⟩ := hal
  -- the schedule along the bar starts of the result: signatures and keys are queues on that grid, strictly ordered
  exact Strong589LB.sched_on ppqn metaTrack (barStart ppqn bars0) (by simp [barStart]) hG hal3
    (fun m hm => (hal1 m hm).imp fun _ h => h.2)
    (Strong589LB.LInv (fun m : Msg => m.key) pyNone (barStart ppqn bars0) (timesOfType .keySignature (toAbs metaTrack)))
    (fun j v => v = keyInForce (timesOfType .keySignature (toAbs metaTrack)) (barStart ppqn bars0 j))
    (fun j key ksQ h => Strong589LB.qstep _ pyNone _ hG _ hal4 (fun m hm => (hal2 m hm).imp fun _ h => h.2) j key ksQ h)
    (Strong589LB.linv_init _ pyNone _ _) (r + 1)
    (fun j g hgj _ => by rw [hstart, hstart, psum_succ ppqn _ j g hgj]) k _ hg

/-- **coverage**: the bars cover the longest track with less than one bar to spare -/
theorem coverage (ppqn : Int) (values : List Int) (tracks : List (List Msg)) (metaIdx : Nat) (requant : Bool)
    (tb : List (List Bar)) (h : splitBars ppqn values tracks metaIdx requant = .ok tb)
    (hw : ∀ t ∈ tracks, NonNegWaits t) (bars0 : List Bar) (h0 : tb[0]? = some bars0)
    (hpos : ∀ b ∈ bars0, 0 < barCapacity ppqn b.num b.den) (last : Bar) (hl : bars0.getLast? = some last) :
    (∀ t ∈ tracks, durRel t ≤ barStart ppqn bars0 bars0.length)
    ∧ ((∃ t ∈ tracks, 0 < durRel t) →
        ∃ t ∈ tracks, barStart ppqn bars0 bars0.length - barCapacity ppqn last.num last.den < durRel t) := by
  obtain ⟨metaTrack, r, _, hs, hlen, hall, hex⟩ := run_track0 ppqn values tracks metaIdx requant tb h bars0 h0
  have hgpos : ∀ g ∈ sched ppqn metaTrack (r + 1), 0 < sgLen ppqn g := by
    intro g hg
    rw [← hs, List.mem_map] at hg
    obtain ⟨b, hb, rfl⟩ := hg
    exact hpos b hb
  have hlast : (sched ppqn metaTrack (r + 1))[r]? = some (last.num, last.den, last.key) := by
    rw [← hs, List.getElem?_map]
    rw [List.getLast?_eq_getElem?, hlen] at hl
    simp only [Nat.add_sub_cancel] at hl
    rw [hl]; rfl
  rw [barStart_eq ppqn bars0 _ hs, hlen]
  constructor
  · intro t ht
    obtain ⟨i, hi, rfl⟩ := List.getElem_of_mem ht
    obtain ⟨tw, t', nb, hrun, _, hf⟩ := hall i _ (List.getElem?_eq_getElem hi)
    have := trackRun_flags ppqn values requant _ _ _ _ _ hrun hgpos (hw _ ht) r false hf
    have h2 : ¬ psum ppqn (sched ppqn metaTrack (r + 1)) (r + 1) < durRel tracks[i] := by
      intro hh; exact absurd (this.2 hh) (by simp)
    omega
  · rintro ⟨t, ht, htpos⟩
    rw [psum_succ ppqn _ r _ hlast]
    have hcap : barCapacity ppqn last.num last.den = sgLen ppqn (last.num, last.den, last.key) := rfl
    rw [hcap]
    cases r with
    | zero =>
      refine ⟨t, ht, ?_⟩
      rw [psum_zero]
      omega
    | succ r =>
      obtain ⟨t1, ht1, tw, t', nb, hrun, hj⟩ := hex r (by omega)
      have := (trackRun_flags ppqn values requant _ _ _ _ _ hrun hgpos (hw _ ht1) r true hj).1 rfl
      refine ⟨t1, ht1, ?_⟩
      omega

/-- termination: with positive bar lengths the loop never runs out of fuel -/
theorem terminates (ppqn : Int) (values : List Int) (tracks : List (List Msg)) (metaIdx : Nat) (requant : Bool)
    (hw : ∀ t ∈ tracks, NonNegWaits t)
    (hpos : 0 < barCapacity ppqn 4 4 ∧ ∀ t ∈ tracks, ∀ m ∈ t, m.ty = .timeSignature → 0 < barCapacity ppqn m.num m.den) :
    splitBars ppqn values tracks metaIdx requant ≠ .error .fuel := by
  cases hm : tracks[metaIdx]? with
  | none => simp [splitBars, hm]
  | some metaTrack =>
    refine splitBars_not_fuel ppqn values tracks metaIdx requant metaTrack hm (fun g hg => ?_) hw
    rcases sched_sig_src ppqn metaTrack _ g hg with h | ⟨m, hmm, hty, h⟩ <;>
      rw [show sgLen ppqn g = barCapacity ppqn (g.1, g.2.1).1 (g.1, g.2.1).2 from rfl, h]
    · exact hpos.1
    · exact hpos.2 metaTrack (List.mem_of_getElem? hm) m hmm hty

theorem bars_run (ppqn : Int) (values : List Int) (tracks : List (List Msg)) (metaIdx : Nat)
    (requant : Bool) (tb : List (List Bar)) (h : splitBars ppqn values tracks metaIdx requant = .ok tb)
    (i : Nat) (t : List Msg) (bars : List Bar) (ht : tracks[i]? = some t) (hb : tb[i]? = some bars)
    (hpos : ∀ b ∈ bars, 0 < barCapacity ppqn b.num b.den) :
    ∃ gs tw, trackRun ppqn values requant gs t = .ok (tw, [], bars) ∧ ∀ g ∈ gs, 0 < sgLen ppqn g := by
  obtain ⟨metaTrack, r, _, _, hall⟩ := splitBars_track ppqn values tracks metaIdx requant tb h
  obtain ⟨t', tw, ht', hrun, hs⟩ := hall i bars hb
  rw [ht] at ht'
  cases ht'
  refine ⟨_, tw, hrun, fun g hg => ?_⟩
  rw [← hs, List.mem_map] at hg
  obtain ⟨b, hb', rfl⟩ := hg
  exact hpos b hb'

/-- **sound, re-quantisation off**: laid end to end, a track's bars reproduce its sounding set exactly -/
theorem sound_exact (ppqn : Int) (values : List Int) (tracks : List (List Msg)) (metaIdx : Nat)
    (tb : List (List Bar)) (h : splitBars ppqn values tracks metaIdx false = .ok tb)
    (i : Nat) (t : List Msg) (bars : List Bar) (ht : tracks[i]? = some t) (hb : tb[i]? = some bars)
    (hw : NonNegWaits t) (hwf : WF t) (hz : NoZeroNotes t)
    (hpos : ∀ b ∈ bars, 0 < barCapacity ppqn b.num b.den) (k : Int × Int) (tick : Int) :
    SoundingAt (eventsRel (barsToSeq bars)) k tick ↔ SoundingAt (eventsRel t) k tick := by
  obtain ⟨gs, tw, hrun, hgpos⟩ := bars_run ppqn values tracks metaIdx false tb h i t bars ht hb hpos
  obtain ⟨hbw, hbn, hN⟩ := trackRun_notes (B := fun _ => True) ppqn values gs t tw bars 0 hrun hgpos hw hwf
    (fun _ _ => trivial) (fun k' => (zlB_true k' t 0 hw).2 (hz k')) k
  rw [sounding_iff_covered k tick _ hbn hbw, sounding_iff_covered k tick t hw hwf]
  unfold eventsRel
  rw [hN]
  exact covered_cutNotes _ _ tick

/-- **sound, re-quantisation on**: a subset of it -/
theorem sound_subset (ppqn : Int) (values : List Int) (tracks : List (List Msg)) (metaIdx : Nat)
    (tb : List (List Bar)) (h : splitBars ppqn values tracks metaIdx true = .ok tb)
    (i : Nat) (t : List Msg) (bars : List Bar) (ht : tracks[i]? = some t) (hb : tb[i]? = some bars)
    (hw : NonNegWaits t) (hwf : WF t) (hz : NoZeroNotes t) (hv : ∀ v ∈ values, 0 < v)
    (hpos : ∀ b ∈ bars, 0 < barCapacity ppqn b.num b.den) (k : Int × Int) (tick : Int) :
    SoundingAt (eventsRel (barsToSeq bars)) k tick → SoundingAt (eventsRel t) k tick := by
  obtain ⟨gs, tw, hrun, hgpos⟩ := bars_run ppqn values tracks metaIdx true tb h i t bars ht hb hpos
  obtain ⟨hbw, hbn, hN⟩ := trackRun_notesV ppqn values hv gs t tw bars 0 hrun hgpos hw hwf hz k
  rw [sounding_iff_covered k tick _ hbn hbw, sounding_iff_covered k tick t hw hwf]
  exact fun hc => (covered_cutNotes _ _ tick).1 (hN.covered hc)

/-! non-vacuity: two tracks of unequal length, a note crossing a bar line, a signature change on a bar line -/
def exMeta : List Msg := [Msg.mkTimeSig 0 3 4 pyNone, Msg.mkOn 0 60 64 pyNone, Msg.mkWait 0 96, Msg.mkOff 0 60 pyNone,
                          { ty := .keySignature, ch := 0, key := 1 }, Msg.mkWait 0 48, Msg.mkTimeSig 0 2 4 pyNone, Msg.mkWait 0 10]
def exOther : List Msg := [Msg.mkWait 0 30, Msg.mkOn 0 48 64 pyNone, Msg.mkWait 0 12, Msg.mkOff 0 48 pyNone]
example : (splitBars 24 [6, 12, 24] [exMeta, exOther] 0 false).toOption.map
    (fun tb => tb.map (fun bs => bs.map (fun b => (b.num, b.den, b.key, durRel b.seq))))
    = some [[(3, 4, pyNone, 72), (3, 4, pyNone, 72), (2, 4, 1, 48)], [(3, 4, pyNone, 72), (3, 4, pyNone, 72), (2, 4, 1, 48)]] := by
  decide +kernel

end SCoda.C09
