/-
  C05 for the source REPAIRED for finding D41 (fix_D41.diff: `self.normalise_absolute()` at the start of
  `AbsoluteSequence.quantise`).

  `quantiseS steps a = quantise steps (sortAbs a)` (Model/QuantiseS.lean) is the model of the repaired method; `quantise` is the
  walk over a given order (Model/Quantise.lean, the whole of the unrepaired method).  Every theorem of Props/C05.lean, Props/C05b.lean
  and Props/Strong589Q.lean is restated here about `quantiseS`, with the hypotheses on the CANONICAL order `sortAbs a` of the stored
  messages — never on the stored order itself.  In particular well-formedness (`WF`: the note-ons and note-offs of every key
  alternate) is asked of `sortAbs a`: a `Sequence` keeps its absolute view time-sorted (`OkAbs a`), but the messages of ONE tick are
  stored in the order they were entered (`add_absolute_message` is an insort by time only), so `WF a` may fail where the timed events
  are perfectly well-formed.  That is the D41 input (`d41` below): `OkAbs d41`, `WF (sortAbs d41)`, `¬ WF d41`.

  Negative control (`quantise_stored_order_statement_false`): the same statement about the UNREPAIRED function — plain `quantise`
  on the stored order, hypotheses on the canonical order — is false, refuted by the D41 input: its result contains a fabricated
  note-off and ends the second note at 52.
-/
import SCoda.Props.C05b
import SCoda.Props.Strong589Q
import SCoda.Model.QuantiseS
import SCoda.Lemmas.Sort
namespace SCoda.C05s
open SCoda SCoda.C05 SCoda.Strong589LQ

/-- `Isolated` speaks of membership and ticks only: it holds of the stored list iff it holds of its canonical order -/
theorem isolated_sorted {steps : List Int} {a : List Msg} {on off : Msg} :
    Isolated steps (sortAbs a) on off ↔ Isolated steps a on off := by
  constructor
  · intro h
    exact ⟨(mem_sortAbs a on).1 h.onMem, (mem_sortAbs a off).1 h.offMem, h.onTy, h.offTy, h.key, h.order,
      fun m hm => h.far m ((mem_sortAbs a m).2 hm)⟩
  · intro h
    exact ⟨(mem_sortAbs a on).2 h.onMem, (mem_sortAbs a off).2 h.offMem, h.onTy, h.offTy, h.key, h.order,
      fun m hm => h.far m ((mem_sortAbs a m).1 hm)⟩

/-- the repaired `quantise` never fails when the canonical order of the stored messages is well-formed (C05, clause 1; D41 repaired) -/
theorem total (steps : List Int) (hs : StepsOk steps) (a : List Msg) (hok : OkAbs (sortAbs a)) (hwf : WF (sortAbs a)) :
    ∃ out, quantiseS steps a = .ok out :=
  C05.total steps hs (sortAbs a) hok hwf

/-- **on the grid**: every remaining event of the repaired `quantise` lies on a tick divisible by at least one step size (C05, clause 1) -/
theorem on_grid (steps : List Int) (hs : StepsOk steps) (a out : List Msg) (h : quantiseS steps a = .ok out) :
    ∀ m ∈ out, ∃ s ∈ steps, m.time % s = 0 :=
  C05.on_grid steps hs (sortAbs a) out h

/-- the result of the repaired `quantise` is time-sorted with non-negative ticks; only non-negative ticks and no `wait` are asked of the
    input, in whatever order it is stored (C05, clause 3) -/
theorem sorted_out (steps : List Int) (hs : StepsOk steps) (a out : List Msg) (hok : OkAbs (sortAbs a))
    (h : quantiseS steps a = .ok out) : OkAbs out :=
  C05.sorted_out steps hs (sortAbs a) out hok h

/-- **bounded displacement**: every remaining message is a message of the (stored) input whose time moved by at most the largest step size,
    everything else about it unchanged — well-formedness asked of the canonical order only (C05, clause 2; D41 repaired) -/
theorem displacement (steps : List Int) (hs : StepsOk steps) (a out : List Msg) (hok : OkAbs (sortAbs a)) (hwf : WF (sortAbs a))
    (h : quantiseS steps a = .ok out) :
    ∀ m' ∈ out, ∃ m ∈ a, m' = { m with time := m'.time } ∧ (m'.time - m.time).natAbs ≤ (maxStep steps).toNat := by
  intro m' hm'
  obtain ⟨m, hm, h1, h2⟩ := C05.displacement steps hs (sortAbs a) out hok hwf h m' hm'
  exact ⟨m, (mem_sortAbs a m).1 hm, h1, h2⟩

/-- **non-note events are all kept** by the repaired `quantise` (only their time changes) (C05, clause 4) -/
theorem others_kept (steps : List Int) (hs : StepsOk steps) (a out : List Msg) (h : quantiseS steps a = .ok out) :
    ((nonNotes out).map (fun m => { m with time := 0 })).Perm ((nonNotes a).map (fun m => { m with time := 0 })) :=
  (C05.others_kept steps hs (sortAbs a) out h).trans (((sortAbs_perm a).filter _).map _)

/-- the result of the repaired `quantise` is well-formed whenever the canonical order of the input is (C05, clause 3; D41 repaired) -/
theorem wf_out (steps : List Int) (hs : StepsOk steps) (a out : List Msg) (hok : OkAbs (sortAbs a)) (hwf : WF (sortAbs a))
    (h : quantiseS steps a = .ok out) : WF out :=
  C05.wf_out steps hs (sortAbs a) out hok hwf h

/-- every note of the result of the repaired `quantise` has positive duration (C05, clause 3) -/
theorem positive_durations (steps : List Int) (hs : StepsOk steps) (a out : List Msg) (hok : OkAbs (sortAbs a)) (hwf : WF (sortAbs a))
    (h : quantiseS steps a = .ok out) :
    ∀ n ∈ notesOf out, n.on < n.off :=
  C05.positive_durations steps hs (sortAbs a) out hok hwf h

/-- the statement without `OnFirst`, about the repaired function; false for the same reason as `C05.survives_statement`
    (`Isolated` does not tie the note-off to its note-on), see `survives_statement_false` -/
def survives_statement : Prop :=
  ∀ (steps : List Int) (_hs : StepsOk steps) (a out : List Msg) (_hok : OkAbs (sortAbs a)) (_hwf : WF (sortAbs a))
    (_h : quantiseS steps a = .ok out) (on off : Msg) (_hi : Isolated steps a on off)
    (_hroom : ∃ p ∈ possiblePositions steps off.time, qOn steps on < p),
    { on with time := qOn steps on } ∈ out
    ∧ ∃ t, qOn steps on < t ∧ { off with time := t } ∈ out

/-- **survival** (repaired `quantise`): if some grid position of an isolated note's end lies after its quantised start, the note is in the
    result — its note-on at the quantised onset (pitch, channel, velocity unchanged) and a note-off of its key strictly later.  `OnFirst`
    (the note-off really closes that note-on) is asked of the canonical order (C05, last clause) -/
theorem survives_partial (steps : List Int) (hs : StepsOk steps) (a out : List Msg) (hok : OkAbs (sortAbs a)) (hwf : WF (sortAbs a))
    (h : quantiseS steps a = .ok out) (on off : Msg) (hi : Isolated steps a on off)
    (hp : OnFirst (sortAbs a) on off)
    (hroom : ∃ p ∈ possiblePositions steps off.time, qOn steps on < p) :
    { on with time := qOn steps on } ∈ out
    ∧ ∃ t, qOn steps on < t ∧ { off with time := t } ∈ out :=
  C05.survives_partial steps hs (sortAbs a) out hok hwf h on off (isolated_sorted.2 hi) hp hroom

/-- survival of an isolated note of positive length (repaired `quantise`; C05, last clause) -/
theorem survives_of_lt (steps : List Int) (hs : StepsOk steps) (a out : List Msg) (hok : OkAbs (sortAbs a)) (hwf : WF (sortAbs a))
    (h : quantiseS steps a = .ok out) (on off : Msg) (hi : Isolated steps a on off)
    (hlt : on.time < off.time)
    (hroom : ∃ p ∈ possiblePositions steps off.time, qOn steps on < p) :
    { on with time := qOn steps on } ∈ out
    ∧ ∃ t, qOn steps on < t ∧ { off with time := t } ∈ out :=
  C05.survives_of_lt steps hs (sortAbs a) out hok hwf h on off (isolated_sorted.2 hi) hlt hroom

/-- the statement without `OnFirst`, about the repaired function; false, see `dropped_statement_false` -/
def dropped_statement : Prop :=
  ∀ (steps : List Int) (_hs : StepsOk steps) (a out : List Msg) (_hok : OkAbs (sortAbs a)) (_hwf : WF (sortAbs a))
    (_h : quantiseS steps a = .ok out) (on off : Msg) (_hi : Isolated steps a on off) (_hnd : a.Nodup)
    (_hnoroom : ∀ p ∈ possiblePositions steps off.time, p ≤ qOn steps on),
    ∀ m ∈ out, m.nkey = on.nkey → (m.ty = .noteOn ∨ m.ty = .noteOff) →
      m.time + maxStep steps ≤ on.time ∨ off.time + maxStep steps ≤ m.time

/-- **only then** (repaired `quantise`): if no grid position of its end lies after its quantised start, an isolated note is dropped — no
    note event of its key remains within one largest step of it (messages of `a` distinct; `OnFirst` on the canonical order) (C05, last clause) -/
theorem dropped_partial (steps : List Int) (hs : StepsOk steps) (a out : List Msg) (hok : OkAbs (sortAbs a)) (hwf : WF (sortAbs a))
    (h : quantiseS steps a = .ok out) (on off : Msg) (hi : Isolated steps a on off) (hnd : a.Nodup)
    (hp : OnFirst (sortAbs a) on off)
    (hnoroom : ∀ p ∈ possiblePositions steps off.time, p ≤ qOn steps on) :
    ∀ m ∈ out, m.nkey = on.nkey → (m.ty = .noteOn ∨ m.ty = .noteOff) →
      m.time + maxStep steps ≤ on.time ∨ off.time + maxStep steps ≤ m.time :=
  C05.dropped_partial steps hs (sortAbs a) out hok hwf h on off (isolated_sorted.2 hi) ((sortAbs_perm a).nodup_iff.2 hnd) hp hnoroom

/-- removal of an isolated note of positive length (repaired `quantise`), no distinctness hypothesis (C05, last clause; audit A14) -/
theorem dropped_of_lt (steps : List Int) (hs : StepsOk steps) (a out : List Msg) (hok : OkAbs (sortAbs a)) (hwf : WF (sortAbs a))
    (h : quantiseS steps a = .ok out) (on off : Msg) (hi : Isolated steps a on off)
    (hlt : on.time < off.time)
    (hnoroom : ∀ p ∈ possiblePositions steps off.time, p ≤ qOn steps on) :
    ∀ m ∈ out, m.nkey = on.nkey → (m.ty = .noteOn ∨ m.ty = .noteOff) →
      m.time + maxStep steps ≤ on.time ∨ off.time + maxStep steps ≤ m.time :=
  Strong589.dropped_of_lt' steps hs (sortAbs a) out hok hwf h on off (isolated_sorted.2 hi) hlt hnoroom

theorem cxS_sorted : sortAbs cxS = cxS := by decide +kernel
theorem cxD_sorted : sortAbs cxD = cxD := by decide +kernel

/-- the counter-example of `C05.survives_statement_false` is stored in canonical order: it refutes the restated statement too -/
theorem survives_statement_false : ¬ survives_statement := fun H =>
  cxS_absurd (H [6, 4] cxS_steps cxS cxS (cxS_sorted ▸ cxS_ok.1) (cxS_sorted ▸ cxS_ok.2)
    ((congrArg (quantise [6, 4]) cxS_sorted).trans cxS_quantise) _ _ cxS_iso cxS_room).2

theorem dropped_statement_false : ¬ dropped_statement := fun H =>
  cxD_absurd (H [6] cxD_steps cxD _ (cxD_sorted ▸ cxD_ok.1) (cxD_sorted ▸ cxD_ok.2)
    ((congrArg (quantise [6]) cxD_sorted).trans cxD_quantise) _ _ cxD_iso (by decide) cxD_noroom
    (Msg.mkOff 0 60 30) (by decide) rfl (Or.inr rfl))

/-- **no message is duplicated or invented** (repaired `quantise`; audit A14, finding D41): when the canonical order of the stored messages
    is well-formed, the result is, up to order, a sub-list `kept` of that canonical order in which only the `time` field of each message was
    changed, by at most the largest step.  Covers note and non-note messages alike. -/
theorem notes_injective (steps : List Int) (hs : StepsOk steps) (a out : List Msg) (hwf : WF (sortAbs a))
    (h : quantiseS steps a = .ok out) :
    ∃ kept q, kept.Sublist (sortAbs a) ∧ out.Perm q ∧ Retimed (maxStep steps) kept q :=
  Strong589.notes_injective steps hs (sortAbs a) out (sortAbs_timeSorted a) hwf h

/-- the result has at most as many messages as the input (repaired `quantise`; audit A14) -/
theorem length_le (steps : List Int) (hs : StepsOk steps) (a out : List Msg) (hwf : WF (sortAbs a))
    (h : quantiseS steps a = .ok out) : out.length ≤ a.length := by
  have := Strong589.length_le steps hs (sortAbs a) out (sortAbs_timeSorted a) hwf h
  rwa [(sortAbs_perm a).length_eq] at this

/-- the result has at most as many note messages as the input (repaired `quantise`; audit A14) -/
theorem note_count_le (steps : List Int) (hs : StepsOk steps) (a out : List Msg) (hwf : WF (sortAbs a))
    (h : quantiseS steps a = .ok out) : (out.filter Msg.isNote).length ≤ (a.filter Msg.isNote).length := by
  have := Strong589.note_count_le steps hs (sortAbs a) out (sortAbs_timeSorted a) hwf h
  rwa [((sortAbs_perm a).filter _).length_eq] at this

/-- multiset bound (repaired `quantise`; audit A14): with the time field erased, every message occurs in the result at most as often as in the
    stored input -/
theorem multiset_le (steps : List Int) (hs : StepsOk steps) (a out : List Msg) (hwf : WF (sortAbs a))
    (h : quantiseS steps a = .ok out) :
    ∀ x, (out.map Q.zt).count x ≤ (a.map Q.zt).count x := by
  intro x
  have := Strong589.multiset_le steps hs (sortAbs a) out (sortAbs_timeSorted a) hwf h x
  rwa [((sortAbs_perm a).map _).count_eq] at this

/-- **no overlap** (repaired `quantise`; audit A14): two notes of the same channel and pitch of the result never overlap -/
theorem no_overlap (steps : List Int) (a out : List Msg) (hwf : WF (sortAbs a)) (h : quantiseS steps a = .ok out) :
    (notesOf out).Pairwise (fun n1 n2 => n1.ch = n2.ch → n1.pitch = n2.pitch → n1.off ≤ n2.on) :=
  Strong589.no_overlap steps (sortAbs a) out hwf h

/-- the recorded input of finding D41 (harness/props/C05.py `D41_EXAMPLE`): notes 60 [0,50) and [50,100) of channel 0 entered as
    on@0, on@50, off@50, off@100 — `add_absolute_message` keeps that order -/
def d41 : List Msg := [Msg.mkOn 0 60 64 0, Msg.mkOn 0 60 70 50, Msg.mkOff 0 60 50, Msg.mkOff 0 60 100]

theorem d41_sorted : sortAbs d41 = [Msg.mkOn 0 60 64 0, Msg.mkOff 0 60 50, Msg.mkOn 0 60 70 50, Msg.mkOff 0 60 100] := by decide +kernel

theorem steps4 : StepsOk [4] := ⟨by decide, by decide⟩

/-- the stored order is what `add_absolute_message` leaves: inserting the four messages one by one gives `d41` itself -/
example : d41.foldl insort [] = d41 := by decide +kernel

/-- **the D41 input satisfies every hypothesis of the theorems above** — legal steps, a legal (time-sorted) stored view, a legal and
    WELL-FORMED canonical order, distinct messages — although its STORED order is not well-formed (so `C05.total`, `C05.displacement`,
    `Strong589.notes_injective`, … say nothing about it) -/
theorem d41_hyps : StepsOk [4] ∧ OkAbs d41 ∧ OkAbs (sortAbs d41) ∧ WF (sortAbs d41) ∧ d41.Nodup ∧ ¬ WF d41 := by
  have hok : OkAbs d41 := by
    refine ⟨?_, ?_, by decide⟩
    · simp [TimeSorted, d41, Msg.mkOn, Msg.mkOff]
    · simp [NonNegTimes, d41, Msg.mkOn, Msg.mkOff]
  refine ⟨steps4, hok, okAbs_sortAbs hok, ?_, by decide, ?_⟩
  · rw [d41_sorted]
    intro k
    simp only [altFrom, Msg.mkOn, Msg.mkOff, Msg.nkey]
    by_cases hk : ((0 : Int), (60 : Int)) = k <;> simp [hk]
  · intro h
    have := h (0, 60)
    simp [altFrom, d41, Msg.mkOn, Msg.mkOff, Msg.nkey] at this

/-- the repaired `quantise([4])` on the D41 input: nothing fabricated, the second note (velocity 70) is [48,100) -/
theorem d41_quantiseS :
    quantiseS [4] d41 = .ok [Msg.mkOn 0 60 64 0, Msg.mkOff 0 60 48, Msg.mkOn 0 60 70 48, Msg.mkOff 0 60 100] := by rfl

/-- … read as notes (`notesOf`, the independent semantics of Model/Roll.lean): [0,48) and [48,100) -/
example : (quantiseS [4] d41).map notesOf
    = .ok [{ ch := 0, pitch := 60, on := 0, off := 48, vel := 64 }, { ch := 0, pitch := 60, on := 48, off := 100, vel := 70 }] := by rfl

/-- the conclusions of `notes_injective`, `displacement`, `on_grid`, `wf_out` evaluated on it: the result is the canonical order re-timed
    message by message, each by at most 4 -/
example : Retimed (maxStep [4]) (sortAbs d41) [Msg.mkOn 0 60 64 0, Msg.mkOff 0 60 48, Msg.mkOn 0 60 70 48, Msg.mkOff 0 60 100] := by decide +kernel

example : ∃ out, quantiseS [4] d41 = .ok out ∧ WF out ∧ (∀ m ∈ out, m.time % 4 = 0) ∧ ∀ n ∈ notesOf out, n.on < n.off := by
  obtain ⟨hs, _, hok, hwf, _, _⟩ := d41_hyps
  refine ⟨_, d41_quantiseS, wf_out [4] hs d41 _ hok hwf d41_quantiseS, ?_, positive_durations [4] hs d41 _ hok hwf d41_quantiseS⟩
  intro m hm
  obtain ⟨s, hs1, h⟩ := on_grid [4] hs d41 _ d41_quantiseS m hm
  simp at hs1
  subst hs1
  exact h

/-- the UNREPAIRED `quantise([4])` (the walk over the STORED order) on the D41 input: a note-off is fabricated at 48, the first note's real
    note-off closes the second note at 52, the second note's real note-off is dropped — what /repo does before fix_D41.diff (replayed) -/
theorem d41_quantise_stored :
    quantise [4] d41 = .ok [Msg.mkOn 0 60 64 0, Msg.mkOff 0 60 48, Msg.mkOn 0 60 70 48, Msg.mkOff 0 60 52] := by rfl

example : (quantise [4] d41).map notesOf
    = .ok [{ ch := 0, pitch := 60, on := 0, off := 48, vel := 64 }, { ch := 0, pitch := 60, on := 48, off := 52, vel := 70 }] := by rfl

theorem retimed_mem {S : Int} : ∀ {k q : List Msg}, Retimed S k q →
    ∀ m ∈ k, ∃ m' ∈ q, m' = { m with time := m'.time } ∧ (m'.time - m.time).natAbs ≤ S.toNat
  | [], [], _, m, hm => by cases hm
  | [], _ :: _, h, _, _ => h.elim
  | _ :: _, [], h, _, _ => h.elim
  | x :: xs, y :: ys, h, m, hm => by
    obtain ⟨h1, h2, h3⟩ := h
    rcases List.mem_cons.1 hm with rfl | hm
    · exact ⟨y, by simp, h1, h2⟩
    · obtain ⟨m', hm', r⟩ := retimed_mem h3 m hm
      exact ⟨m', by simp [hm'], r⟩

/-- `notes_injective` about the unrepaired function: plain `quantise` on the stored order, the hypotheses (legal stored view, well-formed
    canonical order) as above -/
def quantise_stored_order_statement : Prop :=
  ∀ (steps : List Int) (_hs : StepsOk steps) (a out : List Msg) (_hok : OkAbs a) (_hwf : WF (sortAbs a))
    (_h : quantise steps a = .ok out),
    ∃ kept q, kept.Sublist (sortAbs a) ∧ out.Perm q ∧ Retimed (maxStep steps) kept q

/-- **negative control (finding D41)**: the theorems above do NOT hold of the unrepaired function.  On the D41 input plain `quantise` returns
    four messages, so `kept` would have to be all four input messages, among them the note-off at 100 re-timed by at most 4 — but the result's
    note-offs are at 48 and 52.  (The per-message conclusions of Props/C05.lean — grid, `displacement`, `wf_out`, positive durations — do hold
    of that result, see the `example` below: the fabricated note-off looks like the input's note-off at 50.  It is the injective form of audit
    A14, and the harness's note-level clause, that see the defect.) -/
theorem quantise_stored_order_statement_false : ¬ quantise_stored_order_statement := by
  intro H
  obtain ⟨hs, hok, _, hwf, _, _⟩ := d41_hyps
  obtain ⟨kept, q, hsub, hperm, hret⟩ := H [4] hs d41 _ hok hwf d41_quantise_stored
  have hlen : kept.length = (sortAbs d41).length := by
    rw [← retimed_length hret, ← hperm.length_eq, d41_sorted]; rfl
  have hk : kept = sortAbs d41 := hsub.eq_of_length hlen
  rw [hk, d41_sorted] at hret
  -- the note-off at 100 is kept: some message of the result is that note-off re-timed by at most 4
  obtain ⟨m', hm', h3, hd⟩ := retimed_mem hret (Msg.mkOff 0 60 100) (by simp)
  have hmem := hperm.mem_iff.2 hm'
  have ht : (maxStep [4]).toNat = 4 := by decide +kernel
  rw [ht] at hd
  simp only [List.mem_cons, List.not_mem_nil, or_false] at hmem
  rcases hmem with rfl | rfl | rfl | rfl <;> simp [Msg.mkOn, Msg.mkOff] at hd h3

/-- why the per-message statement does not see it: every message of the unrepaired result is an input message moved by at most 4 -/
example : ∀ m' ∈ [Msg.mkOn 0 60 64 0, Msg.mkOff 0 60 48, Msg.mkOn 0 60 70 48, Msg.mkOff 0 60 52],
    ∃ m ∈ d41, m' = { m with time := m'.time } ∧ (m'.time - m.time).natAbs ≤ (maxStep [4]).toNat := by decide +kernel

end SCoda.C05s
