/-
  C12 / C13 — the MIDI side.
  * save: `toMido` turns a relative view into delta-timed MIDI events; the running sum of the deltas
    puts every emitted event back on its original tick (the delta buffer is carried across waits
    and across messages that emit nothing).
  * load: `convert` places every event at `roundHalfEven (file_tick * ppqn / file_ppq)` where
    `file_tick` is the *prefix sum* of the track's delta times — the rounding error is at most half a
    tick and does not accumulate; events are routed by track index; an out-of-range meta target is a ValueError.
  `mido`'s file codec is not modelled; the code's accumulated IEEE doubles are modelled by exact
  rationals (they can differ only at exact .5 ties, DESIGN §4 C13).
-/
import SCoda.Model.Midi
import SCoda.Model.Roll
import SCoda.Lemmas.Midi
import SCoda.Lemmas.Roll
namespace SCoda.C13
open SCoda SCoda.MidiL

theorem round_error (q : Rat) :
    -((1 : Rat) / 2) ≤ ((roundHalfEven q : Int) : Rat) - q ∧ ((roundHalfEven q : Int) : Rat) - q ≤ (1 : Rat) / 2 := by
  have h1 := Rat.floor_le q
  have h2 := Rat.lt_floor_add_one q
  have h3 : ((q.floor + 1 : Int) : Rat) = (q.floor : Rat) + 1 := by simp [Rat.intCast_add]
  rw [h3] at h2
  unfold roundHalfEven
  simp only
  split
  · constructor <;> grind
  · split
    · rw [h3]; constructor <;> grind
    · split
      · constructor <;> grind
      · rw [h3]; constructor <;> grind

/-- exact on integers: when the file's resolution equals the library's, nothing moves -/
theorem round_int (n : Int) : roundHalfEven (n : Rat) = n := by
  unfold roundHalfEven
  have : ((n : Rat) - (n : Rat)) < 1/2 := by grind
  simp [Rat.floor_intCast, this]

def exactPos (ppqn filePpq : Int) (t : Int) : Rat := (t : Rat) * (ppqn : Rat) / (filePpq : Rat)

def cumulate (start : Int) : List MidiEv → List MidiEv
  | [] => []
  | e :: es => { e with time := start + e.time } :: cumulate (start + e.time) es

/-- the message types `to_mido_track` emits -/
def emitted (m : Msg) : Bool :=
  m.ty == .noteOn || m.ty == .noteOff || m.ty == .timeSignature || m.ty == .keySignature || m.ty == .controlChange

/-- what an emitted message looks like on the MIDI side (channel 0 / none, note-off velocity 0,
    missing note-on velocity 127), at absolute tick `m.time` -/
def midiShape (m : Msg) : MidiEv :=
  match m.ty with
  | .noteOn => { m with ch := 0, vel := if m.vel == pyNone then 127 else m.vel }
  | .noteOff => { m with ch := 0, vel := 0 }
  | .timeSignature => { m with ch := pyNone }
  | .keySignature => { m with ch := pyNone }
  | _ => { m with ch := 0 }

/-- the delta buffer after message `m` -/
def bufAfter (buf : Int) (m : Msg) : Int := if m.time != pyNone then buf + m.time else buf

theorem bufAfter_time {m : Msg} (h : m.time ≠ pyNone) (buf : Int) : bufAfter buf m = buf + m.time := by
  simp [bufAfter, h]

theorem bufAfter_none {m : Msg} (h : m.time = pyNone) (buf : Int) : bufAfter buf m = buf := by
  simp [bufAfter, h]

/-- one step of `to_mido_track`: an emitted message goes out in its MIDI shape with the buffer as delta time, and the
    buffer starts again at 0; anything else only feeds the buffer -/
theorem toMidoGo_cons (buf : Int) (m : Msg) (ms : List Msg) :
    toMidoGo buf (m :: ms) =
      if emitted m = true then { midiShape m with time := bufAfter buf m } :: toMidoGo 0 ms
      else toMidoGo (bufAfter buf m) ms := by
  cases hty : m.ty <;> simp [toMidoGo, emitted, midiShape, bufAfter, hty]

/-- the invariant behind the delta buffer: `start + buf` is the running clock -/
theorem toMidoGo_cumulate (r : List Msg) (h : ∀ m ∈ r, m.ty ≠ .wait → m.time = pyNone)
    (hw : ∀ m ∈ r, m.ty = .wait → m.time ≠ pyNone) (start buf : Int) :
    cumulate start (toMidoGo buf r)
      = ((eventsRelGo (start + buf) r).filter emitted).map midiShape := by
  induction r generalizing start buf with
  | nil => rfl
  | cons m ms ih =>
    have ih' := ih (fun x hx => h x (List.mem_cons_of_mem _ hx)) (fun x hx => hw x (List.mem_cons_of_mem _ hx))
    rw [toMidoGo_cons]
    by_cases hwt : m.ty = .wait
    · -- a wait moves the buffer and the clock alike
      have he : emitted m = false := by simp [emitted, hwt]
      rw [if_neg (by simp [he]), ih', eventsRelGo_cons_wait _ _ _ hwt,
        bufAfter_time (hw m List.mem_cons_self hwt), Int.add_assoc]
    · -- any other message carries no time: the buffer stands
      rw [eventsRelGo_cons_nowait _ _ _ hwt, List.filter_cons, bufAfter_none (h m List.mem_cons_self hwt),
        show emitted { m with time := start + buf } = emitted m from rfl]
      split
      · rw [cumulate, ih', List.map_cons, Int.add_zero]
        congr 1
        cases hty : m.ty <;> simp [midiShape, hty]
      · exact ih' start buf

theorem mem_toMidoGo (r : List Msg) : ∀ (buf : Int), ∀ e ∈ toMidoGo buf r,
    ∃ m ∈ r, emitted m = true ∧ ∃ t, e = { midiShape m with time := t } := by
  induction r with
  | nil => intro buf e he; simp [toMidoGo] at he
  | cons m ms ih =>
    intro buf e he
    have lift : ∀ buf', e ∈ toMidoGo buf' ms → ∃ x ∈ m :: ms, emitted x = true ∧ ∃ t, e = { midiShape x with time := t } :=
      fun buf' h' => let ⟨x, hx, h⟩ := ih buf' e h'; ⟨x, List.mem_cons_of_mem _ hx, h⟩
    rw [toMidoGo_cons] at he
    split at he
    · rename_i hem
      rcases List.mem_cons.1 he with rfl | he
      · exact ⟨m, List.mem_cons_self, hem, _, rfl⟩
      · exact lift _ he
    · exact lift _ he

/-- **delta buffer** (the statement as requested): summing the deltas of the saved track gives every
    emitted event its original tick, in the original order — for a relative view whose non-wait
    messages carry no time of their own.
    FALSE for the model as stated: a wait of exactly `-1` ticks is indistinguishable from
    `time = None` (`pyNone = -1`), so `toMidoGo` does not add it to the buffer while `eventsRel`
    does move the clock (see `toMido_ticks_statement_false`). -/
def toMido_ticks_statement : Prop :=
  ∀ (r : List Msg) (_h : ∀ m ∈ r, m.ty ≠ .wait → m.time = pyNone),
    cumulate 0 (toMido r) = ((eventsRel r).filter emitted).map midiShape

theorem toMido_ticks_statement_false : ¬ toMido_ticks_statement := by
  intro h
  have := h [Msg.mkWait 0 (-1), Msg.mkOn 0 60 64 pyNone] (by decide)
  revert this
  decide +kernel

/-- the delta-buffer theorem with the missing hypothesis made explicit: no wait has the out-of-band
    duration `pyNone = -1` (in particular: all waits non-negative, `toMido_ticks_nonneg`) -/
theorem toMido_ticks_partial (r : List Msg) (h : ∀ m ∈ r, m.ty ≠ .wait → m.time = pyNone)
    (hw : ∀ m ∈ r, m.ty = .wait → m.time ≠ pyNone) :
    cumulate 0 (toMido r) = ((eventsRel r).filter emitted).map midiShape := by
  simpa [toMido, eventsRel] using toMidoGo_cumulate r h hw 0 0

theorem toMido_ticks_nonneg (r : List Msg) (h : ∀ m ∈ r, m.ty ≠ .wait → m.time = pyNone)
    (hw : NonNegWaits r) :
    cumulate 0 (toMido r) = ((eventsRel r).filter emitted).map midiShape :=
  toMido_ticks_partial r h (fun m hm hty => by have := hw m hm hty; simp only [pyNone]; omega)

/-- the sum of the delta times of a list of events: the file tick the loader stands on after them
    (`convTrack_ticks`) -/
def prefixSum : List MidiEv → Int
  | [] => 0
  | e :: es => e.time + prefixSum es

theorem convMsg_tick (ppqn filePpq : Int) (loc : Option (Nat × Nat)) (s : ConvSt) (ticks : Int) (m : MidiEv)
    (s' : ConvSt) (ticks' : Int) (h : convMsg ppqn filePpq loc (s, ticks) m = .ok (s', ticks')) :
    ticks' = ticks + m.time
    ∧ ∀ dest msg, convEvent loc.isSome m (roundHalfEven (exactPos ppqn filePpq ticks')) = some (dest, msg) →
        msg.time = roundHalfEven (exactPos ppqn filePpq ticks') :=
  ⟨convMsg_snd _ _ _ _ _ _ h, fun _ _ h' => (convEvent_spec _ _ _ _ _ h').1⟩

theorem foldlM'_convMsg_ticks (ppqn filePpq : Int) (loc : Option (Nat × Nat)) (acc : ConvSt × Int)
    (evs : List MidiEv) (r : ConvSt × Int) (h : foldlM' (convMsg ppqn filePpq loc) acc evs = .ok r) :
    r.2 = acc.2 + prefixSum evs := by
  induction evs generalizing acc with
  | nil => simp [foldlM'] at h; simp [← h, prefixSum]
  | cons e es ih =>
    unfold foldlM' at h
    split at h
    · rename_i b' hb
      have := convMsg_snd _ _ _ _ _ _ hb
      rw [ih _ h, this, prefixSum]; omega
    · simp at h

/-- the running file tick after a whole track is the sum of its deltas — no rounding is ever fed back -/
theorem convTrack_ticks (ppqn filePpq : Int) (loc : Option (Nat × Nat)) (s : ConvSt) (evs : List MidiEv)
    (r : ConvSt × Int) (h : foldlM' (convMsg ppqn filePpq loc) (s, 0) evs = .ok r) :
    r.2 = prefixSum evs := by
  simpa using foldlM'_convMsg_ticks ppqn filePpq loc (s, 0) evs r h

/-- the internal note / program-change messages made from a grouped track, in event order, at the
    rounded exact position of the running file tick (`ticks` = file tick before the first event).  This is the
    spelling the statements use; the proofs use `(stamp …).filterMap (toSlot true)` (`trackMsgs_eq`) -/
def trackMsgs (ppqn filePpq : Int) : Int → List MidiEv → List Msg
  | _, [] => []
  | ticks, e :: es =>
    let t := ticks + e.time
    match convEvent true e (roundHalfEven (exactPos ppqn filePpq t)) with
    | some (false, m) => m :: trackMsgs ppqn filePpq t es
    | _ => trackMsgs ppqn filePpq t es

/-- the signature / control messages a considered track sends to the meta sequence (for the statements; the proofs
    use `(stamp …).filterMap (toMeta b)`, `metaMsgs_eq`) -/
def metaMsgs (ppqn filePpq : Int) (inGroup : Bool) : Int → List MidiEv → List Msg
  | _, [] => []
  | ticks, e :: es =>
    let t := ticks + e.time
    match convEvent inGroup e (roundHalfEven (exactPos ppqn filePpq t)) with
    | some (true, m) => m :: metaMsgs ppqn filePpq inGroup t es
    | _ => metaMsgs ppqn filePpq inGroup t es

theorem stamp_eq (ppqn filePpq : Int) (evs : List MidiEv) : ∀ ticks,
    stamp ppqn filePpq ticks evs
      = (cumulate ticks evs).map (fun e => { e with time := roundHalfEven (exactPos ppqn filePpq e.time) }) := by
  induction evs with
  | nil => intro _; rfl
  | cons e es ih => intro ticks; simp only [stamp, cumulate, List.map_cons, ih]; rfl

theorem trackMsgs_eq (ppqn filePpq : Int) (evs : List MidiEv) : ∀ ticks,
    trackMsgs ppqn filePpq ticks evs = (stamp ppqn filePpq ticks evs).filterMap (toSlot true) := by
  induction evs with
  | nil => intro _; rfl
  | cons e es ih =>
    intro ticks
    have : toSlot true { e with time := roundHalfEven (exactPos ppqn filePpq (ticks + e.time)) }
        = match convEvent true e (roundHalfEven (exactPos ppqn filePpq (ticks + e.time))) with
          | some (false, m) => some m
          | _ => none := rfl
    rw [stamp, List.filterMap_cons, ← ih]
    simp only [exactPos] at this
    rw [this]
    simp only [trackMsgs, exactPos]
    split <;> simp_all

theorem metaMsgs_eq (ppqn filePpq : Int) (b : Bool) (evs : List MidiEv) : ∀ ticks,
    metaMsgs ppqn filePpq b ticks evs = (stamp ppqn filePpq ticks evs).filterMap (toMeta b) := by
  induction evs with
  | nil => intro _; rfl
  | cons e es ih =>
    intro ticks
    have : toMeta b { e with time := roundHalfEven (exactPos ppqn filePpq (ticks + e.time)) }
        = match convEvent b e (roundHalfEven (exactPos ppqn filePpq (ticks + e.time))) with
          | some (true, m) => some m
          | _ => none := rfl
    rw [stamp, List.filterMap_cons, ← ih]
    simp only [exactPos] at this
    rw [this]
    simp only [metaMsgs, exactPos]
    split <;> simp_all

/-- note-on with velocity 0 is a note-off already at parse time; here: a note event of a track outside
    every group creates nothing -/
theorem outside_group_no_notes (m : MidiEv) (rt : Int) (h : m.ty = .noteOn ∨ m.ty = .noteOff) :
    convEvent false m rt = Option.none := by
  rcases h with h | h <;> simp [convEvent, h]

/-- time and key signatures (and control changes) always go to the meta sequence, whatever track they
    come from (the statement as requested).
    FALSE for the model as stated: `convEvent` copies only the fields that belong to the event's type
    (numerator/denominator for a time signature, key for a key signature); the others become `pyNone`
    whatever the event carried (see `signatures_to_meta_statement_false`). -/
def signatures_to_meta_statement : Prop :=
  ∀ (inGroup : Bool) (m : MidiEv) (rt : Int) (_h : m.ty = .timeSignature ∨ m.ty = .keySignature),
    ∃ msg, convEvent inGroup m rt = some (true, msg) ∧ msg.ty = m.ty ∧ msg.time = rt
      ∧ msg.num = m.num ∧ msg.den = m.den ∧ msg.key = m.key

theorem signatures_to_meta_statement_false : ¬ signatures_to_meta_statement := by
  intro h
  obtain ⟨msg, h1, _, _, _, _, h2⟩ := h false { ty := .timeSignature, num := 3, den := 4, key := 5 } 0 (Or.inl rfl)
  simp [convEvent, Msg.mkTimeSig] at h1
  subst h1
  revert h2
  decide +kernel

/-- the same with the missing hypothesis made explicit: the event carries no field foreign to its type
    (which is what `parse_mido_message` produces) -/
theorem signatures_to_meta_partial (inGroup : Bool) (m : MidiEv) (rt : Int)
    (h : m.ty = .timeSignature ∨ m.ty = .keySignature)
    (hf : (m.ty = .timeSignature → m.key = pyNone) ∧ (m.ty = .keySignature → m.num = pyNone ∧ m.den = pyNone)) :
    ∃ msg, convEvent inGroup m rt = some (true, msg) ∧ msg.ty = m.ty ∧ msg.time = rt
      ∧ msg.num = m.num ∧ msg.den = m.den ∧ msg.key = m.key := by
  rcases h with h | h
  · simp [convEvent, h, Msg.mkTimeSig, hf.1 h]
  · simp [convEvent, h, (hf.2 h).1, (hf.2 h).2]

/-- unconditionally: routed to the meta sequence, with the fields of the event's own type kept -/
theorem signatures_to_meta_fields (inGroup : Bool) (m : MidiEv) (rt : Int)
    (h : m.ty = .timeSignature ∨ m.ty = .keySignature) :
    ∃ msg, convEvent inGroup m rt = some (true, msg) ∧ msg.ty = m.ty ∧ msg.time = rt
      ∧ (m.ty = .timeSignature → msg.num = m.num ∧ msg.den = m.den)
      ∧ (m.ty = .keySignature → msg.key = m.key) := by
  rcases h with h | h <;> simp [convEvent, h, Msg.mkTimeSig]

/-- notes of a grouped track go to that track's own sequence with pitch, velocity and channel kept -/
theorem notes_to_group (m : MidiEv) (rt : Int) (h : m.ty = .noteOn ∨ m.ty = .noteOff) :
    ∃ msg, convEvent true m rt = some (false, msg) ∧ msg.ty = m.ty ∧ msg.time = rt ∧ msg.note = m.note
      ∧ (m.ty = .noteOn → msg.vel = m.vel) ∧ msg.ch = (if m.ch == pyNone then 0 else m.ch) := by
  rcases h with h | h <;> simp [convEvent, h, Msg.mkOn, Msg.mkOff]

/-- the event of type `ty` with the greatest tick `≤ t` (the later one in list order on equal ticks) -/
def latest (ty : MType) (evs : List Msg) (t : Int) : Option Msg :=
  evs.foldl (fun best m =>
    if m.ty == ty && decide (m.time ≤ t) && best.all (fun b => decide (b.time ≤ m.time)) then some m else best) Option.none

/-- what a signature says, channel aside -/
def sigFields (m : Msg) : Int × Int × Int := (m.num, m.den, m.key)

/-- what is in force when the file says nothing: 4/4 from tick 0, no key -/
def dfltSig : MType → List Msg
  | .timeSignature => [Msg.mkTimeSig 0 4 4 0]
  | _ => []

/-- an invalid meta target index is rejected.  Under `hg` (no empty group) the error is always the ValueError
    (`C13b.bad_target_exact`); the `∨ e = .indexError` of the statement does not occur -/
theorem bad_target (ppqn filePpq : Int) (tracks : List (List MidiEv)) (groups : List (List Nat))
    (metaIdx : List Nat) (target : Int) (hg : ∀ g ∈ groups, g ≠ [])
    (ht : target < 0 ∨ (groups.length : Int) ≤ target) :
    ∃ e, convert ppqn filePpq tracks groups metaIdx target = .error e ∧ (e = .valueError ∨ e = .indexError) :=
  ⟨_, (convert_outcome ppqn filePpq tracks groups metaIdx target).2.1 hg ht, Or.inl rfl⟩

theorem one_per_group (ppqn filePpq : Int) (tracks : List (List MidiEv)) (groups : List (List Nat))
    (metaIdx : List Nat) (target : Int) (out : List Seq)
    (h : convert ppqn filePpq tracks groups metaIdx target = .ok out) : out.length = groups.length := by
  obtain ⟨d, rt, _, _, rfl⟩ := convert_ok_spec ppqn filePpq tracks groups metaIdx target out h
  simp [length_modifyAt, rowsOf]

/-- the designated meta sequence has a time signature at tick 0 (the file's, or the default 4/4) -/
theorem default_signature (ppqn filePpq : Int) (tracks : List (List MidiEv)) (groups : List (List Nat))
    (metaIdx : List Nat) (target : Int) (out : List Seq)
    (h : convert ppqn filePpq tracks groups metaIdx target = .ok out) :
    ∃ s a, out[target.toNat]? = some s ∧ s.readAbs = .ok (s, a) ∧ ∃ m ∈ a, m.ty = .timeSignature ∧ m.time = 0 := by
  obtain ⟨d, rt, _, hrt, rfl⟩ := convert_ok_spec ppqn filePpq tracks groups metaIdx target out h
  refine ⟨_, _, by rw [getElem?_modifyAt, if_pos rfl, List.getElem?_map, hrt]; rfl, MidiL.withSig0_read _ _ _, ?_⟩
  rw [MidiL.withSig0_abs]
  split
  · rename_i hts
    simp only [timesOfType, List.any_eq_true, List.mem_filter] at hts
    obtain ⟨m, ⟨hm, hty⟩, ht⟩ := hts
    exact ⟨m, hm, by simpa using hty, by simpa using ht⟩
  · exact ⟨_, mem_insort_self _ _, rfl, rfl⟩

/-! non-vacuity -/
example : roundHalfEven ((5 : Rat) / 2) = 2 ∧ roundHalfEven ((7 : Rat) / 2) = 4 ∧ roundHalfEven ((-1 : Rat) / 2) = 0 := by
  decide +kernel
example : cumulate 0 (toMido [Msg.mkWait 0 6, Msg.mkOn 0 60 64 pyNone, Msg.mkWait 0 10, { ty := .programChange, prog := 3 },
                              Msg.mkWait 0 14, Msg.mkOff 0 60 pyNone])
    = [{ (Msg.mkOn 0 60 64 6) with ch := 0 }, { (Msg.mkOff 0 60 30) with ch := 0, vel := 0 }] := by
  decide +kernel

end SCoda.C13

/-! ## specifications for the signatures of a file (used by `Props/C13b.lean`) -/
namespace SCoda.C13b
open SCoda SCoda.C13

/-- the time / key signature events of one track, each stamped with the rounded exact position of its
    running file tick (`ticks` = file tick before the first event); all other fields are the event's own (for the
    statements; the proofs use `(stamp …).filter isSigB`, `sigEvents_eq`) -/
def sigEvents (ppqn filePpq : Int) : Int → List MidiEv → List Msg
  | _, [] => []
  | ticks, e :: es =>
    let t := ticks + e.time
    if e.ty = .timeSignature ∨ e.ty = .keySignature then
      { e with time := roundHalfEven (exactPos ppqn filePpq t) } :: sigEvents ppqn filePpq t es
    else sigEvents ppqn filePpq t es

theorem sigEvents_eq (ppqn filePpq : Int) (evs : List MidiEv) : ∀ ticks,
    sigEvents ppqn filePpq ticks evs = (MidiL.stamp ppqn filePpq ticks evs).filter MidiL.isSigB := by
  induction evs with
  | nil => intro _; rfl
  | cons e es ih =>
    intro ticks
    rw [MidiL.stamp, List.filter_cons, ← ih]
    simp only [sigEvents, MidiL.isSigB, Bool.or_eq_true, beq_iff_eq, exactPos]

/-- numerator and denominator (the same function as `E2E.tsv`) -/
def tsVal (m : Msg) : Int × Int := (m.num, m.den)

/-- what `parse_mido_message` guarantees of time-signature events (`parse_domain` in `Props/C13b.lean`): a meta message
    has no channel, and numerator / denominator are present (`None` is the model's out-of-band `-1`) -/
def TsDomain (evs : List MidiEv) : Prop :=
  ∀ e ∈ evs, e.ty = .timeSignature → e.ch = pyNone ∧ (e.num, e.den) ≠ (pyNone, pyNone)

/-- what `parse_mido_message` guarantees of key-signature events: no channel, key present -/
def KsDomain (evs : List MidiEv) : Prop :=
  ∀ e ∈ evs, e.ty = .keySignature → e.ch = pyNone ∧ e.key ≠ pyNone

end SCoda.C13b
