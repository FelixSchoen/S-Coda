/-
  `Sequence.sequences_split_bars` at identity level, part (B): the one place where `HeapOps.splitBars` does not follow the order of
  the Python statements.

  sequence.py:531-538 runs `sequence_to_add.quantise_note_lengths(do_not_extend=True)` FIRST and evaluates the arguments of
  `Bar(sequence_to_add, current_ts_numerator, current_ts_denominator, Key(current_key) …)` AFTERWARDS; `HeapOps.sbBar` asks the oracle for
  the bar's signature and key (`barSig`, keyed by the message values of the piece's relative view) on the heap BEFORE the
  re-quantisation.  (In the code the three scalars do not depend on the piece at all — they are the state of the signature queues of
  the meta track; keying them by the piece's values is how the sampled correspondence `harness/heap_corr.py` records them.)

  * `sbBarPy`                       the per-bar step in the order of the Python statements;
  * `sbBar_order_statement_false`   the two differ on a heap on which the piece's absolute view is live and SHARES a message cell
                                    with its relative view (kernel-checked): the re-quantisation re-times the shared message, the
                                    oracle is asked about different values, the bar gets a different numerator;
  * `sbBar_order_agree`             they are EQUAL whenever the piece's absolute view is stale or missing and the piece has no
                                    dangling identity — which holds at the only call site: every `sequence_to_add` is a wrapper
                                    that `sequences_split_bars` has just built (`Sequence(relative_sequence=…)`: `_abs` unset, `_abs_stale`
                                    true; `Sequence()`: an empty absolute view, `_rel` unset) — `pieceOk_wrapped`, `pieceOk_empty`;
  * `sbBarPy_spec`                  the region-calculus statement of `HeapL.sbBar_spec` holds of the Python order as well: the
                                    freshness theorem `C16c.derive_fresh_splitBars` does not depend on where `barSig` is evaluated.
-/
import SCoda.Lemmas.HeapTie2L
import SCoda.Props.HeapTie
namespace SCoda.HeapTieB
open SCoda SCoda.HeapOps SCoda.HeapLib SCoda.HeapL SCoda.HeapTieL SCoda.HeapTie2L SCoda.C16c

/-- sequence.py:531-538 in the order of the Python statements: the optional re-quantisation, THEN the arguments of `Bar(…)` -/
def sbBarPy (o : Orc) (tag : Nat) (qnl : Bool) (h : Heap) (s0 : Nat) : Heap × Nat :=
  let h1 := if qnl then quantiseNoteLengths o (mix tag 1) h s0 else h
  let sg := o.barSig tag (optVals h1 (h1.seq s0).rel)
  barInit o (mix tag 2) h1 s0 sg.1 sg.2.1 sg.2.2

/-- "`HeapOps.sbBar` is the per-bar step of the code" on every heap -/
def sbBar_order_statement : Prop := ∀ (o : Orc) (tag : Nat) (qnl : Bool) (h : Heap) (s0 : Nat), sbBar o tag qnl h s0 = sbBarPy o tag qnl h s0

/-- a view (list cell 0) holding one message -/
def exSplitHeapB : Heap := ((Heap.empty.newMsg { ty := .noteOn, time := 5, note := 60, vel := 64 }).1.newLst [0]).1

/-- one NOTE_ON (cell 0) held by BOTH views (list cells 0 and 1) of a `Sequence` (cell 0) whose views are both live -/
def sharedViewsHeap : Heap :=
  ((((Heap.empty.newMsg { ty := .noteOn, time := 5, note := 60, vel := 64 }).1.newLst [0]).1.newLst [0]).1.newSeq
    { abs := some 0, rel := some 1, absStale := false, relStale := false }).1

/-- an oracle whose re-quantisation writes time 99 and whose bar numerator is the time of the piece's first message -/
def orderOrc : Orc :=
  { C16c.exOrc with
    edit := fun _ vs => vs.map (fun m => { m with time := 99 })
    plan := fun _ vs => (List.range vs.length).map Item.keep
    barSig := fun _ vs => (match vs with | m :: _ => m.time | [] => 0, 4, pyNone) }

/-- the numerators differ: 5 (the value before the re-quantisation) in `HeapOps.sbBar`, 99 in the order of the code -/
example : ((sbBar orderOrc 0 true sharedViewsHeap 0).1.bar 0).num = 5 ∧ ((sbBarPy orderOrc 0 true sharedViewsHeap 0).1.bar 0).num = 99 := by
  decide +kernel

theorem sbBar_order_statement_false : ¬ sbBar_order_statement := by
  intro hst
  have h1 := congrArg (fun r => (r.1.bar 0).num) (hst orderOrc 0 true sharedViewsHeap 0)
  revert h1
  decide +kernel

/-- what `self.abs` does when the absolute view is stale or missing: nothing, or a new view regenerated from the relative one -/
theorem getAbs_stale (o : Orc) (h : Heap) (s : Nat) (hst : (h.seq s).absStale = true ∨ (h.seq s).abs = none) :
    getAbs o h s = (h, none) ∨ getAbs o h s = (((convView o.toAbs h ((h.seq s).rel.getD 0)).1.setSeq s
      { h.seq s with abs := some (convView o.toAbs h ((h.seq s).rel.getD 0)).2, absStale := false }),
        some (convView o.toAbs h ((h.seq s).rel.getD 0)).2) := by
  unfold getAbs
  dsimp only
  split
  · split
    · exact Or.inl rfl
    · split
      · exact Or.inl rfl
      · rename_i r hr; rw [hr]; exact Or.inr rfl
  · rename_i hs; rw [hst.resolve_left hs]; exact Or.inl rfl

/-- every cell that existed, the wrapper apart, keeps its content through `quantise_note_lengths` when the absolute view is stale (it is
    regenerated: all writes go to the NEW view and its NEW messages) or missing -/
theorem qnl_get_other (o : Orc) (tag : Nat) (h : Heap) (s0 : Nat) (hst : (h.seq s0).absStale = true ∨ (h.seq s0).abs = none)
    {c : Cell} (hc : h.alloc c) (hne : c ≠ (.seq, s0)) : (quantiseNoteLengths o tag h s0).get c = h.get c := by
  rcases getAbs_stale o h s0 hst with e | e <;> simp only [quantiseNoteLengths, withAbs, e]
  generalize (h.seq s0).rel.getD 0 = r
  obtain ⟨sc, ic⟩ := convView_spec (good_fresh h) o.toAbs r
  have hn : (convView o.toAbs h r).1.nSeq = h.nSeq := by simp [convView, Heap.newLst, newMsgs_nSeq]
  -- the store into the wrapper is outside the region of what the call allocated (the wrapper existed, or is still unallocated)
  have hg2 := sc.good.step (h' := (convView o.toAbs h r).1.setSeq s0 { h.seq s0 with abs := some (convView o.toAbs h r).2, absStale := false })
    (fun _ => Nat.le_refl _) (fun c' hx ha => Or.inl ⟨ha, setSeq_get_other _ _ _ (fun e => by subst e; exact hx (hn ▸ ha : s0 < h.nSeq))⟩)
  have s3 := absOpView_spec (o := o) hg2 tag (l := (convView o.toAbs h r).2) ic
  rw [invalidateRel, setSeq_get_other _ _ _ hne, s3.pres.same c (fun hx => hx hc), setSeq_get_other _ _ _ hne]
  exact sc.pres.same c (fun hx => hx hc)

theorem qnl_rel_field (o : Orc) (tag : Nat) (h : Heap) (s0 : Nat) :
    ((quantiseNoteLengths o tag h s0).seq s0).rel = (h.seq s0).rel := by
  have hga : ((getAbs o h s0).1.seq s0).rel = (h.seq s0).rel := by
    unfold getAbs
    simp only
    split
    · split
      · rfl
      · split
        · rfl
        · simp [Heap.setSeq]
    · rfl
  unfold quantiseNoteLengths withAbs
  simp only
  split
  · exact hga
  · simp [invalidateRel, Heap.setSeq, absOpView_seq, hga]

/-- what holds of every `sequence_to_add` at the call site: it has no relative view (`Sequence()`), or its absolute view is stale or
    missing and its relative view and the messages of that view exist (`Sequence(relative_sequence=piece)`) -/
def PieceOk (h : Heap) (s0 : Nat) : Prop :=
  (h.seq s0).rel = none ∨
    (((h.seq s0).absStale = true ∨ (h.seq s0).abs = none)
      ∧ ∀ l, (h.seq s0).rel = some l → l < h.nLst ∧ ∀ i ∈ h.lst l, i < h.nMsg)

instance (h : Heap) (s0 : Nat) : Decidable (PieceOk h s0) := by
  unfold PieceOk
  cases (h.seq s0).rel with
  | none => exact isTrue (Or.inl rfl)
  | some l =>
    have : Decidable (∀ l', some l = some l' → l' < h.nLst ∧ ∀ i ∈ h.lst l', i < h.nMsg) :=
      decidable_of_iff (l < h.nLst ∧ ∀ i ∈ h.lst l, i < h.nMsg) ⟨fun hh l' he => by cases he; exact hh, fun hh => hh l rfl⟩
    infer_instance

/-- on the heaps of the call site `HeapOps.sbBar` IS the per-bar step in the order of the Python statements (A2) -/
theorem sbBar_order_agree (o : Orc) (tag : Nat) (qnl : Bool) (h : Heap) (s0 : Nat) (hok : PieceOk h s0) :
    sbBar o tag qnl h s0 = sbBarPy o tag qnl h s0 := by
  unfold sbBar sbBarPy
  cases qnl with
  | false => rfl
  | true =>
    simp only [if_true]
    have hrel := qnl_rel_field o (mix tag 1) h s0
    have hv : optVals (quantiseNoteLengths o (mix tag 1) h s0) ((quantiseNoteLengths o (mix tag 1) h s0).seq s0).rel
        = optVals h (h.seq s0).rel := by
      rw [hrel]
      rcases hok with hn | ⟨hst, hal⟩
      · rw [hn]; rfl
      · cases hr : (h.seq s0).rel with
        | none => rfl
        | some l =>
          obtain ⟨hl, hm⟩ := hal l hr
          have k := fun c hc hne => qnl_get_other o (mix tag 1) h s0 hst (c := c) hc hne
          exact viewVals_congr (k (.lst, l) hl (by simp)) fun i hi => k (.msg, i) (hm i hi) (by simp)
    rw [hv]

example : PieceOk (seqInit Heap.empty none none).1 0 := by decide +kernel
example : PieceOk (seqInit exSplitHeapB none (some 0)).1 0 := by decide +kernel
example : ¬ PieceOk sharedViewsHeap 0 := by decide +kernel

/-- the wrappers `sequences_split_bars` builds around the pieces (`Sequence(relative_sequence=seq)`, sequence.py:518) satisfy `PieceOk`
    when the pieces exist and hold existing messages -/
theorem pieceOk_wrapped (h : Heap) (p : Nat) (hp : p < h.nLst) (hm : ∀ i ∈ h.lst p, i < h.nMsg) :
    PieceOk (seqInit h none (some p)).1 (seqInit h none (some p)).2 := by
  right
  simp [seqInit, Heap.newSeq, hp]
  exact hm

/-- so does the placeholder `Sequence()` (sequence.py:526-527) -/
theorem pieceOk_empty (h : Heap) : PieceOk (seqInit h none none).1 (seqInit h none none).2 := by
  left
  simp [seqInit, Heap.newSeq, Heap.newLst]

/-- `HeapL.sbBar_spec` for the order of the Python statements: the freshness / frame calculus does not depend on where the
    oracle is asked for the bar's scalars -/
theorem sbBarPy_spec {X : Region} {o : Orc} {h : Heap} (hg : Good X h) (tag : Nat) (qnl : Bool) {s0 : Nat} (hs : In X h (.seq, s0)) :
    Spec X h (sbBarPy o tag qnl h s0).1 ∧ In X (sbBarPy o tag qnl h s0).1 (.bar, (sbBarPy o tag qnl h s0).2) := by
  have s1 : Spec X h (if qnl then quantiseNoteLengths o (mix tag 1) h s0 else h) := by
    split
    · exact quantiseNoteLengths_spec hg _ hs
    · exact Spec.refl hg
  have key := fun a b c => barInit_spec (o := o) s1.good (mix tag 2) a b c (hs.mono s1.pres)
  exact ⟨s1.trans (key _ _ _).1, (key _ _ _).2⟩

end SCoda.HeapTieB
