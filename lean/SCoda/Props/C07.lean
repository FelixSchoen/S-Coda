/-
  C07 — normalise returns a well-formed sequence with the same duration and sound.
  All theorems are about `SCoda.normalise` (the fold model of `normalise_relative`, after the
  repairs of D5/D6).  None asks for well-formed notes: unclosed, re-triggered, orphaned, nested notes are covered; what a
  theorem does ask (non-negative waits where the clock matters, `Paired`, `OkRel`, `h0`) is in its statement.  `NoRepeat`,
  `timeSigs`, `keySigs`, `dedupAdj` spell the statements without a value in force before the list; the loop theory says the same
  with `ChainNe`, `tsVals`, `ksVals`, `dedupD` (Lemmas/Fuse.lean).
-/
import SCoda.Model.Normalise
import SCoda.Model.Roll
import SCoda.Lemmas.Normalise
namespace SCoda.C07
open SCoda

/-- consecutive elements differ under `key` (no element repeats the one before it) -/
def NoRepeat {α β} [DecidableEq β] (key : α → β) : List α → Prop
  | [] => True
  | [_] => True
  | a :: b :: rest => key a ≠ key b ∧ NoRepeat key (b :: rest)

def timeSigs (l : List Msg) : List Msg := l.filter (·.ty == .timeSignature)
def keySigs (l : List Msg) : List Msg := l.filter (·.ty == .keySignature)

theorem duration_eq (r : List Msg) (h : NonNegWaits r) : durRel (normalise r) = durRel r :=
  normalise_totalWait r h

/-- every kept event is an input event at its original tick, in the original order; nothing is invented -/
theorem events_sublist (r : List Msg) (h : NonNegWaits r) :
    (eventsRel (normalise r)).Sublist (eventsRel r) :=
  normalise_events_sublist r h

theorem others_kept (r : List Msg) (h : NonNegWaits r) :
    (eventsRel (normalise r)).filter (fun m => m.ty != .noteOn && m.ty != .noteOff && m.ty != .timeSignature && m.ty != .keySignature)
    = (eventsRel r).filter (fun m => m.ty != .noteOn && m.ty != .noteOff && m.ty != .timeSignature && m.ty != .keySignature) :=
  normalise_events_kept _ (fun _ _ => rfl) (fun m h => by simp [h]) (fun p m hw hg => by
    -- a message of this class is no note event, no signature and no wait: the last branch of `keepP`
    cases hm : m.ty <;> simp [keepP, nwP, hm] at hw hg ⊢) r h

/-- **well-formed output for every input**: per (channel, pitch) the note-ons and note-offs strictly
    alternate, starting with a note-on and ending with a note-off -/
theorem wf_out (r : List Msg) : WF (normalise r) := normalise_wf r

theorem noRepeat_of_chainNe {α β} [DecidableEq β] (key : α → β) (l : List α) :
    ∀ p, ChainNe p (l.map key) → NoRepeat key l := by
  induction l with
  | nil => intro _ _; trivial
  | cons a l ih =>
    intro p h
    cases l with
    | nil => trivial
    | cons b rest =>
      simp only [List.map_cons, ChainNe] at h
      exact ⟨h.2.1, ih (key a) (by simp only [List.map_cons, ChainNe]; exact h.2)⟩

/-- a time signature that repeats the one in force is gone -/
theorem no_repeat_ts (r : List Msg) :
    NoRepeat (fun m : Msg => (m.num, m.den)) (timeSigs (normalise r)) := by
  have := chainNe_dedupD (tsVals r) (pyNone, pyNone)
  rw [← normalise_tsVals] at this
  exact noRepeat_of_chainNe _ _ _ this

/-- a key signature that repeats the one in force is gone -/
theorem no_repeat_ks (r : List Msg) : NoRepeat (fun m : Msg => m.key) (keySigs (normalise r)) := by
  have := chainNe_dedupD (ksVals r) pyNone
  rw [← normalise_ksVals] at this
  exact noRepeat_of_chainNe _ _ _ this

/-- remove adjacent repetitions; `prev` is the value before the list, if there is one -/
def dedupAdj {β} [DecidableEq β] : Option β → List β → List β
  | _, [] => []
  | prev, x :: xs => if prev = some x then dedupAdj prev xs else x :: dedupAdj (some x) xs

theorem dedupAdj_some {β} [DecidableEq β] (l : List β) : ∀ p, dedupAdj (some p) l = dedupD p l := by
  induction l with
  | nil => intro p; rfl
  | cons x xs ih =>
    intro p
    simp only [dedupAdj, dedupD, Option.some.injEq]
    split
    · exact ih p
    · rw [ih x]

theorem dedupAdj_none {β} [DecidableEq β] (l : List β) (q : β) (h : q ∉ l) :
    dedupAdj Option.none l = dedupD q l := by
  cases l with
  | nil => rfl
  | cons x xs =>
    have : ¬ q = x := fun e => h (by simp [e])
    simp [dedupAdj, dedupD, this, dedupAdj_some]

/-- the values of the time signatures of the output are those of the input with adjacent repetitions removed.  `h0`: no time
    signature of the input carries `(pyNone, pyNone)`, the value the loop keeps in memory while it has seen none.  (Key
    signatures, on timed lists: `Gaps.ks_in_force`.) -/
theorem ts_in_force (r : List Msg)
    (h0 : ∀ m ∈ r, m.ty = .timeSignature → (m.num, m.den) ≠ (pyNone, pyNone)) :
    (timeSigs (normalise r)).map (fun m => (m.num, m.den))
      = dedupAdj Option.none ((timeSigs r).map (fun m => (m.num, m.den))) := by
  have h1 : (pyNone, pyNone) ∉ tsVals r := by
    simp only [tsVals, List.mem_map, List.mem_filter, not_exists, not_and, and_imp]
    intro m hm hty he
    exact h0 m hm (by simpa using hty) he
  have := normalise_tsVals r
  rw [← dedupAdj_none _ _ h1] at this
  exact this

theorem ok_out (r : List Msg) (h : OkRel r) :
    OkRel (normalise r) ∧ ∀ m ∈ normalise r, m.ty = .wait → 0 < m.time := by
  have he := normalise_entries r
  refine ⟨⟨normalise_nonNegWaits r, ?_⟩, ?_⟩
  · intro m hm
    rcases he m hm with h1 | h1
    · rw [h1.1]; simp
    · exact h.2 m h1.2
  · intro m hm hw
    rcases he m hm with h1 | h1
    · exact h1.2
    · exact absurd hw h1.1

/-- the input's notes are paired: per key the depth counter never underflows and ends at 0
    (overlapping / nested notes of one key are allowed) -/
def balancedFrom (k : Int × Int) : Nat → List Msg → Prop
  | d, [] => d = 0
  | d, m :: ms =>
    if m.nkey = k ∧ m.ty = .noteOn then balancedFrom k (d + 1) ms
    else if m.nkey = k ∧ m.ty = .noteOff then 0 < d ∧ balancedFrom k (d - 1) ms
    else balancedFrom k d ms

def Paired (l : List Msg) : Prop := ∀ k, balancedFrom k 0 l

theorem depth_of_balanced (k : Int × Int) (l : List Msg) : ∀ d, balancedFrom k d l → depth k l d = 0 := by
  induction l with
  | nil => intro d h; exact h
  | cons m ms ih =>
    intro d h
    rw [balancedFrom] at h
    rcases kev_cases k m with hm | hm | hm
    · rw [if_pos hm] at h
      rw [depth_cons_on hm]
      exact ih _ h
    · rw [if_neg fun e => MType.noConfusion (hm.2.symm.trans e.2), if_pos hm] at h
      rw [depth_cons_off hm]
      exact ih _ h.2
    · rw [if_neg fun e => hm ⟨e.1, Or.inl e.2⟩, if_neg fun e => hm ⟨e.1, Or.inr e.2⟩] at h
      rw [depth_cons_skip hm]
      exact ih _ h

/-- on paired input the set of sounding (channel, pitch, tick) triples is unchanged — overlapping
    notes of one key are fused into their union, which is exactly what the depth counter describes -/
theorem sound_eq (r : List Msg) (h : NonNegWaits r) (hp : Paired r) (k : Int × Int) (t : Int) :
    SoundingAt (eventsRel (normalise r)) k t ↔ SoundingAt (eventsRel r) k t :=
  sounding_fuse _ _ k t (events_sorted r 0 h)
    (normalise_fuse r h (fun k' => depth_of_balanced k' r 0 (hp k')) k)

theorem idempotent (r : List Msg) (h : NonNegWaits r) :
    eventsRel (normalise (normalise r)) = eventsRel (normalise r)
    ∧ durRel (normalise (normalise r)) = durRel (normalise r) := by
  have _ := h
  have hnn := normalise_nonNegWaits r
  refine ⟨normalise_events_id _ hnn (normalise_wf r) ?_ ?_, normalise_totalWait _ hnn⟩
  · rw [normalise_tsVals]; exact chainNe_dedupD _ _
  · rw [normalise_ksVals]; exact chainNe_dedupD _ _

/-! non-vacuity / examples: an ill-formed input (re-trigger, orphan off, unclosed note, repeated
    signature, trailing rest) -/
def ex : List Msg :=
  [Msg.mkTimeSig 0 4 4 pyNone, Msg.mkOn 0 60 64 pyNone, Msg.mkWait 0 12, Msg.mkOn 0 60 70 pyNone,
   Msg.mkTimeSig 0 4 4 pyNone, Msg.mkOff 1 61 pyNone, Msg.mkWait 0 12, Msg.mkOff 0 60 pyNone,
   Msg.mkOff 0 60 pyNone, Msg.mkOn 1 0 64 pyNone, Msg.mkWait 0 24]
example : NonNegWaits ex := by
  simp [NonNegWaits, ex, Msg.mkTimeSig, Msg.mkOn, Msg.mkOff, Msg.mkWait]
example : normalise ex =
    [Msg.mkTimeSig 0 4 4 pyNone, Msg.mkOn 0 60 64 pyNone, Msg.mkWait 0 24, Msg.mkOff 0 60 pyNone, Msg.mkWait 0 24] := by
  decide +kernel
example : Paired [Msg.mkOn 0 60 64 pyNone, Msg.mkOn 0 60 64 pyNone, Msg.mkWait 0 5, Msg.mkOff 0 60 pyNone, Msg.mkOff 0 60 pyNone] := by
  intro k
  simp only [balancedFrom, Msg.mkOn, Msg.mkOff, Msg.mkWait, Msg.nkey]
  by_cases hk : ((0 : Int), (60 : Int)) = k <;> simp [hk]

end SCoda.C07
