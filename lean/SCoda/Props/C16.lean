/-
  C16 — copies and derived sequences are independent values.
  Frame reasoning over the ownership machine of `Model/Heap.lean`: an object derived by a
  fresh-allocating derivation shares no message with its original, and then no history of
  own-writing operations on one side can change a message of the other side.
-/
import SCoda.Model.Heap
namespace SCoda.C16
open SCoda

def Disjoint (x y : Obj) : Prop := ∀ i, i ∈ x.ids → i ∉ y.ids

def Obj.values (h : Heap) (o : Obj) : List Msg × List Msg := (o.abs.map h.store, o.rel.map h.store)

theorem values_congr {h h' : Heap} {o : Obj} (hst : ∀ i ∈ o.ids, h'.store i = h.store i) :
    Obj.values h' o = Obj.values h o :=
  Prod.ext (List.map_congr_left fun i hi => hst i (by simp [Obj.ids, hi]))
    (List.map_congr_left fun i hi => hst i (by simp [Obj.ids, hi]))

theorem derive_disjoint (h h' : Heap) (o d : Obj) (ha : o.Allocated h) (hd : Derive h h' d) :
    Disjoint d o ∧ Disjoint o d ∧ d.Allocated h' ∧ o.Allocated h' ∧ Obj.values h' o = Obj.values h o := by
  refine ⟨?_, ?_, ?_, ?_, ?_⟩
  · intro i hi hio
    have := (hd.fresh i hi).1
    have := ha i hio
    omega
  · intro i hio hi
    have := (hd.fresh i hi).1
    have := ha i hio
    omega
  · intro i hi; exact (hd.fresh i hi).2
  · intro i hi; have := ha i hi; have := hd.mono; omega
  · exact values_congr fun i hi => hd.frame i (ha i hi)

theorem frame (h h' : Heap) (x x' o : Obj) (hx : x.Allocated h) (ho : o.Allocated h)
    (hdis : Disjoint x o) (hs : OwnStep h h' x x') :
    Obj.values h' o = Obj.values h o ∧ Disjoint x' o ∧ x'.Allocated h' ∧ o.Allocated h' := by
  have hst : ∀ i ∈ o.ids, h'.store i = h.store i := by
    intro i hi
    apply hs.frame i (ho i hi)
    intro hxi; exact hdis i hxi hi
  refine ⟨values_congr hst, ?_, ?_, ?_⟩
  · intro i hi hio
    rcases hs.own i hi with h1 | h1
    · exact hdis i h1 hio
    · have := ho i hio; omega
  · intro i hi
    rcases hs.own i hi with h1 | h1
    · have := hx i h1; have := hs.mono; omega
    · exact h1.2
  · intro i hi; have := ho i hi; have := hs.mono; omega

/-- a history of own-writing operations on one side -/
inductive History : Heap → Obj → Heap → Obj → Prop
  | nil (h : Heap) (x : Obj) : History h x h x
  | cons {h h1 h2 : Heap} {x x1 x2 : Obj} : OwnStep h h1 x x1 → History h1 x1 h2 x2 → History h x h2 x2

/-- **independence**: whatever public operations are applied to one side, the other side's messages
    (both views) are unchanged, and the two sides stay disjoint -/
theorem independent {h h' : Heap} {x x' : Obj} (hist : History h x h' x') (o : Obj)
    (hx : x.Allocated h) (ho : o.Allocated h) (hdis : Disjoint x o) :
    Obj.values h' o = Obj.values h o ∧ Disjoint x' o ∧ x'.Allocated h' ∧ o.Allocated h' := by
  induction hist with
  | nil h x => exact ⟨rfl, hdis, hx, ho⟩
  | cons hs _ ih =>
    obtain ⟨hv, hd, hxa, hoa⟩ := frame _ _ _ _ o hx ho hdis hs
    obtain ⟨hv2, hd2, hxa2, hoa2⟩ := ih hxa hoa hd
    exact ⟨hv2.trans hv, hd2, hxa2, hoa2⟩

theorem copyAll_spec (h : Heap) (ids : List Nat) (hall : ∀ i ∈ ids, i < h.next) :
    h.next ≤ (h.copyAll ids).1.next ∧ (∀ i, i < h.next → (h.copyAll ids).1.store i = h.store i)
      ∧ (∀ j ∈ (h.copyAll ids).2, h.next ≤ j ∧ j < (h.copyAll ids).1.next)
      ∧ (h.copyAll ids).2.map (h.copyAll ids).1.store = ids.map h.store := by
  induction ids generalizing h with
  | nil => simp [Heap.copyAll]
  | cons i is ih =>
    simp only [Heap.copyAll, Heap.alloc]
    have hi : i < h.next := hall i (by simp)
    have his : ∀ k ∈ is, k < h.next := fun k hk => hall k (by simp [hk])
    obtain ⟨h1, h2, h3, h4⟩ :=
      ih { store := fun k => if k = h.next then h.store i else h.store k, next := h.next + 1 }
        (fun k hk => by have := his k hk; simp only; omega)
    simp only at h1 h2 h3 h4
    refine ⟨by omega, ?_, ?_, ?_⟩
    · intro k hk
      rw [h2 k (by omega)]
      have : k ≠ h.next := by omega
      simp [this]
    · intro j hj
      simp only [List.mem_cons] at hj
      rcases hj with rfl | hj
      · exact ⟨Nat.le_refl _, by omega⟩
      · have := h3 j hj; omega
    · simp only [List.map_cons, List.cons.injEq]
      refine ⟨?_, ?_⟩
      · rw [h2 h.next (by omega)]; simp
      · rw [h4]
        apply List.map_congr_left
        intro k hk
        have : k ≠ h.next := by have := his k hk; omega
        simp [this]

/-- `copy()` is a derivation, and the copy's messages equal the original's (a copy equals its original) -/
theorem copy_derive (h : Heap) (o : Obj) (ha : o.Allocated h) :
    Derive h (o.copy h).1 (o.copy h).2 ∧ Obj.values (o.copy h).1 (o.copy h).2 = Obj.values h o := by
  have ha1 : ∀ i ∈ o.abs, i < h.next := fun i hi => ha i (by simp [Obj.ids, hi])
  have ha2 : ∀ i ∈ o.rel, i < h.next := fun i hi => ha i (by simp [Obj.ids, hi])
  obtain ⟨a1, a2, a3, a4⟩ := copyAll_spec h o.abs ha1
  have ha2' : ∀ i ∈ o.rel, i < (h.copyAll o.abs).1.next := fun i hi => by have := ha2 i hi; omega
  obtain ⟨b1, b2, b3, b4⟩ := copyAll_spec (h.copyAll o.abs).1 o.rel ha2'
  simp only [Obj.copy]
  refine ⟨⟨by omega, ?_, ?_⟩, ?_⟩
  · intro i hi
    rw [b2 i (by omega), a2 i hi]
  · intro i hi
    simp only [Obj.ids, List.mem_append] at hi
    rcases hi with hi | hi
    · have := a3 i hi; omega
    · have := b3 i hi; omega
  · simp only [Obj.values, Prod.mk.injEq]
    refine ⟨?_, ?_⟩
    · rw [← a4]
      apply List.map_congr_left
      intro j hj
      exact b2 j (a3 j hj).2
    · rw [b4]
      apply List.map_congr_left
      intro k hk
      exact a2 k (ha2 k hk)

theorem editRel_ownStep (h : Heap) (o : Obj) (f : Msg → Msg) :
    OwnStep h (o.editRel h f).1 o (o.editRel h f).2 := by
  refine ⟨Nat.le_refl _, ?_, ?_⟩
  · intro i _ hi
    simp only [Obj.editRel]
    have : i ∉ o.rel := fun hr => hi (by simp [Obj.ids, hr])
    simp [this]
  · intro i hi; exact Or.inl hi

theorem editAbs_ownStep (h : Heap) (o : Obj) (f : Msg → Msg) :
    OwnStep h (o.editAbs h f).1 o (o.editAbs h f).2 := by
  refine ⟨Nat.le_refl _, ?_, ?_⟩
  · intro i _ hi
    simp only [Obj.editAbs]
    have : i ∉ o.abs := fun hr => hi (by simp [Obj.ids, hr])
    simp [this]
  · intro i hi; exact Or.inl hi

/-- the *unrepaired* `split` (D13: pieces hold the source's own message objects) is **not** a
    derivation: a piece sharing an identity with its source violates `Derive.fresh` -/
theorem sharing_is_not_derivation (h h' : Heap) (o d : Obj) (ha : o.Allocated h) (i : Nat)
    (hi : i ∈ o.ids) (hd : i ∈ d.ids) : ¬ Derive h h' d := by
  intro hder
  have := (hder.fresh i hd).1
  have := ha i hi
  omega

/-! non-vacuity: a two-message sequence, its copy, and an in-place edit of the copy -/
def exHeap : Heap := { store := fun i => if i = 0 then Msg.mkOn 0 60 64 pyNone else Msg.mkOff 0 60 pyNone, next := 2 }
def exObj : Obj := { abs := [], rel := [0, 1] }
example : exObj.Allocated exHeap := by
  intro i hi; simp [Obj.ids, exObj] at hi; rcases hi with rfl | rfl <;> simp [exHeap]
example : (exObj.copy exHeap).2 = { abs := [], rel := [2, 3] } := by decide +kernel

end SCoda.C16
