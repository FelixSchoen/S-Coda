/-
  C01 / C03, second part:
  * tokenisation of every valid piece *succeeds*: a derivation `Tokenise.Run` is constructed (greedy rest
    decomposition under the grid condition, `SimB.rests_grid`);
  * the total duration is rounded up to the end of the last bar (outside the known finding D15), read off the
    invariant of the specification fold (`specLog_inv`, `Lemmas/SpecClock.lean`);
  * the n-chunk form of C03: the threaded calls are the single call on the joined events (`runChunks_single`).
-/
import SCoda.Props.C01
import SCoda.Lemmas.SimB
namespace SCoda.C01
open SCoda

/-- grid condition (DESIGN §4 C01): `g` is a step size dividing or "dominated in" every step size:
    a step that is not a multiple of `g` is never the largest step below a multiple of `g` -/
structure GridOk (c : Cfg) (g : Int) : Prop where
  pos : 0 < g
  mem : g ∈ c.steps
  least : ∀ s ∈ c.steps, g ≤ s
  dominated : ∀ s ∈ c.steps, s % g = 0 ∨ (s / g + 1) * g ∈ c.steps
  sorted : c.steps.Pairwise (· < ·)

/-- what makes a list of events acceptable to the tokeniser (its input constraints) -/
structure EvsValid (c : Cfg) (g : Int) (evs : List (Int × Pairing)) : Prop where
  onGrid : ∀ ev ∈ evs, ∀ m ∈ ev.2.head?, m.time % g = 0
  noteShape : ∀ ev ∈ evs, ∀ m ∈ ev.2.head?, m.ty = .noteOn →
    ∃ off, ev.2 = [m, off] ∧ c.pitchLo ≤ m.note ∧ m.note ≤ c.pitchHi ∧ (off.time - m.time) ∈ c.values
      ∧ binIndex c.bins m.vel < c.bins.length
  sigOk : ∀ ev ∈ evs, ∀ m ∈ ev.2.head?, m.ty = .timeSignature →
    (m.num * c.defDen) % m.den = 0 ∧ c.tsLo ≤ (m.num * c.defDen) / m.den ∧ (m.num * c.defDen) / m.den ≤ c.tsHi
      ∧ 0 < c.capacity m.num m.den ∧ c.capacity m.num m.den % g = 0

theorem GridOk.toGrid {c : Cfg} {g : Int} (h : GridOk c g) : SimB.Grid c.steps g :=
  ⟨h.pos, h.mem, h.least, h.dominated, h.sorted⟩

/-- the greedy rest decomposition never gets stuck on a rest that is a multiple of `g` -/
theorem applyRest_ok (c : Cfg) (hc : CfgOk c) (g : Int) (hg : GridOk c g) (capTotal : Int) (hcap : 0 < capTotal)
    (hcg : capTotal % g = 0) (rest cur bar rem : Int) (acc : List Tok)
    (hr : rest % g = 0) (hrem : 0 < rem) (hremg : rem % g = 0) :
    ∃ r, applyRest c capTotal (rest.toNat + 1) rest (cur, bar, rem) acc = .ok r := by
  obtain ⟨new, ends, bar', rem', h, _⟩ := SimB.rests_grid c g hg.toGrid capTotal hcap hcg rest.toNat rest cur bar rem
    (Nat.le_refl _) hr hrem hremg
  exact ⟨_, h.applyRest hc.steps_pos _ (by omega) acc⟩

/-- the loop state (carried state, bar size) stays on the grid -/
structure LoopGrid (g : Int) (s : TokSt × Int) : Prop where
  cur : s.1.curTime % g = 0
  rem : 0 < s.1.capRem
  remg : s.1.capRem % g = 0
  cap : 0 < s.2
  capg : s.2 % g = 0

theorem tail_ok (c : Cfg) (g : Int) (s : TokSt × Int) (m : Msg) (restP : List Msg)
    (hnote : m.ty = .noteOn → ∃ off, m :: restP = [m, off] ∧ c.pitchLo ≤ m.note ∧ m.note ≤ c.pitchHi
      ∧ (off.time - m.time) ∈ c.values ∧ binIndex c.bins m.vel < c.bins.length)
    (hsig : m.ty = .timeSignature →
      (m.num * c.defDen) % m.den = 0 ∧ c.tsLo ≤ (m.num * c.defDen) / m.den ∧ (m.num * c.defDen) / m.den ≤ c.tsHi
        ∧ 0 < c.capacity m.num m.den ∧ c.capacity m.num m.den % g = 0)
    (hI : LoopGrid g s) : ∃ new s', Tokenise.Tail c m restP s new s' ∧ LoopGrid g s' := by
  obtain ⟨ha, hr, hrg, hcap, hcapg⟩ := hI
  by_cases h1 : m.ty = .noteOn
  · obtain ⟨off, e, h2, h3, h4, h5⟩ := hnote h1
    have e' : restP = [off] := by simpa using e
    exact ⟨_, _, .note h1 e' (List.getElem?_eq_getElem h5) ⟨h2, h3⟩ h4, ha, hr, hrg, hcap, hcapg⟩
  · by_cases h2 : m.ty = .timeSignature
    · obtain ⟨s1, s2, s3, s4, s5⟩ := hsig h2
      by_cases hb : 0 < s.1.curTimeBar
      · exact ⟨_, _, .sigInBar h2 hb, ha, hr, hrg, hcap, hcapg⟩
      · exact ⟨_, _, .sig h2 hb s1 ⟨s2, s3⟩, ha, s4, s5, s4, s5⟩
    · exact ⟨_, _, .other h1 h2, ha, hr, hrg, hcap, hcapg⟩

theorem run_ok (c : Cfg) (g : Int) (hg : GridOk c g) (shift : Int) (hsh : shift % g = 0)
    (evs : List (Int × Pairing)) (s : TokSt × Int) (hI : LoopGrid g s) (hne : ∀ ev ∈ evs, ev.2 ≠ [])
    (hv : EvsValid c g evs) : ∃ new s', Tokenise.Run c shift s evs new s' ∧ LoopGrid g s' := by
  induction evs generalizing s with
  | nil => exact ⟨[], s, .nil, hI⟩
  | cons ev evs ih =>
    obtain ⟨e1, e2⟩ := ev
    cases e2 with
    | nil => exact absurd rfl (hne (e1, []) (by simp))
    | cons m restP =>
      obtain ⟨st, cap⟩ := s
      have hgrid := hv.onGrid (e1, m :: restP) (by simp) m rfl
      have hc0 : st.curTime % g = 0 := hI.cur
      have hbg : (m.time + shift - st.curTime) % g = 0 := SimB.sub_mod (SimB.add_mod hgrid hsh) hc0
      obtain ⟨n1, ends, bar', rem', r1, h1, h2⟩ := SimB.rests_grid c g hg.toGrid cap hI.cap hI.capg
        (m.time + shift - st.curTime).toNat (m.time + shift - st.curTime) st.curTime st.curTimeBar st.capRem
        (Nat.le_refl _) hbg hI.rem hI.remg
      have hc1 : (st.curTime + max (m.time + shift - st.curTime) 0) % g = 0 := by
        rcases Int.le_total (m.time + shift - st.curTime) 0 with h0 | h0
        · rw [Int.max_eq_right h0, Int.add_zero]; exact hc0
        · rw [Int.max_eq_left h0]; exact SimB.add_mod hc0 hbg
      obtain ⟨n2, s1, r2, hI1⟩ := tail_ok c g (st.at (st.curTime + max (m.time + shift - st.curTime) 0, bar', rem'), cap)
        m restP (hv.noteShape (e1, m :: restP) (by simp) m rfl) (hv.sigOk (e1, m :: restP) (by simp) m rfl)
        ⟨hc1, h1, h2, hI.cap, hI.capg⟩
      obtain ⟨n3, s2, r3, hI2⟩ := ih s1 hI1 (fun e he => hne e (by simp [he]))
        ⟨fun e he => hv.onGrid e (by simp [he]), fun e he => hv.noteShape e (by simp [he]),
          fun e he => hv.sigOk e (by simp [he])⟩
      exact ⟨_, s2, .cons r1 r2 r3, hI2⟩

/-- **success**, full statement: a valid piece is accepted from any state on the grid.
    FALSE for the model (`tokenise_succeeds_statement_false` at the end of this file): neither
    `EvsOk` nor `EvsValid` says anything about an event whose pairing is empty (all their clauses quantify
    over `ev.2.head?`), and `tokEvent` rejects an empty pairing with an `IndexError`.
    `tokenise_succeeds_partial` adds the hypothesis that no pairing is empty. -/
def tokenise_succeeds_statement : Prop :=
  ∀ (c : Cfg) (_ : CfgOk c) (g : Int) (_ : GridOk c g) (st : TokSt)
    (evs : List (Int × Pairing)) (_ : EvsOk c st.curTime st.curTime evs) (_ : EvsValid c g evs)
    (_ : st.curTime % g = 0) (_ : 0 < st.capRem) (_ : st.capRem % g = 0) (_ : 0 ≤ st.curTimeBar)
    (_ : 0 < c.capacity st.tsNum st.tsDen) (_ : c.capacity st.tsNum st.tsDen % g = 0),
    ∃ toks st', tokeniseCore c st evs = .ok (toks, st')

/-- **success** (with non-empty pairings): a valid piece is accepted from any state on the grid -/
theorem tokenise_succeeds_partial (c : Cfg) (hc : CfgOk c) (g : Int) (hg : GridOk c g) (st : TokSt)
    (evs : List (Int × Pairing)) (hev : EvsOk c st.curTime st.curTime evs) (hv : EvsValid c g evs)
    (hne : ∀ ev ∈ evs, ev.2 ≠ [])
    (hcur : st.curTime % g = 0) (hrem : 0 < st.capRem) (hremg : st.capRem % g = 0) (hbar : 0 ≤ st.curTimeBar)
    (hcap : 0 < c.capacity st.tsNum st.tsDen) (hcapg : c.capacity st.tsNum st.tsDen % g = 0) :
    ∃ toks st', tokeniseCore c st evs = .ok (toks, st') := by
  have _ := hev; have _ := hbar
  obtain ⟨t1, ⟨st1, cap1⟩, r1, hI⟩ := run_ok c g hg st.curTime hcur evs (st, c.capacity st.tsNum st.tsDen)
    ⟨hcur, hrem, hremg, hcap, hcapg⟩ hne hv
  by_cases hfin : 0 < st1.curTimeBar ∧ 0 < st1.capRem
  · obtain ⟨t2, ends, bar', rem', r2, _⟩ := SimB.rests_grid c g hg.toGrid cap1 hI.cap hI.capg st1.capRem.toNat st1.capRem
      st1.curTime st1.curTimeBar st1.capRem (Nat.le_refl _) hI.remg hI.rem hI.remg
    exact ⟨_, _, (Tokenise.core_iff hc.steps_pos).2 ⟨_, t1, t2, r1, .close hfin.1 hfin.2 r2, rfl⟩⟩
  · exact ⟨_, _, (Tokenise.core_iff hc.steps_pos).2 ⟨_, t1, [], r1, .idle hfin, rfl⟩⟩

def emitEnd : Emit → Int
  | .barEnd t => t
  | .note _ _ _ _ off => off
  | .tsig t _ _ => t

theorem specLog_on_barline (c : Cfg) (st : TokSt) (evs : List (Int × Pairing))
    (hrem : 0 < st.capRem) (hbar : 0 ≤ st.curTimeBar) (hcap : 0 < c.capacity st.tsNum st.tsDen)
    (hcapEv : ∀ ev ∈ evs, ∀ m ∈ ev.2.head?, m.ty = .timeSignature → 0 < c.capacity m.num m.den) :
    (specLog c st evs).1.bar = 0 ∨ (specLog c st evs).1.capRem ≤ 0 :=
  Or.inl (specLog_inv c st evs hrem hbar hcap hcapEv).1

theorem specLog_barEnds_le (c : Cfg) (st : TokSt) (evs : List (Int × Pairing))
    (hrem : 0 < st.capRem) (hbar : 0 ≤ st.curTimeBar) (hcap : 0 < c.capacity st.tsNum st.tsDen)
    (hcapEv : ∀ ev ∈ evs, ∀ m ∈ ev.2.head?, m.ty = .timeSignature → 0 < c.capacity m.num m.den)
    (hev : EvsOk c st.curTime st.curTime evs) :
    ∀ t, Emit.barEnd t ∈ (specLog c st evs).2 → st.curTime < t ∧ t ≤ (specLog c st evs).1.cur := by
  have _ := hev
  exact (specLog_inv c st evs hrem hbar hcap hcapEv).2.1

/-- no note sounds past the end of the bar that contains the last event: the class outside D15 -/
def NoTail (c : Cfg) (st : TokSt) (evs : List (Int × Pairing)) : Prop :=
  ∀ e ∈ (specLog c st evs).2, emitEnd e ≤ (specLog c st evs).1.cur

/-- **duration** (partial: outside D15): every emission ends at or before the final clock, which is on
    a bar line and — when the clock moved at all — is itself the last bar end emitted -/
theorem duration_partial (c : Cfg) (st : TokSt) (evs : List (Int × Pairing))
    (hrem : 0 < st.capRem) (hbar : 0 ≤ st.curTimeBar) (hcap : 0 < c.capacity st.tsNum st.tsDen)
    (hcapEv : ∀ ev ∈ evs, ∀ m ∈ ev.2.head?, m.ty = .timeSignature → 0 < c.capacity m.num m.den)
    (hev : EvsOk c st.curTime st.curTime evs) (hnt : NoTail c st evs)
    (hmoved : st.curTime < (specLog c st evs).1.cur) :
    Emit.barEnd (specLog c st evs).1.cur ∈ (specLog c st evs).2
      ∧ ∀ e ∈ (specLog c st evs).2, emitEnd e ≤ (specLog c st evs).1.cur := by
  have _ := hev
  exact ⟨(specLog_inv c st evs hrem hbar hcap hcapEv).2.2.1 hmoved, hnt⟩

/-- the configuration and the call of known finding D15: 2/4, one note [40, 76) -/
def d15Cfg : Cfg := { steps := [2, 3, 4, 6, 8, 12, 16, 24], values := [4, 6, 8, 9, 12, 16, 18, 24, 36], bins := [127] }
def d15Evs : List (Int × Pairing) := [(0, [Msg.mkTimeSig 0 2 4 0]), (0, [Msg.mkOn 0 60 64 40, Msg.mkOff 0 60 76])]
/-- the full statement (without `NoTail`) is false — known finding D15: on `d15Evs` the call is accepted, the clock
    stops at 48, the note ends at 76 -/
theorem duration_false_with_tail :
    (tokeniseCore d15Cfg (TokSt.init d15Cfg) d15Evs).toOption.isSome = true
    ∧ (specLog d15Cfg (TokSt.init d15Cfg) d15Evs).1.cur = 48
    ∧ ¬ NoTail d15Cfg (TokSt.init d15Cfg) d15Evs := by
  refine ⟨?_, ?_, ?_⟩
  · decide
  · decide
  · intro h
    have := h (.note 0 60 127 40 76) (by decide)
    revert this
    decide +kernel

/-- tokenise the chunks one after the other threading the state; also returns the events of the
    whole piece: chunk i shifted by the clock at which its call starts, relative to the first call -/
def runChunks (c : Cfg) (st0 : TokSt) : TokSt → List (List (Int × Pairing)) →
    Except Err (List Tok × TokSt × List (Int × Pairing))
  | st, [] => .ok ([], st, [])
  | st, ch :: rest =>
    match tokeniseCore c st ch with
    | .error e => .error e
    | .ok (toks, st1) =>
      match runChunks c st0 st1 rest with
      | .error e => .error e
      | .ok (toks', st2, evs') => .ok (toks ++ toks', st2, shiftEvs (st.curTime - st0.curTime) ch ++ evs')

/-- every call but the last ends on a bar line, and every chunk is acceptable where it starts -/
def ChunksOk (c : Cfg) : TokSt → List (List (Int × Pairing)) → Prop
  | _, [] => True
  | st, ch :: rest =>
    EvsOk c st.curTime st.curTime ch ∧
    ∀ toks st1, tokeniseCore c st ch = .ok (toks, st1) → (rest ≠ [] → st1.curTimeBar = 0) ∧ ChunksOk c st1 rest

/-- **threading the state is one call**: the calls `runChunks` makes are the single call on the events it lays out
    (by `Tokenise.core_append`, call after call), and those events are acceptable input -/
theorem runChunks_single (c : Cfg) (hc : CfgOk c) (st0 : TokSt) (chunks : List (List (Int × Pairing))) :
    ∀ (st st' : TokSt) (toks : List Tok) (whole : List (Int × Pairing)),
      chunks ≠ [] → ChunksOk c st chunks → runChunks c st0 st chunks = .ok (toks, st', whole) →
      tokeniseCore c st (shiftEvs (st0.curTime - st.curTime) whole) = .ok (toks, st')
        ∧ EvsOk c st.curTime st.curTime (shiftEvs (st0.curTime - st.curTime) whole) := by
  induction chunks with
  | nil => intro _ _ _ _ h; exact absurd rfl h
  | cons ch rest ih =>
    intro st st' toks whole _ hok hrun
    simp only [runChunks] at hrun
    split at hrun
    · cases hrun
    · rename_i toks1 st1 h1
      split at hrun
      · cases hrun
      · rename_i toks' st2 evs' h2
        simp only [Except.ok.injEq, Prod.mk.injEq] at hrun
        obtain ⟨q1, q2, q3⟩ := hrun
        subst q1 q2 q3
        simp only [ChunksOk] at hok
        obtain ⟨hev, hok2⟩ := hok
        obtain ⟨hbar, hok'⟩ := hok2 toks1 st1 h1
        have hU : shiftEvs (st0.curTime - st.curTime) (shiftEvs (st.curTime - st0.curTime) ch ++ evs')
            = ch ++ shiftEvs (st1.curTime - st.curTime) (shiftEvs (st0.curTime - st1.curTime) evs') := by
          rw [shiftEvs_append, shiftEvs_shiftEvs, shiftEvs_shiftEvs]
          have e1 : st.curTime - st0.curTime + (st0.curTime - st.curTime) = 0 := by omega
          have e2 : st0.curTime - st1.curTime + (st1.curTime - st.curTime) = st0.curTime - st.curTime := by omega
          rw [e1, e2, shiftEvs_zero]
        rw [hU]
        cases rest with
        | nil =>
          simp only [runChunks] at h2
          cases h2
          have hnil : shiftEvs (st1.curTime - st.curTime) (shiftEvs (st0.curTime - st1.curTime) []) = [] := rfl
          rw [hnil, List.append_nil, List.append_nil]
          exact ⟨h1, hev⟩
        | cons ch2 rest' =>
          obtain ⟨g1, g2⟩ := ih st1 st2 toks' evs' (by simp) hok' h2
          exact ⟨Tokenise.core_append c hc.steps_pos st st1 st2 ch _ toks1 toks' h1 (hbar (by simp))
            (fun ev he m hm => by have := g2.notBefore ev he m hm; omega) g1, evsOk_join h1 hev g2⟩

/-- **C03, n chunks**: the concatenated stream of any number of consecutive calls makes the detokeniser
    emit (notes and bar ends) exactly the specification log of the whole piece -/
theorem chunked_n (c : Cfg) (hc : CfgOk c) (st st' : TokSt) (d : DetokSt) (chunks : List (List (Int × Pairing)))
    (toks : List Tok) (whole : List (Int × Pairing))
    (hrel : Rel c st d) (hok : ChunksOk c st chunks) (hne : chunks ≠ [])
    (hrun : runChunks c st st chunks = .ok (toks, st', whole)) :
    ∃ d' log, dfold c d toks = .ok (d', log) ∧ log.filter notTsig = (specLog c st whole).2 := by
  obtain ⟨h1, h2⟩ := runChunks_single c hc st chunks st st' toks whole hne hok hrun
  rw [Int.sub_self, shiftEvs_zero] at h1 h2
  obtain ⟨E, a1, _, _, a5⟩ := core_sim_mono c hc st st' whole toks hrel.barNonneg (Or.inl hrel.remPos) h2 h1
  obtain ⟨d', log, b1, _, b3, _⟩ := a5 d hrel.toRelD
  exact ⟨d', log, b1, by rw [a1]; exact b3⟩

/-! non-vacuity: the default step sizes satisfy the grid condition with g = 2 -/
example : GridOk d15Cfg 2 := by
  constructor <;> decide

/-- an event with an empty pairing satisfies `EvsOk` and `EvsValid`
    vacuously and is rejected by `tokEvent` -/
theorem tokenise_succeeds_statement_false : ¬ tokenise_succeeds_statement := by
  intro h
  have hc : CfgOk d15Cfg := by
    constructor <;> decide
  have hg : GridOk d15Cfg 2 := by
    constructor <;> decide
  have hev : EvsOk d15Cfg (TokSt.init d15Cfg).curTime (TokSt.init d15Cfg).curTime [(0, [])] := by
    constructor <;> simp
  have hv : EvsValid d15Cfg 2 [(0, [])] := by
    constructor <;> simp
  obtain ⟨toks, st', h'⟩ := h d15Cfg hc 2 hg (TokSt.init d15Cfg) [(0, [])] hev hv (by decide) (by decide) (by decide)
    (by decide) (by decide) (by decide)
  cases h'

end SCoda.C01
