/-
  Note-level theorems closing audit items A11 (C15), A16 (C17) and the last bullet of section C of
  docs/audit_report_round1.md.
-/
import SCoda.Lemmas.EqualsContent
import SCoda.Lemmas.MergeNotes
import SCoda.Props.C04
import SCoda.Props.C15
import SCoda.Props.C17
namespace SCoda.NotesB
open SCoda SCoda.NotesBL

def PosDur (x : List Msg) : Prop := ∀ n ∈ notesOf x, n.on < n.off

/-- time-sorted (the order of simultaneous events is free) -/
abbrev TSorted (x : List Msg) : Prop := x.Pairwise (fun a b => a.time ≤ b.time)

def onMsgAttr (m : Msg) : Int × Int × Int × Int := (m.ch, m.note, m.time, m.vel)

/-- the two lists have the same note-on messages, as sets of (channel, pitch, tick, velocity) -/
def SameNoteOns (x y : List Msg) : Prop :=
  ∀ α, (∃ m ∈ x, m.ty = .noteOn ∧ onMsgAttr m = α) ↔ (∃ m ∈ y, m.ty = .noteOn ∧ onMsgAttr m = α)

/-- **Lifting lemma.** Two well-formed, time-sorted timed event lists with positive note durations that
    have the same sounding set and the same note-on messages (channel, pitch, tick, velocity) have the
    same notes (channel, pitch, onset, end, velocity).  Lifts every sounding-set conclusion (C08, C09,
    C12, C13, C15) to `notesOf`; closes the last bullet of section C of the audit. -/
theorem notes_lift (x y : List Msg) (hx : WF x) (hy : WF y) (sx : TSorted x) (sy : TSorted y)
    (px : PosDur x) (py : PosDur y)
    (hsound : ∀ k t, SoundingAt x k t ↔ SoundingAt y k t) (hons : SameNoteOns x y) :
    (notesOf x).Perm (notesOf y) := by
  apply perm_of_spec _ _ (notes_sep x hx sx px) (notes_sep y hy sy py)
  · intro k t
    rw [← notes_cover x hx sx, ← notes_cover y hy sy]
    exact hsound k t
  · intro α
    rw [notes_ons x hx, notes_ons y hy]
    exact hons α

/-- the same with the note-ons given as a permutation of lists -/
theorem notes_lift_perm (x y : List Msg) (hx : WF x) (hy : WF y) (sx : TSorted x) (sy : TSorted y)
    (px : PosDur x) (py : PosDur y)
    (hsound : ∀ k t, SoundingAt x k t ↔ SoundingAt y k t)
    (hons : ((x.filter (·.ty == .noteOn)).map onMsgAttr).Perm ((y.filter (·.ty == .noteOn)).map onMsgAttr)) :
    (notesOf x).Perm (notesOf y) := by
  apply notes_lift x y hx hy sx sy px py hsound
  intro α
  have e : ∀ z : List Msg, (∃ m ∈ z, m.ty = .noteOn ∧ onMsgAttr m = α)
      ↔ α ∈ (z.filter (·.ty == .noteOn)).map onMsgAttr := by
    intro z
    simp only [List.mem_map, List.mem_filter, beq_iff_eq]
    constructor
    · rintro ⟨m, h1, h2, h3⟩; exact ⟨m, ⟨h1, h2⟩, h3⟩
    · rintro ⟨m, ⟨h1, h2⟩, h3⟩; exact ⟨m, h1, h2, h3⟩
  rw [e x, e y]
  exact hons.mem_iff

/-- the note-on hypothesis cannot be dropped: the sounding set alone does not determine the notes
    (the audit's example `[on0, off10]` against `[on0, off5, on5, off10]`) -/
def lift_sounding_only_statement : Prop :=
  ∀ x y : List Msg, WF x → WF y → TSorted x → TSorted y → PosDur x → PosDur y →
    (∀ k t, SoundingAt x k t ↔ SoundingAt y k t) → (notesOf x).Perm (notesOf y)

def cexX : List Msg := [Msg.mkOn 0 60 64 0, Msg.mkOff 0 60 10]
def cexY : List Msg := [Msg.mkOn 0 60 64 0, Msg.mkOff 0 60 5, Msg.mkOn 0 60 64 5, Msg.mkOff 0 60 10]

theorem wf_cexX : WF cexX := by decide

theorem wf_cexY : WF cexY := by decide

theorem sorted_cexX : TSorted cexX := by simp [TSorted, cexX, Msg.mkOn, Msg.mkOff]
theorem sorted_cexY : TSorted cexY := by simp [TSorted, cexY, Msg.mkOn, Msg.mkOff]

theorem lift_sounding_only_statement_false : ¬ lift_sounding_only_statement := by
  intro h
  have hp := h cexX cexY wf_cexX wf_cexY sorted_cexX sorted_cexY (by unfold PosDur; decide) (by unfold PosDur; decide) (by
    intro k t
    rw [notes_cover cexX wf_cexX sorted_cexX, notes_cover cexY wf_cexY sorted_cexY]
    have e1 : notesOf cexX = [{ ch := 0, pitch := 60, on := 0, off := 10, vel := 64 }] := by decide +kernel
    have e2 : notesOf cexY = [{ ch := 0, pitch := 60, on := 0, off := 5, vel := 64 },
      { ch := 0, pitch := 60, on := 5, off := 10, vel := 64 }] := by decide +kernel
    rw [e1, e2]
    simp only [List.mem_cons, List.not_mem_nil, or_false, exists_eq_or_imp, exists_eq_left, Covers, nkeyN]
    constructor
    · rintro ⟨h1, h2, h3⟩
      by_cases c : t < 5
      · exact Or.inl ⟨h1, h2, c⟩
      · exact Or.inr ⟨h1, by omega, h3⟩
    · rintro (⟨h1, h2, h3⟩ | ⟨h1, h2, h3⟩)
      · exact ⟨h1, h2, by omega⟩
      · exact ⟨h1, by omega, h3⟩)
  have := hp.length_eq
  revert this
  decide +kernel

/-- non-vacuity of `notes_lift`: two different listings of two simultaneous notes -/
def exX : List Msg := [Msg.mkOn 0 60 64 0, Msg.mkOn 0 62 70 0, Msg.mkOff 0 60 5, Msg.mkOff 0 62 5]
def exY : List Msg := [Msg.mkOn 0 62 70 0, Msg.mkOn 0 60 64 0, Msg.mkOff 0 62 5, Msg.mkOff 0 60 5]

theorem wf_exX : WF exX := by decide

theorem wf_exY : WF exY := by decide

example : (notesOf exX).Perm (notesOf exY) := by
  have sX : TSorted exX := by simp [TSorted, exX, Msg.mkOn, Msg.mkOff]
  have sY : TSorted exY := by simp [TSorted, exY, Msg.mkOn, Msg.mkOff]
  apply notes_lift_perm exX exY wf_exX wf_exY sX sY (by unfold PosDur; decide) (by unfold PosDur; decide)
  · intro k t
    rw [notes_cover exX wf_exX sX, notes_cover exY wf_exY sY]
    have e1 : notesOf exX = [{ ch := 0, pitch := 60, on := 0, off := 5, vel := 64 },
      { ch := 0, pitch := 62, on := 0, off := 5, vel := 70 }] := by decide +kernel
    have e2 : notesOf exY = [{ ch := 0, pitch := 62, on := 0, off := 5, vel := 70 },
      { ch := 0, pitch := 60, on := 0, off := 5, vel := 64 }] := by decide +kernel
    rw [e1, e2]
    simp only [List.mem_cons, List.not_mem_nil, or_false, exists_eq_or_imp, exists_eq_left]
    exact Or.comm
  · decide

/-! ## 2. C15 — the merge at the level of notes (audit item A11)

  `mergeEv as = eventsRel (C15.mergeRel as)` are the timed events of `Sequence.merge` when the receiver and
  the arguments have the absolute views `as` (receiver first); `C15.mergeSeq_eq` ties `mergeRel` to the
  wrapper. -/

theorem mergeEv_eq (as : List (List Msg)) : mergeEv as = eventsRel (C15.mergeRel as) := rfl

/-- the hypothesis of C15 on every input, as in `C15.union` -/
theorem goodIn_iff (a : List Msg) : GoodIn a ↔ (OkAbs a ∧ WF a ∧ C15.PosDur a) := Iff.rfl

/-- the notes of the merge: (channel, pitch, onset, end) -/
def noteShapes (as : List (List Msg)) : List (Int × Int × Int × Int) := (notesOf (mergeEv as)).map shape

/-- `S` is the fusion of the notes `N`: per key (channel, pitch) the connected components of the union
    of the intervals of `N`, where notes that merely touch (one ends on the tick the next starts) stay
    apart.  Written without reference to any code:
    * the notes of `S` are separated (positive, pairwise disjoint per key, listed once);
    * `S` covers exactly the ticks `N` covers;
    * a note of `S` starts on tick `s` iff a note of `N` starts there and `s` is not strictly inside
      another note of `N` of that key. -/
structure IsFusion (N S : List Note) : Prop where
  sep : Sep S
  cover : ∀ k t, (∃ n ∈ S, Covers n k t) ↔ (∃ n ∈ N, Covers n k t)
  onset : ∀ k s, (∃ n ∈ S, nkeyN n = k ∧ n.on = s) ↔
    ((∃ n ∈ N, nkeyN n = k ∧ n.on = s) ∧ ¬ ∃ n' ∈ N, nkeyN n' = k ∧ n'.on < s ∧ s < n'.off)

/-- the fusion is unique: it determines channel, pitch, onset and end of every note -/
theorem fusion_unique (N S S' : List Note) (h : IsFusion N S) (h' : IsFusion N S') :
    (S.map shape).Perm (S'.map shape) :=
  shapes_perm_of_spec S S' h.sep h'.sep
    (fun k t => (h.cover k t).trans (h'.cover k t).symm)
    (fun k s => (h.onset k s).trans (h'.onset k s).symm)

theorem IsFusion.congr {N N' S : List Note} (h : IsFusion N S) (hm : ∀ n, n ∈ N ↔ n ∈ N') : IsFusion N' S :=
  ⟨h.sep, fun k t => by simpa only [hm] using h.cover k t, fun k s => by simpa only [hm] using h.onset k s⟩

/-- **2a — the notes of the merge are the fusion of the inputs' notes.**  For well-formed inputs without
    zero-length notes, the notes of `Sequence.merge`'s result are, per (channel, pitch), the connected
    components of the union of all input notes (`inNotes as`): overlapping notes fuse from the earliest
    start to the latest end, touching notes stay apart.  Closes A11 ("fusion … of notes not proved"). -/
theorem merge_notes_fused (as : List (List Msg)) (h : ∀ a ∈ as, OkAbs a ∧ WF a ∧ C15.PosDur a) :
    IsFusion (inNotes as) (notesOf (mergeEv as)) := by
  refine ⟨merge_sep as h, ?_, ?_⟩
  · intro k t
    rw [← notes_cover _ (merge_wf as) (merge_sorted as (fun a ha => (h a ha).1)), mergeEv_eq, C15.union as h k t]
    exact inNotes_iff fun a ha => by
      rw [MergeL.sounding_abs, notes_cover a (h a ha).2.1 ((timeSorted_iff_pairwise a).1 (h a ha).1.1)]
  · -- a merged note starts on `s` iff an input note-on is there and the counts balance (`merge_onset`); the note-ons before `s`
    -- exceed the note-offs up to `s` by the number of input notes with `s` strictly inside (`family_excess`): balance = none
    intro k s
    rw [notes_onset _ (merge_wf as), merge_onset as h, family_onset as h, family_excess as h k s, Nat.add_eq_left,
      List.countP_eq_zero]
    simp only [decide_eq_true_eq, not_exists, not_and]

/-- **2b — order independence at the level of notes.**  The notes of the merge — channel, pitch, onset
    and end (hence duration) of every note, as a multiset — do not depend on the order in which the
    sequences are merged: they are the fusion of the inputs' notes, whatever the order.
    (`C15.order_independent` gives this for the sounding set only, which does not
    determine the notes; closes A11.)  Velocities are excluded on purpose, see
    `order_independent_velocity_statement_false`. -/
theorem order_independent_notes (as as' : List (List Msg)) (hp : as.Perm as')
    (h : ∀ a ∈ as, OkAbs a ∧ WF a ∧ C15.PosDur a) : (noteShapes as).Perm (noteShapes as') :=
  fusion_unique _ _ _ (merge_notes_fused as h)
    ((merge_notes_fused as' fun a ha => h a (hp.mem_iff.2 ha)).congr fun _ => (hp.flatMap_right notesOf).mem_iff.symm)

/-- the same in the property's words: (pitch, onset, duration) -/
theorem order_independent_pod (as as' : List (List Msg)) (hp : as.Perm as')
    (h : ∀ a ∈ as, OkAbs a ∧ WF a ∧ C15.PosDur a) :
    ((notesOf (mergeEv as)).map (fun n => (n.pitch, n.on, n.off - n.on))).Perm
      ((notesOf (mergeEv as')).map (fun n => (n.pitch, n.on, n.off - n.on))) := by
  have := (order_independent_notes as as' hp h).map (fun s : Int × Int × Int × Int => (s.2.1, s.2.2.1, s.2.2.2 - s.2.2.1))
  simpa [noteShapes, List.map_map, Function.comp_def, shape] using this

/-- order independence of the *full* notes (with velocity) … -/
def order_independent_velocity_statement : Prop :=
  ∀ as as' : List (List Msg), as.Perm as' → (∀ a ∈ as, OkAbs a ∧ WF a ∧ C15.PosDur a) →
    (notesOf (mergeEv as)).Perm (notesOf (mergeEv as'))

def exVa : List Msg := [Msg.mkOn 0 60 64 0, Msg.mkOff 0 60 24]
def exVb : List Msg := [Msg.mkOn 0 60 90 0, Msg.mkOff 0 60 36]

theorem okwf_two (c p v t t' : Int) (ht : 0 ≤ t) (htt : t ≤ t') :
    OkAbs [Msg.mkOn c p v t, Msg.mkOff c p t'] ∧ WF [Msg.mkOn c p v t, Msg.mkOff c p t'] := by
  refine ⟨⟨?_, ?_, ?_⟩, ?_⟩
  · simp [TimeSorted, Msg.mkOn, Msg.mkOff]; omega
  · simp [NonNegTimes, Msg.mkOn, Msg.mkOff]; omega
  · simp [Msg.mkOn, Msg.mkOff]
  · intro k
    simp only [altFrom, Msg.mkOn, Msg.mkOff, Msg.nkey]
    by_cases hk : (c, p) = k <;> simp [hk]

theorem good_two (c p v t t' : Int) (ht : 0 ≤ t) (htt : t < t') : GoodIn [Msg.mkOn c p v t, Msg.mkOff c p t'] := by
  obtain ⟨h1, h2⟩ := okwf_two c p v t t' ht (by omega)
  refine ⟨h1, h2, fun n hn => ?_⟩
  simp [notesOf, notesGo, Msg.mkOn, Msg.mkOff, Msg.nkey] at hn
  subst hn
  exact htt

/-- … fails: when two inputs start the same key on the same tick, the fused note takes the velocity of
    the one merged first (the stable sort keeps the order of the family) -/
theorem order_independent_velocity_statement_false : ¬ order_independent_velocity_statement := by
  intro h
  have := h [exVa, exVb] [exVb, exVa] (List.Perm.swap _ _ _) (by
    intro a ha
    simp only [List.mem_cons, List.not_mem_nil, or_false] at ha
    rcases ha with rfl | rfl
    · exact good_two 0 60 64 0 24 (by omega) (by omega)
    · exact good_two 0 60 90 0 36 (by omega) (by omega))
  revert this
  decide +kernel

/-- non-vacuity of `order_independent_notes`: overlapping and touching notes of one key on three inputs -/
def exM1 : List Msg := [Msg.mkOn 0 60 64 0, Msg.mkOff 0 60 24]
def exM2 : List Msg := [Msg.mkOn 0 60 90 12, Msg.mkOff 0 60 36]
def exM3 : List Msg := [Msg.mkOn 0 60 50 36, Msg.mkOff 0 60 48]
theorem good_exM : ∀ a ∈ [exM1, exM2, exM3], OkAbs a ∧ WF a ∧ C15.PosDur a := by
  intro a ha
  simp only [List.mem_cons, List.not_mem_nil, or_false] at ha
  rcases ha with rfl | rfl | rfl
  · exact good_two 0 60 64 0 24 (by omega) (by omega)
  · exact good_two 0 60 90 12 36 (by omega) (by omega)
  · exact good_two 0 60 50 36 48 (by omega) (by omega)

example : noteShapes [exM1, exM2, exM3] = [(0, 60, 0, 36), (0, 60, 36, 48)]
    ∧ (noteShapes [exM1, exM2, exM3]).Perm (noteShapes [exM3, exM1, exM2]) := by
  exact ⟨by decide, order_independent_notes _ _ (by decide) good_exM⟩

/-- hence any list that is a fusion of the inputs' notes has the same note shapes as the merge -/
theorem merge_notes_eq_fusion (as : List (List Msg)) (h : ∀ a ∈ as, OkAbs a ∧ WF a ∧ C15.PosDur a)
    (S : List Note) (hS : IsFusion (inNotes as) S) : (noteShapes as).Perm (S.map shape) :=
  fusion_unique _ _ _ (merge_notes_fused as h) hS

/-- **each note of a fusion is a connected component**: it starts where an input note starts, ends where
    an input note ends, every tick of it is covered by an input note, every tick strictly inside it lies
    strictly inside an input note (no seam), and no input note straddles its start or its end. -/
theorem fusion_component (N S : List Note) (h : IsFusion N S) (m : Note) (hm : m ∈ S) :
    (∃ n ∈ N, nkeyN n = nkeyN m ∧ n.on = m.on)
    ∧ (∃ n ∈ N, nkeyN n = nkeyN m ∧ n.off = m.off)
    ∧ (∀ t, m.on ≤ t → t < m.off → ∃ n ∈ N, Covers n (nkeyN m) t)
    ∧ (∀ t, m.on < t → t < m.off → ∃ n ∈ N, nkeyN n = nkeyN m ∧ n.on < t ∧ t < n.off)
    ∧ (∀ n ∈ N, nkeyN n = nkeyN m → ¬ (n.on < m.on ∧ m.on < n.off))
    ∧ (∀ n ∈ N, nkeyN n = nkeyN m → ¬ (n.on < m.off ∧ m.off < n.off)) := by
  have hpos := h.sep.pos m hm
  have hstart := (h.onset (nkeyN m) m.on).1 ⟨m, hm, rfl, rfl⟩
  have hcov : ∀ t, m.on ≤ t → t < m.off → ∃ n ∈ N, Covers n (nkeyN m) t :=
    fun t h1 h2 => (h.cover (nkeyN m) t).1 ⟨m, hm, rfl, h1, h2⟩
  have hinner : ∀ t, m.on < t → t < m.off → ∃ n ∈ N, nkeyN n = nkeyN m ∧ n.on < t ∧ t < n.off := by
    intro t h1 h2
    apply Classical.byContradiction
    intro hno
    obtain ⟨n, hn, hk, g1, g2⟩ := hcov t (by omega) h2
    have hnt : n.on = t := by
      by_cases c : n.on < t
      · exact absurd ⟨n, hn, hk, c, g2⟩ hno
      · omega
    obtain ⟨m', hm', hk', ho'⟩ := (h.onset (nkeyN m) t).2 ⟨⟨n, hn, hk, hnt⟩, hno⟩
    have hp' := h.sep.pos m' hm'
    have hne : m' ≠ m := by intro e; subst e; omega
    rcases h.sep.disj m' hm' m hm hne hk' with g | g <;> omega
  have hend : ∀ n ∈ N, nkeyN n = nkeyN m → ¬ (n.on < m.off ∧ m.off < n.off) := by
    rintro n hn hk ⟨g1, g2⟩
    obtain ⟨m', hm', hk', g3, g4⟩ := (h.cover (nkeyN m) m.off).2 ⟨n, hn, hk, by omega, g2⟩
    have hne : m' ≠ m := by intro e; subst e; omega
    have hp' := h.sep.pos m' hm'
    rcases h.sep.disj m' hm' m hm hne hk' with g | g
    · omega
    · have ho : m'.on = m.off := by omega
      exact ((h.onset (nkeyN m) m.off).1 ⟨m', hm', hk', ho⟩).2 ⟨n, hn, hk, g1, g2⟩
  refine ⟨hstart.1, ?_, hcov, hinner, fun n hn hk g => hstart.2 ⟨n, hn, hk, g.1, g.2⟩, hend⟩
  -- the last tick of `m` is covered by an input note, which must end with `m`
  obtain ⟨n, hn, hk, g1, g2⟩ := hcov (m.off - 1) (by omega) (by omega)
  refine ⟨n, hn, hk, ?_⟩
  by_cases c : n.off = m.off
  · exact c
  · exact absurd ⟨by omega, by omega⟩ (hend n hn hk)

/-- the velocity of a note of the merge is the velocity of an input note of the same key and onset
    (one of the earliest notes of its chain; with several, the one merged first — see
    `order_independent_velocity_statement_false`) -/
theorem merge_velocity (as : List (List Msg)) (h : ∀ a ∈ as, OkAbs a ∧ WF a ∧ C15.PosDur a) (m : Note)
    (hm : m ∈ notesOf (mergeEv as)) : ∃ n ∈ inNotes as, nkeyN n = nkeyN m ∧ n.on = m.on ∧ n.vel = m.vel := by
  obtain ⟨e, he, hty, hattr⟩ := (notes_ons _ (merge_wf as) _).1 (List.mem_map.2 ⟨m, hm, rfl⟩)
  have hsub : e ∈ eventsAbs (sortAbs as.flatten) := by
    rw [mergeEv_eq] at he
    exact (C15.events_sublist as (fun a ha => (h a ha).1)).subset he
  have he' : e ∈ as.flatten := (mem_sortAbs _ _).1 (List.mem_filter.1 hsub).1
  obtain ⟨a, ha, hea⟩ := List.mem_flatten.1 he'
  obtain ⟨n, hn, hattr'⟩ := List.mem_map.1 ((notes_ons a (h a ha).2.1 _).2 ⟨e, hea, hty, rfl⟩)
  refine ⟨n, List.mem_flatMap.2 ⟨a, ha, hn⟩, ?_⟩
  have hh := hattr'.trans hattr
  simp only [onAttr, Prod.mk.injEq] at hh
  simp [nkeyN, hh.1, hh.2.1, hh.2.2.1, hh.2.2.2]

/-- non-vacuity: the three inputs above fuse into [0,36) and [36,48) -/
example : IsFusion (inNotes [exM1, exM2, exM3]) (notesOf (mergeEv [exM1, exM2, exM3]))
    ∧ inNotes [exM1, exM2, exM3] = [⟨0, 60, 0, 24, 64⟩, ⟨0, 60, 12, 36, 90⟩, ⟨0, 60, 36, 48, 50⟩]
    ∧ notesOf (mergeEv [exM1, exM2, exM3]) = [⟨0, 60, 0, 36, 64⟩, ⟨0, 60, 36, 48, 50⟩] := by
  exact ⟨merge_notes_fused _ good_exM, by decide, by decide⟩

/-- `fusion_component` and `merge_velocity` on the fused note [0, 36) of the example -/
example : (∃ n ∈ inNotes [exM1, exM2, exM3], nkeyN n = (0, 60) ∧ n.off = 36)
    ∧ (∃ n ∈ inNotes [exM1, exM2, exM3], nkeyN n = (0, 60) ∧ n.on = 0 ∧ n.vel = 64) :=
  ⟨(fusion_component _ _ (merge_notes_fused _ good_exM) ⟨0, 60, 0, 36, 64⟩ (by decide)).2.1,
   merge_velocity _ good_exM ⟨0, 60, 0, 36, 64⟩ (by decide)⟩

/-- `fuse` (sort by channel, pitch, onset; sweep once; defined in `Lemmas/NoteSets.lean` on plain notes,
    no message code involved) computes a fusion of any list of positive-length notes -/
theorem fuse_is_fusion (N : List Note) (hpos : ∀ n ∈ N, n.on < n.off) : IsFusion N (fuse N) := by
  obtain ⟨h1, h2, h3⟩ := fuse_spec N hpos
  exact ⟨h1, h2, h3⟩

theorem inNotes_pos (as : List (List Msg)) (h : ∀ a ∈ as, OkAbs a ∧ WF a ∧ C15.PosDur a) :
    ∀ n ∈ inNotes as, n.on < n.off := by
  intro n hn
  obtain ⟨a, ha, hna⟩ := List.mem_flatMap.1 hn
  exact (h a ha).2.2 n hna

/-- **2a, with the function**: the notes of the merge are `fuse` of all input notes — channel, pitch,
    onset and end of every note, as multisets.  (Velocity: `merge_velocity`.) -/
theorem merge_notes_fuse (as : List (List Msg)) (h : ∀ a ∈ as, OkAbs a ∧ WF a ∧ C15.PosDur a) :
    (noteShapes as).Perm ((fuse (inNotes as)).map shape) :=
  merge_notes_eq_fusion as h _ (fuse_is_fusion _ (inNotes_pos as h))

example : fuse (inNotes [exM1, exM2, exM3]) = [⟨0, 60, 0, 36, 64⟩, ⟨0, 60, 36, 48, 50⟩]
    ∧ (noteShapes [exM1, exM2, exM3]).Perm ((fuse (inNotes [exM1, exM2, exM3])).map shape) :=
  ⟨by decide, merge_notes_fuse _ good_exM⟩
example : fuse [⟨0, 60, 0, 10, 1⟩, ⟨0, 60, 10, 20, 2⟩, ⟨1, 60, 5, 15, 3⟩, ⟨0, 60, 15, 30, 4⟩, ⟨0, 62, 0, 5, 5⟩, ⟨0, 60, 18, 19, 6⟩]
    = [⟨0, 60, 0, 10, 1⟩, ⟨0, 60, 10, 30, 2⟩, ⟨0, 62, 0, 5, 5⟩, ⟨1, 60, 5, 15, 3⟩] := by decide +kernel

/-- the same at the level of the wrapper: whatever `Sequence.merge` returns for a receiver with absolute
    view `a`, its relative view has the timed events `mergeEv (a :: others)` -/
theorem mergeSeq_events (a : List Msg) (others : List (List Msg)) (s' : Seq)
    (h : (Seq.ofAbs a).mergeSeq others = .ok s') :
    eventsRel s'.rel = mergeEv (a :: others) ∧ s'.relStale = false := by
  have := C15.mergeSeq_eq a others
  rw [h] at this
  simp only [Except.toOption, Option.map_some, Option.some.injEq, Prod.mk.injEq] at this
  exact ⟨by rw [this.1]; rfl, this.2.1⟩

/-- **2c — every signature event that does not repeat the one in force is kept at its tick**, for time
    *and* key signatures: the timed list `(tick, numerator, denominator)` (resp. `(tick, key)`) of the merge
    is the tick-ordered union of the inputs' signature events (`sortAbs` of all messages: by tick, then
    channel, ties in the order of the family) with every event that repeats the value in force removed —
    so of a run of repeats exactly the first survives.  `(pyNone, pyNone)` / `pyNone` is "no signature
    yet" (Python `None`).  Closes A11 ("values only, no ticks; no key-signature theorem"). -/
theorem merge_signatures_timed (as : List (List Msg)) (h : ∀ a ∈ as, OkAbs a) :
    tsT (mergeEv as) = dedupBy tsV (pyNone, pyNone) (tsT (sortAbs as.flatten))
    ∧ ksT (mergeEv as) = dedupBy ksV pyNone (ksT (sortAbs as.flatten)) := by
  obtain ⟨hnn, hev⟩ := MergeL.toRel_okAbs (okAbs_sortAbs_flatten as h)
  have e : ∀ {β} (τ : MType) (v : Msg → β), τ ≠ .internal → ∀ l, sigT τ v (eventsAbs l) = sigT τ v l := by
    intro β τ v hτ l
    simp only [sigT, eventsAbs, List.filter_filter]
    congr 2; funext m
    by_cases hm : m.ty = τ <;> simp [hm, hτ]
  exact ⟨by rw [mergeEv, normalise_tsT _ hnn, hev]; exact congrArg _ (e _ _ (by decide) _),
    by rw [mergeEv, normalise_ksT _ hnn, hev]; exact congrArg _ (e _ _ (by decide) _)⟩

/-- the union is tick-ordered and contains exactly the inputs' signature events -/
theorem union_signatures (as : List (List Msg)) :
    (tsT (sortAbs as.flatten)).Perm (as.flatMap tsT) ∧ (tsT (sortAbs as.flatten)).Pairwise (fun x y => x.1 ≤ y.1)
    ∧ (ksT (sortAbs as.flatten)).Perm (as.flatMap ksT) ∧ (ksT (sortAbs as.flatten)).Pairwise (fun x y => x.1 ≤ y.1) := by
  have e1 : as.flatMap tsT = tsT as.flatten := by
    simp only [tsT, List.flatMap_def, List.filter_flatten, List.map_flatten, List.map_map]
    rfl
  have e2 : as.flatMap ksT = ksT as.flatten := by
    simp only [ksT, List.flatMap_def, List.filter_flatten, List.map_flatten, List.map_map]
    rfl
  refine ⟨?_, ?_, ?_, ?_⟩
  · rw [e1]; exact ((sortAbs_perm _).filter _).map _
  · simp only [tsT]
    rw [List.pairwise_map]
    exact ((sortAbs_pairwise _).filter _)
  · rw [e2]; exact ((sortAbs_perm _).filter _).map _
  · simp only [ksT]
    rw [List.pairwise_map]
    exact ((sortAbs_pairwise _).filter _)

def exS1 : List Msg := [Msg.mkTimeSig 0 4 4 0, { ty := .keySignature, key := 3, time := 0 }, Msg.mkTimeSig 0 3 4 48]
def exS2 : List Msg := [Msg.mkTimeSig 0 4 4 0, Msg.mkTimeSig 0 4 4 24, { ty := .keySignature, key := 3, time := 24 },
  Msg.mkTimeSig 0 3 4 48, { ty := .keySignature, key := 5, time := 48 }, Msg.mkTimeSig 0 4 4 96]
example : (∀ a ∈ [exS1, exS2], OkAbs a)
    ∧ tsT (mergeEv [exS1, exS2]) = [(0, 4, 4), (48, 3, 4), (96, 4, 4)]
    ∧ ksT (mergeEv [exS1, exS2]) = [(0, 3), (48, 5)] := by
  refine ⟨?_, by decide, by decide⟩
  intro a ha
  simp only [List.mem_cons, List.not_mem_nil, or_false] at ha
  rcases ha with rfl | rfl
  · exact ⟨by simp [TimeSorted, exS1, Msg.mkTimeSig], by simp [NonNegTimes, exS1, Msg.mkTimeSig], by decide⟩
  · exact ⟨by simp [TimeSorted, exS2, Msg.mkTimeSig], by simp [NonNegTimes, exS2, Msg.mkTimeSig], by decide⟩

/-! ### 2d — what `PosDur` hides: zero-length notes -/

/-- `C15.union` under its proper name: it needs "no zero-length note" on every input -/
theorem union_partial (as : List (List Msg)) (h : ∀ a ∈ as, OkAbs a ∧ WF a ∧ C15.PosDur a) (k : Int × Int) (t : Int) :
    SoundingAt (mergeEv as) k t ↔ ∃ a ∈ as, SoundingAt (eventsAbs a) k t :=
  C15.union as h k t

/-- the union clause without the zero-length exclusion -/
def union_statement : Prop :=
  ∀ (as : List (List Msg)), (∀ a ∈ as, OkAbs a ∧ WF a) → ∀ k t,
    (SoundingAt (mergeEv as) k t ↔ ∃ a ∈ as, SoundingAt (eventsAbs a) k t)

def exZa : List Msg := [Msg.mkOn 0 60 64 5, Msg.mkOff 0 60 10]
def exZb : List Msg := [Msg.mkOn 0 60 70 5, Msg.mkOff 0 60 5]

/-- **a zero-length note swallows a real one** (finding D17c: D17's mechanism inside `merge`): merging
    `A = [on 60 @5, off @10]` with `B = [on 60 @5, off @5]` leaves no note at all, although `A` sounds on
    ticks 5…9.  The real `Sequence.merge` does the same (replayed: relative view `[WAIT 5, WAIT 5]`). -/
theorem union_statement_false : ¬ union_statement := by
  intro h
  have := (h [exZa, exZb] (by
    intro a ha
    simp only [List.mem_cons, List.not_mem_nil, or_false] at ha
    rcases ha with rfl | rfl
    · exact okwf_two 0 60 64 5 10 (by omega) (by omega)
    · exact okwf_two 0 60 70 5 5 (by omega) (by omega)) (0, 60) 5).2 ⟨exZa, by simp, by unfold SoundingAt; decide⟩
  revert this
  unfold SoundingAt
  decide +kernel

example : C15.mergeRel [exZa, exZb] = [Msg.mkWait 0 5, Msg.mkWait 0 5] := by decide +kernel

/-- a zero-length note strictly inside a real one does not change the sounding set but splits the note
    (and hands the second half the other input's velocity) — the real library does the same -/
example : notesOf (mergeEv [exZa, [Msg.mkOn 0 60 70 7, Msg.mkOff 0 60 7]])
    = [⟨0, 60, 5, 7, 64⟩, ⟨0, 60, 7, 10, 70⟩] := by decide +kernel

/-- a zero-length note away from every other note of its key just disappears -/
example : notesOf (mergeEv [exZa, [Msg.mkOn 0 60 70 20, Msg.mkOff 0 60 20]]) = [⟨0, 60, 5, 10, 64⟩] := by decide +kernel

/-! ### the same with `WF (sortAbs a)` instead of list-order `WF a` and `PosDur a` (A11, last sentence)

  `merge` sorts all messages anyway, so only the canonical sort of every input matters; and a
  well-formed canonical sort has no zero-length note (`posDur_of_sorted`), so `PosDur` disappears. -/

/-- a good input in this sense: a fresh absolute view whose canonical sort is well-formed -/
def GoodSorted (a : List Msg) : Prop := OkAbs a ∧ WF (sortAbs a)

theorem goodSorted_map (as : List (List Msg)) (h : ∀ a ∈ as, GoodSorted a) : ∀ a ∈ as.map sortAbs, GoodIn a := by
  intro a' ha'
  obtain ⟨a, ha, rfl⟩ := List.mem_map.1 ha'
  exact goodIn_sort a (h a ha).1 (h a ha).2

/-- all notes of all inputs, read off the canonical sorts -/
def inNotesS (as : List (List Msg)) : List Note := as.flatMap (fun a => notesOf (sortAbs a))

theorem inNotes_map_sort (as : List (List Msg)) : inNotes (as.map sortAbs) = inNotesS as := by
  simp [inNotes, inNotesS, List.flatMap_def, List.map_map, Function.comp_def]

/-- 2a for canonically well-formed inputs: the notes of the merge are the fusion of the inputs' notes -/
theorem merge_notes_fused_sorted (as : List (List Msg)) (h : ∀ a ∈ as, GoodSorted a) :
    IsFusion (inNotesS as) (notesOf (mergeEv as)) ∧ (noteShapes as).Perm ((fuse (inNotesS as)).map shape) := by
  have h' := goodSorted_map as h
  have e : noteShapes (as.map sortAbs) = noteShapes as := by simp only [noteShapes, mergeEv_sort]
  rw [← mergeEv_sort, ← inNotes_map_sort, ← e]
  exact ⟨merge_notes_fused _ h', merge_notes_fuse _ h'⟩

/-- 2b for canonically well-formed inputs -/
theorem order_independent_notes_sorted (as as' : List (List Msg)) (hp : as.Perm as')
    (h : ∀ a ∈ as, GoodSorted a) : (noteShapes as).Perm (noteShapes as') := by
  have e : ∀ x : List (List Msg), noteShapes (x.map sortAbs) = noteShapes x := by
    intro x; simp only [noteShapes, mergeEv_sort]
  rw [← e as, ← e as']
  exact order_independent_notes _ _ (hp.map _) (goodSorted_map as h)

/-- the union clause for canonically well-formed inputs (no separate zero-length exclusion) -/
theorem union_sorted (as : List (List Msg)) (h : ∀ a ∈ as, GoodSorted a) (k : Int × Int) (t : Int) :
    SoundingAt (mergeEv as) k t ↔ ∃ a ∈ as, SoundingAt (sortAbs a) k t := by
  rw [← mergeEv_sort, union_partial _ (goodSorted_map as h)]
  constructor
  · rintro ⟨a', ha', hs⟩
    obtain ⟨a, ha, rfl⟩ := List.mem_map.1 ha'
    exact ⟨a, ha, (MergeL.sounding_abs _ k t).1 hs⟩
  · rintro ⟨a, ha, hs⟩
    exact ⟨sortAbs a, List.mem_map.2 ⟨a, ha, rfl⟩, (MergeL.sounding_abs _ k t).2 hs⟩

/-- non-vacuity: an input that is time-sorted but lists the note-off of the first note *after* the
    note-on of the second on the same tick — list-order `WF` fails, the canonical sort is well-formed -/
def exU : List Msg := [Msg.mkOn 0 60 64 0, Msg.mkOn 0 60 70 5, Msg.mkOff 0 60 5, Msg.mkOff 0 60 10]
example : GoodSorted exU ∧ ¬ WF exU ∧ noteShapes [exU, exM2] = [(0, 60, 0, 5), (0, 60, 5, 10), (0, 60, 12, 36)] := by
  refine ⟨⟨⟨by simp [TimeSorted, exU, Msg.mkOn, Msg.mkOff], by simp [NonNegTimes, exU, Msg.mkOn, Msg.mkOff], by decide⟩, ?_⟩,
    ?_, by decide⟩
  · exact by decide
  · intro h
    have := h (0, 60)
    simp [altFrom, exU, Msg.mkOn, Msg.mkOff, Msg.nkey] at this

example : (∀ a ∈ [exU, exM2], GoodSorted a) → IsFusion (inNotesS [exU, exM2]) (notesOf (mergeEv [exU, exM2])) :=
  fun h => (merge_notes_fused_sorted _ h).1

/-! ## 3. C17 — `equals` ⇔ equality of an independently defined content (audit item A16)

  The content of a sequence under a flag set `f` (all three defined in `Lemmas/EqualsContent.lean` from
  `notesOf (sortAbs ·)` and the signature messages of the sorted list, nothing from the pairing code):
  * `notesC f a` — the notes (channel, pitch, onset, end, velocity), channel erased by the channel flag,
    velocity erased by the velocity flag;
  * `tsC f a` — the time signatures (channel, tick, numerator, denominator) in canonical order, dropped by
    the time-signature flag, channel erased by the channel flag;
  * `ksC f a` — the key signatures (channel, tick, key), likewise. -/

/-- same content, signatures as multisets -/
def ContentPerm (f : EqFlags) (a b : List Msg) : Prop :=
  (notesC f a).Perm (notesC f b) ∧ (tsC f a).Perm (tsC f b) ∧ (ksC f a).Perm (ksC f b)

/-- same content, signatures as lists (so the order of two signatures on one tick and channel counts) -/
def ContentEq (f : EqFlags) (a b : List Msg) : Prop :=
  (notesC f a).Perm (notesC f b) ∧ tsC f a = tsC f b ∧ ksC f a = ksC f b

def OneChannel (f : EqFlags) (a : List Msg) : Prop := ∃ c, ∀ m ∈ a, cmpOf f m = true → m.ch = c

/-- **3a (⇒), all 16 flag settings.** Two well-formed sequences that compare equal under flags `f` have
    the same content under `f`: any difference in a note's channel, pitch, onset, end or velocity, or in
    a signature's channel, tick or value, that the flags do not erase makes `equals` fail.  No other
    hypothesis.  Closes A16 ("only flags {}"; "no reduction theorem for ignoreCh"). -/
theorem equals_sound_all (ppqn : Int) (f : EqFlags) (a b : List Msg) (ha : WF (sortAbs a)) (hb : WF (sortAbs b))
    (h : equalsAbs ppqn f a b = true) : ContentPerm f a b :=
  sound_content ppqn f a b ha hb h

/-- **3a (⇐).** Equal content (signatures in canonical order) makes `equals` succeed: for every flag
    setting without the channel flag, and with the channel flag for sequences whose compared events sit on
    one channel each.  `SigPlain` (signature messages carry no pitch, true of every message the library
    builds) is forced by the proof technique only. -/
theorem equals_complete (ppqn : Int) (f : EqFlags) (a b : List Msg) (ha : WF (sortAbs a)) (hb : WF (sortAbs b))
    (pa : SigPlain a) (pb : SigPlain b)
    (hch : f.ignoreCh = true → OneChannel f a ∧ OneChannel f b)
    (h : ContentEq f a b) : equalsAbs ppqn f a b = true :=
  complete_content ppqn f a b ha hb pa pb (fun hf => (hch hf).1) (fun hf => (hch hf).2) h.1 h.2.1 h.2.2

/-- **3a (⇔), all 16 flag settings.** For well-formed sequences, `equals` under flags `f` holds exactly
    when the contents under `f` agree — each flag erasing exactly its attribute.  Hypotheses: no two
    *different* signatures of one kind on one (channel, tick) in `a` (`TsFun`, `KsFun`: there the order of
    insertion decides, see `equals_iff_content_statement_false`); with the channel flag, one channel per
    sequence (see `equals_iff_content_channel_statement_false`); `SigPlain`. Closes A16. -/
theorem equals_iff_content_partial (ppqn : Int) (f : EqFlags) (a b : List Msg)
    (ha : WF (sortAbs a)) (hb : WF (sortAbs b)) (pa : SigPlain a) (pb : SigPlain b)
    (hts : TsFun f a) (hks : KsFun f a)
    (hch : f.ignoreCh = true → OneChannel f a ∧ OneChannel f b) :
    equalsAbs ppqn f a b = true ↔ ContentPerm f a b := by
  constructor
  · exact equals_sound_all ppqn f a b ha hb
  · rintro ⟨h1, h2, h3⟩
    exact equals_complete ppqn f a b ha hb pa pb hch
      ⟨h1, tsC_eq_of_perm f a b hts h2, ksC_eq_of_perm f a b hks h3⟩

/-- the unrestricted statement -/
def equals_iff_content_statement : Prop :=
  ∀ (ppqn : Int) (f : EqFlags) (a b : List Msg), WF (sortAbs a) → WF (sortAbs b) → SigPlain a → SigPlain b →
    (equalsAbs ppqn f a b = true ↔ ContentPerm f a b)

/-- two different time signatures on one tick and channel, inserted in the two orders -/
def cexTsA : List Msg := [Msg.mkTimeSig 0 4 4 0, Msg.mkTimeSig 0 3 4 0]
def cexTsB : List Msg := [Msg.mkTimeSig 0 3 4 0, Msg.mkTimeSig 0 4 4 0]

/-- without the channel flag the statement fails only where two different signatures share a tick and
    a channel: the same events inserted in the other order compare unequal (and they do denote different
    music — the signature in force differs) -/
theorem equals_iff_content_statement_false : ¬ equals_iff_content_statement := by
  intro h
  have hw : ∀ l : List Msg, sortAbs l = l → (∀ m ∈ l, m.ty ≠ .noteOn ∧ m.ty ≠ .noteOff) → WF (sortAbs l) :=
    fun l e hl => by rw [e]; exact wf_of_no_notes l hl
  have := (h 24 {} cexTsA cexTsB (hw _ (by decide) (by decide)) (hw _ (by decide) (by decide))
    (by decide) (by decide)).2
    ⟨by decide, by decide, by decide⟩
  revert this
  decide +kernel

/-- the statement restricted to inputs without such signature ties, but with the channel flag on
    multi-channel sequences -/
def equals_iff_content_channel_statement : Prop :=
  ∀ (ppqn : Int) (f : EqFlags) (a b : List Msg), WF (sortAbs a) → WF (sortAbs b) → SigPlain a → SigPlain b →
    TsFun f a → KsFun f a → (equalsAbs ppqn f a b = true ↔ ContentPerm f a b)

def cexChA : List Msg := [Msg.mkOn 0 60 64 0, Msg.mkOff 0 60 10, Msg.mkOn 1 62 64 0, Msg.mkOff 1 62 10]
def cexChB : List Msg := [Msg.mkOn 0 62 64 0, Msg.mkOff 0 62 10, Msg.mkOn 1 60 64 0, Msg.mkOff 1 60 10]

theorem wf_cexChA : WF (sortAbs cexChA) := by decide

theorem wf_cexChB : WF (sortAbs cexChB) := by decide

/-- **the channel flag does not make channels irrelevant**: two sequences that differ only in which
    channel carries which of two simultaneous notes compare unequal even with `ignore_channel`
    (the interleaving breaks onset ties by channel).  Replayed on the real `Sequence.equals`: `False`. -/
theorem equals_iff_content_channel_statement_false : ¬ equals_iff_content_channel_statement := by
  intro h
  have := (h 24 { ignoreCh := true } cexChA cexChB wf_cexChA wf_cexChB (by decide) (by decide)
    (by decide) (by decide)).2 ⟨by decide, by decide, by decide⟩
  revert this
  decide +kernel

/-- non-vacuity of `equals_iff_content_partial`: two sequences differing in one velocity are equal exactly
    under the velocity flag -/
def exEqA : List Msg := [Msg.mkTimeSig 0 4 4 0, Msg.mkOn 0 60 64 0, Msg.mkOff 0 60 10, Msg.mkOn 1 62 70 5, Msg.mkOff 1 62 15]
def exEqB : List Msg := [Msg.mkOn 1 62 70 5, Msg.mkOn 0 60 99 0, Msg.mkOff 0 60 10, Msg.mkTimeSig 0 4 4 0, Msg.mkOff 1 62 15]

theorem wf_exEqA : WF (sortAbs exEqA) := by decide

theorem wf_exEqB : WF (sortAbs exEqB) := by decide

example : (equalsAbs 24 { ignoreVel := true } exEqA exEqB = true ↔ ContentPerm { ignoreVel := true } exEqA exEqB)
    ∧ equalsAbs 24 { ignoreVel := true } exEqA exEqB = true ∧ equalsAbs 24 {} exEqA exEqB = false
    ∧ ¬ ContentPerm {} exEqA exEqB :=
  ⟨equals_iff_content_partial 24 _ exEqA exEqB wf_exEqA wf_exEqB (by decide) (by decide) (by decide) (by decide)
      (fun h => by cases h),
    by decide, by decide,
    fun h => by
      have := (equals_iff_content_partial 24 {} exEqA exEqB wf_exEqA wf_exEqB (by decide) (by decide) (by decide)
        (by decide) (fun h => by cases h)).2 h
      revert this; decide⟩

/-- `equals_sound_all` on the same pair under the velocity flag -/
example : ContentPerm { ignoreVel := true } exEqA exEqB :=
  equals_sound_all 24 _ exEqA exEqB wf_exEqA wf_exEqB (by decide)

/-- **insertion order** does not matter as long as compared messages that tie in the sort key
    (tick, channel, type, pitch) agree on what `equals` looks at.  Messages `equals` does not compare
    (control changes, program changes, …) are unrestricted — any number of them may share a tick and a
    channel.  Weaker than the `Nodup sortKey` hypothesis of `C17.perm_invariant` (A16). -/
theorem equals_of_perm_tie (ppqn : Int) (f : EqFlags) (a a' : List Msg) (hp : a.Perm a') (ht : TieAgree f a) :
    equalsAbs ppqn f a a' = true :=
  equals_of_normal_form ppqn f a a' (normal_form_of_perm f a a' hp ht)

/-- non-vacuity: two control changes and two identical program changes share tick 0 and channel 0; the
    `Nodup sortKey` hypothesis of `C17.perm_invariant` fails, `TieAgree` holds -/
def exTie : List Msg := [{ ty := .controlChange, ctl := 7, time := 0 }, Msg.mkOn 0 60 64 0,
  { ty := .controlChange, ctl := 10, time := 0 }, Msg.mkOff 0 60 10, { ty := .programChange, prog := 1, time := 0 }]
example : TieAgree {} exTie ∧ ¬ (exTie.map C17.sortKey).Nodup
    ∧ equalsAbs 24 {} exTie exTie.reverse = true :=
  ⟨by decide, by decide, equals_of_perm_tie 24 {} exTie exTie.reverse (List.reverse_perm _).symm (by decide)⟩

/-- the unrestricted statement … -/
def insertion_order_statement : Prop :=
  ∀ (ppqn : Int) (f : EqFlags) (a a' : List Msg), a.Perm a' → equalsAbs ppqn f a a' = true

/-- … fails where two different time signatures share a tick and a channel (the stable sort keeps the
    insertion order, and the later one is the one in force).  Replayed on the real library: `False`. -/
theorem insertion_order_statement_false : ¬ insertion_order_statement := by
  intro h
  have := h 24 {} cexTsA cexTsB (List.Perm.swap _ _ _)
  revert this
  decide +kernel

/-- **re-representation**: a sequence built from relative messages compares equal to one built from
    absolute messages whenever the timed events are the same (up to the order of simultaneous ones) -/
theorem equals_of_same_events (ppqn : Int) (f : EqFlags) (r a : List Msg)
    (hp : (eventsRel r).Perm (eventsAbs a)) (ht : TieAgree f (eventsRel r)) :
    equalsAbs ppqn f (toAbs r) a = true := by
  rw [EQ.equalsAbs_congr (seen_congr ppqn f (toAbs_filter f r)) (seen_congr ppqn f (y := eventsAbs a) (by rw [eventsAbs_filter]))]
  exact equals_of_perm_tie ppqn f _ _ hp ht

/-- **through either representation**: converting to the relative view and back gives an equal sequence,
    for every flag setting and every absolute view the wrapper keeps (`OkAbs`; no well-formedness needed).
    `toAbs (toRel a)` is not a permutation of `a` (the `INTERNAL` cap), so this does not follow from
    `C17.perm_invariant` (A16). -/
theorem equals_rerepresented (ppqn : Int) (f : EqFlags) (a : List Msg) (h : OkAbs a) :
    equalsAbs ppqn f (toAbs (toRel a)) a = true ∧ equalsAbs ppqn f a (toAbs (toRel a)) = true := by
  have e : equalsAbs ppqn f (toAbs (toRel a)) a = true := by
    rw [EQ.equalsAbs_congr (seen_congr ppqn f (y := a) (by rw [toAbs_filter, C04.toRel_events a h, eventsAbs_filter])) rfl]
    exact C17.refl ppqn f a
  exact ⟨e, by rw [C17.symm]; exact e⟩

def exEqS : List Msg := [Msg.mkTimeSig 0 4 4 0, Msg.mkOn 0 60 64 0, Msg.mkInternal 0 3, Msg.mkOn 1 62 70 5, Msg.mkOff 0 60 10, Msg.mkOff 1 62 15]
example : OkAbs exEqS ∧ equalsAbs 24 {} (toAbs (toRel exEqS)) exEqS = true ∧ ¬ (toAbs (toRel exEqS)).Perm exEqS := by
  refine ⟨⟨?_, ?_, by decide⟩, by decide, fun h => by have := h.length_eq; revert this; decide⟩
  · simp [TimeSorted, exEqS, Msg.mkOn, Msg.mkOff, Msg.mkTimeSig, Msg.mkInternal]
  · simp [NonNegTimes, exEqS, Msg.mkOn, Msg.mkOff, Msg.mkTimeSig, Msg.mkInternal]

/-- any difference in the content under `f` makes `equals` under `f` fail -/
theorem equals_false_of_content (ppqn : Int) (f : EqFlags) (a b : List Msg) (ha : WF (sortAbs a))
    (hb : WF (sortAbs b)) (h : ¬ ContentPerm f a b) : equalsAbs ppqn f a b = false := by
  cases he : equalsAbs ppqn f a b
  · rfl
  · exact absurd (equals_sound_all ppqn f a b ha hb he) h

/-- **velocity flag**: sequences that differ only in note-on velocities compare equal with the flag … -/
theorem flag_velocity_only (ppqn : Int) (f : EqFlags) (a b : List Msg) (h : C17.eraseVel a = C17.eraseVel b) :
    equalsAbs ppqn { f with ignoreVel := true } a b = true := by
  rw [C17.flag_velocity, h]
  exact C17.refl ppqn _ _

/-- … and unequal without it as soon as one note-on's velocity really differs (channel compared) -/
theorem flag_velocity_strict (ppqn : Int) (f : EqFlags) (a b : List Msg) (ha : WF (sortAbs a)) (hb : WF (sortAbs b))
    (hc : f.ignoreCh = false) (m m' : Msg) (hm : m ∈ a) (hm' : m' ∈ b) (hty : m.ty = .noteOn) (hty' : m'.ty = .noteOn)
    (hk : m.ch = m'.ch ∧ m.note = m'.note ∧ m.time = m'.time) (hv : m.vel ≠ m'.vel) :
    equalsAbs ppqn { f with ignoreVel := false } a b = false := by
  apply equals_false_of_content ppqn _ a b ha hb
  rintro ⟨hn, _, _⟩
  have he : ∀ c : List Msg, notesC { f with ignoreVel := false } c = notesOf (sortAbs c) := by
    intro c
    unfold notesC
    conv => rhs; rw [← List.map_id (notesOf (sortAbs c))]
    apply List.map_congr_left
    intro n _
    simp [eraseN, hc]
  rw [he a, he b] at hn
  have sb := notes_sep (sortAbs b) hb (sorted_of_kle (sortAbs_sorted b)) (posDur_of_sorted _ hb (sortAbs_sorted b))
  -- the note started by `m` in `a` is a note of `b` too, next to the one started by `m'`
  obtain ⟨n, hn1, e1⟩ := List.mem_map.1 ((notes_ons (sortAbs a) ha _).2 ⟨m, (mem_sortAbs a m).2 hm, hty, rfl⟩)
  obtain ⟨n', hn1', e1'⟩ := List.mem_map.1 ((notes_ons (sortAbs b) hb _).2 ⟨m', (mem_sortAbs b m').2 hm', hty', rfl⟩)
  have hn2 : n ∈ notesOf (sortAbs b) := hn.mem_iff.1 hn1
  simp only [onAttr, Prod.mk.injEq] at e1 e1'
  have hne : n ≠ n' := by
    intro e; subst e; exact hv (by rw [← e1.2.2.2, e1'.2.2.2])
  have p1 := sb.pos n hn2
  have p2 := sb.pos n' hn1'
  rcases sb.disj n hn2 n' hn1' hne (by simp [nkeyN, e1.1, e1.2.1, e1'.1, e1'.2.1, hk.1, hk.2.1]) with h | h <;> omega

/-- **time-signature flag**: sequences that differ only in time-signature events compare equal with the flag … -/
theorem flag_time_signature_only (ppqn : Int) (f : EqFlags) (a b : List Msg)
    (h : a.filter (·.ty != .timeSignature) = b.filter (·.ty != .timeSignature)) :
    equalsAbs ppqn { f with ignoreTs := true } a b = true := by
  rw [C17.flag_time_signature, h]
  exact C17.refl ppqn _ _

/-- … and unequal without it as soon as the time signatures (channel, tick, value) really differ -/
theorem flag_time_signature_strict (ppqn : Int) (f : EqFlags) (a b : List Msg) (ha : WF (sortAbs a))
    (hb : WF (sortAbs b)) (hd : ¬ (tsC { f with ignoreTs := false } a).Perm (tsC { f with ignoreTs := false } b)) :
    equalsAbs ppqn { f with ignoreTs := false } a b = false :=
  equals_false_of_content ppqn _ a b ha hb (fun h => hd h.2.1)

/-- **key-signature flag**: likewise … -/
theorem flag_key_signature_only (ppqn : Int) (f : EqFlags) (a b : List Msg)
    (h : a.filter (·.ty != .keySignature) = b.filter (·.ty != .keySignature)) :
    equalsAbs ppqn { f with ignoreKs := true } a b = true := by
  rw [C17.flag_key_signature, h]
  exact C17.refl ppqn _ _

theorem flag_key_signature_strict (ppqn : Int) (f : EqFlags) (a b : List Msg) (ha : WF (sortAbs a))
    (hb : WF (sortAbs b)) (hd : ¬ (ksC { f with ignoreKs := false } a).Perm (ksC { f with ignoreKs := false } b)) :
    equalsAbs ppqn { f with ignoreKs := false } a b = false :=
  equals_false_of_content ppqn _ a b ha hb (fun h => hd h.2.2)

/-- non-vacuity of the time-signature clauses: `exEqA` against itself with the time signature moved -/
def exEqT : List Msg := [Msg.mkTimeSig 0 4 4 5, Msg.mkOn 0 60 64 0, Msg.mkOff 0 60 10, Msg.mkOn 1 62 70 5, Msg.mkOff 1 62 15]
example : equalsAbs 24 { ignoreTs := true } exEqA exEqT = true ∧ equalsAbs 24 { ignoreTs := false } exEqA exEqT = false := by
  refine ⟨flag_time_signature_only 24 {} exEqA exEqT (by decide), ?_⟩
  exact flag_time_signature_strict 24 {} exEqA exEqT wf_exEqA (by decide) (by decide)

/-- non-vacuity of the strict velocity clause, on `exEqA` and `exEqB` (they differ in one velocity) -/
example : equalsAbs 24 { ignoreTs := true, ignoreVel := false } exEqA exEqB = false :=
  flag_velocity_strict 24 { ignoreTs := true } exEqA exEqB wf_exEqA wf_exEqB rfl
    (Msg.mkOn 0 60 64 0) (Msg.mkOn 0 60 99 0) (by decide) (by decide) rfl rfl ⟨rfl, rfl, rfl⟩ (by decide)

end SCoda.NotesB
