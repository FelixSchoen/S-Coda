/-
  REL TIE 2: the functions GENERATED from the Python source by tools/py2lean_rel2.py (Gen/RelFns2.lean, namespace
  `SCoda.Gen.Rel2`) — `RelativeSequence.normalise_relative` and `RelativeSequence.split` — are EQUAL to the
  hand-written models `SCoda.normalise` (Model/Normalise.lean) and `SCoda.split` (Model/Split.lean), for all inputs.

  The generated text follows the Python statement by statement (dict of dicts of lists of message objects, `in` /
  `remove` by object identity, nested `for` / `while` with fuel), so a semantic edit of the Python changes the
  generated definition and the corresponding theorem below stops building (tools/test_py2lean_rel2.sh).

  Nothing is linked.  Side condition `ChOk`: no message has channel `None` (`Message.__init__` guarantees it; the
  models rely on it, Model/Msg.lean).  For `normalise_relative` the input objects are pairwise distinct
  (`tagInput`: the i-th message is the object with id i), which is what the hand model's index tags assume.
-/
import SCoda.Lemmas.RelTie2L
namespace SCoda.RelTie2
open SCoda SCoda.Gen.Rel2 SCoda.RelTie2L

def ChOk (l : List Msg) : Prop := ∀ m ∈ l, m.ch ≠ pyNone

instance (l : List Msg) : Decidable (ChOk l) := by unfold ChOk; infer_instance

/-- generated `normalise_relative`, unconditionally: the `do` block never raises and computes the pure function
    `normG` (fold of `gStep`, flush, clean-up by identity), for EVERY list of objects (repeated objects included). -/
theorem normaliseRelative_total (l : List Obj) : normaliseRelative l = .ok (normG l) := by
  unfold normaliseRelative
  simp only []
  rw [forIn_fold_view GSt.tup (fun _ => True) gStep _ l (fun _ _ _ _ => trivial) ?body (gInit l) trivial _ ?hb]
  case hb => rfl
  case body =>
    -- one iteration: decide every test the generated body makes on variables (default-channel update, `wait_buffer > 0`,
    -- shape of the open stack, changed signature); for a fixed message type both sides then compute to the same tuple
    intro a _ s _
    obtain ⟨nid, nl, d, out, wb, tn, td, ky, dc⟩ := s
    obtain ⟨i, ty, ch, time, note, vel, ctl, prog, num, den, key⟩ := a
    simp only [pyDictGet_setDefault, ok_bind, gStep, GSt.emit, GSt.tup, pure_eq_ok]
    by_cases hdc : (dc.isNone && ch != pyNone) = true <;> by_cases hwb : wb > 0 <;>
      simp only [hdc, hwb, decide_true, decide_false, if_true, if_false, Bool.false_eq_true]
    all_goals cases ty
    case noteOn | noteOn | noteOn | noteOn =>
      generalize pyGetD (pyGetD d ch []) note [] = L
      rcases L with _ | ⟨x, L⟩
      · rfl
      · have hlen : ∀ o : Obj, ((↑(x :: L ++ [o]).length : Int) != 1) = true := by
          intro o; simp only [List.length_cons, List.length_append, bne_iff_ne]; omega
        simp only [hlen]; rfl
    case noteOff | noteOff | noteOff | noteOff =>
      generalize pyGetD (pyGetD d ch []) note [] = L
      rcases L with _ | ⟨x, _ | ⟨y, L⟩⟩ <;> rfl
    case timeSignature | timeSignature | timeSignature | timeSignature =>
      generalize (pyOpt num != tn || pyOpt den != td) = b
      cases b <;> rfl
    case keySignature | keySignature | keySignature | keySignature =>
      generalize (pyOpt key != ky) = b
      cases b <;> rfl
    all_goals rfl
  simp only [ok_bind]
  unfold normG
  generalize List.foldl gStep (gInit l) l = s
  obtain ⟨nid, nl, d, out, wb, tn, td, ky, dc⟩ := s
  simp only [GSt.tup, gFlush]
  have key : ∀ st0 : List Obj × List Obj, ∀ F : Int → List Obj × List Obj → Except PyErr (ForInStep (List Obj × List Obj)),
      (∀ channel ∈ pyKeys d, ∀ b, F channel b = .ok (.yield (cleanCh d b channel))) →
      (do let s ← forIn (pyKeys d) st0 F; pure s.2) = (.ok ((pyKeys d).foldl (cleanCh d) st0).2 : Except PyErr (List Obj)) := by
    intro st0 F hF
    rw [forIn_fold (fun _ => True) (cleanCh d) F _ (fun _ _ _ _ => trivial) (fun a ha b _ => hF a ha b) _ trivial]; rfl
  by_cases hwb : wb > 0
  all_goals simp only [hwb, decide_true, decide_false, if_true, if_false, Bool.false_eq_true]
  all_goals (
    refine key _ _ ?_
    intro channel hch b
    rw [pyDictGet_of_mem d channel [] hch]
    rw [ok_bind]
    rw [forIn_fold' (cleanKey (pyGetD d channel []))]
    · rfl
    · intro key st
      rw [ok_bind]
      rw [forIn_fold' cleanOne]
      · rfl
      · intro msg out
        unfold cleanOne pyRemove
        split <;> simp_all <;> rfl)

theorem untag_filter_absTag (n : Nat) (X : List Obj) (P : Obj → Bool) (Q : Option Nat × Msg → Bool)
    (h : ∀ o ∈ X, P o = Q (absTag n o)) : untag (X.filter P) = msgs ((X.map (absTag n)).filter Q) := by
  rw [filter_map_of_comp Q P _ X fun o ho => (h o ho).symm]
  unfold untag msgs
  rw [List.map_map]
  rfl

theorem normG_untag (r : List Msg) (h : ChOk r) : untag (normG (tagInput r)) = normalise r := by
  have hrel : Rel r.length ((tagInput r).foldl gStep (gInit (tagInput r))) (r.foldl normStep {}) :=
    rel_fold r.length r (gInit (tagInput r)) {} (rel_init r) (by simp) h
  rw [normalise_eq]
  unfold normG
  simp only []
  generalize (tagInput r).foldl gStep (gInit (tagInput r)) = g at hrel
  generalize r.foldl normStep {} = s at hrel
  rw [clean_eq g.d (g.nl, gFlush g)]
  have hfl : (gFlush g).map (absTag r.length) = s.O ++ flushEnd s := by
    unfold gFlush flushEnd
    rw [hrel.wb, hrel.dc]
    split
    · have : ¬ g.nid < r.length := by have := hrel.nid; omega
      simp [absTag, this, hrel.out, Msg.mkWait, chanOfOpt]
    · simp [hrel.out]
  have hnd : ((gFlush g).map Prod.fst).Nodup := by
    unfold gFlush
    split
    · rw [List.map_append, List.nodup_append]
      refine ⟨hrel.nd, by simp, ?_⟩
      intro a ha b hb
      obtain ⟨o, ho, rfl⟩ := List.mem_map.1 ha
      simp at hb; subst hb
      have := hrel.idx
      have := hrel.nid
      rcases hrel.ids o ho with h1 | h1 <;> omega
    · exact hrel.nd
  rw [foldl_cleanOne (allOpen g.d) (gFlush g) hnd, ← hfl]
  apply untag_filter_absTag
  intro o ho
  have hmem : ∀ i : Nat, i ∈ (allOpen g.d).map Prod.fst ↔ i ∈ unclosed s := by
    intro i
    rw [mem_unclosed s hrel.hnd]
    constructor
    · intro hi
      obtain ⟨o', ho', rfl⟩ := List.mem_map.1 hi
      obtain ⟨c, nt, hc⟩ := (mem_allOpen g.d o').1 ho'
      exact ⟨(c, nt), by rw [← hrel.stk c nt]; exact List.mem_map.2 ⟨o', hc, rfl⟩⟩
    · rintro ⟨⟨c, nt⟩, hk⟩
      rw [← hrel.stk c nt] at hk
      obtain ⟨o', ho', rfl⟩ := List.mem_map.1 hk
      exact List.mem_map.2 ⟨o', (mem_allOpen g.d o').2 ⟨c, nt, ho'⟩, rfl⟩
  have hmem' := hmem o.1
  by_cases hlt : o.1 < r.length
  · simp only [absTag, hlt, if_true, Q]
    by_cases hin : o.1 ∈ unclosed s
    · have := hmem'.2 hin
      simp [hin, this]
    · have : ¬ _ := fun h' => hin (hmem'.1 h')
      simp [hin, this]
  · simp only [absTag, hlt, if_false, Q]
    have : ¬ o.1 ∈ List.map Prod.fst (allOpen g.d) := by
      intro hi
      obtain ⟨o', ho', he⟩ := List.mem_map.1 hi
      obtain ⟨c, nt, hc⟩ := (mem_allOpen g.d o').1 ho'
      have h1 := hrel.slt c nt o' hc
      have h2 := hrel.idx
      omega
    simp [this]

/-- **generated `RelativeSequence.normalise_relative` = hand model `normalise`**, for every list of messages without
    channel `None`, given as pairwise distinct objects: the call never raises and the values of the resulting objects
    are exactly `normalise r`. -/
theorem normaliseRelative_eq (r : List Msg) (h : ChOk r) :
    (normaliseRelative (tagInput r)).map untag = .ok (normalise r) := by
  rw [normaliseRelative_total, ← normG_untag r h]; rfl

example : ChOk [{ ty := .noteOn, ch := 1, note := 60, vel := 90 }, { ty := .wait, ch := 1, time := 2 }, { ty := .wait, ch := 1, time := 3 },
      { ty := .noteOn, ch := 1, note := 60, vel := 70 }, { ty := .noteOff, ch := 1, note := 60 }, { ty := .noteOff, ch := 1, note := 60 },
      { ty := .noteOn, ch := 1, note := 62, vel := 80 }, { ty := .wait, ch := 1, time := 4 }] ∧
    (normaliseRelative (tagInput [{ ty := .noteOn, ch := 1, note := 60, vel := 90 }, { ty := .wait, ch := 1, time := 2 }, { ty := .wait, ch := 1, time := 3 },
      { ty := .noteOn, ch := 1, note := 60, vel := 70 }, { ty := .noteOff, ch := 1, note := 60 }, { ty := .noteOff, ch := 1, note := 60 },
      { ty := .noteOn, ch := 1, note := 62, vel := 80 }, { ty := .wait, ch := 1, time := 4 }])).map untag
    = .ok [{ ty := .noteOn, ch := 1, note := 60, vel := 90 }, { ty := .wait, ch := 1, time := 5 }, { ty := .noteOff, ch := 1, note := 60 },
           { ty := .wait, ch := 1, time := 4 }] := by
  decide +kernel

/-! #### excluded points of `normaliseRelative_eq` (each replayed on /repo) -/

/-- the equality for lists in which an object may occur more than once (ids arbitrary) -/
def normaliseRelative_anyObjects_statement : Prop :=
  ∀ l : List Obj, (normaliseRelative l).map untag = .ok (normalise (untag l))

/-- FALSE: `[on, wait 4, off, on]` whose last element IS the first object (what `r.concatenate([p, q, p])` builds).
    The real code (= the generated function) removes the FIRST occurrence of the unclosed note-on and returns
    `[wait 4, off, on]`; the hand model, which takes the four messages as four objects, returns `[on, wait 4, off]`. -/
theorem normaliseRelative_anyObjects_statement_false : ¬ normaliseRelative_anyObjects_statement := by
  intro h
  have := h [(0, { ty := .noteOn, ch := 0, note := 60, vel := 90 }), (1, { ty := .wait, ch := 0, time := 4 }),
             (2, { ty := .noteOff, ch := 0, note := 60 }), (0, { ty := .noteOn, ch := 0, note := 60, vel := 90 })]
  revert this
  decide +kernel

example : (normaliseRelative [(0, { ty := .noteOn, ch := 0, note := 60, vel := 90 }), (1, { ty := .wait, ch := 0, time := 4 }),
             (2, { ty := .noteOff, ch := 0, note := 60 }), (0, { ty := .noteOn, ch := 0, note := 60, vel := 90 })]).map untag
    = .ok [{ ty := .wait, ch := 0, time := 4 }, { ty := .noteOff, ch := 0, note := 60 }, { ty := .noteOn, ch := 0, note := 60, vel := 90 }] := by
  decide +kernel

/-- the equality without `ChOk` -/
def normaliseRelative_anyChannel_statement : Prop :=
  ∀ r : List Msg, (normaliseRelative (tagInput r)).map untag = .ok (normalise r)

/-- FALSE: a single wait whose channel is `None`: the code builds the trailing wait with `Message(channel=None)`, i.e.
    channel 0; the hand model keeps `pyNone`. -/
theorem normaliseRelative_anyChannel_statement_false : ¬ normaliseRelative_anyChannel_statement := by
  intro h
  have := h [{ ty := .wait, ch := pyNone, time := 3 }]
  revert this
  decide +kernel

/-- generated `split`, unconditionally: the `do` block never raises — in particular the fuel `len(working_memory) + 1`
    of the `while` loop always suffices (`PyErr.fuel` is unreachable) — and computes the pure function `splitG`,
    for EVERY message list and capacity list (negative capacities and channel `None` included). -/
theorem split_total (l : List Msg) (caps : List Int) : Gen.Rel2.split l caps = .ok (splitG l caps) := by
  unfold Gen.Rel2.split
  simp only [addMessage_none, ok_bind, forIn_pure_yield]
  rw [forIn_fold_view ISt.otup (fun s => s.exited = false) oStep _ caps (fun s c _ _ => oStep_exited s c) ?body
        (initG l) rfl _ ?hb]
  case hb => rfl
  case body =>
    intro capacity _ s hs
    obtain ⟨q0, rem0, msg, carry, splits, wm, cur, opens, exited⟩ := s
    simp only at hs; subst hs
    simp only [ISt.otup]
    rw [forIn_replicate ISt.tup (fun _ => True) iStep _ (fun _ _ _ _ => trivial) ?inner (wm.length + 1)
          { queue := [], rem := capacity, msg := msg, carry := carry, splits := splits, wm := wm, cur := cur, opens := opens, exited := false }
          trivial _ ?hb]
    case hb => rfl
    case inner =>
      intro b _
      obtain ⟨q, rem, msg, carry, splits, wm, cur, opens, exited⟩ := b
      simp only [iStep, ISt.tup, closeG]
      by_cases hrem : rem ≥ 0 <;> simp only [hrem, decide_true, decide_false, Bool.not_true, Bool.not_false, Bool.false_eq_true, if_true, if_false]
      · cases wm with
        | nil =>
          simp only [gt_iff_lt, Int.natCast_pos, decide_eq_true_eq, List.length_nil, Int.natCast_zero, beq_self_eq_true, if_true]
          split <;> rfl
        | cons m wm =>
          obtain ⟨ty, ch, time, note, vel, ctl, prog, num, den, key⟩ := m
          have hl : ((((⟨ty, ch, time, note, vel, ctl, prog, num, den, key⟩ : Msg) :: wm).length : Nat) : Int) ≠ 0 := by
            simp only [List.length_cons]; omega
          simp only [beq_iff_eq, hl, if_false, pyPopFirst, pure_eq_ok, ok_bind]
          by_cases ht : time ≤ rem <;> by_cases hp : rem > 0 <;>
            simp only [hp, ht, decide_true, decide_false, Bool.false_eq_true, if_true, if_false]
          all_goals cases ty
          case wait | wait => rfl
          case wait | wait =>
            simp only [reduceCtorEq, if_true, if_false]
            generalize List.foldl _ _ opens = qc
            obtain ⟨a, b⟩ := qc
            simp only [gt_iff_lt, Int.natCast_pos, decide_eq_true_eq]
            split <;> rfl
          all_goals rfl
      · rfl
    rw [ok_bind, runN_iStep]
    have hex := iRun_exited (wm.length + 1)
      { queue := [], rem := capacity, msg := msg, carry := carry, splits := splits, wm := wm, cur := cur, opens := opens, exited := false }
      (by simp)
    simp only [ISt.tup, hex, oStep, Bool.not_true, Bool.false_and, Bool.false_eq_true, if_false]
    rfl
  rw [ok_bind]
  unfold splitG finalG
  generalize List.foldl oStep (initG l) caps = s
  simp only [ISt.otup, gt_iff_lt, Int.natCast_pos, decide_eq_true_eq]
  by_cases hw : 0 < s.wm.length <;> simp only [hw, if_true, if_false] <;> split <;> rfl

/-- **generated `RelativeSequence.split` = hand model `split`** for every message list without channel `None` and every
    list of non-negative capacities: both succeed (the hand model's own fuel `len + 2` suffices too) with the same pieces. -/
theorem split_eq (r : List Msg) (caps : List Int) (h : ChOk r) (hc : ∀ c ∈ caps, 0 ≤ c) :
    ∃ pieces, Gen.Rel2.split r caps = .ok pieces ∧ SCoda.split r caps = .ok pieces :=
  ⟨splitG r caps, split_total r caps, splitG_eq_hand r caps h hc⟩

/-- the same, as an equivalence of outcomes -/
theorem split_ok_iff (r : List Msg) (caps : List Int) (h : ChOk r) (hc : ∀ c ∈ caps, 0 ≤ c) (pieces : List (List Msg)) :
    Gen.Rel2.split r caps = .ok pieces ↔ SCoda.split r caps = .ok pieces := by
  rw [split_total, splitG_eq_hand r caps h hc]
  constructor <;> (intro e; cases e; rfl)

example : ChOk [{ ty := .noteOn, ch := 1, note := 60, vel := 90 }, { ty := .wait, ch := 1, time := 6 }, { ty := .noteOff, ch := 1, note := 60 },
      { ty := .controlChange, ch := 1, ctl := 7, vel := 3 }, { ty := .wait, ch := 1, time := 1 }] ∧ (∀ c ∈ [(4 : Int), 0, 2], 0 ≤ c) ∧
    Gen.Rel2.split [{ ty := .noteOn, ch := 1, note := 60, vel := 90 }, { ty := .wait, ch := 1, time := 6 }, { ty := .noteOff, ch := 1, note := 60 },
      { ty := .controlChange, ch := 1, ctl := 7, vel := 3 }, { ty := .wait, ch := 1, time := 1 }] [4, 0, 2]
    = .ok [[{ ty := .noteOn, ch := 1, note := 60, vel := 90 }, { ty := .wait, ch := 1, time := 4 }, { ty := .noteOff, ch := 1, note := 60 }],
           [{ ty := .noteOff, ch := 1, note := 60 }],
           [{ ty := .noteOn, ch := 1, note := 60, vel := 90 }, { ty := .noteOn, ch := 1, note := 60, vel := 90 },
            { ty := .wait, ch := 1, time := 2 }, { ty := .noteOff, ch := 1, note := 60 }],
           [{ ty := .controlChange, ch := 1, ctl := 7, vel := 3 }, { ty := .wait, ch := 1, time := 1 }]] := by
  decide   -- (the output /repo produces for this input, zero capacity included)

/-- the equality for arbitrary capacities -/
def split_anyCapacity_statement : Prop :=
  ∀ (r : List Msg) (caps : List Int), ChOk r → ∃ pieces, Gen.Rel2.split r caps = .ok pieces ∧ SCoda.split r caps = .ok pieces

/-- FALSE: a negative capacity.  The code does not enter `while remaining_capacity >= 0` at all and returns `[[wait 1]]`;
    the hand model (which has no loop test: "`remaining_capacity` never becomes negative") cuts the wait and returns `[[wait 2]]`. -/
theorem split_anyCapacity_statement_false : ¬ split_anyCapacity_statement := by
  intro h
  obtain ⟨p, h1, h2⟩ := h [{ ty := .wait, ch := 0, time := 1 }] [-1] (by decide)
  have e1 : Gen.Rel2.split [{ ty := .wait, ch := 0, time := 1 }] [-1] = .ok [[{ ty := .wait, ch := 0, time := 1 }]] := by decide +kernel
  have e2 : SCoda.split [{ ty := .wait, ch := 0, time := 1 }] [-1] = .ok [[{ ty := .wait, ch := 0, time := 2 }]] := by decide +kernel
  rw [e1] at h1; rw [e2] at h2
  cases h1; cases h2

/-- the equality without `ChOk` -/
def split_anyChannel_statement : Prop :=
  ∀ (r : List Msg) (caps : List Int), (∀ c ∈ caps, 0 ≤ c) →
    ∃ pieces, Gen.Rel2.split r caps = .ok pieces ∧ SCoda.split r caps = .ok pieces

/-- FALSE: a wait with channel `None` that has to be cut: the code builds both halves with `Message(channel=None)`,
    i.e. channel 0; the hand model keeps `pyNone`. -/
theorem split_anyChannel_statement_false : ¬ split_anyChannel_statement := by
  intro h
  obtain ⟨p, h1, h2⟩ := h [{ ty := .wait, ch := pyNone, time := 3 }] [1] (by decide)
  have e1 : Gen.Rel2.split [{ ty := .wait, ch := pyNone, time := 3 }] [1]
      = .ok [[{ ty := .wait, ch := 0, time := 1 }], [{ ty := .wait, ch := 0, time := 2 }]] := by decide +kernel
  have e2 : SCoda.split [{ ty := .wait, ch := pyNone, time := 3 }] [1]
      = .ok [[{ ty := .wait, ch := pyNone, time := 1 }], [{ ty := .wait, ch := pyNone, time := 2 }]] := by decide +kernel
  rw [e1] at h1; rw [e2] at h2
  cases h1; cases h2

end SCoda.RelTie2
