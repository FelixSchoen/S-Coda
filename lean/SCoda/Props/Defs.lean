/-
  The statements that Props/C02b.lean and Props/TokTie.lean leave as bare `def … : Prop`, each proved or refuted here, with the
  hypothesis-carrying form where the bare one is false; and the points the hypotheses of `TokTie.tokenise_eq` exclude, as theorems
  about what the generated code and the hand model do there.
-/
import SCoda.Props.TokTie
set_option linter.unusedSimpArgs false
namespace SCoda.Defs
open SCoda SCoda.TokLib SCoda.Gen.Tok SCoda.TokTieL SCoda.RenderL

/-- A9: `render` is injective on ALL tokens, also those with negative fields (`rst_-5`, `pit_-01`): two different tokens
    never have the same Python text.  (`C02b.render_injective` is stated with `TokOk`; the text is read character by character,
    Lemmas/RenderInjL.lean, not through the parser, which fails on signed numbers.) -/
theorem render_injective_all (t₁ t₂ : Tok) (h : render t₁ = render t₂) : t₁ = t₂ := RenderL.render_inj t₁ t₂ h

example : render (.note (some 0) (-1) (some 4) (some 127)) = "trk_00-pit_-01-val_04-vel_127" := by decide +kernel
example : render (.rest (-5)) ≠ render (.rest 5) := fun h => by cases render_injective_all _ _ h

/-- A9: for every configuration, the string keys are duplicate free exactly when the structured construction sequence is. -/
theorem render_vocab_nodup_iff (c : Cfg) : ((vocabSeq c).map render).Nodup ↔ (vocabSeq c).Nodup := by
  constructor
  · exact fun h => List.Nodup.of_map _ h
  · intro hnd
    rw [List.Nodup, List.pairwise_map]
    exact List.Pairwise.imp (fun hab e => hab (render_injective_all _ _ e)) hnd

/-- A9: the string keys written by `_construct_dictionary` are pairwise distinct for EVERY configuration with duplicate-free
    step sizes, note values and velocity bins: negative step sizes, pitches or numerators included (`CfgNonneg` is not needed). -/
theorem render_vocab_nodup_general : C02b.render_vocab_nodup_general_statement :=
  fun c h => (render_vocab_nodup_iff c).2 (C02.vocab_nodup c h)

/-- non-vacuity: a configuration with a negative step size is well formed and not `CfgNonneg`; its keys (replayed on /repo:
    `step_sizes=[-5, 2]` gives the key `rst_-5`, 8 keys, `dictionary_size` 8) -/
example : C02.CfgWF C02b.negCfg ∧ ¬ CfgNonneg C02b.negCfg := ⟨by constructor <;> decide, by decide⟩
example : "rst_-5" ∈ (vocabSeq C02b.negCfg).map render := by decide +kernel
example : ((vocabSeq C02b.negCfg).map render).Nodup := render_vocab_nodup_general _ (by constructor <;> decide)

/-- `inverse_dictionary[i]` of the translated source is the hand model's `decodeId`, rendered, for EVERY configuration: with
    duplicate keys the overwritten ids are missing from the inverse dictionary, exactly as `decodeId` says. -/
theorem decode_one (o o' : TokObj) (i : Nat) (h0 : o.dictionarySize_ = 0) (hd : o.dictionary = [])
    (h : constructDictionary o = .ok o') :
    pyDictGet o'.inverseDictionary (Int.ofNat i) =
      match decodeId (cfgOf o) i with | some t => .ok (render t) | none => .error .keyError := by
  obtain ⟨hdict, hinv, _⟩ := TokTie.constructDictionary_dictionary o o' h0 hd h
  rw [hinv, hdict, inverse_lookup]
  cases decodeId (cfgOf o) i <;> rfl

/-- The generated `decode` is the hand model `decode`, rendered, on the object `_construct_dictionary` builds from a fresh one:
    no hypothesis on the configuration (`decode_eq` assumes `CfgNonneg` and `C02.CfgWF`). -/
theorem decode_eq_all (o o' : TokObj) (ids : List Nat) (h0 : o.dictionarySize_ = 0) (hd : o.dictionary = [])
    (h : constructDictionary o = .ok o') :
    Gen.Tok.decode o' (ids.map Int.ofNat) = decodeSpec (cfgOf o) ids := by
  obtain ⟨hdict, hinv, _⟩ := TokTie.constructDictionary_dictionary o o' h0 hd h
  exact decode_of_dict o' _ ids hdict hinv

theorem decode_general : TokTie.decode_general_statement :=
  fun o o' ids h0 hd h _ => decode_eq_all o o' ids h0 hd h

/-- the generated `encode` is the hand model `encode` for every configuration and every token (`encode_eq` assumes
    `CfgNonneg` and `TokOk`, which it needs only for the injectivity of `render`) -/
theorem encode_eq_all (o o' : TokObj) (ts : List Tok) (h0 : o.dictionarySize_ = 0) (hd : o.dictionary = [])
    (h : constructDictionary o = .ok o') :
    Gen.Tok.encode o' (ts.map render) = encodeSpec (cfgOf o) ts :=
  encode_of_dict o' _ ts (TokTie.constructDictionary_dictionary o o' h0 hd h).1

/-- a configuration outside `CfgWF` and `CfgNonneg`: duplicate step size 2, negative step size -5.
    `__init__` as repaired for finding D31 (it stores `sorted(set(step_sizes))`) does not build such an object
    (`dupObj_not_constructed`: `step_sizes=[2, -5, 2]` is stored as `[-5, 2]`); it is a RAW object state, the one an object
    has after `tk.step_sizes = [-5, 2, 2]` (and the state the unrepaired `__init__` left for `step_sizes=[2, -5, 2]`).  The theorems
    around it are about every object state, so they cover it. -/
def dupObj : TokObj :=
  { initObj none 1 (60, 60) (some [-5, 2]) (some [4]) [127] (4, 4) true true true true true with stepSizes := [-5, 2, 2] }

/-- through the translated `__init__` the repeated step is removed (the repair of D31): the object state `dupObj` differs from
    what the constructor builds for `step_sizes=[2, -5, 2]` exactly in the repeated 2 -/
theorem dupObj_not_constructed :
    (initObj none 1 (60, 60) (some [2, -5, 2]) (some [4]) [127] (4, 4) true true true true true).stepSizes = [-5, 2] ∧
    dupObj.stepSizes = [-5, 2, 2] ∧
    dupObj = { initObj none 1 (60, 60) (some [2, -5, 2]) (some [4]) [127] (4, 4) true true true true true with
                 stepSizes := [-5, 2, 2] } := by
  refine ⟨by decide, rfl, ?_⟩
  unfold dupObj initObj
  congr 1

/-- non-vacuity: `dupObj` satisfies the hypotheses of `decode_eq_all`, is not `CfgWF` and not `CfgNonneg`; id 5 (the first
    `rst_02`) was overwritten by id 6 (replayed on the unpatched /repo through `__init__`, and on the patched source on the raw
    object `tk.step_sizes = [-5, 2, 2]`, dictionaries emptied, `_construct_dictionary()` called: `decode([5])` raises KeyError,
    `decode([4, 6])` is `['rst_-5', 'rst_02']`, `dictionary_size` 9 with 8 keys) -/
example : dupObj.dictionarySize_ = 0 ∧ dupObj.dictionary = [] ∧ ¬ (cfgOf dupObj).steps.Nodup ∧ ¬ CfgNonneg (cfgOf dupObj) := by
  decide +kernel
example : SCoda.decode (cfgOf dupObj) [5] = none ∧
    (SCoda.decode (cfgOf dupObj) [4, 6]).map (·.map render) = some ["rst_-5", "rst_02"] := by
  decide +kernel
example (o' : TokObj) (h : constructDictionary dupObj = .ok o') : Gen.Tok.decode o' [5] = .error .keyError := by
  have h1 := decode_eq_all dupObj o' [5] rfl rfl h
  have h2 : SCoda.decode (cfgOf dupObj) [5] = none := by decide +kernel
  rw [decodeSpec, h2] at h1
  exact h1

/-- The closed form of `constructDictionary_eq` (every key of `vocabSeq` pushed with the running counter) describes the generated
    `_construct_dictionary` on an object `o` EXACTLY when `o._dictionary_size = 0`: the source stores the literal id 0 for `pad`,
    the closed form gives it the old counter.  (`→`: strongest possible hypothesis; `←` is `constructDictionary_eq`; what the
    code does on every object is `TokTie.constructDictionary_all`.) -/
theorem constructDictionary_anyObject_iff (o : TokObj) :
    constructDictionary o = .ok (finish (pushAll o ((vocabSeq (cfgOf o)).map render))) ↔ o.dictionarySize_ = 0 := by
  constructor
  · intro h
    rw [TokTie.constructDictionary_all] at h
    have h' := congrArg TokObj.dictionary (Except.ok.inj h)
    rw [finish_dictionary, finish_dictionary] at h'
    have hpad := pad_id_generated o
    rw [h', pad_id_closed] at hpad
    exact Option.some.inj hpad
  · exact TokTie.constructDictionary_eq o

/-- the hypothesis-carrying form (`_partial`): it is `TokTie.constructDictionary_eq` -/
theorem constructDictionary_anyObject_partial (o : TokObj) (h0 : o.dictionarySize_ = 0) :
    constructDictionary o = .ok (finish (pushAll o ((vocabSeq (cfgOf o)).map render))) :=
  (constructDictionary_anyObject_iff o).2 h0

/-- a small tokeniser as `__init__` has it before it calls `_construct_dictionary`:
    `Tokeniser(num_tracks=1, pitch_range=(60, 60), step_sizes=[2], note_values=[4], velocity_bins=1, time_signature_range=(4, 4))` -/
def smallObj : TokObj := initObj none 1 (60, 60) (some [2]) (some [4]) [127] (4, 4) true true true true true

/-- the same object after `__init__` (after the first `_construct_dictionary`) -/
def usedObj : TokObj := finish (pushAll smallObj ((vocabSeq (cfgOf smallObj)).map render))

theorem smallObj_constructed : constructDictionary smallObj = .ok usedObj := TokTie.constructDictionary_eq smallObj rfl

/-- non-vacuity of `_iff` / `_partial`: the fresh object, its seven keys -/
example : smallObj.dictionarySize_ = 0 := rfl
example : usedObj.dictionary = [("pad", 0), ("sta", 1), ("sto", 2), ("bar", 3), ("rst_02", 4),
    ("trk_00-pit_060-val_04-vel_127", 5), ("tsg_04_08", 6)] ∧ usedObj.dictionarySize_ = 7 := by decide +kernel

/-- `TokTie.constructDictionary_anyObject_statement` is false: the object `__init__` returns has `_dictionary_size = 7`. -/
theorem constructDictionary_anyObject_statement_false : ¬ TokTie.constructDictionary_anyObject_statement := by
  intro h
  have h7 : usedObj.dictionarySize_ = 0 := (constructDictionary_anyObject_iff usedObj).1 (h usedObj)
  revert h7
  decide +kernel

/-- What the second call does (replayed on /repo with `t._construct_dictionary()` on the constructed tokeniser, same values):
    the counter is 14 for 7 keys, `pad … bar` keep the ids 0..3, the other keys are renumbered from 11 = 7 + 4 (`rst_02 ↦ 11`),
    and the ids 4..6 are gone from the inverse dictionary. -/
theorem constructDictionary_second_call :
    ∃ o₂, constructDictionary usedObj = .ok o₂ ∧ o₂.dictionarySize_ = 14 ∧
      o₂.dictionary = [("pad", 0), ("sta", 1), ("sto", 2), ("bar", 3), ("rst_02", 11),
        ("trk_00-pit_060-val_04-vel_127", 12), ("tsg_04_08", 13)] ∧
      o₂.inverseDictionary = [(0, "pad"), (1, "sta"), (2, "sto"), (3, "bar"), (11, "rst_02"),
        (12, "trk_00-pit_060-val_04-vel_127"), (13, "tsg_04_08")] :=
  ⟨_, TokTie.constructDictionary_all usedObj, by decide, by decide, by decide⟩

/-! ### 3. `detokenise` on arbitrary strings

  The model parser `parseTok` reads a numeric field with `pyInt?` = `String.toInt?` after the splits on `-` and `_`: it accepts
  exactly the non-empty strings of ASCII digits (`model_int_digits`).  Python's `int()` (in the generated code `pyIntOfStr`)
  accepts more (`+5`, ` 5`), and the source accepts part lists the parser rejects (`pit_060-pit_060`).  On the strings the parser
  accepts the two agree — except at the points `detokenise_eq` already excludes (`ppqn < 0`, denominator 0). -/

/-- the class: a field (no `-`, no `_`) that the model's `int()` reads is a non-empty string of ASCII digits, its value is a
    natural number, and Python's `int()` (`pyIntOfStr`) reads the same value -/
theorem model_int_digits (a : String) (v : Int) (hd : '-' ∉ a.toList) (hu : '_' ∉ a.toList) (h : pyInt? a = some v) :
    a ≠ "" ∧ (∀ c ∈ a.toList, c.isDigit = true) ∧ 0 ≤ v ∧ pyIntOfStr a = .ok v :=
  ⟨(RenderL.pyInt_digits a v hd hu h).1, (RenderL.pyInt_digits a v hd hu h).2.1, (RenderL.pyInt_digits a v hd hu h).2.2,
    pyIntOfStr_of_pyInt a v hd hu h⟩

/-- every string the model parser accepts is read by the generated `detokenise` as the same token (`DefsL.TokRep`: its parts,
    sorted by `sort_order`, with numbers that `int()` reads as the token's), whatever the widths of the numbers and the order of
    the parts; the numbers are natural numbers -/
theorem parse_accepts_rep (s : String) (t : Tok) (h : parseTok s = .ok t) : DefsL.TokRep s t ∧ TokOk t := parse_rep s t h

/-- PARTIAL (all string lists the model parser accepts): the generated `detokenise` on the strings is the hand model on the
    parsed tokens: same sequences, same exception class.  `hp`, `hden`: the two points `detokenise_eq` excludes as well
    (negative `ppqn`: truncation vs floor; denominator 0: ZeroDivisionError vs capacity 0) — both input-level. -/
theorem detokenise_strings_partial (o : TokObj) (ss : List String) (ts : List Tok) (hp : 0 ≤ o.ppqn)
    (h : ss.mapM parseTok = .ok ts) (hden : ∀ t ∈ ts, ∀ a b, t = Tok.tsig a b → b ≠ 0) :
    Gen.Tok.detokenise o ss = liftE (fun seqs => seqs.map LSeq.abs) (SCoda.detokenise (cfgOf o) ts) := by
  obtain ⟨hf, hok⟩ := mapM_parse_rep ss ts h
  refine detokenise_gen o ss ts hp hf ?_
  intro t ht
  refine parts_ok o.ppqn t ⟨hok t ht, ?_⟩
  intro a b e
  subst e
  have h2 : 0 ≤ a ∧ 0 ≤ b := hok _ ht
  have hb := hden _ ht a b rfl
  exact ⟨by omega, Int.mul_nonneg (by omega) h2.1⟩

/-- non-vacuity: unpadded numbers and a fused note token with its parts in another order are accepted by the model parser
    (replayed on /repo: `detokenise(["rst_5", "val_12-pit_060-trk_00"])` = note 60 on at 5, off at 17) -/
example : ["rst_5", "val_12-pit_060-trk_00"].mapM parseTok = .ok [.rest 5, .note (some 0) 60 (some 12) none] := by
  have h1 : parseTok "rst_5" = .ok (.rest 5) := by
    rw [parseTok_eq, show "rst_5" = "rst_" ++ "5" by decide, split_rst "5" (by decide) (by decide), parseParts,
      if_pos (by decide), num, show pyInt? "5" = some 5 from pyInt_zpad 1 5]
    rfl
  have h2 : parseTok "val_12-pit_060-trk_00" = .ok (.note (some 0) 60 (some 12) none) := by
    have e1 : "val_12-pit_060-trk_00".splitOn "-" = ["val_12", "pit_060", "trk_00"] := by
      rw [dash_eq, splitOn_singleton]; decide
    have e2 : "val_12".splitOn "_" = ["val", "12"] := by rw [us_eq, splitOn_singleton]; decide
    have e3 : "pit_060".splitOn "_" = ["pit", "060"] := by rw [us_eq, splitOn_singleton]; decide
    have e4 : "trk_00".splitOn "_" = ["trk", "00"] := by rw [us_eq, splitOn_singleton]; decide
    have n1 : pyInt? "12" = some 12 := pyInt_zpad 2 12
    have n2 : pyInt? "060" = some 60 := pyInt_zpad 3 60
    have n3 : pyInt? "00" = some 0 := pyInt_zpad 2 0
    rw [parseTok_eq, e1]; simp only [List.map_cons, List.map_nil, e2, e3, e4]
    unfold parseParts
    have s1 : noteStep (.ok (.note none (-1) none none)) ["val", "12"] = .ok (.note none (-1) (some 12) none) := by
      simp only [noteStep, num, n1, bind, Except.bind]; decide
    have s2 : noteStep (.ok (.note none (-1) (some 12) none)) ["pit", "060"] = .ok (.note none 60 (some 12) none) := by
      simp only [noteStep, num, n2, bind, Except.bind]; decide
    have s3 : noteStep (.ok (.note none 60 (some 12) none)) ["trk", "00"] = .ok (.note (some 0) 60 (some 12) none) := by
      simp only [noteStep, num, n3, bind, Except.bind]; decide
    simp only [List.foldl_cons, List.foldl_nil, s1, s2, s3]
    rfl
  rw [List.mapM_cons, h1, List.mapM_cons, h2]
  rfl

/-- `TokTie.detokenise_strings_statement` is false: `tsg_04_00` is accepted by the model parser, the model gives the bar capacity 0,
    the source raises ZeroDivisionError (replayed on /repo: `detokenise(["tsg_04_00"])` → ZeroDivisionError). -/
theorem detokenise_strings_statement_false : ¬ TokTie.detokenise_strings_statement := by
  intro h
  have hr : render (.tsig 4 0) = "tsg_04_00" := by decide +kernel
  have hparse : parseTok "tsg_04_00" = .ok (.tsig 4 0) := by rw [← hr]; exact parse_render_ok _ (by decide)
  have hm : ["tsg_04_00"].mapM parseTok = .ok [.tsig 4 0] := by rw [List.mapM_cons, hparse]; rfl
  have h1 := h smallObj ["tsg_04_00"] [.tsig 4 0] hm
  rw [detokenise_tsig_zero smallObj "tsg_04_00" 4 (by decide) (parse_rep _ _ hparse).1] at h1
  have h2 : SCoda.detokenise (cfgOf smallObj) [.tsig 4 0] = .ok [[Msg.mkTimeSig 0 2 0 0]] := by decide +kernel
  rw [h2] at h1
  cases h1

/-- the statement for ALL strings: "what the model parser rejects, the source rejects" -/
def detokenise_anystring_statement : Prop :=
  ∀ (o : TokObj) (ss : List String), 0 ≤ o.ppqn →
    ∀ e, ss.mapM parseTok = .error e → ∃ e', Gen.Tok.detokenise o ss = .error e'

/-- a `rst_` token whose number is written with a sign `+` or a leading blank is read by the generated code as the rest it
    denotes for Python's `int()` (replayed on /repo: `detokenise(["rst_+5", "pit_060"])` and `["rst_ 5", "pit_060"]` both give
    note 60 on at 5, off at 29, the same as `["rst_05", "pit_060"]`) … -/
theorem detokenise_plus_sign (o : TokObj) (hp : 0 ≤ o.ppqn) (x : String) (hx : x = "+5" ∨ x = " 5") :
    Gen.Tok.detokenise o ["rst_" ++ x, "pit_060"] =
      liftE (fun seqs => seqs.map LSeq.abs) (SCoda.detokenise (cfgOf o) [.rest 5, .note none 60 none none]) := by
  have hr : render (.note none 60 none none) = "pit_060" := by decide +kernel
  have hparse : parseTok "pit_060" = .ok (.note none 60 none none) := by rw [← hr]; exact parse_render_ok _ (by decide)
  have hrep : DefsL.TokRep ("rst_" ++ x) (.rest 5) := by
    rcases hx with rfl | rfl
    · exact tokRep_rst "+5" 5 (by decide) (by decide) (pyIntOfStr_stripped "+5" 1 5 (by decide +kernel))
    · exact tokRep_rst " 5" 5 (by decide) (by decide) (pyIntOfStr_stripped " 5" 1 5 (by decide +kernel))
  refine detokenise_gen o _ _ hp (.cons hrep (.cons (parse_rep _ _ hparse).1 .nil)) ?_
  intro t ht
  simp only [List.mem_cons, List.not_mem_nil, or_false] at ht
  rcases ht with rfl | rfl <;> exact parts_ok o.ppqn _ ⟨by decide, fun a b e => by cases e⟩

/-- … while the model parser rejects both strings with ValueError -/
theorem parseTok_plus_sign : parseTok "rst_+5" = .error .valueError ∧ parseTok "rst_ 5" = .error .valueError :=
  ⟨parseTok_rst_error "+5" '+' (by decide) (by decide) (by decide) (by decide),
   parseTok_rst_error " 5" ' ' (by decide) (by decide) (by decide) (by decide)⟩

/-- the statement for all strings is false: the source accepts `rst_+5` (it is `rst_05` to `int()`), the model parser does not;
    a model artefact of `pyInt?` (Model/Render.lean:39-41), not a defect of the code -/
theorem detokenise_anystring_statement_false : ¬ detokenise_anystring_statement := by
  intro h
  have hm : ["rst_+5", "pit_060"].mapM parseTok = .error .valueError := by
    rw [List.mapM_cons, parseTok_plus_sign.1]; rfl
  obtain ⟨e', he⟩ := h smallObj ["rst_+5", "pit_060"] (by decide) _ hm
  have h1 := detokenise_plus_sign smallObj (by decide) "+5" (Or.inl rfl)
  rw [show "rst_" ++ "+5" = "rst_+5" by decide, he] at h1
  have h2 : SCoda.detokenise (cfgOf smallObj) [.rest 5, .note none 60 none none] =
      .ok [[Msg.mkOn 0 60 127 5, Msg.mkOff 0 60 29]] := by decide +kernel
  rw [h2] at h1
  cases h1

/-! ### 5. the points `tokenise_eq` excludes, as theorems

  `hn` (`0 ≤ ppqn * 4 * numerator` of the carried state) and `TsEvOk` (a time-signature event has a non-zero denominator) are
  needed: at each excluded point the generated code and the hand model differ. -/

/-- a tokeniser with `ppqn = -1` (otherwise as `smallObj`) -/
def negPpqnObj : TokObj := initObj (some (-1)) 1 (60, 60) (some [2]) (some [4]) [127] (4, 4) true true true true true

/-- the instance of `tokenise_eq` at `ppqn = -1`, carried numerator 3, no events (`hn` fails, every other hypothesis holds) -/
def tokenise_negative_ppqn_statement : Prop :=
  tokenise negPpqnObj ([[]].map LSeq.rel) true true (some [("cur_time_signature_numerator", 3)]) =
    liftE (fun r => (writeSt [("cur_time_signature_numerator", 3)] r.2, r.1.map render))
      (tokeniseCore (cfgOf negPpqnObj) (stOfDict negPpqnObj [("cur_time_signature_numerator", 3)]) (extract Gen.ppqn [[]]))

/-- `hn` excluded, generated code: the bar capacity `int(-1 * 4 * 3 / 8)` is -1 (truncation toward zero); replayed on /repo:
    `Tokeniser(ppqn=-1, …).tokenise([Sequence()], state_dict={"cur_time_signature_numerator": 3})` leaves
    `cur_bar_capacity_remaining = -1` in the dictionary -/
theorem tokenise_negative_ppqn_generated :
    tokenise negPpqnObj ([[]].map LSeq.rel) true true (some [("cur_time_signature_numerator", 3)]) =
      .ok ([("cur_time_signature_numerator", 3), ("cur_time", 0), ("cur_time_bar", 0), ("cur_time_signature_denominator", 8),
        ("cur_bar_capacity_remaining", -1), ("prv_track", -1), ("prv_value", -1), ("prv_velocity", -1)], []) := by
  unfold tokenise
  have h8 : pyDictGetD [("cur_time_signature_numerator", (3 : Int))] "cur_time_signature_denominator"
      Gen.defaultTimeSignatureDenominator ≠ 0 := by decide +kernel
  simp only [Bool.not_true, raiseIf_false, pyTrueDiv_ok _ _ h8, ok_bind, ratTrunc_div _ _ h8]
  decide +kernel

/-- `hn` excluded, hand model: the capacity `(-1 * 4 * 3) / 8` is -2 (rounding down; Model/Token.lean `Cfg.capacity`) -/
theorem tokenise_negative_ppqn_model :
    liftE (fun r => (writeSt [("cur_time_signature_numerator", 3)] r.2, r.1.map render))
      (tokeniseCore (cfgOf negPpqnObj) (stOfDict negPpqnObj [("cur_time_signature_numerator", 3)]) (extract Gen.ppqn [[]])) =
      .ok ([("cur_time_signature_numerator", 3), ("cur_time", 0), ("cur_time_bar", 0), ("cur_time_signature_denominator", 8),
        ("cur_bar_capacity_remaining", -2), ("prv_track", -1), ("prv_value", -1), ("prv_velocity", -1)], []) := by
  decide +kernel

/-- a negative `ppqn` is outside the tie: the model artefact is `Cfg.capacity` (floor) against `int(x / y)` (truncation) -/
theorem tokenise_negative_ppqn_statement_false : ¬ tokenise_negative_ppqn_statement := by
  intro h
  unfold tokenise_negative_ppqn_statement at h
  rw [tokenise_negative_ppqn_generated, tokenise_negative_ppqn_model] at h
  revert h
  decide +kernel

/-- non-vacuity: the other hypotheses of `tokenise_eq` hold at this point (one track, denominator 8, no events); only `hn` fails -/
example : (([[]] : List (List Msg)).length : Int) = negPpqnObj.numTracks ∧
    (stOfDict negPpqnObj [("cur_time_signature_numerator", 3)]).tsDen ≠ 0 ∧ extract Gen.ppqn [[]] = [] ∧
    ¬ 0 ≤ negPpqnObj.ppqn * 4 * (stOfDict negPpqnObj [("cur_time_signature_numerator", 3)]).tsNum := by decide +kernel

/-- the instance of `tokenise_eq'` for a track that holds one time-signature message 4/0 (`TsEvOk` fails) -/
def tokenise_event_denominator_zero_statement : Prop :=
  tokenise smallObj ([[Msg.mkTimeSig 0 4 0 pyNone]].map LSeq.rel) true true (some []) =
    liftE (fun r => (writeSt [] r.2, r.1.map render))
      (tokeniseCore (cfgOf smallObj) (stOfDict smallObj []) (extract Gen.ppqn [[Msg.mkTimeSig 0 4 0 pyNone]]))

/-- `TsEvOk` excluded, generated code: `numerator * (8 / denominator)` raises ZeroDivisionError (replayed on /repo: a sequence with
    `Message(TIME_SIGNATURE, numerator=4, denominator=0)` → `tokenise` raises ZeroDivisionError) -/
theorem tokenise_event_denominator_zero_generated :
    tokenise smallObj ([[Msg.mkTimeSig 0 4 0 pyNone]].map LSeq.rel) true true (some []) = .error .zeroDivisionError := by
  unfold tokenise
  have h8 : pyDictGetD ([] : List (String × Int)) "cur_time_signature_denominator" Gen.defaultTimeSignatureDenominator ≠ 0 := by
    decide +kernel
  simp only [Bool.not_true, raiseIf_false, pyTrueDiv_ok _ _ h8, ok_bind, ratTrunc_div _ _ h8]
  decide +kernel

/-- `TsEvOk` excluded, hand model: it divides by 0 to 0 and then rejects the signature as not representable: another exception class -/
theorem tokenise_event_denominator_zero_model :
    liftE (fun r => (writeSt [] r.2, r.1.map render))
      (tokeniseCore (cfgOf smallObj) (stOfDict smallObj []) (extract Gen.ppqn [[Msg.mkTimeSig 0 4 0 pyNone]])) =
      .error .tokenisationException := by
  decide +kernel

theorem tokenise_event_denominator_zero_statement_false : ¬ tokenise_event_denominator_zero_statement := by
  intro h
  unfold tokenise_event_denominator_zero_statement at h
  rw [tokenise_event_denominator_zero_generated, tokenise_event_denominator_zero_model] at h
  cases h

/-- non-vacuity: the event is the only one, its denominator is 0, the other hypotheses of `tokenise_eq'` hold -/
example : (([[Msg.mkTimeSig 0 4 0 pyNone]] : List (List Msg)).length : Int) = smallObj.numTracks ∧
    (stOfDict smallObj []).tsDen ≠ 0 ∧ 0 ≤ smallObj.ppqn * 4 * (stOfDict smallObj []).tsNum ∧
    (extract Gen.ppqn [[Msg.mkTimeSig 0 4 0 pyNone]]).map (fun ev => ev.2.map (·.den)) = [[0]] := by decide +kernel

end SCoda.Defs
