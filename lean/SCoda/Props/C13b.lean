/-
  C13 / C12 — closing audit items A7 (C13) and A8 (C12).
  * meta routing COMPLETENESS: at every tick the time / key signature in force on the loaded meta
    sequence is the one in force among the signature events of the considered tracks (4/4 by default),
    for arbitrary resolution, grouping (overlapping groups included), meta-track selection and target;
  * routing for arbitrary groupings: a track goes to its FIRST group only (known finding D20); the
    property's union statement is kept as `routing_union_statement`, refuted, and proved under `Nodup`;
  * the tracks need only satisfy the counting predicate `NotesClosed`, weaker than `GoodTrack = WF ∧ PosDur`
    (overlapping same-key notes allowed); for files with unclosed / orphan notes the loader's answer is stated
    on the normalised track;
  * every outcome of `convert`: empty group ↦ IndexError, else bad target ↦ ValueError, else success;
  * C12: notes-level round trip (`notesOf` permutation) and signatures in force without any
    tick-distinctness hypothesis; the 15-key table round trip through the parser.
-/
import SCoda.Lemmas.MidiSave
import SCoda.Lemmas.MidiParseL
namespace SCoda.C13b
open SCoda SCoda.C13 SCoda.MergeL SCoda.E2E SCoda.MidiL SCoda.L2 SCoda.MidiParseL

/-- the weakest condition on a track's note events the union theorem needs: per key, up to every tick there
    are at most as many note-offs as there are note-ons strictly before that tick (no orphan note-off, no
    note of length zero), and in total as many note-offs as note-ons (no unclosed note).  Overlapping /
    nested notes of one key are allowed; the predicate is invariant under permutation.  By definition this is
    `∀ k, E2E.CG k E`. -/
def NotesClosed (E : List Msg) : Prop :=
  ∀ k : Int × Int, (∀ s : Int, offs k (upTo s E) ≤ ons k (before s E)) ∧ ons k E = offs k E

/-- per-track `normalise()` followed by reading `abs` (midi_file.py:130-131); the same function as `MidiL.V` -/
def normTrack (x : List Msg) : List Msg := toAbs (normalise (toRel x))

/-- **time signature in force** (closes A7a; C13 "all time signatures of the considered tracks on the
    designated meta sequence", C12 clause 3): for ANY resolution, grouping, meta-track selection and valid
    target, at every tick `t ≥ 0` the time signature in force on the loaded meta sequence is the one in force
    in the tick-ordered union of the considered tracks' time-signature events, 4/4 when there is none yet. -/
theorem load_time_signature_in_force (ppqn filePpq : Int) (hp : 0 < ppqn) (hf : 0 < filePpq)
    (tracks : List (List MidiEv)) (groups : List (List Nat)) (metaIdx : List Nat) (target : Int) (out : List Seq)
    (h : convert ppqn filePpq tracks groups metaIdx target = .ok out)
    (hd : ∀ evs ∈ tracks, ∀ e ∈ evs, 0 ≤ e.time) (hdom : ∀ evs ∈ tracks, TsDomain evs)
    (s s' : Seq) (a : List Msg) (hs : out[target.toNat]? = some s) (ha : s.readAbs = .ok (s', a))
    (t : Int) (ht : 0 ≤ t) :
    (latest .timeSignature (eventsAbs a) t).map tsVal
      = (latest .timeSignature (dfltSig .timeSignature ++ fileSigs ppqn filePpq tracks groups metaIdx) t).map tsVal := by
  exact L2.inforce_load_sig L2.tsKind ppqn filePpq hp hf tracks groups metaIdx target out h hd hdom s s' a hs ha t
    (fun _ => ht)

/-- **key signature in force** (closes A7a): the same for key signatures (no key when the file has none yet) -/
theorem load_key_signature_in_force (ppqn filePpq : Int) (hp : 0 < ppqn) (hf : 0 < filePpq)
    (tracks : List (List MidiEv)) (groups : List (List Nat)) (metaIdx : List Nat) (target : Int) (out : List Seq)
    (h : convert ppqn filePpq tracks groups metaIdx target = .ok out)
    (hd : ∀ evs ∈ tracks, ∀ e ∈ evs, 0 ≤ e.time) (hdom : ∀ evs ∈ tracks, KsDomain evs)
    (s s' : Seq) (a : List Msg) (hs : out[target.toNat]? = some s) (ha : s.readAbs = .ok (s', a)) (t : Int) :
    (latest .keySignature (eventsAbs a) t).map keyVal
      = (latest .keySignature (dfltSig .keySignature ++ fileSigs ppqn filePpq tracks groups metaIdx) t).map keyVal := by
  exact L2.inforce_load_sig L2.ksKind ppqn filePpq hp hf tracks groups metaIdx target out h hd hdom s s' a hs ha t
    (fun h => nomatch h)

/-- the absolute view of loaded sequence `gi`, if the conversion succeeds (for kernel evaluation) -/
def loadedAbs (ppqn filePpq : Int) (tracks : List (List MidiEv)) (groups : List (List Nat)) (metaIdx : List Nat)
    (target : Int) (gi : Nat) : Option (List Msg) :=
  match convert ppqn filePpq tracks groups metaIdx target with
  | .ok out =>
    match out[gi]? with
    | some s =>
      match s.readAbs with
      | .ok (_, a) => some a
      | .error _ => none
    | none => none
  | .error _ => none

theorem loadedAbs_map {β} (ppqn filePpq : Int) (tracks : List (List MidiEv)) (groups : List (List Nat))
    (metaIdx : List Nat) (target : Int) (gi : Nat) (f : List Msg → β) (v : β)
    (h : (loadedAbs ppqn filePpq tracks groups metaIdx target gi).map f = some v) :
    ∃ out s s' a, convert ppqn filePpq tracks groups metaIdx target = .ok out ∧ out[gi]? = some s
      ∧ s.readAbs = .ok (s', a) ∧ f a = v := by
  unfold loadedAbs at h
  split at h
  · rename_i out hc
    split at h
    · rename_i s ho
      split at h
      · rename_i s' a hr
        exact ⟨out, s, s', a, hc, ho, hr, by simpa using h⟩
      · cases h
    · cases h
  · cases h

/-- `load_time_signature_in_force` for ARBITRARY model events (no `TsDomain`).  FALSE for the model: `MidiEv`
    is wider than what `parse_mido_message` can produce — a time-signature event may carry a channel, and
    `AbsoluteSequence.sort` orders equal ticks by channel first, so two time signatures on one tick with
    channels 1 and 0 swap.  Not reachable in the library (a mido `MetaMessage` has no channel;
    `parse_domain`); see `load_time_signature_in_force_statement_false`. -/
def load_time_signature_in_force_statement : Prop :=
  ∀ (ppqn filePpq : Int) (_hp : 0 < ppqn) (_hf : 0 < filePpq)
    (tracks : List (List MidiEv)) (groups : List (List Nat)) (metaIdx : List Nat) (target : Int) (out : List Seq)
    (_h : convert ppqn filePpq tracks groups metaIdx target = .ok out)
    (_hd : ∀ evs ∈ tracks, ∀ e ∈ evs, 0 ≤ e.time)
    (s s' : Seq) (a : List Msg) (_hs : out[target.toNat]? = some s) (_ha : s.readAbs = .ok (s', a))
    (t : Int) (_ht : 0 ≤ t),
    (latest .timeSignature (eventsAbs a) t).map tsVal
      = (latest .timeSignature (dfltSig .timeSignature ++ fileSigs ppqn filePpq tracks groups metaIdx) t).map tsVal

def cexTs : List (List MidiEv) :=
  [[{ ty := .timeSignature, ch := 1, time := 0, num := 3, den := 4 },
    { ty := .timeSignature, ch := 0, time := 0, num := 6, den := 8 }]]

theorem cexTs_loaded : (loadedAbs 24 24 cexTs [[0]] [] 0 0).map
    (fun a => (latest .timeSignature (eventsAbs a) 0).map tsVal) = some (some (3, 4)) := by decide +kernel

theorem load_time_signature_in_force_statement_false : ¬ load_time_signature_in_force_statement := by
  intro hst
  obtain ⟨out, s, s', a, hc, ho, hr, hv⟩ := loadedAbs_map 24 24 cexTs [[0]] [] 0 0 _ _ cexTs_loaded
  have := hst 24 24 (by decide) (by decide) cexTs [[0]] [] 0 out hc (by decide) s s' a ho hr 0 (by decide)
  rw [hv] at this
  revert this
  decide +kernel

/-- the same for key signatures: a key-signature event whose key is the model's `None` (`-1`) repeats the
    initial state of `normalise` and is dropped.  Not reachable: `KeyKeyMapping[...]` is a `Key` or a `KeyError`. -/
def load_key_signature_in_force_statement : Prop :=
  ∀ (ppqn filePpq : Int) (_hp : 0 < ppqn) (_hf : 0 < filePpq)
    (tracks : List (List MidiEv)) (groups : List (List Nat)) (metaIdx : List Nat) (target : Int) (out : List Seq)
    (_h : convert ppqn filePpq tracks groups metaIdx target = .ok out)
    (_hd : ∀ evs ∈ tracks, ∀ e ∈ evs, 0 ≤ e.time)
    (s s' : Seq) (a : List Msg) (_hs : out[target.toNat]? = some s) (_ha : s.readAbs = .ok (s', a)) (t : Int),
    (latest .keySignature (eventsAbs a) t).map keyVal
      = (latest .keySignature (dfltSig .keySignature ++ fileSigs ppqn filePpq tracks groups metaIdx) t).map keyVal

def cexKs : List (List MidiEv) := [[{ ty := .keySignature, ch := pyNone, time := 0, key := pyNone }]]

theorem cexKs_loaded : (loadedAbs 24 24 cexKs [[0]] [] 0 0).map
    (fun a => (latest .keySignature (eventsAbs a) 0).map keyVal) = some none := by decide +kernel

theorem load_key_signature_in_force_statement_false : ¬ load_key_signature_in_force_statement := by
  intro hst
  obtain ⟨out, s, s', a, hc, ho, hr, hv⟩ := loadedAbs_map 24 24 cexKs [[0]] [] 0 0 _ _ cexKs_loaded
  have := hst 24 24 (by decide) (by decide) cexKs [[0]] [] 0 out hc (by decide) s s' a ho hr 0
  rw [hv] at this
  revert this
  decide +kernel

theorem notesClosed_of_goodTrack (ppqn filePpq : Int) (evs : List MidiEv) (h : GoodTrack ppqn filePpq evs) :
    NotesClosed (trackMsgs ppqn filePpq 0 evs) :=
  fun k => cg_of_wf _ h.1 h.2 k

/-- **routing, first group** (closes A7b and A7c; what the code does, for ARBITRARY groupings): the sounding
    set of loaded sequence `gi` is the union of the sounding sets — at the rounded positions — of the
    tracks whose FIRST group is `gi`.  Tracks need only be `NotesClosed` (overlapping notes allowed). -/
theorem routing_first_group (ppqn filePpq : Int) (hp : 0 < ppqn) (hf : 0 < filePpq)
    (tracks : List (List MidiEv)) (groups : List (List Nat)) (metaIdx : List Nat) (target : Int) (out : List Seq)
    (h : convert ppqn filePpq tracks groups metaIdx target = .ok out)
    (hd : ∀ evs ∈ tracks, ∀ e ∈ evs, 0 ≤ e.time)
    (hclosed : ∀ i ∈ groups.flatten, ∀ evs, tracks[i]? = some evs → NotesClosed (trackMsgs ppqn filePpq 0 evs))
    (gi : Nat) (g : List Nat) (hg : groups[gi]? = some g) (s s' : Seq) (a : List Msg)
    (hs : out[gi]? = some s) (ha : s.readAbs = .ok (s', a)) (k : Int × Int) (t : Int) :
    SoundingAt (eventsAbs a) k t ↔
      ∃ i evs, tracks[i]? = some evs ∧ FirstGroup groups i gi ∧ SoundingAt (trackMsgs ppqn filePpq 0 evs) k t := by
  -- `hg` is not needed: `out[gi]` exists only for a group
  have _ := hg
  exact L2.load_first ppqn filePpq hp hf tracks groups metaIdx target out h hd (fun x => SoundingAt x)
    (fun i hi evs hti => E2E.ga_track _
      ⟨(trackMsgs_okAbs ppqn filePpq hp hf 0 (Int.le_refl _) evs (hd evs (List.mem_of_getElem? hti))).1,
        hclosed i hi evs hti⟩)
    gi s s' a hs ha k t

theorem ga_normTrack (ppqn filePpq : Int) (hp : 0 < ppqn) (hf : 0 < filePpq) (evs : List MidiEv)
    (hde : ∀ e ∈ evs, 0 ≤ e.time) (hc : NotesClosed (normTrack (trackMsgs ppqn filePpq 0 evs))) :
    GA (V (trackMsgs ppqn filePpq 0 evs)) :=
  ⟨C04.toAbs_ok _ (C07.ok_out _ (C04.toRel_ok _
    (trackMsgs_okAbs ppqn filePpq hp hf 0 (Int.le_refl _) evs hde).1)).1, hc⟩

/-- **routing, any file** (closes A7b for files with unclosed / orphan notes): every track is normalised
    on its own before the group merge (midi_file.py:130-131).  If the normalised tracks are `NotesClosed`
    (e.g. no note collapses to length zero, D17), the sounding set of loaded sequence `gi` is the union of
    the sounding sets of the *normalised* tracks whose first group is `gi`. -/
theorem routing_normalised (ppqn filePpq : Int) (hp : 0 < ppqn) (hf : 0 < filePpq)
    (tracks : List (List MidiEv)) (groups : List (List Nat)) (metaIdx : List Nat) (target : Int) (out : List Seq)
    (h : convert ppqn filePpq tracks groups metaIdx target = .ok out)
    (hd : ∀ evs ∈ tracks, ∀ e ∈ evs, 0 ≤ e.time)
    (hclosed : ∀ i ∈ groups.flatten, ∀ evs, tracks[i]? = some evs →
      NotesClosed (normTrack (trackMsgs ppqn filePpq 0 evs)))
    (gi : Nat) (g : List Nat) (hg : groups[gi]? = some g) (s s' : Seq) (a : List Msg)
    (hs : out[gi]? = some s) (ha : s.readAbs = .ok (s', a)) (k : Int × Int) (t : Int) :
    SoundingAt (eventsAbs a) k t ↔
      ∃ i evs, tracks[i]? = some evs ∧ FirstGroup groups i gi
        ∧ SoundingAt (eventsAbs (normTrack (trackMsgs ppqn filePpq 0 evs))) k t := by
  have _ := hg
  exact L2.load_first ppqn filePpq hp hf tracks groups metaIdx target out h hd
    (fun x => SoundingAt (eventsAbs (normTrack x)))
    (fun i hi evs hti =>
      have hga := ga_normTrack ppqn filePpq hp hf evs (hd evs (List.mem_of_getElem? hti)) (hclosed i hi evs hti)
      ⟨hga, fun k t => (ga_sounding hga k t).symm⟩)
    gi s s' a hs ha k t

/-- every note is eventually closed: per key the saturating depth counter (`depth`, Model/Roll.lean) ends at 0.  Orphan
    note-offs (ignored by the counter) and overlapping notes are allowed, unclosed notes are not. -/
def AllClosed (E : List Msg) : Prop := ∀ k : Int × Int, depth k E 0 = 0

/-- **routing, files with orphan note-offs** (closes A7b, "directly of the raw track where true"): if in every
    grouped track every note is eventually closed (`AllClosed`: orphan note-offs and overlaps allowed) and the
    per-track normalisation leaves no zero-length note (`NotesClosed` of the normalised track, D17), the
    sounding set of loaded sequence `gi` is the union of the RAW tracks' sounding sets (saturating counter) -/
theorem routing_orphans (ppqn filePpq : Int) (hp : 0 < ppqn) (hf : 0 < filePpq)
    (tracks : List (List MidiEv)) (groups : List (List Nat)) (metaIdx : List Nat) (target : Int) (out : List Seq)
    (h : convert ppqn filePpq tracks groups metaIdx target = .ok out)
    (hd : ∀ evs ∈ tracks, ∀ e ∈ evs, 0 ≤ e.time)
    (hclosed : ∀ i ∈ groups.flatten, ∀ evs, tracks[i]? = some evs →
      AllClosed (trackMsgs ppqn filePpq 0 evs) ∧ NotesClosed (normTrack (trackMsgs ppqn filePpq 0 evs)))
    (gi : Nat) (g : List Nat) (hg : groups[gi]? = some g) (s s' : Seq) (a : List Msg)
    (hs : out[gi]? = some s) (ha : s.readAbs = .ok (s', a)) (k : Int × Int) (t : Int) :
    SoundingAt (eventsAbs a) k t ↔
      ∃ i evs, tracks[i]? = some evs ∧ FirstGroup groups i gi ∧ SoundingAt (trackMsgs ppqn filePpq 0 evs) k t := by
  have _ := hg
  apply L2.load_first ppqn filePpq hp hf tracks groups metaIdx target out h hd (fun x => SoundingAt x) ?_
    gi s s' a hs ha k t
  intro i hi evs hti
  obtain ⟨c1, c2⟩ := hclosed i hi evs hti
  have hde := hd evs (List.mem_of_getElem? hti)
  have hga := ga_normTrack ppqn filePpq hp hf evs hde c2
  refine ⟨hga, fun k t => ?_⟩
  rw [← ga_sounding hga, E2E.V_sounding _ (trackMsgs_okAbs ppqn filePpq hp hf 0 (Int.le_refl _) evs hde).1 c1 c2 k t,
    trackMsgs_noInternal]

/-- `routing_first_group` without any condition on the notes of the file.  FALSE for the model and for the
    real library (known finding D17, replayed): a note whose note-on and note-off round to the same tick is
    re-sorted to off-before-on in the group merge and swallows the next note of its key. -/
def routing_first_group_statement : Prop :=
  ∀ (ppqn filePpq : Int) (_hp : 0 < ppqn) (_hf : 0 < filePpq)
    (tracks : List (List MidiEv)) (groups : List (List Nat)) (metaIdx : List Nat) (target : Int) (out : List Seq)
    (_h : convert ppqn filePpq tracks groups metaIdx target = .ok out)
    (_hd : ∀ evs ∈ tracks, ∀ e ∈ evs, 0 ≤ e.time)
    (gi : Nat) (g : List Nat) (_hg : groups[gi]? = some g) (s s' : Seq) (a : List Msg)
    (_hs : out[gi]? = some s) (_ha : s.readAbs = .ok (s', a)) (k : Int × Int) (t : Int),
    SoundingAt (eventsAbs a) k t ↔
      ∃ i evs, tracks[i]? = some evs ∧ FirstGroup groups i gi ∧ SoundingAt (trackMsgs ppqn filePpq 0 evs) k t

/-- D17's recorded example: note 63 on@1 off@1, then note 63 on@8 off@32 -/
def cexD17 : List (List MidiEv) :=
  [[{ (Msg.mkOn 0 63 64 0) with time := 1 }, { (Msg.mkOff 0 63 0) with time := 0, vel := 0 },
    { (Msg.mkOn 0 63 64 0) with time := 7 }, { (Msg.mkOff 0 63 0) with time := 24, vel := 0 }]]

theorem cexD17_loaded : (loadedAbs 24 24 cexD17 [[0]] [] 0 0).map
    (fun a => decide (0 < depth (0, 63) ((eventsAbs a).filter (fun m => decide (m.time ≤ 10))) 0)) = some false := by
  decide +kernel

theorem cexD17_raw : SoundingAt (trackMsgs 24 24 0 cexD17[0]) (0, 63) 10 := by
  have e : trackMsgs 24 24 0 cexD17[0]
      = [Msg.mkOn 0 63 64 1, Msg.mkOff 0 63 1, Msg.mkOn 0 63 64 8, Msg.mkOff 0 63 32] := by decide +kernel
  rw [e]
  unfold SoundingAt
  decide +kernel

theorem routing_first_group_statement_false : ¬ routing_first_group_statement := by
  intro hst
  obtain ⟨out, s, s', a, hc, ho, hr, hv⟩ := loadedAbs_map 24 24 cexD17 [[0]] [] 0 0 _ _ cexD17_loaded
  have := (hst 24 24 (by decide) (by decide) cexD17 [[0]] [] 0 out hc (by decide) 0 [0] rfl s s' a ho hr (0, 63) 10).2
    ⟨0, cexD17[0], rfl, ⟨⟨[0], rfl, by simp⟩, fun j g' hj => by omega⟩, cexD17_raw⟩
  have hv' : ¬ SoundingAt (eventsAbs a) (0, 63) 10 := by
    unfold SoundingAt
    simpa using hv
  exact hv' this

/-- **routing / union** (the statement as requested by C13, `C13.load_sounding` without its `Nodup`
    hypothesis): the sounding set of loaded sequence `gi` is the union of ALL tracks listed in group `gi`.
    FALSE for the model — and for the real library (D20, replayed): a track listed in two groups is
    routed to its first group only (`next(array for array in track_indices if i in array)`,
    midi_file.py:72), see `routing_union_statement_false`. -/
def routing_union_statement : Prop :=
  ∀ (ppqn filePpq : Int) (_hp : 0 < ppqn) (_hf : 0 < filePpq)
    (tracks : List (List MidiEv)) (groups : List (List Nat)) (metaIdx : List Nat) (target : Int) (out : List Seq)
    (_h : convert ppqn filePpq tracks groups metaIdx target = .ok out)
    (_hidx : ∀ i ∈ groups.flatten, i < tracks.length)
    (_hd : ∀ evs ∈ tracks, ∀ e ∈ evs, 0 ≤ e.time)
    (_hgood : ∀ i ∈ groups.flatten, ∀ evs, tracks[i]? = some evs → GoodTrack ppqn filePpq evs)
    (gi : Nat) (g : List Nat) (_hg : groups[gi]? = some g) (s s' : Seq) (a : List Msg)
    (_hs : out[gi]? = some s) (_ha : s.readAbs = .ok (s', a)) (k : Int × Int) (t : Int),
    SoundingAt (eventsAbs a) k t ↔
      ∃ i ∈ g, ∃ evs, tracks[i]? = some evs ∧ SoundingAt (trackMsgs ppqn filePpq 0 evs) k t

/-- the witness: two one-note tracks, groups `[[0], [0, 1]]` -/
def cexTracks : List (List MidiEv) :=
  [[{ (Msg.mkOn 0 60 64 0) with time := 0 }, { (Msg.mkOff 0 60 0) with time := 24, vel := 0 }],
   [{ (Msg.mkOn 0 62 64 0) with time := 0 }, { (Msg.mkOff 0 62 0) with time := 24, vel := 0 }]]
def cexGroups : List (List Nat) := [[0], [0, 1]]

theorem cex_msgs0 : trackMsgs 24 24 0 cexTracks[0] = [Msg.mkOn 0 60 64 0, Msg.mkOff 0 60 24] := by decide +kernel
theorem cex_msgs1 : trackMsgs 24 24 0 cexTracks[1] = [Msg.mkOn 0 62 64 0, Msg.mkOff 0 62 24] := by decide +kernel

theorem goodTrack_of_msgs (ppqn filePpq : Int) (evs : List MidiEv) (L : List Msg)
    (h : trackMsgs ppqn filePpq 0 evs = L) (hwf : WF L) (hpos : C15.PosDur L) : GoodTrack ppqn filePpq evs := by
  unfold GoodTrack
  rw [h]
  exact ⟨hwf, hpos⟩

theorem cex_good : ∀ i ∈ cexGroups.flatten, ∀ evs, cexTracks[i]? = some evs → GoodTrack 24 24 evs :=
  fun _ _ evs hev => forall_mem_pair (p := GoodTrack 24 24)
    (goodTrack_of_msgs 24 24 _ _ cex_msgs0 (by decide) (by unfold C15.PosDur; decide))
    (goodTrack_of_msgs 24 24 _ _ cex_msgs1 (by decide) (by unfold C15.PosDur; decide)) evs (List.mem_of_getElem? hev)

theorem cex_hd : ∀ evs ∈ cexTracks, ∀ e ∈ evs, 0 ≤ e.time := by decide +kernel

theorem routing_union_statement_false : ¬ routing_union_statement := by
  intro hst
  obtain ⟨out, hconv, hlen, hread⟩ := MidiL.convert_closed 24 24 cexTracks cexGroups [] 0
    (by decide) (by decide) (by decide)
  obtain ⟨s, s', a, hs, ha⟩ := hread 1 (by decide)
  have hu := hst 24 24 (by decide) (by decide) cexTracks cexGroups [] 0 out hconv (by decide) cex_hd cex_good
    1 [0, 1] rfl s s' a hs ha (0, 60) 0
  have hf := routing_first_group 24 24 (by decide) (by decide) cexTracks cexGroups [] 0 out hconv cex_hd
    (fun i hi evs hev => notesClosed_of_goodTrack 24 24 evs (cex_good i hi evs hev))
    1 [0, 1] rfl s s' a hs ha (0, 60) 0
  have hsnd : SoundingAt (eventsAbs a) (0, 60) 0 := by
    apply hu.2
    refine ⟨0, by simp, cexTracks[0], rfl, ?_⟩
    rw [cex_msgs0]
    unfold SoundingAt
    decide +kernel
  obtain ⟨i, evs, hev, hfg, hs1⟩ := hf.1 hsnd
  have hi : i = 0 ∨ i = 1 := by
    have : i < 2 := (List.getElem?_eq_some_iff.1 hev).1
    omega
  rcases hi with rfl | rfl
  · exact hfg.2 0 [0] (by decide) rfl (by simp)
  · have : evs = cexTracks[1] := by simpa [cexTracks] using hev.symm
    subst this
    rw [cex_msgs1] at hs1
    revert hs1
    unfold SoundingAt
    decide +kernel

/-- **routing / union** under the hypothesis that makes it true: every track index is listed at most once
    (then "first group" is "the group").  Tracks need only be `NotesClosed` (closes A7b / A7c). -/
theorem routing_union_partial (ppqn filePpq : Int) (hp : 0 < ppqn) (hf : 0 < filePpq)
    (tracks : List (List MidiEv)) (groups : List (List Nat)) (metaIdx : List Nat) (target : Int) (out : List Seq)
    (h : convert ppqn filePpq tracks groups metaIdx target = .ok out)
    (hnd : groups.flatten.Nodup)
    (hd : ∀ evs ∈ tracks, ∀ e ∈ evs, 0 ≤ e.time)
    (hclosed : ∀ i ∈ groups.flatten, ∀ evs, tracks[i]? = some evs → NotesClosed (trackMsgs ppqn filePpq 0 evs))
    (gi : Nat) (g : List Nat) (hg : groups[gi]? = some g) (s s' : Seq) (a : List Msg)
    (hs : out[gi]? = some s) (ha : s.readAbs = .ok (s', a)) (k : Int × Int) (t : Int) :
    SoundingAt (eventsAbs a) k t ↔
      ∃ i ∈ g, ∃ evs, tracks[i]? = some evs ∧ SoundingAt (trackMsgs ppqn filePpq 0 evs) k t := by
  rw [routing_first_group ppqn filePpq hp hf tracks groups metaIdx target out h hd hclosed gi g hg s s' a hs ha k t]
  simp only [firstGroup_nodup hnd hg]
  exact ⟨fun ⟨i, evs, hev, hig, hsnd⟩ => ⟨i, hig, evs, hev, hsnd⟩, fun ⟨i, hig, evs, hev, hsnd⟩ => ⟨i, evs, hev, hig, hsnd⟩⟩

/-- **empty group** (closes A7f): a group without tracks is an `IndexError` (`sequences_to_merge[0]`,
    midi_file.py:132), whatever the tracks, meta tracks and target -/
theorem empty_group_error (ppqn filePpq : Int) (tracks : List (List MidiEv)) (groups : List (List Nat))
    (metaIdx : List Nat) (target : Int) (hg : ∃ g ∈ groups, g = []) :
    convert ppqn filePpq tracks groups metaIdx target = .error .indexError :=
  (MidiL.convert_outcome ppqn filePpq tracks groups metaIdx target).1 hg

/-- **invalid meta target** (closes A7f; strengthens `C13.bad_target`): with all groups non-empty, a meta
    target outside `0 .. len(groups) - 1` is exactly the `ValueError` of midi_file.py:136-137 — for any
    tracks (no assumption on delta times) and any meta-track selection -/
theorem bad_target_exact (ppqn filePpq : Int) (tracks : List (List MidiEv)) (groups : List (List Nat))
    (metaIdx : List Nat) (target : Int) (hg : ∀ g ∈ groups, g ≠ [])
    (ht : target < 0 ∨ (groups.length : Int) ≤ target) :
    convert ppqn filePpq tracks groups metaIdx target = .error .valueError :=
  (MidiL.convert_outcome ppqn filePpq tracks groups metaIdx target).2.1 hg ht

/-- **success** (closes A7f / A7h "totality"): with all groups non-empty and a valid target the conversion
    succeeds and returns one sequence per group — the theorems above are not vacuous -/
theorem convert_succeeds (ppqn filePpq : Int) (tracks : List (List MidiEv)) (groups : List (List Nat))
    (metaIdx : List Nat) (target : Int) (hg : ∀ g ∈ groups, g ≠ [])
    (ht0 : 0 ≤ target) (ht1 : target < (groups.length : Int)) :
    ∃ out, convert ppqn filePpq tracks groups metaIdx target = .ok out ∧ out.length = groups.length :=
  (MidiL.convert_outcome ppqn filePpq tracks groups metaIdx target).2.2 hg ht0 ht1

/-- **C12, notes** (closes A8b): the notes of loaded sequence `i` — pitch, onset, offset, velocity — are
    exactly the notes of saved sequence `i`, every one relabelled to channel 0 (the file does not store the
    channel), as a multiset (`notesOf` lists notes in note-off order, which a stable sort may permute on
    equal ticks).  `Saved` carves out, by input-level predicates, cross-channel same-pitch overlap (D21:
    `oneCh`) and zero-length notes (D17: `pos`). -/
theorem save_load_notes (ppqn : Int) (hp : 0 < ppqn) (rels : List (List Msg)) (hs : ∀ r ∈ rels, Saved r)
    (out : List Seq) (h : saveLoad ppqn rels = .ok out)
    (i : Nat) (r : List Msg) (s s' : Seq) (a : List Msg) (hr : rels[i]? = some r) (ho : out[i]? = some s)
    (ha : s.readAbs = Except.ok (s', a)) :
    (notesOf (eventsAbs a)).Perm ((notesOf (eventsRel r)).map (fun n => { n with ch := 0 })) := by
  exact MidiSave.notes_core ppqn hp rels (fun r hr => (hs r hr).noteGood) out h i r s s' a hr ho ha

/-- `save_load_notes` for well-formed sequences with velocities, WITHOUT the two carve-outs of `Saved`
    (`oneCh`: notes on one channel; `pos`: no zero-length note).  FALSE for the model and for the real library
    (both replayed): D21 — the file stores no channel, so same-pitch notes on two channels fuse — and D17's
    mechanism at equal resolution — a zero-length note swallows the next note of its pitch. -/
def save_load_notes_statement : Prop :=
  ∀ (ppqn : Int) (_hp : 0 < ppqn) (rels : List (List Msg))
    (_hs : ∀ r ∈ rels, OkRel r ∧ (∀ m ∈ r, m.ty ≠ .wait → m.time = pyNone) ∧ WF r
      ∧ ∀ m ∈ r, m.ty = .noteOn → m.vel ≠ pyNone ∧ 0 < m.vel)
    (out : List Seq) (_h : saveLoad ppqn rels = .ok out)
    (i : Nat) (r : List Msg) (s s' : Seq) (a : List Msg) (_hr : rels[i]? = some r) (_ho : out[i]? = some s)
    (_ha : s.readAbs = Except.ok (s', a)),
    (notesOf (eventsAbs a)).Perm ((notesOf (eventsRel r)).map (fun n => { n with ch := 0 }))

/-- D21's recorded example: pitch 60 on channel 0 over [0,24) and on channel 1 over [12,36) -/
def cexD21 : List (List Msg) :=
  [[Msg.mkOn 0 60 64 pyNone, Msg.mkWait 0 12, Msg.mkOn 1 60 80 pyNone, Msg.mkWait 0 12, Msg.mkOff 0 60 pyNone,
    Msg.mkWait 0 12, Msg.mkOff 1 60 pyNone]]
/-- the zero-length class: pitch 60 over [0,0), then pitch 60 over [6,18) -/
def cexZero : List (List Msg) :=
  [[Msg.mkOn 0 60 64 pyNone, Msg.mkOff 0 60 pyNone, Msg.mkWait 0 6, Msg.mkOn 0 60 70 pyNone, Msg.mkWait 0 12,
    Msg.mkOff 0 60 pyNone]]

theorem cexD21_loaded : (loadedAbs 24 24 (cexD21.map toMido) [[0]] [0] 0 0).map (fun a => notesOf (eventsAbs a))
    = some [{ ch := 0, pitch := 60, on := 0, off := 36, vel := 64 }] := by decide +kernel
theorem cexZero_loaded : (loadedAbs 24 24 (cexZero.map toMido) [[0]] [0] 0 0).map (fun a => notesOf (eventsAbs a))
    = some [] := by decide +kernel

theorem save_load_notes_statement_false : ¬ save_load_notes_statement := by
  intro hst
  obtain ⟨out, s, s', a, hc, ho, hr, hv⟩ := loadedAbs_map 24 24 (cexD21.map toMido) [[0]] [0] 0 0 _ _ cexD21_loaded
  have hs : ∀ r ∈ cexD21, OkRel r ∧ (∀ m ∈ r, m.ty ≠ .wait → m.time = pyNone) ∧ WF r
      ∧ ∀ m ∈ r, m.ty = .noteOn → m.vel ≠ pyNone ∧ 0 < m.vel := by
    intro r hr'
    simp only [cexD21, List.mem_cons, List.not_mem_nil, or_false] at hr'
    subst hr'
    exact ⟨⟨by unfold NonNegWaits; decide, by decide⟩, by decide, by decide, by decide⟩
  have := hst 24 (by decide) cexD21 hs out hc 0 _ s s' a rfl ho hr
  rw [hv] at this
  have hl := this.length_eq
  revert hl
  decide +kernel

/-- the zero-length witness refutes the statement as well: the loaded sequence has no note at all, the saved
    one has two -/
example : (loadedAbs 24 24 (cexZero.map toMido) [[0]] [0] 0 0).map (fun a => (notesOf (eventsAbs a)).length) = some 0
    ∧ (notesOf (eventsRel cexZero[0])).length = 2 := by
  refine ⟨?_, by decide⟩
  have := congrArg (Option.map List.length) cexZero_loaded
  simpa [Option.map_map, Function.comp_def] using this

/-- **C12, time signature in force** (closes A8c): no hypothesis on signature ticks at all — two saved
    sequences that each start with 4/4 at tick 0 are covered, and so are disagreeing signatures on one tick
    (the later sequence wins, as `latest` says).  Only requirement beyond `Saved`: a saved time signature
    carries a numerator or a denominator. -/
theorem save_load_time_signature_in_force (ppqn : Int) (hp : 0 < ppqn) (rels : List (List Msg))
    (hs : ∀ r ∈ rels, Saved r)
    (hpresent : ∀ r ∈ rels, ∀ m ∈ r, m.ty = .timeSignature → (m.num, m.den) ≠ (pyNone, pyNone))
    (out : List Seq) (h : saveLoad ppqn rels = .ok out)
    (s s' : Seq) (a : List Msg) (ho : out[0]? = some s) (ha : s.readAbs = Except.ok (s', a))
    (t : Int) (ht : 0 ≤ t) :
    (latest .timeSignature (eventsAbs a) t).map tsVal
      = (latest .timeSignature (dfltSig .timeSignature ++ rels.flatMap eventsRel) t).map tsVal := by
  exact MidiSave.inforce_saved_sig L2.tsKind ppqn hp rels (fun r hr => ⟨(hs r hr).ok.1, (hs r hr).noTime⟩) hpresent out h s s' a ho ha t
    (fun _ => ht)

/-- **C12, key signature in force** (closes A8c): the same for key signatures; a saved key signature
    carries a key -/
theorem save_load_key_signature_in_force (ppqn : Int) (hp : 0 < ppqn) (rels : List (List Msg))
    (hs : ∀ r ∈ rels, Saved r)
    (hpresent : ∀ r ∈ rels, ∀ m ∈ r, m.ty = .keySignature → m.key ≠ pyNone)
    (out : List Seq) (h : saveLoad ppqn rels = .ok out)
    (s s' : Seq) (a : List Msg) (ho : out[0]? = some s) (ha : s.readAbs = Except.ok (s', a)) (t : Int) :
    (latest .keySignature (eventsAbs a) t).map keyVal
      = (latest .keySignature (dfltSig .keySignature ++ rels.flatMap eventsRel) t).map keyVal := by
  exact MidiSave.inforce_saved_sig L2.ksKind ppqn hp rels (fun r hr => ⟨(hs r hr).ok.1, (hs r hr).noTime⟩) hpresent out h s s' a ho ha t
    (fun h => nomatch h)

/-- **C12, success** (closes A8f and the "premise `readAbs = .ok`" remark): saving and loading a non-empty list
    of ANY sequences succeeds and returns one sequence per saved sequence (no `Saved` needed) … -/
theorem save_load_succeeds (ppqn : Int) (rels : List (List Msg)) (hne : rels ≠ []) :
    ∃ out, saveLoad ppqn rels = .ok out ∧ out.length = rels.length := by
  have hlen : 0 < rels.length := List.length_pos_iff.2 hne
  have hgroups : ∀ g ∈ (List.range rels.length).map (fun i => [i]), g ≠ [] := by
    intro g hg
    obtain ⟨i, _, rfl⟩ := List.mem_map.1 hg
    simp
  obtain ⟨out, h1, h2⟩ := convert_succeeds ppqn ppqn (rels.map toMido) ((List.range rels.length).map (fun i => [i]))
    (List.range rels.length) 0 hgroups (Int.le_refl _) (by simp; omega)
  exact ⟨out, h1, by simpa using h2⟩

/-- … while the empty list is rejected with the `ValueError` of midi_file.py:136 (meta target 0 of no
    sequences; replayed: `sequences_save([])` then `sequences_load` raises "Invalid meta track index") -/
theorem save_load_empty (ppqn : Int) : saveLoad ppqn [] = .error .valueError :=
  bad_target_exact ppqn ppqn [] [] [] 0 (by simp) (by simp)

/-- **15-key round trip through the tables** (closes A8d): for every key index `i < 15`, the name the saver
    writes for key `i` (`Key.value`, `Gen.keyValues`) is mapped back to `i` by `MusicMapping.KeyKeyMapping`
    (`Gen.keyKeyMapping`).  Both tables are regenerated from the source on every run. -/
theorem key_table_round_trip :
    ∀ i : Nat, i < 15 → (Gen.keyValues[i]?).bind (fun nm => Gen.keyKeyMapping.lookup nm) = some (i : Int) :=
  key_round_trip

theorem key_count : Gen.keyValues.length = 15 ∧ Gen.keyNames.length = 15 := by decide +kernel

/-- every key the parser can produce is one of the fifteen -/
theorem key_table_range : ∀ p ∈ Gen.keyKeyMapping, 0 ≤ p.2 ∧ p.2 < 15 := by decide +kernel

/-- **a saved key signature parses to the same key** (closes A8d, C12 "all fifteen keys"): the message
    `to_mido_track` writes for key `k` is parsed by `parse_mido_message` into a key signature with key `k`,
    no channel, and the same delta time — for each of the fifteen keys -/
theorem saved_key_parses (k : Int) (hk : 0 ≤ k ∧ k < 15) (t : Int) :
    ∃ mm, savedKeyMsg k t = some mm
      ∧ parseMido mm = .ok { ty := .keySignature, ch := pyNone, time := t, key := k } := by
  obtain ⟨nm, hn1, hn2⟩ := keyName_lookup k hk.1 hk.2
  exact ⟨{ type := .keySignature, time := t, key := nm }, by simp [savedKeyMsg, hn1], by simp [parseMido, hn2]⟩

/-- **note-on with velocity 0 is a note-off** (closes A7e; midi_message.py:37): the parser turns it into a
    `NOTE_OFF` of the same pitch, channel and delta time … -/
theorem parse_note_on_zero (m : MidoMsg) (h : m.type = .noteOn) (hv : m.velocity = 0) :
    parseMido m = .ok { ty := .noteOff, ch := m.channel.getD pyNone, time := m.time, note := m.note, vel := 0 } := by
  cases hc : m.channel <;> simp [parseMido, h, hv, hc]

/-- … which the loader then routes as a note-off of its track (nothing in `convert` looks at the velocity of
    a note-off), while a positive velocity gives a note-on with that velocity -/
theorem note_on_zero_loads_as_off (m : MidoMsg) (h : m.type = .noteOn) (hv : m.velocity = 0) (rt : Int) :
    ∃ e, parseMido m = .ok e ∧
      convEvent true e rt = some (false, Msg.mkOff (if e.ch == pyNone then 0 else e.ch) m.note rt) := by
  refine ⟨_, parse_note_on_zero m h hv, ?_⟩
  simp [convEvent]

theorem parse_note_on_pos (m : MidoMsg) (h : m.type = .noteOn) (hv : 0 < m.velocity) :
    parseMido m = .ok { ty := .noteOn, ch := m.channel.getD pyNone, time := m.time, note := m.note,
                        vel := m.velocity } := by
  cases hc : m.channel <;> simp [parseMido, h, hv, hc]

/-- **the parser establishes the domain conditions** of `load_time_signature_in_force` /
    `load_key_signature_in_force`: for meta messages without a channel (every mido `MetaMessage`) and a
    non-negative numerator, every parsed track satisfies `TsDomain` and `KsDomain` -/
theorem parse_domain (ms : List MidoMsg) :
    ∀ evs, parseTrack ms = .ok evs →
      (∀ m ∈ ms, (m.type = .timeSignature ∨ m.type = .keySignature) → m.channel = none) →
      (∀ m ∈ ms, m.type = .timeSignature → 0 ≤ m.numerator) →
      TsDomain evs ∧ KsDomain evs := by
  intro evs h hch hnum
  constructor
  · intro e he hty
    obtain ⟨m, hm, hp⟩ := parseTrack_mem ms evs h e he
    obtain ⟨_, hc, hts, _⟩ := parseMido_ok m e hp
    obtain ⟨h1, h2, _⟩ := hts hty
    refine ⟨hc (hch m hm (Or.inl h1)), fun hp' => ?_⟩
    have := hnum m hm h1
    simp only [Prod.mk.injEq, pyNone] at hp'
    omega
  · intro e he hty
    obtain ⟨m, hm, hp⟩ := parseTrack_mem ms evs h e he
    obtain ⟨_, hc, _, hks⟩ := parseMido_ok m e hp
    obtain ⟨h1, h2⟩ := hks hty
    have hr := key_table_range _ (lookup_mem _ _ _ h2)
    refine ⟨hc (hch m hm (Or.inr h1)), ?_⟩
    simp only [pyNone]
    omega

/-- **signatures in force, from the mido file** (closes A7a at the level of the file; composes the parser with
    the loader): for ANY mido file — meta messages carry no channel, delta times and numerators are
    non-negative, every key name is known — any resolution, grouping, meta selection and valid target, the time
    signature and the key signature in force on the loaded meta sequence are those of the file -/
theorem load_signatures_in_force_file (ppqn filePpq : Int) (hp : 0 < ppqn) (hf : 0 < filePpq)
    (file : List (List MidoMsg)) (tracks : List (List MidiEv))
    (hparse : file.length = tracks.length ∧
      ∀ (i : Nat) (ms : List MidoMsg) (evs : List MidiEv), file[i]? = some ms → tracks[i]? = some evs → parseTrack ms = .ok evs)
    (hdelta : ∀ ms ∈ file, ∀ m ∈ ms, 0 ≤ m.time)
    (hmeta : ∀ ms ∈ file, ∀ m ∈ ms, (m.type = .timeSignature ∨ m.type = .keySignature) → m.channel = none)
    (hnum : ∀ ms ∈ file, ∀ m ∈ ms, m.type = .timeSignature → 0 ≤ m.numerator)
    (groups : List (List Nat)) (metaIdx : List Nat) (target : Int) (out : List Seq)
    (h : convert ppqn filePpq tracks groups metaIdx target = .ok out)
    (s s' : Seq) (a : List Msg) (hs : out[target.toNat]? = some s) (ha : s.readAbs = .ok (s', a)) (t : Int) (ht : 0 ≤ t) :
    (latest .timeSignature (eventsAbs a) t).map tsVal
        = (latest .timeSignature (dfltSig .timeSignature ++ fileSigs ppqn filePpq tracks groups metaIdx) t).map tsVal
    ∧ (latest .keySignature (eventsAbs a) t).map keyVal
        = (latest .keySignature (dfltSig .keySignature ++ fileSigs ppqn filePpq tracks groups metaIdx) t).map keyVal := by
  have hsrc : ∀ evs ∈ tracks, ∃ ms ∈ file, parseTrack ms = .ok evs := by
    intro evs hevs
    obtain ⟨i, hlt, rfl⟩ := List.getElem_of_mem hevs
    have hlt' : i < file.length := hparse.1 ▸ hlt
    exact ⟨file[i], List.getElem_mem hlt', hparse.2 i _ _ (List.getElem?_eq_getElem hlt') (List.getElem?_eq_getElem hlt)⟩
  have hd : ∀ evs ∈ tracks, ∀ e ∈ evs, 0 ≤ e.time := by
    intro evs hevs e he
    obtain ⟨ms, hms, hp'⟩ := hsrc evs hevs
    obtain ⟨m, hm, ht'⟩ := parse_time ms evs hp' e he
    rw [ht']; exact hdelta ms hms m hm
  have hdom : ∀ evs ∈ tracks, TsDomain evs ∧ KsDomain evs := by
    intro evs hevs
    obtain ⟨ms, hms, hp'⟩ := hsrc evs hevs
    exact parse_domain ms evs hp' (hmeta ms hms) (hnum ms hms)
  exact ⟨load_time_signature_in_force ppqn filePpq hp hf tracks groups metaIdx target out h hd
      (fun evs hevs => (hdom evs hevs).1) s s' a hs ha t ht,
    load_key_signature_in_force ppqn filePpq hp hf tracks groups metaIdx target out h hd
      (fun evs hevs => (hdom evs hevs).2) s s' a hs ha t⟩

/-! ## non-vacuity: one concrete file for the C13 theorems, one saved composition for the C12 theorems -/

/-- a file at 480 ticks per beat: track 0 holds a 3/4 at tick 0 and two OVERLAPPING notes of pitch 60 (not
    `WF`, but `NotesClosed`); track 1 a 6/8 on the same tick 0, a key signature and one note; track 2 (meta
    only) a 4/4 and a key change at file tick 960 -/
def exFile : List (List MidiEv) :=
  [[{ ty := .timeSignature, ch := pyNone, time := 0, num := 3, den := 4 },
    { (Msg.mkOn 0 60 64 0) with time := 0 }, { (Msg.mkOn 0 60 70 0) with time := 100 },
    { (Msg.mkOff 0 60 0) with time := 100, vel := 0 }, { (Msg.mkOff 0 60 0) with time := 200, vel := 0 }],
   [{ ty := .timeSignature, ch := pyNone, time := 0, num := 6, den := 8 },
    { ty := .keySignature, ch := pyNone, time := 0, key := 9 },
    { (Msg.mkOn 1 62 80 0) with time := 10 }, { (Msg.mkOff 1 62 0) with time := 470, vel := 0 }],
   [{ ty := .timeSignature, ch := pyNone, time := 960, num := 4, den := 4 },
    { ty := .keySignature, ch := pyNone, time := 0, key := 6 }]]
/-- overlapping groups: track 1 is listed in both, track 0 in the second only -/
def exGroups : List (List Nat) := [[1], [0, 1]]

theorem exFile_hd : ∀ evs ∈ exFile, ∀ e ∈ evs, 0 ≤ e.time := by decide +kernel
theorem exFile_ts : ∀ evs ∈ exFile, TsDomain evs := by unfold TsDomain; decide
theorem exFile_ks : ∀ evs ∈ exFile, KsDomain evs := by unfold KsDomain; decide
theorem exFile_msgs0 : trackMsgs 24 480 0 exFile[0]
    = [Msg.mkOn 0 60 64 0, Msg.mkOn 0 60 70 5, Msg.mkOff 0 60 10, Msg.mkOff 0 60 20] := by decide +kernel
theorem exFile_msgs1 : trackMsgs 24 480 0 exFile[1] = [Msg.mkOn 1 62 80 0, Msg.mkOff 1 62 24] := by decide +kernel
theorem exFile_sigs : fileSigs 24 480 exFile exGroups [2]
    = [{ ty := .timeSignature, ch := pyNone, time := 0, num := 3, den := 4 },
       { ty := .timeSignature, ch := pyNone, time := 0, num := 6, den := 8 },
       { ty := .keySignature, ch := pyNone, time := 0, key := 9 },
       { ty := .timeSignature, ch := pyNone, time := 48, num := 4, den := 4 },
       { ty := .keySignature, ch := pyNone, time := 48, key := 6 }] := by decide +kernel

/-- the overlapping track is `NotesClosed` (and not `WF`: the second note-on comes while the first sounds):
    its events are those of two single notes, and `NotesClosed` only counts -/
theorem exFile_closed0 : NotesClosed (trackMsgs 24 480 0 exFile[0]) := by
  rw [exFile_msgs0]
  intro k
  exact cg_perm (E := [[Msg.mkOn 0 60 64 0, Msg.mkOff 0 60 20], [Msg.mkOn 0 60 70 5, Msg.mkOff 0 60 10]].flatten)
    (by decide) (cg_flatten k _ (forall_mem_pair (cg_of_wf _ (by decide) (by unfold C15.PosDur; decide) k)
      (cg_of_wf _ (by decide) (by unfold C15.PosDur; decide) k)))

example : ¬ WF (trackMsgs 24 480 0 exFile[0]) := by
  rw [exFile_msgs0]
  intro h
  have := h (0, 60)
  simp [altFrom, Msg.mkOn, Msg.mkOff, Msg.nkey] at this

theorem exFile_closed : ∀ i ∈ exGroups.flatten, ∀ evs, exFile[i]? = some evs → NotesClosed (trackMsgs 24 480 0 evs) := by
  intro i hi evs hev
  have hi' : i = 0 ∨ i = 1 := by
    simp only [exGroups, List.flatten_cons, List.flatten_nil, List.append_nil, List.cons_append, List.nil_append,
      List.mem_cons, List.not_mem_nil, or_false] at hi
    omega
  rcases hi' with rfl | rfl
  · have : evs = exFile[0] := by simpa [exFile] using hev.symm
    subst this; exact exFile_closed0
  · have : evs = exFile[1] := by simpa [exFile] using hev.symm
    subst this
    exact notesClosed_of_goodTrack 24 480 _ (goodTrack_of_msgs 24 480 _ _ exFile_msgs1 (by decide) (by unfold C15.PosDur; decide))

/-- all hypotheses of `load_time_signature_in_force`, `load_key_signature_in_force`, `routing_first_group`
    hold for `exFile`, overlapping groups, meta track 2, target 1 — and the conversion succeeds -/
example : (∃ out, convert 24 480 exFile exGroups [2] 1 = .ok out ∧ out.length = 2)
    ∧ (∀ evs ∈ exFile, ∀ e ∈ evs, 0 ≤ e.time) ∧ (∀ evs ∈ exFile, TsDomain evs) ∧ (∀ evs ∈ exFile, KsDomain evs)
    ∧ (∀ i ∈ exGroups.flatten, ∀ evs, exFile[i]? = some evs → NotesClosed (trackMsgs 24 480 0 evs)) :=
  ⟨convert_succeeds 24 480 exFile exGroups [2] 1 (by decide) (by decide) (by decide),
    exFile_hd, exFile_ts, exFile_ks, exFile_closed⟩

/-- the conclusions, evaluated: two signatures share tick 0 — the later track's 6/8 is in force there, the
    meta track's 4/4 from tick 48 (file tick 960); key B♭ (9) from tick 0, F♯ (6) from tick 48 -/
example : ((latest .timeSignature (dfltSig .timeSignature ++ fileSigs 24 480 exFile exGroups [2]) 0).map tsVal,
           (latest .timeSignature (dfltSig .timeSignature ++ fileSigs 24 480 exFile exGroups [2]) 47).map tsVal,
           (latest .timeSignature (dfltSig .timeSignature ++ fileSigs 24 480 exFile exGroups [2]) 48).map tsVal,
           (latest .keySignature (dfltSig .keySignature ++ fileSigs 24 480 exFile exGroups [2]) 10).map keyVal,
           (latest .keySignature (dfltSig .keySignature ++ fileSigs 24 480 exFile exGroups [2]) 100).map keyVal)
    = (some (6, 8), some (6, 8), some (4, 4), some 9, some 6) := by
  rw [exFile_sigs]; decide

/-- the loaded meta sequence itself, evaluated by the kernel: the same answers -/
def exLoaded : Option (List (Option (Int × Int)) × List (Option Int)) :=
  match convert 24 480 exFile exGroups [2] 1 with
  | .ok out => match out[1]? with
    | some s => match s.readAbs with
      | .ok (_, a) => some ([0, 47, 48].map (fun t => (latest .timeSignature (eventsAbs a) t).map tsVal),
                            [10, 100].map (fun t => (latest .keySignature (eventsAbs a) t).map keyVal))
      | .error _ => none
    | none => none
  | .error _ => none

example : exLoaded = some ([some (6, 8), some (6, 8), some (4, 4)], [some 9, some 6]) := by decide +kernel

/-- first-group routing on `exFile`: track 1 is listed in both groups but FirstGroup says group 0 -/
example : FirstGroup exGroups 1 0 ∧ ¬ FirstGroup exGroups 1 1 ∧ FirstGroup exGroups 0 1 := by
  refine ⟨⟨⟨[1], rfl, by simp⟩, fun j g' hj => by omega⟩, ?_, ⟨⟨[0, 1], rfl, by simp⟩, ?_⟩⟩
  · intro h
    exact h.2 0 [1] (by decide) rfl (by simp)
  · intro j g' hj hg'
    have : j = 0 := by omega
    subst this
    simp [exGroups] at hg'
    subst hg'
    simp

/-- `routing_union_partial`: the same file with disjoint groups -/
example : ([[1], [0]] : List (List Nat)).flatten.Nodup := by decide +kernel

/-- `empty_group_error`, `bad_target_exact`, `convert_succeeds` on concrete groupings -/
example : convert 24 480 exFile [[0], []] [2] 0 = .error .indexError :=
  empty_group_error 24 480 exFile [[0], []] [2] 0 ⟨[], by simp, rfl⟩
example : convert 24 480 exFile exGroups [2] 2 = .error .valueError :=
  bad_target_exact 24 480 exFile exGroups [2] 2 (by decide) (by decide)
example : convert 24 480 exFile exGroups [2] (-1) = .error .valueError :=
  bad_target_exact 24 480 exFile exGroups [2] (-1) (by decide) (by decide)

/-- a track with an unclosed and an orphan note is not `NotesClosed`, its normalisation is
    (`routing_normalised` applies, `routing_first_group` does not) -/
def exRagged : List Msg := [Msg.mkOff 0 60 0, Msg.mkOn 0 60 64 5, Msg.mkOff 0 60 10, Msg.mkOn 0 61 64 12]
example : normTrack exRagged = [Msg.mkOn 0 60 64 5, Msg.mkOff 0 60 10, Msg.mkInternal 0 12] := by decide +kernel
example : ¬ NotesClosed exRagged := by
  intro h
  have := (h (0, 60)).2
  revert this
  decide +kernel
example : NotesClosed (normTrack exRagged) := by
  have e : normTrack exRagged = [Msg.mkOn 0 60 64 5, Msg.mkOff 0 60 10, Msg.mkInternal 0 12] := by decide +kernel
  rw [e]
  intro k
  exact cg_of_wf _ (by decide) (by unfold C15.PosDur; decide) k

/-- `routing_orphans`: a track with an orphan note-off (tick 0) and two overlapping notes is `AllClosed`, its
    normalisation `NotesClosed`, although the track itself is not `NotesClosed` -/
def exOrphan : List Msg := [Msg.mkOff 0 60 0, Msg.mkOn 0 60 64 5, Msg.mkOn 0 60 70 8, Msg.mkOff 0 60 10, Msg.mkOff 0 60 20]
example : AllClosed exOrphan := by
  intro k
  simp only [exOrphan, depth, Msg.mkOn, Msg.mkOff, Msg.nkey]
  by_cases hk : ((0 : Int), (60 : Int)) = k <;> simp [hk]
example : ¬ NotesClosed exOrphan := by
  intro h
  have := (h (0, 60)).2
  revert this
  decide +kernel
example : NotesClosed (normTrack exOrphan) := by
  have e : normTrack exOrphan = [Msg.mkOn 0 60 64 5, Msg.mkOff 0 60 20] := by decide +kernel
  rw [e]
  intro k
  exact cg_of_wf _ (by decide) (by unfold C15.PosDur; decide) k

/-- C12: two saved sequences that BOTH start with 4/4 at tick 0 (where `hdist` of
    `C13.save_load_signatures_partial`, Props/C12b.lean, fails — a hypothesis that theorem states and does not use),
    the second changing to 3/4 and to key 8 at tick 24 -/
def exSaved : List (List Msg) :=
  [[Msg.mkTimeSig 0 4 4 pyNone, Msg.mkOn 0 60 64 pyNone, Msg.mkWait 0 24, Msg.mkOff 0 60 pyNone],
   [Msg.mkTimeSig 0 4 4 pyNone, Msg.mkWait 0 12, Msg.mkOn 0 62 100 pyNone, Msg.mkWait 0 12,
    Msg.mkTimeSig 0 3 4 pyNone, { ty := .keySignature, key := 8 }, Msg.mkOff 0 62 pyNone]]

theorem exSaved_saved : ∀ r ∈ exSaved, Saved r :=
  forall_mem_pair (Saved.of_pointwise _ 0 (by decide) (by decide) (by unfold C15.PosDur; decide))
    (Saved.of_pointwise _ 0 (by decide) (by decide) (by unfold C15.PosDur; decide))

/-- all hypotheses of `save_load_notes` / `save_load_time_signature_in_force` / `save_load_key_signature_in_force`
    hold for `exSaved`; `hdist` of `C13.save_load_signatures_partial` does not (two time signatures on tick 0) -/
example : (∀ r ∈ exSaved, Saved r)
    ∧ (∀ r ∈ exSaved, ∀ m ∈ r, m.ty = .timeSignature → (m.num, m.den) ≠ (pyNone, pyNone))
    ∧ (∀ r ∈ exSaved, ∀ m ∈ r, m.ty = .keySignature → m.key ≠ pyNone)
    ∧ ¬ (((exSaved.flatMap eventsRel).filter (fun m => m.ty == MType.timeSignature)).map (fun m => m.time)).Nodup :=
  ⟨exSaved_saved, by decide, by decide, by decide⟩

/-- and the round trip, evaluated by the kernel: notes and signatures in force come back -/
def exSavedLoaded : Option (List (List Note) × List (Option (Int × Int)) × Option Int) :=
  match saveLoad 24 exSaved with
  | .ok out =>
    match out.mapM (fun s => match s.readAbs with | .ok (_, a) => some (eventsAbs a) | .error _ => none) with
    | some as =>
      some (as.map notesOf,
        [0, 23, 24].map (fun t => (latest .timeSignature (as.headD []) t).map tsVal),
        (latest .keySignature (as.headD []) 30).map keyVal)
    | none => none
  | .error _ => none

example : exSavedLoaded = some ([[{ ch := 0, pitch := 60, on := 0, off := 24, vel := 64 }],
                                  [{ ch := 0, pitch := 62, on := 12, off := 24, vel := 100 }]],
                                 [some (4, 4), some (4, 4), some (3, 4)], some 8) := by decide +kernel

/-- the parser theorems on concrete messages: a `note_on` with velocity 0 on channel 3, and key "Bb" (9) -/
example : (parseMido { type := .noteOn, time := 7, channel := some 3, note := 60, velocity := 0 }).toOption
    = some { ty := .noteOff, ch := 3, time := 7, note := 60, vel := 0 } := by decide +kernel
example : savedKeyMsg 9 5 = some { type := .keySignature, time := 5, key := "Bb" }
    ∧ (parseMido { type := .keySignature, time := 5, key := "Bb" }).toOption
      = some { ty := .keySignature, ch := pyNone, time := 5, key := 9 } := by decide +kernel
example : (match parseMido { type := .keySignature, key := "H" } with | .error .keyError => true | _ => false) = true := by
  decide +kernel

end SCoda.C13b
