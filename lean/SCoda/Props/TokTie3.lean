/-
  TOKENISER TIE, part 3 (audit round 4, item C6 first bullet, the call flags): the generated `tokenise` for BOTH values of
  `insert_bar_token`.

  The hand model `tokeniseCore` (Model/Token.lean) has no `insert_bar_token` parameter: it always emits the bar token, and the
  property theorems C01 / C03 are about the default `insert_bar_token = True`.  The source uses the flag in one place
  (notelike_tokenisation.py:136-137, inside `_apply_rest`: `if insert_bar_token: tokens.append(BAR)`).  This file proves what that
  amounts to, for every input of the tie's domain:

      tokenise(…, insert_bar_token = ibt)  =  the tokens of `tokeniseCore` passed through `keepBar ibt`
                                              (all of them for `True`; all but the bar tokens for `False`),
                                              the SAME final state, the SAME exception class.

  So a call with `insert_bar_token = False` is the default call with the `bar` tokens deleted (`tokenise_no_bar`): every statement of
  C01 / C03 about the tokens of the default call transfers through `List.filter (· ≠ bar)`, every statement about the carried state
  is unchanged.  `flag_running_time_signature = False` raises NotImplementedError (`TokTie2.tokenise_not_running`).
  The tie is proved with the flag as a variable, against the hand model under `keepBar ibt` (Lemmas/TokEmitL.lean).
-/
import SCoda.Props.TokTie2
namespace SCoda.TokTie3
open SCoda SCoda.TokLib SCoda.Gen.Tok SCoda.TokTieL SCoda.TokTie SCoda.TokTie2 SCoda.TokTieBarL

/-- WHAT THE SOURCE COMPUTES for either value of `insert_bar_token` (every input of the tie's domain, no condition on the waits):
    the tokens of the hand model `tokeniseCore` passed through `keepBar ibt` — all of them for `true`, all but the bar tokens for
    `false` —, the same new state written back into `d`, the same exception class.  Hypotheses as in `TokTie2.tokenise_eq_in`. -/
theorem tokenise_eq_flag (ibt : Bool) (o : TokObj) (rels : List (List Msg)) (d : List (String × Int))
    (hlen : (rels.length : Int) = o.numTracks)
    (hd : (stOfDict o d).tsDen ≠ 0) (hn : 0 ≤ o.ppqn * 4 * (stOfDict o d).tsNum) (hts : TsInOk o.ppqn rels) :
    tokenise o (rels.map LSeq.rel) ibt true (some d) =
      liftE (fun r => (writeSt d r.2, (keepBar ibt r.1).map render))
        (tokeniseCore (cfgOf o) (stOfDict o d) (extract Gen.ppqn rels)) :=
  tokenise_keep ibt o rels d hlen hd hn
    fun ev h m hm => ⟨extract_ch _ _ ev h m hm, tsEvOk_of_input _ _ rels hts ev h m hm⟩

/-- the same at the tokeniser's OWN `ppqn` (tracks with non-negative waits and no INTERNAL message), the form that composes with
    the C01 / C03 theorems -/
theorem tokenise_eq_flag_gen (ibt : Bool) (o : TokObj) (rels : List (List Msg)) (d : List (String × Int))
    (hok : ∀ t ∈ rels, OkRel t) (hlen : (rels.length : Int) = o.numTracks)
    (hd : (stOfDict o d).tsDen ≠ 0) (hn : 0 ≤ o.ppqn * 4 * (stOfDict o d).tsNum) (hts : TsInOk o.ppqn rels) :
    tokenise o (rels.map LSeq.rel) ibt true (some d) =
      liftE (fun r => (writeSt d r.2, (keepBar ibt r.1).map render))
        (tokeniseCore (cfgOf o) (stOfDict o d) (extract (cfgOf o).ppqn rels)) := by
  rw [TokPpqnL.extract_ppqn_irrel (cfgOf o).ppqn Gen.ppqn rels hok]
  exact tokenise_eq_flag ibt o rels d hlen hd hn hts

/-- **`insert_bar_token = False` is the default call with the bar tokens deleted**: same state, same exceptions, and the tokens
    are those of the hand model without `Tok.bar` -/
theorem tokenise_no_bar (o : TokObj) (rels : List (List Msg)) (d : List (String × Int))
    (hok : ∀ t ∈ rels, OkRel t) (hlen : (rels.length : Int) = o.numTracks)
    (hd : (stOfDict o d).tsDen ≠ 0) (hn : 0 ≤ o.ppqn * 4 * (stOfDict o d).tsNum) (hts : TsInOk o.ppqn rels) :
    tokenise o (rels.map LSeq.rel) false true (some d) =
      liftE (fun r => (writeSt d r.2, (r.1.filter (fun t => t != Tok.bar)).map render))
        (tokeniseCore (cfgOf o) (stOfDict o d) (extract (cfgOf o).ppqn rels)) :=
  tokenise_eq_flag_gen false o rels d hok hlen hd hn hts

/-- stateless call (`state_dict=None`), either flag, own `ppqn` -/
theorem tokenise_fresh_flag_gen (ibt : Bool) (o : TokObj) (rels : List (List Msg))
    (hok : ∀ t ∈ rels, OkRel t) (hlen : (rels.length : Int) = o.numTracks) (hp : 0 ≤ o.ppqn) (hts : TsInOk o.ppqn rels) :
    tokenise o (rels.map LSeq.rel) ibt true none =
      liftE (fun r => (writeSt [] r.2, (keepBar ibt r.1).map render))
        (tokeniseCore (cfgOf o) (TokSt.init (cfgOf o)) (extract (cfgOf o).ppqn rels)) := by
  rw [tokenise_none, ← stOfDict_nil]
  exact tokenise_eq_flag_gen ibt o rels [] hok hlen (show Gen.defaultTimeSignatureDenominator ≠ 0 by decide)
    (defaultBar_nonneg hp) hts

/-- the default flag gives back the default tie: `keepBar true` is the identity -/
example (l : List Tok) : keepBar true l = l := rfl

local instance exceptDecEq {ε α : Type} [DecidableEq ε] [DecidableEq α] : DecidableEq (Except ε α)
  | .ok a, .ok b => if h : a = b then isTrue (h ▸ rfl) else isFalse (fun h' => h (by cases h'; rfl))
  | .error a, .error b => if h : a = b then isTrue (h ▸ rfl) else isFalse (fun h' => h (by cases h'; rfl))
  | .ok _, .error _ => isFalse (by intro h; cases h)
  | .error _, .ok _ => isFalse (by intro h; cases h)

/-- non-vacuity at `ppqn = 48`, `insert_bar_token = False`: the hypotheses hold for `tk48` / `goodTracks`, and the conclusion
    evaluates to what the real code returns (replayed on /repo: `tokenise(…, insert_bar_token=False)` =
    `['trk_00-pit_060-val_48-vel_127', 'rst_48', 'rst_48', 'trk_00-pit_062-val_96-vel_127', 'rst_48', 'rst_48']`, same state) -/
example : tokenise tk48 (goodTracks.map LSeq.rel) false true none =
        .ok ([("cur_time", 192), ("cur_time_bar", 0), ("cur_time_signature_numerator", 8), ("cur_time_signature_denominator", 8),
              ("cur_bar_capacity_remaining", 192), ("prv_track", 0), ("prv_value", 96), ("prv_velocity", 127)],
             ["trk_00-pit_060-val_48-vel_127", "rst_48", "rst_48", "trk_00-pit_062-val_96-vel_127", "rst_48", "rst_48"]) := by
  rw [tokenise_fresh_flag_gen false tk48 goodTracks (by decide) rfl (by decide) (by decide)]
  decide +kernel

end SCoda.TokTie3
