/-
  C11 — tick values stay integers: the theorems that close audit item A10.

  Defaults (`C11.defaults_int_typed` is vacuous, `true = true`): stated over the *data* the translator emits
  (`Gen/SettingsTyped.lean`: every evaluated default with the Python type it had), and against the
  kernel's own evaluation of the PyNum transcription of the Python functions that compute them.
  Tokens: every token `tokeniseCore` emits renders its numeric fields as plain decimal integers, and those
  fields read back as the model's Int ticks.
  Float sites: which int each guarded Python expression gives.  Typing: soundness for the least fixpoint of its rules.
-/
import SCoda.Gen.Settings
import SCoda.Gen.SettingsTyped
import SCoda.Model.PyNumSites
import SCoda.Lemmas.C11L
import SCoda.Lemmas.C11LNum
namespace SCoda.C11d
open SCoda SCoda.C11L SCoda.RenderL

/-- The typed tables are the tables the models use with every element flagged `type(x) is int` (read off the data
    the translator emits). -/
theorem typed_tables_flagged :
    Gen.defaultStepSizesTyped = Gen.defaultStepSizes.map (·, true)
    ∧ Gen.defaultStepSizesShift1Typed = Gen.defaultStepSizesShift1.map (·, true)
    ∧ Gen.defaultNoteValuesTyped = Gen.defaultNoteValues.map (·, true)
    ∧ Gen.velocityBinsTableTyped = Gen.velocityBinsTable.map (fun r => (r.1, r.2.map (·, true))) := by
  decide +kernel

/-- Every default step size, default note value and velocity bin (for 1..64 bins) that Python computed had
    type `int` — decided by Lean over the per-element type flags the translator records — and the flagged
    values are exactly the lists the models use.  Closes A10 (`C11.defaults_int_typed` is `true = true`). -/
theorem defaults_int_typed_data :
    (∀ p ∈ Gen.defaultStepSizesTyped, p.2 = true)
    ∧ (∀ p ∈ Gen.defaultStepSizesShift1Typed, p.2 = true)
    ∧ (∀ p ∈ Gen.defaultNoteValuesTyped, p.2 = true)
    ∧ (∀ row ∈ Gen.velocityBinsTableTyped, ∀ p ∈ row.2, p.2 = true)
    ∧ Gen.defaultStepSizesTyped.map (·.1) = Gen.defaultStepSizes
    ∧ Gen.defaultStepSizesShift1Typed.map (·.1) = Gen.defaultStepSizesShift1
    ∧ Gen.defaultNoteValuesTyped.map (·.1) = Gen.defaultNoteValues
    ∧ Gen.velocityBinsTableTyped.map (fun r => (r.1, r.2.map (·.1))) = Gen.velocityBinsTable := by
  obtain ⟨h1, h2, h3, h4⟩ := typed_tables_flagged
  rw [h1, h2, h3, h4]
  simp only [Function.comp_def, List.forall_mem_map, List.map_map, List.map_id', implies_true, true_and]

/-- the statement is about data: a table with one float-typed element is rejected -/
example : ¬ (∀ p ∈ [((24 : Int), true), (16, false)], p.2 = true) := by decide +kernel

/-- the 64 dumped rows of velocity bins against the integer formula of `get_velocity_bins` -/
theorem velocityBins_table :
    Gen.velocityBinsTable.all (fun r => velocityBinsZ Gen.velocityMax r.1 == r.2) = true := by decide +kernel

/-- the hand transcriptions of the three default lists, evaluated: the dumped values, every element int-typed -/
theorem defaults_py :
    getDefaultStepSizesPy 10 Gen.ppqn 0 0 = some (Gen.defaultStepSizes.map PyNum.int)
    ∧ getDefaultStepSizesPy 10 Gen.ppqn 0 1 = some (Gen.defaultStepSizesShift1.map PyNum.int)
    ∧ getDefaultNoteValuesPy 10 Gen.ppqn Gen.noteValueUpperBound Gen.noteValueLowerBound Gen.validTuplets
        Gen.dottedIterations.toNat = some (Gen.defaultNoteValues.map PyNum.int) := by
  decide +kernel

/-- Execution-level cross-check: the operator-by-operator PyNum transcription of `get_default_step_sizes`,
    `get_default_note_values` and `get_velocity_bins` (`Model/PyNumSites.lean`, util.py:25-34, 103-198),
    under Python's numeric-tower typing rules on the generated settings, yields the same values *and the
    same types* as the real functions reported (the three lists evaluated by the kernel, the velocity bins through
    their integer form `velocityBinsZ`).  Closes A10 (an execution statement
    for the defaults: Lean's model of the arithmetic agrees with Python's run). -/
theorem defaults_agree_with_numeric_tower :
    (getDefaultStepSizesPy 10 Gen.ppqn 0 0).map (·.map PyNum.tag) = some Gen.defaultStepSizesTyped
    ∧ (getDefaultStepSizesPy 10 Gen.ppqn 0 1).map (·.map PyNum.tag) = some Gen.defaultStepSizesShift1Typed
    ∧ (getDefaultNoteValuesPy 10 Gen.ppqn Gen.noteValueUpperBound Gen.noteValueLowerBound Gen.validTuplets
          Gen.dottedIterations.toNat).map (·.map PyNum.tag) = some Gen.defaultNoteValuesTyped
    ∧ Gen.velocityBinsTableTyped.all
          (fun r => (getVelocityBinsPy Gen.velocityMax r.1).map PyNum.tag == r.2) = true := by
  obtain ⟨d1, d2, d3, d4⟩ := typed_tables_flagged
  obtain ⟨e1, e2, e3⟩ := defaults_py
  rw [e1, e2, e3, d1, d2, d3, d4, List.all_map]
  refine ⟨rfl, rfl, rfl, List.all_eq_true.2 fun r hr => beq_iff_eq.2 ?_⟩
  rw [getVelocityBinsPy_eq, beq_iff_eq.1 (List.all_eq_true.1 velocityBins_table r hr), List.map_map]
  rfl

/-- the transcription does notice a float: the same tuplet expression without its `int(…)`
    (util.py:171) is float-typed -/
example : (PyNum.truediv (PyNum.mul (.int 24) (.int 2)) (.int 3)).isInt = false := by decide +kernel
example : (tupletPy (.int 24) (.int 3) (.int 2)) = .int 16 := by decide +kernel

/-- the numeric parameters of the configuration are non-negative (true of every configuration the
    constructor accepts in practice; a negative step would be rendered `rst_-3`) -/
structure CfgNonneg (c : Cfg) : Prop where
  steps : ∀ v ∈ c.steps, 0 ≤ v
  values : ∀ v ∈ c.values, 0 ≤ v
  bins : ∀ v ∈ c.bins, 0 ≤ v
  pitchLo : 0 ≤ c.pitchLo
  tsLo : 0 ≤ c.tsLo
  defNum : 0 ≤ c.defNum

/-- `ch` is the channel of a note-on event of the input -/
def IsChannel (evs : List (Int × Pairing)) (ch : Int) : Prop :=
  ∃ ev ∈ evs, ∃ m rest, ev.2 = m :: rest ∧ m.ty = .noteOn ∧ m.ch = ch

/-- `v` is the tick distance between a note-on of the input and the message paired with it -/
def IsNoteLength (evs : List (Int × Pairing)) (v : Int) : Prop :=
  ∃ ev ∈ evs, ∃ m off r, ev.2 = m :: off :: r ∧ m.ty = .noteOn ∧ v = off.time - m.time

/-- the note-on events carry non-negative channels (input-level; MIDI channels are 0..15) -/
def ChannelsNonneg (evs : List (Int × Pairing)) : Prop :=
  ∀ ev ∈ evs, ∀ m rest, ev.2 = m :: rest → m.ty = .noteOn → 0 ≤ m.ch

theorem evOk (evs : List (Int × Pairing)) :
    ∀ ev ∈ evs, EvOk (IsChannel evs) (IsNoteLength evs) ev := by
  intro ev hev m rest hm hty
  refine ⟨⟨ev, hev, m, rest, hm, hty, rfl⟩, ?_⟩
  intro off r hr
  exact ⟨ev, hev, m, off, r, by rw [hm, hr], hty, rfl⟩

/-- **The link between token fields and model ticks.**  Every token emitted by `tokeniseCore` (any
    configuration, any carried state, any events) has the shape `Emit`: a rest carries one of the configured
    Int step sizes, a value field is the Int tick distance of a note pairing of the input and one of the
    configured Int note values, a velocity field is a configured Int bin, a track field is an input channel,
    pitch and signature numerator lie in the configured Int ranges.  No hypothesis beyond the run being
    accepted.  Closes A10 (tokens). -/
theorem emitted_fields_are_model_ticks (c : Cfg) (st st' : TokSt) (evs : List (Int × Pairing))
    (toks : List Tok) (hok : tokeniseCore c st evs = .ok (toks, st')) :
    ∀ t ∈ toks, Emit c (IsChannel evs) (IsNoteLength evs) t :=
  tokeniseCore_emits c _ _ st st' evs toks (evOk evs) hok

theorem emit_tokOk {c : Cfg} (h : CfgNonneg c) {evs : List (Int × Pairing)} (hch : ChannelsNonneg evs)
    {t : Tok} (he : Emit c (IsChannel evs) (IsNoteLength evs) t) : TokOk t := by
  have hchan : ∀ ch, IsChannel evs ch → 0 ≤ ch := by
    rintro ch ⟨ev, hev, m, rest, hm, hty, rfl⟩
    exact hch ev hev m rest hm hty
  have hopt : ∀ {o : Option Int}, (∀ x ∈ o, 0 ≤ x) → OptNonneg o := fun {o} ho => by
    cases o with
    | none => trivial
    | some x => exact ho x rfl
  cases t with
  | pad | sta | sto | bar => trivial
  | rest v => exact h.steps _ he
  | trk ch => exact hchan _ he
  | val v => exact h.values _ he.1
  | vel w => exact h.bins _ he
  | note t p v w =>
    obtain ⟨h1, h2, _, h4, h5⟩ := he
    exact ⟨hopt fun x hx => hchan _ (h1 x hx), Int.le_trans h.pitchLo h2, hopt fun x hx => h.values _ (h4 x hx).1,
      hopt fun x hx => h.bins _ (h5 x hx)⟩
  | tsig n d => exact ⟨Int.le_trans h.tsLo he.1, he.2.2 ▸ h.defNum⟩

/-- **Every token that embeds a tick value renders it as an integer.**  For every token `t` emitted by
    `tokeniseCore` — any carried state, any events with non-negative channels, any configuration with
    non-negative parameters — splitting the text `render t` at '-' and then at '_' gives fields each of which
    is a generated prefix or a non-empty string of decimal digits (no '.', no exponent, no sign), and
    reading the fields back with `String.toNat?` gives exactly the token's Int fields, in order.
    Closes A10 (the clause "every token renders ticks as integers"). -/
theorem tokens_render_integers (c : Cfg) (hc : CfgNonneg c) (st st' : TokSt) (evs : List (Int × Pairing))
    (toks : List Tok) (hch : ChannelsNonneg evs) (hok : tokeniseCore c st evs = .ok (toks, st')) :
    ∀ t ∈ toks,
      (∀ f ∈ fieldsOf (render t), f ∈ prefixValues ∨ (f ≠ "" ∧ f.all Char.isDigit = true))
      ∧ (fieldsOf (render t)).filterMap String.toNat? = (ints t).map Int.toNat
      ∧ (∀ x ∈ ints t, 0 ≤ x) := by
  intro t ht
  have hn : TokOk t := emit_tokOk hc hch (emitted_fields_are_model_ticks c st st' evs toks hok t ht)
  refine ⟨?_, ?_, ints_nonneg hn⟩
  · intro f hf
    rw [fieldsOf_render t hn] at hf
    obtain ⟨g, hg, hfg⟩ := List.mem_flatten.1 hf
    obtain ⟨it, hit, rfl⟩ := List.mem_map.1 hg
    exact strs_fields (items_ok t hn it hit) f hfg
  · rw [fieldsOf_render t hn, groups_toNat t hn]

/-- Without any hypothesis, for *any* token whatsoever: the text consists of decimal digits, the two
    separators, a minus sign, and characters of the generated prefixes, which are letters — in particular it
    never contains '.' or '+' (a letter `e` beside a digit is not excluded by this statement).  (This is the part that is true by the typing of
    `Tok`, whose fields are `Int`; the content of C11 for tokens is `tokens_render_integers` together with
    the float-taint typing, which covers the Python values formatted into the f-strings.)  A10. -/
theorem render_has_no_float_syntax (t : Tok) :
    ∀ ch ∈ (render t).toList, ch.isDigit = true ∨ ch = '-' ∨ ch = '_' ∨ ch.isAlpha = true := by
  intro ch hch
  rcases render_chars t ch hch with h | h | h | ⟨p, hp, hx⟩
  · exact Or.inl h
  · exact Or.inr (Or.inl h)
  · exact Or.inr (Or.inr (Or.inl h))
  · have hal : ∀ p ∈ prefixValues, ∀ ch ∈ p.toList, ch.isAlpha = true := by decide +kernel
    exact Or.inr (Or.inr (Or.inr (hal p hp ch hx)))

/-! non-vacuity: a concrete configuration and input satisfy the hypotheses; the conclusion evaluated -/

def exCfg : Cfg := { steps := [2, 3, 4, 6, 12, 24], values := [4, 6, 12], bins := [63, 127], numTracks := 2,
                     pitchLo := 60, pitchHi := 72 }
def exEvs : List (Int × Pairing) :=
  [(0, [Msg.mkOn 1 60 100 0, Msg.mkOff 1 60 12]), (0, [Msg.mkTimeSig 0 3 4 0]),
   (1, [Msg.mkOn 0 64 50 18, Msg.mkOff 0 64 24])]

example : CfgNonneg exCfg := by
  constructor <;> decide
example : ChannelsNonneg exEvs := by
  intro ev hev m rest hm hty
  simp only [exEvs, List.mem_cons, List.not_mem_nil, or_false] at hev
  rcases hev with rfl | rfl | rfl <;> simp at hm <;> obtain ⟨rfl, _⟩ := hm <;> simp [Msg.mkOn, Msg.mkTimeSig] at hty ⊢
example : (tokeniseCore exCfg (TokSt.init exCfg) exEvs).toOption.map (·.1.map render)
    = some ["trk_01-pit_060-val_12-vel_127", "tsg_06_08", "rst_12", "rst_06", "trk_00-pit_064-val_06-vel_063",
            "rst_24", "rst_24", "rst_06", "bar"] := by decide +kernel
example : fieldsOf (render (.note (some 1) 60 (some 12) (some 127)))
    = ["trk", "01", "pit", "060", "val", "12", "vel", "127"] := by
  rw [fieldsOf_render _ (by decide)]; decide
/-- a negative field is outside the digit statement: `rst_-3` splits into `rst`, ``, `3` -/
example : render (.rest (-3)) = "rst_-3" := by decide +kernel

/-! ## the float sites: Python's numeric tower gives an int, and which int

  Every `…Py` term is the operator-by-operator transcription of the cited Python expression
  (`Model/PyNum.lean`, `Model/PyNumSites.lean`).  `PyNum` idealises a float as an exact rational; that is
  exact for the capacities with `PPQN = 24` and for power-of-two denominators (replayed on the real code for
  all numerators/denominators ≤ 128), and is an idealisation elsewhere — see the notes at `load_site`
  and `eighth_scaling_site`. -/

/-- `int(a / d)` of a true quotient of ints is division *truncated toward zero*, for every sign of `a` and
    `d ≠ 0` (`d = 0` raises in Python).  It is the floor division the Lean models write only for a
    non-negative or exact quotient.  A10 (`C11.pyint_int` says only that the result is int-typed, not which int). -/
theorem int_of_quotient_truncates (a d : Int) (hd : d ≠ 0) :
    PyNum.pyint (PyNum.truediv (.int a) (.int d)) = .int (a.tdiv d) :=
  pyint_trunc a d hd _ rfl

example : PyNum.pyint (PyNum.truediv (.int (-7)) (.int 2)) = .int (-3) := by
  rw [int_of_quotient_truncates _ _ (by decide)]; decide
example : (-7 : Int) / 2 = -4 := by decide +kernel

/-- **Capacities, all signs.**  The three capacity expressions — bar.py:26 `int(n * PPQN / (d / 4))`,
    sequence.py:510 `int(PPQN * (n / (d / 4)))`, notelike_tokenisation.py:94/226/256/319/363/414
    `int(ppqn * 4 * n / d)` — are int-typed and equal the truncated quotient, for all ints with `d ≠ 0`.  A10. -/
theorem capacity_sites (n ppqn d : Int) (hd : d ≠ 0) :
    barCapacityPy n ppqn d = .int ((n * ppqn * 4).tdiv d)
    ∧ splitBarLenPy n ppqn d = .int ((n * ppqn * 4).tdiv d)
    ∧ tokCapacityPy n ppqn d = .int ((ppqn * 4 * n).tdiv d) :=
  ⟨barCapacityPy_trunc n ppqn d hd, splitBarLenPy_trunc n ppqn d hd, tokCapacityPy_trunc n ppqn d hd⟩

example : barCapacityPy (-1) 24 128 = .int 0 ∧ tokCapacityPy 3 24 (-4) = .int (-72) := by
  rw [(capacity_sites (-1) 24 128 (by decide)).1, (capacity_sites 3 24 (-4) (by decide)).2.2]; decide

/-- **Capacities equal the models' floor-division formulas** on the domain of the operations: positive
    denominator and `n * ppqn ≥ 0` (`hn` is needed: see `capacity_eq_model_statement_false`; `hd` excludes
    Python's ZeroDivisionError and negative denominators, which no time signature has).  A10. -/
theorem capacity_sites_eq_model (c : Cfg) (n ppqn d : Int) (hn : 0 ≤ n * ppqn) (hd : 0 < d) :
    barCapacityPy n ppqn d = .int (barCapacity ppqn n d)
    ∧ splitBarLenPy n ppqn d = .int (barCapacity ppqn n d)
    ∧ (ppqn = c.ppqn → tokCapacityPy n ppqn d = .int (c.capacity n d)) := by
  have h4 : 0 ≤ n * ppqn * 4 := by omega
  obtain ⟨h1, h2, h3⟩ := capacity_sites n ppqn d (by omega)
  refine ⟨?_, ?_, ?_⟩
  · rw [h1, Int.tdiv_eq_ediv_of_nonneg h4]; rfl
  · rw [h2, Int.tdiv_eq_ediv_of_nonneg h4]; rfl
  · rintro rfl
    have h5 : 0 ≤ c.ppqn * 4 * n := by rw [show c.ppqn * 4 * n = n * c.ppqn * 4 by ring]; exact h4
    rw [h3, Int.tdiv_eq_ediv_of_nonneg h5]; rfl

example : 0 ≤ (6 : Int) * 24 ∧ (0 : Int) < 8 := by decide +kernel
example : barCapacityPy 6 24 8 = .int 72 := by
  rw [(capacity_sites_eq_model { steps := [], values := [], bins := [] } 6 24 8 (by decide) (by decide)).1]; decide

/-- the same without the sign hypothesis — FALSE: Python truncates, the model floors -/
def capacity_eq_model_statement : Prop :=
  ∀ n ppqn d : Int, 0 < d → barCapacityPy n ppqn d = .int (barCapacity ppqn n d)

/-- counter-example `n = -1`, `PPQN = 24`, `d = 128`: `int(-24 / 32.0) = int(-0.75) = 0`, `(-96) // 128 = -1`.
    Replayed on /repo: `int(-1*24/(128/4)) == 0`, `(-1*24*4)//128 == -1`; `Bar(Sequence(), -1, 128)` is accepted
    (capacity 0) while the model's `mkBar` rejects it (`0 > -1`): a model artefact outside the domain
    (Model/Bar.lean:20 floors, bar.py:26 truncates), not a defect — numerators are positive. -/
theorem capacity_eq_model_statement_false : ¬ capacity_eq_model_statement := by
  intro h
  have h1 := h (-1) 24 128 (by decide)
  rw [(capacity_sites (-1) 24 128 (by decide)).1] at h1
  exact absurd h1 (by decide)

/-- **Pad amount** (relative_sequence.py:175-194, called from bar.py:33 with the capacity): with the `int(…)`
    of bar.py:26 the appended wait `padding_length - current_length` is int-typed and is the model's
    `capacity - Σ waits`; with the unguarded capacity (defect D9, repaired in the source) it is a float for every
    input — the PyNum model does see that defect.  A10. -/
theorem pad_amount_site (n ppqn d : Int) (hd : d ≠ 0) (waits : List Int) :
    padAmountPy (barCapacityPy n ppqn d) waits = .int ((n * ppqn * 4).tdiv d - waits.sum)
    ∧ (padAmountPy (barCapacityUnguardedPy n ppqn d) waits).isInt = false := by
  constructor
  · rw [padAmountPy, (capacity_sites n ppqn d hd).1, currentLengthPy_eq]; rfl
  · rw [padAmountPy, currentLengthPy_eq]; rfl

example : padAmountPy (barCapacityPy 4 24 4) [24, 12] = .int 60 := by
  rw [(pad_amount_site 4 24 4 (by decide) [24, 12]).1]; decide

/-- **Eighth scaling** (notelike_tokenisation.py:215-219): `float(n * (D / d)).is_integer()` is the model's
    divisibility test `(n * D) % d = 0`, and then `int(scaled)` is the model's `n * D / d` — any signs,
    `d ≠ 0`.  (Idealisation: in IEEE arithmetic `49 * (8 / 49) = 7.999999999999999`, so the real tokeniser
    rejects a 49/49 signature that the model accepts; exact for power-of-two denominators.)  A10. -/
theorem eighth_scaling_site (n D d : Int) (hd : d ≠ 0) :
    eighthIsIntegerPy n D d = decide ((n * D) % d = 0)
    ∧ ((n * D) % d = 0 → eighthIntPy n D d = .int (n * D / d)) :=
  ⟨eighthIsIntegerPy_eq n D d hd, eighthIntPy_eq n D d hd⟩

example : eighthIsIntegerPy 3 8 4 = true ∧ eighthIntPy 3 8 4 = .int 6 := by
  rw [(eighth_scaling_site 3 8 4 (by decide)).1, (eighth_scaling_site 3 8 4 (by decide)).2 (by decide)]; decide
example : eighthIsIntegerPy 3 8 16 = false := by
  rw [(eighth_scaling_site 3 8 16 (by decide)).1]; decide

/-- **Halving a simplifiable signature** (notelike_tokenisation.py:322-326): under the code's own guard
    `a % 2 == 0`, `int(a / 2)` is the model's `a / 2`; without the guard it is the truncated quotient.  A10. -/
theorem half_site (a : Int) : halfPy a = .int (a.tdiv 2) ∧ (a % 2 = 0 → halfPy a = .int (a / 2)) :=
  ⟨halfPy_trunc a, halfPy_eq a⟩

example : halfPy 6 = .int 3 ∧ halfPy (-3) = .int (-1) := by
  rw [(half_site 6).2 (by decide), (half_site (-3)).1]; decide

/-- **MIDI load** (midi_file.py:56, 70, 83-84): the running point in time is a float after the first message,
    and `round(…)` returns the int the model computes, `roundHalfEven (Σ deltas * PPQN / filePPQ)` —
    for exact arithmetic.  (Idealisation, replayed on /repo: with 480 ticks per beat the real loader puts a
    message at file tick 70 at time 3 when it is reached by 70 deltas of 1 (float sum 3.4999999999999956) and at
    time 4 when reached by deltas 69+1; the model says 4 in both cases.  Both are ints.  Exact whenever
    `PPQN / filePPQ` is a dyadic rational, e.g. filePPQ = 24·2^k.)  `filePpq = 0` raises in Python.  A10. -/
theorem load_site (ppqn filePpq : Int) (deltas : List Int) :
    loadTimePy ppqn filePpq deltas
        = .int (roundHalfEven ((deltas.sum : Rat) * (ppqn : Rat) / (filePpq : Rat)))
    ∧ (deltas ≠ [] → (loadPointPy ppqn filePpq deltas).isInt = false) := by
  refine ⟨loadTimePy_eq ppqn filePpq deltas, fun h => ?_⟩
  cases deltas with
  | nil => exact absurd rfl h
  | cons t ts => exact loadPointPy_float ppqn filePpq t ts

example : loadTimePy 24 480 [69, 1] = .int 4 := by rw [(load_site 24 480 [69, 1]).1]; decide +kernel

/-- **MIDI save / cap message** (midi_track.py:32-57 `int(time_buffer)`, relative_sequence.py:55-67
    `int(current_point_in_time)`): a sum of int ticks is an int, and `int(…)` leaves it unchanged.  A10. -/
theorem save_site (times : List Int) : saveTimePy times = .int times.sum := by
  unfold saveTimePy; rw [foldl_add_int]; simp [PyNum.pyint]

example : saveTimePy [0, 12, 0, 36] = .int 48 := by rw [save_site]; decide

/-- **`get_note_durations`** (util.py:122-151) on int arguments: every element is int-typed, the list is the
    integer computation `getNoteDurations`, and — independently of the fuel — its elements are exactly
    `trunc(ub * base / 2^j)` for `2^j ≤ ub` followed by `trunc(base / 2^j)` for `j ≥ 1`, `2^j ≤ lb`.
    The loop variable `i` is a float from the second iteration on (`i /= 2`); it is `int(…)` that keeps the
    appended values ints.  Holds for every sign of `base`.  A10. -/
theorem note_durations_site (fuel : Nat) (ub lb base : Int) :
    getNoteDurationsPy fuel (.int ub) (.int lb) (.int base)
        = (getNoteDurations fuel ub lb base).map (·.map PyNum.int)
    ∧ (∀ l, getNoteDurations fuel ub lb base = some l → ∀ x, x ∈ l ↔
          (∃ j, (2 : Int) ^ j ≤ ub ∧ x = (ub * base).tdiv (2 ^ j))
          ∨ (∃ j, 1 ≤ j ∧ (2 : Int) ^ j ≤ lb ∧ x = base.tdiv (2 ^ j)))
    ∧ (1 ≤ fuel → ub < 2 ^ (fuel - 1) → lb < 2 ^ fuel → (getNoteDurations fuel ub lb base).isSome = true) := by
  refine ⟨getNoteDurationsPy_eq fuel ub lb base, ?_, ?_⟩
  · intro l hl x
    unfold getNoteDurations at hl
    cases ha : noteDurUp base ub fuel 0 with
    | none => rw [ha] at hl; cases hl
    | some a =>
      cases hb : noteDurDown base lb fuel 1 with
      | none => rw [ha, hb] at hl; cases hl
      | some b =>
        rw [ha, hb] at hl; cases hl
        rw [noteDurUp_eq] at ha; rw [noteDurDown_eq] at hb
        rw [List.mem_append, mem_powLoop _ ub fuel 0 a ha x, mem_powLoop _ lb fuel 1 b hb x]
        simp
  · intro hf hub hlb
    obtain ⟨f, rfl⟩ : ∃ f, fuel = f + 1 := ⟨fuel - 1, by omega⟩
    have h1 := powLoop_isSome (fun k => (ub * base).tdiv (2 ^ k)) ub f 0 (by simpa using hub)
    have h2 := powLoop_isSome (fun k => base.tdiv (2 ^ k)) lb f 1 (by rw [Nat.add_comm]; exact hlb)
    rw [getNoteDurations, noteDurUp_eq, noteDurDown_eq]
    obtain ⟨a, ha⟩ := Option.isSome_iff_exists.1 h1
    obtain ⟨b, hb⟩ := Option.isSome_iff_exists.1 h2
    rw [ha, hb]; rfl

example : (1 : Nat) ≤ 4 ∧ (1 : Int) < 2 ^ (4 - 1) ∧ (4 : Int) < 2 ^ 4 := by decide +kernel
example : getNoteDurationsPy 4 (.int 1) (.int 4) (.int 24) = some [.int 24, .int 12, .int 6] := by
  rw [(note_durations_site 4 1 4 24).1]; decide
example : getNoteDurations 4 1 4 24 = some [24, 12, 6] := by decide +kernel
example : getNoteDurations 4 2 8 24 = some [48, 24, 12, 6, 3] := by decide +kernel

/-- **`get_tuplet_durations`** (util.py:171 `int((nd * rd) / rn)`) and **`get_dotted_note_durations`**
    (util.py:194-196): on int durations every appended value is int-typed; a tuplet is the truncated
    quotient `(nd * rd) tdiv rn` (`rn ≠ 0`; `rn = 0` raises), a dotted value is kept exactly when
    `2^(it+1)` divides `nd * (2^(it+2) - 1)` and is then that exact quotient.  A10. -/
theorem tuplet_dotted_sites (nds : List Int) (rn rd : Int) (hrn : rn ≠ 0) (iterations : Nat) :
    getTupletDurationsPy (nds.map PyNum.int) (.int rn) (.int rd)
        = (nds.map fun nd => (nd * rd).tdiv rn).map PyNum.int
    ∧ getDottedNoteDurationsPy (nds.map PyNum.int) iterations
        = (getDottedNoteDurations nds iterations).map PyNum.int :=
  ⟨getTupletDurationsPy_eq nds rn rd hrn, getDottedNoteDurationsPy_eq nds iterations⟩

example : getTupletDurationsPy [.int 24, .int 12, .int 6] (.int 3) (.int 2) = [.int 16, .int 8, .int 4] := by
  rw [show [PyNum.int 24, .int 12, .int 6] = [24, 12, 6].map PyNum.int from rfl,
    (tuplet_dotted_sites [24, 12, 6] 3 2 (by decide) 0).1]; decide
example : getDottedNoteDurations [24, 12, 6, 3] 2 = [36, 18, 9, 42, 21] := by decide +kernel

open SCoda.Gen SCoda.C11

/-- **Soundness skeleton of the float-taint typing.**  For any facts `fns` and *any* certificate
    (`ff`, and the `cert` fields) that is closed under the typing rules: a sink that is not maybe-float under
    the certificate is not maybe-float in the least solution of the rules (`MaybeFloat`, defined inductively
    from the rules alone, without reference to any certificate).  A10. -/
theorem typing_sound_for_least_solution (fns : List TaintFn) (ff : List Nat)
    (hclosed : fns.all (closedFn ff) = true) (fn : TaintFn) (s : String × TaintInfo)
    (hclean : infoTainted fn.cert ff s.2 = false) : ¬ MaybeFloat fns fn s.2 := by
  intro h
  rw [maybeFloat_le_cert fns ff hclosed fn s.2 h] at hclean
  cases hclean

/-- **No float reaches a tick — in the least solution**, for the current source: no sink of any function of
    the modelled files (tick stores, `time=` arguments, arguments of library functions, values returned by the
    duration helpers, ticks formatted into tokens) is maybe-float in the least solution of the typing rules
    over the regenerated facts.  The generated certificate is used only as a witness.  A10. -/
theorem no_float_reaches_a_tick_least :
    ∀ fn ∈ taintFns, ∀ s ∈ fn.sinks, ¬ MaybeFloat taintFns fn s.2 := by
  intro fn hfn s hs
  apply typing_sound_for_least_solution taintFns taintFloatFns cert_closed fn s
  have h1 := List.all_eq_true.1 no_float_reaches_a_tick fn hfn
  have h2 := List.all_eq_true.1 h1 s hs
  simpa using h2

/-- the same for the executable iteration (`C11.varStep`, `C11.iter`; `n` local rounds per function, `m`
    global rounds over the set of float-returning functions), at every stage — through `C11.least_le_cert` -/
theorem no_float_reaches_a_tick_iterative (n m : Nat) :
    ∀ fn ∈ taintFns, ∀ s ∈ fn.sinks,
      infoTainted (fnVars n (leastFns n m taintFns) fn) (leastFns n m taintFns) s.2 = false := by
  intro fn hfn s hs
  have hff := leastFns_le_cert n m taintFns taintFloatFns cert_closed
  have hv := fnVars_le_cert n _ taintFloatFns hff fn (List.all_eq_true.1 cert_closed fn hfn)
  cases h : infoTainted (fnVars n (leastFns n m taintFns) fn) (leastFns n m taintFns) s.2 with
  | false => rfl
  | true =>
    have h1 := List.all_eq_true.1 (List.all_eq_true.1 no_float_reaches_a_tick fn hfn) s hs
    rw [infoTainted_mono s.2 hv hff h] at h1
    cases h1

/-- the least solution is not empty: a function whose return expression contains a true division is
    derivably float-returning (so the rules do fire on the generated facts) -/
example : ∃ f, Derivable taintFns (.ret f) := by
  have h : ∃ fn ∈ taintFns, ∃ r ∈ fn.returns, r.2.1 = true := by decide +kernel
  obtain ⟨fn, hfn, r, hr, hn⟩ := h
  exact ⟨fn.name, Derivable.retNode hfn hr hn⟩

/-- and the soundness skeleton rejects a tainted sink: toy facts, one function `x = 1 / 2; m.time = x` -/
example :
    let fn : TaintFn := { qual := "toy", name := 0, assigns := [(1, ([], true, []))],
                          sinks := [("m.time = x", ([1], false, []))], returns := [], cert := [1] }
    MaybeFloat [fn] fn ([1], false, []) :=
  Or.inr (Or.inl ⟨1, by simp, Derivable.assignNode (a := (1, ([], true, []))) (by simp) (by simp) rfl⟩)

end SCoda.C11d
