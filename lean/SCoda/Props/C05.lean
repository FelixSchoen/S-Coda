/-
  C05 — quantise puts every event on the grid and keeps every note well-formed.
  `quantise steps a` is the walk of `AbsoluteSequence.quantise` over the messages in the order given (Model/Quantise.lean, after the
  repairs D10/D11).  The method sorts first (finding D41 repaired): its model is `quantiseS steps a = quantise steps (sortAbs a)`, and
  Props/C05s.lean restates every theorem of this file about it.
-/
import SCoda.Model.Quantise
import SCoda.Model.Roll
import SCoda.Lemmas.QuantiseK
namespace SCoda.C05
open SCoda

def maxStep : List Int → Int
  | [] => 0
  | s :: ss => max s (maxStep ss)

def StepsOk (steps : List Int) : Prop := steps ≠ [] ∧ ∀ s ∈ steps, 0 < s

/-- `find_minimal_distance`: the returned index is in range and minimises the distance (that it is the first such index is
    `Q.fmd_first_min`) -/
theorem fmd_spec (e : Int) (coll : List Int) (h : coll ≠ []) :
    ∃ v, coll[findMinimalDistance e coll]? = some v ∧ ∀ w ∈ coll, (v - e).natAbs ≤ (w - e).natAbs :=
  let ⟨v, hv, hmin, _⟩ := Q.fmd_first_min e coll h; ⟨v, hv, hmin⟩

theorem le_maxStep {steps : List Int} {s : Int} (h : s ∈ steps) : s ≤ maxStep steps := by
  induction steps with
  | nil => cases h
  | cons x xs ih =>
    simp only [maxStep]
    rcases List.mem_cons.1 h with rfl | h
    · omega
    · have := ih h; omega

/-- every candidate position of a tick lies on the grid and within one (own) step of the tick -/
theorem candidates_spec (steps : List Int) (hs : StepsOk steps) (t : Int) :
    ∀ p ∈ possiblePositions steps t, (∃ s ∈ steps, p % s = 0) ∧ (p - t).natAbs ≤ (maxStep steps).toNat := by
  intro p hp
  obtain ⟨s, hs1, hp⟩ := Q.mem_possiblePositions hp
  obtain ⟨h1, h2, _⟩ := Q.cand_props (hs.2 s hs1) hp
  have := le_maxStep hs1
  exact ⟨⟨s, hs1, h1⟩, by omega⟩

/-- quantise never fails: the Python code's dictionary look-ups `message_timings[key][1]` and `.pop(key)` cannot raise, on any
    input (`Q.quantise_total_any`; `hok` and `hwf` say for which inputs the property asks it) -/
theorem total (steps : List Int) (hs : StepsOk steps) (a : List Msg) (hok : OkAbs a) (hwf : WF a) :
    ∃ out, quantise steps a = .ok out := by
  have _ := hok
  have _ := hwf
  exact Q.quantise_total_any hs.1 a

/-- **on the grid**: every remaining event lies on a tick divisible by at least one step size -/
theorem on_grid (steps : List Int) (hs : StepsOk steps) (a out : List Msg) (h : quantise steps a = .ok out) :
    ∀ m ∈ out, ∃ s ∈ steps, m.time % s = 0 := by
  intro m hm
  exact (Q.quantise_times hs.1 (T := fun p => ∃ s ∈ steps, p % s = 0)
    (fun m _ p hp => (candidates_spec steps hs m.time p hp).1) h m hm).1

/-- the result is time-sorted with non-negative ticks -/
theorem sorted_out (steps : List Int) (hs : StepsOk steps) (a out : List Msg) (hok : OkAbs a)
    (h : quantise steps a = .ok out) : OkAbs out := by
  obtain ⟨_, _, _, _, hout⟩ := Q.quantise_ok h
  have key := Q.quantise_times hs.1 (T := fun p => 0 ≤ p) (fun m hm p hp => by
    obtain ⟨s, hs1, hp⟩ := Q.mem_possiblePositions hp
    exact (Q.cand_props (hs.2 s hs1) hp).2.2 (hok.2.1 m hm)) h
  refine ⟨?_, fun m hm => (key m hm).1, ?_⟩
  · rw [hout]; exact sortAbs_timeSorted _
  · intro m hm hw
    rcases (key m hm).2 with h1 | ⟨m0, hm0, h1⟩
    · rw [hw] at h1; cases h1
    · exact hok.2.2 m0 hm0 (by rw [← h1, hw])

/-- **bounded displacement** (well-formed input): every remaining message is an input message whose
    time moved by at most the largest step size, everything else about it unchanged -/
theorem displacement (steps : List Int) (hs : StepsOk steps) (a out : List Msg) (hok : OkAbs a) (hwf : WF a)
    (h : quantise steps a = .ok out) :
    ∀ m' ∈ out, ∃ m ∈ a, m' = { m with time := m'.time } ∧ (m'.time - m.time).natAbs ≤ (maxStep steps).toNat := by
  have _ := hok
  intro m' hm'
  obtain ⟨m, hm, he, hp⟩ := Q.quantise_cand hs.1 hwf h m' hm'
  exact ⟨m, hm, he, (candidates_spec steps hs m.time _ hp).2⟩

/-- **non-note events are all kept** (only their time changes) -/
theorem others_kept (steps : List Int) (hs : StepsOk steps) (a out : List Msg) (h : quantise steps a = .ok out) :
    ((nonNotes out).map (fun m => { m with time := 0 })).Perm ((nonNotes a).map (fun m => { m with time := 0 })) := by
  obtain ⟨s, idx, hf, hidx, rfl⟩ := Q.quantise_ok h
  -- the fold puts every non-note message out, re-timed …
  obtain ⟨s', hf', _, hinv⟩ := Q.fold_inv hs.1 (fun pre _ s => ((nonNotes s.out).map Q.zt).Perm ((nonNotes pre).map Q.zt))
    (fun pre m post s s' _ h hany => by
      rw [Q.nonNotes_step hany, show nonNotes (pre ++ [m]) = nonNotes pre ++ nonNotes [m] from List.filter_append .., List.map_append]
      exact List.perm_append_comm.trans (h.append_right _)) a [] {} Q.sInv_init (List.Perm.refl _)
  rw [hf] at hf'
  cases hf'
  -- … and neither the removal of the collapsed notes nor the sort touches them
  have h1 : (nonNotes (sortAbs (removeIndices s.out.reverse idx))).Perm (nonNotes s.out) := by
    unfold nonNotes
    refine ((sortAbs_perm _).filter _).trans ?_
    have := Q.nonNotes_removeIndices hidx
    unfold nonNotes at this
    rw [this, List.filter_reverse]
    exact List.reverse_perm _
  exact (h1.map Q.zt).trans hinv

/-- note-ons and note-offs still pair one-to-one per channel and pitch: the output is well-formed -/
theorem wf_out (steps : List Int) (hs : StepsOk steps) (a out : List Msg) (hok : OkAbs a) (hwf : WF a)
    (h : quantise steps a = .ok out) : WF out := by
  have _ := hok
  intro k
  obtain ⟨N, hN, _, hq, _⟩ := Q.quantise_view hs.1 hwf h k
  exact (altFrom_filter_kn k out false).1 (hN ▸ NotesBL.altFrom_unpair N fun q hq0 => (hq q hq0).good)

/-- every note of the output has positive duration (that notes of one channel and pitch do not overlap is
    `Strong589.no_overlap` / `C05s.no_overlap`) -/
theorem positive_durations (steps : List Int) (hs : StepsOk steps) (a out : List Msg) (hok : OkAbs a) (hwf : WF a)
    (h : quantise steps a = .ok out) :
    ∀ n ∈ notesOf out, n.on < n.off := by
  have _ := hok
  intro n hn
  obtain ⟨N, _, hnotes, hq, _⟩ := Q.quantise_view hs.1 hwf h (n.ch, n.pitch)
  obtain ⟨q, hq0, rfl⟩ := List.mem_map.1 (hnotes ▸ List.mem_filter.2 ⟨hn, decide_eq_true rfl⟩)
  exact (hq q hq0).pos

/-! non-vacuity: the D11 shape (two interleaved notes collapsing) and the D10 shape (same pitch on two channels) -/
def ex1 : List Msg := [Msg.mkOn 0 60 64 7, Msg.mkOn 0 62 64 7, Msg.mkOff 0 60 8, Msg.mkOff 0 62 8,
                       { ty := .controlChange, ch := 0, time := 30, vel := 1, ctl := 1 }]
example : quantise [12] ex1 = .ok [{ ty := .controlChange, ch := 0, time := 24, vel := 1, ctl := 1 }] := by
  rfl
def ex2 : List Msg := [Msg.mkOn 0 60 64 0, Msg.mkOn 1 60 64 0, Msg.mkOff 0 60 24, Msg.mkOff 1 60 24]
example : quantise [12] ex2 = .ok ex2 := by
  rfl
example : StepsOk [24, 12, 6, 16, 8, 4] := by
  refine ⟨by simp, ?_⟩
  intro s hs'
  simp at hs'
  omega

end SCoda.C05
