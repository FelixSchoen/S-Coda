/-
  C03, the glue to the bars of the real pipeline (audit item A1 (ii)), with input-level hypotheses only:
  `extract_wholebars_full` / `extract_wholebars_nozero` prove the FULL conclusion of `C03c.extract_wholebars_statement`
  (`SameNotes` against the one-bar runs included, for runs of any length).  `_nozero` is the statement of Props/C03c
  verbatim plus the hypotheses `0 < ppqn`, `SigsPos`, no zero-length notes, one channel per track; `_full` has the same
  conclusion with the per-track hypotheses gathered in `TrackIn` (and `0 ≤ ppqn`, which it does not use).
  Which of these are needed: no zero-length notes (`C03e.extract_wholebars_statement_false`; needed by the
  implementation too) and positive signatures (`nozero_needs_sigsPos`; needed by the implementation too); `0 < ppqn` is
  implied by `SigsPos` (`sigsPos_ppqn`); one channel per track is a need of the proof for which no counter-example is
  known.
-/
import SCoda.Props.C03e
import SCoda.Lemmas.BarGoodL
namespace SCoda.C03f
open SCoda SCoda.C01 SCoda.ChunksL SCoda.C03c SCoda.C03e SCoda.GlueL SCoda.ExtractL SCoda.SplitL

/-- the input class of the glue, per track: non-negative waits and no INTERNAL message (`OkRel`), well-formed (per
    channel and pitch note-ons and note-offs alternate), no zero-length note (the class of known finding D18), and
    all messages on one channel -/
def TrackIn (t : List Msg) : Prop := OkRel t ∧ WF t ∧ NoZeroNotes t ∧ ∃ ch, ∀ m ∈ t, m.ch = ch

/-- the bar-level hypothesis `hgood` of `C03e.extract_wholebars_partial`, from the input class `TrackIn` -/
theorem bars_trackGood (c : Cfg) (values : List Int) (tracks : List (List Msg)) (tb : List (List Bar))
    (hs : SigsPos c tracks) (htr : ∀ t ∈ tracks, TrackIn t)
    (h : splitBars c.ppqn values tracks 0 false = .ok tb) :
    ∀ i bs, tb[i]? = some bs → ∀ b ∈ bs, TrackGood i b.seq :=
  splitBars_trackGood c.ppqn values tracks tb h
    (fun b hb => by rw [← capacity_eq_barCapacity]; exact (bars_pos c values tracks tb h hs b hb).2.2) htr

/-- **A1 (ii), structural part, input-level hypotheses only.**  Tracks with positive signatures on the meta track
    (`SigsPos`), each well-formed, without zero-length notes and on one channel (`TrackIn`): for the bars `splitBars`
    returns, what the tokeniser's `extract` makes of any run `[lo, hi)` of them is `layBars` of a well-formed whole-bar
    chunk after any running bar length `C`, with one `BarEv` per bar carrying that bar's signature. -/
theorem extract_wholebars_input (c : Cfg) (hp : 0 ≤ c.ppqn) (values : List Int) (tracks : List (List Msg)) (tb : List (List Bar))
    (hs : SigsPos c tracks) (htr : ∀ t ∈ tracks, TrackIn t)
    (h : splitBars c.ppqn values tracks 0 false = .ok tb) (hn : tb.length = c.numTracks)
    (lo hi : Nat) (C : Int) (hlo : lo < hi) (hhi : ∀ bs ∈ tb, hi ≤ bs.length) :
    ∃ bars : List BarEv,
      extract c.ppqn (tb.map (fun bs => barsToSeq ((bs.drop lo).take (hi - lo)))) = layBars c bars
        ∧ BarsOk c C bars
        ∧ bars.map (fun b => (b.num, b.den)) = (((tb.headD []).drop lo).take (hi - lo)).map (fun b => (b.num, b.den)) :=
  extract_wholebars_partial c hp values tracks tb hs h hn lo hi C hlo hhi
    (fun i bs hbs b hb => bars_trackGood c values tracks tb hs htr h i bs hbs b
      (mem_of_mem_slice hb))

/-- the example of Props/C03e (two tracks, 4/4 4/4 6/8, a note crossing the first bar line) is in the input class -/
theorem gTracks_in : ∀ t ∈ [gTrack0, gTrack1], TrackIn t := by
  intro t ht
  simp only [List.mem_cons, List.not_mem_nil, or_false] at ht
  rcases ht with rfl | rfl
  · exact ⟨by decide, by decide, noZero_of_keys _ (by decide), 0, by decide⟩
  · exact ⟨by decide, by decide, noZero_of_keys _ (by decide), 0, by decide⟩

example : ∃ bars : List BarEv,
    extract 24 (gBars.map (fun bs => barsToSeq ((bs.drop 0).take (3 - 0)))) = layBars C03c.exCfg bars ∧ BarsOk C03c.exCfg 7 bars
      ∧ bars.map (fun b => (b.num, b.den)) = [(4, 4), (4, 4), (6, 8)] :=
  extract_wholebars_input C03c.exCfg (by decide) [] [gTrack0, gTrack1] gBars (by decide) gTracks_in gBars_eq gBars_shape.1
    0 3 7 (by omega) gBars_shape.2.1

/-- **A1 (ii), the full conclusion of `C03c.extract_wholebars_statement`, input-level hypotheses only.**  For bars
    returned by `splitBars` from tracks in the input class (`SigsPos`, `TrackIn`), what `extract` makes of any run
    `[lo, hi)` of them is a well-formed whole-bar chunk after any running bar length `C`, with one `BarEv` per bar
    carrying that bar's signature, and bar by bar it has the same lengths and — up to the order of simultaneous
    events — the same note events as the one-bar runs. -/
theorem extract_wholebars_full (c : Cfg) (hp : 0 ≤ c.ppqn) (values : List Int) (tracks : List (List Msg)) (tb : List (List Bar))
    (hs : SigsPos c tracks) (htr : ∀ t ∈ tracks, TrackIn t)
    (h : splitBars c.ppqn values tracks 0 false = .ok tb) (hn : tb.length = c.numTracks)
    (lo hi : Nat) (C : Int) (hlo : lo < hi) (hhi : ∀ bs ∈ tb, hi ≤ bs.length) :
    ∃ bars : List BarEv,
      extract c.ppqn (tb.map (fun bs => barsToSeq ((bs.drop lo).take (hi - lo)))) = layBars c bars
        ∧ BarsOk c C bars
        ∧ bars.map (fun b => (b.num, b.den)) = (((tb.headD []).drop lo).take (hi - lo)).map (fun b => (b.num, b.den))
        ∧ ∃ one : List BarEv,
            (∀ i, i < hi - lo → ∀ b ∈ one[i]?,
                extract c.ppqn (tb.map (fun bs => barsToSeq ((bs.drop (lo + i)).take 1))) = layBars c [b])
            ∧ one.length = hi - lo ∧ SameNotes c bars one :=
  have _ := hp
  splitBars_run c values tracks tb h hn lo hi C hlo hhi
    (fun i bs hbs b hb => bars_trackGood c values tracks tb hs htr h i bs hbs b (mem_of_mem_slice hb))
    (fun b hb => bars_pos c values tracks tb h hs b (mem_of_mem_slice hb))

/-- **`extract_wholebars_statement` with the missing hypotheses** (the statement of Props/C03c verbatim, plus: a
    positive resolution, positive signatures on the meta track, no zero-length notes, one channel per track). -/
theorem extract_wholebars_nozero :
    ∀ (c : Cfg) (values : List Int) (tracks : List (List Msg)) (tb : List (List Bar)),
      0 < c.ppqn → SigsPos c tracks → (∀ t ∈ tracks, NoZeroNotes t ∧ ∃ ch, ∀ m ∈ t, m.ch = ch) →
      (∀ t ∈ tracks, OkRel t ∧ WF (eventsRel t)) →
      splitBars c.ppqn values tracks 0 false = .ok tb → tb.length = c.numTracks →
      ∀ (lo hi : Nat) (C : Int), lo < hi → (∀ bs ∈ tb, hi ≤ bs.length) →
        ∃ bars : List BarEv,
          extract c.ppqn (tb.map (fun bs => barsToSeq ((bs.drop lo).take (hi - lo)))) = layBars c bars
            ∧ BarsOk c C bars
            ∧ bars.map (fun b => (b.num, b.den)) = (((tb.headD []).drop lo).take (hi - lo)).map (fun b => (b.num, b.den))
            ∧ ∃ one : List BarEv,
                (∀ i, i < hi - lo → ∀ b ∈ one[i]?,
                    extract c.ppqn (tb.map (fun bs => barsToSeq ((bs.drop (lo + i)).take 1))) = layBars c [b])
                ∧ one.length = hi - lo ∧ SameNotes c bars one := by
  intro c values tracks tb hp hs hz hok h hn lo hi C hlo hhi
  exact extract_wholebars_full c (Int.le_of_lt hp) values tracks tb hs
    (fun t ht => ⟨(hok t ht).1, wf_of_events t (hok t ht).2, (hz t ht).1, (hz t ht).2⟩) h hn lo hi C hlo hhi

/-- all hypotheses of `extract_wholebars_nozero` hold of the example (two tracks, 4/4 4/4 6/8, a note crossing the
    first bar line), for the whole piece and a running bar length that is not the first bar's -/
example : ∃ bars one : List BarEv,
    extract 24 (gBars.map (fun bs => barsToSeq ((bs.drop 0).take (3 - 0)))) = layBars C03c.exCfg bars ∧ BarsOk C03c.exCfg 7 bars
      ∧ one.length = 3 ∧ SameNotes C03c.exCfg bars one := by
  obtain ⟨bars, h1, h2, _, one, _, h5, h6⟩ := extract_wholebars_nozero C03c.exCfg [] [gTrack0, gTrack1] gBars (by decide) (by decide)
    (fun t ht => ⟨(gTracks_in t ht).2.2.1, (gTracks_in t ht).2.2.2⟩)
    (fun t ht => ⟨(gTracks_in t ht).1, wf_events t (gTracks_in t ht).2.1⟩)
    gBars_eq gBars_shape.1 0 3 7 (by omega) gBars_shape.2.1
  exact ⟨bars, one, h1, h2, h5, h6⟩

/-- `SigsPos` already says that the resolution is positive (so `0 < c.ppqn` in `extract_wholebars_nozero` is redundant) -/
theorem sigsPos_ppqn (c : Cfg) (tracks : List (List Msg)) (h : SigsPos c tracks) : 0 < c.ppqn := by
  have := h.1
  unfold Cfg.capacity at this
  omega

/-- a silent one-track piece whose only message is the signature 0/4 -/
def silentTracks : List (List Msg) := [[Msg.mkTimeSig 0 0 4 pyNone]]
def silentBars : List (List Bar) := [[{ seq := [Msg.mkTimeSig 0 0 4 pyNone], num := 0, den := 4, key := pyNone }]]

/-- **`SigsPos` is needed**: the statement with every other hypothesis of `extract_wholebars_nozero` is false — a
    silent piece with the signature 0/4 is split into one bar of length 0 (by the implementation too), which is not a
    well-formed bar. -/
theorem nozero_needs_sigsPos :
    ¬ (∀ (c : Cfg) (values : List Int) (tracks : List (List Msg)) (tb : List (List Bar)),
        0 < c.ppqn → (∀ t ∈ tracks, NoZeroNotes t ∧ ∃ ch, ∀ m ∈ t, m.ch = ch) → (∀ t ∈ tracks, OkRel t ∧ WF (eventsRel t)) →
        splitBars c.ppqn values tracks 0 false = .ok tb → tb.length = c.numTracks →
        ∀ (lo hi : Nat) (C : Int), lo < hi → (∀ bs ∈ tb, hi ≤ bs.length) →
          ∃ bars : List BarEv, BarsOk c C bars
            ∧ bars.map (fun b => (b.num, b.den)) = (((tb.headD []).drop lo).take (hi - lo)).map (fun b => (b.num, b.den))) := by
  intro hst
  have hsb : splitBars zCfg.ppqn [] silentTracks 0 false = .ok silentBars := Strong589LB.ok_of_toOption (by decide +kernel)
  obtain ⟨bars, hok, hsig⟩ := hst zCfg [] silentTracks silentBars (by decide)
    (by
      intro t ht
      simp only [silentTracks, List.mem_singleton] at ht
      subst ht
      exact ⟨noZero_of_keys _ (by decide), 0, by decide⟩)
    (by
      intro t ht
      simp only [silentTracks, List.mem_singleton] at ht
      subst ht
      exact ⟨by decide, by decide⟩)
    hsb rfl 0 1 0 (by omega) (by decide)
  match bars, hsig, hok with
  | [b], hsig, hok =>
    have : b.num = 0 := by
      simp [silentBars] at hsig
      exact hsig.1
    have h1 := hok.1.numPos
    omega
  | [], hsig, _ => simp [silentBars] at hsig
  | _ :: _ :: _, hsig, _ => simp [silentBars] at hsig

end SCoda.C03f
