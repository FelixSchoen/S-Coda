/-
  C15 — merging sequences yields exactly the union of their music.
  `Sequence.merge` = `AbsoluteSequence.merge` (append all messages, stable sort) followed by
  `normalise` on the relative view.  `mergeRel as` is the relative view of the result when the
  receiver and the arguments have the absolute views `as` (receiver first).
-/
import SCoda.Model.Wrapper
import SCoda.Model.Roll
import SCoda.Props.C04
import SCoda.Props.C07
import SCoda.Lemmas.Merge
namespace SCoda.C15
open SCoda SCoda.MergeL

def mergeRel (as : List (List Msg)) : List Msg := normalise (toRel (sortAbs as.flatten))

/-- `mergeRel` is what the wrapper computes -/
theorem mergeSeq_eq (a : List Msg) (others : List (List Msg)) :
    ((Seq.ofAbs a).mergeSeq others).toOption.map (fun s => (s.rel, s.relStale, s.absStale))
      = some (mergeRel (a :: others), false, true) := by
  simp [Seq.mergeSeq, Seq.onAbs, Seq.readAbs, Seq.normaliseSeq, Seq.onRel, Seq.readRel, Seq.ofAbs,
    mergeAbs, mergeRel, bind, Except.bind, Except.toOption]

/-- every note lasts at least one tick.  `union` needs it: merged with a note of length 0 of its key that begins on the same tick,
    a real note disappears altogether (finding D17c, `NotesB.union_statement_false`) -/
def PosDur (a : List Msg) : Prop := ∀ n ∈ notesOf a, n.on < n.off

def maxDur : List (List Msg) → Int
  | [] => 0
  | a :: as => max (durAbs a) (maxDur as)

/-- the relative view that `mergeRel` normalises has no negative wait -/
theorem nnR (as : List (List Msg)) (h : ∀ a ∈ as, OkAbs a) : NonNegWaits (toRel (sortAbs as.flatten)) :=
  (C04.toRel_ok _ (okAbs_sortAbs_flatten as h)).1

theorem maxDur_spec (as : List (List Msg)) (h : ∀ a ∈ as, OkAbs a) :
    (∀ e ∈ as.flatten, e.time ≤ maxDur as) ∧ (maxDur as = 0 ∨ ∃ e ∈ as.flatten, e.time = maxDur as) := by
  induction as with
  | nil => exact ⟨by simp, Or.inl rfl⟩
  | cons a as ih =>
    obtain ⟨ih1, ih2⟩ := ih (fun b hb => h b (List.mem_cons_of_mem _ hb))
    obtain ⟨hs, hn, _⟩ := h a (by simp)
    obtain ⟨h0, h1, h2⟩ := durAbs_spec a ((timeSorted_iff_pairwise a).1 hs) hn
    simp only [maxDur, List.flatten_cons, List.mem_append]
    constructor
    · rintro e (he | he)
      · have := h1 e he; omega
      · have := ih1 e he; omega
    · by_cases hc : durAbs a ≤ maxDur as
      · rw [Int.max_eq_right hc]
        rcases ih2 with ih2 | ⟨e, he, heq⟩
        · exact Or.inl ih2
        · exact Or.inr ⟨e, Or.inr he, heq⟩
      · rw [Int.max_eq_left (by omega)]
        rcases h2 with h2 | ⟨e, he, heq⟩
        · exact Or.inl h2
        · exact Or.inr ⟨e, Or.inl he, heq⟩

theorem duration (as : List (List Msg)) (h : ∀ a ∈ as, OkAbs a) : durRel (mergeRel as) = maxDur as := by
  have hU := okAbs_sortAbs_flatten as h
  rw [mergeRel, C07.duration_eq _ (nnR as h), C04.toRel_duration _ hU]
  obtain ⟨h1, h2⟩ := maxDur_spec as h
  apply durAbs_eq _ _ (sortAbs_pairwise _) hU.2.1
  · intro e he
    exact h1 e ((mem_sortAbs _ _).1 he)
  · rcases h2 with h2 | ⟨e, he, heq⟩
    · exact Or.inl h2
    · exact Or.inr ⟨e, (mem_sortAbs _ _).2 he, heq⟩

/-- nothing is invented: every event of the merge is an event of the sorted union, at its tick -/
theorem events_sublist (as : List (List Msg)) (h : ∀ a ∈ as, OkAbs a) :
    (eventsRel (mergeRel as)).Sublist (eventsAbs (sortAbs as.flatten)) := by
  have := C07.events_sublist _ (nnR as h)
  rw [C04.toRel_events _ (okAbs_sortAbs_flatten as h)] at this
  exact this

/-- events that are neither notes nor signatures are all kept -/
theorem others_kept (as : List (List Msg)) (h : ∀ a ∈ as, OkAbs a) :
    ((eventsRel (mergeRel as)).filter (fun m => m.ty != .noteOn && m.ty != .noteOff && m.ty != .timeSignature && m.ty != .keySignature)).Perm
      ((as.map eventsAbs).flatten.filter (fun m => m.ty != .noteOn && m.ty != .noteOff && m.ty != .timeSignature && m.ty != .keySignature)) := by
  rw [mergeRel, C07.others_kept _ (nnR as h), C04.toRel_events _ (okAbs_sortAbs_flatten as h)]
  apply List.Perm.filter
  have : (as.map eventsAbs).flatten = eventsAbs as.flatten := by
    show _ = List.filter _ as.flatten
    rw [List.filter_flatten]; rfl
  rw [this]
  exact (sortAbs_perm _).filter _

/-- **signatures**: the time signatures of the merge are those of the sorted union with adjacent
    repetitions removed — every signature event that does not repeat the one in force is kept.  Values only; with the
    ticks, for key signatures too and without `h0`: `NotesB.merge_signatures_timed` -/
theorem signatures (as : List (List Msg))
    (h0 : ∀ a ∈ as, ∀ m ∈ a, m.ty = .timeSignature → (m.num, m.den) ≠ (pyNone, pyNone)) :
    (C07.timeSigs (mergeRel as)).map (fun m => (m.num, m.den))
      = C07.dedupAdj Option.none ((C07.timeSigs (sortAbs as.flatten)).map (fun m => (m.num, m.den))) := by
  have hts : (C07.timeSigs (toRel (sortAbs as.flatten))).map (fun m => (m.num, m.den))
      = (C07.timeSigs (sortAbs as.flatten)).map (fun m => (m.num, m.den)) :=
    toRelGo_timeSigs _ 0
  rw [mergeRel, C07.ts_in_force, hts]
  intro m hm hty hnone
  have hmem : (m.num, m.den) ∈ (C07.timeSigs (toRel (sortAbs as.flatten))).map (fun m => (m.num, m.den)) :=
    List.mem_map.2 ⟨m, by simp [C07.timeSigs, hm, hty], rfl⟩
  rw [hts] at hmem
  obtain ⟨m', hm', heq⟩ := List.mem_map.1 hmem
  simp only [C07.timeSigs, List.mem_filter, beq_iff_eq] at hm'
  obtain ⟨a, ha, hma⟩ := List.mem_flatten.1 ((mem_sortAbs _ _).1 hm'.1)
  exact h0 a ha m' hma hm'.2 (heq.trans hnone)

end SCoda.C15

namespace SCoda.E2E
open SCoda SCoda.MergeL

theorem cg_of_wf (E : List Msg) (hwf : WF E) (hpos : C15.PosDur E) (k : Int × Int) : CG k E :=
  cg_of_good k E (good_of_wf E hwf hpos k)

/-- the merge of good views by counting: per key, a tick sounds in the merge exactly when in some input the note-ons up to it
    outnumber the note-offs (`CS`); `CG` — no note-off before its note-on, the totals agree — passes through the union
    (`cg_flatten`), the sort (`cg_perm`) and `normalise` (`norm_cg`), where it makes the saturating depth the plain difference -/
theorem merge_ga (as : List (List Msg)) (h : ∀ a ∈ as, GA a) :
    OkRel (C15.mergeRel as) ∧ (∀ k, CG k (eventsRel (C15.mergeRel as))) ∧
    ∀ k t, SoundingAt (eventsRel (C15.mergeRel as)) k t ↔ ∃ a ∈ as, CS k t a := by
  have hok : ∀ a ∈ as, OkAbs a := fun a ha => (h a ha).1
  have hU := okAbs_sortAbs_flatten as hok
  have hnn := C15.nnR as hok
  have hperm := sortAbs_perm as.flatten
  have hcgU : ∀ k, CG k (sortAbs as.flatten) := fun k =>
    cg_perm hperm.symm (cg_flatten k as (fun a ha => (h a ha).2 k))
  have hev : eventsRel (toRel (sortAbs as.flatten)) = eventsAbs (sortAbs as.flatten) := C04.toRel_events _ hU
  have hcgE : ∀ k, CG k (eventsRel (toRel (sortAbs as.flatten))) := by
    intro k; rw [hev, cg_eventsAbs]; exact hcgU k
  obtain ⟨n1, n2⟩ := norm_cg _ hnn hcgE
  refine ⟨(C07.ok_out _ (C04.toRel_ok _ hU)).1, n1, fun k t => ?_⟩
  unfold C15.mergeRel
  rw [n2, hev, ga_sounding ⟨hU, hcgU⟩, cs_perm hperm]
  exact cs_flatten k t as (fun a ha => (h a ha).2 k)

end SCoda.E2E

namespace SCoda.C15
open SCoda SCoda.MergeL

/-- **union**: the set of sounding (channel, pitch, tick) triples of the merge is the union of the
    inputs' sets — overlapping notes of one channel and pitch are fused from the earliest start to the
    latest end, which is exactly what "sounding in some input" says -/
theorem union (as : List (List Msg)) (h : ∀ a ∈ as, OkAbs a ∧ WF a ∧ PosDur a) (k : Int × Int) (t : Int) :
    SoundingAt (eventsRel (mergeRel as)) k t ↔ ∃ a ∈ as, SoundingAt (eventsAbs a) k t := by
  have hga : ∀ a ∈ as, E2E.GA a := fun a ha => ⟨(h a ha).1, E2E.cg_of_wf a (h a ha).2.1 (h a ha).2.2⟩
  rw [(E2E.merge_ga as hga).2.2 k t]
  exact ⟨fun ⟨a, ha, c⟩ => ⟨a, ha, (E2E.ga_sounding (hga a ha) k t).2 c⟩,
    fun ⟨a, ha, c⟩ => ⟨a, ha, (E2E.ga_sounding (hga a ha) k t).1 c⟩⟩

/-- **order independence** of the sounding set (hence of the notes' pitch, onset and duration) -/
theorem order_independent (as as' : List (List Msg)) (hp : as.Perm as')
    (h : ∀ a ∈ as, OkAbs a ∧ WF a ∧ PosDur a) (k : Int × Int) (t : Int) :
    SoundingAt (eventsRel (mergeRel as)) k t ↔ SoundingAt (eventsRel (mergeRel as')) k t := by
  rw [union as h k t, union as' (fun a ha => h a (hp.mem_iff.2 ha)) k t]
  constructor
  · rintro ⟨a, ha, h0⟩
    exact ⟨a, hp.mem_iff.1 ha, h0⟩
  · rintro ⟨a, ha, h0⟩
    exact ⟨a, hp.mem_iff.2 ha, h0⟩

theorem wf (as : List (List Msg)) : WF (mergeRel as) := normalise_wf _

/-! non-vacuity: two overlapping notes of one key on two inputs fuse into [0, 36) -/
def exA : List Msg := [Msg.mkOn 0 60 64 0, Msg.mkOff 0 60 24]
def exB : List Msg := [Msg.mkOn 0 60 90 12, Msg.mkOff 0 60 36, Msg.mkInternal 0 48]
example : mergeRel [exA, exB] =
    [Msg.mkOn 0 60 64 pyNone, Msg.mkWait 0 36, Msg.mkOff 0 60 pyNone, Msg.mkWait 0 12] := by
  decide +kernel
example : (OkAbs exA ∧ WF exA ∧ PosDur exA) ∧ (OkAbs exB ∧ WF exB ∧ PosDur exB) := by
  refine ⟨⟨⟨?_, ?_, by decide⟩, by decide, by unfold PosDur; decide⟩,
    ⟨⟨?_, ?_, by decide⟩, by decide, by unfold PosDur; decide⟩⟩
  · simp [TimeSorted, exA, Msg.mkOn, Msg.mkOff]
  · simp [NonNegTimes, exA, Msg.mkOn, Msg.mkOff]
  · simp [TimeSorted, exB, Msg.mkOn, Msg.mkOff, Msg.mkInternal]
  · simp [NonNegTimes, exB, Msg.mkOn, Msg.mkOff, Msg.mkInternal]

end SCoda.C15
