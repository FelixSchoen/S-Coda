/-
  C06, the notes of the result (Props/C06.lean speaks of its messages; here they are read as notes, `notesOf`): on a well-formed
  input whose notes have positive length they are the original notes, each removed or given a new end by the local rule of
  `C06.qnlChannel_spec` (`qnl_notes`).  Every theorem needs positive allowed values (`hv : ∀ v ∈ values, 0 < v`: finding D39).
-/
import SCoda.Props.C06
import SCoda.Props.Notes
import SCoda.Lemmas.NoteLengthsB
import SCoda.Lemmas.SplitNotes
namespace SCoda.C06
open SCoda SCoda.Notes

/-- onset of the next note of the same channel and pitch (none if it is the last) -/
def nextKeyOnset (notes : List Note) (n : Note) : Option Int :=
  ((notes.filter (fun m => m.ch == n.ch && m.pitch == n.pitch && decide (n.on < m.on))).map (·.on)).min?

def fitsNote (values : List Int) (dne : Bool) (notes : List Note) (n : Note) (x : Int) : Prop :=
  x ∈ values ∧ fits dne n.on n.off (nextKeyOnset notes n) x

theorem nextKeyOnset_eq_none_iff (notes : List Note) (n : Note) :
    nextKeyOnset notes n = none ↔ ∀ m ∈ notes, m.ch = n.ch → m.pitch = n.pitch → ¬ n.on < m.on := by
  rw [nextKeyOnset, List.min?_eq_none_iff, List.map_eq_nil_iff, List.filter_eq_nil_iff]
  simp only [Bool.and_eq_true, beq_iff_eq, decide_eq_true_eq, not_and]
  exact ⟨fun h m hm h1 h2 => h m hm ⟨h1, h2⟩, fun h m hm h12 => h m hm h12.1 h12.2⟩

theorem nextKeyOnset_eq_some_iff (notes : List Note) (n : Note) (z : Int) :
    nextKeyOnset notes n = some z ↔ (∃ m ∈ notes, m.ch = n.ch ∧ m.pitch = n.pitch ∧ n.on < m.on ∧ m.on = z) ∧
      ∀ m ∈ notes, m.ch = n.ch → m.pitch = n.pitch → n.on < m.on → z ≤ m.on := by
  rw [nextKeyOnset, List.min?_eq_some_iff]
  simp only [List.mem_map, List.mem_filter, Bool.and_eq_true, beq_iff_eq, decide_eq_true_eq]
  constructor
  · rintro ⟨⟨m, ⟨hm, ⟨h1, h2⟩, h3⟩, rfl⟩, hmin⟩
    exact ⟨⟨m, hm, h1, h2, h3, rfl⟩, fun m' hm' h1' h2' h3' => hmin _ ⟨m', ⟨hm', ⟨h1', h2'⟩, h3'⟩, rfl⟩⟩
  · rintro ⟨⟨m, hm, h1, h2, h3, rfl⟩, hmin⟩
    refine ⟨⟨m, ⟨hm, ⟨h1, h2⟩, h3⟩, rfl⟩, ?_⟩
    rintro b ⟨m', ⟨hm', ⟨h1', h2'⟩, h3'⟩, rfl⟩
    exact hmin m' hm' h1' h2' h3'

theorem nextKeyOnset_le (notes : List Note) (n m : Note) (hm : m ∈ notes) (hc : m.ch = n.ch) (hp : m.pitch = n.pitch)
    (hlt : n.on < m.on) : ∃ z, nextKeyOnset notes n = some z ∧ z ≤ m.on := by
  cases h : nextKeyOnset notes n with
  | none => exact absurd hlt ((nextKeyOnset_eq_none_iff notes n).1 h m hm hc hp)
  | some z => exact ⟨z, rfl, ((nextKeyOnset_eq_some_iff notes n z).1 h).2 m hm hc hp hlt⟩

open NotesBL in
theorem nextKeyOnset_next {notes : List Note} {k : Int × Int} {P : List (Msg × Msg)}
    (hn : ∀ n, n ∈ P.map NotesL.mkNote ↔ n ∈ notes ∧ nkeyN n = k)
    (hpos : ∀ p ∈ P, p.1.time < p.2.time) (hch : P.Pairwise (fun p q => p.2.time ≤ q.1.time))
    (A : List (Msg × Msg)) (p : Msg × Msg) (B : List (Msg × Msg)) (e : P = A ++ p :: B) :
    nextKeyOnset notes (NotesL.mkNote p) = B.head?.map (·.1.time) := by
  subst e
  obtain ⟨hA, hB, hAB⟩ := List.pairwise_append.1 hch
  obtain ⟨hpB, hB⟩ := List.pairwise_cons.1 hB
  have hk : nkeyN (NotesL.mkNote p) = k := ((hn _).1 (List.mem_map_of_mem (by simp))).2
  -- a note of the key is one of the list: it ends before `p` begins, is `p`, or begins after `p` ends
  have cases3 : ∀ m ∈ notes, m.ch = (NotesL.mkNote p).ch → m.pitch = (NotesL.mkNote p).pitch →
      m.on < p.1.time ∨ m = NotesL.mkNote p ∨ ∃ q ∈ B, m = NotesL.mkNote q := by
    intro m hm h1 h2
    obtain ⟨q, hq, rfl⟩ := List.mem_map.1 ((hn m).2 ⟨hm, (Prod.ext h1 h2 : nkeyN m = nkeyN (NotesL.mkNote p)).trans hk⟩)
    rcases List.mem_append.1 hq with hq | hq
    · have := hAB q hq p List.mem_cons_self
      have := hpos q (List.mem_append_left _ hq)
      exact Or.inl (by show q.1.time < p.1.time; omega)
    · rcases List.mem_cons.1 hq with rfl | hq
      · exact Or.inr (Or.inl rfl)
      · exact Or.inr (Or.inr ⟨q, hq, rfl⟩)
  have hp := hpos p (by simp)
  cases B with
  | nil =>
    refine (nextKeyOnset_eq_none_iff _ _).2 fun m hm h1 h2 hlt => ?_
    rcases cases3 m hm h1 h2 with h | rfl | ⟨q, hq, _⟩
    · exact absurd hlt (by show ¬ p.1.time < m.on; omega)
    · exact Int.lt_irrefl _ hlt
    · cases hq
  | cons r B =>
    have hr := hpB r List.mem_cons_self
    have hrm := (hn _).1 (List.mem_map_of_mem (show r ∈ A ++ p :: r :: B by simp))
    refine (nextKeyOnset_eq_some_iff _ _ _).2 ⟨⟨NotesL.mkNote r, hrm.1, congrArg Prod.fst (hrm.2.trans hk.symm),
      congrArg Prod.snd (hrm.2.trans hk.symm), by show p.1.time < r.1.time; omega, rfl⟩, fun m hm h1 h2 hlt => ?_⟩
    rcases cases3 m hm h1 h2 with h | rfl | ⟨q, hq, rfl⟩
    · exact absurd hlt (by show ¬ p.1.time < m.on; omega)
    · exact absurd hlt (Int.lt_irrefl _)
    · rcases List.mem_cons.1 hq with rfl | hq
      · exact Int.le_refl _
      · have := (List.pairwise_cons.1 hB).1 q hq
        have := hpos r (by simp)
        show r.1.time ≤ q.1.time
        omega

/-- the new duration of a note: the model's choice among the values that fit before the key's next onset -/
private def chosenOf (values : List Int) (dne : Bool) (notes : List Note) (n : Note) : Option Int :=
  NL.chosenAt values dne (nextKeyOnset notes n) n.on n.off

private theorem nlKey_notes (values : List Int) (dne : Bool) (notes : List Note) : ∀ (A P : List (Msg × Msg)),
    (∀ A' p B, A ++ P = A' ++ p :: B → nextKeyOnset notes (NotesL.mkNote p) = B.head?.map (·.1.time)) →
    (NL.nlKey values dne P).map NotesL.mkNote = (P.map NotesL.mkNote).filterMap
      (fun n => (chosenOf values dne notes n).map (fun x => { n with off := n.on + x })) := by
  intro A P
  induction P generalizing A with
  | nil => intro _; rfl
  | cons p P ih =>
    intro h
    rw [NL.nlKey, List.map_append, ih (A ++ [p]) (by simpa using h), List.map_cons, List.filterMap_cons, chosenOf, h A p P rfl,
      show (NotesL.mkNote p).on = p.1.time from rfl, show (NotesL.mkNote p).off = p.2.time from rfl]
    cases NL.chosenAt values dne (P.head?.map (·.1.time)) p.1.time p.2.time with
    | none => rfl
    | some x => rfl

open NotesBL in
/-- `qnl_notes` with the choice function made explicit -/
private theorem qnl_notes_explicit (values : List Int) (hv : ∀ v ∈ values, 0 < v) (stdLen : Int) (dne : Bool)
    (a out : List Msg) (hwf : WF (sortAbs a)) (hpd : PosDur (sortAbs a))
    (h : quantiseNoteLengths values stdLen dne a = .ok out) :
    (notesOf out).Perm ((notesOf (sortAbs a)).filterMap
        (fun n => (chosenOf values dne (notesOf (sortAbs a)) n).map (fun x => { n with off := n.on + x })))
      ∧ ∀ n,
          (chosenOf values dne (notesOf (sortAbs a)) n = Option.none ↔ ∀ x, ¬ fitsNote values dne (notesOf (sortAbs a)) n x)
          ∧ ∀ x, chosenOf values dne (notesOf (sortAbs a)) n = some x →
              fitsNote values dne (notesOf (sortAbs a)) n x
              ∧ ∀ y, fitsNote values dne (notesOf (sortAbs a)) n y →
                  (x - (n.off - n.on)).natAbs ≤ (y - (n.off - n.on)).natAbs := by
  refine ⟨NotesL.perm_of_filters (fun n : Note => (n.ch, n.pitch)) _ _ fun k => ?_,
    fun n => NL.chosenAt_spec values dne (nextKeyOnset (notesOf (sortAbs a)) n) n.on n.off⟩
  -- key by key: the notes of the key in the result are `NL.nlKey` of its notes in the input
  obtain ⟨P, V⟩ := kview (sortAbs a) hwf ((sortAbs_sorted a).imp fun h => keyLe_time h) k
  have hpos : ∀ p ∈ P, p.1.time < p.2.time := fun p hp => hpd _ ((mem_key_notes V.notes).1 (List.mem_map_of_mem hp)).1
  have hspec := NL.nlKey_spec values hv dne P V.good V.sorted
  rw [notes_of_form (x := out) (by rw [out_eq values stdLen dne a out h]; exact NL.key_out values hv stdLen dne _ k P V.ev V.good V.sorted)
      fun q hq => (hspec.1 q hq).1,
    nlKey_notes values dne (notesOf (sortAbs a)) [] P
      (nextKeyOnset_next (fun n => mem_key_notes V.notes) hpos (List.pairwise_map.1 V.chain)), ← V.notes, List.filter_filterMap,
    List.filterMap_filter]
  congr 1
  funext n
  unfold chosenOf
  cases NL.chosenAt values dne (nextKeyOnset (notesOf (sortAbs a)) n) n.on n.off with
  | none => split <;> rfl
  | some x => rfl

/-- **the notes of the result**: those of the input, each removed or given the end `on + x` for the `x` that `chosen` picks —
    none exactly when no allowed value fits, otherwise a fitting value closest to the old duration -/
theorem qnl_notes (values : List Int) (hv : ∀ v ∈ values, 0 < v) (stdLen : Int) (dne : Bool) (a out : List Msg)
    (hwf : WF (sortAbs a)) (hpd : PosDur (sortAbs a))
    (h : quantiseNoteLengths values stdLen dne a = .ok out) :
    ∃ chosen : Note → Option Int,
      (notesOf out).Perm ((notesOf (sortAbs a)).filterMap (fun n => (chosen n).map (fun x => { n with off := n.on + x })))
      ∧ ∀ n ∈ notesOf (sortAbs a),
          (chosen n = Option.none ↔ ∀ x, ¬ fitsNote values dne (notesOf (sortAbs a)) n x)
          ∧ ∀ x, chosen n = some x →
              fitsNote values dne (notesOf (sortAbs a)) n x
              ∧ ∀ y, fitsNote values dne (notesOf (sortAbs a)) n y →
                  (x - (n.off - n.on)).natAbs ≤ (y - (n.off - n.on)).natAbs := by
  obtain ⟨h1, h2⟩ := qnl_notes_explicit values hv stdLen dne a out hwf hpd h
  exact ⟨chosenOf values dne (notesOf (sortAbs a)), h1, fun n _ => h2 n⟩

private theorem mem_out (values : List Int) (hv : ∀ v ∈ values, 0 < v) (stdLen : Int) (dne : Bool) (a out : List Msg)
    (hwf : WF (sortAbs a)) (hpd : PosDur (sortAbs a))
    (h : quantiseNoteLengths values stdLen dne a = .ok out) (n : Note) (hn : n ∈ notesOf out) :
    ∃ n0 ∈ notesOf (sortAbs a), ∃ x, n = { n0 with off := n0.on + x }
      ∧ fitsNote values dne (notesOf (sortAbs a)) n0 x := by
  obtain ⟨h1, h2⟩ := qnl_notes_explicit values hv stdLen dne a out hwf hpd h
  have := h1.mem_iff.1 hn
  rw [List.mem_filterMap] at this
  obtain ⟨n0, hn0, he⟩ := this
  cases hc : chosenOf values dne (notesOf (sortAbs a)) n0 with
  | none => rw [hc] at he; cases he
  | some x =>
    rw [hc] at he
    exact ⟨n0, hn0, x, (Option.some.inj he).symm, ((h2 n0).2 x hc).1⟩

/-- consequences in the words of the property: every remaining note has an allowed duration and is a note of the input with its
    channel, pitch, onset and velocity, not longer than it was when extension is disabled -/
theorem qnl_durations (values : List Int) (hv : ∀ v ∈ values, 0 < v) (stdLen : Int) (dne : Bool) (a out : List Msg)
    (hwf : WF (sortAbs a)) (hpd : PosDur (sortAbs a))
    (h : quantiseNoteLengths values stdLen dne a = .ok out) :
    ∀ n ∈ notesOf out, (n.off - n.on) ∈ values
      ∧ ∃ n0 ∈ notesOf (sortAbs a), n0.ch = n.ch ∧ n0.pitch = n.pitch ∧ n0.on = n.on ∧ n0.vel = n.vel
          ∧ (dne = true → n.off ≤ n0.off) := by
  intro n hn
  obtain ⟨n0, hn0, x, rfl, hx, hf⟩ := mem_out values hv stdLen dne a out hwf hpd h n hn
  refine ⟨?_, n0, hn0, rfl, rfl, rfl, rfl, ?_⟩
  · have : n0.on + x - n0.on = x := by omega
    simp only [this]
    exact hx
  · intro hd
    have := hf.2 hd
    simp only
    omega

/-- notes of one channel and pitch do not overlap in the result: a note ends no later than a later one begins -/
theorem qnl_no_overlap (values : List Int) (hv : ∀ v ∈ values, 0 < v) (stdLen : Int) (dne : Bool) (a out : List Msg)
    (hwf : WF (sortAbs a)) (hpd : PosDur (sortAbs a))
    (h : quantiseNoteLengths values stdLen dne a = .ok out) :
    ∀ n ∈ notesOf out, ∀ m ∈ notesOf out, n.ch = m.ch → n.pitch = m.pitch → n.on < m.on → n.off ≤ m.on := by
  intro n hn m hm hc hp hlt
  obtain ⟨n0, hn0, x, rfl, hx, hf⟩ := mem_out values hv stdLen dne a out hwf hpd h n hn
  obtain ⟨m0, hm0, y, rfl, _, _⟩ := mem_out values hv stdLen dne a out hwf hpd h m hm
  simp only at hc hp hlt ⊢
  obtain ⟨z, hz, hzle⟩ := nextKeyOnset_le (notesOf (sortAbs a)) n0 m0 hm0 hc.symm hp.symm hlt
  have := hf.1 z (by rw [hz]; rfl)
  omega

theorem qnl_wf (values : List Int) (hv : ∀ v ∈ values, 0 < v) (stdLen : Int) (dne : Bool) (a out : List Msg)
    (hwf : WF (sortAbs a)) (hpd : PosDur (sortAbs a))
    (h : quantiseNoteLengths values stdLen dne a = .ok out) : WF out := by
  rw [out_eq values stdLen dne a out h]
  exact NLB.wf_out values hv dne stdLen (sortAbs a) (sortAbs_sorted a) hwf hpd

def exN : List Msg := [Msg.mkOn 0 60 64 0, Msg.mkOff 0 60 10, Msg.mkOn 0 60 70 12, Msg.mkOff 0 60 40, Msg.mkInternal 0 48]
example : WF (sortAbs exN) ∧ PosDur (sortAbs exN) := by
  have e : sortAbs exN = exN := by decide +kernel
  rw [e]
  refine ⟨SplitL.wf_of_keys exN (by decide), ?_⟩
  unfold PosDur
  decide +kernel
example : (quantiseNoteLengths [6, 12, 24] 24 false exN).toOption.map (fun o => (notesOf o).map (fun n => (n.on, n.off)))
    = some [(0, 12), (12, 36)] := by
  decide +kernel

end SCoda.C06
