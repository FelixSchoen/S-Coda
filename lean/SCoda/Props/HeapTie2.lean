/-
  The identity model of C16 tied to the source BY TRANSLATION, part 2: `RelativeSequence.split` ITSELF.

  `Props/HeapTie.lean` ties `Sequence.split` to `HeapOps.split` with `RelativeSequence.split` as a LINK (`HeapLib.relSplit` =
  `HeapOps.splitView` with an oracle plan).  Here `tools/py2lean_heap2.py` translates the method statement by statement
  (`Gen/HeapFns2.lean`: `relativeSequenceSplit`; values are translated exactly, there is no oracle) and this file proves what
  `Props/C16c.lean` uses of the link — by SIMULATION, not equality: the code allocates view objects it may discard (`next_sequence`
  of a capacity that is never reached) and allocates the new messages of a cut in an order (`NOTE_OFF₁, NOTE_ON₁, NOTE_OFF₂, …`,
  interleaved between two pieces) that `splitView`'s piece-by-piece plan cannot reproduce; identities agree up to renaming only.

  WHAT `RelativeSequence.split` DOES WITH IDENTITIES (all proved for every input heap, every receiver, every list of capacities):
  * `relativeSequenceSplit_ok`       it returns normally — the `IndexError` of `pop(0)` is excluded by the guard before it, and the
                                      loop bound `len(working_memory) + 1` given to the translator is never exhausted;
  * `relativeSequenceSplit_frame`    it writes NO cell that existed when it was called: not the receiver's list (the method works
                                      on `copy.copy(self._messages)`; the receiver is not consumed), not a message of the receiver
                                      (a wait that is cut is replaced by two NEW waits, it is not shortened), nothing else;
                                      it allocates messages and view objects only;
  * `relativeSequenceSplit_pieces`   every returned piece is a view object allocated by the call, and every message reference in
                                      it is a message OBJECT OF THE RECEIVER'S LIST or a message allocated by the call (with a channel);
  * `pieces_allFresh_statement_false` the pieces DO share message objects with the receiver (every message that is not cut is the
                                      receiver's own object): "every message of a piece is new" is false of `RelativeSequence.split`.
                                      The repair of D13 is in `Sequence.split` (`seq.copy()`), not here;
  * `relativeSequenceSplit_spec`     the region-calculus statement that `HeapL.splitView_spec` gives for the link, for the
                                      translated method: it preserves every good region that contains the receiver, and its pieces
                                      are in that region.  This is all `C16c.derive_fresh_split` / `op_frame` use of `splitView`.
  * `sequenceSplit2_eq_wrapCopies`, `sequenceSplit2_fresh`   `Sequence.split` with NO link (`Gen.HeapFns2.sequenceSplit2`): the pieces of the
                                      translated `RelativeSequence.split`, each COPIED (`HeapOps.wrapCopies`, tied in HeapTie), so:
                                      every cell reachable from a returned `Sequence` was allocated by the call and is not
                                      reachable from the source; and of the cells that existed, only the source's own wrapper
                                      cell can differ (the `rel` property regenerates a stale relative view) — the source's
                                      views, lists and messages are UNCHANGED (`derive_fresh_split` strengthened; the
                                      "source unchanged" clause of C08).
-/
import SCoda.Lemmas.HeapTie2L
import SCoda.Props.HeapTie
namespace SCoda.HeapTie2
open SCoda SCoda.HeapOps SCoda.HeapLib SCoda.HeapL SCoda.Gen.HeapFns SCoda.Gen.HeapFns2 SCoda.HeapTieL SCoda.HeapTie2L SCoda.C16c

/-- the translated `RelativeSequence.split` returns normally on every heap, for every receiver and every list of capacities:
    `working_memory.pop(0)` is guarded, and the loop bound `len(working_memory) + 1` is sufficient (no `HErr.fuel`). (A2) -/
theorem relativeSequenceSplit_ok (g : GOrc) (tag l : Nat) (caps : List Int) (h : Heap) :
    ∃ ps, (relativeSequenceSplit g tag l caps h).1 = .ok ps :=
  (sat_ok (split_sat g tag l caps h)).imp (fun _ hp => hp.1)

theorem relativeSequenceSplit_inv (g : GOrc) (tag l : Nat) (caps : List Int) (h : Heap) :
    Inv h (h.lst l) (relativeSequenceSplit g tag l caps h).2
      ∧ ∀ ps, (relativeSequenceSplit g tag l caps h).1 = .ok ps → ∀ p ∈ ps, OkV h (relativeSequenceSplit g tag l caps h).2 p :=
  (sat_ok (split_sat g tag l caps h)).elim (fun _ ⟨hok, hi, hv⟩ => ⟨hi, fun _ he => Except.ok.inj (hok.symm.trans he) ▸ hv⟩)

/-- FRAME: `RelativeSequence.split` writes no cell that existed when it was called — every allocated cell (the receiver's list
    object, every message, every wrapper) has the content it had — and allocates messages and view objects only.  Holds on
    both exits.  (A2; the "receiver is not consumed" and "a cut wait is not shortened in place" facts) -/
theorem relativeSequenceSplit_frame (g : GOrc) (tag l : Nat) (caps : List Int) (h : Heap) :
    let h' := (relativeSequenceSplit g tag l caps h).2
    (∀ k, h.next k ≤ h'.next k) ∧ (∀ c, h.alloc c → h'.get c = h.get c)
      ∧ h'.nSeq = h.nSeq ∧ h'.nBar = h.nBar ∧ h'.nTrk = h.nTrk ∧ h'.nCmp = h.nCmp := by
  have hi := (relativeSequenceSplit_inv g tag l caps h).1
  exact ⟨hi.ext.1, hi.ext.2, hi.kinds⟩

/-- the receiver after the call: the same list of the same message objects with the same field values -/
theorem relativeSequenceSplit_receiver (g : GOrc) (tag l : Nat) (caps : List Int) (h : Heap) (hl : l < h.nLst)
    (hm : ∀ i ∈ h.lst l, i < h.nMsg) :
    (relativeSequenceSplit g tag l caps h).2.lst l = h.lst l
      ∧ (relativeSequenceSplit g tag l caps h).2.viewVals l = h.viewVals l :=
  receiver_of_ext (relativeSequenceSplit_inv g tag l caps h).1.ext hl hm

/-- PIECES: every piece returned is a view object allocated by the call; the pieces' lists hold message objects of the
    receiver's list and messages allocated by the call, nothing else; the new messages have a channel. (A2) -/
theorem relativeSequenceSplit_pieces (g : GOrc) (tag l : Nat) (caps : List Int) (h : Heap) (ps : List Nat)
    (hok : (relativeSequenceSplit g tag l caps h).1 = .ok ps) :
    let h' := (relativeSequenceSplit g tag l caps h).2
    ∀ p ∈ ps, (h.nLst ≤ p ∧ p < h'.nLst)
      ∧ ∀ i ∈ h'.lst p, i ∈ h.lst l ∨ (h.nMsg ≤ i ∧ i < h'.nMsg ∧ (h'.msg i).ch ≠ pyNone) := by
  intro h' p hp
  obtain ⟨hi, hv⟩ := relativeSequenceSplit_inv g tag l caps h
  have hpv := hv ps hok p hp
  refine ⟨hpv, fun i hmem => ?_⟩
  rcases hi.views p hpv i hmem with h1 | h1
  · exact Or.inl h1
  · exact Or.inr ⟨h1.1, h1.2, hi.chan i h1.1 h1.2⟩

/-- "every message of a returned piece was allocated by the call" — what `Sequence.split` guarantees (by copying), NOT what
    `RelativeSequence.split` does -/
def pieces_allFresh_statement : Prop :=
  ∀ (g : GOrc) (tag l : Nat) (caps : List Int) (h : Heap) (ps : List Nat),
    (relativeSequenceSplit g tag l caps h).1 = .ok ps →
    ∀ p ∈ ps, ∀ i ∈ (relativeSequenceSplit g tag l caps h).2.lst p, h.nMsg ≤ i

/-- NOTE_ON 60, WAIT 24, NOTE_OFF 60, WAIT 72 in message cells 0–3, the receiver's view in list cell 0 -/
def exSplitHeap : Heap :=
  ((newMsgs Heap.empty [{ ty := .noteOn, note := 60, vel := 64 }, { ty := .wait, time := 24 }, { ty := .noteOff, note := 60 },
    { ty := .wait, time := 72 }]).1.newLst [0, 1, 2, 3]).1

def exG : GOrc := ⟨C16c.exOrc, fun _ _ => false⟩

/-- `split([12])` of the example: the first piece is NOTE_ON (the receiver's object 0), a new WAIT 12, a new NOTE_OFF; the second a
    new NOTE_ON, a new WAIT 12, and the receiver's objects 2 and 3; the receiver's WAIT 24 (object 1) is in neither. -/
theorem exSplit_ok : (relativeSequenceSplit exG 0 0 [12] exSplitHeap).1 = .ok [1, 2] := by
  obtain ⟨ps, hps⟩ := relativeSequenceSplit_ok exG 0 0 [12] exSplitHeap
  have : (relativeSequenceSplit exG 0 0 [12] exSplitHeap).1.toOption = some [1, 2] := by decide +kernel
  rw [hps] at this ⊢
  simpa [Except.toOption] using this

example : (relativeSequenceSplit exG 0 0 [12] exSplitHeap).2.lst 1 = [0, 4, 5]
    ∧ (relativeSequenceSplit exG 0 0 [12] exSplitHeap).2.lst 1 = [0, 4, 5]
    ∧ (relativeSequenceSplit exG 0 0 [12] exSplitHeap).2.lst 2 = [6, 7, 2, 3]
    ∧ (relativeSequenceSplit exG 0 0 [12] exSplitHeap).2.lst 0 = [0, 1, 2, 3] := by decide +kernel

/-- the hypotheses of `relativeSequenceSplit_receiver` on the example -/
example : 0 < exSplitHeap.nLst ∧ ∀ i ∈ exSplitHeap.lst 0, i < exSplitHeap.nMsg := by decide +kernel

theorem pieces_allFresh_statement_false : ¬ pieces_allFresh_statement := by
  intro hst
  have := hst exG 0 0 [12] exSplitHeap [1, 2] exSplit_ok 1 (by simp) 0 (by decide +kernel)
  revert this
  decide +kernel

/-- the region statement from the invariant: a good region that contains the source messages stays good, nothing outside it is written, and
    every view allocated since is in it -/
theorem spec_of_inv {X : Region} {h h' : Heap} {src : List Nat} (hg : Good X h) (hsrc : ∀ i ∈ src, In X h (.msg, i)) (hi : Inv h src h') :
    Spec X h h' ∧ ∀ p, OkV h h' p → In X h' (.lst, p) := by
  refine ⟨⟨hg.views hi.ext.1 hi.kinds (fun c _ ha => Or.inl (hi.ext.2 c ha))
      (fun p h1 h2 i hm => (hi.views p ⟨h1, h2⟩ i hm).imp_left (hsrc i)),
    hi.ext.1, fun c hc => hi.ext.2 c (hg.alloc_of_not hc)⟩, ?_⟩
  · intro p hpv
    exact ⟨hg.up _ (by simp only [Heap.alloc, Heap.next]; unfold OkV at hpv; omega),
      by simp only [Heap.alloc, Heap.next]; exact hpv.2⟩

/-- `HeapL.splitView_spec` for the TRANSLATED `RelativeSequence.split`: in every good region that contains the receiver's view
    object, the call writes nothing outside the region, leaves the region good, and its pieces are in the region.
    (With `X := ReachR h [source]` this is the step of `derive_fresh_split` / `op_frame`; `relativeSequenceSplit_frame` is
    stronger about writes.) (A2) -/
theorem relativeSequenceSplit_spec {X : Region} (g : GOrc) (tag : Nat) (caps : List Int) {h : Heap} (hg : Good X h) {l : Nat}
    (hl : In X h (.lst, l)) :
    Spec X h (relativeSequenceSplit g tag l caps h).2
      ∧ ∀ ps, (relativeSequenceSplit g tag l caps h).1 = .ok ps →
          ∀ p ∈ ps, In X (relativeSequenceSplit g tag l caps h).2 (.lst, p) := by
  obtain ⟨hi, hv⟩ := relativeSequenceSplit_inv g tag l caps h
  obtain ⟨sp, hin⟩ := spec_of_inv hg (lst_in hg hl) hi
  exact ⟨sp, fun ps hok p hp => hin p (hv ps hok p hp)⟩

/-- the hypothesis of `Sequence.split`: `self.rel` can be read, and the relative view it returns exists and holds existing
    messages that have a channel (a decidable condition on the input heap and, when the relative view is stale, on the
    conversion oracle: the view `to_relative_sequence` builds) -/
def SrcOk (g : GOrc) (h : Heap) (s : Nat) : Prop :=
  match (getRel g.orc h s).2 with
  | some l => ViewOk (getRel g.orc h s).1 l
  | none => False

/-- the translated `Sequence.split` (no link: `Gen.HeapFns2.sequenceSplit2`) is: read `self.rel`, run the TRANSLATED
    `RelativeSequence.split` on it, and wrap a COPY of every piece (`HeapOps.wrapCopies`, the repaired D13). (A2) -/
theorem sequenceSplit2_eq_wrapCopies (g : GOrc) (tag s : Nat) (caps : List Int) (h : Heap) (hsrc : SrcOk g h s) :
    ∃ l ps, (getRel g.orc h s).2 = some l ∧ (relativeSequenceSplit g tag l caps (getRel g.orc h s).1).1 = .ok ps
      ∧ sequenceSplit2 g tag s caps h
        = (.ok (wrapCopies (relativeSequenceSplit g tag l caps (getRel g.orc h s).1).2 ps).2,
           (wrapCopies (relativeSequenceSplit g tag l caps (getRel g.orc h s).1).2 ps).1) := by
  unfold SrcOk at hsrc
  cases hv : (getRel g.orc h s).2 with
  | none => simp [hv] at hsrc
  | some l =>
    simp only [hv] at hsrc
    obtain ⟨ps, hps⟩ := relativeSequenceSplit_ok g tag l caps (getRel g.orc h s).1
    refine ⟨l, ps, rfl, hps, ?_⟩
    have hpieces := relativeSequenceSplit_pieces g tag l caps (getRel g.orc h s).1 ps hps
    have hinv := (relativeSequenceSplit_inv g tag l caps (getRel g.orc h s).1).1
    have hvok : ∀ p ∈ ps, ViewOk (relativeSequenceSplit g tag l caps (getRel g.orc h s).1).2 p := by
      intro p hp
      obtain ⟨hpv, hids⟩ := hpieces p hp
      refine ⟨hpv.2, fun i hi => ?_⟩
      rcases hids i hi with h1 | h1
      · have := hsrc.2 i h1
        exact ⟨Nat.lt_of_lt_of_le this.1 hinv.nMsg_le, by rw [hinv.ext.msg this.1]; exact this.2⟩
      · exact ⟨h1.2.1, h1.2.2⟩
    unfold sequenceSplit2
    simp only [run_bind]
    rw [sequenceRel_deref]
    simp only [hv, run_bind]
    rcases hr : relativeSequenceSplit g tag l caps (getRel g.orc h s).1 with ⟨r, h'⟩
    rw [hr] at hps hvok
    simp only at hps hvok
    subst hps
    simp only [bindRes_ok, run_bind, mapM_wrapCopies g tag ps h' hvok, run_pure]

/-- `derive_fresh_split` for the fully TRANSLATED `Sequence.split`, strengthened by the frame of `RelativeSequence.split`:
    the call returns normally; every cell reachable from a returned piece was allocated by the call and is not reachable from
    the source afterwards; and EVERY cell that existed keeps its content, except possibly the source's own wrapper cell (the
    `rel` property stores a regenerated relative view there when it was stale) — in particular the source's view objects,
    their lists and their messages are unchanged: `split` does not consume, shorten or re-time its receiver.
    Hypotheses: the source has no dangling identity; `SrcOk`. (A2; C08 "source unchanged") -/
theorem sequenceSplit2_fresh (g : GOrc) (tag s : Nat) (caps : List Int) (h : Heap) (hall : AllocAll h [(.seq, s)])
    (hsrc : SrcOk g h s) :
    ∃ ps h', sequenceSplit2 g tag s caps h = (.ok ps, h')
      ∧ (∀ p ∈ ps, ∀ c ∈ reach h' (.seq, p), ¬ h.alloc c ∧ h'.alloc c ∧ c ∉ reach h' (.seq, s))
      ∧ (∀ c, h.alloc c → c ≠ (.seq, s) → h'.get c = h.get c)
      ∧ ((h.seq s).relStale = false → ∀ c, h.alloc c → h'.get c = h.get c) := by
  obtain ⟨l, ps, hl, hps, heq⟩ := sequenceSplit2_eq_wrapCopies g tag s caps h hsrc
  -- after `self.rel`, which writes the wrapper cell of the source only, the two other steps write nothing that existed
  have hrest : ∀ c, (getRel g.orc h s).1.alloc c →
      (wrapCopies (relativeSequenceSplit g tag l caps (getRel g.orc h s).1).2 ps).1.get c = (getRel g.orc h s).1.get c := fun c a1 =>
    have f2 := relativeSequenceSplit_frame g tag l caps (getRel g.orc h s).1
    ((Ext.of_spec (wrapCopies_spec (good_fresh _) ps).1).2 c (alloc_mono f2.1 a1)).trans (f2.2.1 c a1)
  refine ⟨_, _, heq, ?_, fun c hc hne => (hrest c (alloc_mono (getRel_frame g.orc h s).1 hc)).trans ((getRel_frame g.orc h s).2 c hc hne),
    fun hst c hc => ?_⟩
  · -- `self.rel` and the translated method are steps of the source side, the wrappers are new
    obtain ⟨s1, i1⟩ := getRel_spec (o := g.orc) (good_reachR h [(.seq, s)] hall) (in_reachR (r := (.seq, s)) hall (by simp))
    obtain ⟨s2, _⟩ := relativeSequenceSplit_spec g tag caps s1.good (i1 l hl)
    exact pieces_of_dsep (wrapCopies_dsep (dsep_start hall) (s1.trans s2) ps)
  · rw [getRel_of_fresh g.orc hst] at hrest ⊢
    exact hrest c hc

/-- a `Sequence` (cell 0) on the example view, relative view live -/
def exSeqHeap : Heap := (exSplitHeap.newSeq { abs := none, rel := some 0, absStale := true, relStale := false }).1

example : AllocAll exSeqHeap [(.seq, 0)] := by decide +kernel
/-- the hypotheses of `relativeSequenceSplit_spec` with the region of `derive_fresh_split` -/
example : Good (ReachR exSeqHeap [(.seq, 0)]) exSeqHeap ∧ In (ReachR exSeqHeap [(.seq, 0)]) exSeqHeap (.lst, 0) :=
  ⟨good_reachR _ _ (by decide), ⟨Or.inl (by decide), by decide⟩⟩
example : SrcOk exG exSeqHeap 0 := by
  have hg : getRel exG.orc exSeqHeap 0 = (exSeqHeap, some 0) := getRel_of_live ⟨by decide, by decide⟩
  unfold SrcOk
  simp only [hg]
  exact ⟨by decide, by unfold IdsOk; decide⟩

/-- the example through the fully translated `Sequence.split([12])`: two new `Sequence`s (cells 1, 2) on new views (3, 4) whose
    messages are all new (cells 8–14); the source's list and messages are as before -/
example : (sequenceSplit2 exG 0 0 [12] exSeqHeap).1.toOption = some [1, 2]
    ∧ (sequenceSplit2 exG 0 0 [12] exSeqHeap).2.lst 3 = [8, 9, 10]
    ∧ (sequenceSplit2 exG 0 0 [12] exSeqHeap).2.lst 4 = [11, 12, 13, 14]
    ∧ (sequenceSplit2 exG 0 0 [12] exSeqHeap).2.lst 0 = [0, 1, 2, 3]
    ∧ ((sequenceSplit2 exG 0 0 [12] exSeqHeap).2.msg 1).time = 24 := by decide +kernel

end SCoda.HeapTie2
