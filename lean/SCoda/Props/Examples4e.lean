/-
  Audit round 4, item C7 (non-vacuity), part 5: the `SameNotes` conjunct of `C03f.extract_wholebars_full` /
  `C03e.extract_wholebars_onebar` on runs of two and three bars with a note crossing a bar line, with the one-bar runs computed
  independently of the cut bars (not `one := bars`).
-/
import SCoda.Props.C03f
namespace SCoda.Examples4e
open SCoda SCoda.C01 SCoda.ChunksL SCoda.C03c SCoda.C03e SCoda.C03f SCoda.GlueL SCoda.ExtractL SCoda.SplitL

/-- the input: `C03e.gTrack0` holds a note over [72,120) that crosses the first bar line 96 (4/4, 4/4, 6/8) -/
example : (notesOf (eventsRel gTrack0)).map (fun n => (n.pitch, n.on, n.off)) = [(60, 72, 120), (62, 192, 204)] := by decide +kernel

/-- **all hypotheses of `C03f.extract_wholebars_full` together on the run of bars 0 and 1** (the note crosses the line between them),
    after a running bar length (7) that is not the first bar's; the conclusion with its `SameNotes` conjunct -/
theorem ex_extract_wholebars_full :
    ∃ bars : List BarEv,
      extract C03c.exCfg.ppqn (gBars.map (fun bs => barsToSeq ((bs.drop 0).take (2 - 0)))) = layBars C03c.exCfg bars
        ∧ BarsOk C03c.exCfg 7 bars
        ∧ bars.map (fun b => (b.num, b.den)) = (((gBars.headD []).drop 0).take (2 - 0)).map (fun b => (b.num, b.den))
        ∧ ∃ one : List BarEv,
            (∀ i, i < 2 - 0 → ∀ b ∈ one[i]?,
                extract C03c.exCfg.ppqn (gBars.map (fun bs => barsToSeq ((bs.drop (0 + i)).take 1))) = layBars C03c.exCfg [b])
            ∧ one.length = 2 - 0 ∧ SameNotes C03c.exCfg bars one :=
  extract_wholebars_full C03c.exCfg (by decide) [] [gTrack0, gTrack1] gBars (by decide) gTracks_in gBars_eq gBars_shape.1
    0 2 7 (by omega) (fun bs h => Nat.le_of_succ_le (gBars_shape.2.1 bs h))

/-- the cut bars of the run `[0, 3)`: `extract` of the three bars laid end to end, cut at the bar lines -/
def cutBars : List BarEv := cutAt C03c.exCfg 0 (sigsOf gBars 0 3) (extract 24 (runTracks (segsOf gBars 0 3)))
/-- the one-bar runs: `extract` of each bar on its own -/
def oneBars : List BarEv := onesOf C03c.exCfg (sigsOf gBars 0 3) (segsOf gBars 0 3)

/-- the one-bar runs ARE `extract` of the single bars (the first conjunct about `one`), evaluated -/
example : oneBars.map (·.evs) = (List.range 3).map (fun i => extract 24 (gBars.map (fun bs => barsToSeq ((bs.drop i).take 1)))) := by
  decide +kernel

/-- the note events, bar by bar, of the cut bars (track index, then pitch and tick of the note-on and note-off): the crossing note is closed at the bar line ([72,96) in bar 0) and struck again
    ([0,24) in bar 1) -/
theorem cutBars_notes : cutBars.map (fun b => (b.evs.filter isNoteEv).map (fun ev => (ev.1, ev.2.map (fun m => (m.note, m.time))))) =
    [[(1, [(48, 48), (48, 72)]), (0, [(60, 72), (60, 96)])], [(0, [(60, 0), (60, 24)])], [(0, [(62, 0), (62, 12)]), (1, [(50, 36), (50, 72)])]] := by
  decide +kernel

/-- **`SameNotes` between two independently computed lists**: the cut bars of the three-bar run against the one-bar runs; the lists
    differ as lists (the cut bar 1 has no signature event and no cap message of its own, the one-bar run of bar 1 starts with a 4/4 event and ends with the cap message at 96) -/
theorem ex_sameNotes : SameNotes C03c.exCfg cutBars oneBars ∧ cutBars ≠ oneBars ∧ cutBars.length = 3 := by decide +kernel

/-- `C03e.extract_wholebars_onebar` on bar 1 (the bar the crossing note continues into): all its hypotheses, the bar as a one-bar
    chunk after running bar length 72 -/
theorem ex_extract_wholebars_onebar :
    ∃ bars : List BarEv,
      extract C03c.exCfg.ppqn (gBars.map (fun bs => barsToSeq ((bs.drop 1).take (1 + 1 - 1)))) = layBars C03c.exCfg bars
        ∧ BarsOk C03c.exCfg 72 bars
        ∧ bars.map (fun b => (b.num, b.den)) = (((gBars.headD []).drop 1).take (1 + 1 - 1)).map (fun b => (b.num, b.den))
        ∧ ∃ one : List BarEv,
            (∀ i, i < 1 + 1 - 1 → ∀ b ∈ one[i]?,
                extract C03c.exCfg.ppqn (gBars.map (fun bs => barsToSeq ((bs.drop (1 + i)).take 1))) = layBars C03c.exCfg [b])
            ∧ one.length = 1 + 1 - 1 ∧ SameNotes C03c.exCfg bars one :=
  extract_wholebars_onebar C03c.exCfg (by decide) [] [gTrack0, gTrack1] gBars (by decide) gBars_eq gBars_shape.1 1 72
    (fun bs h => Nat.le_of_succ_le (gBars_shape.2.1 bs h)) (fun i bs h b hb => gBars_good i bs h b (mem_of_mem_slice hb))

/-- what `extract` makes of bar 1 alone: its 4/4 signature event, the re-struck note [0,24) of pitch 60 and the cap message at 96 -/
example : (extract 24 (gBars.map (fun bs => barsToSeq ((bs.drop 1).take 1)))).map (fun ev => (ev.1, ev.2.map (fun m => (m.ty, m.note, m.time)))) =
    [(0, [(.timeSignature, -1, 0)]), (0, [(.noteOn, 60, 0), (.noteOff, 60, 24)]), (0, [(.internal, -1, 96)])] := by decide +kernel

end SCoda.Examples4e

