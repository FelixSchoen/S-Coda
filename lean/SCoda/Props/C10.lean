/-
  C10 — a Bar always lasts exactly its time signature, or its construction fails.
  `mkBar ppqn rel n d key` models `Bar.__init__` (after the repair of D9); `rel` is the relative view
  of the sequence handed to the constructor.  `barCapacity ppqn n d = (n * ppqn * 4) / d` is the bar
  length in ticks (numerator × 4 / denominator quarter notes; `Props/C11b` shows it is the int-typed
  value of the Python expression).  `bar_duration`, `bar_leading_sig`, `bar_events` are the every-channel statements of
  Props/C10Ch.lean at channel 0 (`mkBar` is `mkBarCh … 0`).
-/
import SCoda.Model.Bar
import SCoda.Model.Roll
import SCoda.Props.C07
import SCoda.Props.C18
import SCoda.Props.C10Ch
namespace SCoda.C10
open SCoda SCoda.BarL

theorem bar_duration (ppqn : Int) (rel : List Msg) (n d key : Int) (b : Bar) (hw : NonNegWaits rel)
    (h : mkBar ppqn rel n d key = .ok b) : durRel b.seq = barCapacity ppqn n d := by
  have _ := hw
  exact C10Ch.bar_duration_ch ppqn rel n d key 0 b h

/-- an accepted bar starts with exactly one time-signature event equal to the bar's signature and
    contains no other; it records the signature and key it was given -/
theorem bar_leading_sig (ppqn : Int) (rel : List Msg) (n d key : Int) (b : Bar)
    (h : mkBar ppqn rel n d key = .ok b) :
    b.seq.head? = some (Msg.mkTimeSig 0 n d pyNone) ∧ (∀ m ∈ b.seq.tail, m.ty ≠ .timeSignature)
      ∧ b.num = n ∧ b.den = d ∧ b.key = key :=
  C10Ch.bar_leading_sig_ch ppqn rel n d key 0 b h

/-- apart from that signature event, the bar holds exactly the normalised events of the sequence -/
theorem bar_events (ppqn : Int) (rel : List Msg) (n d key : Int) (b : Bar) (hw : NonNegWaits rel)
    (h : mkBar ppqn rel n d key = .ok b) :
    eventsRel b.seq = Msg.mkTimeSig 0 n d 0 :: (eventsRel (normalise rel)).filter (·.ty != .timeSignature) := by
  have _ := hw
  exact C10Ch.bar_events_ch ppqn rel n d key 0 b h

theorem bar_too_long (ppqn : Int) (rel : List Msg) (n d key : Int) (hw : NonNegWaits rel)
    (h : barCapacity ppqn n d < durRel rel) : mkBar ppqn rel n d key = .error .barError :=
  mkBar_error key fun hc => by
    have := C07.duration_eq rel hw
    unfold durRel at this h
    omega

theorem bar_conflict (ppqn : Int) (rel : List Msg) (n d key : Int)
    (h : ∃ m ∈ rel, m.ty = .timeSignature ∧ (m.num ≠ n ∨ m.den ≠ d))
    (h0 : ∀ m ∈ rel, m.ty = .timeSignature → (m.num, m.den) ≠ (pyNone, pyNone)) :
    mkBar ppqn rel n d key = .error .barError :=
  mkBar_error key fun hc => by
    obtain ⟨m, hm, hty, hne⟩ := h
    have hmem : (m.num, m.den) ∈ tsVals rel := by
      simp only [tsVals, List.mem_map, List.mem_filter, beq_iff_eq]
      exact ⟨m, ⟨hm, hty⟩, rfl⟩
    -- a value other than (None, None) survives normalisation, and a surviving value must be the bar's
    obtain ⟨-, -, hall⟩ := hc
    have := hall _ (normalise_tsVals rel ▸ mem_dedupD _ _ (pyNone, pyNone) hmem (h0 m hm hty))
    simp only [Prod.mk.injEq] at this
    rcases hne with hne | hne
    · exact hne this.1
    · exact hne this.2

/-- a second signature (one that survives normalisation, i.e. differs from the one before it) is rejected -/
theorem bar_two_sigs (ppqn : Int) (rel : List Msg) (n d key : Int)
    (h : 1 < (C07.timeSigs (normalise rel)).length) : mkBar ppqn rel n d key = .error .barError :=
  mkBar_error key fun hc => by
    obtain ⟨-, h2, -⟩ := hc
    rw [tsVals, List.length_map] at h2
    unfold C07.timeSigs at h
    omega

/-- nothing else is rejected: a sequence that fits and whose signatures all equal the bar's is accepted -/
theorem bar_accepts (ppqn : Int) (rel : List Msg) (n d key : Int) (hw : NonNegWaits rel)
    (hfit : durRel rel ≤ barCapacity ppqn n d)
    (hsig : ∀ m ∈ rel, m.ty = .timeSignature → m.num = n ∧ m.den = d) (hn : (n, d) ≠ (pyNone, pyNone)) :
    ∃ b, mkBar ppqn rel n d key = .ok b := by
  have _ := hn
  exact mkBar_accepts ppqn rel n d key hw hfit fun m hm hty => by rw [(hsig m hm hty).1, (hsig m hm hty).2]

theorem bar_error_kind (ppqn : Int) (rel : List Msg) (n d key : Int) :
    (∃ b, mkBar ppqn rel n d key = .ok b) ∨ mkBar ppqn rel n d key = .error .barError :=
  mkBar_cases ppqn rel n d key

theorem bar_copy (ppqn : Int) (rel : List Msg) (n d key : Int) (b : Bar) (hw : OkRel rel)
    (hn : (n, d) ≠ (pyNone, pyNone)) (hcap : 0 ≤ barCapacity ppqn n d)
    (h : mkBar ppqn rel n d key = .ok b) :
    ∃ b', b.copy ppqn = .ok b' ∧ b'.num = b.num ∧ b'.den = b.den ∧ b'.key = b.key
      ∧ eventsRel b'.seq = eventsRel b.seq ∧ durRel b'.seq = durRel b.seq := by
  have _ := hw
  have _ := hcap
  obtain ⟨b', hcopy, hnum, hden, hkey, hev, hdur, -⟩ := C10Ch.bar_copy_ch ppqn rel n d key 0 b hn h
  exact ⟨b', hcopy, hnum, hden, hkey, hev, hdur⟩

def exRel : List Msg := [Msg.mkOn 0 60 64 pyNone, Msg.mkWait 0 24, Msg.mkOff 0 60 pyNone, Msg.mkWait 0 24]
example : (mkBar 24 exRel 3 4 pyNone).toOption.map (fun b => durRel b.seq) = some 72 := by
  decide +kernel
example : mkBar 24 exRel 1 4 pyNone = .error .barError := by
  rfl
example : mkBar 24 (Msg.mkTimeSig 0 4 4 pyNone :: exRel) 3 4 pyNone = .error .barError := by
  rfl

end SCoda.C10
