/-
  Audit round 3, item R6: `StaticTie.sequencesSplitBars_eq` asked `AbsCoherent` of the meta sequence — the fresh absolute
  view is *literally* `toAbs` of the relative view.  A sequence built with `add_absolute_message` keeps same-tick messages
  in insertion order, `toAbs` orders them by the sort key, so reachable wrapper states were excluded.  Here the hypothesis
  is weakened to what the function reads (`R6L.AbsCoherentSigs`: the time-signature events and the key-signature events of
  the fresh absolute view are those of `toAbs` of the relative view, in the same order), the equality holds under it
  (`R6L.sequencesSplitBars_spec`; the `AbsCoherent` statements of Props/StaticTie.lean are its instances), and the remaining
  case is recorded as a false statement with the audit's witness.
-/
import SCoda.Lemmas.StaticTieL
import SCoda.Props.StaticTie
import SCoda.Props.C04c
import SCoda.Props.C04
import SCoda.Lemmas.Equals
namespace SCoda.StaticTie2
open SCoda SCoda.WrapTie SCoda.StaticTieL SCoda.SB SCoda.ElemTie SCoda.R6L

/-- **`Sequence.sequences_split_bars` as translated from sequence.py is the hand model `splitBars` on the relative views of
    the inputs, for every wrapper state of the meta sequence whose signature events are coherent**: same exception, or the
    same bars track by track (`GBar.toBar`).  As `StaticTie.sequencesSplitBars_eq`, with `hmeta` weakened from `AbsCoherent`
    (literal equality of the fresh absolute view with `toAbs` of the relative view) to `AbsCoherentSigs`: only the
    `(time, numerator, denominator, key)` of the TIME_SIGNATURE messages and of the KEY_SIGNATURE messages, each kind in list
    order, must agree — notes, control changes, channels, and the position of a signature among the other messages of its tick
    are free (the function reads the two queues through `get_message_times_of_type` on the fresh absolute view of a *copy*
    and everything else through the relative view).  `hread`, `hsig`, `hp` as there.  A meta sequence whose absolute view is
    stale, or whose same-tick signature messages of a kind were inserted in sort-key order, satisfies `hmeta`.
    Closes audit round 3 item R6 (a). -/
theorem sequencesSplitBars_eq (e : Env) (seqs : List Seq) (mi : Nat) (rq : Bool) (hp : 0 ≤ e.ppqn)
    (hread : ∀ s ∈ seqs, Readable s)
    (hmeta : ∀ s, seqs[mi]? = some s → AbsCoherentSigs s)
    (hsig : ∀ s p, seqs[mi]? = some s → s.readRel = .ok p → ∀ m ∈ p.2, m.ty = .timeSignature → 0 ≤ m.num ∧ 0 < m.den) :
    (fun tb => tb.map (·.map GBar.toBar)) <$> Gen.Static.sequencesSplitBars e seqs mi rq =
      (do let rels ← readRels seqs
          splitBars e.ppqn e.defValues rels mi rq) :=
  (sequencesSplitBars_spec e seqs mi rq hp hread hmeta hsig).1

/-- `AbsCoherent` implies `AbsCoherentSigs`: `StaticTie.sequencesSplitBars_eq` is a special case of `sequencesSplitBars_eq` here -/
theorem absCoherentSigs_of_absCoherent (s : Seq) (h : AbsCoherent s) : AbsCoherentSigs s := AbsCoherentSigs_of_AbsCoherent s h

/-- inputs whose meta sequence has a stale absolute view (given by their relative view, or last changed through it): no
    hypothesis on the wrapper state beyond readability is left -/
theorem sequencesSplitBars_absStale (e : Env) (seqs : List Seq) (mi : Nat) (rq : Bool) (hp : 0 ≤ e.ppqn)
    (hread : ∀ s ∈ seqs, Readable s) (hmeta : ∀ s, seqs[mi]? = some s → s.absStale = true)
    (hsig : ∀ s p, seqs[mi]? = some s → s.readRel = .ok p → ∀ m ∈ p.2, m.ty = .timeSignature → 0 ≤ m.num ∧ 0 < m.den) :
    (fun tb => tb.map (·.map GBar.toBar)) <$> Gen.Static.sequencesSplitBars e seqs mi rq =
      (do let rels ← readRels seqs
          splitBars e.ppqn e.defValues rels mi rq) :=
  sequencesSplitBars_eq e seqs mi rq hp hread (fun s hs => AbsCoherentSigs_of_absStale s (hmeta s hs)) hsig

/-! ### non-vacuity: a state that `AbsCoherent` excludes and `AbsCoherentSigs` admits

  A meta sequence built through the absolute view: `add_absolute_message(NOTE_ON 60 ch1 @0)`, then
  `add_absolute_message(TIME_SIGNATURE 3/4 ch0 @0)`, `(KEY_SIGNATURE D @0)`, `(NOTE_OFF 60 ch1 @100)`, `(NOTE_ON 62 ch0 @100)`, `(NOTE_OFF 62 ch0 @120)`:
  `binary_insort` keeps the insertion order within tick 0 (note-on first), `toAbs` of the relative view puts the key
  signature and the time signature first.  One signature of each kind: their order is the same. -/
def exAbs : List Msg :=
  [Msg.mkOn 1 60 90 0, Msg.mkTimeSig 0 3 4 0, { ty := .keySignature, ch := 0, time := 0, key := 2 }, Msg.mkOff 1 60 100,
   Msg.mkOn 0 62 80 100, Msg.mkOff 0 62 120]
def exSeq : Seq := { abs := exAbs, absStale := false, relStale := true }
def exOther : List Msg := [Msg.mkOn 1 64 80 pyNone, Msg.mkWait 1 30, Msg.mkOff 1 64 pyNone]

/-- the example is built by `add_absolute_message` (the wrapper model's `addAbsMsg`) in the order given above -/
example : (do let s ← Seq.new.addAbsMsg (Msg.mkOn 1 60 90 0)
              let s ← s.addAbsMsg (Msg.mkTimeSig 0 3 4 0)
              let s ← s.addAbsMsg { ty := .keySignature, ch := 0, time := 0, key := 2 }
              let s ← s.addAbsMsg (Msg.mkOff 1 60 100)
              let s ← s.addAbsMsg (Msg.mkOn 0 62 80 100)
              s.addAbsMsg (Msg.mkOff 0 62 120)) = .ok exSeq := by decide +kernel

example : ¬ AbsCoherent exSeq := by
  intro h
  have := h rfl _ rfl
  revert this
  decide +kernel

example : AbsCoherentSigs exSeq := by decide +kernel

/-- all hypotheses of `sequencesSplitBars_eq` (and of `sequencesSplitBars_constructed`) hold of `[exSeq, Seq.ofRel exOther]`, meta index 0 -/
theorem exSeq_hyps : (0 ≤ genEnv.ppqn) ∧ (∀ s ∈ [exSeq, Seq.ofRel exOther], Readable s) ∧
    (∀ s, [exSeq, Seq.ofRel exOther][0]? = some s → AbsCoherentSigs s) ∧
    (∀ s p, [exSeq, Seq.ofRel exOther][0]? = some s → s.readRel = .ok p → ∀ m ∈ p.2, m.ty = .timeSignature → 0 ≤ m.num ∧ 0 < m.den) := by
  refine ⟨by decide, ?_, ?_, ?_⟩
  · intro s hs
    simp only [List.mem_cons, List.mem_nil_iff, or_false] at hs
    rcases hs with rfl | rfl <;> simp [Readable, exSeq, Seq.ofRel]
  · intro s hs
    simp only [List.getElem?_cons_zero, Option.some.injEq] at hs
    subst hs
    decide +kernel
  · intro s p hs hp
    simp only [List.getElem?_cons_zero, Option.some.injEq] at hs
    subst hs
    have : p = ({ exSeq with rel := toRel exAbs, relStale := false }, toRel exAbs) := by
      have h2 : exSeq.readRel = .ok ({ exSeq with rel := toRel exAbs, relStale := false }, toRel exAbs) := rfl
      rw [h2] at hp; injection hp with hp; exact hp.symm
    subst this
    decide +kernel

example : (0 ≤ genEnv.ppqn) ∧ (∀ s ∈ [exSeq, Seq.ofRel exOther], Readable s) ∧
    (∀ s, [exSeq, Seq.ofRel exOther][0]? = some s → AbsCoherentSigs s) ∧
    (∀ s p, [exSeq, Seq.ofRel exOther][0]? = some s → s.readRel = .ok p → ∀ m ∈ p.2, m.ty = .timeSignature → 0 ≤ m.num ∧ 0 < m.den) := exSeq_hyps

set_option maxRecDepth 100000 in
/-- … and the conclusion, evaluated by the kernel: three 3/4 bars in D on both tracks, on both sides -/
example : (fun tb => tb.map (·.map GBar.toBar)) <$> Gen.Static.sequencesSplitBars genEnv [exSeq, Seq.ofRel exOther] 0 true
    = splitBars genEnv.ppqn genEnv.defValues [toRel exAbs, exOther] 0 true := by decide +kernel

set_option maxRecDepth 100000 in
example : ((fun tb => tb.map (·.map (fun (b : Bar) => (b.num, b.den, b.key, totalWait b.seq)))) <$>
      splitBars genEnv.ppqn genEnv.defValues [toRel exAbs, exOther] 0 true)
    = .ok [[(3, 4, 2, 72), (3, 4, 2, 72)], [(3, 4, 2, 72), (3, 4, 2, 72)]] := by decide +kernel

/-- the equality for **every** input inside C04's wrapper invariant (`C04c.Inv`: not both views stale, fresh views legal, two
    fresh views describe the same timed events up to the order of simultaneous events and the same duration), with the
    numeric hypotheses of the theorem kept and nothing asked of the order of simultaneous signatures -/
def sequencesSplitBars_eq_statement : Prop :=
  ∀ (e : Env) (seqs : List Seq) (mi : Nat) (rq : Bool), 0 ≤ e.ppqn →
    (∀ s ∈ seqs, C04c.Inv s) →
    (∀ s p, seqs[mi]? = some s → s.readRel = .ok p → ∀ m ∈ p.2, m.ty = .timeSignature → 0 ≤ m.num ∧ 0 < m.den) →
    (fun tb => tb.map (·.map GBar.toBar)) <$> Gen.Static.sequencesSplitBars e seqs mi rq =
      (do let rels ← readRels seqs
          splitBars e.ppqn e.defValues rels mi rq)

/-- the audit's witness: a meta sequence built by `add_absolute_message(KEY_SIGNATURE G ch1 @0)`, then
    `(KEY_SIGNATURE D ch0 @0)`, `(NOTE_ON 60 ch0 @0)`, `(NOTE_OFF 60 ch0 @288)`: two key signatures at one tick, inserted
    against the sort-key order (channel 1 before channel 0) -/
def witAbs : List Msg :=
  [{ ty := .keySignature, ch := 1, time := 0, key := 1 }, { ty := .keySignature, ch := 0, time := 0, key := 2 },
   Msg.mkOn 0 60 90 0, Msg.mkOff 0 60 288]
def witSeq : Seq := { abs := witAbs, absStale := false, relStale := true }

/-- the witness is what `add_absolute_message` builds from an empty sequence in that order -/
theorem witSeq_built :
    (do let s ← Seq.new.addAbsMsg { ty := .keySignature, ch := 1, time := 0, key := 1 }
        let s ← s.addAbsMsg { ty := .keySignature, ch := 0, time := 0, key := 2 }
        let s ← s.addAbsMsg (Msg.mkOn 0 60 90 0)
        s.addAbsMsg (Msg.mkOff 0 60 288)) = .ok witSeq := by decide +kernel

theorem witSeq_inv : C04c.Inv witSeq := by
  refine ⟨by simp [witSeq], fun _ => ?_, by simp [witSeq], by simp [witSeq], by simp [witSeq]⟩
  refine ⟨?_, ?_, ?_⟩
  · simp [witSeq, witAbs, TimeSorted, Msg.mkOn, Msg.mkOff]
  · intro m hm; revert m; decide
  · intro m hm; revert m; decide

/-- the translated `sequences_split_bars` (= the real code, replayed) gives the three bars the keys G, D, D … -/
theorem wit_generated :
    (fun tb => tb.map (·.map (fun g => (GBar.toBar g).key))) <$> Gen.Static.sequencesSplitBars genEnv [witSeq] 0 false
      = .ok [[1, 2, 2]] := by decide +kernel

/-- … the model `splitBars` on the relative view (= the real code on `Sequence(relative_sequence=…)` of the same content)
    gives D, G, G -/
theorem wit_model :
    (fun tb => tb.map (·.map (fun (b : Bar) => b.key))) <$>
      (do let rels ← readRels [witSeq]
          splitBars genEnv.ppqn genEnv.defValues rels 0 false)
      = .ok [[2, 1, 1]] := by decide +kernel

/-- **R6 (b): `sequences_split_bars` is NOT a function of the relative views of its inputs.**  For the witness (two key
    signatures at tick 0 inserted through the absolute view against the sort-key order, a note of 288 ticks) the translated
    function — and the real code, replayed with /venv/bin/python: bar keys `[G, D, D]` — reads the key signatures in insertion
    order, the model `splitBars` — and the real code on `Sequence(relative_sequence=…)` holding the same messages: `[D, G, G]`
    — in sort-key order.  The witness is inside C04's invariant and violates only `AbsCoherentSigs`.  A genuine dependence
    of the real function on the wrapper state, not a model artefact.  It lies in the class of known finding **D23** (two
    changes of one kind due at one bar start: only the first is applied to that bar, the second one bar late — which of the
    two is "first" is what differs here).  Closes audit round 3 item R6 (b). -/
theorem sequencesSplitBars_eq_statement_false : ¬ sequencesSplitBars_eq_statement := by
  intro h
  have h1 := h genEnv [witSeq] 0 false (by decide)
    (by intro s hs; simp only [List.mem_cons, List.mem_nil_iff, or_false] at hs; subst hs; exact witSeq_inv)
    (by intro s p hs hp
        simp only [List.getElem?_cons_zero, Option.some.injEq] at hs
        subst hs
        have h2 : witSeq.readRel = .ok ({ witSeq with rel := toRel witAbs, relStale := false }, toRel witAbs) := rfl
        rw [h2] at hp; injection hp with hp; subst hp
        decide +kernel)
  have h2 := congrArg (fun x => (fun (tb : List (List Bar)) => tb.map (·.map (fun (b : Bar) => b.key))) <$> x) h1
  rw [wit_model] at h2
  have h3 := wit_generated
  cases hg : Gen.Static.sequencesSplitBars genEnv [witSeq] 0 false with
  | error x => rw [hg] at h3; cases h3
  | ok tb =>
    rw [hg] at h2 h3
    simp only [map_ok, Except.ok.injEq, List.map_map, Function.comp_def] at h2 h3
    rw [h3] at h2
    revert h2; decide

/-- the witness fails exactly the weakened hypothesis … -/
theorem witSeq_not_coherentSigs : ¬ AbsCoherentSigs witSeq := by decide +kernel
/-- … in its key-signature half only (there is no time signature) -/
example : sigsOf .keySignature witSeq.abs = [(0, -1, -1, 1), (0, -1, -1, 2)] ∧
    sigsOf .keySignature (toAbs (toRel witSeq.abs)) = [(0, -1, -1, 2), (0, -1, -1, 1)] := by decide +kernel

/-- the signatures of each kind appear in the absolute view in the order of the sort key `(time, channel, type, note)` —
    e.g. at most one signature of a kind per tick, or same-tick signatures inserted with ascending channel.  The
    complement of the audit's witness ("inserted against the key order"). -/
def SigsInKeyOrder (a : List Msg) : Prop :=
  (timesOfType .timeSignature a).Pairwise (fun x y => keyLe x y = true) ∧
  (timesOfType .keySignature a).Pairwise (fun x y => keyLe x y = true)

instance (a : List Msg) : Decidable (SigsInKeyOrder a) := by unfold SigsInKeyOrder; infer_instance

theorem timesOfType_toAbs_toRel (ty : MType) (hty : ty ≠ .internal) (a : List Msg) (hok : OkAbs a)
    (h : (timesOfType ty a).Pairwise (fun x y => keyLe x y = true)) :
    timesOfType ty (toAbs (toRel a)) = timesOfType ty a := by
  have hev : (eventsAbs a).filter (·.ty == ty) = a.filter (·.ty == ty) := by
    unfold eventsAbs
    rw [List.filter_filter]
    congr 1
    funext m
    by_cases hm : m.ty = ty
    · simp [hm, hty]
    · simp [hm]
  unfold timesOfType at h ⊢
  rw [toAbs_eq]
  split
  · rw [filter_sortAbs, C04.toRel_events a hok, hev, sortAbs_of_sorted _ h]
  · rw [filter_insort _ _ _ (by simp [Msg.mkInternal]; exact fun h' => hty h'.symm)]
    rw [filter_sortAbs, C04.toRel_events a hok, hev, sortAbs_of_sorted _ h]

/-- **a sequence built through its absolute view alone (`add_absolute_message`, `overwrite_absolute_messages`, a loaded file:
    relative view stale) whose signatures are in key order satisfies `AbsCoherentSigs`** — so for such a meta sequence
    `sequencesSplitBars_eq` needs nothing but the decidable, input-level `SigsInKeyOrder` of its legal absolute view -/
theorem absCoherentSigs_of_keyOrder (s : Seq) (hr : s.relStale = true) (hok : OkAbs s.abs) (h : SigsInKeyOrder s.abs) :
    AbsCoherentSigs s := by
  intro hs p hp
  obtain ⟨a, r, sa, sr⟩ := s
  simp only at hr hs hok h
  subst hr hs
  simp only [Seq.readRel, if_true, Bool.false_eq_true, if_false, Except.ok.injEq] at hp
  subst hp
  simp only [sigsOf]
  rw [timesOfType_toAbs_toRel .timeSignature (by decide) a hok h.1, timesOfType_toAbs_toRel .keySignature (by decide) a hok h.2]
  exact ⟨rfl, rfl⟩

example : exSeq.relStale = true ∧ OkAbs exSeq.abs ∧ SigsInKeyOrder exSeq.abs := by
  refine ⟨rfl, ⟨?_, ?_, ?_⟩, by decide⟩
  · simp [exSeq, exAbs, TimeSorted, Msg.mkOn, Msg.mkOff, Msg.mkTimeSig]
  · intro m hm; revert m; decide
  · intro m hm; revert m; decide
/-- the witness is legal and fails only this: its two key signatures at tick 0 are against the key order -/
example : OkAbs witSeq.abs ∧ ¬ SigsInKeyOrder witSeq.abs := ⟨witSeq_inv.absOk rfl, by decide⟩

/-- `StaticTie.seq_split_bars_link` with `AbsCoherentSigs` -/
theorem seq_split_bars_link (e : Env) (seqs : List Seq) (mi : Nat) (rq : Bool) (hp : 0 ≤ e.ppqn)
    (hread : ∀ s ∈ seqs, Readable s) (hmeta : ∀ s, seqs[mi]? = some s → AbsCoherentSigs s)
    (hsig : ∀ s p, seqs[mi]? = some s → s.readRel = .ok p → ∀ m ∈ p.2, m.ty = .timeSignature → 0 ≤ m.num ∧ 0 < m.den) :
    View.seq_split_bars e seqs mi rq =
      (fun tb => tb.map (·.map (fun g => GBar.ofBar g.toBar))) <$> Gen.Static.sequencesSplitBars e seqs mi rq :=
  seq_split_bars_link_of_eq e seqs mi rq (sequencesSplitBars_eq e seqs mi rq hp hread hmeta hsig)

/-- `StaticTie.sequencesSplitBars_constructed` with `AbsCoherentSigs` -/
theorem sequencesSplitBars_constructed (e : Env) (seqs : List Seq) (mi : Nat) (rq : Bool) (hp : 0 ≤ e.ppqn)
    (hread : ∀ s ∈ seqs, Readable s)
    (hmeta : ∀ s, seqs[mi]? = some s → AbsCoherentSigs s)
    (hsig : ∀ s p, seqs[mi]? = some s → s.readRel = .ok p → ∀ m ∈ p.2, m.ty = .timeSignature → 0 ≤ m.num ∧ 0 < m.den)
    (tb : List (List GBar)) (h : Gen.Static.sequencesSplitBars e seqs mi rq = .ok tb) :
    ∀ bars ∈ tb, ∀ g ∈ bars, g.sequence.absStale = true ∧ g.sequence.relStale = false :=
  (sequencesSplitBars_spec e seqs mi rq hp hread hmeta hsig).2 tb h

end SCoda.StaticTie2
