/-
  C12 / C13 — end to end.
  * load: the sounding set of loaded sequence `gi` is the union, over the tracks of group `gi`, of the
    sounding sets of their note events placed at the rounded exact positions (C13);
  * save ∘ load at the library's own resolution gives back the same sounding set per sequence (C12).
  Hypotheses: every track index is listed at most once in the groups; delta times are non-negative;
  per track the rounded note events are well-formed with notes of positive length (outside the known
  finding D17: a note collapsing to zero length).
-/
import SCoda.Props.C13b
namespace SCoda.C13
open SCoda

/-- with non-negative deltas the messages of a track arrive in time order, so `add_absolute_message`
    (binary insort) simply appends: the track's sequence holds `trackMsgs` -/
theorem trackMsgs_sorted (ppqn filePpq : Int) (hp : 0 < ppqn) (hf : 0 < filePpq) (ticks : Int) (ht : 0 ≤ ticks)
    (evs : List MidiEv) (hd : ∀ e ∈ evs, 0 ≤ e.time) :
    OkAbs (trackMsgs ppqn filePpq ticks evs) ∧ (trackMsgs ppqn filePpq ticks evs).foldl insort [] = trackMsgs ppqn filePpq ticks evs :=
  L2.trackMsgs_okAbs ppqn filePpq hp hf ticks ht evs hd

/-- **routing / union (C13)**: for a valid load, the sounding set of loaded sequence `gi` is the union of
    the sounding sets of the tracks of group `gi` at their rounded positions -/
theorem load_sounding (ppqn filePpq : Int) (hp : 0 < ppqn) (hf : 0 < filePpq)
    (tracks : List (List MidiEv)) (groups : List (List Nat)) (metaIdx : List Nat) (target : Int) (out : List Seq)
    (h : convert ppqn filePpq tracks groups metaIdx target = .ok out)
    (hnd : groups.flatten.Nodup) (hidx : ∀ i ∈ groups.flatten, i < tracks.length)
    (hd : ∀ evs ∈ tracks, ∀ e ∈ evs, 0 ≤ e.time)
    (hgood : ∀ i ∈ groups.flatten, ∀ evs, tracks[i]? = some evs → GoodTrack ppqn filePpq evs)
    (gi : Nat) (g : List Nat) (hg : groups[gi]? = some g) (s s' : Seq) (a : List Msg)
    (hs : out[gi]? = some s) (ha : s.readAbs = .ok (s', a)) (k : Int × Int) (t : Int) :
    SoundingAt (eventsAbs a) k t ↔
      ∃ i ∈ g, ∃ evs, tracks[i]? = some evs ∧ SoundingAt (trackMsgs ppqn filePpq 0 evs) k t := by
  -- `hidx` is not needed: a listed index without a track contributes nothing
  have _ := hidx
  exact C13b.routing_union_partial ppqn filePpq hp hf tracks groups metaIdx target out h hnd hd
    (fun i hi evs hev => C13b.notesClosed_of_goodTrack ppqn filePpq evs (hgood i hi evs hev)) gi g hg s s' a hs ha k t

/-- **meta (C13)**: every time / key signature of a considered track is on the designated meta sequence
    (as an event of its absolute view) at its rounded position, unless it repeats the one in force -/
theorem load_signatures (ppqn filePpq : Int) (hp : 0 < ppqn) (hf : 0 < filePpq)
    (tracks : List (List MidiEv)) (groups : List (List Nat)) (metaIdx : List Nat) (target : Int) (out : List Seq)
    (h : convert ppqn filePpq tracks groups metaIdx target = .ok out)
    (hd : ∀ evs ∈ tracks, ∀ e ∈ evs, 0 ≤ e.time)
    (s s' : Seq) (a : List Msg) (hs : out[target.toNat]? = some s) (ha : s.readAbs = .ok (s', a)) :
    ∀ m ∈ a, (m.ty = .timeSignature ∨ m.ty = .keySignature) →
      (m = Msg.mkTimeSig 0 4 4 0 ∨ (∃ c, m = Msg.mkTimeSig c 4 4 0))
      ∨ ∃ i evs, tracks[i]? = some evs ∧ (groups.flatten.contains i ∨ metaIdx.contains i)
          ∧ m ∈ metaMsgs ppqn filePpq (groups.flatten.contains i) 0 evs := by
  intro m hm hsig
  rcases L2.sig_core ppqn filePpq hp hf tracks groups metaIdx target out h hd s s' a hs ha m hm hsig with hc | ⟨i, evs, h1, h2, h3⟩
  · exact Or.inl (Or.inr hc)
  · exact Or.inr ⟨i, evs, h1, h2, h3⟩

/-- sequences other than the meta target carry no signature at all -/
theorem signatures_only_on_target (ppqn filePpq : Int) (tracks : List (List MidiEv)) (groups : List (List Nat))
    (metaIdx : List Nat) (target : Int) (out : List Seq)
    (h : convert ppqn filePpq tracks groups metaIdx target = .ok out)
    (gi : Nat) (hne : (gi : Int) ≠ target) (s s' : Seq) (a : List Msg)
    (hs : out[gi]? = some s) (ha : s.readAbs = .ok (s', a)) :
    ∀ m ∈ a, m.ty ≠ .timeSignature ∧ m.ty ≠ .keySignature := by
  obtain ⟨ht0, d, r, hr, ⟨_, rfl⟩ | ⟨hgi, _⟩⟩ := MidiL.convert_read ppqn filePpq tracks groups metaIdx target out h gi s s' a hs ha
  · intro m hm
    have := (E2E.toAbs_absI _ (L2.gmergeL_relI ppqn filePpq tracks groups gi r hr) m hm).1
    simp only [E2E.isSig, not_or] at this
    exact this
  · omega

/-- **C12**: one sequence per saved sequence, and sequence `i` sounds exactly what saved sequence `i`
    sounded (pitch and tick; the channel is not stored in the file: everything comes back on channel 0) -/
theorem save_load_sounding (ppqn : Int) (hp : 0 < ppqn) (rels : List (List Msg)) (hs : ∀ r ∈ rels, Saved r)
    (hne : rels ≠ []) :
    ∃ out, saveLoad ppqn rels = .ok out ∧ out.length = rels.length ∧
      ∀ (i : Nat) (r : List Msg) (s s' : Seq) (a : List Msg), rels[i]? = some r → out[i]? = some s → s.readAbs = Except.ok (s', a) →
        ∀ p t, SoundingAt (eventsAbs a) (0, p) t ↔ ∃ c, SoundingAt (eventsRel r) (c, p) t := by
  obtain ⟨out, hout, hlen⟩ := C13b.save_load_succeeds ppqn rels hne
  exact ⟨out, hout, hlen, fun i r s s' a hr ho ha p t =>
    MidiSave.sounding_core ppqn hp rels (fun r hr => (hs r hr).noteGood) out hout i r s s' a hr ho ha p t⟩

def exTrack : List MidiEv := [{ (Msg.mkOn 0 60 64 0) with time := 10 }, { (Msg.mkOff 0 60 0) with time := 470, vel := 0 }]
theorem exTrack_msgs : trackMsgs 24 480 0 exTrack = [Msg.mkOn 0 60 64 0, Msg.mkOff 0 60 24] := by
  decide +kernel
example : trackMsgs 24 480 0 exTrack = [Msg.mkOn 0 60 64 0, Msg.mkOff 0 60 24] := exTrack_msgs
example : GoodTrack 24 480 exTrack := by
  unfold GoodTrack
  rw [exTrack_msgs]
  exact ⟨by decide, by unfold C15.PosDur; decide⟩

end SCoda.C13
