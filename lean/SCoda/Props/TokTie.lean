/-
  TOKENISER TIE: the functions GENERATED from `MultiTrackLargeVocabularyNotelikeTokeniser`
  (/repo/scoda/tokenisation/notelike_tokenisation.py) by tools/py2lean_tok.py (Gen/TokFns.lean, namespace
  `SCoda.Gen.Tok`) against the hand models of Model/Token.lean and Model/Render.lean, on which the C01 / C02 / C03
  property theorems are stated.  The generated text follows the Python statement by statement, so a semantic edit of
  the Python changes the generated definition and the theorems below stop building (tools/test_py2lean_tok.sh).

  What remains assumed: the LINK table in the header of Gen/TokFns.lean (Model/TokLib.lean).
  `cfgOf o` is the hand-model configuration `Cfg` of a tokeniser object `o`.
-/
import SCoda.Lemmas.TokEmitL
import SCoda.Lemmas.TokPpqnL
import SCoda.Lemmas.TokLib2L
import SCoda.Lemmas.TokDictL
import SCoda.Lemmas.TokAcceptL
import SCoda.Props.C02b
namespace SCoda.TokTie
open SCoda SCoda.TokLib SCoda.Gen.Tok SCoda.TokTieL SCoda.RenderL

/-- ALL INPUTS.  The generated `_construct_dictionary` never raises; it stores the literal ids 0..3 for the four special
    tokens (`first4`) and then pushes (`d[key] = size; size += 1`) exactly the rendered tokens of the hand model's
    construction sequence `vocabSeq` after its first four, in that order; finally it inverts the dictionary. -/
theorem constructDictionary_all (o : TokObj) :
    constructDictionary o =
      .ok (finish (pushAll (first4 o) (((vocabSeq (cfgOf o)).drop 4).map render))) := by
  rw [constructDictionary_struct, tailStrings_eq]

/-- On an object whose `_dictionary_size` is 0 (as `__init__` leaves it) the generated `_construct_dictionary` pushes
    `render t` for every `t` of the hand model's `vocabSeq (cfgOf o)`, in order: key number `i` of the construction
    sequence receives id `i` (a later duplicate overwrites the id, the position of the first insertion is kept). -/
theorem constructDictionary_eq (o : TokObj) (h0 : o.dictionarySize_ = 0) :
    constructDictionary o = .ok (finish (pushAll o ((vocabSeq (cfgOf o)).map render))) := by
  rw [constructDictionary_all, first4_fresh o h0, pushAll_append, ← List.map_append]
  congr 4

/-- the dictionary that `_construct_dictionary` builds from an empty one: `d[render t_i] = i` for `i = 0, 1, …` -/
theorem constructDictionary_dictionary (o o' : TokObj) (h0 : o.dictionarySize_ = 0) (hd : o.dictionary = [])
    (h : constructDictionary o = .ok o') :
    o'.dictionary = setAll [] 0 ((vocabSeq (cfgOf o)).map render) ∧
    o'.inverseDictionary = pyDictOfList (o'.dictionary.map (fun p => (p.2, p.1))) ∧
    cfgOf o' = cfgOf o := by
  rw [constructDictionary_eq o h0] at h
  obtain rfl := Except.ok.inj h
  exact ⟨by rw [finish_dictionary, pushAll_dictionary, hd, h0], finish_inverseDictionary _,
    (cfgOf_finish _).trans (cfgOf_pushAll o _)⟩

/-- `dictionary_size` of the translated source is the hand model's `dictionarySize` (C02's size claim is about the code). -/
theorem dictionarySize_eq (o o' : TokObj) (h0 : o.dictionarySize_ = 0) (h : constructDictionary o = .ok o') :
    Gen.Tok.dictionarySize o' = .ok (SCoda.dictionarySize (cfgOf o) : Int) := by
  rw [constructDictionary_eq o h0] at h
  obtain rfl := Except.ok.inj h
  unfold Gen.Tok.dictionarySize SCoda.dictionarySize
  rw [finish_dictionarySize, pushAll_size, h0, List.length_map, Int.zero_add]
  rfl

/-- The translated constructor: the state of the object (`initObj`: defaults filled in, step sizes and note values sorted
    WITHOUT DUPLICATES — `sorted(set(…))`, the repair of finding D31 — bins from the linked `get_velocity_bins`) and the
    vocabulary `vocabSeq` of its hand-model configuration, rendered. -/
theorem tokInit_eq' (ppqn : Option Int) (numTracks : Int) (pitchRange : Int × Int) (stepSizes noteValues : Option (List Int))
    (vb : Int) (tsRange : Int × Int) (running fuseTrk fuseVal fuseVel simplify : Bool) :
    tokInit ppqn numTracks pitchRange stepSizes noteValues vb tsRange running fuseTrk fuseVal fuseVel simplify =
      match linkVelocityBinsFn vb with
      | .error e => .error e
      | .ok bins =>
        let o := initObj ppqn numTracks pitchRange stepSizes noteValues bins tsRange running fuseTrk fuseVal fuseVel simplify
        .ok (finish (pushAll o ((vocabSeq (cfgOf o)).map render))) := by
  unfold tokInit
  cases hb : linkVelocityBinsFn vb with
  | error e => rfl
  | ok bins =>
    simp only [bind, Except.bind, pure, Except.pure]
    rw [constructDictionary_eq _ rfl]
    cases ppqn <;> cases stepSizes <;> cases noteValues <;> rfl

/-- what `__init__` returns, read off `tokInit_eq'`: the bins of the linked `get_velocity_bins`, and the hand-model configuration
    of the returned object is that of `initObj` (`_construct_dictionary` only touches the dictionaries and the size) -/
theorem tokInit_cfg (ppqn : Option Int) (numTracks : Int) (pitchRange : Int × Int) (stepSizes noteValues : Option (List Int))
    (vb : Int) (tsRange : Int × Int) (running fuseTrk fuseVal fuseVel simplify : Bool) (o : TokObj)
    (h : tokInit ppqn numTracks pitchRange stepSizes noteValues vb tsRange running fuseTrk fuseVal fuseVel simplify = .ok o) :
    ∃ bins, linkVelocityBinsFn vb = .ok bins ∧
      cfgOf o = cfgOf (initObj ppqn numTracks pitchRange stepSizes noteValues bins tsRange running fuseTrk fuseVal fuseVel simplify) := by
  rw [tokInit_eq'] at h
  cases hb : linkVelocityBinsFn vb with
  | error e => rw [hb] at h; cases h
  | ok bins =>
    rw [hb] at h
    obtain rfl := Except.ok.inj h
    exact ⟨bins, rfl, (cfgOf_finish _).trans (cfgOf_pushAll _ _)⟩

/-- THE REPAIR OF D31.  Every tokeniser object that `__init__` builds — whatever lists the caller passes, repeated entries
    included, or the defaults — has duplicate-free step sizes and note values: the hypotheses `steps_nodup` / `values_nodup` of
    `C02.CfgWF` hold for every constructible tokeniser, they are not a condition on the caller's arguments. -/
theorem tokInit_nodup (ppqn : Option Int) (numTracks : Int) (pitchRange : Int × Int) (stepSizes noteValues : Option (List Int))
    (vb : Int) (tsRange : Int × Int) (running fuseTrk fuseVal fuseVel simplify : Bool) (o : TokObj)
    (h : tokInit ppqn numTracks pitchRange stepSizes noteValues vb tsRange running fuseTrk fuseVal fuseVel simplify = .ok o) :
    (cfgOf o).steps.Nodup ∧ (cfgOf o).values.Nodup := by
  obtain ⟨bins, _, hc⟩ := tokInit_cfg _ _ _ _ _ _ _ _ _ _ _ _ o h
  rw [hc]
  exact ⟨TokLib2L.sorted_set_nodup _, TokLib2L.sorted_set_nodup _⟩

/-- What the constructed object stores, specified without the two built-ins: the step sizes (note values) are strictly
    ascending and are exactly the entries of the list passed (of the default list when `None` is passed).  These two facts
    determine the stored list (`TokLib2L.strict_ext`). -/
theorem tokInit_sorted (ppqn : Option Int) (numTracks : Int) (pitchRange : Int × Int) (stepSizes noteValues : Option (List Int))
    (vb : Int) (tsRange : Int × Int) (running fuseTrk fuseVal fuseVel simplify : Bool) (o : TokObj)
    (h : tokInit ppqn numTracks pitchRange stepSizes noteValues vb tsRange running fuseTrk fuseVal fuseVel simplify = .ok o) :
    ((cfgOf o).steps.Pairwise (· < ·) ∧ ∀ a, a ∈ (cfgOf o).steps ↔ a ∈ stepSizes.getD Gen.defaultStepSizesShift1) ∧
    ((cfgOf o).values.Pairwise (· < ·) ∧ ∀ a, a ∈ (cfgOf o).values ↔ a ∈ noteValues.getD Gen.defaultNoteValues) := by
  obtain ⟨bins, _, hc⟩ := tokInit_cfg _ _ _ _ _ _ _ _ _ _ _ _ o h
  rw [hc]
  exact ⟨⟨TokLib2L.sorted_set_strict _, TokLib2L.mem_sorted_set _⟩, ⟨TokLib2L.sorted_set_strict _, TokLib2L.mem_sorted_set _⟩⟩

/-- `C02.CfgWF` for a constructed tokeniser: what is left of it as a condition is that `get_velocity_bins` returned distinct
    bins (finding D16b: for some bin counts it repeats 127; that is a defect of `get_velocity_bins`, not of the caller's lists). -/
theorem tokInit_cfgWF (ppqn : Option Int) (numTracks : Int) (pitchRange : Int × Int) (stepSizes noteValues : Option (List Int))
    (vb : Int) (tsRange : Int × Int) (running fuseTrk fuseVal fuseVel simplify : Bool) (o : TokObj)
    (h : tokInit ppqn numTracks pitchRange stepSizes noteValues vb tsRange running fuseTrk fuseVal fuseVel simplify = .ok o)
    (hb : o.velocityBins.Nodup) : C02.CfgWF (cfgOf o) :=
  have hn := tokInit_nodup _ _ _ _ _ _ _ _ _ _ _ _ o h
  { steps_nodup := hn.1, values_nodup := hn.2, bins_nodup := hb, def_eq := (rfl : Gen.defaultTimeSignatureNumerator = Gen.defaultTimeSignatureDenominator) }

/-- a caller who passes duplicate-free lists gets what the constructor stored before the repair (`l.sort()`) -/
theorem initObj_of_nodup (ppqn : Option Int) (numTracks : Int) (pitchRange : Int × Int) (steps values : List Int)
    (bins : List Int) (tsRange : Int × Int) (running fuseTrk fuseVal fuseVel simplify : Bool)
    (hs : steps.Nodup) (hv : values.Nodup) :
    (initObj ppqn numTracks pitchRange (some steps) (some values) bins tsRange running fuseTrk fuseVal fuseVel simplify).stepSizes
      = pySortInt steps ∧
    (initObj ppqn numTracks pitchRange (some steps) (some values) bins tsRange running fuseTrk fuseVal fuseVel simplify).noteValues
      = pySortInt values :=
  ⟨TokLib2L.sorted_set_of_nodup steps hs, TokLib2L.sorted_set_of_nodup values hv⟩

/-- non-vacuity, on the recorded inputs of finding D31 (`step_sizes=[4, 4, 8]`, `note_values=[12, 12, 24]`, pitches 60..62): the
    translated `__init__` succeeds, stores `[4, 8]` / `[12, 24]`, the configuration is `CfgWF`, and `dictionary_size` is the number
    of keys (before the repair: 29 ids handed out for 22 keys) -/
example : ∃ o, tokInit none 1 (60, 62) (some [4, 4, 8]) (some [12, 12, 24]) 1 (2, 16) true true true true true = .ok o ∧
    o.stepSizes = [4, 8] ∧ o.noteValues = [12, 24] ∧ C02.CfgWF (cfgOf o) ∧
    o.dictionarySize_ = o.dictionary.length ∧ o.dictionary.length = o.inverseDictionary.length := by
  have hb : linkVelocityBinsFn 1 = .ok [127] := by decide +kernel
  have h := tokInit_eq' none 1 (60, 62) (some [4, 4, 8]) (some [12, 12, 24]) 1 (2, 16) true true true true true
  rw [hb] at h
  refine ⟨_, h, ?_⟩
  refine ⟨by decide, by decide, ⟨by decide, by decide, by decide, by decide⟩, by decide, by decide⟩

/-- non-vacuity: the hypotheses hold for the object `__init__` builds, e.g. with all defaults and one velocity bin -/
example : (initObj none 1 (21, 108) none none [127] (2, 16) true true true true true).dictionarySize_ = 0 ∧
    (initObj none 1 (21, 108) none none [127] (2, 16) true true true true true).dictionary = [] := ⟨rfl, rfl⟩

/-- without `_dictionary_size = 0` the closed form is `constructDictionary_all`: ids 0..3 are literals in the source, so
    a second call of `_construct_dictionary` on the same object would give `pad … bar` the ids 0..3 again but number the
    rest from the old size (the method is only called from `__init__`). -/
def constructDictionary_anyObject_statement : Prop :=
  ∀ o : TokObj, constructDictionary o = .ok (finish (pushAll o ((vocabSeq (cfgOf o)).map render)))

/-! ### Part 2: `tokenise`

  `tokenise(sequences_bar, insert_bar_token=True, flag_running_time_signature=True, state_dict)` against the hand model
  `tokeniseCore` (Model/Token.lean) applied to `extract` (Model/Extract.lean) and rendered by `render` (Model/Render.lean).
  The tracks are given by their relative views (`LSeq.rel`); `stOfDict` reads the state dictionary with the defaults of the
  source (`.get(key, default)`), `writeSt` performs its eight stores; `liftE` maps model errors to Python exceptions. -/

/-- The generated `tokenise` with a state dictionary `d` is the hand model: same tokens (rendered), same new state
    (written back into `d` key by key), same exception class.  Hypotheses (each replayed on /repo, see below):
    `hlen` the number of tracks is `num_tracks` (the source raises otherwise, `tokeniseCore` has no such check);
    `hd`, `hn` the time signature carried by the state has a non-zero denominator and a non-negative bar length
    (`int(ppqn * 4 * n / d)` raises ZeroDivisionError resp. truncates toward zero, the model divides rounding down);
    `hev` the same for every time-signature event, and the channel of a pairing is the channel of its first message. -/
theorem tokenise_eq (o : TokObj) (rels : List (List Msg)) (d : List (String × Int))
    (hlen : (rels.length : Int) = o.numTracks)
    (hd : (stOfDict o d).tsDen ≠ 0) (hn : 0 ≤ o.ppqn * 4 * (stOfDict o d).tsNum)
    (hev : ∀ ev ∈ extract Gen.ppqn rels, EvOk o.ppqn ev) :
    tokenise o (rels.map LSeq.rel) true true (some d) =
      liftE (fun r => (writeSt d r.2, r.1.map render))
        (tokeniseCore (cfgOf o) (stOfDict o d) (extract Gen.ppqn rels)) :=
  tokenise_keep true o rels d hlen hd hn hev

/-- what `tokenise_eq` needs of a time-signature event: a non-zero denominator and a non-negative bar length -/
def TsEvOk (ppqn : Int) (ev : Int × Pairing) : Prop :=
  ∀ m, ev.2.head? = some m → m.ty = .timeSignature → m.den ≠ 0 ∧ 0 ≤ ppqn * 4 * m.num

/-- `tokenise_eq` without the channel hypothesis: the pairings of `extract` are always filed under the channel of their first
    message (`extract_ch`), so the source's "Channel mismatch" check never fires. -/
theorem tokenise_eq' (o : TokObj) (rels : List (List Msg)) (d : List (String × Int))
    (hlen : (rels.length : Int) = o.numTracks)
    (hd : (stOfDict o d).tsDen ≠ 0) (hn : 0 ≤ o.ppqn * 4 * (stOfDict o d).tsNum)
    (hev : ∀ ev ∈ extract Gen.ppqn rels, TsEvOk o.ppqn ev) :
    tokenise o (rels.map LSeq.rel) true true (some d) =
      liftE (fun r => (writeSt d r.2, r.1.map render))
        (tokeniseCore (cfgOf o) (stOfDict o d) (extract Gen.ppqn rels)) :=
  tokenise_eq o rels d hlen hd hn (fun ev h m hm => ⟨extract_ch _ _ ev h m hm, hev ev h m hm⟩)

/-- `state_dict=None` is `state_dict={}` -/
theorem tokenise_none (o : TokObj) (tracks : List LSeq) (ibt frts : Bool) :
    tokenise o tracks ibt frts none = tokenise o tracks ibt frts (some []) := rfl

theorem stOfDict_nil (o : TokObj) : stOfDict o [] = TokSt.init (cfgOf o) := rfl

/-- Stateless call (`state_dict=None`): the generated `tokenise` is `tokeniseCore` from the initial state `TokSt.init`,
    rendered; the returned dictionary holds the eight state values.  `hp`: a negative `ppqn` is outside the model. -/
theorem tokenise_fresh (o : TokObj) (rels : List (List Msg))
    (hlen : (rels.length : Int) = o.numTracks) (hp : 0 ≤ o.ppqn)
    (hev : ∀ ev ∈ extract Gen.ppqn rels, EvOk o.ppqn ev) :
    tokenise o (rels.map LSeq.rel) true true none =
      liftE (fun r => (writeSt [] r.2, r.1.map render))
        (tokeniseCore (cfgOf o) (TokSt.init (cfgOf o)) (extract Gen.ppqn rels)) := by
  rw [tokenise_none, ← stOfDict_nil]
  exact tokenise_eq o rels [] hlen (show Gen.defaultTimeSignatureDenominator ≠ 0 by decide) (defaultBar_nonneg hp) hev

/-- `tokenise_fresh` without the channel hypothesis -/
theorem tokenise_fresh' (o : TokObj) (rels : List (List Msg))
    (hlen : (rels.length : Int) = o.numTracks) (hp : 0 ≤ o.ppqn)
    (hev : ∀ ev ∈ extract Gen.ppqn rels, TsEvOk o.ppqn ev) :
    tokenise o (rels.map LSeq.rel) true true none =
      liftE (fun r => (writeSt [] r.2, r.1.map render))
        (tokeniseCore (cfgOf o) (TokSt.init (cfgOf o)) (extract Gen.ppqn rels)) :=
  tokenise_fresh o rels hlen hp (fun ev h m hm => ⟨extract_ch _ _ ev h m hm, hev ev h m hm⟩)

/-- non-vacuity: a one-track piece with one note satisfies the hypotheses of `tokenise_fresh` for the default object -/
example :
    let o := initObj none 1 (21, 108) none none [127] (2, 16) true true true true true
    let rels : List (List Msg) := [[Msg.mkOn 0 60 64 pyNone, Msg.mkWait 0 12, Msg.mkOff 0 60 pyNone]]
    (rels.length : Int) = o.numTracks ∧ 0 ≤ o.ppqn ∧ (∀ ev ∈ extract Gen.ppqn rels, EvOk o.ppqn ev) := by
  refine ⟨rfl, by decide, ?_⟩
  have h : extract Gen.ppqn [[Msg.mkOn 0 60 64 pyNone, Msg.mkWait 0 12, Msg.mkOff 0 60 pyNone]]
      = [(0, [Msg.mkOn 0 60 64 0, Msg.mkOff 0 60 12])] := by decide +kernel
  intro ev hev
  simp only [h, List.mem_singleton] at hev
  subst hev
  intro m hm
  simp only [List.head?_cons, Option.some.injEq] at hm
  subst hm
  exact ⟨rfl, fun h => by simp [Msg.mkOn] at h⟩


/-- `hlen` excluded: a wrong number of tracks raises TokenisationException (replayed on /repo:
    `Tokeniser(num_tracks=2).tokenise([one sequence])` → "Number of sequences does not match number of tracks").
    `tokeniseCore` has no such check (lean/Driver.lean makes it before calling the model). -/
theorem tokenise_wrong_length (o : TokObj) (tracks : List LSeq) (d : List (String × Int))
    (hlen : (tracks.length : Int) ≠ o.numTracks) (hd : (stOfDict o d).tsDen ≠ 0) :
    tokenise o tracks true true (some d) = .error .tokenisationException := by
  unfold tokenise
  have hd' : pyDictGetD d "cur_time_signature_denominator" Gen.defaultTimeSignatureDenominator ≠ 0 := hd
  have hl : (!((tracks.length : Int) == o.numTracks)) = true := by simp [hlen]
  simp only [Bool.not_true, raiseIf_false, pyTrueDiv_ok _ _ hd', ok_bind, hl, raiseIf_true, error_bind]

/-- `hd` excluded: a state with time-signature denominator 0 raises ZeroDivisionError (replayed on /repo:
    `tokenise(..., state_dict={"cur_time_signature_denominator": 0})` → ZeroDivisionError); the model computes capacity 0. -/
theorem tokenise_zero_denominator (o : TokObj) (tracks : List LSeq) (d : List (String × Int))
    (hd : (stOfDict o d).tsDen = 0) :
    tokenise o tracks true true (some d) = .error .zeroDivisionError := by
  unfold tokenise
  have hd' : pyDictGetD d "cur_time_signature_denominator" Gen.defaultTimeSignatureDenominator = 0 := hd
  simp only [Bool.not_true, raiseIf_false, ok_bind, hd', pyTrueDiv]
  rfl

/-- the unrestricted statement (kept as a `def`): false at the excluded points above -/
def tokenise_eq_statement : Prop :=
  ∀ (o : TokObj) (rels : List (List Msg)) (d : List (String × Int)),
    tokenise o (rels.map LSeq.rel) true true (some d) =
      liftE (fun r => (writeSt d r.2, r.1.map render))
        (tokeniseCore (cfgOf o) (stOfDict o d) (extract Gen.ppqn rels))

theorem tokenise_eq_statement_false : ¬ tokenise_eq_statement := by
  intro h
  have h1 := h (initObj none 1 (21, 108) none none [127] (2, 16) true true true true true) []
    [("cur_time_signature_denominator", 0)]
  rw [tokenise_zero_denominator _ _ _ rfl] at h1
  revert h1
  decide +kernel

/-! ### Part 3: `detokenise`, `get_info`

  `detokenise(tokens)` on RENDERED tokens against the hand model `detokenise` (Model/Token.lean): the returned `Sequence`
  objects are the absolute views the model computes (`LSeq.abs`).  `TokOkD`: the numbers of a token are natural numbers (then
  `render` writes plain digit strings that `int(...)` reads back), a time signature has a non-zero denominator. -/

/-- The generated `detokenise` on the strings `render t` is the hand model on the tokens `t`: same sequences, same exception class.
    `hp`: with a negative `ppqn` the source truncates `int(ppqn*4*n/d)` toward zero where the model rounds down (replayed on
    /repo: `Tokeniser(ppqn=-1).detokenise(["tsg_03_08", "bar"])` puts the bar line at tick -1, the model at -2).
    `hts`: `tsg_04_00` raises ZeroDivisionError in the source (replayed), the model takes capacity 0. -/
theorem detokenise_eq (o : TokObj) (ts : List Tok) (hp : 0 ≤ o.ppqn) (hts : ∀ t ∈ ts, TokOkD o.ppqn t) :
    Gen.Tok.detokenise o (ts.map render) =
      liftE (fun seqs => seqs.map LSeq.abs) (SCoda.detokenise (cfgOf o) ts) :=
  detokenise_gen o _ ts hp (tokRep_map_render ts fun t ht => (hts t ht).1) fun t ht => parts_ok _ t (hts t ht)

/-- the step of the tie: one rendered token moves the generated loop state as `dstep` moves the model state -/
theorem detokenise_step (o : TokObj) (t : Tok) (d : DetokSt) (ht : TokOkD o.ppqn t) (hd : 0 ≤ d.prvTrack) :
    detokeniseLoop1 o (render t) (gD d) = liftE (fun d' => ForInStep.yield (gD d')) (dstep (cfgOf o) d t) :=
  detokeniseLoop1_gen o _ t d (tokRep_render t ht.1) (parts_ok _ t ht) hd

/-- non-vacuity: vocabulary-shaped tokens satisfy `TokOkD` -/
example : ∀ t ∈ [Tok.bar, .rest 12, .note (some 0) 60 (some 12) (some 127), .tsig 6 8, .trk 1], TokOkD 24 t := by
  intro t ht
  simp only [List.mem_cons, List.not_mem_nil, or_false] at ht
  rcases ht with rfl | rfl | rfl | rfl | rfl <;>
    refine ⟨by simp [TokOk, OptNonneg], ?_⟩ <;> intro a b h <;> (try cases h) <;> decide

/-- the statement for every list of STRINGS the model parser accepts (kept as a `def`): false where `detokenise_eq` has its
    hypotheses (`tsg_04_00`: `Defs.detokenise_strings_statement_false`), true elsewhere (`Defs.detokenise_strings_partial`).  The
    source also accepts strings that `parseTok` rejects (`rst_+5`, `rst_ 5`: `Defs.detokenise_plus_sign`; `bar-rst_02`, `pad_x_y`;
    tools/diff_py2lean_tok.py compares the generated code with the real one on such strings and on `val_12-pit_060-trk_00`). -/
def detokenise_strings_statement : Prop :=
  ∀ (o : TokObj) (ss : List String) (ts : List Tok), ss.mapM parseTok = .ok ts →
    Gen.Tok.detokenise o ss = liftE (fun seqs => seqs.map LSeq.abs) (SCoda.detokenise (cfgOf o) ts)

/-- The generated `get_info` on rendered tokens returns the columns (`unzipInfo`) of the rows the hand model `getInfo` computes,
    with `CircleOfFifths.get_position` = `genCof` (the generated `get_position`); it never raises.  `nan` is `none`. -/
theorem getInfo_eq (o : TokObj) (ts : List Tok) (impute : Bool) (hp : 0 ≤ o.ppqn) (hts : ∀ t ∈ ts, TokOkD o.ppqn t) :
    Gen.Tok.getInfo o (ts.map render) impute = .ok (unzipInfo (SCoda.getInfo (cfgOf o) genCof impute ts)) :=
  getInfo_gen o _ ts impute hp (tokRep_map_render ts fun t ht => (hts t ht).1) fun t ht => parts_ok _ t (hts t ht)

/-! ### Part 4: `encode` / `decode`

  The generated `encode` / `decode` read the dictionaries built by the generated `_construct_dictionary`. -/

/-- The generated `encode` on rendered tokens is the hand model `encode` (`dictionary[token]` = the LAST id assigned to the key,
    KeyError = `none`).  `hc`, `hts` (natural-number fields) are not used: `render` is injective on all tokens
    (`Defs.render_injective_all`); `Defs.encode_eq_all` is the statement without them. -/
theorem encode_eq (o o' : TokObj) (ts : List Tok) (h0 : o.dictionarySize_ = 0) (hd : o.dictionary = [])
    (h : constructDictionary o = .ok o') (hc : CfgNonneg (cfgOf o)) (hts : ∀ t ∈ ts, TokOk t) :
    Gen.Tok.encode o' (ts.map render) = encodeSpec (cfgOf o) ts :=
  encode_of_dict o' _ ts (constructDictionary_dictionary o o' h0 hd h).1

/-- The generated `decode` is the hand model `decode`, rendered (`inverse_dictionary[id]`, KeyError = `none`).  `hc`, `hwf` (a
    construction sequence without duplicates, `C02.CfgWF`) are not used: `decodeId` models the overwritten ids
    (`decode_general_statement` below holds, `Defs.decode_general`); `Defs.decode_eq_all` is the statement without them. -/
theorem decode_eq (o o' : TokObj) (ids : List Nat) (h0 : o.dictionarySize_ = 0) (hd : o.dictionary = [])
    (h : constructDictionary o = .ok o') (hc : CfgNonneg (cfgOf o)) (hwf : C02.CfgWF (cfgOf o)) :
    Gen.Tok.decode o' (ids.map Int.ofNat) = decodeSpec (cfgOf o) ids := by
  obtain ⟨hdict, hinv, _⟩ := constructDictionary_dictionary o o' h0 hd h
  exact decode_of_dict o' _ ids hdict hinv

/-- non-vacuity: the object `__init__` builds for a small configuration satisfies the hypotheses of `encode_eq` / `decode_eq` -/
example :
    let o := initObj none 1 (60, 62) (some [4, 2]) (some [12, 4]) [96, 127] (2, 4) true true false true true
    o.dictionarySize_ = 0 ∧ o.dictionary = [] ∧ CfgNonneg (cfgOf o) ∧
      (cfgOf o).steps.Nodup ∧ (cfgOf o).values.Nodup ∧ (cfgOf o).bins.Nodup ∧ (cfgOf o).defNum = (cfgOf o).defDen := by
  decide +kernel

/-- the statement without `CfgWF` (kept as a `def`): with duplicate step sizes / note values / bins a later duplicate overwrites the
    id of an earlier one and the overwritten id is missing from the inverse dictionary; `decodeId` models exactly that
    (Lemmas/TokDictL.lean `inverse_get`).  tools/diff_py2lean_tok.py exercises such configurations
    (`step_sizes=[5, 2, 2, 7]`, `[12, 6, 12]`, 19 velocity bins) against the real code: 0 differences. -/
def decode_general_statement : Prop :=
  ∀ (o o' : TokObj) (ids : List Nat), o.dictionarySize_ = 0 → o.dictionary = [] → constructDictionary o = .ok o' →
    CfgNonneg (cfgOf o) → Gen.Tok.decode o' (ids.map Int.ofNat) = decodeSpec (cfgOf o) ids

/-- TEST scope: 2 tracks, pitches 60..61, steps [2,4], values [4,12], 1 or 2 velocity bins, time signatures 3..4, all 8 fuse settings -/
def testObjs : List TokObj :=
  ((do
    let fT ← [true, false]; let fV ← [true, false]; let fW ← [true, false]
    let bins ← [[127], [96, 127]]
    pure (initObj none 2 (60, 61) (some [2, 4]) (some [4, 12]) bins (3, 4) true fT fV fW true)) : List TokObj).filterMap
      (fun o => (constructDictionary o).toOption)

instance : DecidableEq (Except PyErr (List Int)) := fun a b => by
  cases a <;> cases b <;> simp <;> infer_instance
instance : DecidableEq (Except PyErr (List String)) := fun a b => by
  cases a <;> cases b <;> simp <;> infer_instance

-- TEST (evaluation, not a theorem; includes configurations outside the hypotheses of `decode_eq`): every vocabulary token and three tokens outside it, every id 0 .. size+1 and id -1
#guard testObjs.length = 16
#guard testObjs.all fun o => ((vocabSeq (cfgOf o)) ++ [Tok.rest 7, .note none 59 none none, .tsig 9 8]).all fun t =>
  decide (Gen.Tok.encode o [render t] = encodeSpec (cfgOf o) [t])
#guard testObjs.all fun o => (List.range ((vocabSeq (cfgOf o)).length + 2)).all fun i =>
  decide (Gen.Tok.decode o [(i : Int)] = decodeSpec (cfgOf o) [i])
#guard testObjs.all fun o => decide (Gen.Tok.decode o [-1] = .error .keyError)

end SCoda.TokTie
