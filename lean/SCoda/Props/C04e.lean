/-
  C04 over the generated wrapper WITHOUT fallback on the hand model (audit round 3, item R7, last bullet).

  `Props/C04d.lean` runs a history through the statement-by-statement translation of sequence.py
  (`Gen/WrapFns.lean`), but `C04d.genRun` silently executes the hand model's `exec` wherever
  `C04d.genExec` is `none`: `history_inv_gen` would still be provable if `genExec` were `none` for
  every operation.  Here `genRunStrict` uses only translated steps (`genExec2`: `C04d.genExec` plus
  the translated `Sequence.equals`) and answers `none` at the first entry without translation; the
  three entries that have none, and why, are listed at `genExec2_total_statement_false`.
-/
import SCoda.Props.C04d
import SCoda.Props.AbsTie2
namespace SCoda.C04e
open SCoda SCoda.C04c SCoda.C04d

/-- the operation as the translated source executes it: `C04d.genExec`, plus `Sequence.equals`
    (sequence.py:159, translated as `Gen.Wrap.equals`; the flags are handed on in the order of the
    signature).  `none` exactly where `hasGen` is `false` (`genExec2_isSome`). -/
def genExec2 (e : Env) (s : Seq) : PubOp → Option (Except Err Seq)
  | .equals fl t => some ((·.1) <$> Gen.Wrap.equals e s t fl.ignoreCh fl.ignoreTs fl.ignoreKs fl.ignoreVel)
  | op => genExec e s op

/-- the alphabet entries that are whole-method calls of `Sequence` with a statement-by-statement
    translation in `Gen/WrapFns.lean`: everything except `editAbsFirst`, `editRelFirst`, `pairings`
    (see `genExec2_total_statement_false` for why those three have none) -/
def hasGen : PubOp → Bool
  | .editAbsFirst _ => false
  | .editRelFirst _ => false
  | .pairings => false
  | _ => true

/-- the entries covered by `C04d.genExec`: as `hasGen`, and not `equals` -/
def hasGen1 : PubOp → Bool
  | .equals _ _ => false
  | op => hasGen op

/-- **`genExec2` is defined exactly on the `hasGen` entries** — for every environment and state, so
    whether a step is a translated step depends on the operation only, never on the run. -/
theorem genExec2_isSome (e : Env) (s : Seq) (op : PubOp) : (genExec2 e s op).isSome = hasGen op := by
  cases op <;> rfl

theorem genExec_isSome (e : Env) (s : Seq) (op : PubOp) : (genExec e s op).isSome = hasGen1 op := by
  cases op <;> rfl

theorem genExec2_total (e : Env) (s : Seq) (op : PubOp) (h : hasGen op = true) :
    ∃ r, genExec2 e s op = some r := by
  rw [← genExec2_isSome e s op] at h
  exact Option.isSome_iff_exists.1 h

theorem hasGen_false_iff (op : PubOp) :
    hasGen op = false ↔ (∃ f, op = .editAbsFirst f) ∨ (∃ f, op = .editRelFirst f) ∨ op = .pairings := by
  cases op <;> simp [hasGen]

/-- **every translated step, `equals` included, is the step `exec` of the model** — same new state
    or same error (`C04d.genExec_eq` for the 22 entries of `C04d.genExec`, `WrapTie.equals_eq` for `equals`). -/
theorem genExec2_eq (e : Env) (s : Seq) (op : PubOp) (r : Except Err Seq) (h : genExec2 e s op = some r) :
    r = exec e s op := by
  cases op
  case equals fl t =>
    simp only [genExec2, Option.some.injEq] at h
    subst h
    rw [WrapTie.equals_eq]
    cases fl
    simp only [exec]
    cases Seq.equalsSeq e _ s t <;> rfl
  all_goals exact genExec_eq e s _ r h

/-- "every entry of the alphabet is executed by a translated method" for `C04d.genExec` -/
def genExec_total_statement : Prop := ∀ (e : Env) (s : Seq) (op : PubOp), (C04d.genExec e s op).isSome

def genExec2_total_statement : Prop := ∀ (e : Env) (s : Seq) (op : PubOp), (genExec2 e s op).isSome

/-- FALSE (witness `pairings`; also `equals`, `editAbsFirst`, `editRelFirst`): see the list below. -/
theorem genExec_total_statement_false : ¬ genExec_total_statement := by
  intro h
  have := h e0 Seq.new .pairings
  simp [genExec_isSome, hasGen1, hasGen] at this

/-- FALSE.  **The alphabet entries WITHOUT a translated counterpart are exactly these three**
    (`hasGen_false_iff`, `genExec2_isSome`); a history containing one of them is outside
    `history_inv_strict` and is covered by `C04c.history_inv` (hand model + sampled
    correspondence `Driver.seqOp`) only:

    * `editAbsFirst f`, `editRelFirst f`: not a method call.  The consumer abandons the generator
      `messages_abs()` / `messages_rel()` (sequence.py:177-190, 192-205: `try: for message in
      self.abs._messages: self.invalidate_rel(); yield message  finally: self.invalidate_rel()`)
      after the first yielded message (harness/pyimpl.py:314-322: `for m in gen: …; e(m); break`,
      `gen.close()`).  The translator renders a generator method as "the consumer edits every
      yielded message with `f` and runs the iterator to its end" (tools/py2lean_wrap.py:14-16,
      391-400 `try/finally`: body then finally block, 409-422: `for x in … do … out := out ++ [f x]`),
      i.e. `Gen.Wrap.messagesAbs e s f` IS `editAbs f`; there is no translated term for the
      abandoned iteration (body once, then the `finally` block).
    * `pairings`: `Sequence.get_message_pairings` (sequence.py:306-325) is not in the wrapper
      translator's method list (tools/py2lean_wrap.py:42-56, `WrapTie.translated_covered`): it
      builds a dict of `ReadOnlyMessage` wrappers, outside the translated subset.  Its only effect
      on the state is that of `self.abs.get_message_pairings(…)` (sequence.py:316,
      absolute_sequence.py:391), a method of `AbsoluteSequence`, which IS translated, over the
      typed heap, in `Gen/AbsFns2.lean` (`Gen.Abs2.getMessagePairings`, ties
      `AbsTie2.pairings_eq` / `AbsTie2.pairings_init`) — not at the wrapper level.
      `pairings_gen_state` below composes that tie with `exec … .pairings`. -/
theorem genExec2_total_statement_false : ¬ genExec2_total_statement := by
  intro h
  have := h e0 Seq.new .pairings
  simp [genExec2_isSome, hasGen] at this

/-- what holds instead (`_partial`): on the decidable set `hasGen` the translated step exists and is
    the model's step -/
theorem genExec2_total_partial (e : Env) (s : Seq) (op : PubOp) (h : hasGen op = true) :
    genExec2 e s op = some (exec e s op) := by
  obtain ⟨r, hr⟩ := genExec2_total e s op h
  rw [hr, genExec2_eq e s op r hr]

/-- `pairings`, the one state-changing entry outside the wrapper translation: the state `exec`
    stores is the one the TRANSLATED `AbsoluteSequence.get_message_pairings` (Gen/AbsFns2.lean, typed
    heap) leaves — the absolute view `a` that was read, every message its own object, `_messages`
    re-sorted in place; the references it returns, read through the final heap, are the stored view.
    Any `message_types`, `standard_length`, `impute_notes`.  Side condition as in `AbsTie2`: no
    message has channel `None` (what `Message.__init__` guarantees). -/
theorem pairings_gen_state (e : Env) (s p : Seq) (a : List Msg) (types : Option (List MType)) (std : Int)
    (impute : Bool) (hs : s.readAbs = .ok (p, a)) (hc : AbsTie2.HeapChOk a) :
    ∃ h' refs mp, Gen.Abs2.getMessagePairings a (AbsTie2L.refsOf a) types std impute = .ok (h', refs, mp) ∧
      exec e s .pairings = .ok { p with abs := AbsTie2L.deref h' refs } := by
  obtain ⟨h', mp, h1, h2, _⟩ := AbsTie2.pairings_init a types std impute hc
  refine ⟨h', _, mp, h1, ?_⟩
  simp only [exec, hs, h2]
  rfl

/-- a history executed by the translated methods ONLY: `none` as soon as an operation has no
    translated counterpart, `some (.error err)` when a translated operation raises -/
def genRunStrict (e : Env) (s : Seq) : List PubOp → Option (Except Err Seq)
  | [] => some (.ok s)
  | op :: ops => match genExec2 e s op with
    | none => none
    | some (.ok s') => genRunStrict e s' ops
    | some (.error err) => some (.error err)

theorem genRunStrict_eq (e : Env) (ops : List PubOp) : ∀ (s : Seq), (∀ op ∈ ops, hasGen op = true) →
    genRunStrict e s ops = some (run e s ops) := by
  induction ops with
  | nil => intro s _; rfl
  | cons op ops ih =>
    intro s hg
    have h1 := genExec2_total_partial e s op (hg op List.mem_cons_self)
    simp only [genRunStrict, run, h1]
    cases exec e s op with
    | error x => rfl
    | ok s' => exact ih s' (fun o ho => hg o (List.mem_cons_of_mem _ ho))

/-- the strict run never completes a history that contains an entry without a translated
    counterpart: there is no fallback (it ends in `none`, or earlier in an error) -/
theorem genRunStrict_none (e : Env) (ops : List PubOp) : ∀ (s : Seq), (∃ op ∈ ops, hasGen op = false) →
    ∀ s', genRunStrict e s ops ≠ some (.ok s') := by
  induction ops with
  | nil => intro s ⟨_, h, _⟩; cases h
  | cons op ops ih =>
    intro s ⟨o, ho, hf⟩ s'
    simp only [genRunStrict]
    cases hg : genExec2 e s op with
    | none => simp
    | some r =>
      cases r with
      | error x => simp
      | ok s1 =>
        rcases List.mem_cons.1 ho with rfl | ho'
        · have := genExec2_isSome e s o
          rw [hg, hf] at this
          cases this
        · exact ih s1 ⟨o, ho', hf⟩ s'

/-- the strict run is defined exactly on histories of translated entries that do not raise earlier;
    in particular `none` always points at an entry of the three-element list -/
theorem genRunStrict_eq_none (e : Env) (ops : List PubOp) (s : Seq) (h : genRunStrict e s ops = none) :
    ∃ op ∈ ops, hasGen op = false := by
  apply Classical.byContradiction
  intro hc
  have hall : ∀ op ∈ ops, hasGen op = true := by
    intro op hop
    cases hh : hasGen op with
    | true => rfl
    | false => exact absurd ⟨op, hop, hh⟩ hc
  rw [genRunStrict_eq e ops s hall] at h
  cases h

/-- on histories of translated entries `C04d.genRun` never takes its fallback: it is the strict run -/
theorem genRun_uses_gen (e : Env) (ops : List PubOp) (s : Seq) (hg : ∀ op ∈ ops, hasGen op = true) :
    genRunStrict e s ops = some (genRun e s ops) := by
  rw [genRun_eq]; exact genRunStrict_eq e ops s hg

/-- **C04 for the translated source with no fallback on the model: every step is a translated
    method.**  From a state satisfying the invariant, any legal history over the translated entries
    (`hasGen`: all of the alphabet except `editAbsFirst`, `editRelFirst`, `pairings`), executed ONLY
    by the statement-by-statement translation of `sequence.py`, runs to the end without raising and
    ends in a state satisfying the wrapper invariant.  Closes audit round 3 item R7 (last bullet). -/
theorem history_inv_strict (e : Env) (he : EnvOk e) (ops : List PubOp) (s : Seq) (h : Inv s)
    (hl : ∀ op ∈ ops, Legal op) (hg : ∀ op ∈ ops, hasGen op = true) :
    ∃ s', genRunStrict e s ops = some (.ok s') ∧ Inv s' := by
  obtain ⟨s', hr, hi⟩ := history_inv e he ops s h hl
  exact ⟨s', by rw [genRunStrict_eq e ops s hg, hr], hi⟩

/-- … in which both views can be read ("no legal history leaves the sequence unreadable"). -/
theorem history_readable_strict (e : Env) (he : EnvOk e) (ops : List PubOp) (s : Seq) (h : Inv s)
    (hl : ∀ op ∈ ops, Legal op) (hg : ∀ op ∈ ops, hasGen op = true) :
    ∃ s', genRunStrict e s ops = some (.ok s') ∧ (∃ p, s'.readAbs = .ok p) ∧ (∃ p, s'.readRel = .ok p) := by
  obtain ⟨s', hs, hi⟩ := history_inv_strict e he ops s h hl hg
  obtain ⟨⟨s1, h1, _⟩, ⟨s2, h2, _⟩⟩ := readable s' hi
  exact ⟨s', hs, ⟨_, h1⟩, ⟨_, h2⟩⟩

/-- … and both views, read through the translated properties `abs` / `rel` (`Gen.Wrap.getAbs`,
    `Gen.Wrap.getRel`), describe the same timed events and the same duration ("the views never
    diverge"). -/
theorem views_agree_after_strict (e : Env) (he : EnvOk e) (ops : List PubOp) (s : Seq) (h : Inv s)
    (hl : ∀ op ∈ ops, Legal op) (hg : ∀ op ∈ ops, hasGen op = true) :
    ∃ s' s1 s2 a r, genRunStrict e s ops = some (.ok s') ∧ Gen.Wrap.getAbs e s' = .ok (s1, a) ∧
      Gen.Wrap.getRel e s' = .ok (s2, r) ∧
      OkAbs a ∧ OkRel r ∧ (eventsAbs a).Perm (eventsRel r) ∧ durAbs a = durRel r := by
  obtain ⟨s', s1, s2, a, r, hr, h1, h2, h3⟩ := views_agree_after e he s h ops hl
  exact ⟨s', s1, s2, a, r, by rw [genRunStrict_eq e ops s hg, hr],
    by rw [WrapTie.getAbs_eq, h1], by rw [WrapTie.getRel_eq, h2], h3⟩

/-- the illegal-argument variant (`C04c.history_readable`): the stale-flag protocol alone keeps the
    sequence readable through translated steps only -/
theorem history_readable_illegal_strict (e : Env) (ops : List PubOp) (s : Seq) (h : WrapperL.Readable s)
    (hl : ∀ op ∈ ops, stepsUsed e op ≠ some [] ∧ ∀ fl t, op = .equals fl t → WrapperL.Readable t)
    (hg : ∀ op ∈ ops, hasGen op = true) :
    ∃ s', genRunStrict e s ops = some (.ok s') ∧ WrapperL.Readable s' := by
  obtain ⟨s', hr, hi⟩ := history_readable e ops s h hl
  exact ⟨s', by rw [genRunStrict_eq e ops s hg, hr], hi⟩

/-- `C04c.h0` contains `pairings`: it is NOT a history of translated entries, the strict run refuses it -/
example : h0.all hasGen = false ∧ (genRunStrict e0 (Seq.ofRel r0) h0).isNone = true := by
  constructor
  · rfl
  · rfl

/-- the other sequence handed to `equals`: one note, held as an absolute view only -/
def a1 : List Msg := [Msg.mkOn 0 60 64 0, Msg.mkOff 0 60 10]

theorem a1_ok : OkAbs a1 := by
  refine ⟨by simp [a1, TimeSorted, Msg.mkOn, Msg.mkOff], by simp [a1, NonNegTimes, Msg.mkOn, Msg.mkOff], by decide⟩

/-- a history of eleven translated operations from the "only relative fresh" state: a read, an
    absolute-side insertion, `quantise` with the default grid, a relative-side pad, an edit through
    `messages_rel()` run to its end, a `merge`, `equals` against another sequence (velocity ignored;
    re-sorts both absolute views in place), a `transpose` that wraps pitches, `copy`, an edit through
    `messages_abs()` run to its end, and a `split` -/
def h1 : List PubOp := [.readAbs, .addAbs (Msg.mkOn 0 64 64 24), .quantise Option.none, .pad 96,
  .editRel (fun m => { m with ch := 1 }), .merge [[Msg.mkOn 2 70 64 0, Msg.mkOff 2 70 12]],
  .equals { ignoreVel := true } (Seq.ofAbs a1), .transpose 50, .copy,
  .editAbs (fun m => { m with ch := 3 }), .split [48]]

theorem h1_hasGen : ∀ op ∈ h1, hasGen op = true := by decide +kernel

theorem h1_legal : ∀ op ∈ h1, Legal op := by
  intro op hop
  simp only [h1, List.mem_cons, List.not_mem_nil, or_false] at hop
  rcases hop with rfl | rfl | rfl | rfl | rfl | rfl | rfl | rfl | rfl | rfl | rfl
  · trivial
  · exact ⟨by simp [Msg.mkOn], by simp [Msg.mkOn]⟩
  · trivial
  · trivial
  · intro m h1 h2; exact ⟨h1, h2⟩
  · intro x hx
    simp only [List.mem_cons, List.not_mem_nil, or_false] at hx
    subst hx
    refine ⟨by simp [TimeSorted, Msg.mkOn, Msg.mkOff], by simp [NonNegTimes, Msg.mkOn, Msg.mkOff], by decide⟩
  · exact inv_ofAbs a1 a1_ok
  · trivial
  · trivial
  · exact ⟨fun m h => h, fun m h => h, fun m m' h => h⟩
  · trivial

/-- all hypotheses of `history_inv_strict` hold for `h1` from `Seq.ofRel r0` … -/
example : EnvOk e0 ∧ Inv (Seq.ofRel r0) ∧ (∀ op ∈ h1, Legal op) ∧ ∀ op ∈ h1, hasGen op = true :=
  ⟨envOk_defaults, inv_ofRel r0 r0_ok, h1_legal, h1_hasGen⟩

example : ∃ s', genRunStrict e0 (Seq.ofRel r0) h1 = some (.ok s') ∧ Inv s' :=
  history_inv_strict e0 envOk_defaults h1 _ (inv_ofRel r0 r0_ok) h1_legal h1_hasGen

example : ∃ s', genRunStrict e0 (Seq.ofRel r0) h1 = some (.ok s') ∧ (∃ p, s'.readAbs = .ok p) ∧ (∃ p, s'.readRel = .ok p) :=
  history_readable_strict e0 envOk_defaults h1 _ (inv_ofRel r0 r0_ok) h1_legal h1_hasGen

/-- … and this is what the translated methods alone compute for `h1` (type rank, channel, tick,
    pitch; same format as the `h0` example of `C04c`): both views fresh after the `split`, two
    transposed and octave-wrapped notes and the merged note, all moved to channel 3 by the edit
    through `messages_abs()`, padded to 96 ticks -/
example : (genRunStrict e0 (Seq.ofRel r0) h1).map (fun r => r.toOption.map
      (fun s => (s.absStale, s.relStale, (WrapperL.absView s).map sig, (WrapperL.relView s).map sig))) =
    some (some (false, false,
      [(7, 3, 0, 98), (7, 3, 0, 108), (6, 3, 8, 98), (6, 3, 12, 108), (7, 3, 24, 100), (6, 3, 48, 100), (0, 3, 96, -1)],
      [(7, 3, -1, 98), (7, 3, -1, 108), (8, 3, 8, -1), (6, 3, -1, 98), (8, 3, 4, -1), (6, 3, -1, 108), (8, 3, 12, -1),
       (7, 3, -1, 100), (8, 3, 24, -1), (6, 3, -1, 100), (8, 3, 48, -1)])) := by
  rfl

/-- the notes of `r0` as an absolute view, with another velocity -/
def a2 : List Msg := [Msg.mkOn 0 60 10 0, Msg.mkOff 0 60 10, Msg.mkOn 0 62 10 24, Msg.mkOff 0 62 49]

/-- the translated `equals` step evaluated: from the "only relative fresh" state it regenerates the
    absolute view (flags fresh / fresh afterwards), leaves the relative view alone, … -/
example : (genExec2 e0 (Seq.ofRel r0) (.equals { ignoreVel := true } (Seq.ofAbs a2))).map (fun r => r.toOption.map
      (fun s => (s.absStale, s.relStale, (WrapperL.absView s).map sig, (WrapperL.relView s).map sig))) =
    some (some (false, false, [(7, 0, 0, 60), (6, 0, 10, 60), (7, 0, 24, 62), (6, 0, 49, 62)],
      [(7, 0, -1, 60), (8, 0, 10, -1), (6, 0, -1, 60), (8, 0, 14, -1), (7, 0, -1, 62), (8, 0, 25, -1), (6, 0, -1, 62)])) := by
  rfl

/-- … and its verdict (dropped by `genExec2`, which keeps the state only): equal with the velocity
    ignored, different otherwise -/
example : (Gen.Wrap.equals e0 (Seq.ofRel r0) (Seq.ofAbs a2) false false false true).toOption.map (·.2) = some true ∧
    (Gen.Wrap.equals e0 (Seq.ofRel r0) (Seq.ofAbs a2) false false false false).toOption.map (·.2) = some false := by
  decide +kernel

/-- a translated step that raises is reported as an error, not replaced by anything: `equals` against
    a sequence with both views stale, and `quantise` with an empty step list -/
example : genExec2 e0 Seq.new (.equals {} { Seq.new with absStale := true, relStale := true }) = some (.error .sequenceStale) ∧
    genRunStrict e0 (Seq.ofRel r0) [.readRel, .quantise (some []), .pad 3] = some (.error .indexError) := by
  constructor <;> rfl

/-- the three entries without a translated counterpart; `equals` is covered by `genExec2` only -/
example : hasGen (.editAbsFirst id) = false ∧ hasGen (.editRelFirst id) = false ∧ hasGen .pairings = false ∧
    hasGen (.equals {} Seq.new) = true ∧ hasGen1 (.equals {} Seq.new) = false := ⟨rfl, rfl, rfl, rfl, rfl⟩

/-- `pairings_gen_state` instantiated: the absolute view of `a2` in reverse order, no channel `None` -/
example : ∃ h' refs mp, Gen.Abs2.getMessagePairings a2.reverse (AbsTie2L.refsOf a2.reverse) none 24 true = .ok (h', refs, mp) ∧
    exec e0 (Seq.ofAbs a2.reverse) .pairings = .ok { Seq.ofAbs a2.reverse with abs := AbsTie2L.deref h' refs } :=
  pairings_gen_state e0 (Seq.ofAbs a2.reverse) _ a2.reverse none 24 true rfl (by decide)

#print axioms genExec2_isSome
#print axioms genExec_isSome
#print axioms genExec2_total
#print axioms hasGen_false_iff
#print axioms genExec2_eq
#print axioms genExec_total_statement_false
#print axioms genExec2_total_statement_false
#print axioms genExec2_total_partial
#print axioms pairings_gen_state
#print axioms genRunStrict_eq
#print axioms genRunStrict_none
#print axioms genRunStrict_eq_none
#print axioms genRun_uses_gen
#print axioms history_inv_strict
#print axioms history_readable_strict
#print axioms views_agree_after_strict
#print axioms history_readable_illegal_strict

end SCoda.C04e
