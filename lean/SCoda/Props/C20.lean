/-
  C20 — key and circle-of-fifths tables are algebraically consistent.
  Every theorem is about the *generated* tables and the *translated* function bodies
  (`SCoda/Gen/Tables.lean`, `SCoda/Gen/TheoryFns.lean`), regenerated from /repo on every run.
  Finite cores are decided by the kernel (`decide`), lifted to all integers by `Int.emod` lemmas.
-/
import SCoda.Gen.TheoryFns
namespace SCoda.C20
open SCoda.Gen

def nKeys : Nat := keyNames.length

/-- the scale (note values, from the tonic upwards) of a key index -/
def scale (k : Int) : Option (List Int) := (keyNoteMapping.find? (·.1 == k)).map (·.2.1)
def tonic (k : Int) : Option Int := (scale k).bind List.head?

def majorSteps : List Int := [0, 2, 4, 5, 7, 9, 11]

def validKey (k : Int) : Prop := 0 ≤ k ∧ k < (nKeys : Int)
instance (k : Int) : Decidable (validKey k) := by unfold validKey; infer_instance

theorem transposeKey_mod (k n : Int) : transposeKey k n = transposeKey k (n % 12) := by
  simp [transposeKey, Int.emod_emod_of_dvd, Int.add_emod_emod]

theorem getPosition_mod (a : Int) : getPosition a = getPosition (a % 12) := by
  simp [getPosition, Int.emod_emod_of_dvd]

theorem getDistance_mod (a b : Int) : getDistance a b = getDistance (a % 12) (b % 12) := by
  unfold getDistance
  dsimp only
  rw [getPosition_mod a, getPosition_mod b]

theorem fromDistance_mod (a d : Int) : fromDistance a d = fromDistance (a % 12) (d % 12) := by
  simp [fromDistance, Int.emod_emod_of_dvd, Int.add_emod_emod]

/-- lifting a property of residues to all integers -/
theorem forall_residue {P : Int → Prop} (h : ∀ r ∈ List.range 12, P (r : Int)) (n : Int) : P (n % 12) := by
  have h0 : 0 ≤ n % 12 := Int.emod_nonneg _ (by decide)
  have h1 : n % 12 < 12 := Int.emod_lt_of_pos _ (by decide)
  have := h (n % 12).toNat (by simp [List.mem_range]; omega)
  rwa [Int.toNat_of_nonneg h0] at this

theorem forall_key {P : Int → Prop} (h : ∀ k ∈ List.range nKeys, P (k : Int)) (k : Int) (hk : validKey k) : P k := by
  have h2 : k < (nKeys : Int) := hk.2
  have h1 : 0 ≤ k := hk.1
  have := h k.toNat (by simp only [List.mem_range]; omega)
  rwa [Int.toNat_of_nonneg hk.1] at this


def tonicCore (k r : Int) : Bool :=
  match transposeKey k r, tonic k, scale k with
  | some k', some t, some sc =>
    decide (0 ≤ k') && decide (k' < nKeys) && tonic k' == some ((t + r) % 12) && scale k' == some (sc.map (fun x => (x + r) % 12))
  | _, _, _ => false

theorem tonic_core : ∀ k ∈ List.range nKeys, ∀ r ∈ List.range 12, tonicCore (k : Int) (r : Int) = true := by
  decide +kernel

def majorCore (k : Int) : Bool :=
  match tonic k, scale k with
  | some t, some sc => sc == majorSteps.map (fun i => (t + i) % 12) && decide (0 ≤ t) && decide (t < 12)
  | _, _ => false

theorem major_core : ∀ k ∈ List.range nKeys, majorCore (k : Int) = true := by decide +kernel

def identityCore (k : Int) : Bool := transposeKey k 0 == some k

theorem identity_core : ∀ k ∈ List.range nKeys, identityCore (k : Int) = true := by decide +kernel

def cofCore (a b : Int) : Bool :=
  match getDistance a b, getPosition a, getPosition b with
  | some d, some pa, some pb =>
    decide (-5 ≤ d) && decide (d ≤ 6) && decide ((d - (pb - pa)) % 12 = 0) && fromDistance a d == some b
  | _, _, _ => false

theorem cof_core : ∀ a ∈ List.range 12, ∀ b ∈ List.range 12, cofCore (a : Int) (b : Int) = true := by decide +kernel

def posCore (r : Int) : Bool :=
  match getPosition r with
  | some q => decide (-5 ≤ q) && decide (q ≤ 6) && (circleOfFifthsOrder[(q + 5).toNat]? == some r)
  | none => false

theorem pos_core : ∀ r ∈ List.range 12, posCore (r : Int) = true := by decide +kernel

theorem transpose_spec (k n : Int) (hk : validKey k) :
    ∃ k' t sc, transposeKey k n = some k' ∧ validKey k' ∧ tonic k = some t ∧ scale k = some sc
      ∧ tonic k' = some ((t + n) % 12) ∧ scale k' = some (sc.map (fun x => (x + n) % 12)) := by
  rw [transposeKey_mod]
  have h := forall_key (P := fun k => ∀ r ∈ List.range 12, tonicCore k (r : Int) = true)
    (fun k hk r hr => tonic_core k hk r hr) k hk
  have := forall_residue (P := fun r => tonicCore k r = true) h n
  unfold tonicCore at this
  split at this
  · rename_i k' t sc h1 h2 h3
    simp at this
    refine ⟨k', t, sc, h1, ⟨this.1.1.1, this.1.1.2⟩, h2, h3, ?_, ?_⟩
    · rw [this.1.2]
    · rw [this.2]
  · simp at this

/-- transposing a key by any integer returns a key, never nothing -/
theorem transpose_total (k n : Int) (hk : validKey k) :
    ∃ k', transposeKey k n = some k' ∧ validKey k' :=
  let ⟨k', _, _, h1, hv, _⟩ := transpose_spec k n hk
  ⟨k', h1, hv⟩

/-- …whose tonic and scale are the original's shifted by that interval modulo 12 -/
theorem transpose_tonic (k n : Int) (hk : validKey k) :
    ∃ k' t sc, transposeKey k n = some k' ∧ tonic k = some t ∧ scale k = some sc
      ∧ tonic k' = some ((t + n) % 12) ∧ scale k' = some (sc.map (fun x => (x + n) % 12)) :=
  let ⟨k', t, sc, h1, _, h2, h3, h4, h5⟩ := transpose_spec k n hk
  ⟨k', t, sc, h1, h2, h3, h4, h5⟩

/-- every key's note set is a major scale on its tonic -/
theorem scales_major (k : Int) (hk : validKey k) :
    ∃ t, tonic k = some t ∧ 0 ≤ t ∧ t < 12 ∧ scale k = some (majorSteps.map (fun i => (t + i) % 12)) := by
  have := forall_key (P := fun k => majorCore k = true) major_core k hk
  unfold majorCore at this
  split at this
  · rename_i t sc h1 h2
    simp at this
    exact ⟨t, h1, this.1.2, this.2, by rw [h2, this.1.1]⟩
  · simp at this

/-- the tonic of a key, as a total function on valid keys (0 otherwise) -/
def tonicD (k : Int) : Int := (tonic k).getD 0

theorem tonic_of_transpose (k n : Int) (hk : validKey k) :
    ∃ k', transposeKey k n = some k' ∧ validKey k' ∧ tonicD k' = (tonicD k + n) % 12 :=
  let ⟨k', _, _, h1, hv, h2, _, h4, _⟩ := transpose_spec k n hk
  ⟨k', h1, hv, by simp [tonicD, h2, h4]⟩

/-- transpositions compose additively (on tonics, i.e. up to enharmonic spelling) -/
theorem transpose_compose (k a b : Int) (hk : validKey k) :
    ∃ k1 k2 k3, transposeKey k a = some k1 ∧ transposeKey k1 b = some k2 ∧ transposeKey k (a + b) = some k3
      ∧ tonicD k2 = tonicD k3 := by
  obtain ⟨k1, h1, v1, t1⟩ := tonic_of_transpose k a hk
  obtain ⟨k2, h2, _, t2⟩ := tonic_of_transpose k1 b v1
  obtain ⟨k3, h3, _, t3⟩ := tonic_of_transpose k (a + b) hk
  refine ⟨k1, k2, k3, h1, h2, h3, ?_⟩
  rw [t2, t1, t3]; omega

/-- a multiple of 12 is the identity -/
theorem transpose_12 (k n : Int) (hk : validKey k) (hn : n % 12 = 0) : transposeKey k n = some k := by
  rw [transposeKey_mod, hn]
  have := forall_key (P := fun k => identityCore k = true) identity_core k hk
  simpa [identityCore] using this

/-- circle of fifths: distance in [-5, 6], agrees with the position difference modulo 12, and
    moving from `a` by that distance lands on `b`'s pitch class — for all integers a, b -/
theorem cof (a b : Int) :
    ∃ d pa pb, getDistance a b = some d ∧ getPosition a = some pa ∧ getPosition b = some pb
      ∧ -5 ≤ d ∧ d ≤ 6 ∧ (d - (pb - pa)) % 12 = 0 ∧ fromDistance a d = some (b % 12) := by
  rw [getDistance_mod, getPosition_mod a, getPosition_mod b]
  have h := forall_residue (P := fun x => ∀ r ∈ List.range 12, cofCore x (r : Int) = true)
    (fun x hx r hr => cof_core x hx r hr) a
  have := forall_residue (P := fun y => cofCore (a % 12) y = true) h b
  unfold cofCore at this
  split at this
  · rename_i d pa pb h1 h2 h3
    simp at this
    refine ⟨d, pa, pb, h1, h2, h3, this.1.1.1, this.1.1.2, this.1.2, ?_⟩
    have h4 := this.2
    rw [fromDistance_mod] at h4 ⊢
    simpa [Int.emod_emod_of_dvd] using h4
  · simp at this

example : validKey 0 ∧ validKey 14 := by decide +kernel
example : transposeKey 0 7 = some 1 := by decide      -- C up a fifth is G
example : getDistance 60 67 = some 1 := by decide +kernel

/-- `get_position` is total; its value is the index of the pitch class in the circle-of-fifths order, minus 5 -/
theorem getPosition_spec (p : Int) :
    ∃ q, getPosition p = some q ∧ -5 ≤ q ∧ q ≤ 6 ∧ circleOfFifthsOrder[(q + 5).toNat]? = some (p % 12) := by
  have h := forall_residue (P := fun r => posCore r = true) pos_core p
  unfold posCore at h
  rw [getPosition_mod p]
  split at h
  · rename_i q hq
    simp only [Bool.and_eq_true, decide_eq_true_eq, beq_iff_eq] at h
    exact ⟨q, hq, h.1.1, h.1.2, h.2⟩
  · cases h

end SCoda.C20
