/-
  C12 — save then load, the remaining clauses: velocities of the notes, and the signatures in force.
-/
import SCoda.Props.C13b
namespace SCoda.C13
open SCoda

/-- **C12, velocities**: the note-on events of loaded sequence `i` are those of saved sequence `i`,
    with pitch, tick and velocity (channel 0 after loading) -/
theorem save_load_note_ons (ppqn : Int) (hp : 0 < ppqn) (rels : List (List Msg)) (hs : ∀ r ∈ rels, Saved r)
    (out : List Seq) (h : saveLoad ppqn rels = .ok out)
    (i : Nat) (r : List Msg) (s s' : Seq) (a : List Msg) (hr : rels[i]? = some r) (ho : out[i]? = some s)
    (ha : s.readAbs = Except.ok (s', a)) (p t v : Int) :
    (∃ m ∈ eventsAbs a, m.ty = .noteOn ∧ m.note = p ∧ m.time = t ∧ m.vel = v) ↔
    (∃ m ∈ eventsRel r, m.ty = .noteOn ∧ m.note = p ∧ m.time = t ∧ m.vel = v) := by
  exact MidiSave.note_ons_core ppqn hp rels (fun r hr => (hs r hr).noteGood) out h i r s s' a hr ho ha p t v

/-- **C12, signatures in force** (the clause read literally): at every tick the time (key) signature in
    force on the meta sequence (loaded sequence 0) is the one in force among everything that was saved, 4/4
    from tick 0 when nothing was saved there — provided no two saved signatures of that kind share a tick.
    FALSE for the model as stated: `Saved` does not constrain the fields a signature message carries.
    A saved time signature with a foreign `key` field loses it (`convEvent` copies numerator / denominator
    only); a time signature whose numerator and denominator are both `None` (`pyNone`) and a key signature
    whose key is `None` repeat the initial state of `normalise` and are dropped
    (see `save_load_signatures_statement_false`). -/
def save_load_signatures_statement : Prop :=
  ∀ (ppqn : Int) (_hp : 0 < ppqn) (rels : List (List Msg)) (_hs : ∀ r ∈ rels, Saved r)
    (ty : MType) (_hty : ty = .timeSignature ∨ ty = .keySignature)
    (_hdist : (((rels.flatMap eventsRel).filter (fun m => m.ty == ty)).map (fun m => m.time)).Nodup)
    (out : List Seq) (_h : saveLoad ppqn rels = .ok out)
    (s s' : Seq) (a : List Msg) (_ho : out[0]? = some s) (_ha : s.readAbs = Except.ok (s', a))
    (t : Int) (_ht : 0 ≤ t),
    (latest ty (eventsAbs a) t).map sigFields
      = (latest ty (dfltSig ty ++ rels.flatMap eventsRel) t).map sigFields

/-- the witness: one saved sequence holding a 3/4 time signature that also carries `key = 5` -/
def cexRels : List (List Msg) := [[{ ty := .timeSignature, num := 3, den := 4, key := 5 }]]

theorem cexRels_saved : ∀ r ∈ cexRels, Saved r :=
  List.forall_mem_singleton.2 (Saved.of_pointwise _ 0 (by decide) (fun k => by simp [altFrom]) (by unfold C15.PosDur; decide))

theorem cexRels_loaded : (C13b.loadedAbs 24 24 (cexRels.map toMido) [[0]] [0] 0 0).map
    (fun a => (latest .timeSignature (eventsAbs a) 0).map sigFields) = some (some (3, 4, pyNone)) := by decide +kernel

theorem save_load_signatures_statement_false : ¬ save_load_signatures_statement := by
  intro hst
  obtain ⟨out, s, s', a, hc, ho, hr, hv⟩ := C13b.loadedAbs_map 24 24 (cexRels.map toMido) [[0]] [0] 0 0 _ _ cexRels_loaded
  have := hst 24 (by decide) cexRels cexRels_saved .timeSignature (Or.inl rfl) (by decide) out hc s s' a ho hr
    0 (Int.le_refl _)
  rw [hv] at this
  revert this
  decide +kernel

/-- **C12, signatures in force**, with the missing hypothesis made explicit: every saved time signature
    carries no key and a numerator / denominator that are not both `None`; every saved key signature carries
    no numerator / denominator and a key that is not `None` (what the library's own constructors produce).
    `hdist` is stated and not used. -/
theorem save_load_signatures_partial (ppqn : Int) (hp : 0 < ppqn) (rels : List (List Msg)) (hs : ∀ r ∈ rels, Saved r)
    (hfields : ∀ r ∈ rels, ∀ m ∈ r,
      (m.ty = .timeSignature → m.key = pyNone ∧ (m.num, m.den) ≠ (pyNone, pyNone))
      ∧ (m.ty = .keySignature → m.num = pyNone ∧ m.den = pyNone ∧ m.key ≠ pyNone))
    (ty : MType) (hty : ty = .timeSignature ∨ ty = .keySignature)
    (hdist : (((rels.flatMap eventsRel).filter (fun m => m.ty == ty)).map (fun m => m.time)).Nodup)
    (out : List Seq) (h : saveLoad ppqn rels = .ok out)
    (s s' : Seq) (a : List Msg) (ho : out[0]? = some s) (ha : s.readAbs = Except.ok (s', a))
    (t : Int) (ht : 0 ≤ t) :
    (latest ty (eventsAbs a) t).map sigFields
      = (latest ty (dfltSig ty ++ rels.flatMap eventsRel) t).map sigFields := by
  exact MidiSave.inforce_saved_fields ppqn hp rels (fun r hr => ⟨(hs r hr).ok.1, (hs r hr).noTime⟩) hfields ty hty out h
    s s' a ho ha t ht

/-! non-vacuity: a saved pair of sequences with a 3/4 at tick 0 on the second one -/
def exRels : List (List Msg) :=
  [[Msg.mkOn 0 60 64 pyNone, Msg.mkWait 0 24, Msg.mkOff 0 60 pyNone],
   [Msg.mkTimeSig 0 3 4 pyNone, Msg.mkWait 0 12, Msg.mkOn 0 62 100 pyNone, Msg.mkWait 0 12, Msg.mkOff 0 62 pyNone]]
example : ∀ r ∈ exRels, Saved r :=
  E2E.forall_mem_pair (Saved.of_pointwise _ 0 (by decide) (by decide) (by unfold C15.PosDur; decide))
    (Saved.of_pointwise _ 0 (by decide) (by decide) (by unfold C15.PosDur; decide))

end SCoda.C13
