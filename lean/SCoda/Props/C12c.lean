/-
  C12, the save side composed with the load side (audit round 3, item M5).

  `C13.save_load_*` and `C12n.save_load_*` (Props/C12.lean, C12b.lean, C12n.lean) are about
  `C13.saveLoad ppqn rels = convert ppqn ppqn (rels.map toMido) …`: no parser, no mido message.
  The save tie ends at the list of literals the translated `to_mido_track` builds (`ViewTie.toMidoTrack_eq`, "up to
  `midoView`"), the load tie starts from a `MidoFile` (`StaticTie.sequencesLoad_path_eq`).  Here:
    translated `sequences_save`  →  `MidiFile.save` up to the write (`midiFileSave`: translated `to_mido_track` + the mido
    objects its literals stand for, Model/MidoCodec.lean)  →  [mido: `ReadBack`, ASSUMED]  →  translated `sequences_load`
    (`MidiFile.open`, `parse_mido`, `parse_mido_track`, `parse_mido_message`, `convert`)
  is proved equal to `C13.saveLoad`, and the end-to-end theorems are restated about that composition.
-/
import SCoda.Lemmas.MidoCodecL
import SCoda.Props.StaticTie
import SCoda.Props.C12n
import SCoda.Props.C12
namespace SCoda.C12c
open SCoda SCoda.C13 SCoda.C12n SCoda.WrapTie SCoda.MidoCodecL SCoda.ViewTieL

/-- **`parse_mido_track` inverts the encoding of what the translated `to_mido_track` produces** (the audit's "Close with"):
    for a relative view whose key signatures carry one of the fifteen keys (`KeysOk`) and that holds no note-on of velocity
    0 (`VelOk`), `to_midi_track().to_mido_track()` succeeds, the mido objects exist (`toMidoObjects`), and the parser reads
    them back as `toMido r` up to the fields a mido message does not carry (`midoView`): note-on / note-off on channel 0
    with the delta time, note and velocity (`None` written as 127, note-offs 0), signatures without channel, the key through
    its name and back (`Key.value`, `MusicMapping.KeyKeyMapping`), control changes with `value` in `vel`; WAITs and program
    changes are not written.  Also with mido's trailing `end_of_track`.  Both hypotheses are needed: see
    `save_raises_on_key_None`, `save_load_vel0_statement_false`.  Closes audit round 3 item M5 (first half). -/
theorem parse_encode_saved (r : List Msg) (hk : KeysOk r) (hv : VelOk r) :
    ∃ mt, toMidoObjects r = .ok mt ∧ parseTrack mt = .ok ((toMido r).map midoView) ∧
      ∀ d, parseTrack (mt ++ [MidoMsg.endOfTrack d]) = .ok ((toMido r).map midoView ++ [eotEv d]) :=
  track_round_trip r hk hv

theorem velOk_of_vel (r : List Msg) (h : ∀ m ∈ r, m.ty = .noteOn → m.vel ≠ pyNone ∧ 0 < m.vel) : VelOk r :=
  fun m hm hty => Or.inr (h m hm hty).2

/-- the default grouping of `sequences_load`: one group per track, every track a meta track -/
theorem saveLoad_shape (ppqn : Int) (rels : List (List Msg)) (evs : List (List MidiEv)) (h : All2 Dressed evs (rels.map toMido)) :
    convert ppqn ppqn evs ((List.range evs.length).map (fun i => [i])) (List.range evs.length) 0 = saveLoad ppqn rels := by
  have hl : evs.length = rels.length := by
    have := all2_length _ _ _ h
    simpa using this
  unfold saveLoad
  rw [hl]
  exact convert_dressed ppqn ppqn evs (rels.map toMido) _ _ 0 h

/-- **save then load, every step the translated source except mido's file codec**: for sequences that can be read (`hr`:
    their relative views are `rels`), with `KeysOk` and `VelOk`,
    * the translated `Sequence.sequences_save` returns a `MidiFile` `f`;
    * `MidiFile.save` up to the write hands mido the object `written` (`midiFileSave`: resolution `PPQN`, per track the
      translated `to_mido_track`, its literals read as mido messages by `encodeMsg`);
    * for EVERY file object `read` that mido may hand back within the assumption `ReadBack written read` (same resolution,
      per track the same messages as far as the parser reads them, then one `end_of_track`), the translated
      `Sequence.sequences_load(file_path)` — `MidiFile.open`, `parse_mido`, `parse_mido_track`, `parse_mido_message`,
      `convert` with the default grouping — is `C13.saveLoad PPQN rels`, the function the C12 theorems are about.
    What remains assumed about mido is exactly `ReadBack` (Model/MidoCodec.lean) and that its constructors accept the
    fields (they raise outside data bytes 0..127, numerator 0..255, denominator a power of two: replayed, DESIGN.md §9.3b).
    Closes audit round 3 item M5. -/
theorem save_then_load (e : Env) (seqs : List Seq) (rels : List (List Msg)) (hr : readRels seqs = .ok rels)
    (hk : ∀ r ∈ rels, KeysOk r) (hv : ∀ r ∈ rels, VelOk r) :
    ∃ f written, Gen.Static.sequencesSave e seqs () = .ok f ∧ midiFileSave e.ppqn f = .ok written ∧
      ∀ read, ReadBack written read →
        Gen.Static.sequencesLoad e (some read) none none none 0 = saveLoad e.ppqn rels := by
  obtain ⟨ms, h1, h2⟩ := tracks_round_trip rels hk hv
  refine ⟨{ tracks := rels, ppqn := e.ppqn }, { ticksPerBeat := e.ppqn, tracks := ms }, ?_, ?_, ?_⟩
  · rw [StaticTie.sequencesSave_eq, hr]; rfl
  · simp only [midiFileSave, h1]
  · intro read hrb
    obtain ⟨hb1, hb2⟩ := hrb
    obtain ⟨evs, e1, e2⟩ := h2 read.tracks hb2
    rw [StaticTie.sequencesLoad_path_eq, e1]
    simp only [WrapTie.ok_bind, Option.getD_none]
    rw [hb1]
    exact saveLoad_shape e.ppqn rels evs e2

/-- the file mido 1.3 actually hands back (`end_of_track` with delta 0 on every track) is within the assumption -/
theorem readBack0_ok (written : MidoFile) : ReadBack written (readBack0 written) := by
  refine ⟨rfl, ?_⟩
  simp only [readBack0]
  induction written.tracks with
  | nil => trivial
  | cons t ts ih => exact ⟨⟨0, rfl⟩, ih⟩

/-- **C12 end to end over the translated source (sounding set)**: for saved sequences in `SavedX` (the weakest class proved,
    Props/C12n.lean; `Saved` and `Saved'` imply it) whose key signatures carry a key, the translated save succeeds, and
    whatever file mido hands back within `ReadBack`, the translated load succeeds with one sequence per saved sequence, and
    loaded sequence `i` sounds pitch `p` (channel 0) at tick `t` exactly when saved sequence `i` sounded `p` at `t` on some
    channel.  `hk` is needed (`save_raises_on_key_None`); `VelOk` follows from `SavedX.vel`.  Closes audit round 3 M5. -/
theorem save_load_sounding_gen (e : Env) (hp : 0 < e.ppqn) (seqs : List Seq) (rels : List (List Msg)) (hr : readRels seqs = .ok rels)
    (hs : ∀ r ∈ rels, SavedX r) (hk : ∀ r ∈ rels, KeysOk r) (hne : rels ≠ []) :
    ∃ f written, Gen.Static.sequencesSave e seqs () = .ok f ∧ midiFileSave e.ppqn f = .ok written ∧
      ∀ read, ReadBack written read →
        ∃ out, Gen.Static.sequencesLoad e (some read) none none none 0 = .ok out ∧ out.length = rels.length ∧
          ∀ (i : Nat) (r : List Msg) (s s' : Seq) (a : List Msg), rels[i]? = some r → out[i]? = some s → s.readAbs = Except.ok (s', a) →
            ∀ p t, SoundingAt (eventsAbs a) (0, p) t ↔ ∃ c, SoundingAt (eventsRel r) (c, p) t := by
  obtain ⟨f, written, h1, h2, h3⟩ := save_then_load e seqs rels hr hk (fun r hr' => velOk_of_vel r (hs r hr').vel)
  refine ⟨f, written, h1, h2, fun read hrb => ?_⟩
  rw [h3 read hrb]
  exact save_load_soundingX e.ppqn hp rels hs hne

/-- **C12 end to end over the translated source (notes)**: pitch, onset, offset, velocity of every note come back, relabelled
    to channel 0, as a multiset -/
theorem save_load_notes_gen (e : Env) (hp : 0 < e.ppqn) (seqs : List Seq) (rels : List (List Msg)) (hr : readRels seqs = .ok rels)
    (hs : ∀ r ∈ rels, SavedX r) (hk : ∀ r ∈ rels, KeysOk r) :
    ∃ f written, Gen.Static.sequencesSave e seqs () = .ok f ∧ midiFileSave e.ppqn f = .ok written ∧
      ∀ read, ReadBack written read → ∀ out, Gen.Static.sequencesLoad e (some read) none none none 0 = .ok out →
        ∀ (i : Nat) (r : List Msg) (s s' : Seq) (a : List Msg), rels[i]? = some r → out[i]? = some s → s.readAbs = Except.ok (s', a) →
          (notesOf (eventsAbs a)).Perm ((notesOf (eventsRel r)).map (fun n => { n with ch := 0 })) := by
  obtain ⟨f, written, h1, h2, h3⟩ := save_then_load e seqs rels hr hk (fun r hr' => velOk_of_vel r (hs r hr').vel)
  refine ⟨f, written, h1, h2, fun read hrb out hout => ?_⟩
  rw [h3 read hrb] at hout
  exact save_load_notesX e.ppqn hp rels hs out hout

/-- a two-track piece: 3/4 in D with a control change and a note of unset velocity; a second track on channel 1 -/
def exA : List Msg :=
  [Msg.mkTimeSig 0 3 4 pyNone, { ty := .keySignature, key := 2 }, { ty := .controlChange, ctl := 64, vel := 100 },
   Msg.mkOn 0 60 pyNone pyNone, Msg.mkWait 0 24, Msg.mkOff 0 60 pyNone, Msg.mkOn 0 62 80 pyNone, Msg.mkWait 0 12, Msg.mkOff 0 62 pyNone]
def exB : List Msg := [Msg.mkOn 1 64 70 pyNone, Msg.mkWait 1 36, Msg.mkOff 1 64 pyNone]

example : (∀ r ∈ [exA, exB], KeysOk r) ∧ (∀ r ∈ [exA, exB], VelOk r) := by decide +kernel

/-- what is handed to mido for `exA` -/
example : toMidoObjects exA = .ok
    [{ type := .timeSignature, time := 0, numerator := 3, denominator := 4 }, { type := .keySignature, time := 0, key := "D" },
     { type := .controlChange, time := 0, channel := some 0, control := 64, value := 100 },
     { type := .noteOn, time := 0, channel := some 0, note := 60, velocity := 127 },
     { type := .noteOff, time := 24, channel := some 0, note := 60, velocity := 0 },
     { type := .noteOn, time := 0, channel := some 0, note := 62, velocity := 80 },
     { type := .noteOff, time := 12, channel := some 0, note := 62, velocity := 0 }] := by decide +kernel

/-- the parser reads it back (the conclusion of `parse_encode_saved`, evaluated) -/
example : (toMidoObjects exA >>= parseTrack) = .ok ((toMido exA).map midoView) := by decide +kernel

set_option maxRecDepth 100000 in
/-- the whole composition evaluated by the kernel: translated save, `midiFileSave`, mido's `end_of_track`, translated load -/
example :
    (do let f ← Gen.Static.sequencesSave genEnv [Seq.ofRel exA, Seq.ofRel exB] ()
        let written ← midiFileSave genEnv.ppqn f
        Gen.Static.sequencesLoad genEnv (some (readBack0 written)) none none none 0) = saveLoad genEnv.ppqn [exA, exB] := by
  decide +kernel

set_option maxRecDepth 100000 in
example : (fun out => out.map (fun (s : Seq) => (s.abs.map (fun m => (m.ty, m.time, m.note, m.vel))))) <$> saveLoad genEnv.ppqn [exA, exB] =
    .ok [[(.keySignature, 0, -1, -1), (.timeSignature, 0, -1, -1), (.controlChange, 0, -1, 100), (.noteOn, 0, 60, 127),
          (.noteOff, 24, 60, -1), (.noteOn, 24, 62, 80), (.noteOff, 36, 62, -1)],
         [(.noteOn, 0, 64, 70), (.noteOff, 36, 64, -1)]] := by decide +kernel

/-! ## the two hypotheses are needed: findings at the excluded points (both replayed through a real file) -/

/-- a `Saved` sequence holding `Message(message_type=KEY_SIGNATURE)` — the key left `None` -/
def exKeyNone : List Msg := [{ ty := .keySignature }, Msg.mkOn 0 60 90 pyNone, Msg.mkWait 0 24, Msg.mkOff 0 60 pyNone]

theorem exKeyNone_saved : Saved exKeyNone :=
  ⟨⟨by unfold NonNegWaits; decide, by decide⟩, by decide, by decide, by unfold C15.PosDur; decide, by decide, ⟨0, by decide⟩⟩

theorem sequencesSave_ofRel (e : Env) (r : List Msg) (f : GMidiFile)
    (h : Gen.Static.sequencesSave e [Seq.ofRel r] () = .ok f) : f = { tracks := [r], ppqn := e.ppqn } := by
  rw [StaticTie.sequencesSave_eq, show readRels [Seq.ofRel r] = .ok [r] from rfl] at h
  simp only [WrapTie.ok_bind] at h
  injection h with h
  exact h.symm

/-- "saving a `Saved` sequence succeeds" — the reading of `C13.save_load_sounding` (`∃ out, saveLoad ppqn rels = .ok out`) that is false -/
def save_succeeds_statement : Prop :=
  ∀ (e : Env) (seqs : List Seq) (rels : List (List Msg)), readRels seqs = .ok rels → (∀ r ∈ rels, Saved r) →
    ∃ f written, Gen.Static.sequencesSave e seqs () = .ok f ∧ midiFileSave e.ppqn f = .ok written

/-- **`Saved` does not make the save succeed: a key signature whose key is `None` raises.**  `exKeyNone` is `Saved`, the model
    `C13.saveLoad` succeeds on it (so `C13.save_load_sounding` promises a loaded sequence), the translated `to_mido_track`
    raises AttributeError (`msg.key.value`, midi_track.py:52).  Replayed with /venv/bin/python:
    `Sequence.sequences_save([Sequence(relative_sequence=[KEY_SIGNATURE key=None, NOTE_ON 60, WAIT 24, NOTE_OFF 60])], path)`
    raises `AttributeError: 'NoneType' object has no attribute 'value'`; no file is written.  A genuine gap of the C12 clause
    ("for saved sequences … saving and loading succeeds"): `KeysOk` is needed.  Not a model artefact of this file: the
    hand model `toMido` emits the `None` (recorded in `ViewTie.toMidoTrack_eq`), the translation and the code raise. -/
theorem save_raises_on_key_None :
    Saved exKeyNone ∧ ¬ KeysOk exKeyNone ∧ toMidoObjects exKeyNone = .error Err.attributeError ∧
      midiFileSave 24 { tracks := [exKeyNone], ppqn := 24 } = .error Err.attributeError ∧
      (∃ out, saveLoad 24 [exKeyNone] = .ok out) := by
  refine ⟨exKeyNone_saved, by decide, by decide +kernel, by decide +kernel, ?_⟩
  obtain ⟨out, h, _⟩ := save_load_sounding 24 (by decide) [exKeyNone]
    (List.forall_mem_singleton.2 exKeyNone_saved) (by simp)
  exact ⟨out, h⟩

theorem save_succeeds_statement_false : ¬ save_succeeds_statement := by
  intro h
  obtain ⟨f, written, h1, h2⟩ := h genEnv [Seq.ofRel exKeyNone] [exKeyNone] rfl
    (List.forall_mem_singleton.2 exKeyNone_saved)
  cases sequencesSave_ofRel genEnv exKeyNone f h1
  have := save_raises_on_key_None.2.2.2.1
  have hp : genEnv.ppqn = 24 := by decide +kernel
  rw [hp] at h2
  rw [this] at h2
  cases h2

/-- a note-on with velocity 0 (`Message(NOTE_ON, note=60, velocity=0)`), then an ordinary note -/
def exVel0 : List Msg :=
  [Msg.mkOn 0 60 0 pyNone, Msg.mkWait 0 24, Msg.mkOff 0 60 pyNone, Msg.mkOn 0 62 80 pyNone, Msg.mkWait 0 24, Msg.mkOff 0 62 pyNone]

/-- `save_then_load` without `VelOk` -/
def save_load_vel0_statement : Prop :=
  ∀ (e : Env) (seqs : List Seq) (rels : List (List Msg)), readRels seqs = .ok rels → (∀ r ∈ rels, KeysOk r) →
    ∃ f written, Gen.Static.sequencesSave e seqs () = .ok f ∧ midiFileSave e.ppqn f = .ok written ∧
      ∀ read, ReadBack written read →
        Gen.Static.sequencesLoad e (some read) none none none 0 = saveLoad e.ppqn rels

/-- through the parser the note of velocity 0 is gone: only the note-on of pitch 62 is loaded … -/
theorem exVel0_loaded :
    (fun (out : List Seq) => out.map (fun (s : Seq) => (s.abs.filter (·.ty == .noteOn)).map (fun m => (m.time, m.note, m.vel)))) <$>
      (do let written ← midiFileSave genEnv.ppqn { tracks := [exVel0], ppqn := genEnv.ppqn }
          Gen.Static.sequencesLoad genEnv (some (readBack0 written)) none none none 0) =
      .ok [[(24, 62, 80)]] := by decide +kernel

/-- … while `C13.saveLoad` (no parser) keeps it as a note-on -/
theorem exVel0_model :
    (fun (out : List Seq) => out.map (fun (s : Seq) => (s.abs.filter (·.ty == .noteOn)).map (fun m => (m.time, m.note, m.vel)))) <$>
      saveLoad genEnv.ppqn [exVel0] = .ok [[(0, 60, 0), (24, 62, 80)]] := by decide +kernel

/-- **without `VelOk` the composition is not `C13.saveLoad`: a note-on of velocity 0 is written as `note_on velocity=0` and
    parsed as a note-off** (midi_message.py:37), so the saved note is lost on loading; `C13.saveLoad` — which skips the
    parser — keeps it.  Replayed through a real file with /venv/bin/python (`sequences_save` then `sequences_load`): the
    file holds `note_on note=60 velocity=0 time=0`, the loaded sequence is `[TIME_SIGNATURE 4/4, WAIT 24, NOTE_ON 62 vel 80,
    WAIT 24, NOTE_OFF 62]` — pitch 60 never sounds.  The real code agrees with the composition proved here, not with
    `C13.saveLoad`: the C12 theorems are right only because `Saved.vel` / `SavedX.vel` ask `0 < velocity`; outside, a sequence
    that sounded pitch 60 over [0,24) comes back without it. -/
theorem save_load_vel0_statement_false : ¬ save_load_vel0_statement := by
  intro h
  obtain ⟨f, written, h1, h2, h3⟩ := h genEnv [Seq.ofRel exVel0] [exVel0] rfl (by decide)
  cases sequencesSave_ofRel genEnv exVel0 f h1
  obtain ⟨out, hsl, _⟩ := C13b.save_load_succeeds genEnv.ppqn [exVel0] (by simp)
  have h5 := exVel0_loaded
  have h6 := exVel0_model
  rw [h2, WrapTie.ok_bind, h3 _ (readBack0_ok written), hsl] at h5
  rw [hsl] at h6
  simp only [WrapTie.map_ok] at h5 h6
  rw [h6] at h5
  revert h5
  decide +kernel

end SCoda.C12c
