/-
  UtilTie — the numeric helpers of scoda/misc/util.py, translated statement by statement from the source
  (tools/py2lean_util.py → Gen/UtilFns.lean, every number a `PyNum` of the int / float tower), are EQUAL to the
  hand transcriptions the C11 theorems are about (Model/PyNumSites.lean), to `findMinimalDistance`
  (Model/Quantise.lean) and `binIndex` (Model/Token.lean); and, for the default arguments, to the tables that
  tools/gen_lean.py obtains by *running* the code (Gen/Settings.lean, Gen/SettingsTyped.lean): those tables are a
  checked consequence of the translated source, not a trusted output.

  A semantic edit of util.py changes Gen/UtilFns.lean and breaks a theorem below (tools/test_py2lean_util.sh).
  `Message.equivalent` (scoda/elements/message.py) is translated too (= structural equality of `Msg`).
  Functions without a hand model (`velocity_from_bin`, `digitise_velocity`, `minmax`, `regress`,
  `simple_regression`) get a specification written from independent arithmetic.
-/
import SCoda.Gen.Settings
import SCoda.Gen.SettingsTyped
import SCoda.Lemmas.UtilTieL
import SCoda.Lemmas.Quantise
import SCoda.Props.C11d
namespace SCoda.UtilTie
open SCoda SCoda.Util SCoda.PyNum SCoda.UtilTieL

/-- the translator covered exactly these functions, and these are the defaulted parameters of the source (a changed
    default changes this list). -/
theorem translated_functions :
    Gen.Util.translated.map (·.1) = ["get_velocity_bins", "bin_velocity", "velocity_from_bin", "digitise_velocity",
      "find_minimal_distance", "get_note_durations", "get_tuplet_durations", "get_dotted_note_durations",
      "get_default_step_sizes", "get_default_note_values", "minmax", "regress", "simple_regression", "Message.equivalent"]
    ∧ Gen.Util.defaults = ["get_velocity_bins(velocity_max=None)", "get_velocity_bins(velocity_bins=None)",
      "bin_velocity(bins=None)", "get_note_durations(base_value=PPQN)", "get_default_step_sizes(upper_bound_shift=0)",
      "get_default_step_sizes(lower_bound_shift=0)"] := ⟨rfl, rfl⟩

/-- the settings constants the translated module reads are the ones of Gen/Settings.lean (all int-typed). -/
theorem settings_agree :
    Gen.Util.PPQN = .int Gen.ppqn ∧ Gen.Util.VELOCITY_MAX = .int Gen.velocityMax ∧ Gen.Util.VELOCITY_BINS = .int Gen.velocityBins
    ∧ Gen.Util.NOTE_VALUE_UPPER_BOUND = .int Gen.noteValueUpperBound ∧ Gen.Util.NOTE_VALUE_LOWER_BOUND = .int Gen.noteValueLowerBound
    ∧ Gen.Util.DOTTED_ITERATIONS = .int Gen.dottedIterations
    ∧ Gen.Util.VALID_TUPLETS = Gen.validTuplets.map (fun t => (.int t.1, .int t.2)) := ⟨rfl, rfl, rfl, rfl, rfl, rfl, rfl⟩

/-- generated `get_note_durations` = hand transcription `getNoteDurationsPy` whenever the latter's fuel suffices -/
theorem getNoteDurations_of_py {fuel : Nat} {ub lb base : PyNum} {r : List PyNum}
    (h : getNoteDurationsPy fuel ub lb base = some r) : Gen.Util.getNoteDurations ub lb base = .ok r := by
  rw [getNoteDurations_loops]
  unfold getNoteDurationsPy at h
  obtain ⟨a', h3⟩ := up_fuel_ok base ub
  obtain ⟨b', h4⟩ := down_fuel_ok base lb
  rw [h3, h4]
  cases h1 : noteDurUpPy base fuel ub with
  | none => rw [h1] at h; cases h
  | some a =>
    cases h2 : noteDurDownPy base lb fuel (.int 2) with
    | none => rw [h1, h2] at h; cases h
    | some b =>
      rw [h1, h2] at h
      rw [← Option.some.inj h, noteDurUpPy_unique base h1 h3, noteDurDownPy_unique base lb h2 h4]

/-- … and the generated function always terminates with a value the hand transcription yields for some fuel -/
theorem getNoteDurations_total (ub lb base : PyNum) :
    ∃ r fuel, Gen.Util.getNoteDurations ub lb base = .ok r ∧ getNoteDurationsPy fuel ub lb base = some r := by
  obtain ⟨a, h3⟩ := up_fuel_ok base ub
  obtain ⟨b, h4⟩ := down_fuel_ok base lb
  let F := max (whileFuel ub (.int 1) + 1) (whileFuel (.int 2) lb + 1)
  have e : getNoteDurationsPy F ub lb base = some (a ++ b) := by
    unfold getNoteDurationsPy
    rw [noteDurUpPy_mono base _ _ _ h3 F (Nat.le_max_left _ _), noteDurDownPy_mono base lb _ _ _ h4 F (Nat.le_max_right _ _)]
  exact ⟨a ++ b, F, getNoteDurations_of_py e, e⟩

example : Gen.Util.getNoteDurations (.int 2) (.int 8) (.int 24) = .ok ([48, 24, 12, 6, 3].map PyNum.int)
    ∧ getNoteDurationsPy 10 (.int 2) (.int 8) (.int 24) = some ([48, 24, 12, 6, 3].map PyNum.int) := by decide +kernel

/-- float arguments are part of the statement: `get_note_durations(1.5, 4.0, 24)` (checked against the real code by
    tools/diff_py2lean_util.py) -/
example : Gen.Util.getNoteDurations (.float (3 / 2)) (.float 4) (.int 24) = .ok ([36, 12, 6].map PyNum.int) := by decide +kernel

theorem getTupletDurations_eq (nds : List PyNum) (rn rd : PyNum) (h : rn.toRat ≠ 0) :
    Gen.Util.getTupletDurations nds rn rd = .ok (getTupletDurationsPy nds rn rd) := by
  unfold Gen.Util.getTupletDurations
  simp only [pyTruediv, h, if_false]
  rw [forIn_collect (tupletPy · rn rd)]
  · simp [pure_eq_ok, ok_bind, getTupletDurationsPy]
  · intro a _ b; simp [pure_eq_ok, ok_bind, tupletPy]

/-- excluded point `ratio_numerator == 0`: ZeroDivisionError on a non-empty list (the hand model, in exact rationals with
    `x / 0 = 0`, answers zeros), `[]` on the empty list -/
theorem getTupletDurations_zero (nd : PyNum) (nds : List PyNum) (rn rd : PyNum) (h : rn.toRat = 0) :
    Gen.Util.getTupletDurations (nd :: nds) rn rd = .error .zeroDivisionError
    ∧ Gen.Util.getTupletDurations [] rn rd = .ok [] := by
  refine ⟨?_, rfl⟩
  unfold Gen.Util.getTupletDurations
  simp [pyTruediv, h, bind, Except.bind]

example : Gen.Util.getTupletDurations ([24, 12, 6].map PyNum.int) (.int 3) (.int 2) = .ok ([16, 8, 4].map PyNum.int) := by decide +kernel

theorem getDottedNoteDurations_int (nds : List PyNum) (n : Int) :
    Gen.Util.getDottedNoteDurations nds (.int n) = .ok (getDottedNoteDurationsPy nds n.toNat) := by
  unfold Gen.Util.getDottedNoteDurations
  simp only [pyRange_int, ok_bind, Int.sub_zero, Int.zero_add]
  rw [forIn_spec (fun a => ∃ k : Nat, a = PyNum.int (k : Int)) _
        (fun l st => pure (st ++ l.flatMap (fun a => dottedPass nds (match a with | .int i => i | .float _ => 0))))]
  · simp only [pure_eq_ok, ok_bind, List.nil_append, getDottedNoteDurationsPy, List.flatMap_map]
    rfl
  · intro b; simp
  · rintro a as b ⟨k, rfl⟩
    rw [forIn_spec' _ (fun l st => pure (st ++ l.filterMap fun nd =>
            let cand := dottedCandidatePy nd (k : Int)
            if isInteger cand then some (pyint cand) else none))]
    · simp [pure_eq_ok, ok_bind, dottedPass]
    · intro b; simp
    · intro nd rest st
      simp only [pyPow_two, ok_bind, pyTruediv_ne _ _ (powInt_two_ne k)]
      rw [show nd.mul ((int 1).add ((int 1).sub ((int 1).truediv (powInt 2 ((k : Int) + 1))))) = dottedCandidatePy nd (k : Int) from rfl]
      cases h : (dottedCandidatePy nd (k : Int)).isInteger <;> simp [h, pure_eq_ok, ok_bind]
  · intro a ha
    simp only [List.mem_map, List.mem_range] at ha
    obtain ⟨k, _, rfl⟩ := ha
    exact ⟨k, rfl⟩

theorem getDottedNoteDurations_float (nds : List PyNum) (q : Rat) :
    Gen.Util.getDottedNoteDurations nds (.float q) = .error .typeError := rfl

example : Gen.Util.getDottedNoteDurations ([24, 12, 6, 3].map PyNum.int) (.int 2) = .ok ([36, 18, 9, 42, 21].map PyNum.int) := by
  decide +kernel

theorem getVelocityBins_int (vmax n : Int) (hn : n ≠ 0) :
    Gen.Util.getVelocityBins (some (.int vmax)) (some (.int n)) = .ok (getVelocityBinsPy vmax n.toNat) := by
  unfold Gen.Util.getVelocityBins
  simp only [pure_eq_ok, ok_bind, pyTruediv_ne _ _ (int_toRat_ne n hn), pyRange_int, pyTruediv_two, Int.sub_zero, Int.zero_add,
    mapM_ok, List.map_map]
  unfold getVelocityBinsPy
  by_cases hpos : 0 < n
  · have : ((n.toNat : Nat) : Int) = n := Int.toNat_of_nonneg (le_of_lt hpos)
    simp only [this]
    rfl
  · have : n.toNat = 0 := by omega
    simp [this]

/-- `velocity_bins = 0` (excluded above): the real code raises ZeroDivisionError, the hand model answers `[]` -/
theorem getVelocityBins_zero (vmax : Int) :
    Gen.Util.getVelocityBins (some (.int vmax)) (some (.int 0)) = .error .zeroDivisionError := rfl

example : Gen.Util.getVelocityBins (some (.int 127)) (some (.int 4)) = .ok ([48, 80, 112, 127].map PyNum.int) := by decide +kernel

theorem binVelocity_sorted (v : Int) (bins : List Int) (h : bins.Pairwise (· ≤ ·)) :
    Gen.Util.binVelocity (.int v) (some (bins.map .int)) = .ok (.int (binIndex bins v : Nat)) := by
  unfold Gen.Util.binVelocity
  simp only [pure_eq_ok, ok_bind, npDigitizeRight, npMonotonicity_sorted bins h, filter_lt_int, binIndex]
  rfl

/-- the full statement without the sortedness hypothesis is false: on DESCENDING bins `np.digitize` counts the bins `≥ x`
    (the hand model `binIndex` counts the bins `< x`), on non-monotonic bins it raises ValueError. -/
def binVelocity_eq_statement : Prop :=
  ∀ (v : Int) (bins : List Int), Gen.Util.binVelocity (.int v) (some (bins.map .int)) = .ok (.int (binIndex bins v : Nat))

theorem binVelocity_eq_statement_false : ¬ binVelocity_eq_statement := by
  intro h
  have := h 3 [10, 5]
  revert this
  decide +kernel

/-- the two excluded behaviours, as the translated code computes them (replayed on the real code: `bin_velocity(3, [10, 5]) == 2`,
    `bin_velocity(3, [1, 5, 2])` raises ValueError) -/
example : Gen.Util.binVelocity (.int 3) (some ([10, 5].map .int)) = .ok (.int 2) ∧ binIndex [10, 5] 3 = 0
    ∧ Gen.Util.binVelocity (.int 3) (some ([1, 5, 2].map .int)) = .error .valueError := by decide +kernel

/-- the default bins: `get_velocity_bins()` as dumped in the table row of `VELOCITY_BINS` -/
def defaultBins : List Int := (Gen.velocityBinsTable.lookup Gen.velocityBins.toNat).getD []

theorem defaultBins_eq : defaultBins = [24, 40, 56, 72, 88, 104, 120, 127] ∧ defaultBins.Pairwise (· ≤ ·)
    ∧ Gen.Util.getVelocityBins none none = .ok (defaultBins.map .int) := by decide +kernel

/-- generated `bin_velocity(v)` with the default bins = `binIndex` of the hand model on the dumped default bins, all int `v`. -/
theorem binVelocity_default (v : Int) : Gen.Util.binVelocity (.int v) none = .ok (.int (binIndex defaultBins v : Nat)) := by
  have h := binVelocity_sorted v defaultBins defaultBins_eq.2.1
  unfold Gen.Util.binVelocity at h ⊢
  simp only [defaultBins_eq.2.2, pure_eq_ok, ok_bind] at h ⊢
  exact h

/-- `bin_size = round(VELOCITY_MAX / VELOCITY_BINS)` is 16 (= round-half-even of 15.875) -/
theorem binSize_eq : pyTruediv Gen.Util.VELOCITY_MAX Gen.Util.VELOCITY_BINS
      = .ok (PyNum.truediv (.int Gen.velocityMax) (.int Gen.velocityBins))
    ∧ PyNum.pyround (PyNum.truediv (.int Gen.velocityMax) (.int Gen.velocityBins)) = .int 16 := by decide +kernel

/-- generated `velocity_from_bin(b)` meets its arithmetic specification `min(VELOCITY_MAX, (b + 1) * 16)`, int-typed, for every
    int `b` (no hand model existed; the spec is written from the docstring: the upper edge of bin `b`, capped). -/
theorem velocityFromBin_spec (b : Int) :
    Gen.Util.velocityFromBin (.int b) = .ok (.int (min Gen.velocityMax ((b + 1) * 16))) := by
  unfold Gen.Util.velocityFromBin
  simp only [binSize_eq.1, binSize_eq.2, ok_bind, pure_eq_ok]
  show Except.ok (PyNum.pyint (PyNum.pymin (.int 127) (.int ((b + 1) * 16)))) = _
  unfold PyNum.pymin
  rw [lt_int]
  by_cases h : (b + 1) * 16 < 127
  · simp only [h, decide_true, if_true, PyNum.pyint]
    have : min Gen.velocityMax ((b + 1) * 16) = (b + 1) * 16 := by unfold Gen.velocityMax; omega
    rw [this]
  · simp only [h, decide_false, Bool.false_eq_true, if_false, PyNum.pyint]
    have : min Gen.velocityMax ((b + 1) * 16) = 127 := by unfold Gen.velocityMax; omega
    rw [this]

example : Gen.Util.velocityFromBin (.int 2) = .ok (.int 48) ∧ Gen.Util.velocityFromBin (.int 7) = .ok (.int 127)
    ∧ Gen.Util.velocityFromBin (.float (1 / 2)) = .ok (.int 24) := by decide +kernel

/-- generated `digitise_velocity(v)`: 0 stays 0, any other int velocity goes to the capped upper edge of the default bin
    that `binIndex` selects.  (Note what this says for v > 127: `binIndex` is 8, the result is `min(127, 144) = 127`.) -/
theorem digitiseVelocity_spec (v : Int) :
    Gen.Util.digitiseVelocity (.int v) =
      .ok (.int (if v = 0 then 0 else min Gen.velocityMax (((binIndex defaultBins v : Nat) + 1) * 16))) := by
  unfold Gen.Util.digitiseVelocity
  have he : pyEq (.int v) (.int 0) = decide (v = 0) := by simp [pyEq, PyNum.toRat]
  by_cases h : v = 0
  · subst h; rfl
  · simp only [he, h, decide_false, Bool.false_eq_true, if_false, binVelocity_default, ok_bind, velocityFromBin_spec, pure_eq_ok]

example : Gen.Util.digitiseVelocity (.int 33) = .ok (.int 32) ∧ Gen.Util.digitiseVelocity (.int 24) = .ok (.int 16)
    ∧ Gen.Util.digitiseVelocity (.int 25) = .ok (.int 32) := by decide +kernel

theorem pyPow_two_int (e : Int) : pyPow (.int 2) (.int e) = .ok (powInt 2 e) := by
  simp [pyPow]

/-- generated `get_default_step_sizes(us, ls)` = hand transcription `getDefaultStepSizesPy` for all int shifts (negative ones
    included: `2 ** -1` is the float 0.5 on both sides), whenever the hand model's fuel suffices. -/
theorem getDefaultStepSizes_of_py {fuel : Nat} (us ls : Int) {r : List PyNum}
    (h : getDefaultStepSizesPy fuel Gen.ppqn us ls = some r) :
    Gen.Util.getDefaultStepSizes (.int us) (.int ls) = .ok r := by
  unfold getDefaultStepSizesPy at h
  unfold Gen.Util.getDefaultStepSizes
  simp only [pyPow_two_int, ok_bind]
  cases hq : getNoteDurationsPy fuel ((int 1).mul (powInt 2 us)) ((int 4).mul (powInt 2 ls)) (int Gen.ppqn) with
  | none => simp [hq] at h
  | some q =>
    simp only [hq, Option.some.injEq] at h
    have hq' : getNoteDurationsPy fuel ((int 1).mul (powInt 2 us)) ((int 4).mul (powInt 2 ls)) Gen.Util.PPQN = some q := hq
    rw [getNoteDurations_of_py hq']
    simp only [ok_bind, getTupletDurations_eq q (.int 3) (.int 2) (by simp [PyNum.toRat]), pure_eq_ok, ← h]

/-- generated `get_default_note_values()` = hand transcription `getDefaultNoteValuesPy` on the generated settings. -/
theorem getDefaultNoteValues_eq :
    (getDefaultNoteValuesPy 10 Gen.ppqn Gen.noteValueUpperBound Gen.noteValueLowerBound Gen.validTuplets
        Gen.dottedIterations.toNat).map Except.ok = some (Gen.Util.getDefaultNoteValues) := by
  decide +kernel

example : getDefaultStepSizesPy 10 Gen.ppqn (-1) 2 = some ([12, 6, 3, 1, 8, 4, 2, 0].map PyNum.int)
    ∧ Gen.Util.getDefaultStepSizes (.int (-1)) (.int 2) = .ok ([12, 6, 3, 1, 8, 4, 2, 0].map PyNum.int) := by decide +kernel

/-! The dumped default tables are consequences of the translated source: each table is evaluated once, on the hand
  transcription (`C11d.defaults_py`, `C11d.velocityBins_table`), and the tie theorems above carry that evaluation over
  to the translated functions. -/

theorem velocityBinsTable_keys : ∀ r ∈ Gen.velocityBinsTable, r.1 ≠ 0 := by decide +kernel

/-- `get_default_step_sizes()`, `get_default_step_sizes(lower_bound_shift=1)`, `get_default_note_values()` and
    `get_velocity_bins(velocity_bins=n)` for n = 1..64, computed from the TRANSLATED source in the int / float
    tower, are exactly the tables that gen_lean.py dumped from a run of the real code — values and types (every element
    int-typed).  Turns `Gen/Settings.lean` from trusted output into a checked fact (C11 clause 3, audit A10). -/
theorem default_tables_from_source :
    Gen.Util.getDefaultStepSizes = .ok (Gen.defaultStepSizes.map PyNum.int)
    ∧ Gen.Util.getDefaultStepSizes (lowerBoundShift := .int 1) = .ok (Gen.defaultStepSizesShift1.map PyNum.int)
    ∧ Gen.Util.getDefaultNoteValues = .ok (Gen.defaultNoteValues.map PyNum.int)
    ∧ Gen.velocityBinsTable.all (fun r => Gen.Util.getVelocityBins none (some (.int (r.1 : Int))) == .ok (r.2.map PyNum.int)) = true := by
  obtain ⟨e1, e2, e3⟩ := C11d.defaults_py
  refine ⟨getDefaultStepSizes_of_py 0 0 e1, getDefaultStepSizes_of_py 0 1 e2, ?_,
    List.all_eq_true.2 fun r hr => beq_iff_eq.2 ?_⟩
  · have := getDefaultNoteValues_eq
    rw [e3] at this
    exact (Option.some.inj this).symm
  · have hg : Gen.Util.getVelocityBins none (some (.int (r.1 : Int))) = .ok (getVelocityBinsPy Gen.velocityMax r.1) :=
      getVelocityBins_int Gen.velocityMax r.1 (Int.natCast_ne_zero.2 (velocityBinsTable_keys r hr))
    rw [hg, C11L.getVelocityBinsPy_eq, beq_iff_eq.1 (List.all_eq_true.1 C11d.velocityBins_table r hr)]

/-- … and the typed tables (value, `type(x) is int`) are the same statement read through `PyNum.tag`. -/
theorem default_tables_typed :
    Gen.Util.getDefaultStepSizes.map (·.map PyNum.tag) = .ok Gen.defaultStepSizesTyped
    ∧ (Gen.Util.getDefaultStepSizes (lowerBoundShift := .int 1)).map (·.map PyNum.tag) = .ok Gen.defaultStepSizesShift1Typed
    ∧ Gen.Util.getDefaultNoteValues.map (·.map PyNum.tag) = .ok Gen.defaultNoteValuesTyped
    ∧ Gen.velocityBinsTableTyped.all (fun r => (Gen.Util.getVelocityBins none (some (.int (r.1 : Int)))).map (·.map PyNum.tag) == .ok r.2) = true := by
  obtain ⟨s1, s2, s3, s4⟩ := default_tables_from_source
  obtain ⟨d1, d2, d3, d4⟩ := C11d.typed_tables_flagged
  rw [s1, s2, s3, d1, d2, d3, d4, List.all_map]
  refine ⟨rfl, rfl, rfl, List.all_eq_true.2 fun r hr => beq_iff_eq.2 ?_⟩
  rw [beq_iff_eq.1 (List.all_eq_true.1 s4 r hr)]
  exact congrArg Except.ok List.map_map

/-- the check notices a float: the tuplet expression of util.py:171 without its `int(…)` is float-typed, and a table
    with a different value is rejected -/
example : Gen.Util.getDefaultStepSizes ≠ .ok ([24, 12, 6, 16, 8, 5].map PyNum.int) := by decide +kernel
example : Gen.Util.getTupletDurations [.int 24] (.int 3) (.int 2) = .ok [.int 16]
    ∧ PyNum.truediv (PyNum.mul (.int 24) (.int 2)) (.int 3) = .float 16 := by decide +kernel

theorem findMinimalDistance_eq (e : Int) (coll : List Int) :
    Gen.Util.findMinimalDistance (.int e) (coll.map .int) = .ok (.int (SCoda.findMinimalDistance e coll : Nat)) := by
  unfold Gen.Util.findMinimalDistance
  simp only [pyEnumerate_eq]
  -- the loop state (returned index, distance, index) stands for the hand model's `best`, the rest of the list for its position;
  -- on int candidates `abs(candidate - element)` is the `natAbs` the hand model compares, so one round is one unfolding of `fmdGo`
  refine Sat.eq_ok (Sat.bind (Sat.mono (forIn_inv
    (fun rest (b : Option PyNum × PyNumInf × PyNum) => ∃ (cs : List Int) (k : Nat) (best : Option (Nat × Int)),
      rest = enumFrom k (cs.map PyNum.int) ∧ b = (none, distOf best, idxOf best) ∧ fmdGo e cs k best = SCoda.findMinimalDistance e coll)
    (fun r => Sat r fun s => (match s.1 with | some x => x | none => s.2.2) = .int (SCoda.findMinimalDistance e coll : Nat))
    _ ?_ ?_ _ _ ⟨coll, 0, none, rfl, rfl, rfl⟩) ?_))
  · rintro b ⟨cs, k, best, hcs, rfl, h⟩
    cases cs with
    | cons x xs => cases hcs
    | nil => show _ = _; rw [← h]; rcases best with _ | ⟨i, bd⟩ <;> rfl
  · rintro ⟨i, x⟩ as b ⟨cs, k, best, hcs, rfl, h⟩
    cases cs with
    | nil => cases hcs
    | cons c cs =>
      rw [List.map_cons, enumFrom, List.cons.injEq, Prod.mk.injEq] at hcs
      obtain ⟨⟨rfl, rfl⟩, rfl⟩ := hcs
      have hd : pyAbs ((PyNum.int c).sub (.int e)) = .int ((c - e).natAbs : Int) := rfl
      simp only [hd, eq_zero_int, lt_distOf]
      rcases best with _ | ⟨i, bd⟩ <;> rw [fmdGo] at h
      · simp only [if_true]
        cases h0 : (c - e).natAbs == 0 <;> rw [h0] at h
        · exact ⟨cs, k + 1, _, rfl, rfl, h⟩
        · exact h ▸ rfl
      · simp only [decide_eq_true_eq]
        by_cases hlt : ((c - e).natAbs : Int) < bd
        · rw [if_pos hlt] at h ⊢
          cases h0 : (c - e).natAbs == 0 <;> rw [h0] at h
          · exact ⟨cs, k + 1, _, rfl, rfl, h⟩
          · exact h ▸ rfl
        · rw [if_neg hlt] at h ⊢
          exact ⟨cs, k + 1, _, rfl, rfl, h⟩
  · rintro ⟨r, d, i⟩ h
    cases r <;> exact h

/-- the generated function meets the independent specification of its docstring: on a non-empty int collection it returns an
    index in range whose element is at minimal distance from `element`, and it is the FIRST such index — every earlier
    element is strictly farther ("ties are broken using the indices, earlier elements will be preferred"). -/
theorem findMinimalDistance_spec (e : Int) (coll : List Int) (h : coll ≠ []) :
    ∃ (i : Nat) (v : Int), Gen.Util.findMinimalDistance (.int e) (coll.map .int) = .ok (.int i) ∧ coll[i]? = some v
      ∧ (∀ w ∈ coll, (v - e).natAbs ≤ (w - e).natAbs)
      ∧ (∀ k, k < i → ∀ w, coll[k]? = some w → (v - e).natAbs < (w - e).natAbs) := by
  obtain ⟨v, hv, hmin, hfirst⟩ := Q.fmd_first_min e coll h
  exact ⟨_, v, findMinimalDistance_eq e coll, hv, hmin, fun k hk w hw => hfirst k w hk hw⟩

/-- a tie: 6 and 8 are equally close to 7, the earlier index wins -/
example : Gen.Util.findMinimalDistance (.int 7) ([0, 6, 8, 12].map .int) = .ok (.int 1)
    ∧ Gen.Util.findMinimalDistance (.int 7) [] = .ok (.int 0)
    ∧ Gen.Util.findMinimalDistance (.float (13 / 2)) [.int 0, .int 6, .float 7] = .ok (.int 1) := by decide +kernel

/-- generated `minmax(lo, hi, v)` is the clamp `max lo (min hi v)` for int arguments with `lo ≤ hi`, int-typed. -/
theorem minmax_spec (lo hi v : Int) (h : lo ≤ hi) :
    Gen.Util.minmax (.int lo) (.int hi) (.int v) = .ok (.int (max lo (min hi v))) := by
  unfold Gen.Util.minmax
  simp only [lt_int, pyGt, pure_eq_ok, decide_eq_true_eq]
  split
  · rw [show max lo (min hi v) = lo by omega]
  · split
    · rw [show max lo (min hi v) = hi by omega]
    · rw [show max lo (min hi v) = v by omega]

/-- without `lo ≤ hi` the clamp reading is false: `minmax(5, 3, 10)` is 3 (the real code agrees), `max 5 (min 3 10)` is 5. -/
def minmax_spec_statement : Prop :=
  ∀ lo hi v : Int, Gen.Util.minmax (.int lo) (.int hi) (.int v) = .ok (.int (max lo (min hi v)))
theorem minmax_spec_statement_false : ¬ minmax_spec_statement := by
  intro h; have := h 5 3 10; revert this; decide +kernel

/-- for all numbers (int or float): the result is one of the three arguments, type included -/
theorem minmax_type (lo hi v : PyNum) :
    Gen.Util.minmax lo hi v = .ok lo ∨ Gen.Util.minmax lo hi v = .ok hi ∨ Gen.Util.minmax lo hi v = .ok v := by
  unfold Gen.Util.minmax
  by_cases h1 : PyNum.lt v lo = true
  · left; simp [h1]; rfl
  · by_cases h2 : pyGt v hi = true
    · right; left; simp [h1, h2]; rfl
    · right; right; simp [h1, h2]; rfl

/-- Horner value of a polynomial with coefficients `cs` (constant term first) -/
def polyEval (x : Rat) : List Rat → Rat
  | [] => 0
  | c :: cs => c + x * polyEval x cs

/-- generated `regress(x, terms)` never raises and its value is the polynomial `Σ terms[k] * x^k` (exact rational value;
    float rounding is not modelled). -/
theorem regress_spec (x : PyNum) (terms : List PyNum) :
    ∃ r, Gen.Util.regress x terms = .ok r ∧ r.toRat = polyEval x.toRat (terms.map PyNum.toRat) := by
  unfold Gen.Util.regress
  simp only [forIn_pure_yield]
  have key : ∀ (l : List PyNum) (t r : PyNum),
      (l.foldl (fun (s : PyNum × PyNum) c => (s.1.mul x, s.2.add (c.mul s.1))) (t, r)).2.toRat
        = r.toRat + t.toRat * polyEval x.toRat (l.map PyNum.toRat) := by
    intro l
    induction l with
    | nil => intro t r; simp [polyEval]
    | cons c cs ih =>
      intro t r
      rw [List.foldl_cons, ih, toRat_add, toRat_mul, toRat_mul]; simp only [List.map_cons, polyEval]; ring
  exact ⟨_, rfl, by rw [key]; simp [PyNum.toRat]⟩

example : Gen.Util.regress (.int 2) [.int 1, .int 0, .int 3] = .ok (.int 13)
    ∧ Gen.Util.regress (.float (1 / 2)) [.int 1, .int 4] = .ok (.float 3) := by decide +kernel

/-- generated `simple_regression(x1, y1, x2, y2, v)`: ZeroDivisionError iff `x1 == x2`, otherwise a FLOAT whose exact value is the
    line through the two points (float rounding is not modelled: the real result can differ in the last bits). -/
theorem simpleRegression_spec (x1 y1 x2 y2 v : PyNum) (h : x2.toRat - x1.toRat ≠ 0) :
    ∃ q : Rat, Gen.Util.simpleRegression x1 y1 x2 y2 v = .ok (.float q)
      ∧ q = (y2.toRat - y1.toRat) / (x2.toRat - x1.toRat) * v.toRat
            + (y1.toRat - x1.toRat * ((y2.toRat - y1.toRat) / (x2.toRat - x1.toRat))) := by
  unfold Gen.Util.simpleRegression
  have hne : (PyNum.sub x2 x1).toRat ≠ 0 := by rw [toRat_sub]; exact h
  simp only [pyTruediv_ne _ _ hne, ok_bind, pure_eq_ok]
  refine ⟨_, ?_, rfl⟩
  simp only [PyNum.truediv, toRat_sub]
  cases x1 <;> cases y1 <;> cases v <;> rfl

theorem simpleRegression_zero (x1 y1 x2 y2 v : PyNum) (h : x2.toRat - x1.toRat = 0) :
    Gen.Util.simpleRegression x1 y1 x2 y2 v = .error .zeroDivisionError := by
  unfold Gen.Util.simpleRegression
  have hne : (PyNum.sub x2 x1).toRat = 0 := by rw [toRat_sub]; exact h
  simp [pyTruediv, hne, bind, Except.bind]

/-- the only call site (sequence.py:604, `simple_regression(1, 1, 0, 0.5, velocity / VELOCITY_MAX)`): opacity = 0.5 + 0.5·x -/
example : Gen.Util.simpleRegression (.int 1) (.int 1) (.int 0) (.float (1 / 2)) (.float (100 / 127)) = .ok (.float (227 / 254)) := by
  decide +kernel

/-- generated `Message.equivalent(self, other)` (pairwise comparison of `__dict__.values()`, in the order `__init__` stores the
    attributes) is structural equality of the two messages — the `==` on `Msg` that the hand models use; an `other` that is
    not a Message gives False. -/
theorem equivalent_eq (a b : Msg) : Gen.Util.equivalent a (some b) = .ok (decide (a = b)) := by
  unfold Gen.Util.equivalent
  simp only []
  rw [forIn_all (fun x : Gen.Util.FieldVal × Gen.Util.FieldVal => x.1 == x.2) _ (some false, ()) _ _ fun x _ => by cases x.1 == x.2 <;> rfl,
    msgDictValues_all]
  cases decide (a = b) <;> rfl

theorem equivalent_none (a : Msg) : Gen.Util.equivalent a none = .ok false := rfl

example : Gen.Util.equivalent { ty := .noteOn, note := 60, vel := 90, time := 3 } (some { ty := .noteOn, note := 60, vel := 90, time := 3 }) = .ok true
    ∧ Gen.Util.equivalent { ty := .noteOn, note := 60, vel := 90, time := 3 } (some { ty := .noteOn, note := 60, vel := 91, time := 3 }) = .ok false := by
  decide +kernel

end SCoda.UtilTie
