/-
  C04 — absolute and relative views of a Sequence never diverge under any history.

  Proved once for a generic two-view state machine with arbitrary view-local functions, then
  instantiated with the modelled `toRel` / `toAbs`, which lose no event and no duration.
-/
import SCoda.Model.Roll
import SCoda.Model.Wrapper
import SCoda.Lemmas.Roll
namespace SCoda.C04

/-- two representations with conversions, a content relation `E` between contents, and the
    side conditions `okA`/`okR` that the wrapper keeps true of a fresh view -/
structure Views (α ρ γ : Type) where
  toRel : α → ρ
  toAbs : ρ → α
  cA : α → γ
  cR : ρ → γ
  E : γ → γ → Prop
  okA : α → Prop
  okR : ρ → Prop
  E_refl : ∀ x, E x x
  E_symm : ∀ {x y}, E x y → E y x
  E_trans : ∀ {x y z}, E x y → E y z → E x z
  toRel_c : ∀ a, okA a → E (cR (toRel a)) (cA a)
  toAbs_c : ∀ r, okR r → E (cA (toAbs r)) (cR r)
  toRel_ok : ∀ a, okA a → okR (toRel a)
  toAbs_ok : ∀ r, okR r → okA (toAbs r)

structure St (α ρ : Type) where
  abs : α
  rel : ρ
  absStale : Bool
  relStale : Bool

variable {α ρ γ : Type} (V : Views α ρ γ)

/-- the public alphabet, abstractly: a mutator implemented on the absolute view (then the
    relative view is invalidated), one implemented on the relative view, the two overwrites,
    copy, refresh and the two reads (which regenerate a stale view) -/
inductive Op (V : Views α ρ γ)
  | absOp (f : α → α) (hf : ∀ a, V.okA a → V.okA (f a))
  | relOp (f : ρ → ρ) (hf : ∀ r, V.okR r → V.okR (f r))
  | setAbs (a : α) (h : V.okA a)
  | setRel (r : ρ) (h : V.okR r)
  | copy | refresh | readAbs | readRel

/-- regenerate the absolute view if stale (the `abs` property); `none` = "Sequence references stale" -/
def getAbs (s : St α ρ) : Option (St α ρ) :=
  if s.absStale then (if s.relStale then none else some { s with abs := V.toAbs s.rel, absStale := false })
  else some s

def getRel (s : St α ρ) : Option (St α ρ) :=
  if s.relStale then (if s.absStale then none else some { s with rel := V.toRel s.abs, relStale := false })
  else some s

/-- one public operation; `none` = the sequence became unreadable -/
def step (s : St α ρ) : Op V → Option (St α ρ)
  | .absOp f _ => (getAbs V s).map fun s => { s with abs := f s.abs, relStale := true }
  | .relOp f _ => (getRel V s).map fun s => { s with rel := f s.rel, absStale := true }
  | .setAbs a _ => some { s with abs := a, absStale := false, relStale := true }
  | .setRel r _ => some { s with rel := r, relStale := false, absStale := true }
  | .copy => some s          -- a copy holds exactly the fresh views: same state, new identity
  | .refresh => (getAbs V s).bind (getRel V)
  | .readAbs => getAbs V s
  | .readRel => getRel V s

def Inv (s : St α ρ) : Prop :=
  ¬(s.absStale = true ∧ s.relStale = true)
  ∧ (s.absStale = false → V.okA s.abs)
  ∧ (s.relStale = false → V.okR s.rel)
  ∧ (s.absStale = false → s.relStale = false → V.E (V.cA s.abs) (V.cR s.rel))

def run (s : St α ρ) : List (Op V) → Option (St α ρ)
  | [] => some s
  | op :: ops => (step V s op).bind (fun s' => run s' ops)

/-- the content of the sequence, read through whichever view is fresh -/
def content (s : St α ρ) : γ := if s.absStale then V.cR s.rel else V.cA s.abs

/-- what a read of the absolute view returns -/
def absV (s : St α ρ) : α := if s.absStale then V.toAbs s.rel else s.abs
def relV (s : St α ρ) : ρ := if s.relStale then V.toRel s.abs else s.rel

def Readable (s : St α ρ) : Prop := ¬(s.absStale = true ∧ s.relStale = true)

/-- the invariant says that a read of either view succeeds and returns a legal view, and that the
    two agree; this is the one place where the laws of `V` meet the four flag states -/
theorem inv_iff_views (s : St α ρ) :
    Inv V s ↔ Readable s ∧ V.okA (absV V s) ∧ V.okR (relV V s) ∧ V.E (V.cA (absV V s)) (V.cR (relV V s)) := by
  obtain ⟨a, r, sa, sr⟩ := s
  cases sa <;> cases sr
  · exact ⟨fun ⟨h0, hA, hR, hE⟩ => ⟨h0, hA rfl, hR rfl, hE rfl rfl⟩,
      fun ⟨h0, hA, hR, hE⟩ => ⟨h0, fun _ => hA, fun _ => hR, fun _ _ => hE⟩⟩
  · exact ⟨fun ⟨h0, hA, _, _⟩ => ⟨h0, hA rfl, V.toRel_ok a (hA rfl), V.E_symm (V.toRel_c a (hA rfl))⟩,
      fun ⟨h0, hA, _, _⟩ => ⟨h0, fun _ => hA, nofun, nofun⟩⟩
  · exact ⟨fun ⟨h0, _, hR, _⟩ => ⟨h0, V.toAbs_ok r (hR rfl), hR rfl, V.toAbs_c r (hR rfl)⟩,
      fun ⟨h0, _, hR, _⟩ => ⟨h0, nofun, fun _ => hR, nofun⟩⟩
  · exact ⟨fun h => absurd ⟨rfl, rfl⟩ h.1, fun h => absurd ⟨rfl, rfl⟩ h.1⟩

theorem getAbs_eq (s : St α ρ) (h : Readable s) :
    getAbs V s = some { s with abs := absV V s, absStale := false } := by
  obtain ⟨a, r, sa, sr⟩ := s
  cases sa <;> cases sr <;> simp_all [Readable, getAbs, absV]

theorem getRel_eq (s : St α ρ) (h : Readable s) :
    getRel V s = some { s with rel := relV V s, relStale := false } := by
  obtain ⟨a, r, sa, sr⟩ := s
  cases sa <;> cases sr <;> simp_all [Readable, getRel, relV]

theorem views_afterAbs (s : St α ρ) (h : Readable s) :
    absV V { s with abs := absV V s, absStale := false } = absV V s ∧
    relV V { s with abs := absV V s, absStale := false } = relV V s := by
  obtain ⟨a, r, sa, sr⟩ := s
  cases sa <;> cases sr <;> simp_all [Readable, absV, relV]

theorem views_afterRel (s : St α ρ) (h : Readable s) :
    absV V { s with rel := relV V s, relStale := false } = absV V s ∧
    relV V { s with rel := relV V s, relStale := false } = relV V s := by
  obtain ⟨a, r, sa, sr⟩ := s
  cases sa <;> cases sr <;> simp_all [Readable, absV, relV]

theorem inv_afterAbs {s : St α ρ} (h : Inv V s) : Inv V { s with abs := absV V s, absStale := false } := by
  rw [inv_iff_views] at h ⊢
  obtain ⟨e1, e2⟩ := views_afterAbs V s h.1
  rw [e1, e2]
  exact ⟨fun c => by simp at c, h.2⟩

theorem inv_afterRel {s : St α ρ} (h : Inv V s) : Inv V { s with rel := relV V s, relStale := false } := by
  rw [inv_iff_views] at h ⊢
  obtain ⟨e1, e2⟩ := views_afterRel V s h.1
  rw [e1, e2]
  exact ⟨fun c => by simp at c, h.2⟩

theorem inv_putAbs (s : St α ρ) (a : α) (h : V.okA a) :
    Inv V { s with abs := a, absStale := false, relStale := true } :=
  ⟨by simp, fun _ => h, by simp, by simp⟩

theorem inv_putRel (s : St α ρ) (r : ρ) (h : V.okR r) :
    Inv V { s with rel := r, relStale := false, absStale := true } :=
  ⟨by simp, by simp, fun _ => h, by simp⟩

theorem step_inv (s : St α ρ) (h : Inv V s) (op : Op V) :
    ∃ s', step V s op = some s' ∧ Inv V s' := by
  have hv := (inv_iff_views V s).1 h
  have hr := hv.1
  cases op with
  | absOp f hf =>
    exact ⟨{ s with abs := f (absV V s), absStale := false, relStale := true },
      by simp only [step, getAbs_eq V s hr, Option.map_some], inv_putAbs V s _ (hf _ hv.2.1)⟩
  | relOp f hf =>
    exact ⟨{ s with rel := f (relV V s), relStale := false, absStale := true },
      by simp only [step, getRel_eq V s hr, Option.map_some], inv_putRel V s _ (hf _ hv.2.2.1)⟩
  | setAbs a ha => exact ⟨_, rfl, inv_putAbs V s a ha⟩
  | setRel r hr => exact ⟨_, rfl, inv_putRel V s r hr⟩
  | copy => exact ⟨s, rfl, h⟩
  | refresh =>
    have h1 := inv_afterAbs V h
    exact ⟨_, by simp only [step, getAbs_eq V s hr, Option.bind_some, getRel_eq V _ h1.1], inv_afterRel V h1⟩
  | readAbs => exact ⟨_, getAbs_eq V s hr, inv_afterAbs V h⟩
  | readRel => exact ⟨_, getRel_eq V s hr, inv_afterRel V h⟩

/-- no legal history leaves the sequence unreadable, and the invariant holds throughout -/
theorem run_inv (s : St α ρ) (h : Inv V s) (ops : List (Op V)) :
    ∃ s', run V s ops = some s' ∧ Inv V s' := by
  induction ops generalizing s with
  | nil => exact ⟨s, rfl, h⟩
  | cons op ops ih =>
    obtain ⟨s1, hs1, hi1⟩ := step_inv V s h op
    obtain ⟨s2, hs2, hi2⟩ := ih s1 hi1
    exact ⟨s2, by simp [run, hs1, hs2], hi2⟩

/-- after any history both views can be read and describe the same content -/
theorem views_agree (s : St α ρ) (h : Inv V s) (ops : List (Op V)) :
    ∃ s' sa sr, run V s ops = some s' ∧ getAbs V s' = some sa ∧ getRel V sa = some sr
      ∧ V.E (V.cA sr.abs) (V.cR sr.rel) := by
  obtain ⟨s', hr, hi⟩ := run_inv V s h ops
  have h1 := inv_afterAbs V hi
  refine ⟨s', _, _, hr, getAbs_eq V s' hi.1, getRel_eq V _ h1.1, ?_⟩
  simpa [absV, relV] using ((inv_iff_views V _).1 (inv_afterRel V h1)).2.2.2

/-- the effect of a mutator on the absolute side is visible through the relative view -/
theorem absOp_visible (s : St α ρ) (h : Inv V s) (f : α → α) (hf) :
    ∃ s0 s1 s2, getAbs V s = some s0 ∧ step V s (.absOp f hf) = some s1 ∧ getRel V s1 = some s2
      ∧ V.E (V.cR s2.rel) (V.cA (f s0.abs)) := by
  have hok := hf _ ((inv_iff_views V s).1 h).2.1
  refine ⟨_, { s with abs := f (absV V s), absStale := false, relStale := true }, _, getAbs_eq V s h.1,
    by simp only [step, getAbs_eq V s h.1, Option.map_some], getRel_eq V _ (by simp [Readable]), ?_⟩
  simpa [relV] using V.toRel_c _ hok

theorem relOp_visible (s : St α ρ) (h : Inv V s) (f : ρ → ρ) (hf) :
    ∃ s0 s1 s2, getRel V s = some s0 ∧ step V s (.relOp f hf) = some s1 ∧ getAbs V s1 = some s2
      ∧ V.E (V.cA s2.abs) (V.cR (f s0.rel)) := by
  have hok := hf _ ((inv_iff_views V s).1 h).2.2.1
  refine ⟨_, { s with rel := f (relV V s), relStale := false, absStale := true }, _, getRel_eq V s h.1,
    by simp only [step, getRel_eq V s h.1, Option.map_some], getAbs_eq V _ (by simp [Readable]), ?_⟩
  simpa [absV] using V.toAbs_c _ hok

theorem read_content (s : St α ρ) (h : Inv V s) :
    ∃ s', step V s .readAbs = some s' ∧ V.E (content V s') (content V s) := by
  have hv := (inv_iff_views V s).1 h
  refine ⟨_, getAbs_eq V s hv.1, ?_⟩
  obtain ⟨a, r, sa, sr⟩ := s
  cases sa
  · exact V.E_refl _
  · cases sr
    · exact V.toAbs_c r hv.2.2.1
    · exact absurd ⟨rfl, rfl⟩ hv.1

open SCoda

/-- content of a view: timed events up to reordering, and the duration -/
def ContentEq (x y : List Msg × Int) : Prop := x.1.Perm y.1 ∧ x.2 = y.2

theorem toRel_events (a : List Msg) (h : OkAbs a) : eventsRel (toRel a) = eventsAbs a := by
  obtain ⟨hs, hn, hw⟩ := h
  exact eventsRelGo_toRelGo a 0 ((timeSorted_iff_pairwise a).1 hs) hn hw

theorem toRel_duration (a : List Msg) (h : OkAbs a) : durRel (toRel a) = durAbs a := by
  obtain ⟨hs, hn, hw⟩ := h
  have := totalWait_toRelGo a 0 ((timeSorted_iff_pairwise a).1 hs) hn hw
  rw [durAbs_eq_lastTimeD, ← this]
  simp [durRel, toRel]

theorem toRel_ok (a : List Msg) (h : OkAbs a) : OkRel (toRel a) := by
  obtain ⟨hs, hn, hw⟩ := h
  exact ⟨fun m hm => (toRelGo_ok a 0 hw m hm).1, fun m hm => (toRelGo_ok a 0 hw m hm).2⟩

theorem toAbs_events (r : List Msg) (h : OkRel r) : (eventsAbs (toAbs r)).Perm (eventsRel r) := by
  have hfilt : (eventsRel r).filter (fun m => m.ty != .internal) = eventsRel r :=
    List.filter_eq_self.2 fun e he => by simpa using eventsRel_not_internal r h e he
  have hs := (sortAbs_perm (eventsRel r)).filter (fun m => m.ty != .internal)
  rw [hfilt] at hs
  rw [toAbs_eq]
  split
  · exact hs
  · exact ((insort_perm _ _).filter _).trans (by simpa [Msg.mkInternal] using hs)

theorem toAbs_duration (r : List Msg) (h : OkRel r) : durAbs (toAbs r) = durRel r := by
  obtain ⟨hp, hb, hex⟩ := toAbs_struct r h
  rcases hex with hex | ⟨hnil, h0⟩
  · exact durAbs_of_max _ _ hp (fun e he => (hb e he).2.1) hex
  · rw [hnil, durRel, h0]; rfl

theorem toAbs_ok (r : List Msg) (h : OkRel r) : OkAbs (toAbs r) := by
  obtain ⟨hp, hb, _⟩ := toAbs_struct r h
  exact ⟨(timeSorted_iff_pairwise _).2 hp, fun e he => (hb e he).1, fun e he => (hb e he).2.2⟩

def views : Views (List Msg) (List Msg) (List Msg × Int) where
  toRel := toRel
  toAbs := toAbs
  cA := fun a => (eventsAbs a, durAbs a)
  cR := fun r => (eventsRel r, durRel r)
  E := ContentEq
  okA := OkAbs
  okR := OkRel
  E_refl := fun _ => ⟨List.Perm.refl _, rfl⟩
  E_symm := fun h => ⟨h.1.symm, h.2.symm⟩
  E_trans := fun h1 h2 => ⟨h1.1.trans h2.1, h1.2.trans h2.2⟩
  toRel_c := fun a h => ⟨List.Perm.of_eq (toRel_events a h), toRel_duration a h⟩
  toAbs_c := fun r h => ⟨toAbs_events r h, toAbs_duration r h⟩
  toRel_ok := toRel_ok
  toAbs_ok := toAbs_ok

/-- the concrete wrapper states of `Model/Wrapper.lean` are states of the generic machine -/
def ofSeq (s : Seq) : St (List Msg) (List Msg) :=
  { abs := s.abs, rel := s.rel, absStale := s.absStale, relStale := s.relStale }

theorem readAbs_refines (s : Seq) :
    (s.readAbs.toOption.map (fun p => ofSeq p.1)) = getAbs views (ofSeq s) := by
  obtain ⟨a, r, fa, fr⟩ := s
  cases fa <;> cases fr <;> rfl

theorem readRel_refines (s : Seq) :
    (s.readRel.toOption.map (fun p => ofSeq p.1)) = getRel views (ofSeq s) := by
  obtain ⟨a, r, fa, fr⟩ := s
  cases fa <;> cases fr <;> rfl

/-- the three constructors of `Sequence` start in the invariant -/
theorem inv_new : Inv views (ofSeq Seq.new) := inv_putAbs views (ofSeq Seq.new) [] okAbs_nil

theorem inv_ofAbs (a : List Msg) (h : OkAbs a) : Inv views (ofSeq (Seq.ofAbs a)) := inv_putAbs views (ofSeq Seq.new) a h

theorem inv_ofRel (r : List Msg) (h : OkRel r) : Inv views (ofSeq (Seq.ofRel r)) := inv_putRel views (ofSeq Seq.new) r h

/-! non-vacuity: a concrete non-trivial sequence satisfies the hypotheses -/
example : OkAbs [Msg.mkOn 0 60 64 0, Msg.mkOff 0 60 24, Msg.mkInternal 0 48] := by
  refine ⟨?_, ?_, by decide⟩
  · simp [TimeSorted, Msg.mkOn, Msg.mkOff, Msg.mkInternal]
  · simp [NonNegTimes, Msg.mkOn, Msg.mkOff, Msg.mkInternal]
example : OkRel (toRel [Msg.mkOn 0 60 64 0, Msg.mkOff 0 60 24, Msg.mkInternal 0 48]) := by
  apply toRel_ok
  refine ⟨?_, ?_, by decide⟩
  · simp [TimeSorted, Msg.mkOn, Msg.mkOff, Msg.mkInternal]
  · simp [NonNegTimes, Msg.mkOn, Msg.mkOff, Msg.mkInternal]

end SCoda.C04
