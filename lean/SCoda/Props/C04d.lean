/-
  C04 over the *generated* wrapper: the history theorems of `Props/C04c.lean` are about `exec`, which
  calls the hand-written wrapper model `SCoda.Seq.*`; `Props/WrapTie.lean` proves each of those functions
  equal to the statement-by-statement translation of sequence.py (`Gen/WrapFns.lean`, regenerated on
  every run).  Here the two are composed: a history run through the translated methods preserves the
  invariant, stays readable and keeps both views in agreement.
-/
import SCoda.Props.C04c
import SCoda.Props.WrapTie
namespace SCoda.C04d
open SCoda SCoda.C04c

/-- other sequences handed to `concatenate` / `merge` as whole `Sequence` objects holding the given view -/
def relArgs (o : List (List Msg)) : List Seq := o.map Seq.ofRel
def absArgs (o : List (List Msg)) : List Seq := o.map Seq.ofAbs

/-- the operation as the translated source executes it; `none` for the alphabet entries that are not
    whole-method calls of `Sequence` (abandoning an iterator after the first message, the in-place sort
    done by the pairing helpers), and for `equals`, whose translation `Gen.Wrap.equals` Props/C04e.lean adds (`genExec2`) -/
def genExec (e : Env) (s : Seq) : PubOp → Option (Except Err Seq)
  | .readAbs => some ((·.1) <$> Gen.Wrap.getAbs e s)
  | .readRel => some ((·.1) <$> Gen.Wrap.getRel e s)
  | .refresh => some ((·.1) <$> Gen.Wrap.refresh e s)
  | .copy => some ((·.2) <$> Gen.Wrap.copy e s)
  | .addAbs m => some ((·.1) <$> Gen.Wrap.addAbsoluteMessage e s m)
  | .addRel m i => some ((·.1) <$> Gen.Wrap.addRelativeMessage e s m i)
  | .normalise => some ((·.1) <$> Gen.Wrap.normalise e s)
  | .pad n => some ((·.1) <$> Gen.Wrap.pad e s n)
  | .setChannel c => some ((·.1) <$> Gen.Wrap.setChannel e s c)
  | .cutoff m r => some ((·.1) <$> Gen.Wrap.cutoff e s m r)
  | .quantise st => some ((·.1) <$> Gen.Wrap.quantise e s st)
  | .qnl v dne => some ((·.1) <$> Gen.Wrap.quantiseNoteLengths e s v e.ppqn dne)
  | .quantiseAndNormalise => some ((·.1) <$> Gen.Wrap.quantiseAndNormalise e s none none e.ppqn false)
  | .concat o => some ((·.1) <$> Gen.Wrap.concatenate e s (relArgs o))
  | .merge o => some ((·.1) <$> Gen.Wrap.merge e s (absArgs o))
  | .overwriteAbs ms => some ((·.1) <$> Gen.Wrap.overwriteAbsoluteMessages e s ms)
  | .overwriteRel ms => some ((·.1) <$> Gen.Wrap.overwriteRelativeMessages e s ms)
  | .editAbs f => some ((·.1) <$> Gen.Wrap.messagesAbs e s f)
  | .editRel f => some ((·.1) <$> Gen.Wrap.messagesRel e s f)
  | .transpose b => some ((·.1) <$> Gen.Wrap.transpose e s b)
  | .scale k q => some ((·.1) <$> Gen.Wrap.scale e s k none q)
  | .split caps => some ((·.1) <$> Gen.Wrap.split e s caps)
  | _ => none

theorem fst_unit {α} (x : Except Err α) : (·.1) <$> WrapTie.unit x = x := by cases x <;> rfl

theorem readRels_relArgs (o : List (List Msg)) : WrapTie.readRels (relArgs o) = .ok o := by
  rw [WrapTie.readRels, relArgs, List.mapM_map]
  exact (mapM_eq_map _ id o fun _ _ => rfl).trans (by rw [List.map_id])

theorem readAbss_absArgs (o : List (List Msg)) : WrapTie.readAbss (absArgs o) = .ok o := by
  rw [WrapTie.readAbss, absArgs, List.mapM_map]
  exact (mapM_eq_map _ id o fun _ _ => rfl).trans (by rw [List.map_id])

/-- **every whole-method operation of the alphabet, executed by the translation of the current
    source, is the step `exec` of the model** — same new state or same error. -/
theorem genExec_eq (e : Env) (s : Seq) (op : PubOp) (r : Except Err Seq) (h : genExec e s op = some r) :
    r = exec e s op := by
  cases op <;> simp only [genExec, Option.some.injEq, reduceCtorEq] at h <;> subst h <;> simp only [exec]
  case readAbs => rw [WrapTie.getAbs_eq]; cases s.readAbs <;> rfl
  case readRel => rw [WrapTie.getRel_eq]; cases s.readRel <;> rfl
  case refresh => rw [WrapTie.refresh_eq, fst_unit]
  case copy => rw [WrapTie.copy_eq]; rfl
  case addAbs => rw [WrapTie.addAbs_eq, fst_unit]
  case addRel => rw [WrapTie.addRel_eq, fst_unit]
  case normalise => rw [WrapTie.normalise_eq, fst_unit]
  case pad => rw [WrapTie.pad_eq, fst_unit]
  case setChannel => rw [WrapTie.setChannel_eq, fst_unit]
  case cutoff => rw [WrapTie.cutoff_eq, fst_unit]
  case quantise => rw [WrapTie.quantise_eq, fst_unit]
  case qnl => rw [WrapTie.quantiseNoteLengths_eq, fst_unit]
  case quantiseAndNormalise => rw [WrapTie.quantiseAndNormalise_eq, fst_unit]
  case concat o =>
    rw [WrapTie.concatenate_eq, readRels_relArgs]
    show (·.1) <$> (do let p ← s.readRel; WrapTie.unit (p.1.concatSeq o)) = _
    rw [WrapTie.concat_readRel, fst_unit]
  case merge o =>
    rw [WrapTie.merge_eq, readAbss_absArgs]
    show (·.1) <$> (do let p ← s.readAbs; WrapTie.unit (p.1.mergeSeq o)) = _
    rw [WrapTie.merge_readAbs, fst_unit]
  case overwriteAbs => rw [WrapTie.overwriteAbs_eq]; rfl
  case overwriteRel => rw [WrapTie.overwriteRel_eq]; rfl
  case editAbs => rw [WrapTie.messagesAbs_eq, fst_unit]
  case editRel => rw [WrapTie.messagesRel_eq, fst_unit]
  case transpose => rw [WrapTie.transpose_eq]; cases Seq.transposeSeq e s _ <;> rfl
  case scale => rw [WrapTie.scale_eq, fst_unit]
  case split => rw [WrapTie.split_eq]; cases s.splitSeq _ <;> rfl

/-- a history executed by the translated methods (entries without a translation fall back on `exec`) -/
def genRun (e : Env) (s : Seq) : List PubOp → Except Err Seq
  | [] => .ok s
  | op :: ops => match (genExec e s op).getD (exec e s op) with
    | .ok s' => genRun e s' ops
    | .error err => .error err

theorem genRun_eq (e : Env) (ops : List PubOp) : ∀ s, genRun e s ops = run e s ops := by
  induction ops with
  | nil => intro s; rfl
  | cons op ops ih =>
    intro s
    have h : (genExec e s op).getD (exec e s op) = exec e s op := by
      cases hg : genExec e s op with
      | none => rfl
      | some r => exact genExec_eq e s op r hg
    simp only [genRun, run, h]
    cases exec e s op with
    | error x => rfl
    | ok s' => exact ih s'

/-- **C04 for the translated source**: any legal history, executed by the statement-by-statement
    translation of `sequence.py`, succeeds and ends in a state satisfying the wrapper invariant … -/
theorem history_inv_gen (e : Env) (he : EnvOk e) (ops : List PubOp) (s : Seq) (h : Inv s)
    (hl : ∀ op ∈ ops, Legal op) : ∃ s', genRun e s ops = .ok s' ∧ Inv s' := by
  rw [genRun_eq]; exact history_inv e he ops s h hl

/-- … in which both views can be read (`no legal history leaves the sequence unreadable`). -/
theorem history_readable_gen (e : Env) (he : EnvOk e) (ops : List PubOp) (s : Seq) (h : Inv s)
    (hl : ∀ op ∈ ops, Legal op) :
    ∃ s', genRun e s ops = .ok s' ∧ (∃ p, s'.readAbs = .ok p) ∧ (∃ p, s'.readRel = .ok p) := by
  obtain ⟨s', hs, hi⟩ := history_inv_gen e he ops s h hl
  obtain ⟨⟨s1, h1, _⟩, ⟨s2, h2, _⟩⟩ := readable s' hi
  exact ⟨s', hs, ⟨_, h1⟩, ⟨_, h2⟩⟩

/-- non-vacuity: the 9-operation history of `C04c.h0` runs through the translated methods -/
example : ∃ s', genRun e0 (Seq.ofRel r0) h0 = .ok s' ∧ Inv s' :=
  history_inv_gen e0 envOk_defaults h0 _ (inv_ofRel r0 r0_ok) h0_legal

end SCoda.C04d
