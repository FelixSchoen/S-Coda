/-
  Glue in front of the tokeniser core: `extract` (set_channel per track, merge, normalise,
  time-interleaved pairing) hands the core events that satisfy the hypotheses the core theorems
  (C01 `EvsOk`, C02 `ChannelsOk`) assume.
-/
import SCoda.Model.Extract
import SCoda.Model.Roll
import SCoda.Lemmas.GlueAux
import SCoda.Lemmas.GluePair
namespace SCoda.Glue
open SCoda SCoda.GlueAux SCoda.GluePair

theorem extract_head_mem (ppqn : Int) (tracks : List (List Msg)) :
    ∀ ev ∈ extract ppqn tracks, ∀ m ∈ ev.2.head?, m ∈ final tracks := by
  intro ev hev m hm
  rw [extract_eq] at hev
  obtain ⟨q, hq, heq⟩ := interleaved_mem _ _ _ ev hev
  obtain ⟨x, hx, hxs⟩ := hq.head
  rw [heq, PairStep.closeUnclosed_head, hx] at hm
  simp at hm; subst hm
  exact (mem_sortAbs _ _).1 hxs

/-- every event's head message sits on the channel of one of the tracks -/
theorem extract_channels (ppqn : Int) (tracks : List (List Msg)) :
    ∀ ev ∈ extract ppqn tracks, ∀ m ∈ ev.2.head?, 0 ≤ m.ch ∧ m.ch < (tracks.length : Int) := by
  intro ev hev m hm
  obtain ⟨i, hi, hch, _⟩ := final_src tracks m (extract_head_mem ppqn tracks ev hev m hm)
  rw [hch]
  omega

theorem extract_ordered (ppqn : Int) (tracks : List (List Msg)) :
    List.Pairwise (fun a b => ∀ x ∈ a.2.head?, ∀ y ∈ b.2.head?, x.time ≤ y.time) (extract ppqn tracks) := by
  rw [extract_eq]
  exact interleaved_sorted _ _ _

theorem extract_nonneg (ppqn : Int) (tracks : List (List Msg)) :
    ∀ ev ∈ extract ppqn tracks, ∀ m ∈ ev.2.head?, 0 ≤ m.time := by
  intro ev hev m hm
  exact final_nonneg tracks m (extract_head_mem ppqn tracks ev hev m hm)

theorem extract_timesig (ppqn : Int) (tracks : List (List Msg)) :
    ∀ ev ∈ extract ppqn tracks, ∀ m ∈ ev.2.head?, m.ty = .timeSignature →
      ∃ t ∈ tracks, ∃ m0 ∈ t, m0.ty = .timeSignature ∧ m0.num = m.num ∧ m0.den = m.den := by
  intro ev hev m hm hty
  obtain ⟨_, _, _, t, ht, m0, hm0, hts⟩ :=
    final_src tracks m (extract_head_mem ppqn tracks ev hev m hm)
  exact ⟨t, ht, m0, hm0, hts hty⟩

/-- every event is a non-empty pairing whose head is a note-on (followed by its note-off, on the same
    channel and pitch, not earlier than the note-on), a time signature, or an INTERNAL message -/
theorem extract_shape (ppqn : Int) (hp : 0 ≤ ppqn) (tracks : List (List Msg)) (h : ∀ t ∈ tracks, OkRel t) :
    ∀ ev ∈ extract ppqn tracks,
      (∃ on off, ev.2 = [on, off] ∧ on.ty = .noteOn ∧ off.ty = .noteOff ∧ off.nkey = on.nkey ∧ on.time ≤ off.time)
      ∨ (∃ m, ev.2 = [m] ∧ (m.ty = .timeSignature ∨ m.ty = .internal)) := by
  have _ := h  -- not needed: the pairing code sorts its input itself
  intro ev hev
  rw [extract_eq] at hev
  obtain ⟨q, hq, heq⟩ := interleaved_mem _ _ _ ev hev
  rcases closeUnclosed_good ppqn hp hq with ⟨m, h1, _, h3, h4, h5⟩ | ⟨on, off, h1, _, h3⟩
  · right
    refine ⟨m, by rw [heq, h1], ?_⟩
    simp only [extractTypes, List.mem_cons, List.not_mem_nil, or_false] at h3
    rcases h3 with h3 | h3 | h3 | h3
    · exact absurd h3 h5
    · exact absurd h3 h4
    · exact Or.inl h3
    · exact Or.inr h3
  · left
    exact ⟨on, off, by rw [heq, h1], h3⟩

example : (extract 24 [[Msg.mkOn 0 60 64 pyNone, Msg.mkWait 0 24, Msg.mkOff 0 60 pyNone],
                        [Msg.mkWait 5 12, Msg.mkOn 5 48 30 pyNone, Msg.mkWait 5 24, Msg.mkOff 5 48 pyNone]]).length = 2 := by
  decide +kernel

end SCoda.Glue
