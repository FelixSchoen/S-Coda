/-
  C16 and the wrapper invariant of C04: the value snapshot of a sequence in the concrete heap of
  `Model/HeapOps.lean` is a state of the wrapper model `Model/Wrapper.lean`; a copy is `Seq.copy` of
  the original (so `C04.copy_inv` applies), and the untouched side of `C16c.independent` keeps the
  C04 invariant because nothing the invariant reads has changed.  (Separate file: `Props/C04b` brings
  the value models into scope, whose names — `split`, `normalise`, … — clash with the heap operations.)
-/
import SCoda.Props.C16c
import SCoda.Props.C04b
namespace SCoda.C16cW
open SCoda.HeapOps SCoda.HeapL SCoda.C16c

/-- a snapshot as a state of the wrapper model `Model/Wrapper.lean` -/
def toSeq (p : Snap) : SCoda.Seq := { abs := p.abs, rel := p.rel, absStale := p.absStale, relStale := p.relStale }

theorem toSeq_copy (p : Snap) : toSeq (snapCopy p) = (toSeq p).copy := by
  obtain ⟨a, r, fa, fr⟩ := p
  cases fa <;> cases fr <;> rfl

/-- the C04 invariant ("the two views agree") of a sequence in a heap -/
def ViewsAgree (h : Heap) (s : Nat) : Prop := C04.Inv C04.views (C04.ofSeq (toSeq (HeapOps.snap h s)))

/-- **a copy equals its original, in the terms of C04**: if the original's views agree, the copy's views
    agree, and the copy's content (events and duration, read through whichever view is not stale) is
    the original's. (A2) -/
theorem copy_equal_content (h : Heap) (s : Nat) (hall : AllocAll h [(.seq, s)]) (hok : SeqOk h s)
    (hinv : ViewsAgree h s) :
    ViewsAgree (HeapOps.seqCopy h s).1 (HeapOps.seqCopy h s).2
      ∧ C04.ContentEq (C04.content C04.views (C04.ofSeq (toSeq (HeapOps.snap (HeapOps.seqCopy h s).1 (HeapOps.seqCopy h s).2))))
          (C04.content C04.views (C04.ofSeq (toSeq (HeapOps.snap h s)))) := by
  unfold ViewsAgree
  rw [copy_equal h s hall hok, toSeq_copy]
  exact C04.copy_inv _ hinv

/-- **the untouched side keeps its two views in agreement**: under the hypotheses of `independent`,
    for every sequence inside `x` the C04 invariant holds after the history iff it held before
    (nothing that the invariant reads has changed). (A2) -/
theorem independent_views_agree (o : Orc) (h : Heap) (W : List Cell) (x : Cell) (ops : List HOp)
    (hW : AllocAll h W) (hx : AllocAll h [x]) (hdis : Disjoint (HeapOps.reach h x) (HeapOps.reachAll h W)) :
    ∀ s, (Kind.seq, s) ∈ HeapOps.reach h x → (ViewsAgree (HeapOps.run o ops (h, W)).1 s ↔ ViewsAgree h s) := by
  intro s hs
  unfold ViewsAgree
  rw [(independent o h W x ops hW hx hdis).2.2.1 s hs]

/-- non-vacuity: the example sequence of `C16c` satisfies the C04 invariant (and `AllocAll`, `SeqOk`,
    see `C16c`), so `copy_equal_content` applies to it -/
example : ViewsAgree exHeap 0 := by
  have hsnap : toSeq (HeapOps.snap exHeap 0)
      = { abs := [], rel := [Msg.mkOn 0 60 64 pyNone, Msg.mkWait 0 24, Msg.mkOff 0 60 pyNone],
          absStale := true, relStale := false } := by decide +kernel
  unfold ViewsAgree
  rw [hsnap]
  unfold C04.Inv
  simp only [C04.ofSeq]
  refine And.intro (by decide) (And.intro (fun h => by cases h) (And.intro ?_ (fun h => by cases h)))
  intro _
  refine And.intro ?_ ?_
  · intro m hm hw
    simp only [List.mem_cons, List.not_mem_nil, or_false] at hm
    rcases hm with rfl | rfl | rfl <;> simp_all [Msg.mkOn, Msg.mkWait, Msg.mkOff]
  · intro m hm
    simp only [List.mem_cons, List.not_mem_nil, or_false] at hm
    rcases hm with rfl | rfl | rfl <;> simp [Msg.mkOn, Msg.mkWait, Msg.mkOff]

end SCoda.C16cW
