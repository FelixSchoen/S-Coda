/-
  C11, layer 3 — the guarding expressions are int-typed, equal the truncated quotient for every sign
  (`d ≠ 0`), and hence the floor-division formulas the Lean models use (`barCapacity`, `Cfg.capacity`) for all
  integer arguments in range.
-/
import SCoda.Lemmas.C11LNum
namespace SCoda.C11
open SCoda

/-- `round(x)` and `int(x)` always return an int-typed value -/
theorem pyround_int (x : PyNum) : (PyNum.pyround x).isInt = true := by
  cases x <;> rfl
theorem pyint_int (x : PyNum) : (PyNum.pyint x).isInt = true := by
  cases x <;> rfl

theorem barCapacityPy_int (n ppqn d : Int) : (barCapacityPy n ppqn d).isInt = true :=
  pyint_int _

theorem splitBarLenPy_int (n ppqn d : Int) : (splitBarLenPy n ppqn d).isInt = true :=
  pyint_int _

theorem tokCapacityPy_int (n ppqn d : Int) : (tokCapacityPy n ppqn d).isInt = true :=
  pyint_int _

/-- `int(n * PPQN / (d / 4))` is the model's `barCapacity` -/
theorem barCapacityPy_eq (n ppqn d : Int) (hn : 0 ≤ n) (hp : 0 ≤ ppqn) (hd : 0 < d) :
    barCapacityPy n ppqn d = .int (barCapacity ppqn n d) := by
  rw [C11L.barCapacityPy_trunc n ppqn d hd.ne', Int.tdiv_eq_ediv_of_nonneg (by positivity)]; rfl

/-- `int(PPQN * (n / (d / 4)))` is the same number -/
theorem splitBarLenPy_eq (n ppqn d : Int) (hn : 0 ≤ n) (hp : 0 ≤ ppqn) (hd : 0 < d) :
    splitBarLenPy n ppqn d = .int (barCapacity ppqn n d) := by
  rw [C11L.splitBarLenPy_trunc n ppqn d hd.ne', Int.tdiv_eq_ediv_of_nonneg (by positivity)]; rfl

/-- `int(ppqn * 4 * n / d)` is the tokeniser model's `capacity` -/
theorem tokCapacityPy_eq (c : Cfg) (n d : Int) (hn : 0 ≤ n) (hp : 0 ≤ c.ppqn) (hd : 0 < d) :
    tokCapacityPy n c.ppqn d = .int (c.capacity n d) := by
  rw [C11L.tokCapacityPy_trunc n c.ppqn d hd.ne', Int.tdiv_eq_ediv_of_nonneg (by positivity)]; rfl

example : barCapacityPy 6 24 8 = .int 72 := by
  rw [barCapacityPy_eq 6 24 8 (by decide) (by decide) (by decide)]; decide
example : barCapacityPy 1 24 128 = .int 0 := by
  rw [barCapacityPy_eq 1 24 128 (by decide) (by decide) (by decide)]; decide

end SCoda.C11
