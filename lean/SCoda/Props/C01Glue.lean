/-
  C01 glue: the events `extract` hands to the tokeniser core satisfy the hypothesis `EvsOk` of the
  simulation theorem, so `roundtrip` applies to what `tokenise` actually computes for a list of tracks.
-/
import SCoda.Props.C01
import SCoda.Props.Glue
namespace SCoda.C01
open SCoda

theorem extract_evsOk (c : Cfg) (tracks : List (List Msg)) (hlen : tracks.length = c.numTracks)
    (hok : ∀ t ∈ tracks, OkRel t)
    (hts : ∀ t ∈ tracks, ∀ m ∈ t, m.ty = .timeSignature → 0 < m.den ∧ 0 < m.num) :
    EvsOk c 0 0 (extract c.ppqn tracks) := by
  have _ := hok  -- not needed: `extract` orders its events and puts none before tick 0 whatever the tracks are
  refine ⟨?_, ?_, ?_, ?_⟩
  · intro ev hev m hm
    have := Glue.extract_channels c.ppqn tracks ev hev m hm
    rw [hlen] at this
    exact this
  · exact Glue.extract_ordered c.ppqn tracks
  · intro ev hev m hm
    have := Glue.extract_nonneg c.ppqn tracks ev hev m hm
    omega
  · intro ev hev m hm hty
    obtain ⟨t, ht, m0, hm0, hty0, hnum, hden⟩ := Glue.extract_timesig c.ppqn tracks ev hev m hm hty
    have := hts t ht m0 hm0 hty0
    rw [← hnum, ← hden]
    exact this

/-- **C01 for tracks**: whenever `tokenise` accepts a list of tracks (from the initial state), running
    `detokenise` on the emitted tokens succeeds and — time-signature messages aside — emits exactly the
    specification log of the extracted events: every note at its onset with its duration and binned
    velocity on its track, and every bar end of the grid. -/
theorem roundtrip_tracks (c : Cfg) (hc : CfgOk c) (hn : 0 < c.numTracks) (tracks : List (List Msg))
    (hlen : tracks.length = c.numTracks) (hok : ∀ t ∈ tracks, OkRel t)
    (hts : ∀ t ∈ tracks, ∀ m ∈ t, m.ty = .timeSignature → 0 < m.den ∧ 0 < m.num)
    (toks : List Tok) (st' : TokSt)
    (h : tokeniseCore c (TokSt.init c) (extract c.ppqn tracks) = .ok (toks, st')) :
    ∃ d log, dfold c (DetokSt.init c) toks = .ok (d, log)
      ∧ detokenise c toks = .ok d.seqs
      ∧ log.filter notTsig = (specLog c (TokSt.init c) (extract c.ppqn tracks)).2 :=
  roundtrip c hc hn _ toks st' (extract_evsOk c tracks hlen hok hts) h

end SCoda.C01
