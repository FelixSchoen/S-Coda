/-
  C18 — pad, cut-off, integer scaling and channel assignment do exactly what they say.
  Pad, scaling and channel assignment work on the relative view: their statements are about the timed events (`eventsRel`), the
  notes read off them and the duration, i.e. about what a user can observe, not about the shape of the message lists.  Cut-off
  works on the absolute view: here it keeps the non-note messages and the note-ons (`cutoff_others`, `cutoff_note_ons`) and
  sorts; what it does to the notes is `Notes.cutoff_notes` in Props/Notes.lean.
-/
import SCoda.Model.Normalise
import SCoda.Model.Pairing
import SCoda.Model.Roll
import SCoda.Lemmas.Sort
import SCoda.Lemmas.Normalise
import SCoda.Lemmas.RollNotes
import SCoda.Lemmas.Cutoff
namespace SCoda.C18
open SCoda

theorem eventsRelGo_append_wait (cur : Int) (l : List Msg) (w : Msg) (hw : w.ty = .wait) :
    eventsRelGo cur (l ++ [w]) = eventsRelGo cur l := by
  rw [eventsRelGo_append, eventsRelGo, if_pos (by rw [hw]; rfl)]
  exact List.append_nil _

theorem totalWait_append_wait (l : List Msg) (w : Msg) (hw : w.ty = .wait) :
    totalWait (l ++ [w]) = totalWait l + w.time := by
  rw [totalWait_append, totalWait, if_pos (by rw [hw]; rfl)]
  exact congrArg _ (Int.add_zero _)

theorem pad_eq (n : Int) (r : List Msg) :
    pad n r = if (padGo n 0 none r).1 < n then
      r ++ [Msg.mkWait ((padGo n 0 none r).2.getD 0) (n - (padGo n 0 none r).1)] else r := rfl

/-- padding leaves all events untouched -/
theorem pad_events (n : Int) (r : List Msg) : eventsRel (pad n r) = eventsRel r := by
  rw [pad_eq]
  split
  · exact eventsRelGo_append_wait 0 r _ rfl
  · rfl

/-- the length `padGo` returns: it is the length of the list as long as that stays below `n`; once the running length reaches
    `n` the walk stops, and then the list is at least that long -/
theorem padGo_spec (n len : Int) (defCh : Option Int) (l : List Msg) (h : NonNegWaits l) :
    ((padGo n len defCh l).1 < n → (padGo n len defCh l).1 = len + totalWait l)
    ∧ (n ≤ (padGo n len defCh l).1 → n ≤ len + totalWait l) := by
  induction l generalizing len defCh with
  | nil => simp [padGo, totalWait]
  | cons m ms ih =>
    have h1 : NonNegWaits ms := fun x hx => h x (List.mem_cons_of_mem _ hx)
    have h0 := totalWait_nonneg ms h1
    simp only [padGo, totalWait]
    split
    · split
      · simp only []
        omega
      · constructor
        · intro hh; have := (ih _ _ h1).1 hh; omega
        · intro hh; have := (ih _ _ h1).2 hh; omega
    · constructor
      · intro hh; have := (ih _ _ h1).1 hh; omega
      · intro hh; have := (ih _ _ h1).2 hh; omega

/-- padding makes the duration max(old duration, n) -/
theorem pad_duration (n : Int) (r : List Msg) (h : NonNegWaits r) :
    durRel (pad n r) = max (durRel r) n := by
  have := padGo_spec n 0 none r h
  rw [pad_eq]
  unfold durRel
  split
  · rw [totalWait_append_wait _ _ rfl]
    simp only [Msg.mkWait]
    omega
  · omega

/-- padding keeps the view legal -/
theorem pad_ok (n : Int) (r : List Msg) (h : OkRel r) : OkRel (pad n r) := by
  rw [pad_eq]
  split
  · rename_i hlt
    refine ⟨?_, ?_⟩
    · intro m hm hw
      rw [List.mem_append] at hm
      rcases hm with hm | hm
      · exact h.1 m hm hw
      · simp only [List.mem_singleton] at hm
        subst hm
        simp only [Msg.mkWait]; omega
    · intro m hm
      rw [List.mem_append] at hm
      rcases hm with hm | hm
      · exact h.2 m hm
      · simp only [List.mem_singleton] at hm
        subst hm
        simp [Msg.mkWait]
  · exact h

def scaleMsg (k : Int) (m : Msg) : Msg := if m.ty == .wait then { m with time := m.time * k } else m

theorem scaleRel_eq_map (k : Int) (r : List Msg) : scaleRel k r = r.map (scaleMsg k) := by
  unfold scaleRel
  split
  · rename_i h
    have hk : k = 1 := by simpa using h
    subst hk
    conv => lhs; rw [← List.map_id r]
    apply List.map_congr_left
    intro m _
    unfold scaleMsg
    split
    · simp only [Int.mul_one, id]
    · rfl
  · rfl

/-- scaling by an integer k multiplies the tick of every event by k and changes nothing else of it -/
theorem scale_events (k : Int) (r : List Msg) :
    eventsRel (scaleRel k r) = (eventsRel r).map (fun m => { m with time := k * m.time }) := by
  rw [scaleRel_eq_map]
  have := eventsRelGo_hom (scaleMsg k) (fun m => { m with time := k * m.time }) (k * ·)
    (fun m => by unfold scaleMsg; split <;> rfl)
    (fun c m hw => by simp only [scaleMsg, hw, beq_self_eq_true, if_true, Int.mul_add, Int.mul_comm])
    (fun c m hw => by simp [scaleMsg, hw]) r 0
  rwa [Int.mul_zero] at this

/-- scaling by an integer k multiplies the total duration by k -/
theorem scale_duration (k : Int) (r : List Msg) : durRel (scaleRel k r) = k * durRel r := by
  rw [scaleRel_eq_map]
  unfold durRel
  induction r with
  | nil => simp [totalWait]
  | cons m ms ih =>
    simp only [List.map_cons, totalWait, ih]
    by_cases hw : m.ty = .wait
    · simp only [scaleMsg, hw, beq_self_eq_true, if_true, Int.mul_add, Int.mul_comm]
    · have h0 : scaleMsg k m = m := by simp [scaleMsg, hw]
      have hb : (m.ty == MType.wait) = false := by simpa using hw
      simp [h0, hb]

theorem notesGo_map_time (k : Int) (evs opens : List Msg) :
    notesGo (evs.map (fun m => { m with time := k * m.time })) (opens.map (fun m => { m with time := k * m.time })) =
      (notesGo evs opens).map (fun n => { n with on := k * n.on, off := k * n.off }) := by
  rw [NotesL.notesGo_eq, NotesL.notesGo_eq, NotesL.pairsGo_map_key (fun m : Msg => { m with time := k * m.time }) (fun _ => rfl) (fun _ => rfl),
    List.map_map, List.map_map]
  rfl

/-- the notes of the scaled sequence are the notes with onset and end multiplied by k (`hk` is the property's domain; the
    proof does not need it) -/
theorem scale_notes (k : Int) (r : List Msg) (hk : 1 ≤ k) :
    notesOf (eventsRel (scaleRel k r)) =
      (notesOf (eventsRel r)).map (fun n => { n with on := k * n.on, off := k * n.off }) := by
  have _ := hk
  rw [scale_events]
  exact notesGo_map_time k (eventsRel r) []

/-- assigning a channel changes the channel of every event and nothing else -/
theorem channel_events (c : Int) (r : List Msg) :
    eventsRel (setChannel c r) = (eventsRel r).map (fun m => { m with ch := c }) :=
  eventsRelGo_hom ({ · with ch := c }) (fun m => { m with ch := c }) id (fun _ => rfl) (fun _ _ _ => rfl) (fun _ _ _ => rfl) r 0

theorem channel_duration (c : Int) (r : List Msg) : durRel (setChannel c r) = durRel r :=
  totalWait_map ({ · with ch := c }) (fun _ => rfl) (fun _ => rfl) r

/-- one step of the cut-off loop: a note-off that is paired with a note-on more than `m` ticks
    earlier is moved to `on + r`, any other message is unchanged -/
theorem cutoffGo_spec (m r : Int) (x : Msg) (xs : List Msg) (opens : Assoc (Int × Int) Int) :
    cutoffGo m r (x :: xs) opens =
      (match x.ty, opens.get? x.nkey with
       | .noteOff, some t => if x.time - t > m then { x with time := t + r } else x
       | _, _ => x)
      :: cutoffGo m r xs
          (match x.ty with
           | .noteOn => opens.set x.nkey x.time
           | .noteOff => (match opens.get? x.nkey with | some _ => opens.erase x.nkey | Option.none => opens)
           | _ => opens) :=
  cutoffGo_cons m r x xs opens

/-- the walk moves note-offs only: a filter that lets no note-off through does not see it -/
theorem cutoffGo_filter (p : Msg → Bool) (hoff : ∀ a : Msg, a.ty = .noteOff → p a = false)
    (m r : Int) (l : List Msg) (opens : Assoc (Int × Int) Int) :
    (cutoffGo m r l opens).filter p = l.filter p := by
  induction l generalizing opens with
  | nil => rfl
  | cons x xs ih =>
    by_cases hon : x.ty = .noteOn
    · rw [cutoffGo_on m r x xs opens hon, List.filter_cons, List.filter_cons, ih]
    · by_cases ho : x.ty = .noteOff
      · have hx : ¬ p x = true := by rw [hoff x ho]; exact Bool.false_ne_true
        cases hg : opens.get? x.nkey with
        | none => rw [cutoffGo_off_none m r x xs opens ho hg, List.filter_cons, List.filter_cons, ih]
        | some t =>
          rw [cutoffGo_off_some m r x xs opens ho t hg, List.filter_cons_of_neg hx, List.filter_cons_of_neg, ih]
          rw [hoff _ (by split <;> exact ho)]
          exact Bool.false_ne_true
      · rw [cutoffGo_other m r x xs opens hon ho, List.filter_cons, List.filter_cons, ih]

/-- cut-off: the non-note events are untouched (as a multiset; the final sort may permute
    simultaneous ones) -/
theorem cutoff_others (m r : Int) (a : List Msg) :
    (nonNotes (cutoff m r a)).Perm (nonNotes a) := by
  unfold nonNotes cutoff
  refine ((sortAbs_perm _).filter _).trans ?_
  rw [cutoffGo_filter _ (fun a h => by simp [h])]
  exact (sortAbs_perm a).filter _

theorem cutoff_note_ons (m r : Int) (a : List Msg) :
    ((cutoff m r a).filter (·.ty == .noteOn)).Perm (a.filter (·.ty == .noteOn)) := by
  unfold cutoff
  refine ((sortAbs_perm _).filter _).trans ?_
  rw [cutoffGo_filter _ (fun a h => by simp [h])]
  exact (sortAbs_perm a).filter _

theorem cutoff_sorted (m r : Int) (a : List Msg) : TimeSorted (cutoff m r a) :=
  sortAbs_timeSorted _

example : durRel (pad 96 [Msg.mkOn 0 60 64 pyNone, Msg.mkWait 0 24, Msg.mkOff 0 60 pyNone]) = 96 := by
  decide +kernel
example : eventsRel (scaleRel 2 [Msg.mkWait 0 6, Msg.mkOn 0 60 64 pyNone, Msg.mkWait 0 24, Msg.mkOff 0 60 pyNone])
    = [Msg.mkOn 0 60 64 12, Msg.mkOff 0 60 60] := by
  decide +kernel

end SCoda.C18
