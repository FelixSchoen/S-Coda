/-
  C16 — copies and derived sequences are independent values, over the concrete heap of
  `Model/HeapOps.lean` (closes audit item A2).

  Every mutable object of the modelled files is a cell with an identity (messages, view objects with
  their `_messages` list, `Sequence` wrappers with both view pointers and both stale flags, bars,
  tracks, compositions).  The operations follow the Python source with respect to identity; value
  decisions come from an arbitrary oracle `o : Orc`, and every theorem holds for all oracles.

  * `derive_fresh_*`   what a derivation route returns reaches only cells the call allocated
                       (proved from the definitions of the operations)
  * `op_frame`         a public operation writes only cells reachable from the objects it is applied to
                       (receiver and object-valued arguments), for every operation of `HOp`
  * `independent`      for every history (a list over the concrete operation type `HOp`) run on roots
                       whose reachable cells are disjoint from those of `x`, every cell reachable from `x`
                       is unchanged: both views' message values and both flags of every sequence of `x`
  * `derived_independent`  the two combined, for every derivation route, in both directions
  * `copy_equal`       what is read through the copy's views equals what is read through the original's
  * `unrepaired_split_not_independent`  the negative control (D13)

  `AllocAll`, `Disjoint`, `Unchanged`, `FreshCells`, `Sep`, `isDerive` and the lemmas about separation: `Lemmas/HeapSepL.lean`.
-/
import SCoda.Lemmas.HeapSepL
import SCoda.Lemmas.HeapFrameL
namespace SCoda.C16c
open SCoda SCoda.HeapOps SCoda.HeapL

/-- `Message.copy()`: the result is a new message; nothing existing is written. (A2) -/
theorem derive_fresh_msgCopy (h : Heap) (i : Nat) :
    FreshCells h (msgCopy h i).1 (reach (msgCopy h i).1 (.msg, (msgCopy h i).2))
      ∧ ∀ c, h.alloc c → (msgCopy h i).1.get c = h.get c :=
  fresh_of_spec (msgCopy_spec (good_fresh h) i)

/-- `Sequence.copy()`: the wrapper, both view objects and every message reachable from the copy were
    allocated by the call; nothing existing is written. (A2) -/
theorem derive_fresh_seqCopy (h : Heap) (s : Nat) :
    FreshCells h (seqCopy h s).1 (reach (seqCopy h s).1 (.seq, (seqCopy h s).2))
      ∧ ∀ c, h.alloc c → (seqCopy h s).1.get c = h.get c :=
  fresh_of_spec (seqCopy_spec (good_fresh h) s)

/-- `Sequence.sequences_split_bars(inputs, meta, quantise_note_lengths)` with either re-quantisation
    setting: every bar returned reaches only cells the call allocated, and no existing cell — in
    particular no input sequence — is written. (A2) -/
theorem derive_fresh_splitBars (o : Orc) (tag : Nat) (qnl : Bool) (fuel : Nat) (h : Heap) (inputs : List Nat) (mti : Nat) :
    (∀ bs ∈ (splitBars o tag qnl fuel h inputs mti).2, ∀ b ∈ bs,
        FreshCells h (splitBars o tag qnl fuel h inputs mti).1 (reach (splitBars o tag qnl fuel h inputs mti).1 (.bar, b)))
      ∧ ∀ c, h.alloc c → (splitBars o tag qnl fuel h inputs mti).1.get c = h.get c := by
  obtain ⟨s1, i1⟩ := splitBars_spec (o := o) (good_fresh h) tag qnl fuel inputs mti
  exact ⟨fun bs hbs b hb => reach_in s1.good (i1 bs hbs b hb), s1.same_alloc⟩

/-- `Composition.from_sequences(sequences, meta)`. (A2) -/
theorem derive_fresh_cmpFromSequences (o : Orc) (tag fuel : Nat) (h : Heap) (inputs : List Nat) (mti : Nat) :
    FreshCells h (cmpFromSequences o tag fuel h inputs mti).1
        (reach (cmpFromSequences o tag fuel h inputs mti).1 (.cmp, (cmpFromSequences o tag fuel h inputs mti).2))
      ∧ ∀ c, h.alloc c → (cmpFromSequences o tag fuel h inputs mti).1.get c = h.get c :=
  fresh_of_spec (cmpFromSequences_spec (good_fresh h) tag fuel inputs mti)

/-! `Sequence.split` reads the relative view of its source, and so — since the second repair of D37 — does `Bar.copy`, hence
    `Track.copy` and `Composition.copy` (`self.sequence.rel`, bar.py:59): a stale view is regenerated, a write of the source's
    wrapper cell.  Their freshness statements therefore allow the source to be written in cells it reaches, and say that the
    result is made of new cells not reachable from the source afterwards (`split_dsep`, `barCopy_dsep`, … of `Lemmas/HeapSepL.lean`). -/

/-- `Sequence.split(capacities)` after the repair of D13: every piece reaches only cells the call
    allocated, none of them reachable from the source afterwards; the source itself may be written
    (its relative view is regenerated if stale) but only in cells reachable from it.
    Hypothesis: the source has no dangling identity. (A2) -/
theorem derive_fresh_split (o : Orc) (tag : Nat) (h : Heap) (s : Nat) (hall : AllocAll h [(.seq, s)]) :
    (∀ p ∈ (split o tag h s).2, ∀ c ∈ reach (split o tag h s).1 (.seq, p),
        ¬ h.alloc c ∧ (split o tag h s).1.alloc c ∧ c ∉ reach (split o tag h s).1 (.seq, s))
      ∧ ∀ c, h.alloc c → c ∉ reach h (.seq, s) → (split o tag h s).1.get c = h.get c :=
  ⟨pieces_of_dsep (split_dsep o tag s (dsep_start hall) (by simp)),
    frame_of_spec (split_spec (good_reachR h _ hall) tag (in_reachR hall (by simp))).1⟩

/-- `Bar.copy()` (second repair of D37): the bar, its `Sequence`, the views and the messages of the copy were allocated by the
    call and none of them is reachable from the source bar afterwards; the source may be written — the relative view of its
    sequence is regenerated if stale (`self.sequence.rel`, bar.py:59) — but only in cells reachable from it.
    Hypothesis: the source has no dangling identity. (A2) -/
theorem derive_fresh_barCopy (o : Orc) (tag : Nat) (h : Heap) (b : Nat) (hall : AllocAll h [(.bar, b)]) :
    FreshCells h (barCopy o tag h b).1 (reach (barCopy o tag h b).1 (.bar, (barCopy o tag h b).2))
      ∧ Disjoint (reach (barCopy o tag h b).1 (.bar, (barCopy o tag h b).2)) (reach (barCopy o tag h b).1 (.bar, b))
      ∧ ∀ c, h.alloc c → c ∉ reach h (.bar, b) → (barCopy o tag h b).1.get c = h.get c := by
  have hg := good_reachR h _ hall
  exact copy_of_dsep (barCopy_dsep o tag b (dsep_start hall) (by simp))
    (barCopy_spec hg tag b (bar_seq_in hg (in_reachR hall (by simp)))).1

/-- `Track.copy()`: every bar, sequence, view and message of the copy is new and not reachable from the source track; the source
    may be written (stale relative views of its bars' sequences are regenerated) but only in cells reachable from it. (A2) -/
theorem derive_fresh_trkCopy (o : Orc) (tag : Nat) (h : Heap) (t : Nat) (hall : AllocAll h [(.trk, t)]) :
    FreshCells h (trkCopy o tag h t).1 (reach (trkCopy o tag h t).1 (.trk, (trkCopy o tag h t).2))
      ∧ Disjoint (reach (trkCopy o tag h t).1 (.trk, (trkCopy o tag h t).2)) (reach (trkCopy o tag h t).1 (.trk, t))
      ∧ ∀ c, h.alloc c → c ∉ reach h (.trk, t) → (trkCopy o tag h t).1.get c = h.get c :=
  copy_of_dsep (trkCopy_dsep o tag t (dsep_start hall) (by simp))
    (trkCopy_spec (good_reachR h _ hall) tag t (in_reachR hall (by simp))).1

/-- `Composition.copy()`. (A2) -/
theorem derive_fresh_cmpCopy (o : Orc) (tag : Nat) (h : Heap) (c : Nat) (hall : AllocAll h [(.cmp, c)]) :
    FreshCells h (cmpCopy o tag h c).1 (reach (cmpCopy o tag h c).1 (.cmp, (cmpCopy o tag h c).2))
      ∧ Disjoint (reach (cmpCopy o tag h c).1 (.cmp, (cmpCopy o tag h c).2)) (reach (cmpCopy o tag h c).1 (.cmp, c))
      ∧ ∀ c', h.alloc c' → c' ∉ reach h (.cmp, c) → (cmpCopy o tag h c).1.get c' = h.get c' :=
  copy_of_dsep (cmpCopy_dsep o tag c (dsep_start hall) (by simp))
    (cmpCopy_spec (good_reachR h _ hall) tag c (in_reachR hall (by simp))).1

/-- **frame**, for every public operation of `HOp`: a cell that was allocated and is not reachable from
    the receiver or an object-valued argument keeps its content; and whatever the receiver, the
    arguments and the results reach afterwards was reachable from the receiver or the arguments before,
    or was allocated by the call.  (For the sharers `concatenate`, `merge`, `Bar.to_sequence` the
    arguments count: that is the documented sharing.) (A2) -/
theorem op_frame (o : Orc) (op : HOp) (h : Heap) (env : List Cell) (hall : AllocAll h (opRoots env op)) :
    (∀ c, h.alloc c → c ∉ reachAll h (opRoots env op) → (step o op (h, env)).1.get c = h.get c)
      ∧ (∀ r ∈ (step o op (h, env)).2, r ∈ env ∨
          ∀ c ∈ reach (step o op (h, env)).1 r, c ∈ reachAll h (opRoots env op) ∨ ¬ h.alloc c)
      ∧ (∀ r ∈ opRoots env op,
          ∀ c ∈ reach (step o op (h, env)).1 r, c ∈ reachAll h (opRoots env op) ∨ ¬ h.alloc c) := by
  have hg := good_reachR h _ hall
  obtain ⟨s1, e1⟩ := step_spec (o := o) (env := env) hg op (fun c hc => in_reachR hall hc)
  refine ⟨?_, ?_, ?_⟩
  · intro c hc hn
    apply s1.pres.same c
    rintro (hx | hx)
    · exact hn hx
    · exact hx hc
  · intro r hr
    rcases e1 r hr with hr | hr
    · exact Or.inl hr
    · right
      intro c hc
      exact (reach_in s1.good hr c hc).1
  · intro r hr c hc
    exact (reach_in s1.good ((in_reachR hall hr).mono s1.pres) c hc).1

/-- **independence**: let `x` be any object (sequence, bar, track, composition) and `W` the objects a
    caller holds, such that nothing reachable from `W` is reachable from `x`.  After ANY history of
    public operations run from `W` (every operation applied to objects of `W` or to results of
    earlier operations of the history): every cell reachable from `x` has the content it had, `x`
    reaches the same cells, every `Sequence` inside `x` shows the same message values through both of
    its views and the same two flags, and the two sides are still disjoint.  By symmetry of the
    statement the same holds with the roles exchanged. (A2) -/
theorem independent (o : Orc) (h : Heap) (W : List Cell) (x : Cell) (ops : List HOp)
    (hW : AllocAll h W) (hx : AllocAll h [x]) (hdis : Disjoint (reach h x) (reachAll h W)) :
    Unchanged h (run o ops (h, W)).1 (reach h x)
      ∧ reach (run o ops (h, W)).1 x = reach h x
      ∧ (∀ s, (Kind.seq, s) ∈ reach h x → snap (run o ops (h, W)).1 s = snap h s)
      ∧ Disjoint (reach (run o ops (h, W)).1 x) (reachAll (run o ops (h, W)).1 (run o ops (h, W)).2)
      ∧ AllocAll (run o ops (h, W)).1 (run o ops (h, W)).2
      ∧ AllocAll (run o ops (h, W)).1 [x] := by
  obtain ⟨s1, e1⟩ := run_spec (o := o) (good_reachR h W hW) (fun c hc => in_reachR hW hc) ops
  obtain ⟨⟨hW', hx', hdis'⟩, hun, hreach, _⟩ :=
    sep_step ⟨hW, hx, fun c hw hc => hdis c (reachAll_single h x ▸ hc) hw⟩ s1 e1
  simp only [reachAll_single] at hun hreach hdis'
  exact ⟨hun, hreach, fun s hs => snap_congr s fun c hc => hun c (reach_trans hs c hc),
    fun c hc hw => hdis' c hw hc, hW', hx'⟩

/-- `AllocAll` is an invariant of histories: what the caller holds after any history has no dangling
    identity if what it held before had none (in particular every state built from the empty heap) -/
theorem run_allocAll (o : Orc) (ops : List HOp) (h : Heap) (env : List Cell) (hall : AllocAll h env) :
    AllocAll (run o ops (h, env)).1 (run o ops (h, env)).2 := by
  obtain ⟨s1, e1⟩ := run_spec (o := o) (good_reachR h env hall) (fun c hc => in_reachR hall hc) ops
  exact fun c hc => (reachAll_in s1.good e1 c hc).2

example (o : Orc) (ops : List HOp) : AllocAll (run o ops (Heap.empty, [])).1 (run o ops (Heap.empty, [])).2 :=
  run_allocAll o ops Heap.empty [] (by intro c hc; simp [reachAll] at hc)

/-- an operation of side `false` (holding `st.2.1`) or of side `true` (holding `st.2.2`) -/
def step2 (o : Orc) (sop : Bool × HOp) (st : Heap × List Cell × List Cell) : Heap × List Cell × List Cell :=
  if sop.1 then ((step o sop.2 (st.1, st.2.2)).1, st.2.1, (step o sop.2 (st.1, st.2.2)).2)
  else ((step o sop.2 (st.1, st.2.1)).1, (step o sop.2 (st.1, st.2.1)).2, st.2.2)

def run2 (o : Orc) : List (Bool × HOp) → Heap × List Cell × List Cell → Heap × List Cell × List Cell
  | [], st => st
  | sop :: ops, st => run2 o ops (step2 o sop st)

def otherSide (sop : Bool × HOp) (st : Heap × List Cell × List Cell) : List Cell :=
  if sop.1 then st.2.1 else st.2.2

theorem step2_sep (o : Orc) (sop : Bool × HOp) (st : Heap × List Cell × List Cell) (hsep : Sep st.1 st.2.1 st.2.2) :
    Sep (step2 o sop st).1 (step2 o sop st).2.1 (step2 o sop st).2.2
      ∧ Unchanged st.1 (step2 o sop st).1 (reachAll st.1 (otherSide sop st)) := by
  obtain ⟨b, op⟩ := sop
  cases b with
  | false =>
    obtain ⟨h1, h2⟩ := step_sep o op st.1 st.2.1 st.2.2 hsep
    exact ⟨by simpa [step2] using h1, by simpa [step2, otherSide] using h2⟩
  | true =>
    obtain ⟨h1, h2⟩ := step_sep o op st.1 st.2.2 st.2.1 hsep.symm
    exact ⟨by simpa [step2] using h1.symm, by simpa [step2, otherSide] using h2⟩

/-- **independence under interleaved histories on either side**: two callers hold objects `A` and `B`
    that share no cell (for instance an original and its copy, `derive_sep`).  In ANY interleaving of
    public operations of the two callers, every single operation leaves every cell reachable from the
    other caller's objects unchanged, and the two sides never come to share a cell. (A2) -/
theorem interleaved_independent (o : Orc) (ops : List (Bool × HOp)) (st : Heap × List Cell × List Cell)
    (hsep : Sep st.1 st.2.1 st.2.2) :
    Sep (run2 o ops st).1 (run2 o ops st).2.1 (run2 o ops st).2.2
      ∧ ∀ pre sop post, ops = pre ++ sop :: post →
          Unchanged (run2 o pre st).1 (step2 o sop (run2 o pre st)).1
            (reachAll (run2 o pre st).1 (otherSide sop (run2 o pre st))) := by
  induction ops generalizing st with
  | nil => exact ⟨hsep, by intro pre sop post h; simp at h⟩
  | cons sop0 ops ih =>
    obtain ⟨h1, h2⟩ := step2_sep o sop0 st hsep
    obtain ⟨i1, i2⟩ := ih (step2 o sop0 st) h1
    refine ⟨i1, ?_⟩
    intro pre sop post he
    cases pre with
    | nil =>
      simp only [List.nil_append, List.cons.injEq] at he
      obtain ⟨rfl, _⟩ := he
      exact h2
    | cons p pre =>
      simp only [List.cons_append, List.cons.injEq] at he
      obtain ⟨rfl, he⟩ := he
      exact i2 pre sop post he

/-- the objects the operation returned (appended to the caller's environment) -/
def newRoots (o : Orc) (op : HOp) (h : Heap) (env : List Cell) : List Cell :=
  (step o op (h, env)).2.drop env.length

/-- after a derivation route: what the caller held before and what the route returned are both
    without dangling identities and share no cell -/
theorem derive_sep (o : Orc) (op : HOp) (h : Heap) (env : List Cell) (hd : isDerive op = true)
    (hall : AllocAll h env) :
    (step o op (h, env)).2 = env ++ newRoots o op h env
      ∧ AllocAll (step o op (h, env)).1 env
      ∧ AllocAll (step o op (h, env)).1 (newRoots o op h env)
      ∧ Disjoint (reachAll (step o op (h, env)).1 (newRoots o op h env)) (reachAll (step o op (h, env)).1 env) := by
  obtain ⟨more, hmore, hd'⟩ := step_dsep o op h env hd hall
  obtain ⟨h1, h2, h3, _⟩ := derive_of_dsep hd'
  have hnr : newRoots o op h env = more := by simp [newRoots, hmore]
  rw [hnr]
  exact ⟨hmore, h1, h2, h3⟩

/-- **copies and derived objects are independent values**: take any objects `env` without dangling
    identities, apply ANY derivation route (copy of a message / sequence / bar / track / composition,
    `split`, `sequences_split_bars` with either re-quantisation setting, `Composition.from_sequences`)
    and call `D` what it returned.  Then
    (1) every history of public operations run on `D` leaves every cell reachable from every original
        unchanged — both views' message values and both flags of every sequence of the original;
    (2) every history run on the originals leaves every cell reachable from every derived object unchanged.
    Histories are lists over the concrete operation type `HOp`; the only restriction is the one the
    property makes: an operation takes its arguments from its own side. (A2) -/
theorem derived_independent (o : Orc) (dop : HOp) (h : Heap) (env : List Cell) (hd : isDerive dop = true)
    (hall : AllocAll h env) (ops : List HOp) :
    let h1 := (step o dop (h, env)).1
    let D := newRoots o dop h env
    (∀ x ∈ env,
        Unchanged h1 (run o ops (h1, D)).1 (reach h1 x)
          ∧ reach (run o ops (h1, D)).1 x = reach h1 x
          ∧ ∀ s, (Kind.seq, s) ∈ reach h1 x → snap (run o ops (h1, D)).1 s = snap h1 s)
    ∧ (∀ d ∈ D,
        Unchanged h1 (run o ops (h1, env)).1 (reach h1 d)
          ∧ reach (run o ops (h1, env)).1 d = reach h1 d
          ∧ ∀ s, (Kind.seq, s) ∈ reach h1 d → snap (run o ops (h1, env)).1 s = snap h1 s) := by
  intro h1 D
  obtain ⟨_, he, hD, hdis⟩ := derive_sep o dop h env hd hall
  -- the statement is symmetric in the two sides: histories on `B` leave every object of `A` alone
  have side (A B : List Cell) (hA : AllocAll h1 A) (hB : AllocAll h1 B) (hAB : ∀ c ∈ reachAll h1 A, c ∉ reachAll h1 B) (x : Cell)
      (hx : x ∈ A) := independent o h1 B x ops hB (fun c hc => hA c (reachAll_sub (List.forall_mem_singleton.2 hx) c hc))
    fun c hc => hAB c (mem_reachAll.2 ⟨x, hx, hc⟩)
  exact ⟨fun x hx => let ⟨a, b, c, _⟩ := side env D he hD (fun c hc hd => hdis c hd hc) x hx; ⟨a, b, c⟩,
    fun d hd' => let ⟨a, b, c, _⟩ := side D env hD he hdis d hd'; ⟨a, b, c⟩⟩

/-- the flag protocol of the wrapper: a view that is not stale exists.  `Sequence.__init__`
    (sequence.py:35-59, `seqInit`) establishes it and every operation of the model that clears a flag sets
    the pointer in the same write; it is a hypothesis here (decidable, about the input sequence only), not
    a proved invariant.  At an excluded point (`_abs_stale = False`, `_abs = None`) the real `copy()`
    raises `AttributeError`; no public call builds such an object. -/
def SeqOk (h : Heap) (s : Nat) : Prop :=
  ((h.seq s).absStale = false → (h.seq s).abs.isSome = true) ∧ ((h.seq s).relStale = false → (h.seq s).rel.isSome = true)

instance (h : Heap) (s : Nat) : Decidable (SeqOk h s) := by unfold SeqOk; infer_instance

/-- what `Sequence.copy()` is on values (this is `Seq.copy` of `Model/Wrapper.lean`, see `toSeq_copy`):
    the non-stale views with the same message values, a stale view is empty and stays stale
    (both stale: a new empty sequence) -/
def snapCopy (p : Snap) : Snap :=
  { abs := if p.absStale then [] else p.abs, rel := if p.relStale then [] else p.rel,
    absStale := p.absStale && !p.relStale, relStale := p.relStale }

/-- **a copy equals its original**: what can be read from the copy — the message values of both view
    objects and both flags — is exactly what `Sequence.copy()` promises of the original's values:
    every non-stale view with equal message values, in the same order.
    Hypotheses: the original has no dangling identity and obeys the flag protocol. (A2) -/
theorem copy_equal (h : Heap) (s : Nat) (hall : AllocAll h [(.seq, s)]) (hok : SeqOk h s) :
    snap (seqCopy h s).1 (seqCopy h s).2 = snapCopy (snap h s) := by
  have hg := good_reachR h [(.seq, s)] hall
  have hs : In (ReachR h [(.seq, s)]) h (.seq, s) := in_reachR hall (by simp)
  -- the original's relative view is allocated, with allocated messages
  have hvr : ∀ l, (h.seq s).rel = some l → h.alloc (.lst, l) ∧ ∀ i ∈ h.lst l, h.alloc (.msg, i) :=
    fun l hl => ⟨(seq_rel_in hg hs hl).2, fun i hi => (lst_in hg (seq_rel_in hg hs hl) i hi).2⟩
  -- first copy `A`; the original's relative view is not disturbed by it
  obtain ⟨sa, ia⟩ := copyOpt_spec (good_fresh h) (h.seq s).absStale (h.seq s).abs
  obtain ⟨va, fa⟩ := copyOpt_vals h (h.seq s).absStale (h.seq s).abs hok.1
  have horig := optVals_same sa.same_alloc (h.seq s).rel hvr
  unfold seqCopy
  dsimp only
  generalize copyOpt h (h.seq s).absStale (h.seq s).abs = A at *
  -- second copy `B`, made in the heap after the first, which it does not disturb
  obtain ⟨sr, _⟩ := copyOpt_spec (good_fresh A.1) (h.seq s).relStale (h.seq s).rel
  obtain ⟨vr, fr⟩ := copyOpt_vals A.1 (h.seq s).relStale (h.seq s).rel hok.2
  have hkeep := optVals_same sr.same_alloc A.2 (fun l hl => ⟨(ia l hl).2, fun i hi => (lst_in sa.good (ia l hl) i hi).2⟩)
  generalize copyOpt A.1 (h.seq s).relStale (h.seq s).rel = B at *
  rw [seqInit_snap, hkeep, va, vr, horig]
  have fa' : A.2.isNone = (h.seq s).absStale := by
    cases hx : A.2 <;> simp [hx] at fa ⊢ <;> simp [fa]
  have fr' : B.2.isNone = (h.seq s).relStale := by
    cases hx : B.2 <;> simp [hx] at fr ⊢ <;> simp [fr]
  rw [fa', fr, fr']
  rfl

/-- **a copied bar**: same signature and key as the original, and its sequence is what the `Bar`
    constructor makes of a `Sequence.copy()` of the original's sequence, taken after the original's relative view has been
    read (`self.sequence.rel`, bar.py:59: regenerated if stale) (a value equal to it by `copy_equal`).  That the constructor leaves an already-constructed bar's content as it is
    (normalise / pad / re-insert the time signature are idempotent) is a statement about VALUES and not
    part of this identity model. (A2) -/
theorem copy_equal_bar (o : Orc) (tag : Nat) (h : Heap) (b : Nat) :
    ((barCopy o tag h b).1.bar (barCopy o tag h b).2).num = (h.bar b).num
      ∧ ((barCopy o tag h b).1.bar (barCopy o tag h b).2).den = (h.bar b).den
      ∧ ((barCopy o tag h b).1.bar (barCopy o tag h b).2).key = (h.bar b).key
      ∧ ((barCopy o tag h b).1.bar (barCopy o tag h b).2).seq = (seqCopy (readRel o h (h.bar b).seq) (h.bar b).seq).2
      ∧ barCopy o tag h b
          = barInit o tag (seqCopy (readRel o h (h.bar b).seq) (h.bar b).seq).1 (seqCopy (readRel o h (h.bar b).seq) (h.bar b).seq).2
              (h.bar b).num (h.bar b).den (h.bar b).key := by
  refine ⟨?_, ?_, ?_, ?_, rfl⟩ <;> (simp only [barCopy]; rw [HeapTieL.barInit_bar])

/-- **a copied track**: same name, as many bars, each of them a `Bar.copy()` of the corresponding
    original bar (so `copy_equal_bar` applies bar by bar).  `hsrc`: the source track has no dangling identity. (A2) -/
theorem copy_equal_trk (o : Orc) (tag : Nat) (h : Heap) (t : Nat) (hsrc : AllocAll h [(.trk, t)]) :
    ((trkCopy o tag h t).1.trk (trkCopy o tag h t).2).name = (h.trk t).name
      ∧ ((trkCopy o tag h t).1.trk (trkCopy o tag h t).2).bars = (barCopies o tag h (h.trk t).bars).2
      ∧ ((trkCopy o tag h t).1.trk (trkCopy o tag h t).2).bars.length = (h.trk t).bars.length := by
  obtain ⟨hbars, hname⟩ := HeapTieL.trkInit_trk o (mix tag 4) (barCopies o tag h (h.trk t).bars).1
    (barCopies o tag h (h.trk t).bars).2 (h.trk t).name
  simp only [trkCopy]
  refine ⟨hname, hbars, ?_⟩
  rw [hbars, barCopies_length]

/-- **a copied composition**: as many tracks, each a `Track.copy()` of the corresponding original track. (A2) -/
theorem copy_equal_cmp (o : Orc) (tag : Nat) (h : Heap) (c : Nat) :
    (cmpCopy o tag h c).1.cmp (cmpCopy o tag h c).2 = (trkCopies o tag h (h.cmp c)).2
      ∧ ((cmpCopy o tag h c).1.cmp (cmpCopy o tag h c).2).length = (h.cmp c).length := by
  have h1 : (cmpCopy o tag h c).1.cmp (cmpCopy o tag h c).2 = (trkCopies o tag h (h.cmp c)).2 := by
    simp [cmpCopy, Heap.newCmp]
  exact ⟨h1, by rw [h1, trkCopies_length]⟩

/-- what `derived_independent` says of `split`, as a statement about an arbitrary implementation
    `stepF` of the operations: no history on the pieces changes a cell reachable from the source -/
def SplitIndependent (stepF : Orc → HOp → Heap × List Cell → Heap × List Cell) : Prop :=
  ∀ (o : Orc) (h : Heap) (s tag : Nat) (ops : List HOp), AllocAll h [(.seq, s)] →
    Unchanged (stepF o (.split 0 tag) (h, [(.seq, s)])).1
      (run o ops ((stepF o (.split 0 tag) (h, [(.seq, s)])).1, (stepF o (.split 0 tag) (h, [(.seq, s)])).2.drop 1)).1
      (reach (stepF o (.split 0 tag) (h, [(.seq, s)])).1 (.seq, s))

/-- the repaired `split` (current source) has the property -/
theorem split_independent : SplitIndependent step := by
  intro o h s tag ops hall
  have := (derived_independent o (.split 0 tag) h [(.seq, s)] rfl hall ops).1 (.seq, s) (by simp)
  exact this.1

/-- an oracle for small examples: conversions keep the non-WAIT / all messages, rebuilders keep
    everything, `split` returns one piece holding all messages of the source -/
def exOrc : Orc where
  toAbs := fun ms => ms.filter (fun m => !m.isWait)
  toRel := fun ms => ms
  edit := fun _ ms => ms
  plan := fun _ ms => (List.range ms.length).map Item.keep
  perm := fun _ ms => List.range ms.length
  splitPlan := fun _ ms => [(List.range ms.length).map Item.keep]
  padMsg := fun _ _ => none
  barPadMsg := fun _ _ => none
  barSig := fun _ _ => (4, 4, pyNone)
  program := fun _ _ => pyNone
  tsMsg := fun n d => { ty := .timeSignature, num := n, den := d }

/-- a sequence built from its relative view: NOTE_ON 60, WAIT 24, NOTE_OFF 60 -/
def exHeap : Heap :=
  let a := newMsgs Heap.empty [Msg.mkOn 0 60 64 pyNone, Msg.mkWait 0 24, Msg.mkOff 0 60 pyNone]
  let l := a.1.newLst a.2
  (seqInit l.1 none (some l.2)).1

/-- **negative control (D13)**: with the unrepaired `split` (`Sequence(relative_sequence=seq)` without
    the copy) independence FAILS: `piece.set_channel(5)` rewrites the channel of the source's own
    NOTE_ON message.  So `derived_independent` is a theorem about the copy in `split`, not a
    consequence of the definitions of `reach` and `run`. -/
theorem unrepaired_split_not_independent : ¬ SplitIndependent stepU := by
  intro hst
  have h1 := hst exOrc exHeap 0 0 [.setChannel 0 5] (by decide)
  have h2 := h1 (.msg, 0) (by decide)
  revert h2
  decide +kernel

/-- the same input with the repaired `split`: the source's message keeps channel 0, the piece's copy gets 5 -/
example :
    let st := step exOrc (.split 0 0) (exHeap, [(.seq, 0)])
    let r := run exOrc [.setChannel 0 5] (st.1, st.2.drop 1)
    (r.1.msg 0).ch = 0 ∧ (r.1.msg 3).ch = 5 ∧ reach r.1 (.seq, 1) = [(.seq, 1), (.lst, 2), (.msg, 3), (.msg, 4), (.msg, 5)] := by
  decide +kernel

/-- `exHeap` after `Sequence.copy()`, `sequences_split_bars([s], 0, True)` and `Bar.copy()` of the bar:
    environment `[seq 0 (original), seq 1 (copy), bar 0, bar 1 (copy of bar 0)]` -/
def exState : Heap × List Cell :=
  run exOrc [.seqCopy 0, .splitBars [0] 0 true 7 3, .barCopy 2 11] (exHeap, [(.seq, 0)])

example : exState.2 = [(.seq, 0), (.seq, 1), (.bar, 0), (.bar, 1)] := by decide +kernel

/-- `derive_fresh_seqCopy` evaluated: the copy reaches three new messages through one new view -/
example : reach (seqCopy exHeap 0).1 (.seq, (seqCopy exHeap 0).2) = [(.seq, 1), (.lst, 1), (.msg, 3), (.msg, 4), (.msg, 5)]
    ∧ reach exHeap (.seq, 0) = [(.seq, 0), (.lst, 0), (.msg, 0), (.msg, 1), (.msg, 2)] := by decide +kernel

/-- `derive_fresh_split`: its hypothesis holds of `exHeap`; a two-piece split of the three messages -/
example : AllocAll exHeap [(.seq, 0)] := by decide +kernel
example :
    let o : Orc := { exOrc with splitPlan := fun _ _ => [[.keep 0, .keep 1, .fresh (Msg.mkOff 0 60 pyNone)], [.keep 2]] }
    (split o 0 exHeap 0).2 = [1, 2]
      ∧ reach (split o 0 exHeap 0).1 (.seq, 1) = [(.seq, 1), (.lst, 3), (.msg, 4), (.msg, 5), (.msg, 6)]
      ∧ reach (split o 0 exHeap 0).1 (.seq, 2) = [(.seq, 2), (.lst, 4), (.msg, 7)] := by decide +kernel

/-- `op_frame`: hypothesis for `transpose` (with the shift branch: normalise + quantise_note_lengths) on
    the copy in `exState`, and for the sharer `concatenate` of the copy onto the original -/
example : AllocAll exState.1 (opRoots exState.2 (.transpose 1 5 true)) := by decide +kernel
example : AllocAll exState.1 (opRoots exState.2 (.concatenate 0 [1])) ∧
    opRoots exState.2 (.concatenate 0 [1]) = [(.seq, 0), (.seq, 1)] := by decide +kernel

/-- `independent`: the copy (W) against the original (x), and the copied bar against the first bar -/
example : AllocAll exState.1 [(.seq, 1)] ∧ AllocAll exState.1 [(.seq, 0)]
    ∧ Disjoint (reach exState.1 (.seq, 0)) (reachAll exState.1 [(.seq, 1)]) := by decide +kernel
example : AllocAll exState.1 [(.bar, 1)] ∧ AllocAll exState.1 [(.bar, 0)]
    ∧ Disjoint (reach exState.1 (.bar, 0)) (reachAll exState.1 [(.bar, 1)]) := by decide +kernel

/-- … and its conclusion evaluated on a history that transposes, re-channels, quantises and pads the
    copy, then concatenates the copy onto itself: the original's snapshot is what it was -/
example :
    snap (run exOrc [.transpose 0 1 true, .setChannel 0 5, .quantise 0 2, .pad 0 3, .concatenate 0 [0]]
      (exState.1, [(.seq, 1)])).1 0 = snap exState.1 0 := by decide +kernel

/-- the sharer is what the disjointness hypothesis excludes: after `original.concatenate([copy])` the
    two sides share the copy's messages, and a later `copy.set_channel(5)` shows through the original -/
example :
    let st := run exOrc [.concatenate 0 [1]] (exState.1, [(.seq, 0), (.seq, 1)])
    ¬ Disjoint (reach st.1 (.seq, 0)) (reachAll st.1 [(.seq, 1)])
      ∧ snap (run exOrc [.setChannel 1 5] st).1 0 ≠ snap st.1 0 := by decide +kernel

/-- `derived_independent`, `derive_sep`: hypotheses for bar splitting without re-quantisation from `exState` -/
example : isDerive (.splitBars [0, 1] 0 false 2 3) = true ∧ AllocAll exState.1 exState.2 := by decide +kernel

/-- `interleaved_independent`: original and copy are separated -/
example : Sep exState.1 [(.seq, 0), (.bar, 0)] [(.seq, 1), (.bar, 1)] := by
  refine ⟨?_, ?_, ?_⟩ <;> decide

/-- `copy_equal`: hypotheses and conclusion on `exHeap` (only the relative view is fresh) -/
example : AllocAll exHeap [(.seq, 0)] ∧ SeqOk exHeap 0 := by decide +kernel
example : snap (seqCopy exHeap 0).1 (seqCopy exHeap 0).2
    = { abs := [], rel := [Msg.mkOn 0 60 64 pyNone, Msg.mkWait 0 24, Msg.mkOff 0 60 pyNone],
        absStale := true, relStale := false } := by decide +kernel

end SCoda.C16c
