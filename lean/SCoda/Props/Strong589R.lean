/-
  Strengthened statements for C09, re-quantisation ON (audit item A6(c)).

  `C09.sound_subset` proves only "the bars sound at most where the track sounds" — a re-quantiser that deleted every
  note would pass, and "only boundary-cut fragments may shrink" is not covered.  What the code does
  (sequence.py:530-533 → absolute_sequence.py:300-378 with `do_not_extend=True`) is: every bar piece goes through the
  shorten-only note-length quantisation, so a note of the piece may be shortened or dropped when its duration is not an
  allowed value — whether or not it was cut at a bar line.  What is true, and proved here for every track without
  zero-length notes:

  * `requant_run_key` / `requant_bars_key` — key by key and in time order, the notes of the bars laid end to end are
    obtained from the *fragments* (the track's notes cut at the bar lines; `cutNotes`, an independent specification) by
    dropping only fragments whose duration is not an allowed value and keeping every other fragment in place with the
    same channel, pitch, velocity and onset, an end that is not later, an allowed duration — and unchanged when its
    duration already was an allowed value (`Requantised`);
  * `requant_onsets_kept`, `requant_allowed_unchanged`, `requant_no_duplicates`, `requant_all_allowed` — the
    consequences in the words of the property (the second one rules out "a re-quantiser deleting every note");
  * FINDING (D18c): with re-quantisation on, a zero-length note *anywhere* (not only on a bar line, D18b) breaks the "subset"
    clause: `sound_subset_boundary_statement_false`.  Replayed on the real implementation, which behaves like the model.
-/
import SCoda.Lemmas.BarLines
import SCoda.Props.C09
import SCoda.Gen.Settings
namespace SCoda.Strong589
open SCoda SCoda.SplitL SCoda.SB SCoda.Strong589L SCoda.Strong589LT SCoda.Strong589LR

/-- **no zero-length note**: no note read off the track by the independent `notesOf` semantics has `on = off`.
    Input-level and decidable.  (For re-quantisation on this cannot be narrowed to "… on a bar line": see
    `sound_subset_boundary_statement_false`.) -/
def NoZeroLen (t : List Msg) : Prop := ∀ n ∈ notesOf (eventsRel t), n.on ≠ n.off

instance (t : List Msg) : Decidable (NoZeroLen t) := by unfold NoZeroLen; infer_instance

/-- the bar lines of a list of bars laid end to end from tick 0: the tick at which each bar ends -/
def rqBarLines (ppqn : Int) (bars : List Bar) : List Int :=
  cums 0 (bars.map (fun b => barCapacity ppqn b.num b.den))

/-- the **fragments** of a track: its notes, cut at the given ticks one after the other (a note sounding across a
    tick `b` becomes `[on, b)` and `[b, off)`, same channel, pitch and velocity; see `Strong589L.cutNotes`) -/
def rqFragments (lines : List Int) (t : List Msg) : List Note := Strong589L.cutNotes lines (notesOf (eventsRel t))

/-- how a note `n'` of the bars relates to the fragment `n` it comes from: same channel, pitch, velocity and onset,
    it does not end later, its duration is an allowed value, and it is `n` itself when `n`'s duration is allowed -/
abbrev Requantised (values : List Int) (n n' : Note) : Prop := Strong589LR.QRel values n n'

/-- the notes of one key before (`N`) and after (`N'`), in time order: a note is dropped only when its duration is
    not an allowed value; every other note is kept in place, related by `Requantised` -/
abbrev RequantisedList (values : List Int) (N N' : List Note) : Prop := Strong589LR.NotesV values N N'

theorem requantised_iff (values : List Int) (n n' : Note) : Requantised values n n' ↔
    (n'.ch = n.ch ∧ n'.pitch = n.pitch ∧ n'.vel = n.vel ∧ n'.on = n.on ∧ n'.off ≤ n.off ∧
      (n'.off - n'.on) ∈ values ∧ ((n.off - n.on) ∈ values → n' = n)) := Iff.rfl

theorem trackRun_lines (ppqn : Int) (values : List Int) (requant : Bool) (gs : List Sg) (t : List Msg) (tw : List Bool)
    (t' : List Msg) (nb : List Bar) (h : trackRun ppqn values requant gs t = .ok (tw, t', nb)) :
    cums 0 (gs.map (sgLen ppqn)) = rqBarLines ppqn nb := by
  have hs := trackRun_sigs ppqn values requant gs t tw t' nb h
  unfold rqBarLines
  rw [← hs, List.map_map]
  rfl

/-- **re-quantisation on, key by key** (per-track run): for every (channel, pitch), the notes of the bars laid end to
    end are — in time order — the fragments of the track (its notes cut at the bar lines), where a fragment is
    dropped only if its duration is not an allowed value and every other fragment is kept in place with the same
    channel, pitch, velocity and onset, a not-later end and an allowed duration, unchanged if its duration was
    already allowed.  Closes audit item A6(c). -/
theorem requant_run_key (ppqn : Int) (values : List Int) (gs : List Sg) (t : List Msg) (tw : List Bool)
    (nb : List Bar) (h : trackRun ppqn values true gs t = .ok (tw, [], nb))
    (hpos : ∀ g ∈ gs, 0 < sgLen ppqn g) (hv : ∀ v ∈ values, 0 < v) (hw : NonNegWaits t) (hwf : WF t)
    (hz : NoZeroLen t) (k : Int × Int) :
    RequantisedList values ((rqFragments (rqBarLines ppqn nb) t).filter (keyIs k))
      ((notesOf (eventsRel (barsToSeq nb))).filter (keyIs k)) := by
  unfold rqFragments
  rw [cutNotes_filter, notesOf_key, notesOf_key, ← trackRun_lines ppqn values true gs t tw [] nb h]
  exact (trackRun_notesV ppqn values hv gs t tw nb 0 h hpos hw hwf (noZero_of_notes t hw hz) k).2.2

/-- **onsets kept, nothing grows, only allowed durations** (per-track run, re-quantisation on): every note of the
    bars laid end to end comes from a fragment of the track (a note of the track cut at the bar lines) with the same
    channel, pitch, velocity and onset; it does not end later than the fragment and its duration is an allowed value.
    Closes audit item A6(c) ("`onsets_kept` lifted to bars"). -/
theorem requant_onsets_kept (ppqn : Int) (values : List Int) (gs : List Sg) (t : List Msg) (tw : List Bool)
    (nb : List Bar) (h : trackRun ppqn values true gs t = .ok (tw, [], nb))
    (hpos : ∀ g ∈ gs, 0 < sgLen ppqn g) (hv : ∀ v ∈ values, 0 < v) (hw : NonNegWaits t) (hwf : WF t)
    (hz : NoZeroLen t) :
    ∀ n' ∈ notesOf (eventsRel (barsToSeq nb)), ∃ n ∈ rqFragments (rqBarLines ppqn nb) t,
      n'.ch = n.ch ∧ n'.pitch = n.pitch ∧ n'.vel = n.vel ∧ n'.on = n.on ∧ n'.off ≤ n.off ∧
        (n'.off - n'.on) ∈ values := by
  intro n' hn'
  have hK := requant_run_key ppqn values gs t tw nb h hpos hv hw hwf hz (n'.ch, n'.pitch)
  have hn'k : n' ∈ (notesOf (eventsRel (barsToSeq nb))).filter (keyIs (n'.ch, n'.pitch)) :=
    List.mem_filter.2 ⟨hn', by simp [keyIs]⟩
  obtain ⟨n, hn, h1, h2, h3, h4, h5, h6, _⟩ := hK.mem_out n' hn'k
  exact ⟨n, (List.mem_filter.1 hn).1, h1, h2, h3, h4, h5, h6⟩

/-- **an allowed duration is left alone** (per-track run, re-quantisation on): a fragment of the track whose duration
    is an allowed value appears unchanged among the notes of the bars laid end to end — so a re-quantiser that
    deleted every note does not satisfy this.  Closes audit item A6(c). -/
theorem requant_allowed_unchanged (ppqn : Int) (values : List Int) (gs : List Sg) (t : List Msg) (tw : List Bool)
    (nb : List Bar) (h : trackRun ppqn values true gs t = .ok (tw, [], nb))
    (hpos : ∀ g ∈ gs, 0 < sgLen ppqn g) (hv : ∀ v ∈ values, 0 < v) (hw : NonNegWaits t) (hwf : WF t)
    (hz : NoZeroLen t) :
    ∀ n ∈ rqFragments (rqBarLines ppqn nb) t, (n.off - n.on) ∈ values → n ∈ notesOf (eventsRel (barsToSeq nb)) := by
  intro n hn hc
  have hK := requant_run_key ppqn values gs t tw nb h hpos hv hw hwf hz (n.ch, n.pitch)
  have hnk : n ∈ (rqFragments (rqBarLines ppqn nb) t).filter (keyIs (n.ch, n.pitch)) :=
    List.mem_filter.2 ⟨hn, by simp [keyIs]⟩
  exact (List.mem_filter.1 (hK.mem_allowed n hnk hc)).1

/-- **nothing is duplicated or reordered** (per-track run, re-quantisation on): for every (channel, pitch) the notes
    of the bars correspond one for one, in time order, to a sub-list `kept` of the fragments of that key, each related
    to its fragment by `Requantised`.  Closes audit item A6(c). -/
theorem requant_no_duplicates (ppqn : Int) (values : List Int) (gs : List Sg) (t : List Msg) (tw : List Bool)
    (nb : List Bar) (h : trackRun ppqn values true gs t = .ok (tw, [], nb))
    (hpos : ∀ g ∈ gs, 0 < sgLen ppqn g) (hv : ∀ v ∈ values, 0 < v) (hw : NonNegWaits t) (hwf : WF t)
    (hz : NoZeroLen t) (k : Int × Int) :
    ∃ kept : List Note, kept.Sublist ((rqFragments (rqBarLines ppqn nb) t).filter (keyIs k)) ∧
      kept.length = ((notesOf (eventsRel (barsToSeq nb))).filter (keyIs k)).length ∧
      ∀ p ∈ kept.zip ((notesOf (eventsRel (barsToSeq nb))).filter (keyIs k)), Requantised values p.1 p.2 :=
  (requant_run_key ppqn values gs t tw nb h hpos hv hw hwf hz k).sublist

/-- **all fragments allowed ⇒ the bars have exactly the fragments** (per-track run, re-quantisation on): when every
    fragment of the track has an allowed duration, the notes of the bars laid end to end are a permutation of the
    fragments — re-quantisation changes nothing.  Closes audit item A6(c). -/
theorem requant_all_allowed (ppqn : Int) (values : List Int) (gs : List Sg) (t : List Msg) (tw : List Bool)
    (nb : List Bar) (h : trackRun ppqn values true gs t = .ok (tw, [], nb))
    (hpos : ∀ g ∈ gs, 0 < sgLen ppqn g) (hv : ∀ v ∈ values, 0 < v) (hw : NonNegWaits t) (hwf : WF t)
    (hz : NoZeroLen t) (ha : ∀ n ∈ rqFragments (rqBarLines ppqn nb) t, (n.off - n.on) ∈ values) :
    (notesOf (eventsRel (barsToSeq nb))).Perm (rqFragments (rqBarLines ppqn nb) t) := by
  apply perm_of_keys
  intro k
  exact (requant_run_key ppqn values gs t tw nb h hpos hv hw hwf hz k).eq_of_allowed
    (fun n hn => ha n (List.mem_filter.1 hn).1)

/-- **re-quantisation on, key by key** (`sequences_split_bars(…, quantise_note_lengths=True)`): as
    `requant_run_key`, for track `i` of the input and its bars in the result.  Closes audit item A6(c). -/
theorem requant_bars_key (ppqn : Int) (values : List Int) (tracks : List (List Msg)) (metaIdx : Nat)
    (tb : List (List Bar)) (h : splitBars ppqn values tracks metaIdx true = .ok tb)
    (i : Nat) (t : List Msg) (bars : List Bar) (ht : tracks[i]? = some t) (hb : tb[i]? = some bars)
    (hw : NonNegWaits t) (hwf : WF t) (hz : NoZeroLen t) (hv : ∀ v ∈ values, 0 < v)
    (hpos : ∀ b ∈ bars, 0 < barCapacity ppqn b.num b.den) (k : Int × Int) :
    RequantisedList values ((rqFragments (rqBarLines ppqn bars) t).filter (keyIs k))
      ((notesOf (eventsRel (barsToSeq bars))).filter (keyIs k)) := by
  obtain ⟨gs, tw, hrun, hgpos⟩ := C09.bars_run ppqn values tracks metaIdx true tb h i t bars ht hb hpos
  exact requant_run_key ppqn values gs t tw bars hrun hgpos hv hw hwf hz k

/-- **onsets kept, nothing grows, only allowed durations** (`sequences_split_bars`, re-quantisation on): every note
    of a track's bars laid end to end comes from a fragment of the track with the same channel, pitch, velocity and
    onset, ends no later, and has an allowed duration.  Closes audit item A6(c). -/
theorem requant_bars_onsets_kept (ppqn : Int) (values : List Int) (tracks : List (List Msg)) (metaIdx : Nat)
    (tb : List (List Bar)) (h : splitBars ppqn values tracks metaIdx true = .ok tb)
    (i : Nat) (t : List Msg) (bars : List Bar) (ht : tracks[i]? = some t) (hb : tb[i]? = some bars)
    (hw : NonNegWaits t) (hwf : WF t) (hz : NoZeroLen t) (hv : ∀ v ∈ values, 0 < v)
    (hpos : ∀ b ∈ bars, 0 < barCapacity ppqn b.num b.den) :
    ∀ n' ∈ notesOf (eventsRel (barsToSeq bars)), ∃ n ∈ rqFragments (rqBarLines ppqn bars) t,
      n'.ch = n.ch ∧ n'.pitch = n.pitch ∧ n'.vel = n.vel ∧ n'.on = n.on ∧ n'.off ≤ n.off ∧
        (n'.off - n'.on) ∈ values := by
  obtain ⟨gs, tw, hrun, hgpos⟩ := C09.bars_run ppqn values tracks metaIdx true tb h i t bars ht hb hpos
  exact requant_onsets_kept ppqn values gs t tw bars hrun hgpos hv hw hwf hz

/-- **an allowed duration is left alone** (`sequences_split_bars`, re-quantisation on): a fragment of the track whose
    duration is an allowed value appears unchanged in the track's bars.  Closes audit item A6(c). -/
theorem requant_bars_allowed_unchanged (ppqn : Int) (values : List Int) (tracks : List (List Msg)) (metaIdx : Nat)
    (tb : List (List Bar)) (h : splitBars ppqn values tracks metaIdx true = .ok tb)
    (i : Nat) (t : List Msg) (bars : List Bar) (ht : tracks[i]? = some t) (hb : tb[i]? = some bars)
    (hw : NonNegWaits t) (hwf : WF t) (hz : NoZeroLen t) (hv : ∀ v ∈ values, 0 < v)
    (hpos : ∀ b ∈ bars, 0 < barCapacity ppqn b.num b.den) :
    ∀ n ∈ rqFragments (rqBarLines ppqn bars) t, (n.off - n.on) ∈ values →
      n ∈ notesOf (eventsRel (barsToSeq bars)) := by
  obtain ⟨gs, tw, hrun, hgpos⟩ := C09.bars_run ppqn values tracks metaIdx true tb h i t bars ht hb hpos
  exact requant_allowed_unchanged ppqn values gs t tw bars hrun hgpos hv hw hwf hz

/-! ## non-vacuity: a note crossing the bar line (96), a note of a non-allowed duration (10 → 9), a too-short note
    (3: dropped), a second channel, an allowed duration (12: unchanged) -/

def exRq : List Msg := [Msg.mkOn 0 60 64 pyNone, Msg.mkWait 0 10, Msg.mkOff 0 60 pyNone, Msg.mkOn 1 62 80 pyNone,
  Msg.mkWait 0 3, Msg.mkOff 1 62 pyNone, Msg.mkWait 0 77, Msg.mkOn 0 60 70 pyNone, Msg.mkWait 0 18,
  Msg.mkOff 0 60 pyNone, Msg.mkOn 1 62 90 pyNone, Msg.mkWait 0 12, Msg.mkOff 1 62 pyNone, Msg.mkWait 0 30]

def exRqBars : List (List Bar) := (splitBars 24 Gen.defaultNoteValues [exRq] 0 true).toOption.getD []

/-- the model evaluated on `exRq`, once; everything below that speaks of `exRqBars` rewrites with it -/
theorem exRq_eval : splitBars 24 Gen.defaultNoteValues [exRq] 0 true
    = .ok [[⟨[Msg.mkTimeSig 0 4 4 pyNone, Msg.mkOn 0 60 64 pyNone, Msg.mkWait 0 9, Msg.mkOff 0 60 pyNone, Msg.mkWait 0 81,
              Msg.mkOn 0 60 70 pyNone, Msg.mkWait 0 6, Msg.mkOff 0 60 pyNone], 4, 4, pyNone⟩,
            ⟨[Msg.mkTimeSig 0 4 4 pyNone, Msg.mkOn 0 60 70 pyNone, Msg.mkWait 0 12, Msg.mkOff 0 60 pyNone,
              Msg.mkOn 1 62 90 pyNone, Msg.mkWait 1 12, Msg.mkOff 1 62 pyNone, Msg.mkWait 0 30, Msg.mkWait 0 42],
             4, 4, pyNone⟩]] :=
  Strong589LB.ok_of_toOption (by decide +kernel)

theorem exRq_run : splitBars 24 Gen.defaultNoteValues [exRq] 0 true = .ok exRqBars := by
  unfold exRqBars; rw [exRq_eval]; rfl

theorem exRq_hyps : NonNegWaits exRq ∧ WF exRq ∧ NoZeroLen exRq ∧ (∀ v ∈ Gen.defaultNoteValues, 0 < v) ∧
    ∀ bars ∈ exRqBars, ∀ b ∈ bars, 0 < barCapacity 24 b.num b.den :=
  ⟨by unfold NonNegWaits; decide, wf_of_keys exRq (by decide), by decide, by decide,
    by unfold exRqBars; rw [exRq_eval]; decide⟩

/-- the fragments: [0,10) ch0, [10,13) ch1, [90,96) + [96,108) ch0 (cut at 96), [108,120) ch1 -/
example : rqFragments [96, 192] exRq
    = [⟨0, 60, 0, 10, 64⟩, ⟨1, 62, 10, 13, 80⟩, ⟨0, 60, 90, 96, 70⟩, ⟨0, 60, 96, 108, 70⟩, ⟨1, 62, 108, 120, 90⟩] := by
  decide +kernel

/-- the bars: [0,9) shortened (10 is not allowed), [10,13) dropped (3 < 4), [90,96), [96,108), [108,120) unchanged -/
example : exRqBars.map (fun bars => (rqBarLines 24 bars, notesOf (eventsRel (barsToSeq bars))))
    = [([96, 192], [⟨0, 60, 0, 9, 64⟩, ⟨0, 60, 90, 96, 70⟩, ⟨0, 60, 96, 108, 70⟩, ⟨1, 62, 108, 120, 90⟩])] := by
  unfold exRqBars; rw [exRq_eval]; decide +kernel

theorem exRq_bars0 : exRqBars[0]? = some (exRqBars[0]?.getD []) ∧
    ∀ b ∈ exRqBars[0]?.getD [], 0 < barCapacity 24 b.num b.den := by
  unfold exRqBars; rw [exRq_eval]; decide

/-- the example satisfies every hypothesis of the `splitBars`-level theorems … -/
example : ∀ n' ∈ notesOf (eventsRel (barsToSeq (exRqBars[0]?.getD []))),
    ∃ n ∈ rqFragments (rqBarLines 24 (exRqBars[0]?.getD [])) exRq,
      n'.ch = n.ch ∧ n'.pitch = n.pitch ∧ n'.vel = n.vel ∧ n'.on = n.on ∧ n'.off ≤ n.off ∧
        (n'.off - n'.on) ∈ Gen.defaultNoteValues :=
  requant_bars_onsets_kept 24 _ [exRq] 0 exRqBars exRq_run 0 exRq (exRqBars[0]?.getD []) rfl exRq_bars0.1
    exRq_hyps.1 exRq_hyps.2.1 exRq_hyps.2.2.1 exRq_hyps.2.2.2.1 exRq_bars0.2

/-- … and of the per-track-run theorems: the run behind its bars uses the track up, with positive bar lengths -/
example : ∃ gs tw, trackRun 24 Gen.defaultNoteValues true gs exRq = .ok (tw, [], exRqBars[0]?.getD []) ∧
    (∀ g ∈ gs, 0 < sgLen 24 g) ∧ (∀ v ∈ Gen.defaultNoteValues, 0 < v) ∧ NonNegWaits exRq ∧ WF exRq ∧ NoZeroLen exRq := by
  obtain ⟨gs, tw, h1, h2⟩ := C09.bars_run 24 _ [exRq] 0 true exRqBars exRq_run 0 exRq
    (exRqBars[0]?.getD []) rfl exRq_bars0.1 exRq_bars0.2
  exact ⟨gs, tw, h1, h2, exRq_hyps.2.2.2.1, exRq_hyps.1, exRq_hyps.2.1, exRq_hyps.2.2.1⟩

/-! ## FINDING: a zero-length note away from the bar lines breaks the "subset" clause when re-quantisation is on -/

/-- `C09.sound_subset` with `NoZeroNotes t` (no zero-length note anywhere) narrowed to the D18b class "no zero-length
    note on a bar line" — the hypothesis that is exact for re-quantisation *off*.  FALSE for re-quantisation on. -/
def sound_subset_boundary_statement : Prop :=
  ∀ (ppqn : Int) (values : List Int) (tracks : List (List Msg)) (metaIdx : Nat)
    (tb : List (List Bar)), splitBars ppqn values tracks metaIdx true = .ok tb →
    ∀ (i : Nat) (t : List Msg) (bars : List Bar), tracks[i]? = some t → tb[i]? = some bars →
    NonNegWaits t → WF t →
    (∀ n ∈ notesOf (eventsRel t), n.on = n.off → n.on ∉ rqBarLines ppqn bars) →
    (∀ v ∈ values, 0 < v) → (∀ b ∈ bars, 0 < barCapacity ppqn b.num b.den) →
    ∀ (k : Int × Int) (tick : Int),
      SoundingAt (eventsRel (barsToSeq bars)) k tick → SoundingAt (eventsRel t) k tick

/-- the witness: a zero-length note at tick 10 (mid-bar), then a real note [20,30) of the same key -/
def rqZero : List Msg := [Msg.mkWait 0 10, Msg.mkOn 0 60 64 pyNone, Msg.mkOff 0 60 pyNone, Msg.mkWait 0 10,
  Msg.mkOn 0 60 64 pyNone, Msg.mkWait 0 10, Msg.mkOff 0 60 pyNone, Msg.mkWait 0 100]

def rqZeroBars : List (List Bar) := (splitBars 24 Gen.defaultNoteValues [rqZero] 0 true).toOption.getD []

theorem rqZero_eval : splitBars 24 Gen.defaultNoteValues [rqZero] 0 true
    = .ok [[⟨[Msg.mkTimeSig 0 4 4 pyNone, Msg.mkWait 0 10, Msg.mkOn 0 60 64 pyNone, Msg.mkWait 0 9, Msg.mkOff 0 60 pyNone,
              Msg.mkWait 0 1, Msg.mkOn 0 60 64 pyNone, Msg.mkWait 0 9, Msg.mkOff 0 60 pyNone, Msg.mkWait 0 67],
             4, 4, pyNone⟩,
            ⟨[Msg.mkTimeSig 0 4 4 pyNone, Msg.mkWait 0 34, Msg.mkWait 0 62], 4, 4, pyNone⟩]] :=
  Strong589LB.ok_of_toOption (by decide +kernel)

/-- the model's bars for the witness (type, wait / pitch): bar 0 = `ts, wait 10, on 60, wait 9, off 60, wait 1,
    on 60, wait 9, off 60, wait 67`, bar 1 = `ts, wait 34, wait 62` — exactly the bars of the real implementation -/
example : rqZeroBars.map (fun bars => bars.map (fun b => (b.num, b.den, b.seq.map (fun m =>
      (m.ty, if m.ty = .wait then m.time else m.note)))))
    = [[(4, 4, [(.timeSignature, -1), (.wait, 10), (.noteOn, 60), (.wait, 9), (.noteOff, 60), (.wait, 1),
          (.noteOn, 60), (.wait, 9), (.noteOff, 60), (.wait, 67)]),
        (4, 4, [(.timeSignature, -1), (.wait, 34), (.wait, 62)])]] := by
  unfold rqZeroBars; rw [rqZero_eval]; decide

/-- the source has the notes [10,10) and [20,30); the bars have [10,19) and [20,29): they sound at ticks 10..18,
    where the source is silent -/
example : (notesOf (eventsRel rqZero)).map (fun n => (n.on, n.off)) = [(10, 10), (20, 30)]
    ∧ rqZeroBars.map (fun bars => (notesOf (eventsRel (barsToSeq bars))).map (fun n => (n.on, n.off)))
        = [[(10, 19), (20, 29)]] := by
  unfold rqZeroBars; rw [rqZero_eval]; decide +kernel

/-- **FINDING D18c (model and real code)**: with re-quantisation on, a zero-length note that is *not* on a bar line
    already breaks "the bars sound at most where the track sounds": the absolute view built for the note-length
    quantisation sorts the zero-length note's note-off before its note-on (D17's mechanism), the pairing then closes
    that note-on with the *next* note-off, and the bars sound at ticks 10..18 where the track is silent.  So for the
    re-quantisation-on clause of C09 the hypothesis "no zero-length note" cannot be narrowed to bar lines.
    Closes audit item A6(c) (the hypothesis question raised under A6). -/
theorem sound_subset_boundary_statement_false : ¬ sound_subset_boundary_statement := by
  intro h
  have := h 24 Gen.defaultNoteValues [rqZero] 0 _ rqZero_eval 0 rqZero _ rfl rfl
    (by unfold NonNegWaits; decide) (wf_of_keys rqZero (by decide)) (by decide) (by decide) (by decide)
    (0, 60) 12 (by unfold SoundingAt; decide)
  revert this
  unfold SoundingAt
  decide +kernel

/-- `requant_bars_onsets_kept` with `NoZeroLen t` narrowed to "no zero-length note on a bar line".  FALSE. -/
def requant_onsets_kept_boundary_statement : Prop :=
  ∀ (ppqn : Int) (values : List Int) (tracks : List (List Msg)) (metaIdx : Nat)
    (tb : List (List Bar)), splitBars ppqn values tracks metaIdx true = .ok tb →
    ∀ (i : Nat) (t : List Msg) (bars : List Bar), tracks[i]? = some t → tb[i]? = some bars →
    NonNegWaits t → WF t →
    (∀ n ∈ notesOf (eventsRel t), n.on = n.off → n.on ∉ rqBarLines ppqn bars) →
    (∀ v ∈ values, 0 < v) → (∀ b ∈ bars, 0 < barCapacity ppqn b.num b.den) →
    ∀ n' ∈ notesOf (eventsRel (barsToSeq bars)), ∃ n ∈ rqFragments (rqBarLines ppqn bars) t,
      n'.ch = n.ch ∧ n'.pitch = n.pitch ∧ n'.vel = n.vel ∧ n'.on = n.on ∧ n'.off ≤ n.off ∧
        (n'.off - n'.on) ∈ values

/-- the same witness: the bars' note [10,19) has no fragment with its onset that ends as late (the fragments are
    [10,10) and [20,30)) — the note-level theorems need "no zero-length note anywhere" as well -/
theorem requant_onsets_kept_boundary_statement_false : ¬ requant_onsets_kept_boundary_statement := by
  intro h
  have := h 24 Gen.defaultNoteValues [rqZero] 0 _ rqZero_eval 0 rqZero _ rfl rfl
    (by unfold NonNegWaits; decide) (wf_of_keys rqZero (by decide)) (by decide) (by decide) (by decide)
    ⟨0, 60, 10, 19, 64⟩ (by decide)
  revert this
  decide +kernel

/-- **sound, re-quantisation on** under the input-level hypothesis: for a track without zero-length notes
    (`NoZeroLen`, read off `notesOf`), the bars laid end to end sound at most where the track sounds.
    `C09.sound_subset` with its hypothesis `NoZeroNotes t` replaced by the specification-side `NoZeroLen t`; by
    `sound_subset_boundary_statement_false` the hypothesis cannot be narrowed to bar lines.  Audit item A6(c). -/
theorem sound_subset_partial (ppqn : Int) (values : List Int) (tracks : List (List Msg)) (metaIdx : Nat)
    (tb : List (List Bar)) (h : splitBars ppqn values tracks metaIdx true = .ok tb)
    (i : Nat) (t : List Msg) (bars : List Bar) (ht : tracks[i]? = some t) (hb : tb[i]? = some bars)
    (hw : NonNegWaits t) (hwf : WF t) (hz : NoZeroLen t) (hv : ∀ v ∈ values, 0 < v)
    (hpos : ∀ b ∈ bars, 0 < barCapacity ppqn b.num b.den) (k : Int × Int) (tick : Int) :
    SoundingAt (eventsRel (barsToSeq bars)) k tick → SoundingAt (eventsRel t) k tick :=
  C09.sound_subset ppqn values tracks metaIdx tb h i t bars ht hb hw hwf (noZero_of_notes t hw hz) hv hpos k tick

/-- the witness is in the class excluded by `NoZeroLen`, and only there: it is well-formed, has non-negative waits
    and its zero-length note is not on a bar line -/
example : ¬ NoZeroLen rqZero ∧ NonNegWaits rqZero ∧ WF rqZero
    ∧ ∀ n ∈ notesOf (eventsRel rqZero), n.on = n.off → n.on ∉ [96, 192] :=
  ⟨by decide, by unfold NonNegWaits; decide, wf_of_keys rqZero (by decide), by decide⟩

end SCoda.Strong589
