/-
  VIEW TIE: the functions GENERATED from the Python source by tools/py2lean.py (Gen/ViewFns.lean, namespace
  `SCoda.Gen.View`) are EQUAL to the hand-written models of Model/*.lean, for all inputs.

  The view-level methods are tied by theorem, not by sampling: the generated text follows the
  Python statement by statement, so a semantic edit of the Python changes the generated definition and the
  corresponding theorem below stops building (tools/test_py2lean.sh demonstrates it on ten edits).

  What remains assumed (the LINK TABLE in the header of Gen/ViewFns.lean):
    `AbsoluteSequence.sort ↦ sortAbs`, `Key.transpose_key ↦ Gen.transposeKey` (itself generated).
  Side condition `ChOk`: no message has channel `None`.  `Message.__init__` guarantees it (`None ↦ 0`), the models
  rely on it (Model/Msg.lean: "`ch` is never `None`"); it can only be broken by `set_channel(None)` or a direct
  attribute store.  At such inputs the hand models and the code differ (examples at the end, replayed on /repo).
-/
import SCoda.Lemmas.ViewTieL
namespace SCoda.ViewTie
open SCoda SCoda.Gen.View SCoda.ViewTieL

def ChOk (l : List Msg) : Prop := ∀ m ∈ l, m.ch ≠ pyNone

instance (l : List Msg) : Decidable (ChOk l) := by unfold ChOk; infer_instance

/-- generated `RelativeSequence.set_channel` = hand model `setChannel`, all inputs. -/
theorem setChannel_eq (c : Int) (r : List Msg) : Gen.View.setChannel r c = .ok (SCoda.setChannel c r) := by
  unfold Gen.View.setChannel
  simp only []
  rw [forIn_collect (fun m : Msg => { m with ch := c })]
  · rfl
  · intro _ _ _; rfl

example : Gen.View.setChannel [{ ty := .noteOn, ch := 3, note := 60, vel := 90 }, { ty := .wait, ch := 3, time := 4 }] 7
    = .ok [{ ty := .noteOn, ch := 7, note := 60, vel := 90 }, { ty := .wait, ch := 7, time := 4 }] := by decide +kernel

/-- generated `RelativeSequence.concatenate` = hand model `concatenate`, all inputs. -/
theorem concatenate_eq (r : List Msg) (rs : List (List Msg)) :
    Gen.View.concatenate r rs = .ok (SCoda.concatenate r rs) := by
  unfold Gen.View.concatenate
  simp only []
  rw [forIn_spec' _ (fun l st => pure (st ++ l.flatten))]
  · simp [SCoda.concatenate]; rfl
  · intro b; simp
  · intro a as b; simp

example : Gen.View.concatenate [{ ty := .wait, time := 1 }] [[{ ty := .wait, time := 2 }], [], [{ ty := .wait, time := 3 }]]
    = .ok [{ ty := .wait, time := 1 }, { ty := .wait, time := 2 }, { ty := .wait, time := 3 }] := by decide +kernel

/-- generated `RelativeSequence.pad` = hand model `pad` whenever no channel is `None`. -/
theorem pad_eq (n : Int) (r : List Msg) (h : ChOk r) : Gen.View.pad r n = .ok (SCoda.pad n r) := by
  unfold Gen.View.pad
  simp only []
  rw [forIn_spec (fun m : Msg => m.ch ≠ pyNone) _ (fun l st => pure (padGo n st.1 st.2 l)) _ _ r _ h]
  · simp only [SCoda.pad, chanOfOpt, Msg.mkWait, pure_bind]
    generalize padGo n 0 none r = res
    obtain ⟨len, dc⟩ := res
    simp only [decide_eq_true_eq]
    split <;> rfl
  · intro b; rfl
  · intro a as b ha
    obtain ⟨len, dc⟩ := b
    have ha' : (a.ch != pyNone) = true := by simpa using ha
    have ha2 : pyOpt a.ch = some a.ch := by simp [pyOpt, ha]
    simp only [padGo, ha', ha2, Bool.and_true]
    cases dc <;> by_cases hw : a.ty = MType.wait <;> simp [hw] <;> split <;> simp [*]

example : ChOk [{ ty := .noteOn, ch := 3, note := 60, vel := 90 }, { ty := .wait, ch := 3, time := 4 }] ∧
    Gen.View.pad [{ ty := .noteOn, ch := 3, note := 60, vel := 90 }, { ty := .wait, ch := 3, time := 4 }] 10
    = .ok [{ ty := .noteOn, ch := 3, note := 60, vel := 90 }, { ty := .wait, ch := 3, time := 4 }, { ty := .wait, ch := 3, time := 6 }] := by
  decide +kernel

/-- generated `RelativeSequence.add_message(msg)` (no index) appends. -/
theorem addMessage_none (r : List Msg) (m : Msg) : Gen.View.addMessage r m none = .ok (r ++ [m]) := rfl

/-- generated `RelativeSequence.add_message(msg, index)` with a non-negative index = `insertAt` of the wrapper model
    (`Seq.addRelMsg`); negative indices (Python: counted from the end) are outside the hand model. -/
theorem addMessage_some (r : List Msg) (m : Msg) (i : Nat) :
    Gen.View.addMessage r m (some (i : Int)) = .ok (Seq.insertAt m i r) := by
  unfold Gen.View.addMessage
  simp [optPy, pyInsert_nonneg, pure_eq_ok]

example : Gen.View.addMessage [{ ty := .wait, time := 1 }, { ty := .wait, time := 2 }] { ty := .wait, time := 9 } (some 1)
    = .ok [{ ty := .wait, time := 1 }, { ty := .wait, time := 9 }, { ty := .wait, time := 2 }] := by decide +kernel

/-- generated `_add_message_unsorted` appends. -/
theorem addMessageUnsorted_eq (a : List Msg) (m : Msg) : Gen.View.addMessageUnsorted a m = .ok (a ++ [m]) := rfl

/-- generated `normalise_absolute` (= `self.sort()`, linked) is `sortAbs`. -/
theorem normaliseAbsolute_eq (a : List Msg) : Gen.View.normaliseAbsolute a = .ok (sortAbs a) := rfl

/-- generated `util.binary_insort` (the `while` bisection, translated with fuel, and `list.insert`) = hand model
    `insort`, all inputs: the fuel always suffices and no index is out of range.  The link `add_absolute_message ↦ LSeq.addAbs` of
    Model/TokLib.lean cites this theorem for `insort`. -/
theorem binaryInsort_eq (l : List Msg) (m : Msg) : Gen.View.binaryInsort l m = .ok (insort l m) := by
  unfold Gen.View.binaryInsort
  simp only []
  -- the loop state on `Nat` positions; `lo ≤ hi ≤ len(l)` is what keeps `collection[mid]` in range
  rw [forIn_replicate (fun s : Nat × Nat => ((s.1 : Int), (s.2 : Int))) (fun s => s.1 ≤ s.2 ∧ s.2 ≤ l.length)
        (bisectStep m.time l) _ ?hP ?hf _ (0, l.length) ⟨Nat.zero_le _, Nat.le_refl _⟩ _ ?hb]
  case hb => simp
  case hP =>
    rintro ⟨lo, hi⟩ s' ⟨h1, h2⟩ hs
    unfold bisectStep at hs
    split at hs
    · split at hs <;> cases hs <;> exact ⟨by simp only; omega, by simp only; omega⟩
    · cases hs
  case hf =>
    rintro ⟨lo, hi⟩ ⟨hle, hlen⟩
    by_cases h : lo < hi
    · have h' : decide ((lo : Int) < (hi : Int)) = true := by simpa using h
      have hmidI : ((lo : Int) + (hi : Int)) / 2 = (((lo + hi) / 2 : Nat) : Int) := by omega
      have hlt : (lo + hi) / 2 < l.length := by omega
      have hget : (l.toArray.getD ((lo + hi) / 2) default) = l[(lo + hi) / 2] := by simp [Array.getD, hlt]
      simp only [h', Bool.not_true, hmidI, pyGet_nat l _ hlt, ok_bind, bisectStep, h, if_true, hget]
      by_cases ht : m.time < (l[(lo + hi) / 2]).time <;> simp [ht, pure_eq_ok]
    · have h' : decide ((lo : Int) < (hi : Int)) = false := by simpa using h
      simp only [h', bisectStep, h, if_false]; rfl
  have hs := bisect_spec m.time l (l.length + 1) 0 l.length
  simp only [ok_bind, Int.toNat_natCast, Int.sub_zero, hs.run]
  have hd := hs.exited (by omega)
  have hf := hs.pos
  generalize bisect m.time l (l.length + 1) (0, l.length) = r at hd hf
  have : decide ((r.1 : Int) < (r.2 : Int)) = false := by simpa using hd
  simp only [this, pyInsert_nat, insort, ← hf]
  rfl

example : Gen.View.binaryInsort [{ ty := .noteOn, time := 1 }, { ty := .noteOn, time := 3 }, { ty := .noteOn, time := 5 }]
      { ty := .noteOff, time := 3 }
    = .ok [{ ty := .noteOn, time := 1 }, { ty := .noteOn, time := 3 }, { ty := .noteOff, time := 3 }, { ty := .noteOn, time := 5 }] := by
  decide +kernel

/-- generated `AbsoluteSequence.add_message` = hand model `insort`, all inputs. -/
theorem absAddMessage_eq (a : List Msg) (m : Msg) : Gen.View.absAddMessage a m = .ok (insort a m) := by
  unfold Gen.View.absAddMessage
  simp only [binaryInsort_eq]

/-- generated `RelativeSequence.to_absolute_sequence` = hand model `toAbs` whenever no channel is `None`. -/
theorem toAbs_eq (r : List Msg) (h : ChOk r) : Gen.View.toAbsoluteSequence r = .ok (toAbs r) := by
  unfold Gen.View.toAbsoluteSequence
  simp only [addMessageUnsorted_eq, normaliseAbsolute_eq, absAddMessage_eq]
  rw [forIn_fold_view toAbsTo (fun _ => True) toAbsStep _ r (fun _ _ _ _ => trivial) ?body {} trivial _ ?hb]
  case hb => rfl
  case body =>
    intro a ha s _
    obtain ⟨cur, dc, cap, out⟩ := s
    have ha' : (a.ch != pyNone) = true := by simpa using h a ha
    have ha2 : pyOpt a.ch = some a.ch := by simp [pyOpt, h a ha]
    have ha3 : msgCopy a = a := by simp [msgCopy, chanOfInt, h a ha]
    simp only [toAbsTo, ha', ha2, ha3, Bool.and_true]
    cases dc <;> by_cases hw : a.ty = MType.wait <;>
      simp [hw, toAbsStep, bind, Except.bind, pure, Except.pure]
  simp only [toAbs, toAbsTo, ok_bind, chanOfOpt, Msg.mkInternal]
  generalize List.foldl toAbsStep _ r = s
  cases hc : s.cap <;> simp <;> rfl

example : ChOk [{ ty := .noteOn, ch := 2, note := 60, vel := 90 }, { ty := .wait, ch := 2, time := 3 }, { ty := .noteOff, ch := 2, note := 60 }, { ty := .wait, ch := 2, time := 2 }] ∧
    Gen.View.toAbsoluteSequence [{ ty := .noteOn, ch := 2, note := 60, vel := 90 }, { ty := .wait, ch := 2, time := 3 }, { ty := .noteOff, ch := 2, note := 60 }, { ty := .wait, ch := 2, time := 2 }]
    = .ok [{ ty := .noteOn, ch := 2, note := 60, vel := 90, time := 0 }, { ty := .noteOff, ch := 2, note := 60, time := 3 }, { ty := .internal, ch := 2, time := 5 }] := by
  decide +kernel

/-- generated `AbsoluteSequence.to_relative_sequence` = hand model `toRel` whenever no channel is `None`. -/
theorem toRel_eq (a : List Msg) (h : ChOk a) : Gen.View.toRelativeSequence a = .ok (toRel a) := by
  unfold Gen.View.toRelativeSequence
  simp only [addMessage_none]
  rw [forIn_spec_proj Prod.fst (fun m : Msg => m.ch ≠ pyNone) _ (fun l st => pure (st.1 ++ toRelGo st.2 l)) _ _ a _ h]
  · simp [toRel]; rfl
  · intro b; simp [toRelGo]
  · intro m ms b hm
    obtain ⟨out, cur⟩ := b
    have hc : chanOfInt m.ch = m.ch := by simp [chanOfInt, hm]
    have hc' : msgCopy m = m := by simp [msgCopy, hc]
    by_cases ht : m.time > cur <;> by_cases hi : m.ty = MType.internal <;>
      simp [ht, hi, ok_bind, pure_eq_ok, toRelGo, hc, hc', Msg.mkWait]

example : ChOk [{ ty := .noteOn, ch := 2, note := 60, vel := 90, time := 0 }, { ty := .noteOff, ch := 2, note := 60, time := 3 }, { ty := .internal, ch := 2, time := 5 }] ∧
    Gen.View.toRelativeSequence [{ ty := .noteOn, ch := 2, note := 60, vel := 90, time := 0 }, { ty := .noteOff, ch := 2, note := 60, time := 3 }, { ty := .internal, ch := 2, time := 5 }]
    = .ok [{ ty := .noteOn, ch := 2, note := 60, vel := 90 }, { ty := .wait, ch := 2, time := 3 }, { ty := .noteOff, ch := 2, note := 60 }, { ty := .wait, ch := 2, time := 2 }] := by
  decide +kernel

/-- generated `RelativeSequence.scale(factor)` = hand model `scaleRel` for every integer factor ≥ 1 (the branch for
    factors < 1 builds `Sequence`/`Bar` objects and is stubbed as `throw .outOfSubset` in the translation). -/
theorem scaleRel_eq (k : Int) (r : List Msg) (hk : 1 ≤ k) : Gen.View.scale r k = .ok (scaleRel k r) := by
  unfold Gen.View.scale
  simp only [pyIsIntegerDiv]
  by_cases h1 : k = 1
  · subst h1; simp [scaleRel]; rfl
  · have h2 : k > 1 := by omega
    have h3 : (k == 1) = false := by simpa using h1
    simp only [h2, h3, decide_true, if_true, Int.emod_one, Bool.not_true, Bool.false_eq_true, if_false]
    rw [forIn_collect (fun m : Msg => if m.ty == .wait then { m with time := m.time * k } else m)]
    · simp [scaleRel, h3, pure_eq_ok, ok_bind]
    · intro a _ acc
      by_cases hw : a.ty = MType.wait <;> simp [hw, pure_eq_ok]

example : Gen.View.scale [{ ty := .noteOn, ch := 2, note := 60, vel := 90 }, { ty := .wait, ch := 2, time := 3 }] 4
    = .ok [{ ty := .noteOn, ch := 2, note := 60, vel := 90 }, { ty := .wait, ch := 2, time := 12 }] := by decide +kernel
/-- what the translation says outside the theorem's hypothesis: 0 divides by zero, -2 is rejected, -1 reaches the stub -/
example : Gen.View.scale [] 0 = .error .zeroDivisionError ∧ Gen.View.scale [] (-2) = .error .sequenceException
    ∧ Gen.View.scale [] (-1) = .error .outOfSubset := by decide +kernel

/-- the link of `transpose` holds on this input: `Key.transpose_key(msg.key, by)` returns `tk msg.key`
    for every key-signature message -/
def TkOk (tk : Int → Int) (by_ : Int) (r : List Msg) : Prop :=
  ∀ m ∈ r, m.ty = .keySignature → linkTheory (Gen.transposeKey m.key by_) = .ok (tk m.key)

/-- generated `RelativeSequence.transpose` (both `while` loops translated with fuel) = hand model `transposeRel`
    with the generated settings bounds, for every key function `tk` that agrees with the generated
    `transpose_key` on the key signatures of the input: the fuel always suffices, list and flag agree. -/
theorem transposeRel_eq (by_ : Int) (r : List Msg) (tk : Int → Int) (htk : TkOk tk by_ r) :
    Gen.View.transpose r by_ = .ok (transposeRel Gen.noteLowerBound Gen.noteUpperBound tk by_ r) := by
  unfold Gen.View.transpose
  simp only []
  generalize Gen.noteLowerBound = lo
  generalize Gen.noteUpperBound = hi
  rw [forIn_spec (fun m : Msg => m.ty = .keySignature → linkTheory (Gen.transposeKey m.key by_) = .ok (tk m.key)) _
    (fun l st => pure (st.1 || l.any (fun m => (transposeMsg lo hi tk by_ m).2),
                       st.2 ++ l.map (fun m => (transposeMsg lo hi tk by_ m).1))) _ _ r _ htk]
  · simp [transposeRel, ok_bind, pure_eq_ok]
  · intro b; simp
  · intro m ms b hm
    obtain ⟨hs, out⟩ := b
    by_cases hn : (m.ty == MType.noteOn || m.ty == MType.noteOff) = true
    · simp only [hn, if_true]
      rw [forIn_spec' _ (fun (l : List Unit) (st : Bool × Msg) =>
            pure (st.1 || (wrapUp lo l.length st.2.note).2, { st.2 with note := (wrapUp lo l.length st.2.note).1 }))]
      · simp only [pure_bind, List.length_replicate]
        have hge := wrapUp_ge lo ((lo - (m.note + by_)).toNat + 1) (m.note + by_) (by omega)
        generalize hu : wrapUp lo ((lo - (m.note + by_)).toNat + 1) (m.note + by_) = u at hge
        have h1 : decide (u.1 < lo) = false := by simpa using hge
        simp only [h1]
        rw [forIn_spec' _ (fun (l : List Unit) (st : Bool × Msg) =>
              pure (st.1 || (wrapDown hi l.length st.2.note).2, { st.2 with note := (wrapDown hi l.length st.2.note).1 }))]
        · simp only [pure_bind, List.length_replicate]
          have hle := wrapDown_le hi ((u.1 - hi).toNat + 1) u.1 (by omega)
          generalize hd : wrapDown hi ((u.1 - hi).toNat + 1) u.1 = d at hle
          have h2 : decide (d.1 > hi) = false := by simpa using hle
          have hwp := wrapPitch_fuel lo hi (m.note + by_)
          rw [hu] at hwp
          rw [hd] at hwp
          have hm' : transposeMsg lo hi tk by_ m = ({ m with note := d.1 }, u.2 || d.2) := by
            simp only [transposeMsg, hn, if_true, hwp]
          simp only [h2, hm', List.any_cons, List.map_cons]
          simp [Bool.or_assoc]
        · intro b; simp [wrapDown]
        · intro _ as b
          obtain ⟨hs', m'⟩ := b
          by_cases hp : m'.note > hi <;> simp [hp, wrapDown]
      · intro b; simp [wrapUp]
      · intro _ as b
        obtain ⟨hs', m'⟩ := b
        by_cases hp : m'.note < lo <;> simp [hp, wrapUp]
    · simp only [hn]
      by_cases hk : m.ty = MType.keySignature
      · have hm' : transposeMsg lo hi tk by_ m = ({ m with key := tk m.key }, false) := by
          simp only [transposeMsg, hn]; simp [hk]
        simp only [hm (hk), hk, List.any_cons, List.map_cons, hm', ok_bind]
        simp
      · have hm' : transposeMsg lo hi tk by_ m = (m, false) := by
          simp only [transposeMsg, hn]; simp [hk]
        simp only [List.any_cons, List.map_cons, hm']
        simp [hk]

/-- the same with the key function read off the generated `transpose_key` (`ViewTieL.tkGen`, not `C14.tkGen`: they differ
    at `pyNone`): holds whenever `transpose_key` does not raise on the key signatures of the input. -/
theorem transposeRel_eq_gen (by_ : Int) (r : List Msg)
    (hk : ∀ m ∈ r, m.ty = .keySignature → (Gen.transposeKey m.key by_).isSome) :
    Gen.View.transpose r by_ = .ok (transposeRel Gen.noteLowerBound Gen.noteUpperBound (tkGen by_) by_ r) :=
  transposeRel_eq by_ r (tkGen by_) (fun m hm hty => linkTheory_tkGen by_ m.key (hk m hm hty))

example : (∀ m ∈ ([{ ty := .noteOn, note := 10, vel := 90 }, { ty := .keySignature, key := 3 }, { ty := .noteOff, note := 120 }] : List Msg),
      m.ty = .keySignature → (Gen.transposeKey m.key 2).isSome) ∧
    Gen.View.transpose [{ ty := .noteOn, note := 10, vel := 90 }, { ty := .keySignature, key := 3 }, { ty := .noteOff, note := 120 }] 2
    = .ok ([{ ty := .noteOn, note := 24, vel := 90 }, { ty := .keySignature, key := 5 }, { ty := .noteOff, note := 98 }], true) := by
  decide +kernel

/-- outside the hypothesis: a key signature whose key is `None` makes `transpose_key` raise (Python: ValueError for
    `by % 12 ≠ 0`, replayed on /repo), the translation says `calleeRaised`; for a multiple of 12 nothing is looked up. -/
example : Gen.View.transpose [{ ty := .keySignature }] 2 = .error .calleeRaised
    ∧ Gen.View.transpose [{ ty := .keySignature }] 12 = .ok ([{ ty := .keySignature }], false) := by decide +kernel

/-- generated `AbsoluteSequence.get_sequence_duration` (`self._messages[-1].time`) = hand model `absDuration`
    (IndexError on the empty list on both sides). -/
theorem getSequenceDuration_eq (a : List Msg) :
    Gen.View.getSequenceDuration a = (match absDuration a with | .ok v => .ok v | .error _ => .error .indexError) := by
  unfold Gen.View.getSequenceDuration
  simp only [pyGet_neg_one, absDuration]
  cases a.getLast? <;> rfl

example : Gen.View.getSequenceDuration [{ ty := .noteOn, time := 1 }, { ty := .internal, time := 7 }] = .ok 7
    ∧ Gen.View.getSequenceDuration [] = .error .indexError := by decide +kernel

/-- generated `AbsoluteSequence.merge` = hand model `mergeAbs`, all inputs. -/
theorem merge_eq (a : List Msg) (others : List (List Msg)) : Gen.View.merge a others = .ok (mergeAbs a others) := by
  unfold Gen.View.merge
  simp only [addMessageUnsorted_eq, normaliseAbsolute_eq]
  rw [forIn_spec' _ (fun l st => pure (st ++ l.flatten))]
  · simp [mergeAbs, pure_eq_ok, ok_bind]
  · intro b; simp
  · intro sq rest b
    rw [forIn_collect id]
    · simp [pure_eq_ok, ok_bind]
    · intro _ _ _; rfl

example : Gen.View.merge [{ ty := .noteOn, time := 4 }] [[{ ty := .noteOn, time := 1 }], [{ ty := .noteOn, ch := 1, time := 4 }]]
    = .ok [{ ty := .noteOn, time := 1 }, { ty := .noteOn, time := 4 }, { ty := .noteOn, ch := 1, time := 4 }] := by decide +kernel

/-- generated `RelativeSequence.is_empty`: true iff there is no note-on (early `return` inside the loop). -/
theorem isEmpty_eq (r : List Msg) : Gen.View.isEmpty r = .ok (!(r.any (fun m => m.ty == .noteOn))) := by
  unfold Gen.View.isEmpty
  simp only []
  rw [forIn_all (fun m => !(m.ty == .noteOn)) _ (some false, ())]
  · cases h : r.all (fun m => !(m.ty == .noteOn)) <;> simp_all [pysimp]
  · intro m _; cases m.ty == MType.noteOn <;> rfl

/-- generated `AbsoluteSequence.is_channel_consistent`: every channel equals the first one. -/
theorem isChannelConsistent_eq (a : List Msg) :
    Gen.View.isChannelConsistent a = .ok (a.all (fun m => m.ch == (a.headD default).ch)) := by
  unfold Gen.View.isChannelConsistent
  simp only [pyGet_zero]
  cases a with
  | nil => rfl
  | cons x xs =>
    simp only [List.head?_cons, ok_bind, List.headD_cons]
    rw [forIn_all (fun m => m.ch == x.ch) _ (some false, ())]
    · cases (x :: xs).all (fun m => m.ch == x.ch) <;> rfl
    · intro m _; cases h : m.ch == x.ch <;> simp [h, bne, pysimp]

example : Gen.View.isEmpty [{ ty := .wait, time := 3 }] = .ok true ∧ Gen.View.isEmpty [{ ty := .wait, time := 3 }, { ty := .noteOn }] = .ok false
    ∧ Gen.View.isChannelConsistent [{ ty := .noteOn, ch := 1 }, { ty := .noteOn, ch := 2 }] = .ok false := by decide +kernel

/-- generated `AbsoluteSequence.get_sequence_channel`: the first channel if all channels agree, `SequenceException`
    otherwise, `IndexError` on the empty list (no hand model; stated against list functions). -/
theorem getSequenceChannel_eq (a : List Msg) :
    Gen.View.getSequenceChannel a =
      (if a.all (fun m => m.ch == (a.headD default).ch) then
        (match a.head? with | some m => .ok m.ch | none => .error .indexError)
       else .error .sequenceException) := by
  unfold Gen.View.getSequenceChannel
  simp only [isChannelConsistent_eq, pyGet_zero, ok_bind]
  cases h : a.all (fun m => m.ch == (a.headD default).ch)
  · rfl
  · cases a <;> rfl

/-- generated `MidiMessage.parse_internal_message` hands every field over unchanged. -/
theorem parseInternalMessage_eq (m : Msg) : Gen.View.parseInternalMessage m = .ok m := rfl

/-- generated `RelativeSequence.to_midi_track`: the track's messages are the sequence's messages, field by field
    (what `toMido` of Model/Midi.lean assumes when it starts from the relative view). -/
theorem toMidiTrack_eq (r : List Msg) : Gen.View.toMidiTrack r = .ok r := by
  unfold Gen.View.toMidiTrack
  simp only [parseInternalMessage_eq, ok_bind]
  rw [forIn_collect id]
  · simp [pure_eq_ok, ok_bind]
  · intro _ _ _; rfl

/-- generated `MidiTrack.to_mido_track` (mido constructors linked to `MidiEv` literals) = hand model `toMido` of
    Model/Midi.lean up to the fields a mido message does not carry (`midoView`), provided no key signature has key
    `None` (Python: AttributeError on `msg.key.value`; the hand model emits the `None`). -/
theorem toMidoTrack_eq (r : List Msg) (hk : ∀ m ∈ r, m.ty = .keySignature → m.key ≠ pyNone) :
    Gen.View.toMidoTrack r = .ok ((toMido r).map midoView) := by
  unfold Gen.View.toMidoTrack
  simp only []
  rw [forIn_spec_proj Prod.fst (fun m : Msg => m.ty = .keySignature → m.key ≠ pyNone) _
        (fun l st => pure (st.1 ++ (toMidoGo st.2 l).map midoView)) _ _ r _ hk]
  · simp [toMido, pure_eq_ok]
  · intro b; simp [toMidoGo]
  · intro m ms b hm
    obtain ⟨track, buf⟩ := b
    by_cases ht : m.time = pyNone <;> cases hty : m.ty <;>
      simp [ht, hty, toMidoGo, midoView, keyValue, pure_eq_ok, ok_bind]
    all_goals simp [hm hty, ok_bind]

/-- `sequence.to_midi_track().to_mido_track()` on a relative view, both steps generated, = `toMido` up to `midoView`. -/
theorem toMidi_toMido_eq (r : List Msg) (hk : ∀ m ∈ r, m.ty = .keySignature → m.key ≠ pyNone) :
    (Gen.View.toMidiTrack r >>= Gen.View.toMidoTrack) = .ok ((toMido r).map midoView) := by
  rw [toMidiTrack_eq, ok_bind, toMidoTrack_eq r hk]

example : Gen.View.toMidoTrack [{ ty := .noteOn, ch := 3, note := 60 }, { ty := .wait, ch := 3, time := 5 }, { ty := .noteOff, ch := 3, note := 60 },
      { ty := .keySignature, key := 2 }, { ty := .wait, time := 2 }]
    = .ok [{ ty := .noteOn, ch := 0, time := 0, note := 60, vel := 127 }, { ty := .noteOff, ch := 0, time := 5, note := 60, vel := 0 },
           { ty := .keySignature, ch := pyNone, time := 0, key := 2 }]
    ∧ Gen.View.toMidoTrack [{ ty := .keySignature }] = .error .attributeError := by decide +kernel

example : Gen.View.getSequenceChannel [{ ty := .noteOn, ch := 4 }, { ty := .noteOff, ch := 4 }] = .ok 4
    ∧ Gen.View.getSequenceChannel [{ ty := .noteOn, ch := 4 }, { ty := .noteOff, ch := 5 }] = .error .sequenceException
    ∧ Gen.View.getSequenceChannel [] = .error .indexError
    ∧ Gen.View.toMidiTrack [{ ty := .noteOn, ch := 4, note := 60, vel := 3 }] = .ok [{ ty := .noteOn, ch := 4, note := 60, vel := 3 }] := by
  decide +kernel

/-! ### outside `ChOk`: the hand models and the translation differ (the translation agrees with /repo)

  Replayed with /venv/bin/python: a note-on whose channel was set to `None` (what `set_channel(None)` does), followed by
  `WAIT(channel=3, time=1)`: `pad(5)` appends `WAIT(channel=3, time=4)` (the translation: 3; hand model `pad`: the `None`
  of the first message), `to_absolute_sequence()` gives the note-on channel 0 (`copy()` goes through `__init__`; hand
  model `toAbs`: keeps `None`).  These inputs are outside the documented domain of the models (Model/Msg.lean). -/

example :
    let r : List Msg := [{ ty := .noteOn, ch := pyNone, note := 60, vel := 90 }, { ty := .wait, ch := 3, time := 1 }]
    ¬ ChOk r ∧
    Gen.View.pad r 5 = .ok (r ++ [{ ty := .wait, ch := 3, time := 4 }]) ∧
    SCoda.pad 5 r = r ++ [{ ty := .wait, ch := pyNone, time := 4 }] ∧
    Gen.View.toAbsoluteSequence r = .ok [{ ty := .noteOn, ch := 0, note := 60, vel := 90, time := 0 }, { ty := .internal, ch := 3, time := 1 }] ∧
    toAbs r = [{ ty := .noteOn, ch := pyNone, note := 60, vel := 90, time := 0 }, { ty := .internal, ch := pyNone, time := 1 }] := by
  decide +kernel

/-- tripwire: the default arguments of every function this translator reads (a changed default changes what callers that rely on it get) -/
theorem view_defaults_pinned :
    Gen.View.defaults = ["Message.__init__(channel=None)", "Message.__init__(control=None)", "Message.__init__(denominator=None)", "Message.__init__(key=None)", "Message.__init__(message_type=None)", "Message.__init__(note=None)", "Message.__init__(numerator=None)", "Message.__init__(program=None)", "Message.__init__(time=None)", "Message.__init__(velocity=None)", "MidiMessage.__init__(channel=None)", "MidiMessage.__init__(control=None)", "MidiMessage.__init__(denominator=None)", "MidiMessage.__init__(key=None)", "MidiMessage.__init__(message_type=None)", "MidiMessage.__init__(note=None)", "MidiMessage.__init__(numerator=None)", "MidiMessage.__init__(program=None)", "MidiMessage.__init__(time=None)", "MidiMessage.__init__(velocity=None)", "RelativeSequence.add_message(index=None)", "RelativeSequence.scale(meta_sequence=None)"] := rfl

end SCoda.ViewTie
