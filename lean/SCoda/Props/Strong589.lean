/-
  Strengthened statements for C08 (audit item A13), C09 (A6) and C05 (A14).

  This file, first part (C08):
  * the note theorems of `Props/C08.lean` (`closed_partial`, `sound_partial`) assume `NoZeroNotes r` — no
    zero-length note *anywhere*.  Here they are proved under the exact D18 class: no zero-length note sits on a
    cumulative capacity (`NoZeroOnBoundary r caps`, read off the independent `notesOf` semantics, decidable);
  * `notes_cut`: not only the sounding set but the *notes* of the pieces are those of the source, cut at the
    boundaries (`cutNotes`, an independent specification: cut at the first boundary, then at the second, …);
  * `velocity_strong`: every note-on of the pieces carries the velocity of the source note that is sounding there.
  Second part (C09, re-quantisation off): the same for the bars of `sequences_split_bars` — the sounding set and the notes
  of a track's bars under the exact D18b class (`NoZeroOnBarLine`, read off the result's bar lines; `NoZeroOnGrid`, read
  off the input alone), and the witness `d18b` outside it.  Re-quantisation on is `Props/Strong589R.lean`, when the call
  returns `Props/Strong589B.lean`, C05 `Props/Strong589Q.lean`.
-/
import SCoda.Props.C08
import SCoda.Props.C09
import SCoda.Lemmas.BarLines
import SCoda.Props.Strong589Q
import SCoda.Props.Strong589B
import SCoda.Props.Strong589R
namespace SCoda.Strong589
open SCoda SCoda.SplitL SCoda.SB SCoda.BarL SCoda.Strong589L SCoda.Strong589LT SCoda.Strong589LB SCoda.Strong589LR

/-- **the D18 class, exactly**: no note of the source has zero length *and* sits on a cumulative capacity.
    Input-level: `notesOf (eventsRel r)` is the specification-side reading of the source. -/
def NoZeroOnBoundary (r : List Msg) (caps : List Int) : Prop :=
  ∀ n ∈ notesOf (eventsRel r), n.on = n.off → n.on ∉ C08.cumSums 0 caps

instance (r : List Msg) (caps : List Int) : Decidable (NoZeroOnBoundary r caps) := by
  unfold NoZeroOnBoundary; infer_instance

/-- cut a note list at the ticks of `bs`, one after the other: a note sounding across a tick (`on < b < off`)
    becomes `[on, b)` and `[b, off)` with the same channel, pitch and velocity; every other note is kept -/
abbrev cutNotes := Strong589L.cutNotes
abbrev keyIs := Strong589L.keyIs

theorem split_notesB (r : List Msg) (caps : List Int) (pieces : List (List Msg)) (h : split r caps = .ok pieces)
    (hpos : ∀ c ∈ caps, 0 < c) (hw : NonNegWaits r) (hwf : WF r) (hz : NoZeroOnBoundary r caps) (k : Int × Int) (t : Int) :
    (∀ p ∈ pieces, WF p) ∧ (∀ d, Dp k t 0 pieces.flatten d = Dp k t 0 r d) ∧
      nkNotes k (eventsRel pieces.flatten) none = cutNotes (C08.cumSums 0 caps) (nkNotes k (eventsRel r) none) := by
  have hzl : ∀ k', zlB (B := (· ∈ cums 0 caps)) k' none 0 r := by
    intro k' n hn h0
    rw [← C08.cumSums_eq]
    exact hz n (mem_notesOf_of_nk hn) h0
  obtain ⟨hwfp, hnn, hN⟩ := C08.split_notes (B := (· ∈ cums 0 caps)) r caps pieces h hpos hw hwf (fun b hb => hb) hzl
  have hN := hN k
  exact ⟨hwfp, fun d => Dp_of_covered k t 0 _ _ hnn hw ((wf_iff _).1 (wf_flatten pieces hwfp) k) ((wf_iff _).1 hwf k)
    (by unfold eventsRel at hN; rw [hN, covered_cutNotes]) d, by rw [C08.cumSums_eq]; exact hN⟩

/-- **no piece ends with a note still sounding, every piece is well-formed on its own** — for every source in which
    no zero-length note sits on a cumulative capacity.  Closes audit item A13 (hypothesis narrowed from "no
    zero-length note anywhere" to the exact D18 class; the full statement `C08.closed_statement` is refuted there). -/
theorem closed_boundary (r : List Msg) (caps : List Int) (pieces : List (List Msg)) (h : split r caps = .ok pieces)
    (hpos : ∀ c ∈ caps, 0 < c) (hw : NonNegWaits r) (hwf : WF r) (hz : NoZeroOnBoundary r caps) :
    ∀ p ∈ pieces, WF p :=
  (split_notesB r caps pieces h hpos hw hwf hz (0, 0) 0).1

/-- **laid end to end, the pieces reproduce exactly the source's sounding (channel, pitch, tick) set** — for every
    source in which no zero-length note sits on a cumulative capacity.  Closes audit item A13 (as `closed_boundary`). -/
theorem sound_boundary (r : List Msg) (caps : List Int) (pieces : List (List Msg)) (h : split r caps = .ok pieces)
    (hpos : ∀ c ∈ caps, 0 < c) (hw : NonNegWaits r) (hwf : WF r) (hz : NoZeroOnBoundary r caps) (k : Int × Int) (t : Int) :
    SoundingAt (eventsRel pieces.flatten) k t ↔ SoundingAt (eventsRel r) k t := by
  have := (split_notesB r caps pieces h hpos hw hwf hz k t).2.1 0
  simp only [Dp] at this
  simp only [SoundingAt, eventsRel, this]

/-- **notes, key by key**: the notes of one (channel, pitch) in the pieces laid end to end are, in time order, the
    source's notes of that key cut at the cumulative capacities.  Closes audit item A13 ("notes, not only sounding sets"). -/
theorem notes_cut_key (r : List Msg) (caps : List Int) (pieces : List (List Msg)) (h : split r caps = .ok pieces)
    (hpos : ∀ c ∈ caps, 0 < c) (hw : NonNegWaits r) (hwf : WF r) (hz : NoZeroOnBoundary r caps) (k : Int × Int) :
    (notesOf (eventsRel pieces.flatten)).filter (keyIs k)
      = cutNotes (C08.cumSums 0 caps) ((notesOf (eventsRel r)).filter (keyIs k)) := by
  rw [notesOf_key, notesOf_key]
  exact (split_notesB r caps pieces h hpos hw hwf hz k 0).2.2

/-- **notes**: the notes of the pieces laid end to end are a permutation of the source's notes cut at the cumulative
    capacities — each source note sounding across a boundary becomes its parts left and right of it, same channel,
    pitch and velocity; nothing else is added, lost or changed.  Closes audit item A13. -/
theorem notes_cut (r : List Msg) (caps : List Int) (pieces : List (List Msg)) (h : split r caps = .ok pieces)
    (hpos : ∀ c ∈ caps, 0 < c) (hw : NonNegWaits r) (hwf : WF r) (hz : NoZeroOnBoundary r caps) :
    (notesOf (eventsRel pieces.flatten)).Perm (cutNotes (C08.cumSums 0 caps) (notesOf (eventsRel r))) := by
  apply perm_of_keys
  intro k
  rw [cutNotes_filter]
  exact notes_cut_key r caps pieces h hpos hw hwf hz k

/-- **re-struck with the same velocity**: every note-on of the pieces — original or inserted at the start of a piece —
    has the channel, pitch and velocity of a source note `n` that starts at that tick or is sounding there
    (`n.on ≤ tick`, and `tick = n.on` or `tick < n.off`).  For a re-strike at a boundary this is the source note
    sounding across the boundary, not merely "some earlier note-on" as `C08.velocity` says.  Closes audit item A13. -/
theorem velocity_strong (r : List Msg) (caps : List Int) (pieces : List (List Msg)) (h : split r caps = .ok pieces)
    (hpos : ∀ c ∈ caps, 0 < c) (hw : NonNegWaits r) (hwf : WF r) (hz : NoZeroOnBoundary r caps) :
    ∀ m ∈ eventsRel pieces.flatten, m.ty = .noteOn →
      ∃ n ∈ notesOf (eventsRel r), n.ch = m.ch ∧ n.pitch = m.note ∧ n.vel = m.vel ∧
        n.on ≤ m.time ∧ (m.time = n.on ∨ m.time < n.off) := by
  intro m hm hty
  obtain ⟨hwfp, _, hN⟩ := split_notesB r caps pieces h hpos hw hwf hz m.nkey 0
  have hwfl : WF pieces.flatten := wf_flatten pieces hwfp
  have halt : krun m.nkey false (eventsRel pieces.flatten) = some false := by
    unfold eventsRel; rw [krun_events]; exact (wf_iff _).1 hwfl m.nkey
  obtain ⟨t, ht⟩ := on_note m.nkey _ halt m hm rfl hty
  rw [hN] at ht
  obtain ⟨n, hn, h1, h2, h3, h4, _, h6⟩ := cutNotes_frag _ _ _ ht
  exact ⟨n, mem_notesOf_of_nk hn, h1.symm, h2.symm, h3.symm, h4, h6⟩

/-- the audit's example: a zero-length note that is *not* on a boundary. `C08.closed_partial` does not apply
    (`NoZeroNotes` fails), `closed_boundary` does. -/
def exMid : List Msg := [Msg.mkOn 0 60 64 pyNone, Msg.mkOff 0 60 pyNone, Msg.mkWait 0 48]
example : NoZeroOnBoundary exMid [24] ∧ ¬ NoZeroNotes exMid ∧ WF exMid ∧ NonNegWaits exMid := by
  refine ⟨by decide, ?_, wf_of_keys exMid (by decide), by unfold NonNegWaits; decide⟩
  intro h; exact absurd (h (0, 60)) (by decide)
example : split exMid [24] = .ok [[Msg.mkOn 0 60 64 pyNone, Msg.mkOff 0 60 pyNone, Msg.mkWait 0 24], [Msg.mkWait 0 24]] := rfl

/-- the D18 witness of `Props/C08.lean` is in the excluded class -/
example : ¬ NoZeroOnBoundary C08.zr [24] := by decide +kernel

/-- a note crossing two boundaries, a second key, a zero-length note off the boundaries -/
def exCut : List Msg := [Msg.mkOn 0 60 64 pyNone, Msg.mkWait 0 10, Msg.mkOn 1 62 80 pyNone, Msg.mkOff 1 62 pyNone,
  Msg.mkWait 0 50, Msg.mkOff 0 60 pyNone, Msg.mkOn 1 62 90 pyNone, Msg.mkWait 0 12, Msg.mkOff 1 62 pyNone]
example : WF exCut ∧ NonNegWaits exCut ∧ NoZeroOnBoundary exCut [24, 24] :=
  ⟨wf_of_keys exCut (by decide), by unfold NonNegWaits; decide, by decide⟩
example : cutNotes (C08.cumSums 0 [24, 24]) (notesOf (eventsRel exCut))
    = [⟨1, 62, 10, 10, 80⟩, ⟨0, 60, 0, 24, 64⟩, ⟨0, 60, 24, 48, 64⟩, ⟨0, 60, 48, 60, 64⟩, ⟨1, 62, 60, 72, 90⟩] := by
  decide +kernel
example : ∃ pieces, split exCut [24, 24] = .ok pieces ∧
    notesOf (eventsRel pieces.flatten)
      = [⟨1, 62, 10, 10, 80⟩, ⟨0, 60, 0, 24, 64⟩, ⟨0, 60, 24, 48, 64⟩, ⟨0, 60, 48, 60, 64⟩, ⟨1, 62, 60, 72, 90⟩] := by
  refine ⟨_, rfl, ?_⟩
  decide +kernel

/-- the audit's scenario for `velocity`: A v10 [0,10), B v90 [20,40), cut at 30.  A re-strike at 30 with A's
    velocity 10 satisfies the conclusion of `C08.velocity` but not that of `velocity_strong`. -/
def exVel : List Msg := [Msg.mkOn 0 60 10 pyNone, Msg.mkWait 0 10, Msg.mkOff 0 60 pyNone, Msg.mkWait 0 10,
  Msg.mkOn 0 60 90 pyNone, Msg.mkWait 0 20, Msg.mkOff 0 60 pyNone]
example : ¬ ∃ n ∈ notesOf (eventsRel exVel), n.ch = 0 ∧ n.pitch = 60 ∧ n.vel = 10 ∧ n.on ≤ 30 ∧ (30 = n.on ∨ 30 < n.off) := by
  decide +kernel
example : ∃ m0 ∈ eventsRel exVel, m0.ty = .noteOn ∧ m0.nkey = (0, 60) ∧ m0.vel = 10 ∧ m0.time ≤ 30 := by
  decide +kernel


/-- the bar lines of a list of bars: the end tick of each bar when the bars are laid end to end from tick 0
    (bar `k` lasts `barCapacity ppqn num den` of the signature it carries — `C09.bars_exact`) -/
def barLines (ppqn : Int) (bars : List Bar) : List Int :=
  C08.cumSums 0 (bars.map (fun b => barCapacity ppqn b.num b.den))

/-- **the D18b class, exactly**: no note of the track has zero length *and* sits on a bar line -/
def NoZeroOnBarLine (ppqn : Int) (t : List Msg) (bars : List Bar) : Prop :=
  ∀ n ∈ notesOf (eventsRel t), n.on = n.off → n.on ∉ barLines ppqn bars

instance (ppqn : Int) (t : List Msg) (bars : List Bar) : Decidable (NoZeroOnBarLine ppqn t bars) := by
  unfold NoZeroOnBarLine; infer_instance

/-- "re-quantisation off: laid end to end, a track's bars reproduce its sounding set exactly" as the property states
    it (no word about zero-length notes) — **false**, see `sound_exact_statement_false` (known finding D18b) -/
def sound_exact_statement : Prop :=
  ∀ (ppqn : Int) (values : List Int) (tracks : List (List Msg)) (metaIdx : Nat) (tb : List (List Bar))
    (_h : splitBars ppqn values tracks metaIdx false = .ok tb) (i : Nat) (t : List Msg) (bars : List Bar)
    (_ht : tracks[i]? = some t) (_hb : tb[i]? = some bars) (_hw : NonNegWaits t) (_hwf : WF t)
    (_hpos : ∀ b ∈ bars, 0 < barCapacity ppqn b.num b.den) (k : Int × Int) (tick : Int),
    SoundingAt (eventsRel (barsToSeq bars)) k tick ↔ SoundingAt (eventsRel t) k tick

/-- the audit's witness (4/4 at 24 ticks per quarter): a zero-length note on the bar line 96, then a real note
    [106,116) of the same key -/
def d18b : List Msg := [Msg.mkWait 0 96, Msg.mkOn 0 60 64 pyNone, Msg.mkOff 0 60 pyNone, Msg.mkWait 0 10,
  Msg.mkOn 0 60 64 pyNone, Msg.mkWait 0 10, Msg.mkOff 0 60 pyNone, Msg.mkWait 0 5]

/-- the library's default note values at 24 ticks per quarter (`Gen.defaultNoteValues`) -/
def vals : List Int := [24, 12, 6, 16, 8, 4, 36, 18, 9]

/-- what the model returns on the witness: two 4/4 bars, the second one silent — the real note [106,116) is swallowed
    (the real implementation returns the same two bars) -/
theorem d18b_bars : splitBars 24 vals [d18b] 0 false
    = .ok [[⟨[Msg.mkTimeSig 0 4 4 pyNone, Msg.mkWait 0 96], 4, 4, pyNone⟩,
            ⟨[Msg.mkTimeSig 0 4 4 pyNone, Msg.mkWait 0 25, Msg.mkWait 0 71], 4, 4, pyNone⟩]] :=
  ok_of_toOption (by decide +kernel)

theorem d18b_ok : WF d18b ∧ NonNegWaits d18b :=
  ⟨wf_of_keys d18b (by decide), by unfold NonNegWaits; decide⟩

theorem sound_exact_statement_false : ¬ sound_exact_statement := by
  intro hs
  have := hs 24 vals [d18b] 0 _ d18b_bars 0 d18b _ rfl rfl d18b_ok.2 d18b_ok.1 (by decide) (0, 60) 106
  simp only [SoundingAt] at this
  revert this
  decide +kernel

theorem run_of_bars (ppqn : Int) (values : List Int) (tracks : List (List Msg)) (metaIdx : Nat) (requant : Bool)
    (tb : List (List Bar)) (h : splitBars ppqn values tracks metaIdx requant = .ok tb)
    (i : Nat) (t : List Msg) (bars : List Bar) (ht : tracks[i]? = some t) (hb : tb[i]? = some bars)
    (hz : NoZeroOnBarLine ppqn t bars) (hpos : ∀ b ∈ bars, 0 < barCapacity ppqn b.num b.den) :
    ∃ gs tw, trackRun ppqn values requant gs t = .ok (tw, [], bars) ∧ (∀ g ∈ gs, 0 < sgLen ppqn g) ∧
      cums 0 (gs.map (sgLen ppqn)) = barLines ppqn bars ∧ ∀ k', zlB (B := (· ∈ barLines ppqn bars)) k' none 0 t := by
  obtain ⟨gs, tw, hrun, hgpos⟩ := C09.bars_run ppqn values tracks metaIdx requant tb h i t bars ht hb hpos
  exact ⟨gs, tw, hrun, hgpos, (trackRun_lines ppqn values requant gs t tw [] bars hrun).trans (C08.cumSums_eq _ _).symm,
    fun k' n hn h0 => hz n (mem_notesOf_of_nk hn) h0⟩

theorem bars_notes_cut (ppqn : Int) (values : List Int) (tracks : List (List Msg)) (metaIdx : Nat)
    (tb : List (List Bar)) (h : splitBars ppqn values tracks metaIdx false = .ok tb)
    (i : Nat) (t : List Msg) (bars : List Bar) (ht : tracks[i]? = some t) (hb : tb[i]? = some bars)
    (hw : NonNegWaits t) (hwf : WF t) (hz : NoZeroOnBarLine ppqn t bars)
    (hpos : ∀ b ∈ bars, 0 < barCapacity ppqn b.num b.den) :
    WF (barsToSeq bars) ∧ NonNegWaits (barsToSeq bars) ∧
      ∀ k, nkNotes k (eventsRel (barsToSeq bars)) none = cutNotes (barLines ppqn bars) (nkNotes k (eventsRel t) none) := by
  obtain ⟨gs, tw, hrun, hgpos, hlines, hzl⟩ := run_of_bars ppqn values tracks metaIdx false tb h i t bars ht hb hz hpos
  have hrun' := fun k => trackRun_notes (B := (· ∈ barLines ppqn bars)) ppqn values gs t tw bars 0 hrun hgpos hw hwf
    (fun b hb => hlines ▸ hb) hzl k
  exact ⟨(hrun' (0, 0)).1, (hrun' (0, 0)).2.1, fun k => by rw [← hlines]; exact (hrun' k).2.2⟩

/-- **sound, re-quantisation off**: laid end to end, a track's bars reproduce its sounding (channel, pitch, tick)
    set exactly — for every track in which no zero-length note sits on a bar line of the result.  Closes audit
    item A6 (the hypothesis `NoZeroNotes t` — no zero-length note anywhere — narrowed to the D18b class; the
    statement without it is refuted by `sound_exact_statement_false`). -/
theorem sound_exact_barlines (ppqn : Int) (values : List Int) (tracks : List (List Msg)) (metaIdx : Nat)
    (tb : List (List Bar)) (h : splitBars ppqn values tracks metaIdx false = .ok tb)
    (i : Nat) (t : List Msg) (bars : List Bar) (ht : tracks[i]? = some t) (hb : tb[i]? = some bars)
    (hw : NonNegWaits t) (hwf : WF t) (hz : NoZeroOnBarLine ppqn t bars)
    (hpos : ∀ b ∈ bars, 0 < barCapacity ppqn b.num b.den) (k : Int × Int) (tick : Int) :
    SoundingAt (eventsRel (barsToSeq bars)) k tick ↔ SoundingAt (eventsRel t) k tick := by
  obtain ⟨hbw, hbn, hN⟩ := bars_notes_cut ppqn values tracks metaIdx tb h i t bars ht hb hw hwf hz hpos
  rw [sounding_iff_covered k tick _ hbn hbw, sounding_iff_covered k tick t hw hwf, hN k]
  exact covered_cutNotes _ _ tick

/-- non-vacuity: a zero-length note in the middle of a bar (excluded by `C09.sound_exact`, admitted here), and a note
    crossing the bar line -/
def exMidBar : List Msg := [Msg.mkWait 0 10, Msg.mkOn 0 60 64 pyNone, Msg.mkOff 0 60 pyNone, Msg.mkWait 0 80,
  Msg.mkOn 0 62 64 pyNone, Msg.mkWait 0 20, Msg.mkOff 0 62 pyNone, Msg.mkWait 0 90]
example : ∃ tb bars, splitBars 24 vals [exMidBar] 0 false = .ok tb ∧ tb[0]? = some bars ∧
    WF exMidBar ∧ NonNegWaits exMidBar ∧ ¬ NoZeroNotes exMidBar ∧ NoZeroOnBarLine 24 exMidBar bars ∧
    barLines 24 bars = [96, 192, 288] := by
  refine ⟨_, _, rfl, rfl, wf_of_keys exMidBar (by decide), by unfold NonNegWaits; decide, ?_, by decide, by decide⟩
  intro h; exact absurd (h (0, 60)) (by decide)
/-- the D18b witness is in the excluded class -/
example : ¬ NoZeroOnBarLine 24 d18b [⟨[], 4, 4, pyNone⟩, ⟨[], 4, 4, pyNone⟩] := by decide +kernel


/-- "re-quantisation on: a subset of it" as the property states it — **false**, see `sound_subset_statement_false` -/
def sound_subset_statement : Prop :=
  ∀ (ppqn : Int) (values : List Int) (tracks : List (List Msg)) (metaIdx : Nat) (tb : List (List Bar))
    (_h : splitBars ppqn values tracks metaIdx true = .ok tb) (i : Nat) (t : List Msg) (bars : List Bar)
    (_ht : tracks[i]? = some t) (_hb : tb[i]? = some bars) (_hw : NonNegWaits t) (_hwf : WF t)
    (_hv : ∀ v ∈ values, 0 < v) (_hpos : ∀ b ∈ bars, 0 < barCapacity ppqn b.num b.den) (k : Int × Int) (tick : Int),
    SoundingAt (eventsRel (barsToSeq bars)) k tick → SoundingAt (eventsRel t) k tick

/-- the model on the D18b witness with re-quantisation on: the torn zero-length note comes back as a note [96,105)
    in the second bar (the real implementation returns the same bars) -/
theorem d18b_bars_requant : splitBars 24 vals [d18b] 0 true
    = .ok [[⟨[Msg.mkTimeSig 0 4 4 pyNone, Msg.mkWait 0 96], 4, 4, pyNone⟩,
            ⟨[Msg.mkTimeSig 0 4 4 pyNone, Msg.mkOn 0 60 64 pyNone, Msg.mkWait 0 9, Msg.mkOff 0 60 pyNone, Msg.mkWait 0 1,
              Msg.mkOn 0 60 64 pyNone, Msg.mkWait 0 9, Msg.mkOff 0 60 pyNone, Msg.mkWait 0 6, Msg.mkWait 0 71], 4, 4, pyNone⟩]] :=
  ok_of_toOption (by decide +kernel)

theorem sound_subset_statement_false : ¬ sound_subset_statement := by
  intro hs
  have := hs 24 vals [d18b] 0 _ d18b_bars_requant 0 d18b _ rfl rfl d18b_ok.2 d18b_ok.1 (by decide) (by decide) (0, 60) 100
  simp only [SoundingAt] at this
  revert this
  decide +kernel

/-! The positive statement for re-quantisation on is `sound_subset_partial` (Props/Strong589R.lean): the conclusion of
    `C09.sound_subset` under the input-level `NoZeroLen t` (no zero-length note anywhere).  That hypothesis cannot be
    narrowed to the bar lines: `sound_subset_boundary_statement_false` (same file). -/

/-! ## C09 — input-level forms (the bar lines are the grid induced by the meta track's signatures) -/

/-- **the D18b class, input-level**: no zero-length note of the track sits on a bar start of the grid induced by the
    signature events `sigs` of the meta track (`gridStart`, Lemmas/BarGrid.lean — computed from `sigs` alone) -/
def NoZeroOnGrid (ppqn : Int) (sigs : List Msg) (t : List Msg) : Prop :=
  ∀ n ∈ notesOf (eventsRel t), n.on = n.off → ¬ OnGrid ppqn sigs n.on

/-- decidable form of `NoZeroOnGrid` (bounded walk along the grid; it implies `NoZeroOnGrid` when all bar lengths are positive,
    `noZeroOnGrid_of_B`) -/
def NoZeroOnGridB (ppqn : Int) (sigs : List Msg) (t : List Msg) : Prop :=
  ∀ n ∈ notesOf (eventsRel t), n.on = n.off → onGridB ppqn sigs (n.on.toNat + 1) 0 n.on = false

instance (ppqn : Int) (sigs : List Msg) (t : List Msg) : Decidable (NoZeroOnGridB ppqn sigs t) := by
  unfold NoZeroOnGridB; infer_instance

theorem not_onGrid_of_B (ppqn : Int) (sigs : List Msg) (hpos : PosBars ppqn sigs) (x : Int)
    (h : onGridB ppqn sigs (x.toNat + 1) 0 x = false) : ¬ OnGrid ppqn sigs x := by
  rintro ⟨j, rfl⟩
  have hc := onGridB_complete ppqn sigs hpos ((gridStart ppqn sigs j).toNat + 1) 0 j (Nat.zero_le _)
    (by simp [gridStart])
  rw [show gridStart ppqn sigs 0 = 0 from rfl, h] at hc
  cases hc

theorem noZeroOnGrid_of_B (ppqn : Int) (sigs : List Msg) (t : List Msg) (hpos : PosBars ppqn sigs)
    (h : NoZeroOnGridB ppqn sigs t) : NoZeroOnGrid ppqn sigs t :=
  fun n hn h0 => not_onGrid_of_B ppqn sigs hpos n.on (h n hn h0)

theorem bars_pos_of_grid (ppqn : Int) (values : List Int) (tracks : List (List Msg)) (metaIdx : Nat)
    (tb : List (List Bar)) (h : splitBars ppqn values tracks metaIdx false = .ok tb)
    (metaTrack : List Msg) (hm : tracks[metaIdx]? = some metaTrack)
    (hpos : PosBars ppqn (sigsOf metaTrack)) (hd : DistinctTicks (sigsOf metaTrack))
    (hal : ∀ m ∈ sigsOf metaTrack, OnGrid ppqn (sigsOf metaTrack) m.time)
    (i : Nat) (bars : List Bar) (hb : tb[i]? = some bars) : ∀ b ∈ bars, 0 < barCapacity ppqn b.num b.den := by
  intro b hbm
  obtain ⟨j, hj, rfl⟩ := List.getElem_of_mem hbm
  have hbar : C09.barAt tb i j = some bars[j] := by
    unfold C09.barAt
    simp [hb, List.getElem?_eq_getElem hj]
  obtain ⟨hsig, _⟩ := bar_signature_in ppqn values tracks metaIdx false tb h metaTrack hm hpos.nonneg hal hd i j _ hbar
  have := sigInForce_cap_pos ppqn _ hpos (gridStart ppqn (sigsOf metaTrack) j)
  rw [← hsig] at this
  exact this

/-- **sound, re-quantisation off, input-level**: if the meta track's signature changes sit on the bar grid they induce
    (at distinct ticks, all bar lengths positive) and no zero-length note of the track sits on a bar start of that
    grid, the track's bars laid end to end reproduce its sounding (channel, pitch, tick) set exactly.  Every hypothesis
    reads the input only.  Closes audit item A6 (D18b as the carved-out class; `sound_exact_statement_false` refutes
    the statement without it). -/
theorem sound_exact_boundary (ppqn : Int) (values : List Int) (tracks : List (List Msg)) (metaIdx : Nat)
    (tb : List (List Bar)) (h : splitBars ppqn values tracks metaIdx false = .ok tb)
    (metaTrack : List Msg) (hm : tracks[metaIdx]? = some metaTrack)
    (hpos : PosBars ppqn (sigsOf metaTrack)) (hd : DistinctTicks (sigsOf metaTrack))
    (hal : ∀ m ∈ sigsOf metaTrack, OnGrid ppqn (sigsOf metaTrack) m.time)
    (i : Nat) (t : List Msg) (bars : List Bar) (ht : tracks[i]? = some t) (hb : tb[i]? = some bars)
    (hw : NonNegWaits t) (hwf : WF t) (hz : NoZeroOnGrid ppqn (sigsOf metaTrack) t) (k : Int × Int) (tick : Int) :
    SoundingAt (eventsRel (barsToSeq bars)) k tick ↔ SoundingAt (eventsRel t) k tick := by
  have hgrid := barLines_onGrid ppqn values tracks metaIdx false tb h metaTrack hm hpos.nonneg hd hal i bars hb
  exact sound_exact_barlines ppqn values tracks metaIdx tb h i t bars ht hb hw hwf
    (fun n hn h0 hmem => hz n hn h0 (hgrid _ hmem))
    (bars_pos_of_grid ppqn values tracks metaIdx tb h metaTrack hm hpos hd hal i bars hb) k tick


/-- **notes, key by key, re-quantisation off**: the notes of one (channel, pitch) in a track's bars laid end to end
    are, in time order, the track's notes of that key cut at the bar lines (same channel, pitch, velocity).
    Closes audit item A6 together with `sound_exact_barlines` ("sounding sets do not determine notes"). -/
theorem notes_cut_bars_key (ppqn : Int) (values : List Int) (tracks : List (List Msg)) (metaIdx : Nat)
    (tb : List (List Bar)) (h : splitBars ppqn values tracks metaIdx false = .ok tb)
    (i : Nat) (t : List Msg) (bars : List Bar) (ht : tracks[i]? = some t) (hb : tb[i]? = some bars)
    (hw : NonNegWaits t) (hwf : WF t) (hz : NoZeroOnBarLine ppqn t bars)
    (hpos : ∀ b ∈ bars, 0 < barCapacity ppqn b.num b.den) (k : Int × Int) :
    (notesOf (eventsRel (barsToSeq bars))).filter (keyIs k)
      = cutNotes (barLines ppqn bars) ((notesOf (eventsRel t)).filter (keyIs k)) := by
  rw [notesOf_key, notesOf_key]
  exact (bars_notes_cut ppqn values tracks metaIdx tb h i t bars ht hb hw hwf hz hpos).2.2 k

/-- **notes, re-quantisation off**: the notes of a track's bars laid end to end are a permutation of the track's notes
    cut at the bar lines.  Closes audit item A6 (notes-level companion of `sound_exact_barlines`). -/
theorem notes_cut_bars (ppqn : Int) (values : List Int) (tracks : List (List Msg)) (metaIdx : Nat)
    (tb : List (List Bar)) (h : splitBars ppqn values tracks metaIdx false = .ok tb)
    (i : Nat) (t : List Msg) (bars : List Bar) (ht : tracks[i]? = some t) (hb : tb[i]? = some bars)
    (hw : NonNegWaits t) (hwf : WF t) (hz : NoZeroOnBarLine ppqn t bars)
    (hpos : ∀ b ∈ bars, 0 < barCapacity ppqn b.num b.den) :
    (notesOf (eventsRel (barsToSeq bars))).Perm (cutNotes (barLines ppqn bars) (notesOf (eventsRel t))) := by
  apply perm_of_keys
  intro k
  rw [cutNotes_filter]
  exact notes_cut_bars_key ppqn values tracks metaIdx tb h i t bars ht hb hw hwf hz hpos k

/-- non-vacuity of the input-level form on `exMidBar` (no signature event: the grid is 0, 96, 192, …) -/
example : PosBars 24 (sigsOf exMidBar) ∧ DistinctTicks (sigsOf exMidBar) ∧
    (∀ m ∈ sigsOf exMidBar, OnGrid 24 (sigsOf exMidBar) m.time) ∧ NoZeroOnGrid 24 (sigsOf exMidBar) exMidBar := by
  have hp : PosBars 24 (sigsOf exMidBar) := by decide +kernel
  refine ⟨hp, by decide +kernel, ?_, noZeroOnGrid_of_B _ _ _ hp (by decide +kernel)⟩
  have : sigsOf exMidBar = [] := by decide +kernel
  rw [this]; simp
/-- … and the D18b witness is excluded by it -/
example : ¬ NoZeroOnGridB 24 (sigsOf d18b) d18b := by decide +kernel

end SCoda.Strong589
