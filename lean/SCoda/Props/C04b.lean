/-
  C04, second part — every view-local function behind a public mutator of `Sequence` keeps its view legal
  (`*_okR`: `OkRel`, `*_okA`: `OkAbs`; the few shapes they fall into are in `Lemmas/OpsTable.lean`).  Where such a
  function is total, the mutator is a step of the generic two-view machine of `Props/C04.lean`, as are the two
  overwrites, `refresh` and the reads (`*_refines`); histories over the whole public alphabet, with the raising and
  the composite operations and the in-place sort of the pairing helpers, are in `Props/C04c.lean`.  The public names
  found by introspection of the Python class (`Gen.sequenceOps`, regenerated on every run) are all classified
  (`ops_covered`, `ops_exist`).
-/
import SCoda.Props.C04
import SCoda.Props.C07
import SCoda.Props.C18
import SCoda.Props.C05
import SCoda.Props.C06
import SCoda.Props.C08
import SCoda.Props.C14
import SCoda.Gen.SeqOps
import SCoda.Lemmas.OpsTable
import SCoda.Lemmas.Cutoff
namespace SCoda.C04
open SCoda

theorem normalise_okR (r : List Msg) (h : OkRel r) : OkRel (normalise r) :=
  (C07.ok_out r h).1
theorem pad_okR (n : Int) (r : List Msg) (h : OkRel r) : OkRel (pad n r) :=
  C18.pad_ok n r h
theorem setChannel_okR (c : Int) (r : List Msg) (h : OkRel r) : OkRel (setChannel c r) :=
  Ops.map_okR ({ · with ch := c }) (fun _ hm => hm) r h
theorem scaleRel_okR (k : Int) (hk : 0 ≤ k) (r : List Msg) (h : OkRel r) : OkRel (scaleRel k r) := by
  rw [C18.scaleRel_eq_map]
  refine Ops.map_okR _ (fun m hm => ?_) r h
  unfold C18.scaleMsg
  split
  · rename_i hw
    exact ⟨hm.1, fun _ => Int.mul_nonneg (hm.2 (by simpa using hw)) hk⟩
  · exact hm
theorem transposeRel_okR (lo hi : Int) (tk : Int → Int) (by_ : Int) (r : List Msg) (h : OkRel r) :
    OkRel (transposeRel lo hi tk by_ r).1 :=
  Ops.map_okR _ (fun m hm => by rw [Ops.Good, C14.transposeMsg_ty, C14.transposeMsg_time]; exact hm) r h
theorem concatenate_okR (r : List Msg) (rs : List (List Msg)) (h : OkRel r) (hs : ∀ x ∈ rs, OkRel x) :
    OkRel (concatenate r rs) := by
  rw [Ops.okRel_iff] at h ⊢
  unfold concatenate
  refine List.forall_mem_append.2 ⟨h, fun m hm => ?_⟩
  obtain ⟨x, hx, hmx⟩ := List.mem_flatten.1 hm
  exact (Ops.okRel_iff x).1 (hs x hx) m hmx
/-- `add_relative_message`: inserting a legal message -/
theorem insertAt_okR (m : Msg) (i : Nat) (r : List Msg) (h : OkRel r)
    (hm : m.ty ≠ .internal ∧ (m.ty = .wait → 0 ≤ m.time)) : OkRel (Seq.insertAt m i r) ∧ OkRel (r ++ [m]) := by
  rw [Ops.okRel_iff] at h
  rw [Ops.okRel_iff, Ops.okRel_iff]
  have hg : Ops.Good m := hm
  refine ⟨?_, List.forall_mem_append.2 ⟨h, List.forall_mem_singleton.2 hg⟩⟩
  induction r generalizing i with
  | nil => cases i <;> exact List.forall_mem_singleton.2 hg
  | cons y ys ih =>
    cases i with
    | zero => exact List.forall_mem_cons.2 ⟨hg, h⟩
    | succ n =>
      rw [List.forall_mem_cons] at h
      exact List.forall_mem_cons.2 ⟨h.1, ih n h.2⟩
/-- an edit through `messages_rel()` that keeps every message legal -/
theorem mapRel_okR (f : Msg → Msg) (r : List Msg) (h : OkRel r)
    (hf : ∀ m, (f m).ty = m.ty ∧ (m.ty = .wait → 0 ≤ m.time → 0 ≤ (f m).time)) : OkRel (r.map f) := by
  refine Ops.map_okR f (fun m hm => ?_) r h
  rw [Ops.Good, (hf m).1]
  exact ⟨hm.1, fun hw => (hf m).2 hw (hm.2 hw)⟩
theorem split_okR (r : List Msg) (caps : List Int) (pieces : List (List Msg)) (h : OkRel r)
    (hs : split r caps = .ok pieces) : ∀ p ∈ pieces, OkRel p :=
  fun p hp => (Ops.okRel_iff p).2 (SplitL.split_forall
    ⟨fun _ _ => by simp [Ops.Good, SplitL.offOf], fun _ _ => by simp [Ops.Good, SplitL.onOf],
      fun _ _ _ _ ht => by simp [Ops.Good, Msg.mkWait]; omega⟩ r caps pieces hs ((Ops.okRel_iff r).1 h) p hp)

theorem insort_eq_spec (l : List Msg) (m : Msg) (hs : TimeSorted l) : insort l m = insortSpec l m := by
  obtain ⟨p, e, h2, h3⟩ := insort_split l m ((timeSorted_iff_pairwise l).1 hs)
  obtain ⟨e1, e2⟩ := takeWhile_eq_take (fun y : Msg => decide (y.time ≤ m.time)) l p
    (fun x hx => by simpa using h2 x hx) (fun x hx => by simpa using h3 x hx)
  rw [e, insortSpec, e1, e2]
theorem insort_okA (l : List Msg) (m : Msg) (h : OkAbs l) (hm : 0 ≤ m.time ∧ m.ty ≠ .wait) : OkAbs (insort l m) := by
  rw [okAbs_iff] at h ⊢
  exact ⟨insort_pairwise l m h.1,
    fun x hx => (List.mem_cons.1 ((insort_perm l m).mem_iff.1 hx)).elim (· ▸ hm) (h.2 x)⟩
/-- `overwrite_absolute_messages`: built by repeated `insort` from the empty list -/
theorem overwrite_okA (ms : List Msg) (hm : ∀ m ∈ ms, 0 ≤ m.time ∧ m.ty ≠ .wait) : OkAbs (ms.foldl insort []) := by
  have key : ∀ (ms acc : List Msg), OkAbs acc → (∀ m ∈ ms, 0 ≤ m.time ∧ m.ty ≠ .wait) → OkAbs (ms.foldl insort acc) := by
    intro ms
    induction ms with
    | nil => intro acc h _; exact h
    | cons m ms ih =>
      intro acc h hms
      rw [List.foldl_cons]
      exact ih _ (insort_okA acc m h (hms m (by simp))) (fun x hx => hms x (by simp [hx]))
  exact key ms [] okAbs_nil hm
theorem sortAbs_okA (a : List Msg) (hn : NonNegTimes a) (hw : ∀ m ∈ a, m.ty ≠ .wait) : OkAbs (sortAbs a) := by
  refine ⟨sortAbs_timeSorted a, ?_, ?_⟩
  · intro m hm; exact hn m ((mem_sortAbs a m).1 hm)
  · intro m hm; exact hw m ((mem_sortAbs a m).1 hm)
theorem mergeAbs_okA (a : List Msg) (others : List (List Msg)) (h : OkAbs a) (hs : ∀ x ∈ others, OkAbs x) :
    OkAbs (mergeAbs a others) :=
  okAbs_sortAbs_flatten (a :: others) (List.forall_mem_cons.2 ⟨h, hs⟩)
theorem cutoff_okA (m r : Int) (hr : 0 ≤ r) (a : List Msg) (h : OkAbs a) : OkAbs (cutoff m r a) := by
  rw [okAbs_iff] at h ⊢
  exact ⟨sortAbs_pairwise _, fun x hx =>
    cutoffGo_forall (T := (0 ≤ ·)) m r (fun _ hy => hy.1) (fun _ _ hy ht => ⟨Int.add_nonneg ht hr, hy.2⟩) _ []
      (fun y hy => h.2 y ((mem_sortAbs a y).1 hy)) (fun _ hkv => by cases hkv) x ((mem_sortAbs _ x).1 hx)⟩
theorem quantise_okA (steps : List Int) (hs : C05.StepsOk steps) (a out : List Msg) (h : OkAbs a)
    (hq : quantise steps a = .ok out) : OkAbs out :=
  C05.sorted_out steps hs a out h hq
/-- the standard length may be anything: only the note values are added to onset ticks -/
theorem qnl_okA_any (values : List Int) (hv : ∀ v ∈ values, 0 ≤ v) (stdLen : Int) (dne : Bool)
    (a out : List Msg) (h : OkAbs a) (hq : quantiseNoteLengths values stdLen dne a = .ok out) : OkAbs out := by
  have hb := C06.out_bounds values hv stdLen dne a out (fun m hm => ⟨h.2.1 m hm, h.2.2 m hm⟩) hq
  exact ⟨C06.sorted_out values stdLen dne a out hq, fun x hx => (hb x hx).1, fun x hx => (hb x hx).2⟩
theorem qnl_okA (values : List Int) (hv : ∀ v ∈ values, 0 ≤ v) (stdLen : Int) (hstd : 0 ≤ stdLen) (dne : Bool)
    (a out : List Msg) (h : OkAbs a) (hq : quantiseNoteLengths values stdLen dne a = .ok out) : OkAbs out :=
  qnl_okA_any values hv stdLen dne a out h hq
/-- an edit through `messages_abs()` that changes neither times nor types -/
theorem mapAbs_okA (f : Msg → Msg) (a : List Msg) (h : OkAbs a)
    (hf : ∀ m, (f m).ty = m.ty ∧ (f m).time = m.time) : OkAbs (a.map f) :=
  Ops.map_okA f (fun m hm => by rw [(hf m).1]; exact hm) (fun m hm => by rw [(hf m).2]; exact hm)
    (fun m m' hmm => by rw [(hf m).2, (hf m').2]; exact hmm) a h

/-- a relative-side mutator of `Model/Wrapper.lean` is the generic `relOp` -/
theorem onRel_refines (s : Seq) (f : List Msg → List Msg) (hf : ∀ r, OkRel r → OkRel (f r)) :
    ((s.onRel (fun r => .ok (f r))).toOption.map ofSeq) = step views (ofSeq s) (.relOp f hf) := by
  obtain ⟨a, r, fa, fr⟩ := s
  cases fa <;> cases fr <;> rfl
theorem onAbs_refines (s : Seq) (f : List Msg → List Msg) (hf : ∀ a, OkAbs a → OkAbs (f a)) :
    ((s.onAbs (fun a => .ok (f a))).toOption.map ofSeq) = step views (ofSeq s) (.absOp f hf) := by
  obtain ⟨a, r, fa, fr⟩ := s
  cases fa <;> cases fr <;> rfl
theorem overwriteAbs_refines (s : Seq) (ms : List Msg) (hm : ∀ m ∈ ms, 0 ≤ m.time ∧ m.ty ≠ .wait) :
    some (ofSeq (s.overwriteAbs ms)) = step views (ofSeq s) (.setAbs (ms.foldl insort []) (overwrite_okA ms hm)) := by
  rfl
theorem overwriteRel_refines (s : Seq) (ms : List Msg) (hm : OkRel ms) :
    some (ofSeq (s.overwriteRel ms)) = step views (ofSeq s) (.setRel ms hm) := by
  rfl
theorem refresh_refines (s : Seq) : (s.refresh.toOption.map ofSeq) = step views (ofSeq s) .refresh := by
  obtain ⟨a, r, fa, fr⟩ := s
  cases fa <;> cases fr <;> rfl
theorem copy_inv (s : Seq) (h : Inv views (ofSeq s)) : Inv views (ofSeq s.copy) ∧
    ContentEq (content views (ofSeq s.copy)) (content views (ofSeq s)) := by
  obtain ⟨a, r, fa, fr⟩ := s
  have h6 := views.E_refl
  cases fa <;> cases fr <;>
    simp_all [Inv, ofSeq, Seq.copy, Seq.ofAbs, Seq.ofRel, content, views, ContentEq]

/-- how each public name of `Sequence` is accounted for -/
inductive Kind | relMut | absMut | setView | read | derive | io | both | excluded
  deriving DecidableEq, Repr

/-- the modelled alphabet: every public attribute of `scoda.sequences.sequence.Sequence` -/
def classification : List (String × Kind) := [
  ("abs", .read), ("rel", .read), ("refresh", .both), ("copy", .derive),
  ("add_absolute_message", .absMut), ("add_relative_message", .relMut), ("concatenate", .relMut),
  ("cutoff", .absMut), ("merge", .both), ("normalise", .relMut), ("pad", .relMut), ("set_channel", .relMut),
  ("scale", .both), ("transpose", .both), ("quantise", .absMut), ("quantise_note_lengths", .absMut),
  ("quantise_and_normalise", .both), ("overwrite_absolute_messages", .setView), ("overwrite_relative_messages", .setView),
  ("messages_abs", .absMut), ("messages_rel", .relMut), ("split", .derive),
  ("equals", .read), ("get_interleaved_message_pairings", .read), ("get_message_pairings", .read),
  ("get_message_times_of_type", .read), ("get_sequence_channel", .read), ("get_sequence_duration", .read),
  ("get_sequence_duration_relation", .read), ("is_channel_consistent", .read), ("is_empty", .read),
  ("to_midi_track", .read), ("save", .io), ("sequences_load", .io), ("sequences_save", .io),
  ("sequences_split_bars", .derive), ("plot_pianorolls", .io),
  -- documented as the caller's responsibility (README), not legal in a history:
  ("invalidate_abs", .excluded), ("invalidate_rel", .excluded)]

/-- every public name found by introspection is classified; a new public method breaks this theorem -/
theorem ops_covered : (Gen.sequenceOps.map (·.1)).all (fun n => (classification.map (·.1)).contains n) = true := by
  decide +kernel
/-- and nothing classified has disappeared -/
theorem ops_exist : (classification.map (·.1)).all (fun n => (Gen.sequenceOps.map (·.1)).contains n) = true := by
  decide +kernel

end SCoda.C04
