/-
  C05 — strengthening that closes audit item A14 (docs/audit_report_round1.md):

  * `notes_injective` (+ corollaries `length_le`, `note_count_le`, `multiset_le`): `quantise` never duplicates a
    message — the output is, up to order, a sub-list of the input with only the `time` field changed, each by at
    most the largest step.  (`C05.displacement` is only `∀ m' ∈ out, ∃ m ∈ a, …`, which a fake output repeating a
    note satisfies.)
  * `no_overlap`: the chain of the per-key view of the result (`Q.quantise_view`) on the independent `notesOf`
    semantics, per (channel, pitch).
  * `dropped_of_lt'`: `C05.dropped_of_lt` without the `a.Nodup` hypothesis.

  `StepsOk steps` (= `steps ≠ [] ∧ ∀ s ∈ steps, 0 < s`) excludes the empty list, zero and negative steps; what
  the model and the real code do there is recorded at the end of this file.
-/
import SCoda.Lemmas.QuantiseRetimed
namespace SCoda.Strong589
open SCoda SCoda.C05 SCoda.Strong589LQ

/-- **no message is duplicated** (closes audit item A14): on a well-formed, time-sorted input the result of
    `quantise` is, up to order, a sub-list `kept` of the input in which only the `time` field of each message was
    changed, by at most the largest step.  Covers note and non-note messages alike. -/
theorem notes_injective (steps : List Int) (hs : StepsOk steps) (a out : List Msg) (hsorted : TimeSorted a)
    (hwf : WF a) (h : quantise steps a = .ok out) :
    ∃ kept q, kept.Sublist a ∧ out.Perm q ∧ Retimed (maxStep steps) kept q :=
  quantise_retimed hs hsorted hwf h

/-- the result has at most as many messages as the input (corollary of `notes_injective`; closes audit item A14) -/
theorem length_le (steps : List Int) (hs : StepsOk steps) (a out : List Msg) (hsorted : TimeSorted a)
    (hwf : WF a) (h : quantise steps a = .ok out) : out.length ≤ a.length := by
  obtain ⟨kept, q, h1, h2, h3⟩ := notes_injective steps hs a out hsorted hwf h
  rw [h2.length_eq, retimed_length h3]
  exact h1.length_le

/-- the result has at most as many note messages as the input (corollary of `notes_injective`; closes audit
    item A14) -/
theorem note_count_le (steps : List Int) (hs : StepsOk steps) (a out : List Msg) (hsorted : TimeSorted a)
    (hwf : WF a) (h : quantise steps a = .ok out) : (out.filter Msg.isNote).length ≤ (a.filter Msg.isNote).length := by
  obtain ⟨kept, q, h1, h2, h3⟩ := notes_injective steps hs a out hsorted hwf h
  rw [(h2.filter _).length_eq, retimed_length (retimed_filter _ isNote_retime h3)]
  exact (h1.filter _).length_le

/-- multiset bound (closes audit item A14): with the time field erased (`Q.zt`), every message occurs in the
    result at most as often as in the input — the output messages map injectively to input messages -/
theorem multiset_le (steps : List Int) (hs : StepsOk steps) (a out : List Msg) (hsorted : TimeSorted a)
    (hwf : WF a) (h : quantise steps a = .ok out) :
    ∀ x, (out.map Q.zt).count x ≤ (a.map Q.zt).count x := by
  obtain ⟨kept, q, h1, h2, h3⟩ := notes_injective steps hs a out hsorted hwf h
  intro x
  rw [(h2.map _).count_eq, retimed_map_zt h3]
  exact (h1.map _).count_le x

/-- **no overlap** (closes audit item A14): in the result, two notes of the same channel and the same pitch never
    overlap — the later one (in the order of `notesOf`, i.e. of their note-offs) starts at or after the end of the
    earlier one.  The key is the pair (channel, pitch): the same pitch on another channel is a different key and
    is not constrained. `notesOf` is the independent reading of `Model/Roll.lean`. -/
theorem no_overlap (steps : List Int) (a out : List Msg) (hwf : WF a) (h : quantise steps a = .ok out) :
    (notesOf out).Pairwise (fun n1 n2 => n1.ch = n2.ch → n1.pitch = n2.pitch → n1.off ≤ n2.on) :=
  no_overlap_any hwf h

/-- **only then**, without `a.Nodup` (closes audit item A14): an isolated note of positive length whose end has no
    grid position after its quantised start is dropped — no note event of its key remains within one largest step
    of it.  Same as `C05.dropped_of_lt` with the hypothesis `a.Nodup` removed. -/
theorem dropped_of_lt' (steps : List Int) (hs : StepsOk steps) (a out : List Msg) (hok : OkAbs a) (hwf : WF a)
    (h : quantise steps a = .ok out) (on off : Msg) (hi : Isolated steps a on off)
    (hlt : on.time < off.time)
    (hnoroom : ∀ p ∈ possiblePositions steps off.time, p ≤ qOn steps on) :
    ∀ m ∈ out, m.nkey = on.nkey → (m.ty = .noteOn ∨ m.ty = .noteOff) →
      m.time + maxStep steps ≤ on.time ∨ off.time + maxStep steps ≤ m.time :=
  dropped_isolated hs hok hwf h hi hlt hnoroom

/-! ### the audit's fake output is excluded by the conclusions -/

def fakeIn : List Msg := [Msg.mkOn 0 60 64 1, Msg.mkOff 0 60 5]
def fakeOut : List Msg := [Msg.mkOn 0 60 64 0, Msg.mkOff 0 60 5, Msg.mkOn 0 60 64 5, Msg.mkOff 0 60 10]

example : quantise [6, 5] fakeIn = .ok [Msg.mkOn 0 60 64 0, Msg.mkOff 0 60 5] := by rfl
example : ¬ (fakeOut.length ≤ fakeIn.length) := by decide +kernel
example : ¬ ((fakeOut.filter Msg.isNote).length ≤ (fakeIn.filter Msg.isNote).length) := by decide +kernel
example : ¬ ∀ x, (fakeOut.map Q.zt).count x ≤ (fakeIn.map Q.zt).count x := by
  intro H
  have := H (Q.zt (Msg.mkOn 0 60 64 0))
  revert this
  decide +kernel
example : ¬ ∃ kept q, kept.Sublist fakeIn ∧ fakeOut.Perm q ∧ Retimed (maxStep [6, 5]) kept q := by
  rintro ⟨kept, q, h1, h2, h3⟩
  have e1 := retimed_length h3
  have e2 := h1.length_le
  have e3 := h2.length_eq
  simp only [fakeIn, fakeOut, List.length_cons, List.length_nil] at e2 e3
  omega

/-! ### non-vacuity: a non-trivial input satisfying all hypotheses, conclusions evaluated on it
    (steps `[12]`; pitch 60 sounds on channels 0 and 1 at the same time; two abutting notes of key (0, 60);
    the short note (0, 62) 7..8 collapses and is dropped; a control change is kept) -/

def exB : List Msg := [Msg.mkOn 0 60 64 1, Msg.mkOn 1 60 70 2, Msg.mkOn 0 62 64 7, Msg.mkOff 0 62 8,
  { ty := .controlChange, ch := 0, time := 9, vel := 1, ctl := 1 }, Msg.mkOff 0 60 11, Msg.mkOn 0 60 50 11,
  Msg.mkOff 1 60 13, Msg.mkOff 0 60 14]
def exBout : List Msg := [Msg.mkOn 0 60 64 0, Msg.mkOn 1 60 70 0,
  { ty := .controlChange, ch := 0, time := 12, vel := 1, ctl := 1 }, Msg.mkOff 0 60 12, Msg.mkOn 0 60 50 12,
  Msg.mkOff 1 60 12, Msg.mkOff 0 60 24]

theorem exB_steps : StepsOk [12] := ⟨by simp, by intro s hs'; simp at hs'; omega⟩
theorem exB_sorted : TimeSorted exB := by simp [TimeSorted, exB, Msg.mkOn, Msg.mkOff]
theorem exB_wf : WF exB := by
  intro k
  simp only [altFrom, exB, Msg.mkOn, Msg.mkOff, Msg.nkey]
  by_cases h0 : ((0 : Int), (60 : Int)) = k
  · subst h0; simp
  · by_cases h1 : ((1 : Int), (60 : Int)) = k
    · subst h1; simp
    · by_cases h2 : ((0 : Int), (62 : Int)) = k
      · subst h2; simp
      · simp [h0, h1, h2]
theorem exB_q : quantise [12] exB = .ok exBout := by rfl
example : [Msg.mkOn 0 60 64 1, Msg.mkOn 1 60 70 2,
    { ty := .controlChange, ch := 0, time := 9, vel := 1, ctl := 1 }, Msg.mkOff 0 60 11, Msg.mkOn 0 60 50 11,
    Msg.mkOff 1 60 13, Msg.mkOff 0 60 14].Sublist exB ∧ Retimed (maxStep [12]) [Msg.mkOn 0 60 64 1, Msg.mkOn 1 60 70 2,
    { ty := .controlChange, ch := 0, time := 9, vel := 1, ctl := 1 }, Msg.mkOff 0 60 11, Msg.mkOn 0 60 50 11,
    Msg.mkOff 1 60 13, Msg.mkOff 0 60 14] exBout := by decide +kernel
example : notesOf exBout = [⟨0, 60, 0, 12, 64⟩, ⟨1, 60, 0, 12, 70⟩, ⟨0, 60, 12, 24, 50⟩] := by decide +kernel
example : (notesOf exBout).Pairwise (fun n1 n2 => n1.ch = n2.ch → n1.pitch = n2.pitch → n1.off ≤ n2.on) :=
  no_overlap [12] exB exBout exB_wf exB_q
example : quantise [12] C05.ex2 = .ok C05.ex2 := by rfl
example : notesOf C05.ex2 = [⟨0, 60, 0, 24, 64⟩, ⟨1, 60, 0, 24, 64⟩] := by decide +kernel

example : ∃ kept q, kept.Sublist exB ∧ exBout.Perm q ∧ Retimed (maxStep [12]) kept q :=
  notes_injective [12] exB_steps exB exBout exB_sorted exB_wf exB_q
example : exBout.length ≤ exB.length := length_le [12] exB_steps exB exBout exB_sorted exB_wf exB_q

/-! `dropped_of_lt'` on an input with a repeated message (`¬ a.Nodup`): the note 7..8 with steps `[12]` has its
    onset moved to 12 and no grid position of its end after that -/
def exD : List Msg := [{ ty := .controlChange, ch := 0, time := 3, vel := 1, ctl := 1 },
  { ty := .controlChange, ch := 0, time := 3, vel := 1, ctl := 1 }, Msg.mkOn 0 60 64 7, Msg.mkOff 0 60 8]
example : ¬ exD.Nodup := by decide +kernel
example : quantise [12] exD = .ok [{ ty := .controlChange, ch := 0, time := 0, vel := 1, ctl := 1 },
  { ty := .controlChange, ch := 0, time := 0, vel := 1, ctl := 1 }] := by rfl
example : Isolated [12] exD (Msg.mkOn 0 60 64 7) (Msg.mkOff 0 60 8) := by constructor <;> decide
example : OkAbs exD ∧ WF exD := by
  refine ⟨⟨by simp [TimeSorted, exD, Msg.mkOn, Msg.mkOff], by simp [NonNegTimes, exD, Msg.mkOn, Msg.mkOff],
    by decide⟩, ?_⟩
  intro k
  simp only [altFrom, exD, Msg.mkOn, Msg.mkOff, Msg.nkey]
  by_cases hk : ((0 : Int), (60 : Int)) = k <;> simp [hk]
example : ∀ p ∈ possiblePositions [12] (Msg.mkOff 0 60 8).time, p ≤ qOn [12] (Msg.mkOn 0 60 64 7) := by decide +kernel

/-! ### why `WF a` is needed: on an ill-formed input (a key re-triggered while open) the code fabricates a
    note-off that is no input message (absolute_sequence.py:233-240); the real code returns the same three messages -/
example : quantise [4] [Msg.mkOn 0 60 64 0, Msg.mkOn 0 60 64 8] =
    .ok [Msg.mkOn 0 60 64 0, Msg.mkOff 0 60 8, Msg.mkOn 0 60 64 8] := by rfl

/-! ### the points excluded by `StepsOk` (empty list, step 0, negative steps)

  Real code (`/repo/scoda/sequences/absolute_sequence.py:184-298`, run with /venv/bin/python on
  `fakeIn = [on(0,60,v64)@1, off(0,60)@5]`, on `exB` and on `[cc@5]`) against the model:
  * `steps = []`  : Python raises `IndexError` (`valid_positions[0]` on an empty list, l.231) on every non-empty
                    well-formed input; the model returns `.error .indexError` — they agree (both return `[]` on the
                    empty input).
  * `steps = [0]` : Python raises `ZeroDivisionError` (l.222); the model returns `.ok …` with every message on
                    tick 0 (Lean's `t / 0 = 0`) — they DIVERGE (`possiblePositions`, Model/Quantise.lean).
  * `steps = [-4]`: Python returns `[on@0, off@4]` on `fakeIn` and `[cc@4]` on `[cc@5]`, and so does the model, but
                    on `exB` they DIVERGE (Python `//` floors, Lean's `Int` division is Euclidean: for `t = 7`
                    Python's candidates are `8, 4`, the model's `4, 0`).
  The conclusion of `notes_injective` is false of the model at `[0]` and `[-4]` (the displacement bound, below);
  `no_overlap` needs no hypothesis on the steps. -/
example : quantise [] fakeIn = .error .indexError := by rfl
example : quantise [] [] = .ok [] := by rfl
example : quantise [0] fakeIn = .ok [] := by rfl
example : quantise [-4] fakeIn = .ok [Msg.mkOn 0 60 64 0, Msg.mkOff 0 60 4] := by rfl
example : possiblePositions [-4] 7 = [4, 0] := by decide +kernel

def ccAt (t : Int) : Msg := { ty := .controlChange, ch := 0, time := t, vel := 1, ctl := 1 }
example : quantise [0] [ccAt 5] = .ok [ccAt 0] := by rfl
example : quantise [-4] [ccAt 5] = .ok [ccAt 4] := by rfl
example : ¬ ∃ kept q, kept.Sublist [ccAt 5] ∧ [ccAt 0].Perm q ∧ Retimed (maxStep [0]) kept q := by
  rintro ⟨kept, q, h1, h2, h3⟩
  obtain ⟨m, hm, _, hb⟩ := retimed_mem h3 (ccAt 0) (h2.subset (by simp))
  have := h1.subset hm
  simp only [List.mem_singleton] at this
  subst this
  revert hb
  decide +kernel
example : ¬ ∃ kept q, kept.Sublist [ccAt 5] ∧ [ccAt 4].Perm q ∧ Retimed (maxStep [-4]) kept q := by
  rintro ⟨kept, q, h1, h2, h3⟩
  obtain ⟨m, hm, _, hb⟩ := retimed_mem h3 (ccAt 4) (h2.subset (by simp))
  have := h1.subset hm
  simp only [List.mem_singleton] at this
  subst this
  revert hb
  decide +kernel

end SCoda.Strong589
