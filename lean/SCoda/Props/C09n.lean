/-
  C09 (bar splitting, re-quantisation off: the bars reproduce the sounding set exactly) with the D18b carve-out
  narrowed at tick 0 — closes audit round 2, item F5 ("carve-outs wider than the recorded finding"), row C09 of its
  section D table ("exact / tick 0 too wide").

  `Strong589.NoZeroOnGrid` excludes a zero-length note (note-on and note-off on one tick) on ANY bar start of the grid
  induced by the meta track's signatures, tick 0 included.  Tick 0 is a bar start but no cut point: nothing is torn
  apart there (replayed on the library: a zero-length note at tick 0 followed by notes of the same key, of another key,
  crossing the next bar line, with a 3/4 signature at tick 0 — `sequences_split_bars` reproduces the sounding set in
  every case; the defect D18b needs a bar line > 0).  Here the input-level theorem is proved under
  `NoZeroOnGrid'` = "no zero-length note on a bar start AFTER tick 0".

  The output-level `Strong589.NoZeroOnBarLine` speaks of bar LINES (bar ends, `barLines`), which are positive whenever
  the bar lengths are, so it does not exclude tick 0 (`noZeroOnBarLine_iff`); `sound_exact_barlines'` states this.
-/
import SCoda.Props.Strong589
namespace SCoda.C09n
open SCoda SCoda.SplitL SCoda.SB SCoda.BarL SCoda.Strong589 SCoda.Strong589L SCoda.Strong589LT SCoda.Strong589LB

/-- **the D18b class, input-level, exactly at tick 0**: no zero-length note of the track sits on a bar start AFTER tick 0
    of the grid induced by the signature events `sigs` of the meta track -/
def NoZeroOnGrid' (ppqn : Int) (sigs : List Msg) (t : List Msg) : Prop :=
  ∀ n ∈ notesOf (eventsRel t), n.on = n.off → 0 < n.on → ¬ OnGrid ppqn sigs n.on

/-- decidable form of `NoZeroOnGrid'` (bounded walk along the grid; it implies `NoZeroOnGrid'` when all bar lengths are positive) -/
def NoZeroOnGridB' (ppqn : Int) (sigs : List Msg) (t : List Msg) : Prop :=
  ∀ n ∈ notesOf (eventsRel t), n.on = n.off → 0 < n.on → onGridB ppqn sigs (n.on.toNat + 1) 0 n.on = false

instance (ppqn : Int) (sigs : List Msg) (t : List Msg) : Decidable (NoZeroOnGridB' ppqn sigs t) := by
  unfold NoZeroOnGridB'; infer_instance

theorem noZeroOnGrid'_of_B (ppqn : Int) (sigs : List Msg) (t : List Msg) (hpos : PosBars ppqn sigs)
    (h : NoZeroOnGridB' ppqn sigs t) : NoZeroOnGrid' ppqn sigs t :=
  fun n hn h0 hp => not_onGrid_of_B ppqn sigs hpos n.on (h n hn h0 hp)

theorem noZeroOnGrid'_of_old (ppqn : Int) (sigs : List Msg) (t : List Msg) (h : NoZeroOnGrid ppqn sigs t) :
    NoZeroOnGrid' ppqn sigs t :=
  fun n hn h0 _ => h n hn h0

/-- **the D18b class, output-level, with tick 0 spelt out** -/
def NoZeroOnBarLine' (ppqn : Int) (t : List Msg) (bars : List Bar) : Prop :=
  ∀ n ∈ notesOf (eventsRel t), n.on = n.off → 0 < n.on → n.on ∉ barLines ppqn bars

instance (ppqn : Int) (t : List Msg) (bars : List Bar) : Decidable (NoZeroOnBarLine' ppqn t bars) := by
  unfold NoZeroOnBarLine'; infer_instance

/-- bar lines (bar ends) of bars of positive length are positive: `NoZeroOnBarLine` does not exclude tick 0 -/
theorem noZeroOnBarLine_iff (ppqn : Int) (t : List Msg) (bars : List Bar)
    (hpos : ∀ b ∈ bars, 0 < barCapacity ppqn b.num b.den) :
    NoZeroOnBarLine ppqn t bars ↔ NoZeroOnBarLine' ppqn t bars := by
  constructor
  · exact fun h n hn h0 _ => h n hn h0
  · intro h n hn h0 hmem
    refine h n hn h0 ?_ hmem
    apply C08.cumSums_pos _ 0 (Int.le_refl _) _ _ hmem
    intro c hc
    obtain ⟨b, hb, rfl⟩ := List.mem_map.1 hc
    exact hpos b hb

/-- **sound, re-quantisation off** (closes audit round 2 F5, row C09): laid end to end, a track's bars reproduce its
    sounding (channel, pitch, tick) set exactly — for every track in which no zero-length note sits on a bar line
    after tick 0 of the result.  A zero-length note at tick 0 is allowed. -/
theorem sound_exact_barlines' (ppqn : Int) (values : List Int) (tracks : List (List Msg)) (metaIdx : Nat)
    (tb : List (List Bar)) (h : splitBars ppqn values tracks metaIdx false = .ok tb)
    (i : Nat) (t : List Msg) (bars : List Bar) (ht : tracks[i]? = some t) (hb : tb[i]? = some bars)
    (hw : NonNegWaits t) (hwf : WF t) (hz : NoZeroOnBarLine' ppqn t bars)
    (hpos : ∀ b ∈ bars, 0 < barCapacity ppqn b.num b.den) (k : Int × Int) (tick : Int) :
    SoundingAt (eventsRel (barsToSeq bars)) k tick ↔ SoundingAt (eventsRel t) k tick :=
  sound_exact_barlines ppqn values tracks metaIdx tb h i t bars ht hb hw hwf
    ((noZeroOnBarLine_iff ppqn t bars hpos).2 hz) hpos k tick

/-- **sound, re-quantisation off, input-level** (closes audit round 2 F5, row C09): if the meta track's signature
    changes sit on the bar grid they induce (at distinct ticks, all bar lengths positive) and no zero-length note of the
    track sits on a bar start AFTER tick 0 of that grid, the track's bars laid end to end reproduce its sounding (channel,
    pitch, tick) set exactly.  Every hypothesis reads the input only; the carved-out class is exactly D18b's
    (`Strong589.sound_exact_statement_false` refutes the statement without it). -/
theorem sound_exact_boundary' (ppqn : Int) (values : List Int) (tracks : List (List Msg)) (metaIdx : Nat)
    (tb : List (List Bar)) (h : splitBars ppqn values tracks metaIdx false = .ok tb)
    (metaTrack : List Msg) (hm : tracks[metaIdx]? = some metaTrack)
    (hpos : PosBars ppqn (sigsOf metaTrack)) (hd : DistinctTicks (sigsOf metaTrack))
    (hal : ∀ m ∈ sigsOf metaTrack, OnGrid ppqn (sigsOf metaTrack) m.time)
    (i : Nat) (t : List Msg) (bars : List Bar) (ht : tracks[i]? = some t) (hb : tb[i]? = some bars)
    (hw : NonNegWaits t) (hwf : WF t) (hz : NoZeroOnGrid' ppqn (sigsOf metaTrack) t) (k : Int × Int) (tick : Int) :
    SoundingAt (eventsRel (barsToSeq bars)) k tick ↔ SoundingAt (eventsRel t) k tick := by
  have hgrid := barLines_onGrid ppqn values tracks metaIdx false tb h metaTrack hm hpos.nonneg hd hal i bars hb
  exact sound_exact_barlines' ppqn values tracks metaIdx tb h i t bars ht hb hw hwf
    (fun n hn h0 hp hmem => hz n hn h0 hp (hgrid _ hmem))
    (bars_pos_of_grid ppqn values tracks metaIdx tb h metaTrack hm hpos hd hal i bars hb) k tick

/-- a zero-length note at tick 0, then a note of the same key, then one crossing the bar line 96 -/
def exZero0 : List Msg := [Msg.mkOn 0 60 64 pyNone, Msg.mkOff 0 60 pyNone, Msg.mkWait 0 10, Msg.mkOn 0 60 64 pyNone,
  Msg.mkWait 0 10, Msg.mkOff 0 60 pyNone, Msg.mkWait 0 60, Msg.mkOn 0 62 64 pyNone, Msg.mkWait 0 30, Msg.mkOff 0 62 pyNone,
  Msg.mkWait 0 82]

/-- the example meets the input-level hypothesis `NoZeroOnGrid'` and not `Strong589.NoZeroOnGrid` … -/
example : PosBars 24 (sigsOf exZero0) ∧ DistinctTicks (sigsOf exZero0) ∧
    (∀ m ∈ sigsOf exZero0, OnGrid 24 (sigsOf exZero0) m.time) ∧ WF exZero0 ∧ NonNegWaits exZero0 ∧
    NoZeroOnGrid' 24 (sigsOf exZero0) exZero0 ∧ ¬ NoZeroOnGrid 24 (sigsOf exZero0) exZero0 := by
  have hp : PosBars 24 (sigsOf exZero0) := by decide +kernel
  refine ⟨hp, by decide +kernel, ?_, wf_of_keys exZero0 (by decide), by unfold NonNegWaits; decide,
    noZeroOnGrid'_of_B _ _ _ hp (by decide +kernel), ?_⟩
  · have : sigsOf exZero0 = [] := by decide +kernel
    rw [this]; simp
  · intro h
    exact h ⟨0, 60, 0, 0, 64⟩ (by decide) rfl ⟨0, rfl⟩

/-- … and the conclusion evaluated on it: two 4/4 bars whose sounding set is the track's -/
example : ∃ tb bars, splitBars 24 vals [exZero0] 0 false = .ok tb ∧ tb[0]? = some bars ∧ barLines 24 bars = [96, 192] ∧
    NoZeroOnBarLine' 24 exZero0 bars ∧
    notesOf (eventsRel (barsToSeq bars)) = [⟨0, 60, 0, 0, 64⟩, ⟨0, 60, 10, 20, 64⟩, ⟨0, 62, 80, 96, 64⟩, ⟨0, 62, 96, 110, 64⟩] := by
  refine ⟨_, _, rfl, rfl, by decide, by decide, by decide⟩

/-- the D18b witness stays excluded -/
example : ¬ NoZeroOnGridB' 24 (sigsOf d18b) d18b := by decide +kernel

end SCoda.C09n
