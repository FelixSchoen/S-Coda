/-
  Specification vocabulary of C09 that the input-level bar grid (`Lemmas/BarGrid.lean`) is built on: the bar at a
  position of the result, and the signature / key in force at a tick.  The properties are in `Props/C09.lean`.
-/
import SCoda.Model.Bar
namespace SCoda.C09
open SCoda

def barAt (tb : List (List Bar)) (i k : Nat) : Option Bar := tb[i]? >>= (·[k]?)

/-- the signature in force at tick `t` according to the (time-sorted) signature events `sigs`, 4/4 before any -/
def sigInForce (sigs : List Msg) (t : Int) : Int × Int :=
  match (sigs.filter (fun m => decide (m.time ≤ t))).getLast? with
  | some m => (m.num, m.den)
  | Option.none => (4, 4)

/-- the key in force at tick `t`, `pyNone` before any -/
def keyInForce (keys : List Msg) (t : Int) : Int :=
  match (keys.filter (fun m => decide (m.time ≤ t))).getLast? with
  | some m => m.key
  | Option.none => pyNone

end SCoda.C09
