/-
  The identity model of C16 tied to the source BY TRANSLATION, part 3: the four view-level methods that `Model/HeapLib.lean` has as
  LINKS — `RelativeSequence.to_absolute_sequence`, `AbsoluteSequence.to_relative_sequence`, `RelativeSequence.normalise_relative`,
  `RelativeSequence.pad` — translated statement by statement by `tools/py2lean_heap3.py` (`Gen/HeapFns3.lean`; values are translated
  exactly, there is no oracle).  This file proves, for every input heap and every receiver, what `HeapOps` ASSUMES of the links
  `convView`, `rebuildView`, `padView` — by SIMULATION, not equality (the code allocates the view object before its messages, the model
  after; values come from the code, not from an oracle).

  WHAT THE FOUR METHODS DO WITH IDENTITIES
  * the two conversions (`toAbs_*`, `toRel_*`): NO cell that existed is written — `message_to_add.time = …` is a store into the COPY
    (`msg.copy()`), never into the receiver's message; the sort and the `binary_insort` of `to_absolute_sequence` re-order the NEW view's
    list only.  The result is a view object allocated by the call and EVERY message reference in it is a message allocated by the call
    (`*_result`): no message object is shared with the receiver.  This is exactly `HeapOps.convView` ("a new view, all messages new").
  * `normalise_relative` (`normalise_*`): the ONLY cell that existed and is written is the receiver's list cell (`self._messages = …`);
    no message of the receiver is written (waits are consolidated into NEW `Message` objects, an existing wait is never lengthened), no other
    view; the new list holds message objects of the old list and messages allocated by the call.  This is exactly `HeapOps.rebuildView`.
  * `pad` (`pad_*`): the same frame; the list afterwards is the old list, or the old list with ONE new message appended
    (`pad_shape`: an existing trailing wait is never lengthened in place).  This is exactly `HeapOps.padView`.
  `link_frames_agree`: the three `HeapOps` links write within the same frames (for every oracle) — no disagreement between the identity model
  and the translated code was found.
  `*_spec`: the region-calculus statements `HeapL.convView_spec` / `rebuildView_spec` / `padView_spec` for the TRANSLATED methods (all that
  `Props/C16c.lean` uses of the links).  `*_ok`: three of the four methods return normally under input-level conditions (`to_absolute_sequence`: stated only, `toAbs_ok_statement`).
-/
import SCoda.Lemmas.HeapTie3L
import SCoda.Props.HeapTie2
namespace SCoda.HeapTie3
open SCoda SCoda.HeapOps SCoda.HeapLib SCoda.HeapL SCoda.Gen.HeapFns SCoda.Gen.HeapFns3 SCoda.HeapTieL SCoda.HeapTie2L SCoda.HeapTie3L SCoda.C16c

/-- what a conversion may have done to the heap `h`: allocated messages and views, written nothing that existed; `p` is a view allocated by
    the call and all its messages were allocated by the call (and have a channel) -/
structure ConvPost (h h' : Heap) (p : Nat) : Prop where
  le : ∀ k, h.next k ≤ h'.next k
  same : ∀ c, h.alloc c → h'.get c = h.get c
  kinds : h'.nSeq = h.nSeq ∧ h'.nBar = h.nBar ∧ h'.nTrk = h.nTrk ∧ h'.nCmp = h.nCmp
  view : h.nLst ≤ p ∧ p < h'.nLst
  fresh : ∀ i ∈ h'.lst p, h.nMsg ≤ i ∧ i < h'.nMsg ∧ (h'.msg i).ch ≠ pyNone

theorem convPost_of_inv {h h' : Heap} {p : Nat} (hi : Inv h [] h') (hp : OkV h h' p) : ConvPost h h' p :=
  ⟨hi.ext.1, hi.ext.2, hi.kinds, hp, fun i hm => by
    rcases hi.views p hp i hm with h1 | h1
    · simp at h1
    · exact ⟨h1.1, h1.2, hi.chan i h1.1 h1.2⟩⟩

/-- the region statement from `InvM`: a good region that contains the receiver's view object stays good, nothing outside it is written -/
theorem spec_of_invM {X : Region} {h h' : Heap} {l : Nat} (hg : Good X h) (hl : In X h (.lst, l)) (hi : InvM h l h') : Spec X h h' :=
  ⟨hg.views hi.le hi.kinds.2
      (fun c _ ha => if e : c = (.lst, l) then Or.inr ⟨l, e, fun i hm => (hi.lst i hm).imp_left (lst_in hg hl i)⟩
        else Or.inl (hi.same c ha e))
      (fun p h1 h2 => absurd h2 (by have := hi.kinds.1; omega)),
    hi.le, fun c hc => hi.same c (hg.alloc_of_not hc) (fun he => hc (he ▸ hl.1))⟩

theorem toRel_inv (g : GOrc) (tag l : Nat) (h : Heap) : Inv h [] (absoluteSequenceToRelativeSequence g tag l h).2 :=
  sat_run_both ((toRel_sat g tag l h).mono (fun _ _ hq => hq.1) (fun _ he => he.1))

/-- FRAME of `to_relative_sequence`: NO cell that existed when it was called is written — every allocated cell (the receiver's list, every
    message of the receiver, every wrapper) has the content it had: `message_to_add.time = None` is a store into the copy.  Only messages
    and view objects are allocated.  Holds on both exits. (A2; link `absToRelativeSequence` / `convView`) -/
theorem toRel_frame (g : GOrc) (tag l : Nat) (h : Heap) :
    let h' := (absoluteSequenceToRelativeSequence g tag l h).2
    (∀ k, h.next k ≤ h'.next k) ∧ (∀ c, h.alloc c → h'.get c = h.get c)
      ∧ h'.nSeq = h.nSeq ∧ h'.nBar = h.nBar ∧ h'.nTrk = h.nTrk ∧ h'.nCmp = h.nCmp :=
  let hi := toRel_inv g tag l h
  ⟨hi.ext.1, hi.ext.2, hi.kinds⟩

/-- RESULT of `to_relative_sequence`: the returned view object was allocated by the call, and EVERY message reference in it is a message
    allocated by the call (with a channel): the new WAITs and the copies; no message object is shared with the receiver. (A2) -/
theorem toRel_result (g : GOrc) (tag l : Nat) (h : Heap) (p : Nat) (hok : (absoluteSequenceToRelativeSequence g tag l h).1 = .ok p) :
    ConvPost h (absoluteSequenceToRelativeSequence g tag l h).2 p :=
  let hq := (sat_run (toRel_sat g tag l h)).1 p hok
  convPost_of_inv hq.1 hq.2

theorem conv_spec {X : Region} {h h' : Heap} {p : Nat} (hg : Good X h) (hc : Conv h p h') : Spec X h h' ∧ In X h' (.lst, p) :=
  (HeapTie2.spec_of_inv hg (src := []) (by simp) hc.1).imp_right fun hin => hin p hc.2

/-- `HeapL.convView_spec` for the TRANSLATED `to_relative_sequence` (no hypothesis on the receiver): every good region stays good, nothing
    outside it is written, the result is in it.  With `X := Fresh h` this is freshness of the regenerated view. (A2) -/
theorem toRel_spec {X : Region} (g : GOrc) (tag l : Nat) {h : Heap} (hg : Good X h) :
    Spec X h (absoluteSequenceToRelativeSequence g tag l h).2
      ∧ ∀ p, (absoluteSequenceToRelativeSequence g tag l h).1 = .ok p → In X (absoluteSequenceToRelativeSequence g tag l h).2 (.lst, p) :=
  ⟨(HeapTie2.spec_of_inv hg (src := []) (by simp) (toRel_inv g tag l h)).1,
    fun p hok => (conv_spec hg ((sat_run (toRel_sat g tag l h)).1 p hok)).2⟩

theorem toAbs_inv (g : GOrc) (tag l : Nat) (h : Heap) : Inv h [] (relativeSequenceToAbsoluteSequence g tag l h).2 :=
  sat_run_both ((toAbs_sat g tag l h).mono (fun _ _ hq => hq.1) (fun _ he => he))

/-- FRAME of `to_absolute_sequence`: NO cell that existed is written: `message_to_add.time = current_point_in_time` is a store into the
    copy; `normalise_absolute` (the sort) and `add_message` (`binary_insort`) re-order / extend the list of the NEW view.  Both exits. (A2) -/
theorem toAbs_frame (g : GOrc) (tag l : Nat) (h : Heap) :
    let h' := (relativeSequenceToAbsoluteSequence g tag l h).2
    (∀ k, h.next k ≤ h'.next k) ∧ (∀ c, h.alloc c → h'.get c = h.get c)
      ∧ h'.nSeq = h.nSeq ∧ h'.nBar = h.nBar ∧ h'.nTrk = h.nTrk ∧ h'.nCmp = h.nCmp :=
  let hi := toAbs_inv g tag l h
  ⟨hi.ext.1, hi.ext.2, hi.kinds⟩

/-- RESULT of `to_absolute_sequence`: a view allocated by the call whose message references are ALL messages allocated by the call (the
    copies and the INTERNAL cap message). (A2) -/
theorem toAbs_result (g : GOrc) (tag l : Nat) (h : Heap) (p : Nat) (hok : (relativeSequenceToAbsoluteSequence g tag l h).1 = .ok p) :
    ConvPost h (relativeSequenceToAbsoluteSequence g tag l h).2 p :=
  let hq := (sat_run (toAbs_sat g tag l h)).1 p hok
  convPost_of_inv hq.1 hq.2

/-- `HeapL.convView_spec` for the TRANSLATED `to_absolute_sequence`. (A2) -/
theorem toAbs_spec {X : Region} (g : GOrc) (tag l : Nat) {h : Heap} (hg : Good X h) :
    Spec X h (relativeSequenceToAbsoluteSequence g tag l h).2
      ∧ ∀ p, (relativeSequenceToAbsoluteSequence g tag l h).1 = .ok p → In X (relativeSequenceToAbsoluteSequence g tag l h).2 (.lst, p) :=
  ⟨(HeapTie2.spec_of_inv hg (src := []) (by simp) (toAbs_inv g tag l h)).1,
    fun p hok => (conv_spec hg ((sat_run (toAbs_sat g tag l h)).1 p hok)).2⟩

/-- the receiver of a conversion after the call: the same list of the same message objects with the same field values -/
theorem conv_receiver {h h' : Heap} {l : Nat} (hi : Inv h [] h') (hl : l < h.nLst) (hm : ∀ i ∈ h.lst l, i < h.nMsg) :
    h'.lst l = h.lst l ∧ h'.viewVals l = h.viewVals l :=
  receiver_of_ext hi.ext hl hm

/-- FRAME and RESULT of `normalise_relative` (both exits): the only cell that existed and may be written is the receiver's LIST cell
    (`self._messages = messages_normalized`); every other allocated cell — every message of the receiver included: a wait is consolidated into
    a NEW message, never lengthened in place — keeps its content; only messages are allocated; the list afterwards holds message objects of
    the old list and messages allocated by the call (with a channel). (A2; link `relNormaliseRelative` / `rebuildView`) -/
theorem normalise_frame (g : GOrc) (tag l : Nat) (h : Heap) : InvM h l (relativeSequenceNormaliseRelative g tag l h).2 :=
  sat_run_both ((normalise_sat g tag l h).mono (fun _ _ hq => hq) (fun _ he => he.1))

/-- `HeapL.rebuildView_spec` for the TRANSLATED `normalise_relative`. (A2) -/
theorem normalise_spec {X : Region} (g : GOrc) (tag : Nat) {h : Heap} (hg : Good X h) {l : Nat} (hl : In X h (.lst, l)) :
    Spec X h (relativeSequenceNormaliseRelative g tag l h).2 :=
  spec_of_invM hg hl (normalise_frame g tag l h)

/-- FRAME and RESULT of `pad` (both exits): as for `normalise_relative`. (A2; link `relPad` / `padView`) -/
theorem pad_frame (g : GOrc) (tag l : Nat) (n : Int) (h : Heap) : InvM h l (relativeSequencePad g tag l n h).2 :=
  sat_run_both ((pad_sat g tag l n h).mono
    (fun _ _ hq => hq.elim (fun e => e.symm ▸ InvM.of_msgOnly l (MsgOnly.refl h)) (fun ⟨_, hw, e⟩ => e ▸ InvM.pad h l hw))
    (fun _ he => he.1.symm ▸ InvM.of_msgOnly l (MsgOnly.refl h)))

/-- `HeapL.padView_spec` for the TRANSLATED `pad`. (A2) -/
theorem pad_spec {X : Region} (g : GOrc) (tag : Nat) (n : Int) {h : Heap} (hg : Good X h) {l : Nat} (hl : In X h (.lst, l)) :
    Spec X h (relativeSequencePad g tag l n h).2 :=
  spec_of_invM hg hl (pad_frame g tag l n h)

/-- the shape of the receiver's list after `pad`: unchanged (nothing allocated), or exactly ONE message allocated by the call — a WAIT —
    appended at the end; an existing trailing wait is never lengthened in place.  On an exception nothing at all has changed. (A2) -/
theorem pad_shape (g : GOrc) (tag l : Nat) (n : Int) (h : Heap) :
    let r := relativeSequencePad g tag l n h
    (r.1 = .ok () → (r.2.lst l = h.lst l ∧ r.2.nMsg = h.nMsg)
        ∨ (r.2.lst l = h.lst l ++ [h.nMsg] ∧ r.2.nMsg = h.nMsg + 1 ∧ (r.2.msg h.nMsg).ty = .wait))
      ∧ ((∀ a, r.1 ≠ .ok a) → r.2 = h) := by
  have hs := sat_run (pad_sat g tag l n h)
  refine ⟨fun hok => (hs.1 () hok).imp (fun e => by rw [e]; exact ⟨rfl, rfl⟩) (fun ⟨w, hw, e⟩ => ?_), fun hn => (hs.2 hn).1⟩
  rw [e]
  exact ⟨lst_setLst .., rfl, by rw [msg_setLst', msg_newMsg_self]; exact hw.2⟩

/-- `to_relative_sequence` returns normally when every message of the receiver exists and has a `time`.
    (Excluded point: a message whose `time` is `None` — the real code raises `TypeError` at `time > current_point_in_time`; replayed.) (A2) -/
theorem toRel_ok (g : GOrc) (tag l : Nat) (h : Heap) (hin : ∀ i ∈ h.lst l, i < h.nMsg ∧ (h.msg i).time ≠ pyNone) :
    ∃ p, (absoluteSequenceToRelativeSequence g tag l h).1 = .ok p :=
  (sat_ok ((toRel_sat g tag l h).mono (fun _ _ hq => hq)
    (fun _ ⟨hi, i, hm, ht⟩ => (hin i hm).2 (Ext.msg hi.ext (hin i hm).1 ▸ ht)))).imp (fun _ hp => hp.1)

/-- `pad` returns normally when every WAIT of the receiver has a `time` (excluded point: `TypeError` at `current_length += msg.time`). (A2) -/
theorem pad_ok (g : GOrc) (tag l : Nat) (n : Int) (h : Heap) (hin : ∀ i ∈ h.lst l, (h.msg i).ty = .wait → (h.msg i).time ≠ pyNone) :
    (relativeSequencePad g tag l n h).1 = .ok () :=
  (sat_ok ((pad_sat g tag l n h).mono (fun _ _ hq => hq) (fun _ ⟨_, i, hm, hw, ht⟩ => hin i hm hw ht))).elim (fun _ ha => ha.1)

/-- `normalise_relative` returns normally when every message of the receiver exists and every WAIT has a `time`: every
    `open_messages[msg.channel]` follows a `setdefault` (no `KeyError`), `note_list.pop(-1)` is guarded by `len(note_list) == 0` (no
    `IndexError`), `messages_normalized.remove(msg)` by `msg in messages_normalized`. (A2) -/
theorem normalise_ok (g : GOrc) (tag l : Nat) (h : Heap)
    (hin : ∀ i ∈ h.lst l, i < h.nMsg ∧ ((h.msg i).ty = .wait → (h.msg i).time ≠ pyNone)) :
    (relativeSequenceNormaliseRelative g tag l h).1 = .ok () :=
  (sat_ok ((normalise_sat g tag l h).mono (fun _ _ hq => hq)
    (fun _ ⟨hi, i, hm, hw, ht⟩ => by
      rw [hi.msg (hin i hm).1] at hw ht
      exact (hin i hm).2 hw ht))).elim (fun _ ha => ha.1)

/-- NOT PROVED (kept as a statement): `to_absolute_sequence` returns normally when every message of the receiver exists, every WAIT has a
    time ≥ 0 (so that `current_point_in_time` never is the encoding of `None`), and the keys of the copies are comparable (two non-WAIT messages of
    the same type both have a note or both have none: otherwise `AbsoluteSequence.sort` raises `TypeError`, `SortTie.sortOf_raises`; replayed on the
    real code).  What is missing is the value-level invariant of the loop (the copies' times are the running totals) that feeds `SortTie.SortDom`
    and the index / fuel invariant `0 ≤ lo ≤ hi ≤ len`, `hi - lo` halves, of the translated `binary_insort`.  TESTED, not proved: the kernel-checked
    example below and tools/diff_py2lean_heap3.py (467 calls of `to_absolute_sequence`, the exception cases included, 0 differences; `HErr.fuel`
    never occurs). -/
def toAbs_ok_statement : Prop :=
  ∀ (g : GOrc) (tag l : Nat) (h : Heap),
    (∀ i ∈ h.lst l, i < h.nMsg ∧ ((h.msg i).ty = .wait → 0 ≤ (h.msg i).time)) →
    (∀ i ∈ h.lst l, ∀ j ∈ h.lst l, (h.msg i).ty ≠ .wait → (h.msg i).ty = (h.msg j).ty → ((h.msg i).note = pyNone ↔ (h.msg j).note = pyNone)) →
    ∃ p, (relativeSequenceToAbsoluteSequence g tag l h).1 = .ok p

/-- THE LINKS AGREE WITH THE CODE ON THE FRAME (for every oracle): `convView` (both conversions) writes no cell that existed and returns a new
    view of new messages — `toAbs_frame` / `toRel_frame` / `*_result`; `rebuildView` (`normalise_relative`) and `padView` (`pad`) write, of the
    cells that existed, the receiver's list cell only, and put into it references of the old list and new messages — `normalise_frame` /
    `pad_frame`.  No disagreement between the identity model and the translated methods. (A2) -/
theorem link_frames_agree (h : Heap) (l : Nat) :
    (∀ f : List Msg → List Msg, Ext h (convView f h l).1 ∧ h.nLst ≤ (convView f h l).2
        ∧ ∀ i ∈ (convView f h l).1.lst (convView f h l).2, h.nMsg ≤ i)
    ∧ (∀ plan : List Msg → List Item, (∀ c, h.alloc c → c ≠ (.lst, l) → (rebuildView plan h l).get c = h.get c)
        ∧ ∀ i ∈ (rebuildView plan h l).lst l, i ∈ h.lst l ∨ (h.nMsg ≤ i ∧ i < (rebuildView plan h l).nMsg))
    ∧ (∀ w : List Msg → Option Msg, (∀ c, h.alloc c → c ≠ (.lst, l) → (padView w h l).get c = h.get c)
        ∧ ((padView w h l).lst l = h.lst l ∨ (padView w h l).lst l = h.lst l ++ [h.nMsg])) := by
  refine ⟨fun f => ?_, fun plan => ?_, fun w => ?_⟩
  · obtain ⟨sp, hin⟩ := convView_spec (good_fresh h) f l
    refine ⟨Ext.of_spec sp, by simp [convView, newMsgs_nLst], fun i hi => ?_⟩
    have := (lst_in sp.good hin i hi).1
    simp only [Fresh, Heap.alloc, Heap.next] at this
    omega
  · have he := buildIds_ext (h.lst l) (plan (h.viewVals l)) h
    have hids := buildIds_ids (h.lst l) (plan (h.viewVals l)) h
    refine ⟨fun c hc hne => ((upd_setLst _ l _).get c hne).trans (he.2 c hc), fun i hi => ?_⟩
    simp only [rebuildView, lst_setLst, nMsg_setLst] at hi ⊢
    exact hids.2 i hi
  · unfold padView
    split
    · exact ⟨fun _ _ _ => rfl, Or.inl rfl⟩
    · rename_i m _
      exact ⟨fun c hc hne => ((upd_setLst _ l _).get c hne).trans ((upd_newMsg h m).same_alloc c hc), Or.inr (by simp)⟩

/-- `HeapL.getAbs_spec` for the TRANSLATED `abs` property running the TRANSLATED `to_absolute_sequence` (`Gen.HeapFns3.sequenceAbs3`; no link): in
    every good region that contains the wrapper, reading `seq.abs` — regenerating the absolute view when it is stale — writes nothing outside
    the region, keeps it good, and the view it returns is in the region.  Holds on both exits. (A2) -/
theorem sequenceAbs3_spec {X : Region} (g : GOrc) (tag : Nat) {h : Heap} (hg : Good X h) {s : Nat} (hs : In X h (.seq, s)) :
    Sat (sequenceAbs3 g tag s) h (fun r h' => Spec X h h' ∧ ∀ l, r = some l → In X h' (.lst, l)) (fun h' => Spec X h h') := by
  unfold sequenceAbs3
  simp only [sat_bind, sat_get, sat_ite, sat_fail, sat_pure, sat_deref]
  refine ⟨fun _ => ⟨fun _ => Spec.refl hg, fun _ => ⟨fun r _ => ?_, fun _ => Spec.refl hg⟩⟩,
    fun _ => ⟨Spec.refl hg, fun l hl => seq_abs_in hg hs hl⟩⟩
  refine (toAbs_sat g tag r h).mono (fun p h' hc => ?_) (fun h' hi => (HeapTie2.spec_of_inv hg (src := []) (by simp) hi).1)
  obtain ⟨sp, hp⟩ := conv_spec hg hc
  have hs' := hs.mono sp.pres
  -- the two stores into the wrapper are one
  simp only [sat_modify, seq_setSeq, setSeq_setSeq]
  have s1 := setSeq_spec sp.good s { h'.seq s with abs := some p, absStale := false } hs'.1 (of_some hp) (fun _ => seq_rel_in sp.good hs')
  exact ⟨sp.trans s1, of_some (hp.mono s1.pres)⟩

/-- `HeapL.getRel_spec` for the TRANSLATED `rel` property running the TRANSLATED `to_relative_sequence` (`sequenceRel3`; no link). (A2) -/
theorem sequenceRel3_spec {X : Region} (g : GOrc) (tag : Nat) {h : Heap} (hg : Good X h) {s : Nat} (hs : In X h (.seq, s)) :
    Sat (sequenceRel3 g tag s) h (fun r h' => Spec X h h' ∧ ∀ l, r = some l → In X h' (.lst, l)) (fun h' => Spec X h h') := by
  unfold sequenceRel3
  simp only [sat_bind, sat_get, sat_ite, sat_fail, sat_pure, sat_deref]
  refine ⟨fun _ => ⟨fun _ => Spec.refl hg, fun _ => ⟨fun r _ => ?_, fun _ => Spec.refl hg⟩⟩,
    fun _ => ⟨Spec.refl hg, fun l hl => seq_rel_in hg hs hl⟩⟩
  refine (toRel_sat g tag r h).mono (fun p h' hc => ?_) (fun h' hi => (HeapTie2.spec_of_inv hg (src := []) (by simp) hi.1).1)
  obtain ⟨sp, hp⟩ := conv_spec hg hc
  have hs' := hs.mono sp.pres
  simp only [sat_modify, seq_setSeq, setSeq_setSeq]
  have s1 := setSeq_spec sp.good s { h'.seq s with rel := some p, relStale := false } hs'.1 (fun _ => seq_abs_in sp.good hs') (of_some hp)
  exact ⟨sp.trans s1, of_some (hp.mono s1.pres)⟩

/-! ## examples (kernel-checked evaluations of the translated methods; the same inputs are in tools/diff_py2lean_heap3.py) -/

/-- an absolute view: NOTE_ON 60 at 0, NOTE_OFF 60 at 24, INTERNAL at 96 in message cells 0–2, the view in list cell 0 -/
def exAbsHeap : Heap :=
  ((newMsgs Heap.empty [{ ty := .noteOn, note := 60, vel := 64, time := 0 }, { ty := .noteOff, note := 60, time := 24 },
    { ty := .internal, time := 96 }]).1.newLst [0, 1, 2]).1

/-- a relative view: WAIT 10, WAIT 14, NOTE_ON 60, WAIT 72, NOTE_OFF 60 in message cells 0–4, the view in list cell 0 -/
def exNormHeap : Heap :=
  ((newMsgs Heap.empty [{ ty := .wait, time := 10 }, { ty := .wait, time := 14 }, { ty := .noteOn, note := 60, vel := 64 },
    { ty := .wait, time := 72 }, { ty := .noteOff, note := 60 }]).1.newLst [0, 1, 2, 3, 4]).1

/-- `to_absolute_sequence` of `HeapTie2.exSplitHeap` (NOTE_ON 60, WAIT 24, NOTE_OFF 60, WAIT 72): a new view (cell 1) of three NEW messages —
    the copies 4, 5 (time 24 written into the copy) and the INTERNAL cap 6; the receiver's list and its NOTE_OFF (time still `None`) untouched -/
example : let r := relativeSequenceToAbsoluteSequence HeapTie2.exG 0 0 HeapTie2.exSplitHeap
    r.1.toOption = some 1 ∧ r.2.lst 1 = [4, 5, 6] ∧ r.2.lst 0 = [0, 1, 2, 3] ∧ (r.2.msg 5).time = 24 ∧ (r.2.msg 2).time = pyNone
      ∧ (r.2.msg 6).ty = .internal ∧ (r.2.msg 6).time = 96 := by decide +kernel

/-- `to_relative_sequence` of `exAbsHeap`: a new view (cell 1) of four NEW messages — the copy of NOTE_ON, a new WAIT 24, the copy of NOTE_OFF, a new
    WAIT 72; the receiver's NOTE_OFF keeps its time 24 (the `None` is written into the copy) -/
example : let r := absoluteSequenceToRelativeSequence HeapTie2.exG 0 0 exAbsHeap
    r.1.toOption = some 1 ∧ r.2.lst 1 = [3, 4, 5, 6] ∧ r.2.lst 0 = [0, 1, 2] ∧ (r.2.msg 4).ty = .wait ∧ (r.2.msg 4).time = 24
      ∧ (r.2.msg 5).time = pyNone ∧ (r.2.msg 1).time = 24 := by decide +kernel

/-- `normalise_relative` of `exNormHeap`: the two leading waits are consolidated into a NEW WAIT 24 (cell 5; the receiver's WAIT 10 keeps its time),
    the kept messages 2, 4 are the receiver's OWN objects, the inner wait is replaced by a new WAIT 72 (cell 6) -/
example : let r := relativeSequenceNormaliseRelative HeapTie2.exG 0 0 exNormHeap
    r.1.toOption = some () ∧ r.2.lst 0 = [5, 2, 6, 4] ∧ (r.2.msg 5).time = 24 ∧ (r.2.msg 0).time = 10 ∧ (r.2.msg 6).time = 72 := by decide +kernel

/-- `pad(200)` of `HeapTie2.exSplitHeap` (duration 96): ONE new WAIT 104 appended; the trailing WAIT 72 of the receiver keeps its time -/
example : let r := relativeSequencePad HeapTie2.exG 0 0 200 HeapTie2.exSplitHeap
    r.1.toOption = some () ∧ r.2.lst 0 = [0, 1, 2, 3, 4] ∧ (r.2.msg 4).time = 104 ∧ (r.2.msg 3).time = 72 := by decide +kernel

/-- the hypotheses of `toRel_ok`, `normalise_ok`, `pad_ok` on the examples -/
example : ∀ i ∈ exAbsHeap.lst 0, i < exAbsHeap.nMsg ∧ (exAbsHeap.msg i).time ≠ pyNone := by decide +kernel
example : ∀ i ∈ exNormHeap.lst 0, i < exNormHeap.nMsg ∧ ((exNormHeap.msg i).ty = .wait → (exNormHeap.msg i).time ≠ pyNone) := by decide +kernel
example : ∀ i ∈ HeapTie2.exSplitHeap.lst 0, (HeapTie2.exSplitHeap.msg i).ty = .wait → (HeapTie2.exSplitHeap.msg i).time ≠ pyNone := by decide +kernel
/-- the hypotheses of `normalise_spec` / `pad_spec` with the region of `C16c.op_frame` (`HeapTie2.exSeqHeap`: a `Sequence` on the example view) -/
example : Good (ReachR HeapTie2.exSeqHeap [(.seq, 0)]) HeapTie2.exSeqHeap ∧ In (ReachR HeapTie2.exSeqHeap [(.seq, 0)]) HeapTie2.exSeqHeap (.lst, 0) :=
  ⟨good_reachR _ _ (by decide), ⟨Or.inl (by decide), by decide⟩⟩
/-- the hypothesis of `toAbs_spec` / `toRel_spec` with the region of freshness -/
example : Good (Fresh exAbsHeap) exAbsHeap := good_fresh _

/-- "the result of a conversion may share a message object with the receiver" is what a conversion WITHOUT `.copy()` would do
    (tools/test_py2lean_heap3.sh b1, b4); of the translated methods it is refuted on every heap by `toAbs_result` / `toRel_result`: -/
theorem conv_shares_nothing (g : GOrc) (tag l : Nat) (h : Heap) (hm : ∀ i ∈ h.lst l, i < h.nMsg) :
    (∀ p, (relativeSequenceToAbsoluteSequence g tag l h).1 = .ok p → ∀ i ∈ (relativeSequenceToAbsoluteSequence g tag l h).2.lst p, i ∉ h.lst l)
    ∧ (∀ p, (absoluteSequenceToRelativeSequence g tag l h).1 = .ok p → ∀ i ∈ (absoluteSequenceToRelativeSequence g tag l h).2.lst p, i ∉ h.lst l) := by
  refine ⟨fun p hok i hi hmem => ?_, fun p hok i hi hmem => ?_⟩
  · have := ((toAbs_result g tag l h p hok).fresh i hi).1
    have := hm i hmem
    omega
  · have := ((toRel_result g tag l h p hok).fresh i hi).1
    have := hm i hmem
    omega

end SCoda.HeapTie3

