/-
  C19, second part — for streams produced by `tokenise`: each note's in-bar time equals its onset
  minus the start of its bar, and annotated times never decrease.
  The "start of its bar" is the last bar end (`INTERNAL` marker) the detokeniser has emitted so far
  (tick 0 before any).
-/
import SCoda.Props.C19
import SCoda.Props.C01
import SCoda.Lemmas.InBar
namespace SCoda.InBar
open SCoda SCoda.C01 SCoda.C19

/-- the clock `get_info` writes before each token -/
def times (c : Cfg) (cof : Int → Int) (imp : Bool) : InfoSt → List Tok → List Int
  | _, [] => []
  | s, t :: ts => s.curTime :: times c cof imp (infoStep c cof imp s t) ts

theorem out_times (c : Cfg) (cof : Int → Int) (imp : Bool) (toks : List Tok) (s : InfoSt) :
    ((toks.foldl (infoStep c cof imp) s).out.reverse).map (·.2.1)
      = (s.out.reverse).map (·.2.1) ++ times c cof imp s toks := by
  induction toks generalizing s with
  | nil => simp [times]
  | cons t ts ih =>
    obtain ⟨p, q, hq⟩ := infoStep_out c cof imp s t
    rw [List.foldl_cons, ih, hq]
    simp [times]

theorem times_pairwise (c : Cfg) (cof : Int → Int) (imp : Bool) (toks : List Tok) (s : InfoSt) (d d' : DetokSt)
    (log : List Emit) (hc : Clk s d) (hm : Mono c d toks) (h : dfold c d toks = .ok (d', log)) :
    List.Pairwise (· ≤ ·) (times c cof imp s toks) ∧ ∀ x ∈ times c cof imp s toks, s.curTime ≤ x := by
  induction toks generalizing s d log with
  | nil => simp [times]
  | cons t ts ih =>
    obtain ⟨d1, log1, log2, h1, h2, rfl⟩ := dfold_cons_inv h
    obtain ⟨hle, hm1⟩ := hm d1 log1 h1
    have hstep : dstep c d t = .ok d1 := (Detok.dstep_eq c d t).trans (dstepLog_fold c t.parts d d1 log1 h1).1
    have hc1 := step_clk cof imp hc hstep
    obtain ⟨i1, i2⟩ := ih _ d1 log2 hc1 hm1 h2
    have hs : s.curTime ≤ (infoStep c cof imp s t).curTime := by rw [hc.1, hc1.1]; exact hle
    simp only [times, List.pairwise_cons, List.mem_cons]
    refine ⟨⟨fun x hx => ?_, i1⟩, fun x hx => ?_⟩
    · have := i2 x hx; omega
    · rcases hx with rfl | hx
      · exact Int.le_refl _
      · have := i2 x hx; omega

end SCoda.InBar
namespace SCoda.C19
open SCoda SCoda.C01

/-- the last bar end in an emission log (0 if there is none yet) -/
def lastBarEnd (log : List Emit) : Int :=
  match log.reverse.findSome? (fun e => match e with | .barEnd t => some t | _ => Option.none) with
  | some t => t
  | Option.none => 0

theorem lastBarEnd_eq_lbe (log : List Emit) : lastBarEnd log = InBar.lbe 0 log := by
  unfold lastBarEnd
  generalize (0 : Int) = L
  induction log generalizing L with
  | nil => rfl
  | cons e es ih =>
    rw [List.reverse_cons, List.findSome?_append]
    have h1 : InBar.lbe L (e :: es) = InBar.lbe (InBar.lbe L [e]) es := InBar.lbe_append L [e] es
    rw [h1, ← ih]
    cases hf : es.reverse.findSome? (fun e => match e with | .barEnd t => some t | _ => Option.none) with
    | some t => rfl
    | none => cases e <;> rfl

/-- `lastBarEnd` really is the last `barEnd` entry -/
theorem lastBarEnd_spec (pre : List Emit) (t : Int) (post : List Emit)
    (h : ∀ e ∈ post, ∀ u, e ≠ .barEnd u) : lastBarEnd (pre ++ Emit.barEnd t :: post) = t := by
  rw [lastBarEnd_eq_lbe, InBar.lbe_append, InBar.lbe_cons_barEnd, InBar.lbe_noBar t post h]

/-- **in-bar clock** (any stream the detokeniser accepts, from the initial state): after every prefix the
    in-bar time is the time elapsed since the last bar end emitted -/
theorem in_bar_clock (c : Cfg) (toks : List Tok) (d : DetokSt) (log : List Emit)
    (h : dfold c (DetokSt.init c) toks = .ok (d, log)) :
    d.curTimeBar = d.curTime - lastBarEnd log := by
  rw [lastBarEnd_eq_lbe]
  exact InBar.dfold_inbar c toks _ d log 0 h (by simp [DetokSt.init])

/-- hence the annotation of the token after `pre`: its in-bar time is its time minus the start of its bar -/
theorem in_bar_annotation (c : Cfg) (cof : Int → Int) (imp : Bool) (pre : List Tok) (t : Tok) (post : List Tok)
    (d : DetokSt) (log : List Emit) (h : dfold c (DetokSt.init c) pre = .ok (d, log)) :
    ∃ p q, (getInfo c cof imp (pre ++ t :: post))[pre.length]? =
      some ((pre.length : Int), d.curTime, d.curTime - lastBarEnd log, p, q) := by
  have hd : detokFold c pre = .ok d := (detokFold_foldlM c pre).trans (dfold_fold c pre _ d log h).1
  obtain ⟨h1, h2, -⟩ := clocks_agree c cof imp pre d hd
  obtain ⟨p, q, hr⟩ := row_at c cof imp pre t post
  refine ⟨p, q, ?_⟩
  rw [hr, h1, h2, in_bar_clock c pre d log h]

theorem dfold_detokFold (c : Cfg) (toks : List Tok) (d : DetokSt) (log : List Emit)
    (h : dfold c (DetokSt.init c) toks = .ok (d, log)) : detokFold c toks = .ok d :=
  (detokFold_foldlM c toks).trans (dfold_fold c toks _ d log h).1

theorem times_of_mono (c : Cfg) (cof : Int → Int) (imp : Bool) (toks : List Tok) (d' : DetokSt) (log' : List Emit)
    (hm : InBar.Mono c (DetokSt.init c) toks) (h : dfold c (DetokSt.init c) toks = .ok (d', log')) :
    List.Pairwise (fun a b => a.2.1 ≤ b.2.1) (getInfo c cof imp toks) := by
  have hclk : Clk { capTotal := c.capacity c.defNum c.defDen, capRem := c.capacity c.defNum c.defDen }
      (DetokSt.init c) := ⟨rfl, rfl, rfl, rfl⟩
  have hp := (InBar.times_pairwise c cof imp toks _ _ d' log' hclk hm h).1
  have ho := InBar.out_times c cof imp toks
    { capTotal := c.capacity c.defNum c.defDen, capRem := c.capacity c.defNum c.defDen }
  simp only [List.reverse_nil, List.map_nil, List.nil_append] at ho
  rw [← ho] at hp
  exact List.pairwise_map.1 hp

/-- **monotone** (streams produced by `tokenise` from the initial state): annotated times never decrease -/
theorem times_monotone (c : Cfg) (hc : CfgOk c) (evs : List (Int × Pairing)) (toks : List Tok) (st' : TokSt)
    (hev : EvsOk c 0 0 evs)
    (hcap0 : 0 < c.capacity c.defNum c.defDen)
    (hcapEv : ∀ ev ∈ evs, ∀ m ∈ ev.2.head?, m.ty = .timeSignature → 0 < c.capacity m.num m.den)
    (hok : tokeniseCore c (TokSt.init c) evs = .ok (toks, st')) (cof : Int → Int) (imp : Bool) :
    List.Pairwise (fun a b => a.2.1 ≤ b.2.1) (getInfo c cof imp toks) := by
  have _ := hcap0; have _ := hcapEv
  obtain ⟨E, _, _, _, a5⟩ := core_sim_mono c hc (TokSt.init c) st' evs toks (Int.le_refl 0) (Or.inr ⟨rfl, rfl⟩) hev hok
  obtain ⟨d', log', b1, _, _, hm⟩ := a5 (DetokSt.init c) (relD_init c)
  exact times_of_mono c cof imp toks d' log' hm b1

/-- and in such streams the bar ends are emitted in strictly increasing order (so "the start of its bar" is
    unambiguous); the list in the statement is `InBar.bes log` unfolded -/
theorem barEnds_increasing (c : Cfg) (hc : CfgOk c) (evs : List (Int × Pairing)) (toks : List Tok) (st' : TokSt)
    (hev : EvsOk c 0 0 evs)
    (hcap0 : 0 < c.capacity c.defNum c.defDen)
    (hcapEv : ∀ ev ∈ evs, ∀ m ∈ ev.2.head?, m.ty = .timeSignature → 0 < c.capacity m.num m.den)
    (hok : tokeniseCore c (TokSt.init c) evs = .ok (toks, st')) (d : DetokSt) (log : List Emit)
    (h : dfold c (DetokSt.init c) toks = .ok (d, log)) :
    List.Pairwise (· < ·) (log.filterMap (fun e => match e with | .barEnd t => some t | _ => Option.none)) := by
  obtain ⟨E, _, a5, _, hpw, _⟩ := core_sim_ready c hc (TokSt.init c) st' evs toks (Ready.init c hcap0) hev hcapEv hok
  obtain ⟨d', log', b1, _, b3, _⟩ := a5 (DetokSt.init c) (relD_init c)
  rw [h] at b1
  cases b1
  rwa [← b3, InBar.bes_filter] at hpw

example : lastBarEnd [.note 0 60 127 0 24, .barEnd 72, .note 0 62 127 80 90, .barEnd 144, .tsig 144 3 4] = 144 := by
  decide +kernel

end SCoda.C19
