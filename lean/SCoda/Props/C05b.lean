/-
  C05, last clause — survival of isolated notes.
  A note whose key (channel, pitch) has no other note event within two largest steps is dropped only
  when quantisation leaves no grid position for its end after its quantised start; otherwise it
  survives at the nearest grid position of its onset with its pitch, channel and velocity.

  `Isolated` as stated does not force `off` to be the note-off *of* `on`: when `on.time = off.time`
  the pair (note-on of a note, note-off of the preceding adjacent note of the same key) also satisfies
  it.  The full statements are therefore false (`survives_statement_false`, `dropped_statement_false`);
  they are proved under the extra hypothesis `OnFirst` (the first `on` of the list precedes every `off`),
  which follows from `on.time < off.time` (`OnFirst.of_lt`) or from `a.Nodup` and `off` after `on`.
-/
import SCoda.Props.C05
import SCoda.Lemmas.QuantiseB
namespace SCoda.C05
open SCoda

/-- every note event of the channel and pitch of `on`, `off` other than these two lies at least `2 * maxStep` away from both
    (on one tick `off` may be the end of the note before, see the header) -/
structure Isolated (steps : List Int) (a : List Msg) (on off : Msg) : Prop where
  onMem : on ∈ a
  offMem : off ∈ a
  onTy : on.ty = .noteOn
  offTy : off.ty = .noteOff
  key : off.nkey = on.nkey
  order : on.time ≤ off.time
  far : ∀ m ∈ a, m ≠ on → m ≠ off → m.nkey = on.nkey → (m.ty = .noteOn ∨ m.ty = .noteOff) →
    m.time + 2 * maxStep steps ≤ on.time ∨ off.time + 2 * maxStep steps ≤ m.time

/-- the quantised onset: the nearest candidate position (first one on ties) -/
def qOn (steps : List Int) (on : Msg) : Int :=
  (possiblePositions steps on.time)[findMinimalDistance on.time (possiblePositions steps on.time)]?.getD on.time

theorem nearest_qOn {steps : List Int} (hne : steps ≠ []) (on : Msg) :
    nearest on.time (possiblePositions steps on.time) = .ok (qOn steps on) := by
  obtain ⟨v, hv, _⟩ := Q.fmd_first_min on.time _ (Q.possiblePositions_ne_nil hne on.time)
  simp [nearest, qOn, hv]

/-- the first occurrence of `on` in `a` precedes every occurrence of `off` (so that `off` really is the
    note-off that closes `on`) -/
def OnFirst (a : List Msg) (on off : Msg) : Prop :=
  ∃ pre post, a = pre ++ on :: post ∧ on ∉ pre ∧ off ∉ pre ∧ off ∈ post

theorem OnFirst.of_lt {steps : List Int} {a : List Msg} {on off : Msg} (hok : OkAbs a)
    (hi : Isolated steps a on off) (hlt : on.time < off.time) : OnFirst a on off := by
  obtain ⟨pre, post, rfl, hpre⟩ := List.eq_append_cons_of_mem hi.onMem
  have hs := timeSorted_mid hok.1
  have hoffpre : off ∉ pre := fun h => by have := hs.1 off h; omega
  refine ⟨pre, post, rfl, hpre, hoffpre, ?_⟩
  have := hi.offMem
  simp only [List.mem_append, List.mem_cons] at this
  rcases this with h | h | h
  · exact absurd h hoffpre
  · subst h; omega
  · exact h

theorem OnFirst.of_nodup {a : List Msg} {on off : Msg} (hnd : a.Nodup)
    (h : ∃ pre post, a = pre ++ on :: post ∧ off ∈ post) : OnFirst a on off := by
  obtain ⟨pre, post, rfl, hoff⟩ := h
  obtain ⟨_, _, hd⟩ := List.nodup_append.1 hnd
  exact ⟨pre, post, rfl, fun h => hd on h on (by simp) rfl, fun h => hd off h off (by simp [hoff]) rfl, hoff⟩

theorem Isolated.cut {steps : List Int} (hs : StepsOk steps) {a : List Msg} {on off : Msg} (hok : OkAbs a) (hwf : WF a)
    (hi : Isolated steps a on off) (hp : OnFirst a on off) :
    ∃ pre mid post, a = pre ++ on :: (mid ++ off :: post) ∧ QB.Around steps pre mid post on off ∧
      ∀ m ∈ post, m ≠ on → m ≠ off → m.nkey = on.nkey → Q.IsNoteTy m → off.time + 2 * maxStep steps ≤ m.time := by
  obtain ⟨pre, post', rfl, h1, h2, h3⟩ := hp
  obtain ⟨mid, post, rfl, _, hpre, hmid, hpost⟩ := QB.split_note (QB.maxStep_pos hs) hok.1 hwf hi.onTy hi.order
    hi.far h1 h2 h3
  exact ⟨pre, mid, post, rfl, ⟨hwf, hi.onTy, hi.offTy, hi.key, hpre, hmid⟩, hpost⟩

/-- the statement without `OnFirst`; false, see `survives_statement_false` -/
def survives_statement : Prop :=
  ∀ (steps : List Int) (_hs : StepsOk steps) (a out : List Msg) (_hok : OkAbs a) (_hwf : WF a)
    (_h : quantise steps a = .ok out) (on off : Msg) (_hi : Isolated steps a on off)
    (_hroom : ∃ p ∈ possiblePositions steps off.time, qOn steps on < p),
    { on with time := qOn steps on } ∈ out
    ∧ ∃ t, qOn steps on < t ∧ { off with time := t } ∈ out

/-- **survival**: if some grid position of the note's end lies after its quantised start, the note is
    in the result: its note-on at the quantised onset (pitch, channel, velocity unchanged) and a note-off
    of the same key strictly later -/
theorem survives_partial (steps : List Int) (hs : StepsOk steps) (a out : List Msg) (hok : OkAbs a) (hwf : WF a)
    (h : quantise steps a = .ok out) (on off : Msg) (hi : Isolated steps a on off)
    (hp : OnFirst a on off)
    (hroom : ∃ p ∈ possiblePositions steps off.time, qOn steps on < p) :
    { on with time := qOn steps on } ∈ out
    ∧ ∃ t, qOn steps on < t ∧ { off with time := t } ∈ out := by
  obtain ⟨pre, mid, post, rfl, c, _⟩ := hi.cut hs hok hwf hp
  exact QB.core_survives hs c (nearest_qOn hs.1 on) hroom h

theorem survives_of_lt (steps : List Int) (hs : StepsOk steps) (a out : List Msg) (hok : OkAbs a) (hwf : WF a)
    (h : quantise steps a = .ok out) (on off : Msg) (hi : Isolated steps a on off)
    (hlt : on.time < off.time)
    (hroom : ∃ p ∈ possiblePositions steps off.time, qOn steps on < p) :
    { on with time := qOn steps on } ∈ out
    ∧ ∃ t, qOn steps on < t ∧ { off with time := t } ∈ out :=
  survives_partial steps hs a out hok hwf h on off hi (OnFirst.of_lt hok hi hlt) hroom

/-- the statement without `OnFirst`; false, see `dropped_statement_false` -/
def dropped_statement : Prop :=
  ∀ (steps : List Int) (_hs : StepsOk steps) (a out : List Msg) (_hok : OkAbs a) (_hwf : WF a)
    (_h : quantise steps a = .ok out) (on off : Msg) (_hi : Isolated steps a on off) (_hnd : a.Nodup)
    (_hnoroom : ∀ p ∈ possiblePositions steps off.time, p ≤ qOn steps on),
    ∀ m ∈ out, m.nkey = on.nkey → (m.ty = .noteOn ∨ m.ty = .noteOff) →
      m.time + maxStep steps ≤ on.time ∨ off.time + maxStep steps ≤ m.time

/-- **only then**: if no grid position of its end lies after its quantised start, the note is dropped
    (no note event of its key remains within one largest step of it, provided messages of `a` are distinct) -/
theorem dropped_partial (steps : List Int) (hs : StepsOk steps) (a out : List Msg) (hok : OkAbs a) (hwf : WF a)
    (h : quantise steps a = .ok out) (on off : Msg) (hi : Isolated steps a on off) (hnd : a.Nodup)
    (hp : OnFirst a on off)
    (hnoroom : ∀ p ∈ possiblePositions steps off.time, p ≤ qOn steps on) :
    ∀ m ∈ out, m.nkey = on.nkey → (m.ty = .noteOn ∨ m.ty = .noteOff) →
      m.time + maxStep steps ≤ on.time ∨ off.time + maxStep steps ≤ m.time := by
  obtain ⟨pre, mid, post, rfl, c, hpost⟩ := hi.cut hs hok hwf hp
  have hnd2 := (List.nodup_append.1 hnd).2.1
  have hon_post : on ∉ post := fun h => (List.nodup_cons.1 hnd2).1 (by simp [h])
  have hnd3 := (List.nodup_append.1 (List.nodup_cons.1 hnd2).2).2.1
  have hoff_post : off ∉ post := (List.nodup_cons.1 hnd3).1
  exact QB.core_dropped hs c
    (fun m hm => hpost m hm (fun e => hon_post (e ▸ hm)) (fun e => hoff_post (e ▸ hm)))
    (nearest_qOn hs.1 on) hnoroom h

theorem dropped_of_lt (steps : List Int) (hs : StepsOk steps) (a out : List Msg) (hok : OkAbs a) (hwf : WF a)
    (h : quantise steps a = .ok out) (on off : Msg) (hi : Isolated steps a on off) (hnd : a.Nodup)
    (hlt : on.time < off.time)
    (hnoroom : ∀ p ∈ possiblePositions steps off.time, p ≤ qOn steps on) :
    ∀ m ∈ out, m.nkey = on.nkey → (m.ty = .noteOn ∨ m.ty = .noteOff) →
      m.time + maxStep steps ≤ on.time ∨ off.time + maxStep steps ≤ m.time :=
  dropped_partial steps hs a out hok hwf h on off hi hnd (OnFirst.of_lt hok hi hlt) hnoroom

/-! ### the counterexamples to the full statements: two adjacent notes of one key, `on` the note-on of the
    second and `off` the (simultaneous) note-off of the first -/

def cxS : List Msg := [Msg.mkOn 0 60 50 0, Msg.mkOff 0 60 100, Msg.mkOn 0 60 64 100,
  { Msg.mkOff 0 60 200 with vel := 0 }]

theorem cxS_ok : OkAbs cxS ∧ WF cxS := by
  refine ⟨⟨?_, ?_, by decide⟩, ?_⟩
  · simp [TimeSorted, cxS, Msg.mkOn, Msg.mkOff]
  · simp [NonNegTimes, cxS, Msg.mkOn, Msg.mkOff]
  · intro k
    simp only [altFrom, cxS, Msg.mkOn, Msg.mkOff, Msg.nkey]
    by_cases hk : ((0 : Int), (60 : Int)) = k <;> simp [hk]

theorem cxS_iso : Isolated [6, 4] cxS (Msg.mkOn 0 60 64 100) (Msg.mkOff 0 60 100) := by
  constructor <;> decide

theorem cxS_steps : StepsOk [6, 4] := ⟨by decide, by decide⟩

theorem cxS_quantise : quantise [6, 4] cxS = .ok cxS := by rfl

theorem cxS_room : ∃ p ∈ possiblePositions [6, 4] (Msg.mkOff 0 60 100).time, qOn [6, 4] (Msg.mkOn 0 60 64 100) < p := by
  decide +kernel

/-- the note-off at 100 closes the first note: no later note-off of the list is it re-timed -/
theorem cxS_absurd : ¬ ∃ t, qOn [6, 4] (Msg.mkOn 0 60 64 100) < t ∧ { Msg.mkOff 0 60 100 with time := t } ∈ cxS := by
  rintro ⟨t, ht, hm⟩
  rw [show qOn [6, 4] (Msg.mkOn 0 60 64 100) = 100 by decide] at ht
  simp [cxS, Msg.mkOff, Msg.mkOn, pyNone] at hm
  omega

theorem survives_statement_false : ¬ survives_statement := fun H =>
  cxS_absurd (H [6, 4] cxS_steps cxS cxS cxS_ok.1 cxS_ok.2 cxS_quantise _ _ cxS_iso cxS_room).2

def cxD : List Msg := [Msg.mkOn 0 60 50 0, Msg.mkOff 0 60 29, Msg.mkOn 0 60 64 29,
  { Msg.mkOff 0 60 60 with vel := 0 }]

theorem cxD_ok : OkAbs cxD ∧ WF cxD := by
  refine ⟨⟨?_, ?_, by decide⟩, ?_⟩
  · simp [TimeSorted, cxD, Msg.mkOn, Msg.mkOff]
  · simp [NonNegTimes, cxD, Msg.mkOn, Msg.mkOff]
  · intro k
    simp only [altFrom, cxD, Msg.mkOn, Msg.mkOff, Msg.nkey]
    by_cases hk : ((0 : Int), (60 : Int)) = k <;> simp [hk]

theorem cxD_iso : Isolated [6] cxD (Msg.mkOn 0 60 64 29) (Msg.mkOff 0 60 29) := by
  constructor <;> decide

theorem cxD_steps : StepsOk [6] := ⟨by decide, by decide⟩

/-- the result of `quantise [6]` on `cxD`: the adjacent pair meets at 30 -/
def cxDq : List Msg := [Msg.mkOn 0 60 50 0, Msg.mkOff 0 60 30, Msg.mkOn 0 60 64 30, { Msg.mkOff 0 60 60 with vel := 0 }]

theorem cxD_quantise : quantise [6] cxD = .ok cxDq := by rfl

theorem cxD_noroom : ∀ p ∈ possiblePositions [6] (Msg.mkOff 0 60 29).time, p ≤ qOn [6] (Msg.mkOn 0 60 64 29) := by decide +kernel

/-- the note-off at 30 of the result is within one step of the pair -/
theorem cxD_absurd : ¬ ((Msg.mkOff 0 60 30).time + maxStep [6] ≤ (Msg.mkOn 0 60 64 29).time
    ∨ (Msg.mkOff 0 60 29).time + maxStep [6] ≤ (Msg.mkOff 0 60 30).time) := by decide +kernel

theorem dropped_statement_false : ¬ dropped_statement := fun H =>
  cxD_absurd (H [6] cxD_steps cxD _ cxD_ok.1 cxD_ok.2 cxD_quantise _ _ cxD_iso (by decide) cxD_noroom
    (Msg.mkOff 0 60 30) (by decide) rfl (Or.inr rfl))

/-! non-vacuity: a note 5..6 with steps [6] survives as 6..12 -/
def exA : List Msg := [Msg.mkOn 0 60 64 5, Msg.mkOff 0 60 6]
example : quantise [6] exA = .ok [Msg.mkOn 0 60 64 6, Msg.mkOff 0 60 12] := by
  rfl
example : Isolated [6] exA (Msg.mkOn 0 60 64 5) (Msg.mkOff 0 60 6) := by
  constructor <;> decide

end SCoda.C05
