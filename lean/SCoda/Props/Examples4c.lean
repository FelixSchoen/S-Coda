/-
  Audit round 4, item C7 (non-vacuity), part 3: `TokTie.tokenise_eq` on a SECOND stateful call (`d = some …` carrying a state
  that is not the initial one), and the four `Defs` theorems.
-/
import SCoda.Props.Defs
namespace SCoda.Examples4c
open SCoda SCoda.TokLib SCoda.Gen.Tok SCoda.TokTieL SCoda.RenderL SCoda.TokTie SCoda.Defs

/-- `Tokeniser(num_tracks=1, velocity_bins=1)`, all other arguments default -/
def tk : TokObj := initObj none 1 (21, 108) none none [127] (2, 16) true true true true true

/-- first chunk (one 3/4 bar): 3/4, a note over [0,12), silence to the bar line 72 -/
def bar1 : List (List Msg) :=
  [[Msg.mkTimeSig 0 3 4 pyNone, Msg.mkOn 0 60 64 pyNone, Msg.mkWait 0 12, Msg.mkOff 0 60 pyNone, Msg.mkWait 0 60]]
/-- second chunk (one 2/4 bar): 2/4, a note over [0,12), a note over [18,42) -/
def bar2 : List (List Msg) :=
  [[Msg.mkTimeSig 0 2 4 pyNone, Msg.mkOn 0 62 64 pyNone, Msg.mkWait 0 12, Msg.mkOff 0 62 pyNone, Msg.mkWait 0 6,
    Msg.mkOn 0 64 64 pyNone, Msg.mkWait 0 24, Msg.mkOff 0 64 pyNone]]

/-- the state dictionary the FIRST call (`state_dict={}`) returns: time 72, 3/4 carried, previous note value 12 -/
def d1 : List (String × Int) :=
  [("cur_time", 72), ("cur_time_bar", 0), ("cur_time_signature_numerator", 3), ("cur_time_signature_denominator", 4),
   ("cur_bar_capacity_remaining", 72), ("prv_track", 0), ("prv_value", 12), ("prv_velocity", 127)]

/-- the first call, by `tokenise_fresh` (`state_dict=None`): its tokens, and `d1` is the state it returns -/
theorem call1 : tokenise tk (bar1.map LSeq.rel) true true none =
    .ok (d1, ["tsg_06_08", "trk_00-pit_060-val_12-vel_127", "rst_24", "rst_24", "rst_24", "bar"]) := by
  rw [tokenise_fresh tk bar1 rfl (by decide) (by decide +kernel)]
  decide +kernel

/-- **all four hypotheses of `TokTie.tokenise_eq` with `d = some d1`, the state left by a first call** (time 72, 3/4 in force — not
    the default 8/8 —, running values set); the second chunk holds a time-signature event (2/4), so the `EvOk` clause about
    denominators is exercised too -/
theorem ex_tokenise_eq_hyps : (bar2.length : Int) = tk.numTracks ∧ (stOfDict tk d1).tsDen ≠ 0 ∧
    0 ≤ tk.ppqn * 4 * (stOfDict tk d1).tsNum ∧ (∀ ev ∈ extract Gen.ppqn bar2, TokTieL.EvOk tk.ppqn ev) ∧
    stOfDict tk d1 ≠ TokSt.init (cfgOf tk) ∧
    (extract Gen.ppqn bar2).filterMap (fun ev => ev.2.head?.map (fun m => (m.ty, m.num, m.den))) =
      [(.timeSignature, 2, 4), (.noteOn, -1, -1), (.noteOn, -1, -1)] :=
  ⟨rfl, by decide, by decide, by decide +kernel, by decide, by decide +kernel⟩

/-- the conclusion of `tokenise_eq` on it, evaluated: the generated `tokenise` continues at tick 72, switches to 2/4 (`tsg_04_08`),
    and writes the new state (time 120 = 72 + 48) into the dictionary -/
theorem ex_tokenise_eq : tokenise tk (bar2.map LSeq.rel) true true (some d1) =
    .ok ([("cur_time", 120), ("cur_time_bar", 0), ("cur_time_signature_numerator", 2), ("cur_time_signature_denominator", 4),
          ("cur_bar_capacity_remaining", 48), ("prv_track", 0), ("prv_value", 24), ("prv_velocity", 127)],
         ["tsg_04_08", "trk_00-pit_062-val_12-vel_127", "rst_16", "rst_02", "trk_00-pit_064-val_24-vel_127", "rst_24", "rst_06", "bar"]) := by
  rw [tokenise_eq tk bar2 d1 ex_tokenise_eq_hyps.1 ex_tokenise_eq_hyps.2.1 ex_tokenise_eq_hyps.2.2.1 ex_tokenise_eq_hyps.2.2.2.1]
  decide +kernel

theorem dupObj_constructed : constructDictionary dupObj = .ok (finish (pushAll dupObj ((vocabSeq (cfgOf dupObj)).map render))) :=
  TokTie.constructDictionary_eq dupObj rfl

/-- the three hypotheses of `encode_eq_all` on `dupObj` (step sizes `[-5, 2, 2]`: a duplicate and a negative number), with tokens
    that hit the negative key, the overwritten key and a token outside the vocabulary -/
example : Gen.Tok.encode (finish (pushAll dupObj ((vocabSeq (cfgOf dupObj)).map render))) ([Tok.bar, .rest (-5), .rest 2].map render)
      = encodeSpec (cfgOf dupObj) [Tok.bar, .rest (-5), .rest 2] ∧
    Gen.Tok.encode (finish (pushAll dupObj ((vocabSeq (cfgOf dupObj)).map render))) ([Tok.bar, .rest 3].map render)
      = encodeSpec (cfgOf dupObj) [Tok.bar, .rest 3] :=
  ⟨encode_eq_all dupObj _ _ rfl rfl dupObj_constructed, encode_eq_all dupObj _ _ rfl rfl dupObj_constructed⟩

/-- the right-hand sides evaluated: `rst_02` has the LAST id (6); `rst_03` is not a key -/
example : SCoda.encode (cfgOf dupObj) [Tok.bar, .rest (-5), .rest 2] = some [3, 4, 6] ∧
    SCoda.encode (cfgOf dupObj) [Tok.bar, .rest 3] = none := by decide +kernel

/-- the three hypotheses of `decode_one` on `dupObj`, at the overwritten id 5, at the surviving id 6 and at an id out of range -/
example : (∀ i, pyDictGet (finish (pushAll dupObj ((vocabSeq (cfgOf dupObj)).map render))).inverseDictionary (Int.ofNat i) =
      match decodeId (cfgOf dupObj) i with | some t => .ok (render t) | none => .error .keyError) ∧
    (decodeId (cfgOf dupObj) 5, (decodeId (cfgOf dupObj) 6).map render, (decodeId (cfgOf dupObj) 4).map render, decodeId (cfgOf dupObj) 40)
      = (none, some "rst_02", some "rst_-5", none) :=
  ⟨fun i => decode_one dupObj _ i rfl rfl dupObj_constructed, by decide⟩

/-- … and on the constructed `smallObj` (`usedObj`, the object `__init__` returns), every id -/
example : (List.range 8).map (fun i => (decodeId (cfgOf smallObj) i).map render) =
    [some "pad", some "sta", some "sto", some "bar", some "rst_02", some "trk_00-pit_060-val_04-vel_127", some "tsg_04_08", none] ∧
    ∀ i, pyDictGet usedObj.inverseDictionary (Int.ofNat i) =
      match decodeId (cfgOf smallObj) i with | some t => .ok (render t) | none => .error .keyError :=
  ⟨by decide, fun i => decode_one smallObj usedObj i rfl rfl smallObj_constructed⟩

/-- the three hypotheses on the zero-padded field `060` (value 60), and the conclusion -/
example : '-' ∉ "060".toList ∧ '_' ∉ "060".toList ∧ pyInt? "060" = some 60 ∧
    ("060" ≠ "" ∧ (∀ c ∈ "060".toList, c.isDigit = true) ∧ (0 : Int) ≤ 60 ∧ pyIntOfStr "060" = .ok 60) :=
  ⟨by decide, by decide, pyInt_zpad 3 60, model_int_digits "060" 60 (by decide) (by decide) (pyInt_zpad 3 60)⟩

/-- a token list with TWO time signatures (`tsg_06_08` = 3/4 after simplification, `tsg_04_08`), notes and a bar line -/
def toks : List Tok := [.tsig 6 8, .note (some 0) 60 (some 12) (some 127), .rest 24, .bar, .tsig 4 8, .note (some 0) 62 (some 4) (some 127), .bar]

theorem toks_strings : toks.map render =
    ["tsg_06_08", "trk_00-pit_060-val_12-vel_127", "rst_24", "bar", "tsg_04_08", "trk_00-pit_062-val_04-vel_127", "bar"] := by decide +kernel

theorem toks_parse : (toks.map render).mapM parseTok = .ok toks := by
  have h : ∀ t ∈ toks, parseTok (render t) = .ok t := by
    intro t ht
    exact parse_render_ok t (by revert t ht; decide)
  have : ∀ (l : List Tok), (∀ t ∈ l, parseTok (render t) = .ok t) → (l.map render).mapM parseTok = .ok l := by
    intro l
    induction l with
    | nil => intro _; rfl
    | cons t l ih =>
      intro hl
      rw [List.map_cons, List.mapM_cons, hl t (by simp), ih (fun x hx => hl x (by simp [hx]))]
      rfl
  exact this toks h

/-- **all three hypotheses of `detokenise_strings_partial`, `hden` not vacuous**: the list holds the time signatures 6/8 and 4/8,
    whose denominators are non-zero -/
theorem ex_detokenise_strings_partial :
    (toks.filter (fun t => match t with | .tsig _ _ => true | _ => false)) = [.tsig 6 8, .tsig 4 8] ∧
    Gen.Tok.detokenise tk ["tsg_06_08", "trk_00-pit_060-val_12-vel_127", "rst_24", "bar", "tsg_04_08", "trk_00-pit_062-val_04-vel_127", "bar"]
      = liftE (fun seqs => seqs.map LSeq.abs) (SCoda.detokenise (cfgOf tk) toks) := by
  refine ⟨by decide, ?_⟩
  rw [← toks_strings]
  refine detokenise_strings_partial tk _ toks (by decide) toks_parse ?_
  intro t ht a b e
  subst e
  revert ht
  unfold toks
  simp only [List.mem_cons, List.not_mem_nil, or_false]
  rintro (h | h | h | h | h | h | h) <;> cases h <;> decide

/-- the right-hand side evaluated: 3/4 at tick 0, the bar line at 72, 2/4 there, the second bar line at 120 -/
example : (SCoda.detokenise (cfgOf tk) toks).toOption.map (fun seqs => seqs.map (fun s => s.map (fun m => (m.ty, m.time, m.note, m.num)))) =
    some [[(.timeSignature, 0, -1, 3), (.noteOn, 0, 60, -1), (.noteOff, 12, 60, -1), (.internal, 72, -1, -1), (.timeSignature, 72, -1, 2),
           (.noteOn, 72, 62, -1), (.noteOff, 76, 62, -1), (.internal, 120, -1, -1)]] := by decide +kernel

end SCoda.Examples4c

