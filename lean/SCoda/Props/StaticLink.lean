/-
  The one link of the static translator that reads the signatures and keys for `sequences_split_bars`
  (`View.abs_get_message_times_of_type`, Model/StaticLib.lean) is what the TRANSLATED
  `AbsoluteSequence.get_message_times_of_type` (Gen/AbsFns2.lean, proved in Props/AbsTie2.lean) computes
  (audit round 3, R1: a hand-written definition of the link alone is one that no edit of the Python body can disturb).
-/
import SCoda.Model.StaticLib
import SCoda.Props.AbsTie2

namespace SCoda.StaticLink
open SCoda SCoda.Gen.Abs2 SCoda.AbsTie2L SCoda.AbsTie2

/-- for a single requested type: the translated method, run on a freshly built list (every message its own object), succeeds and — read
    back through the heap — returns exactly what the link returns: the messages of that type in order, each with its time -/
theorem timesOfType_link (e : Env) (a : List Msg) (ty : MType) :
    ∃ r, Gen.Abs2.getMessageTimesOfType a (refsOf a) [ty] = .ok r ∧
      View.abs_get_message_times_of_type e a [ty] = .ok (a, r.map (fun p => (p.1, hGet a p.2))) := by
  obtain ⟨r, hr, h1, h2⟩ := timesOfType_init a ty
  refine ⟨r, hr, ?_⟩
  have hz : r.map (fun p => (p.1, hGet a p.2)) = List.zip (r.map (·.1)) (r.map (fun p => hGet a p.2)) := by
    rw [List.zip_map']
  rw [hz, h1, h2]
  unfold View.abs_get_message_times_of_type SCoda.timesOfType
  have hf : (a.filter (fun m => [ty].contains m.ty)) = a.filter (·.ty == ty) := by
    congr 1; funext m; simp only [List.contains_cons, List.contains_nil, Bool.or_false]
  rw [hf]
  generalize a.filter (·.ty == ty) = l
  congr 2
  induction l with
  | nil => rfl
  | cons x xs ih => simp [ih]

example : View.abs_get_message_times_of_type { defSteps := [], defValues := [], tk := fun k _ => k }
      [{ ty := .timeSignature, time := 0, num := 3, den := 4 }, { ty := .noteOn, time := 2, note := 60 },
       { ty := .timeSignature, time := 9, num := 4, den := 4 }] [.timeSignature] =
    .ok ([{ ty := .timeSignature, time := 0, num := 3, den := 4 }, { ty := .noteOn, time := 2, note := 60 },
      { ty := .timeSignature, time := 9, num := 4, den := 4 }],
      [(0, { ty := .timeSignature, time := 0, num := 3, den := 4 }), (9, { ty := .timeSignature, time := 9, num := 4, den := 4 })]) := by decide +kernel

end SCoda.StaticLink
