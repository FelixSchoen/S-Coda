/-
  ABS TIE 2: the functions GENERATED from the Python source by tools/py2lean_abs2.py (Gen/AbsFns2.lean, namespace
  `SCoda.Gen.Abs2`) against the hand-written models of Model/Pairing.lean, Model/Quantise.lean, Model/Bar.lean.

  The generated code keeps `Message` objects in a heap (`List Msg`) and refers to them by position, so that stores through
  aliases (`cutoff`, `quantise`, `quantise_note_lengths`) are translated literally.  The `…_eq` theorems hold for any heap and
  references into it; the `…_init` ones are their instances at the initial state "heap = the messages `a`, `_messages` = [0, …, n-1]"
  (`refsOf a`): every message of the sequence is its own object.  The result of the generated function is read back through the
  final heap (`deref`).

  Links assumed (header of Gen/AbsFns2.lean): `list.sort ↦ sortRefs` (the stable insertion sort on the references),
  `get_default_step_sizes() ↦ Gen.defaultStepSizes`, `get_default_note_values() ↦ Gen.defaultNoteValues`.
-/
import SCoda.Model.Bar
import SCoda.Lemmas.AbsTie2L
import SCoda.Lemmas.AbsTie2LP
import SCoda.Lemmas.AbsTie2LC
import SCoda.Lemmas.AbsTie2LI
import SCoda.Lemmas.AbsTie2LE
import SCoda.Lemmas.AbsTie2LQ
import SCoda.Lemmas.AbsTie2LN
namespace SCoda.AbsTie2
open SCoda SCoda.Gen.Abs2 SCoda.AbsTie2L

theorem findMinimalDistance_eq (e : Int) (c : List Int) :
    Gen.Abs2.findMinimalDistance e c = .ok ((SCoda.findMinimalDistance e c : Nat) : Int) :=
  fmd_gen e c

example : Gen.Abs2.findMinimalDistance 7 [1, 9, 5, 7, 7] = .ok 3 ∧ Gen.Abs2.findMinimalDistance 7 [] = .ok 0
    ∧ Gen.Abs2.findMinimalDistance 7 [9, 5] = .ok 0 := by decide

theorem getMessageTimesOfType_eq (h : Heap) (refs : List Nat) (ts : List MType) :
    Gen.Abs2.getMessageTimesOfType h refs ts
      = .ok ((refs.filter (fun r => ts.contains (hGet h r).ty)).map (fun r => ((hGet h r).time, r))) := by
  unfold Gen.Abs2.getMessageTimesOfType
  simp only []
  rw [forIn_spec' _ (fun l st => pure (st ++ (l.filter (fun r => ts.contains (hGet h r).ty)).map (fun r => ((hGet h r).time, r))))]
  · simp; rfl
  · intro b; simp
  · intro a as b
    by_cases hc : (hGet h a).ty ∈ ts
    · simp [hc]
    · simp [hc]

theorem timesOfType_eq (h : Heap) (refs : List Nat) (ty : MType) :
    ∃ r, Gen.Abs2.getMessageTimesOfType h refs [ty] = .ok r ∧
      r.map (fun p => hGet h p.2) = SCoda.timesOfType ty (deref h refs) ∧
      r.map (·.1) = (SCoda.timesOfType ty (deref h refs)).map (·.time) := by
  have hf : refs.filter (fun r => [ty].contains (hGet h r).ty) = refs.filter ((fun m : Msg => m.ty == ty) ∘ hGet h) := by
    apply List.filter_congr
    intro x _
    simp only [List.contains_cons, List.contains_nil, Bool.or_false, Function.comp]
  refine ⟨_, getMessageTimesOfType_eq h refs [ty], ?_, ?_⟩
  · rw [hf]
    simp only [List.map_map, SCoda.timesOfType, deref, List.filter_map]
    rfl
  · rw [hf]
    simp only [List.map_map, SCoda.timesOfType, deref, List.filter_map]
    rfl

theorem timesOfType_init (a : List Msg) (ty : MType) :
    ∃ r, Gen.Abs2.getMessageTimesOfType a (refsOf a) [ty] = .ok r ∧
      r.map (fun p => hGet a p.2) = SCoda.timesOfType ty a ∧ r.map (·.1) = (SCoda.timesOfType ty a).map (·.time) := by
  have := timesOfType_eq a (refsOf a) ty
  rwa [deref_refsOf] at this

example : Gen.Abs2.getMessageTimesOfType [{ ty := .timeSignature, time := 0, num := 3, den := 4 }, { ty := .noteOn, time := 2, note := 60 },
      { ty := .timeSignature, time := 9, num := 4, den := 4 }] [0, 1, 2] [.timeSignature] = .ok [(0, 0), (9, 2)] := by decide

theorem refsOk_refsOf (a : List Msg) : RefsOk a (refsOf a) := fun _ hr => List.mem_range.1 hr

theorem nodup_refsOf (a : List Msg) : (refsOf a).Nodup := List.nodup_range

instance (h : Heap) (refs : List Nat) : Decidable (RefsOk h refs) := by unfold RefsOk; infer_instance
instance (h : Heap) : Decidable (HeapChOk h) := by unfold HeapChOk; infer_instance

/-- generated `get_message_pairings(message_types, standard_length, impute_notes)` = hand model `pairings`:
    it succeeds, sorts `_messages` (linked sort), only ADDS objects to the heap (the imputed note-offs), and the returned
    table, read through the final heap, is the model's table (same channels in the same order, same pairings).
    Any heap and references into it; no channel `None`. -/
theorem pairings_eq (h : Heap) (refs : List Nat) (types : Option (List MType)) (std : Int) (impute : Bool)
    (hr : RefsOk h refs) (hc : HeapChOk h) :
    ∃ h' mp, Gen.Abs2.getMessagePairings h refs types std impute = .ok (h', sortRefs h refs, mp) ∧ (∃ x, h' = h ++ x) ∧
      mp.map (fun c => (c.1, c.2.map (deref h'))) = SCoda.pairings (types.getD notePairTypes) std impute (deref h refs) := by
  rw [gmp_getD]
  obtain ⟨⟨h', S, mp⟩, h1, rfl, ⟨x, hx⟩, _, _, h3, _⟩ := (gmp_sat h refs _ std impute hr hc).run
  exact ⟨h', mp, h1, ⟨x, hx.symm⟩, h3⟩

theorem pairings_init (a : List Msg) (types : Option (List MType)) (std : Int) (impute : Bool) (hc : HeapChOk a) :
    ∃ h' mp, Gen.Abs2.getMessagePairings a (refsOf a) types std impute = .ok (h', sortRefs a (refsOf a), mp) ∧
      deref h' (sortRefs a (refsOf a)) = sortAbs a ∧
      mp.map (fun c => (c.1, c.2.map (deref h'))) = SCoda.pairings (types.getD notePairTypes) std impute a := by
  have hr := refsOk_refsOf a
  obtain ⟨h', mp, h1, ⟨x, hx⟩, h3⟩ := pairings_eq a (refsOf a) types std impute hr hc
  exact ⟨h', mp, h1, by rw [deref_mono ⟨x, hx.symm⟩ (hr.sortRefs a), deref_sortRefs, deref_refsOf], by rw [h3, deref_refsOf]⟩

example : HeapChOk [{ ty := .noteOn, ch := 1, time := 0, note := 60, vel := 90 }, { ty := .noteOn, ch := 1, time := 4, note := 60, vel := 90 },
      { ty := .noteOff, ch := 1, time := 6, note := 60 }] ∧
    (Gen.Abs2.getMessagePairings [{ ty := .noteOn, ch := 1, time := 0, note := 60, vel := 90 }, { ty := .noteOn, ch := 1, time := 4, note := 60, vel := 90 },
      { ty := .noteOff, ch := 1, time := 6, note := 60 }] [0, 1, 2] none 24 true).map (·.2.2) = .ok [(1, [[0, 3], [1, 2]])] := by decide

/-- generated `get_interleaved_message_pairings` = hand model `interleaved`, for ALL inputs (source after the repair 1462441:
    `has_next = any(channel_cur_index[i] < channel_max_index[i] …)`).  It sorts `_messages` (linked sort), only adds objects to the
    heap, and the returned list, read through the final heap, is the model's list.  Any heap and references; no channel `None`. -/
theorem interleaved_eq (h : Heap) (refs : List Nat) (types : Option (List MType)) (std : Int) (impute : Bool)
    (hr : RefsOk h refs) (hc : HeapChOk h) :
    ∃ h' out, Gen.Abs2.getInterleavedMessagePairings h refs types std impute = .ok (h', sortRefs h refs, out) ∧
      (∃ x, h' = h ++ x) ∧
      out.map (fun x => (x.1, deref h' x.2)) = SCoda.interleaved (types.getD notePairTypes) std impute (deref h refs) := by
  rw [gip_getD]
  obtain ⟨⟨h', S, out⟩, h1, rfl, ⟨x, hx⟩, _, _, h3⟩ := (gip_sat h refs _ std impute hr hc).run
  exact ⟨h', out, h1, ⟨x, hx.symm⟩, h3⟩

/-- Finding repaired in the source (commit 1462441): the table of pairings has channels but not a single pairing — every
    message of a listed type is a note-off that closes nothing.  Before the repair `get_interleaved_message_pairings` (and `equals`)
    raised IndexError there (`has_next` started as `len(channel_pairings_list) > 0`); the hand model `interleaved` returns `[]`. -/
def ChannelsWithoutPairings (types : List MType) (std : Int) (imp : Bool) (a : List Msg) : Prop :=
  pairings types std imp a ≠ [] ∧ ((pairings types std imp a).map (fun c => c.2.length)).sum = 0

instance (types : List MType) (std : Int) (imp : Bool) (a : List Msg) : Decidable (ChannelsWithoutPairings types std imp a) := by
  unfold ChannelsWithoutPairings; infer_instance

/-- the condition of that finding as a predicate on the INPUT: `ChannelsWithoutPairings` holds exactly when some message has a listed type and
    every message of a listed type is a note-off (`OnlyOrphanOffs`, Lemmas/AbsTie2LI.lean). -/
theorem channelsWithoutPairings_input (types : List MType) (std : Int) (imp : Bool) (a : List Msg) :
    ChannelsWithoutPairings types std imp a ↔ OnlyOrphanOffs types a := by
  unfold ChannelsWithoutPairings
  obtain ⟨h1, h2⟩ := fold_counts types imp (sortAbs a) {}
  have e1 : pairings types std imp a = [] ↔ ((sortAbs a).foldl (pairStep types imp) {}).pairs = [] := by
    simp [pairings, pairingsSorted]
  have e2 : ((pairings types std imp a).map (fun c => c.2.length)).sum = sumLen ((sortAbs a).foldl (pairStep types imp) {}).pairs := by
    simp only [pairings, pairingsSorted, sumLen, List.map_map]
    congr 1
    apply List.map_congr_left
    intro c _
    simp
  rw [e2, h2, Ne, e1, h1]
  unfold OnlyOrphanOffs
  simp only [sumLen, List.map_nil, List.sum_nil, true_and]
  constructor
  · rintro ⟨hn, hall⟩
    refine ⟨?_, fun m hm => hall m ((mem_sortAbs a m).2 hm)⟩
    by_cases hex : ∃ m ∈ a, types.contains m.ty = true
    · exact hex
    · exfalso
      apply hn
      intro m hm
      cases hc : types.contains m.ty with
      | false => rfl
      | true => exact absurd ⟨m, (mem_sortAbs a m).1 hm, hc⟩ hex
  · rintro ⟨⟨m, hm, hc⟩, hall⟩
    refine ⟨?_, fun x hx => hall x ((mem_sortAbs a x).1 hx)⟩
    intro hno
    have := hno m ((mem_sortAbs a m).2 hm)
    rw [hc] at this
    cases this

/-- on those inputs the repaired code returns the empty list, like the model -/
theorem interleaved_onlyOrphanOffs (h : Heap) (refs : List Nat) (types : Option (List MType)) (std : Int) (impute : Bool)
    (hr : RefsOk h refs) (hc : HeapChOk h) (ho : OnlyOrphanOffs (types.getD notePairTypes) (deref h refs)) :
    ∃ h', Gen.Abs2.getInterleavedMessagePairings h refs types std impute = .ok (h', sortRefs h refs, []) := by
  obtain ⟨h', out, h1, _, h3⟩ := interleaved_eq h refs types std impute hr hc
  have hz := ((channelsWithoutPairings_input (types.getD notePairTypes) std impute (deref h refs)).2 ho).2
  have hm : SCoda.interleaved (types.getD notePairTypes) std impute (deref h refs) = [] := by
    unfold SCoda.interleaved
    simp only [hz]
    rfl
  rw [hm] at h3
  have : out = [] := by simpa using h3
  exact ⟨h', this ▸ h1⟩

/-- the input that failed before the repair: one orphan note-off -/
example : ChannelsWithoutPairings notePairTypes 24 true [{ ty := .noteOff, ch := 3, time := 5, note := 60 }] ∧
    (Gen.Abs2.getInterleavedMessagePairings [{ ty := .noteOff, ch := 3, time := 5, note := 60 }] [0] none 24 true).map (·.2.2) = .ok [] ∧
    SCoda.interleaved notePairTypes 24 true [{ ty := .noteOff, ch := 3, time := 5, note := 60 }] = [] := by decide

example : ¬ ChannelsWithoutPairings notePairTypes 24 true [{ ty := .noteOn, ch := 1, time := 2, note := 60, vel := 9 },
      { ty := .noteOn, ch := 0, time := 1, note := 62, vel := 9 }, { ty := .noteOff, ch := 1, time := 4, note := 60 }] ∧
    (Gen.Abs2.getInterleavedMessagePairings [{ ty := .noteOn, ch := 1, time := 2, note := 60, vel := 9 },
      { ty := .noteOn, ch := 0, time := 1, note := 62, vel := 9 }, { ty := .noteOff, ch := 1, time := 4, note := 60 }] [0, 1, 2] none 24 true).map (·.2.2)
      = .ok [(0, [1, 3]), (1, [0, 2])] := by decide

/-- the message types `equals` pairs, from its flags (the list the hand model `equalsAbs` builds) -/
abbrev eqTypes' (f : EqFlags) : List MType := eqTypes f.ignoreTs f.ignoreKs

/-- generated `equals(other, ignore_channel, ignore_time_signature, ignore_key_signature, ignore_velocity)` = hand model
    `equalsAbs` (with `PPQN` from the settings), on two sequences whose messages live in one heap, for ALL inputs (source after the
    repair 1462441): it returns the model's Boolean, sorts both `_messages` (linked sort) and only adds objects to the heap. -/
theorem equalsAbs_eq (h : Heap) (self other : List Nat) (f : EqFlags)
    (hs : RefsOk h self) (ho : RefsOk h other) (hc : HeapChOk h) :
    ∃ h', Gen.Abs2.equals h self other f.ignoreCh f.ignoreTs f.ignoreKs f.ignoreVel
      = .ok (h', sortRefs h self, sortRefs h other, SCoda.equalsAbs Gen.ppqn f (deref h self) (deref h other)) :=
  let ⟨_, hx⟩ := equals_spec_grows h self other f hs ho hc
  ⟨_, hx⟩

/-- the call that failed before the repair: `a.equals(AbsoluteSequence())` with `a` = one orphan note-off -/
example : (Gen.Abs2.equals [{ ty := .noteOff, ch := 3, time := 5, note := 60 }] [0] [] false false false false).map (·.2.2.2) = .ok true := by decide

example : (Gen.Abs2.equals [{ ty := .noteOn, ch := 1, time := 0, note := 60, vel := 90 }, { ty := .noteOff, ch := 1, time := 4, note := 60 },
      { ty := .noteOff, ch := 2, time := 4, note := 60 }, { ty := .noteOn, ch := 2, time := 0, note := 60, vel := 70 }]
      [0, 1] [2, 3] true false false true).map (·.2.2.2) = .ok true ∧
    (Gen.Abs2.equals [{ ty := .noteOn, ch := 1, time := 0, note := 60, vel := 90 }, { ty := .noteOff, ch := 1, time := 4, note := 60 },
      { ty := .noteOff, ch := 2, time := 4, note := 60 }, { ty := .noteOn, ch := 2, time := 0, note := 60, vel := 70 }]
      [0, 1] [2, 3] true false false false).map (·.2.2.2) = .ok false := by decide

/-- generated `cutoff(maximum_length, reduced_length)` = hand model `cutoff` on the referenced messages.
    The generated code stores through an alias (`message_pairing[1].time = …` changes the object that is also an element
    of `_messages`); on the heap of message objects this is a cell update, and the sequence read back through the final
    heap is the model's `sortAbs (cutoffGo …)`.  The new `_messages` holds the same objects (a permutation of the old list).
    Hypotheses: references point into the heap; no channel `None`; every message of the sequence is its own object
    (`refs.Nodup` — with the same object twice the store would show at both places). -/
theorem cutoff_eq (h : Heap) (refs : List Nat) (mx rd : Int) (hr : RefsOk h refs) (hc : HeapChOk h) (hnd : refs.Nodup) :
    ∃ h' refs', Gen.Abs2.cutoff h refs mx rd = .ok (h', refs') ∧ refs'.Perm refs ∧
      deref h' refs' = SCoda.cutoff mx rd (deref h refs) := by
  obtain ⟨h', h1, h2⟩ := cutoff_spec h refs mx rd hr hc hnd
  refine ⟨h', _, h1, ?_, ?_⟩
  · exact (isort_perm _ _).trans (isort_perm _ _)
  · rw [deref_sortRefs, h2, deref_sortRefs, SCoda.cutoff]

theorem cutoff_init (a : List Msg) (mx rd : Int) (hc : HeapChOk a) :
    ∃ h' refs', Gen.Abs2.cutoff a (refsOf a) mx rd = .ok (h', refs') ∧ deref h' refs' = SCoda.cutoff mx rd a := by
  have hr := refsOk_refsOf a
  obtain ⟨h', refs', h1, _, h3⟩ := cutoff_eq a (refsOf a) mx rd hr hc (nodup_refsOf a)
  exact ⟨h', refs', h1, by rw [h3, deref_refsOf]⟩

example : HeapChOk [{ ty := .noteOn, ch := 1, time := 0, note := 60, vel := 90 }, { ty := .noteOff, ch := 1, time := 30, note := 60 },
      { ty := .noteOn, ch := 1, time := 2, note := 62, vel := 90 }, { ty := .noteOff, ch := 1, time := 5, note := 62 }] ∧
    (Gen.Abs2.cutoff [{ ty := .noteOn, ch := 1, time := 0, note := 60, vel := 90 }, { ty := .noteOff, ch := 1, time := 30, note := 60 },
      { ty := .noteOn, ch := 1, time := 2, note := 62, vel := 90 }, { ty := .noteOff, ch := 1, time := 5, note := 62 }] [0, 1, 2, 3] 10 4).map
        (fun r => deref r.1 r.2)
      = .ok [{ ty := .noteOn, ch := 1, time := 0, note := 60, vel := 90 }, { ty := .noteOn, ch := 1, time := 2, note := 62, vel := 90 },
             { ty := .noteOff, ch := 1, time := 4, note := 60 }, { ty := .noteOff, ch := 1, time := 5, note := 62 }] := by decide

theorem merge_refs (h : Heap) (self : List Nat) (seqs : List (List Nat)) :
    Gen.Abs2.merge h self seqs = .ok (sortRefs h (self ++ seqs.flatten)) := by
  unfold Gen.Abs2.merge
  simp only []
  rw [forIn_spec' _ (fun l st => pure (st ++ l.flatten))]
  · simp [normaliseAbsolute]; rfl
  · intro b; simp
  · intro a as b
    rw [forIn_spec' _ (fun l st => pure (st ++ l))]
    · simp
    · intro b; simp
    · intro x xs b; simp [addMessageUnsorted]

theorem mergeAbs_eq (h : Heap) (self : List Nat) (seqs : List (List Nat)) :
    ∃ r, Gen.Abs2.merge h self seqs = .ok r ∧ deref h r = SCoda.mergeAbs (deref h self) (seqs.map (deref h)) := by
  refine ⟨_, merge_refs h self seqs, ?_⟩
  rw [deref_sortRefs, SCoda.mergeAbs]
  congr 1
  simp only [deref, List.map_append, List.map_flatten]
  rfl

example : Gen.Abs2.merge [{ ty := .noteOn, time := 5, note := 60 }, { ty := .noteOn, time := 1, note := 61 }, { ty := .noteOff, time := 3, note := 61 }]
    [0] [[1], [2]] = .ok [1, 2, 0] := by decide

abbrev errMap : Err → PyErr := errMapL

def AgreeSeq (g : Except PyErr (Heap × List Nat)) (m : Except Err (List Msg)) : Prop :=
  match m with
  | .ok r => g.map (fun x => deref x.1 x.2) = .ok r
  | .error e => g.map (fun x => deref x.1 x.2) = .error (errMap e)

instance : DecidableEq (Except PyErr (List Msg)) := fun a b => by
  cases a <;> cases b <;> simp <;> infer_instance

instance (g : Except PyErr (Heap × List Nat)) (m : Except Err (List Msg)) : Decidable (AgreeSeq g m) := by
  unfold AgreeSeq; split <;> infer_instance

theorem agree_of_post {M : Except Err (List Msg)} {x : Except PyErr (Heap × List Nat)}
    (h : Agrees errMapL (fun r m => deref r.1 r.2 = m) M x) : AgreeSeq x M := by
  cases M with
  | ok m => obtain ⟨r, rfl, rfl⟩ := h; rfl
  | error e => rw [show x = _ from h]; rfl

/-- generated `quantise(step_sizes)` = hand model `quantiseS` — the source repaired for D41 calls `normalise_absolute()` first, the model
    is the walk `SCoda.quantise` on the sorted list (Model/QuantiseS.lean) — (same messages, or the same error: IndexError for an empty list of
    step sizes, KeyError in the collapse walk for a note-off whose note-on is not among the collected messages — exactly where the model raises).  The generated
    code re-times the message OBJECTS in the heap (`message_to_append = msg; message_to_append.time = …`) and collects references;
    read back through the final heap this is the model's list.  `step_sizes=None` ↦ `Gen.defaultStepSizes` (link).
    Hypotheses: references into the heap; no channel `None`; every message its own object (`refs.Nodup`); POSITIVE step sizes (the
    model computes `t / s`, the code `t // s`: for `s = 0` the code raises ZeroDivisionError, for `s < 0` it floors the other way). -/
theorem quantise_eq (h : Heap) (refs : List Nat) (steps : Option (List Int)) (hr : RefsOk h refs) (hc : HeapChOk h)
    (hnd : refs.Nodup) (hpos : ∀ s ∈ steps.getD Gen.defaultStepSizes, 0 < s) :
    AgreeSeq (Gen.Abs2.quantise h refs steps) (SCoda.quantiseS (steps.getD Gen.defaultStepSizes) (deref h refs)) := by
  cases steps with
  | none => rw [quantise_none]; exact agree_of_post (quantise_spec h refs Gen.defaultStepSizes hr hc hnd hpos)
  | some st => exact agree_of_post (quantise_spec h refs st hr hc hnd hpos)

theorem quantise_init (a : List Msg) (steps : Option (List Int)) (hc : HeapChOk a) (hpos : ∀ s ∈ steps.getD Gen.defaultStepSizes, 0 < s) :
    AgreeSeq (Gen.Abs2.quantise a (refsOf a) steps) (SCoda.quantiseS (steps.getD Gen.defaultStepSizes) a) := by
  have hr := refsOk_refsOf a
  have := quantise_eq a (refsOf a) steps hr hc (nodup_refsOf a) hpos
  rwa [deref_refsOf] at this

example : (∀ s ∈ Gen.defaultStepSizes, 0 < s) ∧
    (Gen.Abs2.quantise [{ ty := .noteOn, ch := 1, time := 5, note := 60, vel := 90 }, { ty := .noteOff, ch := 1, time := 9, note := 60 }]
      [0, 1] none).map (fun r => (deref r.1 r.2).map (·.time)) = .ok [4, 8] := by decide

/-- the recorded input of finding D41 (one tick stored note-on before note-off): the generated text of the repaired source sorts first and
    keeps the second note [48,100); no note-off is fabricated (the final heap has the four input objects only) -/
example : (Gen.Abs2.quantise [{ ty := .noteOn, ch := 0, time := 0, note := 60, vel := 64 }, { ty := .noteOn, ch := 0, time := 50, note := 60, vel := 70 },
      { ty := .noteOff, ch := 0, time := 50, note := 60 }, { ty := .noteOff, ch := 0, time := 100, note := 60 }]
      [0, 1, 2, 3] (some [4])).map (fun r => (r.1.length, r.2, (deref r.1 r.2).map (·.time))) = .ok (4, [0, 2, 1, 3], [0, 48, 48, 100]) := by decide

/-- generated `quantise_note_lengths(note_values, standard_length, do_not_extend)` = hand model `quantiseNoteLengths` (same messages, or
    the same error).  The generated code pairs the notes (`get_message_pairings()`, imputed note-offs are NEW heap cells), builds
    `note_occurrences` (lists of the SAME pairing lists), finds each pairing by `list.index` (identity of the pairing's messages),
    filters `copy.copy(note_values)` twice with `list.remove`, stores `message_pairing[1].time += correction` through the alias into the
    heap, replaces removed pairings by `[]`, and collects the references; read back through the final heap this is the model's list.
    `note_values=None` ↦ `Gen.defaultNoteValues` (link).
    Hypotheses: references into the heap; no channel `None` (the pairing step keys tables by channel; the imputed note-off gets
    channel 0 where the model says −1: replayed, the results differ); every message its own object (`refs.Nodup`: what the frame
    reasoning of the proof needs — the references of different pairings are different cells; at the replayed points with one object
    twice in `_messages` the code and the model still agree, so this is a limit of the proof, not a known limit of the model). -/
theorem quantiseNoteLengths_eq (h : Heap) (refs : List Nat) (values : Option (List Int)) (std : Int) (dne : Bool)
    (hr : RefsOk h refs) (hc : HeapChOk h) (hnd : refs.Nodup) :
    AgreeSeq (Gen.Abs2.quantiseNoteLengths h refs values std dne)
      (SCoda.quantiseNoteLengths (values.getD Gen.defaultNoteValues) std dne (deref h refs)) := by
  have key : ∀ vs, AgreeSeq (Gen.Abs2.quantiseNoteLengths h refs (some vs) std dne) (SCoda.quantiseNoteLengths vs std dne (deref h refs)) := by
    intro vs
    obtain ⟨r, hr, hm⟩ := (qnl_spec h refs vs std dne hr hc hnd).run
    rw [hr, hm]
    rfl
  cases values with
  | none => rw [qnl_none]; exact key _
  | some vs => exact key vs

theorem quantiseNoteLengths_init (a : List Msg) (values : Option (List Int)) (std : Int) (dne : Bool) (hc : HeapChOk a) :
    AgreeSeq (Gen.Abs2.quantiseNoteLengths a (refsOf a) values std dne)
      (SCoda.quantiseNoteLengths (values.getD Gen.defaultNoteValues) std dne a) := by
  have hr := refsOk_refsOf a
  have := quantiseNoteLengths_eq a (refsOf a) values std dne hr hc (nodup_refsOf a)
  rwa [deref_refsOf] at this

example : (Gen.Abs2.quantiseNoteLengths [{ ty := .noteOn, ch := 1, time := 0, note := 60, vel := 90 }, { ty := .noteOff, ch := 1, time := 5, note := 60 },
      { ty := .noteOn, ch := 1, time := 7, note := 60, vel := 90 }]
      [0, 1, 2] (some [4, 12]) 3 true).map (fun r => (deref r.1 r.2).map (fun m => (m.ty, m.time))) =
    .ok [(.noteOn, 0), (.noteOff, 4)] := by decide   -- the open note (imputed length 3) has no valid duration left and is dropped

end SCoda.AbsTie2
