/-
  C08 — splitting a sequence conserves duration, sound and events with exact capacities.
  `split r caps` is the fuel-driven model of `RelativeSequence.split` (after the repair of D7).
  "Laid end to end" is list concatenation of the relative pieces (`pieces.flatten`): the clock of a
  relative list is the running sum of its waits.
-/
import SCoda.Model.Split
import SCoda.Model.Roll
import SCoda.Lemmas.Split
import SCoda.Lemmas.SplitNotes
namespace SCoda.C08
open SCoda SCoda.SplitL

def sumInt : List Int → Int
  | [] => 0
  | x :: xs => x + sumInt xs

/-- cumulative capacities: the boundaries -/
def cumSums : Int → List Int → List Int
  | _, [] => []
  | acc, c :: cs => (acc + c) :: cumSums (acc + c) cs

/-- the loop always terminates within its fuel: `split` never reports `.fuel` (a termination proof) -/
theorem split_total (r : List Msg) (caps : List Int) : ∃ pieces, split r caps = .ok pieces := by
  obtain ⟨s, hs⟩ := splitOuter_total caps { wm := r }
  refine ⟨(if (s.cur.reverse ++ s.wm).length > 0 then (s.cur.reverse ++ s.wm) :: s.pieces else s.pieces).reverse, ?_⟩
  simp only [split, hs, bind, Except.bind]

theorem count (r : List Msg) (caps : List Int) (pieces : List (List Msg)) (h : split r caps = .ok pieces) :
    pieces.length ≤ caps.length + 1 := by
  obtain ⟨s, hs, rfl⟩ := split_eq r caps pieces h
  obtain ⟨_, new, hp, hl, _⟩ := splitOuter_shape caps _ s hs rfl
  simp only [List.append_nil] at hp
  rw [List.length_reverse, hp]
  split
  · omega
  · simp only [List.length_cons]; omega

theorem nonempty (r : List Msg) (caps : List Int) (pieces : List (List Msg)) (h : split r caps = .ok pieces) :
    ∀ p ∈ pieces, p ≠ [] := by
  obtain ⟨s, hs, rfl⟩ := split_eq r caps pieces h
  obtain ⟨_, new, hp, _, hn⟩ := splitOuter_shape caps _ s hs rfl
  simp only [List.append_nil] at hp
  intro p hpm
  rw [List.mem_reverse, hp] at hpm
  split at hpm
  · exact hn p hpm
  · rename_i hne
    rcases List.mem_cons.1 hpm with rfl | hpm
    · exact hne
    · exact hn p hpm

theorem cumSums_eq (a : Int) (cs : List Int) : cumSums a cs = cums a cs := by
  induction cs generalizing a with
  | nil => rfl
  | cons c cs ih => simp only [cumSums, cums, ih]

/-- a boundary is never tick 0 -/
theorem cumSums_pos (caps : List Int) (acc : Int) (hacc : 0 ≤ acc) (hpos : ∀ c ∈ caps, 0 < c) :
    ∀ x ∈ cumSums acc caps, 0 < x := by
  intro x hx
  have := cums_gt caps acc hpos x (cumSums_eq acc caps ▸ hx)
  omega

theorem sumInt_map_durRel (ps : List (List Msg)) : sumInt (ps.map durRel) = totalWait ps.flatten := by
  induction ps with
  | nil => rfl
  | cons p ps ih => simp only [List.map_cons, sumInt, ih, List.flatten_cons, totalWait_append, durRel]

theorem flatten_pieces (ps : List (List Msg)) (wm : List Msg) : (ps ++ pushIf wm []).flatten = ps.flatten ++ wm := by
  rw [List.flatten_append, pushIf_flatten, List.flatten_nil, List.append_nil]

theorem exact_aux (full tail : List (List Msg)) (caps : List Int) (h1 : tail.length ≤ 1)
    (h2 : full.map totalWait = caps.take full.length) :
    ∀ i, i + 1 < (full ++ tail).length →
      ∃ c, caps[i]? = some c ∧ ((full ++ tail)[i]?.map durRel) = some c := by
  intro i hi
  have hif : i < full.length := by simp only [List.length_append] at hi; omega
  refine ⟨totalWait full[i], ?_, ?_⟩
  · have : (caps.take full.length)[i]? = caps[i]? := by
      rw [List.getElem?_take]; simp [hif]
    rw [← this, ← h2]
    simp [hif]
  · rw [List.getElem?_append_left hif]
    simp [hif, durRel]

theorem exact (r : List Msg) (caps : List Int) (pieces : List (List Msg)) (h : split r caps = .ok pieces)
    (hpos : ∀ c ∈ caps, 0 < c) (hw : NonNegWaits r) :
    ∀ i, i + 1 < pieces.length → ∃ c, caps[i]? = some c ∧ (pieces[i]?.map durRel) = some c := by
  obtain ⟨ps, wm, _, hruns, rfl⟩ := split_runs r caps pieces h hpos hw
  rcases (hruns.timing 0 hpos hw).exact with hm | ⟨rfl, full, last, rfl, hl, _, hft⟩
  · apply exact_aux
    · exact pushIf_length_le wm
    · have : caps.length = ps.length := by rw [← hm]; simp
      rw [← this, List.take_length]; exact hm
  · rw [pushIf_nil, List.append_nil]
    exact exact_aux full last caps hl hft

theorem sum (r : List Msg) (caps : List Int) (pieces : List (List Msg)) (h : split r caps = .ok pieces)
    (hpos : ∀ c ∈ caps, 0 < c) (hw : NonNegWaits r) :
    sumInt (pieces.map durRel) = durRel r := by
  obtain ⟨ps, wm, _, hruns, rfl⟩ := split_runs r caps pieces h hpos hw
  rw [sumInt_map_durRel, flatten_pieces, (hruns.timing 0 hpos hw).dur]; rfl

/-- the final tick is a boundary and a zero-time event other than a note-off sits on it (known finding D8) -/
def FinalBoundaryEvent (r : List Msg) (caps : List Int) : Prop :=
  durRel r ∈ cumSums 0 caps ∧ ∃ m ∈ eventsRel r, m.time = durRel r ∧ m.ty ≠ .noteOff

/-- every non-note event at its original tick — outside the D8 class -/
theorem others_partial (r : List Msg) (caps : List Int) (pieces : List (List Msg)) (h : split r caps = .ok pieces)
    (hpos : ∀ c ∈ caps, 0 < c) (hw : NonNegWaits r) (hd8 : ¬ FinalBoundaryEvent r caps) :
    nonNotes (eventsRel pieces.flatten) = nonNotes (eventsRel r) := by
  obtain ⟨ps, wm, _, hruns, rfl⟩ := split_runs r caps pieces h hpos hw
  rw [flatten_pieces]
  refine (hruns.timing 0 hpos hw).events.trans (List.filter_eq_self.2 fun e he => kept_iff.2 ?_)
  have hle := N_time_le 0 r hw e he
  obtain ⟨he1, he2⟩ := N_mem_eventsRelGo 0 r e he
  rw [Int.zero_add] at hle ⊢
  refine Classical.byContradiction fun hn => hd8 ?_
  rw [not_or, Classical.not_not, ← cumSums_eq] at hn
  exact ⟨hn.2, e, he1, by unfold durRel; omega, he2⟩

/-- in general nothing is invented or moved: the non-note events of the pieces are a sublist of the original's -/
theorem others_sublist (r : List Msg) (caps : List Int) (pieces : List (List Msg)) (h : split r caps = .ok pieces)
    (hpos : ∀ c ∈ caps, 0 < c) (hw : NonNegWaits r) :
    (nonNotes (eventsRel pieces.flatten)).Sublist (nonNotes (eventsRel r)) := by
  obtain ⟨ps, wm, _, hruns, rfl⟩ := split_runs r caps pieces h hpos hw
  rw [flatten_pieces]
  exact (show nonNotes (eventsRel (ps.flatten ++ wm)) = _ from (hruns.timing 0 hpos hw).events) ▸ List.filter_sublist

/-- without the hypothesis `¬ FinalBoundaryEvent r caps` the statement is false (D8): the time signature on the
    final boundary is dropped -/
def d8r : List Msg := [Msg.mkOn 0 60 64 pyNone, Msg.mkWait 0 24, Msg.mkOff 0 60 pyNone, Msg.mkTimeSig 0 3 4 pyNone]
theorem split_drops_final_boundary_event :
    ∃ pieces, split d8r [24] = .ok pieces ∧ nonNotes (eventsRel pieces.flatten) ≠ nonNotes (eventsRel d8r) := by
  refine ⟨_, rfl, ?_⟩
  decide +kernel

/-! ### notes: `closed` and `sound` are false as stated (a zero-length note on a boundary: finding D18)

  A note-on that falls exactly on a boundary is deferred to the next piece, but a note-off is never
  deferred.  If the note has length zero (its note-off follows at the same tick), the note-off is
  written to the piece that ends on the boundary and the note-on opens the next piece: both pieces
  are ill-formed and, laid end to end, the key sounds for ever.  The full statements are stated below as
  `closed_statement` / `sound_statement`, refuted by `zr`, and proved under the extra hypothesis
  `NoZeroNotes r` (defined in `SCoda/Lemmas/SplitNotes.lean`: for every key, a positive wait lies
  between a note-on and the next note-off). -/

/-- the notes through `split`, key by key, for any set `B` of ticks that holds the boundaries and on which the source has no
    zero-length note -/
theorem split_notes {B : Int → Prop} (r : List Msg) (caps : List Int) (pieces : List (List Msg))
    (h : split r caps = .ok pieces) (hpos : ∀ c ∈ caps, 0 < c) (hw : NonNegWaits r) (hwf : WF r)
    (hB : ∀ b ∈ cums 0 caps, B b) (hz : ∀ k, zlB B k none 0 r) :
    (∀ p ∈ pieces, WF p) ∧ NonNegWaits pieces.flatten ∧
      ∀ k, Strong589L.nkNotes k (eventsRel pieces.flatten) none
        = Strong589L.cutNotes (cums 0 caps) (Strong589L.nkNotes k (eventsRel r) none) := by
  obtain ⟨ps, wm, _, hruns, rfl⟩ := split_runs r caps pieces h hpos hw
  obtain ⟨hwm, hnwm, hwfn, hN⟩ := hruns.notes 0 hpos hB hw (AltOB.init 0 r hwf hz)
  rw [flatten_pieces]
  refine ⟨fun p hp => ?_, nonNegWaits_append.2 ⟨nonNegWaits_flatten ps fun p hp => (hwfn p hp).2, hnwm⟩, hN⟩
  rcases List.mem_append.1 hp with hp | hp
  · exact (hwfn p hp).1
  · rcases mem_pushIf hp with ⟨rfl, _⟩ | hp
    · exact hwm
    · cases hp

/-- sounding is read off the notes: a key sounds where one of its notes covers the tick, and cutting keeps what is covered -/
theorem split_sound {B : Int → Prop} (r : List Msg) (caps : List Int) (pieces : List (List Msg))
    (h : split r caps = .ok pieces) (hpos : ∀ c ∈ caps, 0 < c) (hw : NonNegWaits r) (hwf : WF r)
    (hB : ∀ b ∈ cums 0 caps, B b) (hz : ∀ k, zlB B k none 0 r) (k : Int × Int) (t : Int) :
    SoundingAt (eventsRel pieces.flatten) k t ↔ SoundingAt (eventsRel r) k t := by
  obtain ⟨hwfp, hnn, hN⟩ := split_notes r caps pieces h hpos hw hwf hB hz
  rw [Strong589L.sounding_iff_covered k t _ hnn (wf_flatten pieces hwfp), Strong589L.sounding_iff_covered k t r hw hwf, hN k]
  exact Strong589L.covered_cutNotes _ _ t

/-- no piece ends with a note still sounding, and every piece is well-formed on its own (full statement: false) -/
def closed_statement : Prop :=
  ∀ (r : List Msg) (caps : List Int) (pieces : List (List Msg)) (_h : split r caps = .ok pieces)
    (_hpos : ∀ c ∈ caps, 0 < c) (_hw : NonNegWaits r) (_hwf : WF r),
    ∀ p ∈ pieces, WF p

/-- no piece ends with a note still sounding, and every piece is well-formed on its own —
    provided no note has zero length -/
theorem closed_partial (r : List Msg) (caps : List Int) (pieces : List (List Msg)) (h : split r caps = .ok pieces)
    (hpos : ∀ c ∈ caps, 0 < c) (hw : NonNegWaits r) (hwf : WF r) (hz : NoZeroNotes r) :
    ∀ p ∈ pieces, WF p :=
  (split_notes (B := fun _ => True) r caps pieces h hpos hw hwf (fun _ _ => trivial)
    (fun k => (zlB_true k r 0 hw).2 (hz k))).1

/-- laid end to end, the pieces reproduce exactly the original set of sounding (channel, pitch, tick)
    triples: notes crossing a boundary are cut there and re-struck (full statement: false) -/
def sound_statement : Prop :=
  ∀ (r : List Msg) (caps : List Int) (pieces : List (List Msg)) (_h : split r caps = .ok pieces)
    (_hpos : ∀ c ∈ caps, 0 < c) (_hw : NonNegWaits r) (_hwf : WF r) (k : Int × Int) (t : Int),
    SoundingAt (eventsRel pieces.flatten) k t ↔ SoundingAt (eventsRel r) k t

/-- laid end to end, the pieces reproduce exactly the original set of sounding (channel, pitch, tick)
    triples: notes crossing a boundary are cut there and re-struck — provided no note has zero length -/
theorem sound_partial (r : List Msg) (caps : List Int) (pieces : List (List Msg)) (h : split r caps = .ok pieces)
    (hpos : ∀ c ∈ caps, 0 < c) (hw : NonNegWaits r) (hwf : WF r) (hz : NoZeroNotes r) (k : Int × Int) (t : Int) :
    SoundingAt (eventsRel pieces.flatten) k t ↔ SoundingAt (eventsRel r) k t :=
  split_sound (B := fun _ => True) r caps pieces h hpos hw hwf (fun _ _ => trivial)
    (fun k => (zlB_true k r 0 hw).2 (hz k)) k t

/-- the counterexample: a zero-length note on the boundary -/
def zr : List Msg := [Msg.mkWait 0 24, Msg.mkOn 0 60 64 pyNone, Msg.mkOff 0 60 pyNone, Msg.mkWait 0 1]

theorem zr_ok : WF zr ∧ NonNegWaits zr ∧ ¬ NoZeroNotes zr := by
  refine ⟨wf_of_keys zr (by decide), by unfold NonNegWaits; decide, ?_⟩
  intro h
  exact absurd (h (0, 60)) (by decide)

theorem zr_split : split zr [24] = .ok [[Msg.mkWait 0 24, Msg.mkOff 0 60 pyNone], [Msg.mkOn 0 60 64 pyNone, Msg.mkWait 0 1]] := rfl

theorem closed_statement_false : ¬ closed_statement := by
  intro hcl
  have := hcl zr [24] _ zr_split (by decide) zr_ok.2.1 zr_ok.1 [Msg.mkWait 0 24, Msg.mkOff 0 60 pyNone] (by simp)
  rw [wf_iff] at this
  exact absurd (this (0, 60)) (by decide)

theorem sound_statement_false : ¬ sound_statement := by
  intro hs
  have := hs zr [24] _ zr_split (by decide) zr_ok.2.1 zr_ok.1 (0, 60) 24
  simp only [SoundingAt] at this
  revert this
  decide +kernel

set_option linter.unusedVariables false in
/-- a re-struck fragment carries the velocity of the note it was cut from: every note-on of the pieces
    has the velocity of an original note-on of the same channel and pitch at or before its tick
    (the proof does not need `hwf`) -/
theorem velocity (r : List Msg) (caps : List Int) (pieces : List (List Msg)) (h : split r caps = .ok pieces)
    (hpos : ∀ c ∈ caps, 0 < c) (hw : NonNegWaits r) (hwf : WF r) :
    ∀ m ∈ eventsRel pieces.flatten, m.ty = .noteOn →
      ∃ m0 ∈ eventsRel r, m0.ty = .noteOn ∧ m0.nkey = m.nkey ∧ m0.vel = m.vel ∧ m0.time ≤ m.time := by
  obtain ⟨ps, wm, _, hruns, rfl⟩ := split_runs r caps pieces h hpos hw
  rw [flatten_pieces]
  exact hruns.vel (eventsRel r) 0 hw (fun e he hty => ⟨e, he, hty, rfl, rfl, Int.le_refl _⟩) (fun _ hkv => nomatch hkv)

/-! non-vacuity: a note crossing two boundaries, an event on a boundary -/
def exr : List Msg := [Msg.mkOn 0 60 64 pyNone, Msg.mkWait 0 24, Msg.mkTimeSig 0 3 4 pyNone, Msg.mkWait 0 30,
                       Msg.mkOff 0 60 pyNone, Msg.mkWait 0 6]
example : ∃ pieces, split exr [24, 24] = .ok pieces ∧ pieces.length = 3 ∧ pieces.map durRel = [24, 24, 12] := by
  refine ⟨_, rfl, ?_, ?_⟩ <;> decide
example : WF exr ∧ NonNegWaits exr ∧ ¬ FinalBoundaryEvent exr [24, 24] := by
  refine ⟨wf_of_keys exr (by decide), by unfold NonNegWaits; decide, ?_⟩
  rintro ⟨h, _⟩
  revert h
  decide +kernel
/-- the extra hypothesis of `closed_partial` / `sound_partial` is satisfiable, too -/
example : NoZeroNotes exr := noZero_of_keys exr (by decide)

end SCoda.C08
