/-
  C16, classification clause — the derivation routes return fresh values.
  `Gen.aliasFns` (regenerated from /repo on every run) describes the eight derivation routes of the
  property (Message.copy, AbstractSequence.copy, Sequence.copy, Sequence.split,
  Sequence.sequences_split_bars, Bar.copy, Track.copy, Composition.copy): per function its assignments
  and return expressions as (variables read, reads a *source*?), where a source is `self` or a
  non-scalar parameter, and where the translator does not descend into `<x>.copy()` (fresh by the copy
  contract, which the copy methods in this very list must meet), scalar attribute reads, constants,
  comparisons and subscript indices.  A variable is *maybe-shared* if some assignment to it reads a
  source or a maybe-shared variable.  The certificate (maybe-shared variables per function) is
  re-checked here; `derivations_return_fresh` says that under it no return expression is maybe-shared.

  Together with the heap theorems of `Props/C16` (`derive_disjoint`, `frame`, `independent`) this is the
  classification the property needs: what the routes return shares no mutable object with what existed
  (freshness), and an operation can only write what it reaches (Python's memory model, `frame`), with no
  module-level state in the modelled files (`no_global_state`).
  Trusted: the typing rules above as a description of Python aliasing, and the translator's parse.
  The identity / reachability harness (harness/props/C16.py) checks the same on the real objects.
-/
import SCoda.Gen.AliasFacts
import SCoda.Props.C11c
namespace SCoda.C16
open SCoda.Gen SCoda.C11

/-- the certificate is closed under the assignments of the function -/
def closedAssigns (fn : TaintFn) : Bool :=
  fn.assigns.all (fun a => !infoTainted fn.cert [] a.2 || fn.cert.contains a.1)

/-- the certificate is a solution of the freshness rules -/
theorem alias_cert_closed : aliasFns.all closedAssigns = true := by decide +kernel

/-- **every derivation route returns a value that shares nothing with what existed** -/
theorem derivations_return_fresh : aliasFns.all (sinksClean []) = true := by decide +kernel

/-- all eight routes of the property are present (a route cannot silently drop out of the analysis),
    each with at least one return expression -/
theorem derivations_seen :
    aliasRoutes = ["Message.copy", "AbstractSequence.copy", "Sequence.copy", "Sequence.split",
      "Sequence.sequences_split_bars", "Bar.copy", "Track.copy", "Composition.copy"]
    ∧ aliasFns.length = 8 ∧ aliasFns.all (fun fn => !fn.sinks.isEmpty) = true := by decide +kernel

/-- the analysis is not vacuous: sources are seen (some variables are maybe-shared) -/
theorem sources_seen : 4 ≤ (aliasFns.map (fun f => f.cert.length)).foldl (· + ·) 0 := by decide +kernel

/-- no function of the modelled files declares module-level (`global`) state -/
theorem no_global_state : globalWrites = [] := by decide +kernel

end SCoda.C16
