/-
  C11 — tick values stay integers through every operation.

  Layer 1 (typing): every model function has type `… → List Msg` with `time : Int`; the
  correspondence check prints Python times *with their type*, so agreement with the model on an
  input is the statement that the implementation produced an int there.  Not a theorem of this file.

  Layer 2: `Props/C11c.lean` — the float-taint typing over facts regenerated from /repo on every run:
  no float-producing expression reaches a tick, an attribute store, or an argument of a library function.
  The typing follows the value, not the spelling of an expression.  (`Gen.floatSites` lists every float-introducing
  expression site with its nearest enclosing `int(…)`/`round(…)`, for the evidence file; no theorem depends on it.)

  Layer 3: the `PyNum` model of the guarding expressions: each is int-typed for all integer arguments
  and equals the floor-division formula the Lean models use.
-/
import SCoda.Gen.Settings
import SCoda.Model.PyNum
import SCoda.Model.Bar
import SCoda.Model.Token
namespace SCoda.C11
open SCoda

/-- the evaluated default step sizes, note values and velocity bins are all int-typed in Python -/
theorem defaults_int_typed :
    Gen.defaultStepSizesAllIntTyped = true ∧ Gen.defaultStepSizesShift1AllIntTyped = true
    ∧ Gen.defaultNoteValuesAllIntTyped = true ∧ Gen.velocityBinsAllIntTyped = true := by decide +kernel

end SCoda.C11
