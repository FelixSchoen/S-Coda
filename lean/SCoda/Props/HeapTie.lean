/-
  The identity model of C16 (`Model/HeapOps.lean`) tied to the source BY TRANSLATION.

  `tools/py2lean_heap.py` re-reads the Python source on every run and prints, statement by statement and with respect
  to object identity (allocation of new objects, stores into attributes and lists of existing objects, which references
  are returned), the derivation routes of C16 into `Gen/HeapFns.lean`, over the cell heap of `HeapOps`, in the monad
  `HeapLib.HM` (heap + exceptions).  This file proves that running a generated function EQUALS the `HeapOps` step the
  theorems of `Props/C16c.lean` are about — same heap, same returned identities, not merely up to renaming: the
  translation allocates in the order of the Python statements, and where that order differs from the hand model's
  (`Sequence()` allocates the wrapper before its `AbsoluteSequence`, the model after) the cells are of different kinds,
  so the heaps are equal — and then transfers the freshness facts `C16c.derive_fresh_*` to the translated routes.

  Hypotheses (all decidable conditions on the INPUT heap; each excluded point is replayed on the real code in the report):
  * no dangling identity and existing views for flags that say "not stale" (`SeqCopyOk`, …): on other heaps the code raises
    `AttributeError` / "Sequence references stale", where the total hand model continues;
  * every message that is copied has a channel: `Message.__init__` replaces a `None` channel by 0, `HeapOps.msgCopy` copies
    the value (`messageCopy_eq_statement_false`).

  Value-level scalars: the constructor parameter `default_channel` of `Bar` stands behind the tag; its only use is the channel of
  the TIME_SIGNATURE message `Bar.__init__` inserts, whose VALUE is the oracle's `tsMsg`, exactly as in `HeapOps.barFinish`.
  `Bar.copy` (second repair of D37) computes that argument from the bar's own leading time-signature message, which it finds by
  READING `self.sequence.rel`: at identity level a call of the translated `rel` property on the SOURCE's wrapper — a plain read
  when the relative view is not stale (the case `barCopy_eq` covers: `BarCopyOk`), the regeneration of the view otherwise
  (`HeapOps.barCopy` models it by `readRel`; `C16c.derive_fresh_barCopy` has the allowance "the source may be written, but only
  in cells reachable from it").  A source that stores the channel in an attribute of the bar (commit f9ef398) is refused by the
  translator.

  Tied here: `Message.copy`, `AbstractSequence.copy`, `Sequence.__init__` / `copy` / `split` (the wrapper), `Bar.__init__` / `copy`,
  `Bar.to_sequence`, `Track.__init__` / `copy`, `Composition.copy`.  `RelativeSequence.split` itself is a link here and is translated in `Props/HeapTie2.lean`; the
  links `to_absolute_sequence`, `to_relative_sequence`, `normalise_relative`, `pad` in `Props/HeapTie3.lean`.  Tied by the sampled
  correspondence only: the remaining view-level links of `Model/HeapLib.lean`, and `Sequence.sequences_split_bars`
  (`HeapOps.splitBars`; its constituent steps — `Sequence.copy`, `Sequence(relative_sequence=…)`, `Sequence()`, `Bar(…)` — are the
  translated functions above, its loop skeleton is not translated; the order of its per-bar statements: `Props/HeapTieB.lean`).
-/
import SCoda.Lemmas.HeapTieL2
import SCoda.Props.C16c
namespace SCoda.HeapTie
open SCoda SCoda.HeapOps SCoda.HeapLib SCoda.Gen.HeapFns SCoda.HeapTieL SCoda.C16c

/-- the translated `Message.copy` IS `msgCopy`: one new message cell with the source's field values, nothing else written,
    its identity returned.  Hypothesis: the source message has a channel. (A2, tie of the identity model) -/
theorem messageCopy_eq (g : GOrc) (tag i : Nat) (h : Heap) (hch : (h.msg i).ch ≠ pyNone) :
    messageCopy g tag i h = (.ok (msgCopy h i).2, (msgCopy h i).1) := by
  rw [messageCopy_run, normCh_of_ok hch]; rfl

/-- without the hypothesis the equality is false -/
def messageCopy_eq_statement : Prop :=
  ∀ (g : GOrc) (tag i : Nat) (h : Heap), messageCopy g tag i h = (.ok (msgCopy h i).2, (msgCopy h i).1)

/-- a heap with one message whose channel is `None` -/
def noChannelHeap : Heap := (Heap.empty.newMsg { ty := .noteOn, ch := pyNone, note := 60, vel := 64 }).1

/-- counter-example: the copy of a message whose channel is `None` has channel 0 in the translated code (and in the real
    code: replayed), channel `None` in the hand model -/
theorem messageCopy_eq_statement_false : ¬ messageCopy_eq_statement := by
  intro hst
  have h1 := hst ⟨C16c.exOrc, fun _ _ => false⟩ 0 0 noChannelHeap
  have h2 : ((messageCopy ⟨C16c.exOrc, fun _ _ => false⟩ 0 0 noChannelHeap).2.msg 1).ch = 0 := by
    rw [messageCopy_run]; decide
  rw [h1] at h2
  revert h2
  decide +kernel

example : (C16c.exHeap.msg 0).ch ≠ pyNone := by decide +kernel

/-- the translated `AbstractSequence.copy` IS `copyView`: a new view object whose list holds new messages, one per message
    of the source, in order.  Hypothesis: the view exists, its messages exist and have a channel. (A2) -/
theorem abstractSequenceCopy_eq (g : GOrc) (tag l : Nat) (h : Heap) (hok : ViewOk h l) :
    abstractSequenceCopy g tag l h = (.ok (copyView h l).2, (copyView h l).1) :=
  abstractSequenceCopy_run g tag l h hok.2

/-- the translated `Sequence.copy` IS `seqCopy` (the step of `HOp.seqCopy`): exactly the non-stale views are copied,
    message by message, and a new wrapper holds the copies with the source's flags.  Hypothesis `SeqCopyOk`. (A2) -/
theorem sequenceCopy_eq (g : GOrc) (tag s : Nat) (h : Heap) (hok : SeqCopyOk h s) :
    sequenceCopy g tag s h = (.ok (seqCopy h s).2, (seqCopy h s).1) :=
  sequenceCopy_run g tag s h hok

example : SeqCopyOk C16c.exHeap 0 :=
  ⟨fun hf => absurd hf (by decide), fun _ => ⟨0, by decide, by decide, by unfold IdsOk; decide⟩⟩

/-- `derive_fresh_seqCopy` for the TRANSLATED `Sequence.copy`: the call returns normally, every cell reachable from the
    returned wrapper was allocated by the call, and no existing cell is written. (A2) -/
theorem sequenceCopy_fresh (g : GOrc) (tag s : Nat) (h : Heap) (hok : SeqCopyOk h s) :
    ∃ r h', sequenceCopy g tag s h = (.ok r, h') ∧ FreshCells h h' (reach h' (.seq, r))
      ∧ ∀ c, h.alloc c → h'.get c = h.get c :=
  ⟨_, _, sequenceCopy_eq g tag s h hok, derive_fresh_seqCopy h s⟩

/-- the same for the translated `Message.copy` -/
theorem messageCopy_fresh (g : GOrc) (tag i : Nat) (h : Heap) (hch : (h.msg i).ch ≠ pyNone) :
    ∃ r h', messageCopy g tag i h = (.ok r, h') ∧ FreshCells h h' (reach h' (.msg, r))
      ∧ ∀ c, h.alloc c → h'.get c = h.get c :=
  ⟨_, _, messageCopy_eq g tag i h hch, derive_fresh_msgCopy h i⟩

/-- the translated `Bar(sequence, numerator, denominator, key)` — a blank bar cell, then the translated `Bar.__init__`
    (attribute stores, `normalise`, the `messages_rel()` iterations, the optional `pad`, `overwrite_relative_messages` of
    the kept message objects, the new TIME_SIGNATURE message (value: the oracle's `tsMsg`) inserted at index 0,
    `_abs_stale = True`) — IS `HeapOps.barInit`
    under the oracle `orcOf g`: the bar KEEPS the argument sequence object and rewrites it.
    Hypothesis: `sequence.rel` can be read (`SeqLive`; otherwise the code raises "Sequence references stale"). (A2) -/
theorem barInit_eq (g : GOrc) (tag s : Nat) (num den key : Int) (h : Heap) (hl : SeqLive h s) :
    (do let b ← newBarObj; Gen.HeapFns.barInit g tag b s num den key; pure b : HM Nat) h
      = (.ok (HeapOps.barInit (orcOf g) tag h s num den key).2, (HeapOps.barInit (orcOf g) tag h s num den key).1) := by
  simp only [run_bind, newBarObj, run_alloc, bindRes_ok, newBar_snd, barNew_run g tag s num den key h hl, run_pure]
  rfl

/-- the hypothesis of `Bar.copy`: the bar's sequence can be copied (`SeqCopyOk`) and its RELATIVE VIEW IS NOT STALE — the state
    `Bar.__init__`, `set_channel` and `transpose` without octave wrap leave a bar in.  `Bar.copy` reads `self.sequence.rel`
    (bar.py:59) before it copies: with a stale relative view that read rewrites the SOURCE's wrapper (modelled by
    `HeapOps.barCopy`, covered by `C16c.derive_fresh_barCopy`, not by this equality); with both views stale it raises. -/
def BarCopyOk (h : Heap) (b : Nat) : Prop := SeqCopyOk h (h.bar b).seq ∧ (h.seq (h.bar b).seq).relStale = false

/-- the translated `Bar.copy` IS `HeapOps.barCopy` (the step of `HOp.barCopy`) under `orcOf g`: the relative view of the source
    is read (`self.sequence.rel`; not stale: nothing is written), the sequence is copied (`Sequence.copy`), a NEW bar is
    constructed on the copy, with the source's signature and key. (A2) -/
theorem barCopy_eq (g : GOrc) (tag b : Nat) (h : Heap) (hok : BarCopyOk h b) :
    Gen.HeapFns.barCopy g tag b h
      = (.ok (HeapOps.barCopy (orcOf g) tag h b).2, (HeapOps.barCopy (orcOf g) tag h b).1) :=
  barCopy_run g tag b h hok.1 hok.2

/-- `exState` of C16c holds a sequence, its copy, a bar (cell 0) and a copy of that bar -/
example : BarCopyOk C16c.exState.1 0 := by
  exact ⟨⟨fun hf => absurd hf (by decide), fun _ => ⟨8, by decide, by decide, by unfold IdsOk; decide⟩⟩, by decide⟩

/-- freshness for the TRANSLATED `Bar.copy` of a bar whose relative view is not stale: the call returns normally; the bar, its
    sequence, the views and the messages reachable from the returned bar were all allocated by the call; NO existing cell is
    written (the read of the relative view is a plain read). (A2) -/
theorem barCopy_fresh (g : GOrc) (tag b : Nat) (h : Heap) (hok : BarCopyOk h b) :
    ∃ r h', Gen.HeapFns.barCopy g tag b h = (.ok r, h') ∧ FreshCells h h' (reach h' (.bar, r))
      ∧ ∀ c, h.alloc c → h'.get c = h.get c :=
  ⟨_, _, barCopy_eq g tag b h hok, fresh_of_spec (barCopy_spec_fresh (orcOf g) tag (HeapL.good_fresh h) hok.2)⟩

/-- … and for a source with no dangling identity, whatever the state of its relative view, the MODEL step has the allowance of
    `Sequence.split`: the copy is made of new cells not reachable from the source, and the source is written only in cells
    reachable from it (its wrapper, when the stale relative view is regenerated) — `C16c.derive_fresh_barCopy`, restated here
    beside the equality it complements -/
theorem barCopy_model_fresh (o : Orc) (tag b : Nat) (h : Heap) (hall : AllocAll h [(.bar, b)]) :
    FreshCells h (HeapOps.barCopy o tag h b).1 (reach (HeapOps.barCopy o tag h b).1 (.bar, (HeapOps.barCopy o tag h b).2))
      ∧ Disjoint (reach (HeapOps.barCopy o tag h b).1 (.bar, (HeapOps.barCopy o tag h b).2)) (reach (HeapOps.barCopy o tag h b).1 (.bar, b))
      ∧ ∀ c, h.alloc c → c ∉ reach h (.bar, b) → (HeapOps.barCopy o tag h b).1.get c = h.get c :=
  derive_fresh_barCopy o tag h b hall

/-- the pieces `RelativeSequence.split` returned exist and their messages exist and have a channel (a condition on the
    linked `splitView`, i.e. on the oracle's `splitPlan`: its `keep` positions are in range, its fresh messages have a channel —
    `Message.__init__` guarantees the latter in the code) -/
def PiecesOk (g : GOrc) (tag : Nat) (h : Heap) (s : Nat) : Prop :=
  match (getRel g.orc h s).2 with
  | some l => ∀ p ∈ (splitView (g.orc.splitPlan tag) (getRel g.orc h s).1 l).2,
      ViewOk (splitView (g.orc.splitPlan tag) (getRel g.orc h s).1 l).1 p
  | none => False

/-- the translated `Sequence.split` IS `HeapOps.split` (the step of `HOp.split`, after the repair of D13): the relative view is
    read (regenerated if stale), split by the LINKED `RelativeSequence.split`, and every piece is COPIED — message by message,
    into a new view — before it is wrapped in a new `Sequence`.  Hypothesis `PiecesOk`. (A2) -/
theorem sequenceSplit_eq (g : GOrc) (tag s : Nat) (h : Heap) (hp : PiecesOk g tag h s) :
    sequenceSplit g tag s h = (.ok (HeapOps.split g.orc tag h s).2, (HeapOps.split g.orc tag h s).1) := by
  unfold sequenceSplit HeapOps.split relSplit
  unfold PiecesOk at hp
  simp only [run_bind]
  rw [sequenceRel_deref]
  cases hv : (getRel g.orc h s).2 with
  | none => simp [hv] at hp
  | some l =>
    simp only [hv] at hp ⊢
    simp only [run_bind, run_alloc, bindRes_ok, mapM_wrapCopies g tag _ _ hp, run_pure]

/-- `derive_fresh_split` for the TRANSLATED `Sequence.split`: the call returns normally and every piece reaches only cells
    the call allocated, none of them reachable from the source afterwards; cells not reachable from the source are
    unchanged.  Hypotheses: the source has no dangling identity, `PiecesOk`. (A2) -/
theorem sequenceSplit_fresh (g : GOrc) (tag s : Nat) (h : Heap) (hall : AllocAll h [(.seq, s)]) (hp : PiecesOk g tag h s) :
    ∃ ps h', sequenceSplit g tag s h = (.ok ps, h')
      ∧ (∀ p ∈ ps, ∀ c ∈ reach h' (.seq, p), ¬ h.alloc c ∧ h'.alloc c ∧ c ∉ reach h' (.seq, s))
      ∧ ∀ c, h.alloc c → c ∉ reach h (.seq, s) → h'.get c = h.get c :=
  ⟨_, _, sequenceSplit_eq g tag s h hp, derive_fresh_split g.orc tag h s hall⟩

example : PiecesOk ⟨C16c.exOrc, fun _ _ => false⟩ 0 C16c.exHeap 0 := by
  unfold PiecesOk
  have hg : getRel C16c.exOrc C16c.exHeap 0 = (C16c.exHeap, some 0) :=
    getRel_of_live ⟨by decide, by decide⟩
  simp only [hg]
  have hps : (splitView (C16c.exOrc.splitPlan 0) C16c.exHeap 0).2 = [1] := by decide +kernel
  intro p hp
  rw [hps] at hp
  simp only [List.mem_singleton] at hp
  subst hp
  exact ⟨by decide, by unfold IdsOk; decide⟩

/-- the translated `Track(bars, name)` — a blank track cell, then the translated `Track.__init__` (attribute stores; the
    track takes over the list of bars; `Bar.to_sequence(bars)`: a new `Sequence` whose relative view is extended with the
    bars' message OBJECTS; the `messages_rel()` iteration; the program of the first PROGRAM_CHANGE) — IS `HeapOps.trkInit`
    under `orcOf g`.  Hypothesis: the sequences of the bars exist and can be read. (A2) -/
theorem trackInit_eq (g : GOrc) (tag : Nat) (bars : List Nat) (name : Int) (h : Heap)
    (hb : ∀ b ∈ bars, (h.bar b).seq < h.nSeq ∧ SeqLive h (h.bar b).seq) :
    (do let t ← newTrack; trackInit g tag t bars name; pure t : HM Nat) h
      = (.ok (trkInit (orcOf g) tag h bars name).2, (trkInit (orcOf g) tag h bars name).1) := by
  simp only [run_bind, newTrack, run_alloc, bindRes_ok, newTrk_snd, trackNew_run g tag bars name h hb, run_pure]
  rfl

/-- the translated `Track.copy` IS `HeapOps.trkCopy` (the step of `HOp.trkCopy`) under `orcOf g`: every bar is copied by
    `Bar.copy` (in order; a bar listed twice is copied twice), a NEW track is constructed on the list of the copies, with the
    source's name.  Hypothesis `TrkOk`: the track exists, each of its bars exists, the bar's sequence exists, satisfies
    `SeqCopyOk` and has a relative view that is not stale (`BarOk`). (A2) -/
theorem trackCopy_eq (g : GOrc) (tag t : Nat) (h : Heap) (hok : TrkOk h t) :
    trackCopy g tag t h = (.ok (trkCopy (orcOf g) tag h t).2, (trkCopy (orcOf g) tag h t).1) :=
  trackCopy_run g tag t h hok

/-- the translated `Composition.copy` IS `HeapOps.cmpCopy` (the step of `HOp.cmpCopy`) under `orcOf g`: every track is copied
    by `Track.copy`, a NEW composition holds the list of the copies.  Hypothesis: every track satisfies `TrkOk`. (A2) -/
theorem compositionCopy_eq (g : GOrc) (tag c : Nat) (h : Heap) (hok : ∀ t ∈ h.cmp c, TrkOk h t) :
    compositionCopy g tag c h = (.ok (cmpCopy (orcOf g) tag h c).2, (cmpCopy (orcOf g) tag h c).1) := by
  unfold compositionCopy cmpCopy compositionInit newComposition
  simp only [run_bind, run_get, bindRes_ok, mapTag_trackCopy g _ tag h hok, run_alloc, run_modify, run_pure]
  simp only [newCmp_snd, setCmp_newCmp]

/-- freshness for the TRANSLATED `Track.copy` of a track whose bars' relative views are not stale (`TrkOk`): every cell of the copy
    is new, no existing cell is written. (A2) -/
theorem trackCopy_fresh (g : GOrc) (tag t : Nat) (h : Heap) (hok : TrkOk h t) :
    ∃ r h', trackCopy g tag t h = (.ok r, h') ∧ FreshCells h h' (reach h' (.trk, r))
      ∧ ∀ c, h.alloc c → h'.get c = h.get c :=
  ⟨_, _, trackCopy_eq g tag t h hok, fresh_of_spec (trkCopy_spec_ok (orcOf g) tag (HeapL.good_fresh h) hok)⟩

/-- freshness for the TRANSLATED `Composition.copy` (every bar's relative view not stale). (A2) -/
theorem compositionCopy_fresh (g : GOrc) (tag c : Nat) (h : Heap) (hok : ∀ t ∈ h.cmp c, TrkOk h t) :
    ∃ r h', compositionCopy g tag c h = (.ok r, h') ∧ FreshCells h h' (reach h' (.cmp, r))
      ∧ ∀ c', h.alloc c' → h'.get c' = h.get c' :=
  ⟨_, _, compositionCopy_eq g tag c h hok, fresh_of_spec (cmpCopy_spec_ok (orcOf g) tag (HeapL.good_fresh h) hok)⟩

/-- `exState` with a track on its two bars (the first bar listed twice) and a composition of that track -/
def exTrackState : Heap :=
  let t := trkInit C16c.exOrc 7 C16c.exState.1 [0, 1, 0] pyNone
  (t.1.newCmp [t.2, t.2]).1

example : TrkOk exTrackState 0 := by decide +kernel
example : ∀ t ∈ exTrackState.cmp 0, TrkOk exTrackState t := by decide +kernel

end SCoda.HeapTie
