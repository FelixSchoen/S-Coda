/-
  C17 — equals distinguishes exactly the sequences that differ musically.
  `equalsAbs ppqn f a b` models `AbsoluteSequence.equals` (after the repair of D4): both lists are
  sorted, paired per channel, interleaved by onset, and compared pair by pair.  Here: the symmetries, what each flag relaxes,
  sensitivity to single attributes.  That `equals` decides equality of the musical content (soundness, completeness, other
  representations of one sequence) is `Notes.equals_sound` and `Props/NotesB` §3.
-/
import SCoda.Model.Pairing
import SCoda.Model.Roll
import SCoda.Lemmas.Equals
namespace SCoda.C17
open SCoda

/-- equality is reflexive (for every list, well-formed or not, and every flag set) -/
theorem refl (ppqn : Int) (f : EqFlags) (a : List Msg) : equalsAbs ppqn f a a = true :=
  (EQ.equalsAbs_iff ppqn f a a).2 rfl

theorem symm (ppqn : Int) (f : EqFlags) (a b : List Msg) : equalsAbs ppqn f a b = equalsAbs ppqn f b a :=
  Bool.eq_iff_iff.2 (by rw [EQ.equalsAbs_iff, EQ.equalsAbs_iff]; exact eq_comm)

def sortKey (m : Msg) : Int × Int × Nat × Int := (m.time, m.ch, m.ty.rank, m.note)

/-- insertion order does not matter: two lists with the same messages, all with distinct sort keys,
    are interchangeable in either argument (sequences built from the same events through either
    representation or in any insertion order compare equal) -/
theorem perm_invariant (ppqn : Int) (f : EqFlags) (a a' b : List Msg) (hp : a.Perm a')
    (hk : (a.map sortKey).Nodup) :
    equalsAbs ppqn f a b = equalsAbs ppqn f a' b ∧ equalsAbs ppqn f b a = equalsAbs ppqn f b a' := by
  have h := EQ.seen_of_sort_eq ppqn f (EQ.sortAbs_eq_of_perm hp hk)
  exact ⟨EQ.equalsAbs_congr h rfl, EQ.equalsAbs_congr rfl h⟩

theorem equals_of_perm (ppqn : Int) (f : EqFlags) (a a' : List Msg) (hp : a.Perm a')
    (hk : (a.map sortKey).Nodup) : equalsAbs ppqn f a a' = true := by
  rw [← (perm_invariant ppqn f a a' a hp hk).2]
  exact refl ppqn f a

theorem sort_invariant (ppqn : Int) (f : EqFlags) (a b : List Msg) :
    equalsAbs ppqn f a b = equalsAbs ppqn f (sortAbs a) (sortAbs b) :=
  EQ.equalsAbs_congr (EQ.seen_of_sort_eq ppqn f (sortAbs_idem a).symm) (EQ.seen_of_sort_eq ppqn f (sortAbs_idem b).symm)

/-- ignoring velocity = comparing with all note-on velocities erased -/
def eraseVel (a : List Msg) : List Msg := a.map (fun m => if m.ty == .noteOn then { m with vel := 0 } else m)

/-- erasing the velocities is a relabelling of the messages that commutes with the sort and the pairing (`EQ.relab_gVel`,
    `EQ.sortAbs_gVel`) and under which the digests with the flag are the digests without it (`EQ.digest_gVel`) -/
theorem flag_velocity (ppqn : Int) (f : EqFlags) (a b : List Msg) :
    equalsAbs ppqn { f with ignoreVel := true } a b
      = equalsAbs ppqn { f with ignoreVel := false } (eraseVel a) (eraseVel b) :=
  have key := fun c => (EQ.seen_map EQ.relab_gVel ppqn { f with ignoreVel := true } { f with ignoreVel := false } rfl
    (EQ.digest_gVel f) c (EQ.sortAbs_gVel c)).symm
  EQ.equalsAbs_congr (key a) (key b)

/-- ignoring time signatures = comparing with all time-signature events removed -/
theorem flag_time_signature (ppqn : Int) (f : EqFlags) (a b : List Msg) :
    equalsAbs ppqn { f with ignoreTs := true } a b
      = equalsAbs ppqn { f with ignoreTs := false } (a.filter (·.ty != .timeSignature)) (b.filter (·.ty != .timeSignature)) := by
  have ht : ∀ t, (EQ.typesOf { f with ignoreTs := true }).contains t
      = ((EQ.typesOf { f with ignoreTs := false }).contains t && t != .timeSignature) := fun t => by
    rw [EQ.contains_typesOf, EQ.contains_typesOf]; cases f.ignoreKs <;> cases t <;> rfl
  have key := EQ.seen_filter ppqn { f with ignoreTs := true } { f with ignoreTs := false } (fun _ => rfl)
    (·.ty != .timeSignature) (fun m hm => by rw [ht, hm, Bool.and_false]) (fun m hm => by rw [ht, hm, Bool.and_true])
  exact EQ.equalsAbs_congr (key a) (key b)

/-- ignoring key signatures = comparing with all key-signature events removed -/
theorem flag_key_signature (ppqn : Int) (f : EqFlags) (a b : List Msg) :
    equalsAbs ppqn { f with ignoreKs := true } a b
      = equalsAbs ppqn { f with ignoreKs := false } (a.filter (·.ty != .keySignature)) (b.filter (·.ty != .keySignature)) := by
  have ht : ∀ t, (EQ.typesOf { f with ignoreKs := true }).contains t
      = ((EQ.typesOf { f with ignoreKs := false }).contains t && t != .keySignature) := fun t => by
    rw [EQ.contains_typesOf, EQ.contains_typesOf]; cases f.ignoreTs <;> cases t <;> rfl
  have key := EQ.seen_filter ppqn { f with ignoreKs := true } { f with ignoreKs := false } (fun _ => rfl)
    (·.ty != .keySignature) (fun m hm => by rw [ht, hm, Bool.and_false]) (fun m hm => by rw [ht, hm, Bool.and_true])
  exact EQ.equalsAbs_congr (key a) (key b)

/-- the channel flag: a uniform relabelling of a single-channel sequence compares equal with the flag … -/
theorem flag_channel_relabel (ppqn : Int) (f : EqFlags) (a : List Msg) (c c' : Int)
    (h1 : ∀ m ∈ a, m.ty ∈ [.noteOn, .noteOff, .timeSignature, .keySignature] → m.ch = c) :
    equalsAbs ppqn { f with ignoreCh := true } a (a.map (fun m => { m with ch := c' })) = true := by
  rw [EQ.equalsAbs_iff, EQ.seen_restrict ppqn _ (a.map _), List.filter_map, EQ.seen_restrict ppqn _ a]
  -- on the compared messages, all on channel `c`, the relabelling is the exchange of `c` and `c'`
  have hfil : ∀ m ∈ a.filter (fun m => (EQ.typesOf { f with ignoreCh := true }).contains m.ty), m.ch = c := by
    intro m hm
    obtain ⟨h2, h3⟩ := List.mem_filter.1 hm
    exact h1 m h2 (EQ.typesOf_subset _ _ (List.contains_iff_mem.1 h3))
  rw [← EQ.seen_gCh ppqn _ rfl c c' _ hfil]
  exact congrArg _ (List.map_congr_left fun m hm => EQ.gCh_eq c c' m (hfil m hm))

/-- … and unequal without it, as soon as the sequence has a compared event and the label changes -/
theorem flag_channel_strict (ppqn : Int) (f : EqFlags) (a : List Msg) (c c' : Int) (hc : c ≠ c')
    (h1 : ∀ m ∈ a, m.ch = c) (hne : ∃ m ∈ a, m.ty = .noteOn)
    (hf : f.ignoreCh = false) :
    equalsAbs ppqn f a (a.map (fun m => { m with ch := c' })) = false := by
  rw [EQ.equalsAbs_def, EQ.interleaved_setCh _ ppqn c c' a h1]
  have hne' := NotesL.interleaved_ne (EQ.typesOf f) ppqn a (EQ.typesOf_on f) hne
  obtain ⟨x, rest, hx⟩ := List.exists_cons_of_ne_nil hne'
  have hx1 : x.1 = c := (EQ.inv_interleaved (· = c) _ _ a h1 x (by rw [hx]; simp)).1
  rw [hx]
  simp [zipAll, EQ.pairEq_gCh_false f hf c c' hc x hx1]

/-- two sorted well-formed single-note sequences are equal iff all five attributes and the duration agree -/
theorem single_note (ppqn : Int) (c p t d v c' p' t' d' v' : Int) (hd : 0 < d) (hd' : 0 < d') :
    equalsAbs ppqn {} [Msg.mkOn c p v t, Msg.mkOff c p (t + d)] [Msg.mkOn c' p' v' t', Msg.mkOff c' p' (t' + d')] = true
      ↔ (c = c' ∧ p = p' ∧ t = t' ∧ d = d' ∧ v = v') := by
  rw [EQ.equalsAbs_def,
    EQ.interleaved_single_note ppqn c p t d v hd _ (by simp [EQ.typesOf]) (by simp [EQ.typesOf]),
    EQ.interleaved_single_note ppqn c' p' t' d' v' hd' _ (by simp [EQ.typesOf]) (by simp [EQ.typesOf])]
  simp [zipAll, pairEq, Msg.mkOn, Msg.mkOff]
  intro _
  constructor
  · rintro ⟨h2, ⟨h3, h4⟩, h5⟩
    exact ⟨h3, h2, by omega, h5⟩
  · rintro ⟨h3, h2, h4, h5⟩
    exact ⟨h2, ⟨h3, by omega⟩, h5⟩

/-- a time signature's value and tick both matter -/
theorem single_time_signature (ppqn : Int) (t n d t' n' d' : Int) :
    equalsAbs ppqn {} [Msg.mkTimeSig 0 n d t] [Msg.mkTimeSig 0 n' d' t'] = true ↔ (t = t' ∧ n = n' ∧ d = d') := by
  rw [EQ.equalsAbs_def, EQ.interleaved_single_ts ppqn n d t _ (by simp [EQ.typesOf]),
    EQ.interleaved_single_ts ppqn n' d' t' _ (by simp [EQ.typesOf])]
  simp [zipAll, pairEq, Msg.mkTimeSig]

example : equalsAbs 24 {} [Msg.mkOn 0 60 64 0, Msg.mkOff 0 60 24] [Msg.mkOn 0 60 64 24, Msg.mkOff 0 60 48] = false := by
  decide +kernel
example : equalsAbs 24 { ignoreVel := true } [Msg.mkOn 0 60 64 0, Msg.mkOff 0 60 24] [Msg.mkOff 0 60 24, Msg.mkOn 0 60 99 0] = true := by
  decide +kernel

end SCoda.C17
