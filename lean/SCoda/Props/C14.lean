/-
  C14 — transposition shifts each pitch class by the interval, keeping pitches in range.
  `lo`/`hi` are NOTE_LOWER_BOUND / NOTE_UPPER_BOUND (21 / 108 in the generated settings; the
  theorems need only `lo + 11 ≤ hi`, i.e. the range spans an octave).
-/
import SCoda.Model.Normalise
import SCoda.Model.Roll
import SCoda.Lemmas.Roll
import SCoda.Gen.Settings
import SCoda.Gen.TheoryFns
import SCoda.Props.C20
namespace SCoda.C14
open SCoda

/-- the first `while` of `transpose` once the fuel suffices, in closed form: a pitch below the bound goes up by whole octaves to
    the first one that is not below it -/
theorem wrapUp_eq (lo : Int) (f : Nat) (p : Int) (h : lo - p < 12 * (f : Int)) :
    wrapUp lo f p = (if p < lo then p + 12 * ((lo - p + 11) / 12) else p, decide (p < lo)) := by
  induction f generalizing p with
  | zero => simp [wrapUp]; omega
  | succ f ih =>
    unfold wrapUp
    split
    · rename_i hp
      rw [ih (p + 12) (by omega)]
      simp only [Prod.mk.injEq]
      exact ⟨by split <;> omega, by simp [hp]⟩
    · rename_i hp; simp [hp]

/-- the second `while`: a pitch above the bound goes down by whole octaves to the first one that is not above it -/
theorem wrapDown_eq (hi : Int) (f : Nat) (p : Int) (h : p - hi < 12 * (f : Int)) :
    wrapDown hi f p = (if p > hi then p - 12 * ((p - hi + 11) / 12) else p, decide (p > hi)) := by
  induction f generalizing p with
  | zero => simp [wrapDown]; omega
  | succ f ih =>
    unfold wrapDown
    split
    · rename_i hp
      rw [ih (p - 12) (by omega)]
      simp only [Prod.mk.injEq]
      exact ⟨by split <;> omega, by simp [hp]⟩
    · rename_i hp; simp [hp]

theorem wrapPitch_fst (lo hi p : Int) : (wrapPitch lo hi p).1 =
   (wrapDown hi (Int.toNat ((wrapUp lo (Int.toNat (lo - p) / 12 + 2) p).1 - hi) / 12 + 2) (wrapUp lo (Int.toNat (lo - p) / 12 + 2) p).1).1 := rfl
theorem wrapPitch_snd (lo hi p : Int) : (wrapPitch lo hi p).2 =
   ((wrapUp lo (Int.toNat (lo - p) / 12 + 2) p).2 || (wrapDown hi (Int.toNat ((wrapUp lo (Int.toNat (lo - p) / 12 + 2) p).1 - hi) / 12 + 2) (wrapUp lo (Int.toNat (lo - p) / 12 + 2) p).1).2) := rfl

theorem wrap_all (lo hi p : Int) :
    ((wrapPitch lo hi p).1 - p) % 12 = 0 ∧ (lo + 11 ≤ hi →
      lo ≤ (wrapPitch lo hi p).1 ∧ (wrapPitch lo hi p).1 ≤ hi ∧
      ((wrapPitch lo hi p).2 = true ↔ ¬(lo ≤ p ∧ p ≤ hi)) ∧ (lo ≤ p → p ≤ hi → (wrapPitch lo hi p).1 = p)) := by
  rw [wrapPitch_fst, wrapPitch_snd]
  have e1 := wrapUp_eq lo (Int.toNat (lo - p) / 12 + 2) p (by omega)
  generalize wrapUp lo (Int.toNat (lo - p) / 12 + 2) p = u at e1 ⊢
  have e2 := wrapDown_eq hi (Int.toNat (u.1 - hi) / 12 + 2) u.1 (by omega)
  generalize wrapDown hi (Int.toNat (u.1 - hi) / 12 + 2) u.1 = d at e2 ⊢
  subst e2 e1
  simp only [Bool.or_eq_true, decide_eq_true_eq]
  split <;> split <;> omega

theorem wrap_in_range (lo hi p : Int) (h : lo + 11 ≤ hi) :
    lo ≤ (wrapPitch lo hi p).1 ∧ (wrapPitch lo hi p).1 ≤ hi :=
  ⟨((wrap_all lo hi p).2 h).1, ((wrap_all lo hi p).2 h).2.1⟩

theorem wrap_class (lo hi p : Int) : ((wrapPitch lo hi p).1 - p) % 12 = 0 := (wrap_all lo hi p).1

theorem wrap_flag (lo hi p : Int) (h : lo + 11 ≤ hi) :
    (wrapPitch lo hi p).2 = true ↔ ¬(lo ≤ p ∧ p ≤ hi) := ((wrap_all lo hi p).2 h).2.2.1

theorem wrap_id (lo hi p : Int) (h : lo ≤ p ∧ p ≤ hi) : wrapPitch lo hi p = (p, false) := by
  have e1 : ∀ f, wrapUp lo f p = (p, false) := by
    intro f; cases f <;> simp [wrapUp]; omega
  have e2 : ∀ f, wrapDown hi f p = (p, false) := by
    intro f; cases f <;> simp [wrapDown]; omega
  simp only [wrapPitch, e1, e2, Bool.or_self]

def isNoteMsg (m : Msg) : Bool := m.ty == .noteOn || m.ty == .noteOff

theorem transposeMsg_note (lo hi : Int) (tk : Int → Int) (by_ : Int) (m : Msg) (hm : isNoteMsg m = true) :
    transposeMsg lo hi tk by_ m =
      ({ m with note := (wrapPitch lo hi (m.note + by_)).1 }, (wrapPitch lo hi (m.note + by_)).2) := by
  unfold isNoteMsg at hm
  simp only [transposeMsg, hm, if_true]

theorem transposeMsg_nonnote (lo hi : Int) (tk : Int → Int) (by_ : Int) (m : Msg) (hm : isNoteMsg m = false) :
    transposeMsg lo hi tk by_ m =
      (if m.ty == .keySignature then { m with key := tk m.key } else m, false) := by
  unfold isNoteMsg at hm
  simp only [transposeMsg, hm, Bool.false_eq_true, if_false]
  split <;> rfl

theorem transposeMsg_ty (lo hi : Int) (tk : Int → Int) (by_ : Int) (m : Msg) :
    (transposeMsg lo hi tk by_ m).1.ty = m.ty := by
  unfold transposeMsg; split
  · rfl
  · split <;> rfl

theorem transposeMsg_time (lo hi : Int) (tk : Int → Int) (by_ : Int) (m : Msg) :
    (transposeMsg lo hi tk by_ m).1.time = m.time := by
  unfold transposeMsg; split
  · rfl
  · split <;> rfl

/-- every note stays inside the playable range -/
theorem in_range (lo hi : Int) (tk : Int → Int) (by_ : Int) (r : List Msg) (h : lo + 11 ≤ hi) :
    ∀ m ∈ (transposeRel lo hi tk by_ r).1, isNoteMsg m = true → lo ≤ m.note ∧ m.note ≤ hi := by
  intro m hm hn
  simp only [transposeRel, List.mem_map] at hm
  obtain ⟨a, _, rfl⟩ := hm
  have hty := transposeMsg_ty lo hi tk by_ a
  have ha : isNoteMsg a = true := by
    unfold isNoteMsg at hn ⊢; rw [hty] at hn; exact hn
  rw [transposeMsg_note lo hi tk by_ a ha]
  exact wrap_in_range lo hi _ h

/-- the result is the position-wise image of the input under the one-message function … -/
theorem image_list (lo hi : Int) (tk : Int → Int) (by_ : Int) (r : List Msg) :
    (transposeRel lo hi tk by_ r).1 = r.map (fun m => (transposeMsg lo hi tk by_ m).1)
    ∧ (transposeRel lo hi tk by_ r).1.length = r.length := by
  simp [transposeRel]

/-- … and that function keeps type, channel, velocity, …; shifts a note's pitch class by exactly the
    interval; maps a key signature's key through `tk`; leaves every other message alone -/
theorem image_pointwise (lo hi : Int) (tk : Int → Int) (by_ : Int) (m : Msg) :
    let m' := (transposeMsg lo hi tk by_ m).1
    (isNoteMsg m = true → m' = { m with note := m'.note } ∧ (m'.note - m.note - by_) % 12 = 0)
    ∧ (m.ty = .keySignature → m' = { m with key := tk m.key })
    ∧ (isNoteMsg m = false → m.ty ≠ .keySignature → m' = m) := by
  intro m'
  refine ⟨?_, ?_, ?_⟩
  · intro hm
    have e : m' = { m with note := (wrapPitch lo hi (m.note + by_)).1 } := by
      show (transposeMsg lo hi tk by_ m).1 = _
      rw [transposeMsg_note lo hi tk by_ m hm]
    rw [e]
    refine ⟨rfl, ?_⟩
    have := wrap_class lo hi (m.note + by_)
    show ((wrapPitch lo hi (m.note + by_)).1 - m.note - by_) % 12 = 0
    omega
  · intro hk
    have hm : isNoteMsg m = false := by simp [isNoteMsg, hk]
    show (transposeMsg lo hi tk by_ m).1 = _
    rw [transposeMsg_nonnote lo hi tk by_ m hm]
    simp [hk]
  · intro hm hk
    show (transposeMsg lo hi tk by_ m).1 = _
    rw [transposeMsg_nonnote lo hi tk by_ m hm]
    simp [hk]

/-- returns true exactly when some note had to be moved by octaves -/
theorem flag (lo hi : Int) (tk : Int → Int) (by_ : Int) (r : List Msg) (h : lo + 11 ≤ hi) :
    (transposeRel lo hi tk by_ r).2 = true ↔
      ∃ m ∈ r, isNoteMsg m = true ∧ ¬(lo ≤ m.note + by_ ∧ m.note + by_ ≤ hi) := by
  simp only [transposeRel, List.any_eq_true]
  constructor
  · rintro ⟨m, hm, hf⟩
    refine ⟨m, hm, ?_⟩
    cases hn : isNoteMsg m
    · rw [transposeMsg_nonnote lo hi tk by_ m hn] at hf
      simp at hf
    · rw [transposeMsg_note lo hi tk by_ m hn] at hf
      exact ⟨rfl, (wrap_flag lo hi _ h).1 hf⟩
  · rintro ⟨m, hm, hn, hf⟩
    refine ⟨m, hm, ?_⟩
    rw [transposeMsg_note lo hi tk by_ m hn]
    exact (wrap_flag lo hi _ h).2 hf

theorem transposeMsg_exact (lo hi : Int) (tk : Int → Int) (by_ : Int) (m : Msg) (h : lo + 11 ≤ hi)
    (hf : (transposeMsg lo hi tk by_ m).2 = false) :
    (transposeMsg lo hi tk by_ m).1 =
      (if isNoteMsg m then { m with note := m.note + by_ }
      else if m.ty == .keySignature then { m with key := tk m.key } else m) := by
  cases hn : isNoteMsg m
  · rw [transposeMsg_nonnote lo hi tk by_ m hn]; simp
  · rw [transposeMsg_note lo hi tk by_ m hn] at hf ⊢
    simp only [if_true]
    have hin : lo ≤ m.note + by_ ∧ m.note + by_ ≤ hi := by
      have := wrap_flag lo hi (m.note + by_) h
      by_cases hc : lo ≤ m.note + by_ ∧ m.note + by_ ≤ hi
      · exact hc
      · rw [this.2 hc] at hf; cases hf
    rw [wrap_id lo hi _ hin]

/-- when nothing is moved by octaves every note is shifted by exactly the interval and nothing else
    (onsets, durations, velocities: the message list is otherwise identical) changes -/
theorem exact (lo hi : Int) (tk : Int → Int) (by_ : Int) (r : List Msg) (h : lo + 11 ≤ hi)
    (hf : (transposeRel lo hi tk by_ r).2 = false) :
    (transposeRel lo hi tk by_ r).1 = r.map (fun m =>
      if isNoteMsg m then { m with note := m.note + by_ }
      else if m.ty == .keySignature then { m with key := tk m.key } else m) := by
  simp only [transposeRel, List.any_eq_false] at hf ⊢
  apply List.map_congr_left
  intro m hm
  exact transposeMsg_exact lo hi tk by_ m h (by simpa using hf m hm)

theorem transposeMsg_back (lo hi : Int) (tk tkBack : Int → Int) (by_ : Int) (m : Msg)
    (hr : isNoteMsg m = true → lo ≤ m.note ∧ m.note ≤ hi) :
    transposeMsg lo hi tkBack (-by_)
      (if isNoteMsg m then { m with note := m.note + by_ }
       else if m.ty == .keySignature then { m with key := tk m.key } else m)
      = (if m.ty == .keySignature then { m with key := tkBack (tk m.key) } else m, false) := by
  cases hn : isNoteMsg m
  · simp only [Bool.false_eq_true, if_false]
    cases hb : m.ty == MType.keySignature
    · simp only [Bool.false_eq_true, if_false]
      rw [transposeMsg_nonnote _ _ _ _ _ hn, hb]; rfl
    · simp only [if_true]
      rw [transposeMsg_nonnote _ _ _ _ _ (by simpa [isNoteMsg] using hn)]
      simp only [hb, if_true]
  · have hb : (m.ty == MType.keySignature) = false := by
      cases hty : m.ty <;> simp [isNoteMsg, hty] at hn ⊢
    simp only [if_true, hb, Bool.false_eq_true, if_false]
    rw [transposeMsg_note _ _ _ _ _ (by simpa [isNoteMsg] using hn)]
    have e : m.note + by_ + -by_ = m.note := by omega
    simp only [e, wrap_id lo hi m.note (hr hn)]

theorem transposeRel_back (lo hi : Int) (tk tkBack : Int → Int) (by_ : Int) (r : List Msg) (h : lo + 11 ≤ hi)
    (hf : (transposeRel lo hi tk by_ r).2 = false)
    (hr : ∀ m ∈ r, isNoteMsg m = true → lo ≤ m.note ∧ m.note ≤ hi) :
    transposeRel lo hi tkBack (-by_) (transposeRel lo hi tk by_ r).1
      = (r.map fun m => if m.ty == .keySignature then { m with key := tkBack (tk m.key) } else m, false) := by
  rw [exact lo hi tk by_ r h hf]
  simp only [transposeRel, List.map_map, List.any_map]
  refine Prod.ext (List.map_congr_left fun m hm => ?_) (List.any_eq_false.2 fun m hm => ?_)
  · simp only [Function.comp, transposeMsg_back lo hi tk tkBack by_ m (hr m hm)]
  · simp only [Function.comp, transposeMsg_back lo hi tk tkBack by_ m (hr m hm)]
    exact Bool.false_ne_true

/-- … and transposing back restores the original notes (key signatures: `tkBack (tk k) = k` is a hypothesis about the
    key function.  With the generated one, `tkGen`, it holds for the keys 0–11 and fails for 12–14 on 33 of their 36
    (key, interval) pairs, e.g. 12 up 1 is 2, back is 7; there `C20.transpose_compose` gives equal tonics only, and the
    examples are in Props/Gaps.lean) -/
theorem inverse (lo hi : Int) (tk tkBack : Int → Int) (by_ : Int) (r : List Msg) (h : lo + 11 ≤ hi)
    (hf : (transposeRel lo hi tk by_ r).2 = false)
    (hr : ∀ m ∈ r, isNoteMsg m = true → lo ≤ m.note ∧ m.note ≤ hi)
    (hk : ∀ m ∈ r, m.ty = .keySignature → tkBack (tk m.key) = m.key) :
    transposeRel lo hi tkBack (-by_) (transposeRel lo hi tk by_ r).1 = (r, false) := by
  rw [transposeRel_back lo hi tk tkBack by_ r h hf hr]
  refine Prod.ext ((List.map_congr_left fun m hm => ?_).trans (List.map_id r)) rfl
  split
  · rename_i hb; rw [hk m hm (beq_iff_eq.1 hb)]; rfl
  · rfl

theorem eventsRelGo_map_time (f : Msg → Msg) (hty : ∀ m, (f m).ty = m.ty) (htime : ∀ m, (f m).time = m.time)
    (cur : Int) (r : List Msg) :
    (eventsRelGo cur (r.map f)).map (·.time) = (eventsRelGo cur r).map (·.time) := by
  induction r generalizing cur with
  | nil => rfl
  | cons m ms ih =>
    simp only [List.map_cons, eventsRelGo, hty, htime]
    split
    · exact ih _
    · simp only [List.map_cons, ih]

/-- timing is untouched: same duration, and every event keeps its tick -/
theorem timing (lo hi : Int) (tk : Int → Int) (by_ : Int) (r : List Msg) :
    durRel (transposeRel lo hi tk by_ r).1 = durRel r
    ∧ (eventsRel (transposeRel lo hi tk by_ r).1).map (·.time) = (eventsRel r).map (·.time) :=
  ⟨totalWait_map _ (transposeMsg_ty lo hi tk by_) (transposeMsg_time lo hi tk by_) r,
   eventsRelGo_map_time _ (transposeMsg_ty lo hi tk by_) (transposeMsg_time lo hi tk by_) 0 r⟩

/-- the key function the driver uses (`tkFn` in Driver.lean; `genTk` of Model/BarOps.lean is the same function,
    `GapsL.genTk_eq_tkGen`; `ViewTieL.tkGen` is not: it has no case for `pyNone`):
    `Gen.transposeKey` on key indices, `pyNone` ↦ `pyNone`, a returned `None` (-1000000) ↦ `pyNone`, raised ↦ -2 -/
def tkGen (by_ : Int) (k : Int) : Int :=
  if k == pyNone then pyNone else
  match Gen.transposeKey k by_ with
  | some v => if v == -1000000 then pyNone else v
  | Option.none => -2

/-- on valid keys `tkGen` is `Gen.transposeKey` (neither sentinel is a key index) -/
theorem tkGen_eq (by_ k k' : Int) (hk : C20.validKey k) (hk' : C20.validKey k')
    (h : Gen.transposeKey k by_ = some k') : tkGen by_ k = k' := by
  have h1 : (k == pyNone) = false := by
    simp only [pyNone, beq_eq_false_iff_ne, ne_eq]; have := hk.1; omega
  have h2 : (k' == -1000000) = false := by
    simp only [beq_eq_false_iff_ne, ne_eq]; have := hk'.1; omega
  simp only [tkGen, h1, h, h2, Bool.false_eq_true, if_false]

/-- a valid key index is mapped to a valid key index (never `None`, never an exception) -/
theorem key_defined (by_ k : Int) (hk : 0 ≤ k ∧ k < (Gen.keyNames.length : Int)) :
    0 ≤ tkGen by_ k ∧ tkGen by_ k < (Gen.keyNames.length : Int) := by
  obtain ⟨k', hk', hv⟩ := SCoda.C20.transpose_total k by_ hk
  rw [tkGen_eq by_ k k' hk hv hk']
  exact hv

theorem settings_range : Gen.noteLowerBound + 11 ≤ Gen.noteUpperBound := by
  decide +kernel

example : wrapPitch 21 108 (108 + 5) = (101, true) := by
  decide +kernel
example : (transposeRel 21 108 id 2 [Msg.mkOn 0 107 64 pyNone, Msg.mkWait 0 24, Msg.mkOff 0 107 pyNone]).2 = true := by
  decide +kernel

end SCoda.C14
