/-
  C09, audit item A6 parts (b) and (d): an *input-level* alignment predicate and bar grid, the signature / key
  theorems stated against it for every track, the refutation of the statement without distinct ticks, and the
  success / failure theorems of `sequences_split_bars`.
  The spec definitions live in `Lemmas/BarGrid.lean` / `SplitBarsTotal.lean` because the helper lemmas are stated over
  them; all are computed from the input alone.
  Every statement found false is kept as `def …_statement` with a kernel-checked refutation and was replayed on the real
  implementation (results in the docstrings).
-/
import SCoda.Lemmas.SplitBarsTotal
import SCoda.Props.C09
namespace SCoda.Strong589
open SCoda SCoda.SB SCoda.SplitL SCoda.Strong589LB


/-- **the signature events in `Roll` terms**: for a track whose time-signature events (of the independent semantics
    `eventsRel`) have pairwise distinct ticks, the list `sigsOf` that all theorems below read — the implementation's
    `get_message_times_of_type` over the absolute view — is exactly the `eventsRel` events of type time signature, in
    order; same for `keysOf`.  So the hypotheses below are statements about the input's piano-roll events.
    Supports audit item A6(d) (input-level, implementation-independent reading of `AlignedIn`). -/
theorem sigsOf_roll (r : List Msg) (hd : DistinctTicks ((eventsRel r).filter (·.ty == .timeSignature))) :
    sigsOf r = (eventsRel r).filter (·.ty == .timeSignature) :=
  timesOfType_roll .timeSignature (by decide) r hd

/-- the same for the key-signature events.  Supports audit item A6(d). -/
theorem keysOf_roll (r : List Msg) (hd : DistinctTicks ((eventsRel r).filter (·.ty == .keySignature))) :
    keysOf r = (eventsRel r).filter (·.ty == .keySignature) :=
  timesOfType_roll .keySignature (by decide) r hd

/-- **bar k of every track carries the signature in force at the k-th start of the input-level bar grid and lasts
    exactly its length.**  The grid (`gridStart`) and the signature in force (`C09.sigInForce`) are computed from the
    meta track's signature events alone; hypotheses: those events sit on that grid (`OnGrid`, no bound on the bar
    index), their ticks are pairwise distinct, no bar length is negative.  No hypothesis on keys.
    Closes audit item A6(d) (signature part, decoupled from key alignment). -/
theorem bar_signature_in (ppqn : Int) (values : List Int) (tracks : List (List Msg)) (metaIdx : Nat) (requant : Bool)
    (tb : List (List Bar)) (h : splitBars ppqn values tracks metaIdx requant = .ok tb)
    (metaTrack : List Msg) (hm : tracks[metaIdx]? = some metaTrack)
    (hnn : NonNegBars ppqn (sigsOf metaTrack))
    (hal : ∀ m ∈ sigsOf metaTrack, OnGrid ppqn (sigsOf metaTrack) m.time)
    (hd : DistinctTicks (sigsOf metaTrack))
    (i k : Nat) (b : Bar) (hb : C09.barAt tb i k = some b) :
    (b.num, b.den) = C09.sigInForce (sigsOf metaTrack) (gridStart ppqn (sigsOf metaTrack) k)
    ∧ durRel b.seq = barCapacity ppqn b.num b.den := by
  obtain ⟨r, hg⟩ := bar_in_sched ppqn values tracks metaIdx requant tb h metaTrack hm i k b hb
  refine ⟨sched_sig ppqn metaTrack hnn hd hal (r + 1) k _ hg, ?_⟩
  obtain ⟨bs, hbs, hbk⟩ := barAt_some.1 hb
  exact (C09.bars_exact ppqn values tracks metaIdx requant tb h bs (List.mem_of_getElem? hbs) b (List.mem_of_getElem? hbk)).1

/-- **bar k of every track carries the key in force at the k-th start of the input-level bar grid** (`pyNone` before
    any key), when in addition the key events sit on the grid and have pairwise distinct ticks.
    Closes audit item A6(d) (key part). -/
theorem bar_key_in (ppqn : Int) (values : List Int) (tracks : List (List Msg)) (metaIdx : Nat) (requant : Bool)
    (tb : List (List Bar)) (h : splitBars ppqn values tracks metaIdx requant = .ok tb)
    (metaTrack : List Msg) (hm : tracks[metaIdx]? = some metaTrack)
    (hnn : NonNegBars ppqn (sigsOf metaTrack))
    (hal : AlignedIn ppqn (sigsOf metaTrack) (keysOf metaTrack))
    (hd : DistinctTicks (sigsOf metaTrack)) (hdk : DistinctTicks (keysOf metaTrack))
    (i k : Nat) (b : Bar) (hb : C09.barAt tb i k = some b) :
    b.key = C09.keyInForce (keysOf metaTrack) (gridStart ppqn (sigsOf metaTrack) k) := by
  obtain ⟨r, hg⟩ := bar_in_sched ppqn values tracks metaIdx requant tb h metaTrack hm i k b hb
  exact sched_key ppqn metaTrack hnn hd hal.1 hdk hal.2 (r + 1) k _ hg

/-- the signature half of `bar_signature_in`, under the name the manifest cites: the provable part of `bar_sig_statement` (hypothesis added: signature ticks
    pairwise distinct).  Closes audit item A6(d). -/
theorem bar_sig_partial (ppqn : Int) (values : List Int) (tracks : List (List Msg)) (metaIdx : Nat) (requant : Bool)
    (tb : List (List Bar)) (h : splitBars ppqn values tracks metaIdx requant = .ok tb)
    (metaTrack : List Msg) (hm : tracks[metaIdx]? = some metaTrack)
    (hnn : NonNegBars ppqn (sigsOf metaTrack))
    (hal : ∀ m ∈ sigsOf metaTrack, OnGrid ppqn (sigsOf metaTrack) m.time)
    (hd : DistinctTicks (sigsOf metaTrack))
    (i k : Nat) (b : Bar) (hb : C09.barAt tb i k = some b) :
    (b.num, b.den) = C09.sigInForce (sigsOf metaTrack) (gridStart ppqn (sigsOf metaTrack) k) :=
  (bar_signature_in ppqn values tracks metaIdx requant tb h metaTrack hm hnn hal hd i k b hb).1

/-- `bar_key_in`, under the name the manifest cites: the provable part of `bar_key_statement` (hypothesis added: key ticks pairwise
    distinct).  Closes audit item A6(d). -/
theorem bar_key_partial (ppqn : Int) (values : List Int) (tracks : List (List Msg)) (metaIdx : Nat) (requant : Bool)
    (tb : List (List Bar)) (h : splitBars ppqn values tracks metaIdx requant = .ok tb)
    (metaTrack : List Msg) (hm : tracks[metaIdx]? = some metaTrack)
    (hnn : NonNegBars ppqn (sigsOf metaTrack))
    (hal : AlignedIn ppqn (sigsOf metaTrack) (keysOf metaTrack))
    (hd : DistinctTicks (sigsOf metaTrack)) (hdk : DistinctTicks (keysOf metaTrack))
    (i k : Nat) (b : Bar) (hb : C09.barAt tb i k = some b) :
    b.key = C09.keyInForce (keysOf metaTrack) (gridStart ppqn (sigsOf metaTrack) k) :=
  bar_key_in ppqn values tracks metaIdx requant tb h metaTrack hm hnn hal hd hdk i k b hb


/-- the full key statement, *without* "key ticks pairwise distinct" -/
def bar_key_statement : Prop :=
  ∀ (ppqn : Int) (values : List Int) (tracks : List (List Msg)) (metaIdx : Nat) (requant : Bool) (tb : List (List Bar)),
    splitBars ppqn values tracks metaIdx requant = .ok tb →
    ∀ metaTrack : List Msg, tracks[metaIdx]? = some metaTrack → NonNegBars ppqn (sigsOf metaTrack) →
      AlignedIn ppqn (sigsOf metaTrack) (keysOf metaTrack) → DistinctTicks (sigsOf metaTrack) →
      ∀ (i k : Nat) (b : Bar), C09.barAt tb i k = some b →
        b.key = C09.keyInForce (keysOf metaTrack) (gridStart ppqn (sigsOf metaTrack) k)

/-- the full signature statement, *without* "signature ticks pairwise distinct" -/
def bar_sig_statement : Prop :=
  ∀ (ppqn : Int) (values : List Int) (tracks : List (List Msg)) (metaIdx : Nat) (requant : Bool) (tb : List (List Bar)),
    splitBars ppqn values tracks metaIdx requant = .ok tb →
    ∀ metaTrack : List Msg, tracks[metaIdx]? = some metaTrack → NonNegBars ppqn (sigsOf metaTrack) →
      (∀ m ∈ sigsOf metaTrack, OnGrid ppqn (sigsOf metaTrack) m.time) →
      ∀ (i k : Nat) (b : Bar), C09.barAt tb i k = some b →
        (b.num, b.den) = C09.sigInForce (sigsOf metaTrack) (gridStart ppqn (sigsOf metaTrack) k)

def ksMsg (k : Int) : Msg := { ty := .keySignature, ch := 0, key := k }

/-- the audit's witness: key C and key G both on tick 0, then 200 ticks -/
def wKeys : List Msg := [ksMsg 0, ksMsg 1, Msg.mkWait 0 200]

/-- two signatures on the final tick of the meta track (where `split` drops them, D8), beside a longer track -/
def wSigsMeta : List Msg := [Msg.mkWait 0 96, Msg.mkTimeSig 0 3 4 pyNone, Msg.mkTimeSig 0 2 4 pyNone]
def wSigsOther : List Msg := [Msg.mkWait 0 300]

/-- what the model returns on the witnesses (signature, key, duration per bar) -/
example : (outOf (splitBars 24 [] [wKeys] 0 false)).map (fun bs => bs.map (fun b => (b.num, b.den, b.key, durRel b.seq)))
    = [[(4, 4, 0, 96), (4, 4, 1, 96), (4, 4, 1, 96)]] := by decide +kernel
example : (outOf (splitBars 24 [] [wSigsMeta, wSigsOther] 0 false)).map
      (fun bs => bs.map (fun b => (b.num, b.den, b.key, durRel b.seq)))
    = [[(4, 4, pyNone, 96), (3, 4, pyNone, 72), (2, 4, pyNone, 48), (2, 4, pyNone, 48), (2, 4, pyNone, 48)],
       [(4, 4, pyNone, 96), (3, 4, pyNone, 72), (2, 4, pyNone, 48), (2, 4, pyNone, 48), (2, 4, pyNone, 48)]] := by
  decide +kernel

/-- **refuted (finding D23)**: with key C and key G on the same bar start, bar 0 carries C (the first), not the key in force (G):
    the queue is popped once per bar.  The real implementation does the same (replayed). -/
theorem bar_key_statement_false : ¬ bar_key_statement := by
  intro hS
  have hrun : splitBars 24 [] [wKeys] 0 false = .ok (outOf (splitBars 24 [] [wKeys] 0 false)) :=
    eq_ok_outOf _ (by decide +kernel)
  have := hS 24 [] [wKeys] 0 false _ hrun wKeys rfl (by decide +kernel) (alignedIn_of_B _ _ _ (by decide +kernel))
    (by decide +kernel) 0 0 (barOr (C09.barAt (outOf (splitBars 24 [] [wKeys] 0 false)) 0 0)) (by decide +kernel)
  revert this
  decide +kernel

/-- **refuted (finding D23, for signatures)**: two signatures (3/4, 2/4) on one bar start: bar 1 carries 3/4 (the first), not the signature in
    force (2/4).  The real implementation does the same (replayed). -/
theorem bar_sig_statement_false : ¬ bar_sig_statement := by
  intro hS
  have hrun : splitBars 24 [] [wSigsMeta, wSigsOther] 0 false
      = .ok (outOf (splitBars 24 [] [wSigsMeta, wSigsOther] 0 false)) := eq_ok_outOf _ (by decide +kernel)
  have := hS 24 [] [wSigsMeta, wSigsOther] 0 false _ hrun wSigsMeta rfl (by decide +kernel)
    (alignedIn_of_B _ _ [] (by decide +kernel)).1
    0 1 (barOr (C09.barAt (outOf (splitBars 24 [] [wSigsMeta, wSigsOther] 0 false)) 0 1)) (by decide +kernel)
  revert this
  decide +kernel


/-- **the key of bar k with no hypothesis on the key events**: the key queue is popped at most once per bar, so bar `k`
    of every track carries the `lagCount k`-th key event of the meta track (`pyNone` if that count is 0), where
    `lagCount k = min (lagCount (k-1) + 1) (number of key events at or before gridStart k)`.
    Positive description behind `bar_key_statement_false`; closes audit item A6(d). -/
theorem bar_key_lag (ppqn : Int) (values : List Int) (tracks : List (List Msg)) (metaIdx : Nat) (requant : Bool)
    (tb : List (List Bar)) (h : splitBars ppqn values tracks metaIdx requant = .ok tb)
    (metaTrack : List Msg) (hm : tracks[metaIdx]? = some metaTrack)
    (hnn : NonNegBars ppqn (sigsOf metaTrack))
    (hal : ∀ m ∈ sigsOf metaTrack, OnGrid ppqn (sigsOf metaTrack) m.time)
    (hd : DistinctTicks (sigsOf metaTrack))
    (i k : Nat) (b : Bar) (hb : C09.barAt tb i k = some b) :
    b.key = valAt (fun m : Msg => m.key) pyNone (keysOf metaTrack)
      (lagCount (keysOf metaTrack) (gridStart ppqn (sigsOf metaTrack)) k) := by
  obtain ⟨r, hg⟩ := bar_in_sched ppqn values tracks metaIdx requant tb h metaTrack hm i k b hb
  exact sched_key_lag ppqn metaTrack hnn hd hal (r + 1) k _ hg

/-- **no lag ⇒ the key in force**: whenever the number of deliveries has caught up with the number of key events due
    (`lagCount k = dueCount (gridStart k)`), bar `k` carries the key in force at its start — with no alignment or
    distinctness hypothesis on the keys.  Closes audit item A6(d). -/
theorem bar_key_caught_up (ppqn : Int) (values : List Int) (tracks : List (List Msg)) (metaIdx : Nat) (requant : Bool)
    (tb : List (List Bar)) (h : splitBars ppqn values tracks metaIdx requant = .ok tb)
    (metaTrack : List Msg) (hm : tracks[metaIdx]? = some metaTrack)
    (hnn : NonNegBars ppqn (sigsOf metaTrack))
    (hal : ∀ m ∈ sigsOf metaTrack, OnGrid ppqn (sigsOf metaTrack) m.time)
    (hd : DistinctTicks (sigsOf metaTrack)) (i k : Nat) (b : Bar) (hb : C09.barAt tb i k = some b)
    (hc : lagCount (keysOf metaTrack) (gridStart ppqn (sigsOf metaTrack)) k
      = dueCount (keysOf metaTrack) (gridStart ppqn (sigsOf metaTrack) k)) :
    b.key = C09.keyInForce (keysOf metaTrack) (gridStart ppqn (sigsOf metaTrack) k) := by
  rw [bar_key_lag ppqn values tracks metaIdx requant tb h metaTrack hm hnn hal hd i k b hb, hc,
    valAt_due _ _ _ (keysOf_ordered metaTrack), keyInForce_eq]

/-- **two key changes become due at the same bar start**: if before bar `k` the queue had delivered `c` changes, `c + 2`
    are due at `gridStart k` and no further one at `gridStart (k+1)`, then bar `k` carries the first of the two
    (`keys[c]`) and bar `k + 1` the second (`keys[c+1]`, the key in force).  Closes audit item A6(d). -/
theorem bar_key_two_changes (ppqn : Int) (values : List Int) (tracks : List (List Msg)) (metaIdx : Nat) (requant : Bool)
    (tb : List (List Bar)) (h : splitBars ppqn values tracks metaIdx requant = .ok tb)
    (metaTrack : List Msg) (hm : tracks[metaIdx]? = some metaTrack)
    (hnn : NonNegBars ppqn (sigsOf metaTrack))
    (hal : ∀ m ∈ sigsOf metaTrack, OnGrid ppqn (sigsOf metaTrack) m.time)
    (hd : DistinctTicks (sigsOf metaTrack)) (k c : Nat) (first second : Msg)
    (hc : lagBefore (keysOf metaTrack) (gridStart ppqn (sigsOf metaTrack)) k = c)
    (h2 : dueCount (keysOf metaTrack) (gridStart ppqn (sigsOf metaTrack) k) = c + 2)
    (h3 : dueCount (keysOf metaTrack) (gridStart ppqn (sigsOf metaTrack) (k + 1)) = c + 2)
    (h1st : (keysOf metaTrack)[c]? = some first) (h2nd : (keysOf metaTrack)[c + 1]? = some second) (i : Nat) :
    (∀ b, C09.barAt tb i k = some b → b.key = first.key) ∧
    (∀ b, C09.barAt tb i (k + 1) = some b → b.key = second.key) := by
  have hk : lagCount (keysOf metaTrack) (gridStart ppqn (sigsOf metaTrack)) k = c + 1 := by
    rw [lagCount_eq, hc, h2]; omega
  have hk1 : lagCount (keysOf metaTrack) (gridStart ppqn (sigsOf metaTrack)) (k + 1) = c + 2 := by
    show min (lagCount _ _ k + 1) _ = _
    rw [hk, h3]; omega
  constructor
  · intro b hb
    rw [bar_key_lag ppqn values tracks metaIdx requant tb h metaTrack hm hnn hal hd i k b hb, hk]
    simp only [valAt, h1st]
  · intro b hb
    rw [bar_key_lag ppqn values tracks metaIdx requant tb h metaTrack hm hnn hal hd i (k + 1) b hb, hk1]
    simp only [valAt, h2nd]

/-- the audit's witness `[ks C, ks G, wait 200]` satisfies the hypotheses of `bar_key_two_changes` with `k = 0`, `c = 0` -/
example : NonNegBars 24 (sigsOf wKeys) ∧ DistinctTicks (sigsOf wKeys)
    ∧ lagBefore (keysOf wKeys) (gridStart 24 (sigsOf wKeys)) 0 = 0
    ∧ dueCount (keysOf wKeys) (gridStart 24 (sigsOf wKeys) 0) = 2 ∧ dueCount (keysOf wKeys) (gridStart 24 (sigsOf wKeys) 1) = 2
    ∧ ((keysOf wKeys)[0]?).map (·.key) = some 0 ∧ ((keysOf wKeys)[1]?).map (·.key) = some 1 := by decide +kernel

/-- `bar_key_lag` evaluated on three key changes on tick 0 (`[ks 0, ks 1, ks 2, wait 300]`): the bars carry keys
    0, 1, 2, 2 — one delivery per bar; the model and the `lagCount` spec agree (the real implementation returns C, G, D, D) -/
example : (outOf (splitBars 24 [] [[ksMsg 0, ksMsg 1, ksMsg 2, Msg.mkWait 0 300]] 0 false)).map (fun bs => bs.map (·.key))
      = [[0, 1, 2, 2]]
    ∧ (List.range 4).map (fun k => valAt (fun m : Msg => m.key) pyNone (keysOf [ksMsg 0, ksMsg 1, ksMsg 2, Msg.mkWait 0 300])
        (lagCount (keysOf [ksMsg 0, ksMsg 1, ksMsg 2, Msg.mkWait 0 300])
          (gridStart 24 (sigsOf [ksMsg 0, ksMsg 1, ksMsg 2, Msg.mkWait 0 300])) k)) = [0, 1, 2, 2] := by
  decide +kernel


/-- **`sequences_split_bars` succeeds (re-quantisation off)** under input-level conditions: the meta track exists;
    no negative waits; every bar length of the grid is positive; the meta track's time signatures sit on the bar
    grid they induce, at pairwise distinct ticks; every other track's time signatures agree with the signature in
    force at their tick (`SigsAgree`; in particular: tracks without time signatures).
    Closes audit item A6(b): the C09 theorems take `splitBars … = .ok tb` as a hypothesis, and this says when it holds
    (put together in `split_bars_spec`). -/
theorem split_bars_succeeds (ppqn : Int) (values : List Int) (tracks : List (List Msg)) (metaIdx : Nat)
    (metaTrack : List Msg) (hm : tracks[metaIdx]? = some metaTrack)
    (hw : ∀ t ∈ tracks, NonNegWaits t)
    (hpos : PosBars ppqn (sigsOf metaTrack))
    (hal : ∀ m ∈ sigsOf metaTrack, OnGrid ppqn (sigsOf metaTrack) m.time)
    (hd : DistinctTicks (sigsOf metaTrack))
    (hag : ∀ (i : Nat) (t : List Msg), tracks[i]? = some t → i ≠ metaIdx → SigsAgree (sigsOf metaTrack) t) :
    ∃ tb, splitBars ppqn values tracks metaIdx false = .ok tb :=
  splitBars_ok ppqn values false (fun _ => True)
    (fun g t A hc hw' _ hsig =>
      -- with re-quantisation off every piece that fits the bar and carries its signature only is accepted
      trackStep_ok ppqn values false (fun _ => True) trivial g t A hc hw' (fun _ _ _ _ => trivial)
        (fun first hfw _ hfd hs =>
          let ⟨b, hb⟩ := BarL.mkBar_accepts ppqn first g.1 g.2.1 g.2.2 hfw hfd hs
          ⟨first, b, rfl, hb⟩)
        hsig)
    tracks metaIdx metaTrack hm hw (fun _ _ => trivial) hpos hal hd hag

/-- **`sequences_split_bars` succeeds (re-quantisation on)**: as `split_bars_succeeds`, for tracks that are well-formed
    (every note-on closed before the next of its key, `WF`), have no zero-length note, and positive allowed note values.
    Closes audit item A6(b). -/
theorem split_bars_succeeds_requant (ppqn : Int) (values : List Int) (tracks : List (List Msg)) (metaIdx : Nat)
    (metaTrack : List Msg) (hm : tracks[metaIdx]? = some metaTrack)
    (hv : ∀ v ∈ values, 0 < v)
    (hw : ∀ t ∈ tracks, NonNegWaits t) (hwf : ∀ t ∈ tracks, WF t) (hz : ∀ t ∈ tracks, NoZeroNotes t)
    (hpos : PosBars ppqn (sigsOf metaTrack))
    (hal : ∀ m ∈ sigsOf metaTrack, OnGrid ppqn (sigsOf metaTrack) m.time)
    (hd : DistinctTicks (sigsOf metaTrack))
    (hag : ∀ (i : Nat) (t : List Msg), tracks[i]? = some t → i ≠ metaIdx → SigsAgree (sigsOf metaTrack) t) :
    ∃ tb, splitBars ppqn values tracks metaIdx true = .ok tb :=
  splitBars_ok ppqn values true (fun t => WF t ∧ NoZeroNotes t)
    (trackStep_ok_true ppqn values hv)
    tracks metaIdx metaTrack hm hw (fun t ht => ⟨hwf t ht, hz t ht⟩) hpos hal hd hag

/-- **unconditional form of the signature clause**: under the input-level conditions of `split_bars_succeeds` the call
    returns bars, and bar `k` of every track carries the signature in force at `gridStart k` and lasts its length.
    Closes audit item A6(b) + A6(d). -/
theorem split_bars_spec (ppqn : Int) (values : List Int) (tracks : List (List Msg)) (metaIdx : Nat)
    (metaTrack : List Msg) (hm : tracks[metaIdx]? = some metaTrack)
    (hw : ∀ t ∈ tracks, NonNegWaits t)
    (hpos : PosBars ppqn (sigsOf metaTrack))
    (hal : ∀ m ∈ sigsOf metaTrack, OnGrid ppqn (sigsOf metaTrack) m.time)
    (hd : DistinctTicks (sigsOf metaTrack))
    (hag : ∀ (i : Nat) (t : List Msg), tracks[i]? = some t → i ≠ metaIdx → SigsAgree (sigsOf metaTrack) t) :
    ∃ tb, splitBars ppqn values tracks metaIdx false = .ok tb ∧
      ∀ (i k : Nat) (b : Bar), C09.barAt tb i k = some b →
        (b.num, b.den) = C09.sigInForce (sigsOf metaTrack) (gridStart ppqn (sigsOf metaTrack) k)
        ∧ durRel b.seq = barCapacity ppqn b.num b.den := by
  obtain ⟨tb, h⟩ := split_bars_succeeds ppqn values tracks metaIdx metaTrack hm hw hpos hal hd hag
  exact ⟨tb, h, fun i k b hb =>
    bar_signature_in ppqn values tracks metaIdx false tb h metaTrack hm hpos.nonneg hal hd i k b hb⟩

/-- **zero-length first bar** (DESIGN §4 C09 `split_bars_zero_len`; re-quantisation off): if the signature in force
    at tick 0 has bar length 0 (e.g. 1/128 at 24 ticks per quarter) and some track has positive duration, the call
    raises `BarException`.  No alignment hypothesis.  Closes audit item A6(b) (failure branch). -/
theorem split_bars_zero_len (ppqn : Int) (values : List Int) (tracks : List (List Msg)) (metaIdx : Nat)
    (metaTrack : List Msg) (hm : tracks[metaIdx]? = some metaTrack) (hwm : NonNegWaits metaTrack)
    (hd : DistinctTicks (sigsOf metaTrack))
    (hz : barCapacity ppqn (C09.sigInForce (sigsOf metaTrack) 0).1 (C09.sigInForce (sigsOf metaTrack) 0).2 = 0)
    (t : List Msg) (ht : t ∈ tracks) (hw : NonNegWaits t) (hpos : 0 < durRel t) :
    splitBars ppqn values tracks metaIdx false = .error .barError := by
  refine splitBars_raises ppqn values tracks metaIdx false metaTrack hm t ht fun m tw t' nb hrun => ?_
  obtain ⟨g0, hg0, hsig, h01⟩ := sched_first_two ppqn metaTrack hwm hd m
  have h0 : sgLen ppqn g0 = 0 := (sgLen_of_sig hsig).trans hz
  obtain ⟨h1, h2⟩ := trackRun_zero_at ppqn values 0 _ t tw t' nb hrun hw (fun _ _ h => absurd h (Nat.not_lt_zero _))
    (fun g hg => by rw [hg0] at hg; cases hg; exact h0)
    (fun j hj _ => by rw [Nat.le_zero.1 hj, psum_zero]; exact hpos)
  have hm1 : m < tw.length := by
    rw [(trackRun_shape ppqn values false _ _ _ _ _ hrun).1, sched_length]; exact Nat.lt_succ_self m
  cases m with
  | zero => exact ⟨by unfold fuelOf; omega, by rw [List.getElem?_eq_getElem hm1, h1 0 _ (Nat.le_refl 0) (List.getElem?_eq_getElem hm1)]⟩
  | succ m =>
    have hlt : 1 < (sched ppqn metaTrack (m + 1 + 1)).length := by rw [sched_length]; omega
    exact absurd (h01 h0 _ (List.getElem?_eq_getElem hlt)) (h2 _ (List.getElem?_eq_getElem hlt))

/-- **a zero-length bar anywhere** (re-quantisation off): if the signatures sit on their grid at distinct ticks, no bar
    length is negative, bar `k` of the grid has length 0 and some track is longer than `gridStart k`, the call raises
    `BarException` (at that bar, or earlier for another reason — never a result, never non-termination).
    Closes audit item A6(b) (failure branch, any round). -/
theorem split_bars_zero_len_at (ppqn : Int) (values : List Int) (tracks : List (List Msg)) (metaIdx : Nat)
    (metaTrack : List Msg) (hm : tracks[metaIdx]? = some metaTrack)
    (hnn : NonNegBars ppqn (sigsOf metaTrack))
    (hal : ∀ m ∈ sigsOf metaTrack, OnGrid ppqn (sigsOf metaTrack) m.time)
    (hd : DistinctTicks (sigsOf metaTrack)) (k : Nat)
    (hk0 : barCapacity ppqn (C09.sigInForce (sigsOf metaTrack) (gridStart ppqn (sigsOf metaTrack) k)).1
      (C09.sigInForce (sigsOf metaTrack) (gridStart ppqn (sigsOf metaTrack) k)).2 = 0)
    (t : List Msg) (ht : t ∈ tracks) (hw : NonNegWaits t) (hlt : gridStart ppqn (sigsOf metaTrack) k < durRel t) :
    splitBars ppqn values tracks metaIdx false = .error .barError := by
  obtain ⟨k', hk'le, hk'0, hk'min⟩ := exists_least
    (fun j => barCapacity ppqn (C09.sigInForce (sigsOf metaTrack) (gridStart ppqn (sigsOf metaTrack) j)).1
      (C09.sigInForce (sigsOf metaTrack) (gridStart ppqn (sigsOf metaTrack) j)).2 = 0) k hk0
  have hlt' : gridStart ppqn (sigsOf metaTrack) k' < durRel t := by
    have := gridStart_mono ppqn _ hnn k' k hk'le
    omega
  refine splitBars_raises ppqn values tracks metaIdx false metaTrack hm t ht fun m tw t' nb hrun => ?_
  obtain ⟨h1, h2⟩ := trackRun_zero_grid ppqn values metaTrack hnn hd hal k' hk'0 (fun j hj => by
    have h1 := sigInForce_cap_nonneg ppqn _ hnn (gridStart ppqn (sigsOf metaTrack) j)
    have h2 := hk'min j hj
    omega) t hw hlt' m tw t' nb hrun
  exact ⟨by have := durRel_lt_fuelOf tracks t ht; omega, h2⟩

/-- **all tracks empty**: under the conditions of `split_bars_succeeds`, if every track has duration 0 the call returns
    exactly one bar per track (the complementary branch of `split_bars_zero_len`, for positive bar lengths).
    Closes audit item A6(b). -/
theorem split_bars_all_empty (ppqn : Int) (values : List Int) (tracks : List (List Msg)) (metaIdx : Nat)
    (metaTrack : List Msg) (hm : tracks[metaIdx]? = some metaTrack)
    (hw : ∀ t ∈ tracks, NonNegWaits t)
    (hpos : PosBars ppqn (sigsOf metaTrack))
    (hal : ∀ m ∈ sigsOf metaTrack, OnGrid ppqn (sigsOf metaTrack) m.time)
    (hd : DistinctTicks (sigsOf metaTrack))
    (hag : ∀ (i : Nat) (t : List Msg), tracks[i]? = some t → i ≠ metaIdx → SigsAgree (sigsOf metaTrack) t)
    (h0 : ∀ t ∈ tracks, durRel t = 0) :
    ∃ tb, splitBars ppqn values tracks metaIdx false = .ok tb ∧ tb.length = tracks.length ∧ ∀ bs ∈ tb, bs.length = 1 := by
  obtain ⟨tb, h⟩ := split_bars_succeeds ppqn values tracks metaIdx metaTrack hm hw hpos hal hd hag
  exact ⟨tb, h, one_round_of_empty ppqn values tracks metaIdx false tb h metaTrack hm hpos hd hal hw h0⟩

/-- the zero-length statement with re-quantisation **on** -/
def split_bars_zero_len_requant_statement : Prop :=
  ∀ (ppqn : Int) (values : List Int) (tracks : List (List Msg)) (metaIdx : Nat) (metaTrack : List Msg),
    tracks[metaIdx]? = some metaTrack → NonNegWaits metaTrack → DistinctTicks (sigsOf metaTrack) → (∀ v ∈ values, 0 < v) →
    barCapacity ppqn (C09.sigInForce (sigsOf metaTrack) 0).1 (C09.sigInForce (sigsOf metaTrack) 0).2 = 0 →
    ∀ t ∈ tracks, NonNegWaits t → WF t → 0 < durRel t →
      splitBars ppqn values tracks metaIdx true = .error .barError

/-- a one-tick note under 1/128 -/
def exZeroShort : List Msg := [Msg.mkTimeSig 0 1 128 pyNone, Msg.mkOn 0 60 64 pyNone, Msg.mkWait 0 1, Msg.mkOff 0 60 pyNone]

/-- **refuted**: with re-quantisation on and the library's note values (shortest 4 ticks), a one-tick note in a
    zero-length bar is removed by the re-quantiser, the emptied piece fits the bar of length 0, and the call returns one
    empty bar instead of raising: the music is dropped silently.  The real implementation does the same (replayed). -/
theorem split_bars_zero_len_requant_statement_false : ¬ split_bars_zero_len_requant_statement := by
  intro hS
  have := hS 24 [24, 12, 6, 16, 8, 4, 36, 18, 9] [exZeroShort] 0 exZeroShort rfl (by unfold NonNegWaits; decide)
    (by decide +kernel) (by decide) (by decide +kernel) exZeroShort (by simp) (by unfold NonNegWaits; decide)
    (wf_of_keys _ (by decide)) (by decide)
  have hok : isOk (splitBars 24 [24, 12, 6, 16, 8, 4, 36, 18, 9] [exZeroShort] 0 true) = true := by decide +kernel
  rw [this] at hok
  cases hok

/-- `tracks[metaIdx]` does not exist: `IndexError`.  Closes audit item A6(b) (failure branch). -/
theorem split_bars_bad_meta (ppqn : Int) (values : List Int) (tracks : List (List Msg)) (metaIdx : Nat) (requant : Bool)
    (h : tracks[metaIdx]? = none) : splitBars ppqn values tracks metaIdx requant = .error .indexError := by
  simp [splitBars, h]

/-- a meta track with a key change on bar 1, a mid-piece signature change (3/4 → 2/4 at tick 144), a note crossing a
    bar line and a signature on its final boundary (4/4 at tick 192) -/
def exMetaIn : List Msg :=
  [Msg.mkTimeSig 0 3 4 pyNone, Msg.mkOn 0 60 64 pyNone, Msg.mkWait 0 72, ksMsg 1, Msg.mkWait 0 24, Msg.mkOff 0 60 pyNone,
   Msg.mkWait 0 48, Msg.mkTimeSig 0 2 4 pyNone, Msg.mkWait 0 48, Msg.mkTimeSig 0 4 4 pyNone]
/-- a short side track that repeats the signature in force inside bar 1 -/
def exSide : List Msg := [Msg.mkWait 0 80, Msg.mkTimeSig 0 3 4 pyNone, Msg.mkOn 0 48 64 pyNone, Msg.mkWait 0 12, Msg.mkOff 0 48 pyNone]
/-- a side track longer than the meta track (so the signature on the meta track's final boundary takes effect) -/
def exLong : List Msg := [Msg.mkWait 0 250]

/-- the existing `C09.exMeta` is not aligned (its key change sits at tick 96, inside bar 1 = [72,144)) -/
example : ¬ AlignedIn 24 (sigsOf C09.exMeta) (keysOf C09.exMeta) := by
  rw [← alignedInB_iff 24 _ _ (by decide +kernel)]
  decide +kernel

example : (sigsOf exMetaIn).map (fun m => (m.time, m.num, m.den)) = [(0, 3, 4), (144, 2, 4), (192, 4, 4)]
    ∧ (keysOf exMetaIn).map (fun m => (m.time, m.key)) = [(72, 1)]
    ∧ (List.range 5).map (gridStart 24 (sigsOf exMetaIn)) = [0, 72, 144, 192, 288] := by decide +kernel

private theorem ex_pos : PosBars 24 (sigsOf exMetaIn) := by decide +kernel
private theorem ex_aligned : AlignedIn 24 (sigsOf exMetaIn) (keysOf exMetaIn) := alignedIn_of_B _ _ _ (by decide +kernel)
private theorem ex_distinct : DistinctTicks (sigsOf exMetaIn) ∧ DistinctTicks (keysOf exMetaIn) := by decide +kernel
private theorem ex_waits : ∀ t ∈ [exMetaIn, exSide, exLong], NonNegWaits t := by unfold NonNegWaits; decide
private theorem ex_agree : ∀ (i : Nat) (t : List Msg), [exMetaIn, exSide, exLong][i]? = some t → i ≠ 0 →
    SigsAgree (sigsOf exMetaIn) t := by
  intro i t hi hne
  rcases i with _ | _ | _ | i
  · exact absurd rfl hne
  · cases hi; decide +kernel
  · cases hi; decide +kernel
  · simp at hi
private theorem ex_wf : (∀ t ∈ [exMetaIn, exSide, exLong], WF t) ∧ ∀ t ∈ [exMetaIn, exSide, exLong], NoZeroNotes t := by
  constructor
  · intro t ht
    simp only [List.mem_cons, List.not_mem_nil, or_false] at ht
    rcases ht with rfl | rfl | rfl
    · exact wf_of_keys _ (by decide)
    · exact wf_of_keys _ (by decide)
    · exact wf_of_keys _ (by decide)
  · intro t ht
    simp only [List.mem_cons, List.not_mem_nil, or_false] at ht
    rcases ht with rfl | rfl | rfl
    · exact noZero_of_keys _ (by decide)
    · exact noZero_of_keys _ (by decide)
    · exact noZero_of_keys _ (by decide)

/-- `sigsOf_roll` / `keysOf_roll` apply to the example: its change events are those of the `Roll` semantics -/
example : sigsOf exMetaIn = (eventsRel exMetaIn).filter (·.ty == .timeSignature)
    ∧ keysOf exMetaIn = (eventsRel exMetaIn).filter (·.ty == .keySignature) :=
  ⟨sigsOf_roll exMetaIn (by decide +kernel), keysOf_roll exMetaIn (by decide +kernel)⟩

/-- the hypotheses of `split_bars_succeeds` / `split_bars_spec` / `bar_signature_in` / `bar_key_in` hold on the example -/
example : ∃ tb, splitBars 24 [6, 12, 24] [exMetaIn, exSide, exLong] 0 false = .ok tb :=
  split_bars_succeeds 24 [6, 12, 24] [exMetaIn, exSide, exLong] 0 exMetaIn rfl ex_waits ex_pos ex_aligned.1 ex_distinct.1 ex_agree

example : ∃ tb, splitBars 24 [6, 12, 24] [exMetaIn, exSide, exLong] 0 true = .ok tb :=
  split_bars_succeeds_requant 24 [6, 12, 24] [exMetaIn, exSide, exLong] 0 exMetaIn rfl (by decide) ex_waits ex_wf.1 ex_wf.2
    ex_pos ex_aligned.1 ex_distinct.1 ex_agree

/-- the conclusion evaluated: every track gets the bars 3/4, 3/4 (key 1 from here on), 2/4, 4/4 — the spec side
    (`sigInForce` / `keyInForce` at `gridStart k`) and the model side agree -/
example : (outOf (splitBars 24 [6, 12, 24] [exMetaIn, exSide, exLong] 0 false)).map
      (fun bs => bs.map (fun b => (b.num, b.den, b.key, durRel b.seq)))
    = List.replicate 3 ((List.range 4).map (fun k =>
        ((C09.sigInForce (sigsOf exMetaIn) (gridStart 24 (sigsOf exMetaIn) k)).1,
         (C09.sigInForce (sigsOf exMetaIn) (gridStart 24 (sigsOf exMetaIn) k)).2,
         C09.keyInForce (keysOf exMetaIn) (gridStart 24 (sigsOf exMetaIn) k),
         barCapacity 24 (C09.sigInForce (sigsOf exMetaIn) (gridStart 24 (sigsOf exMetaIn) k)).1
           (C09.sigInForce (sigsOf exMetaIn) (gridStart 24 (sigsOf exMetaIn) k)).2)))
    ∧ (List.range 4).map (fun k => (C09.sigInForce (sigsOf exMetaIn) (gridStart 24 (sigsOf exMetaIn) k),
         C09.keyInForce (keysOf exMetaIn) (gridStart 24 (sigsOf exMetaIn) k)))
      = [((3, 4), pyNone), ((3, 4), 1), ((2, 4), 1), ((4, 4), 1)] := by
  decide +kernel

/-- zero-length bars: 1/128 at 24 ticks per quarter has capacity 0; the hypotheses of `split_bars_zero_len` and of
    `split_bars_zero_len_at` (bar 1 after one 4/4 bar) hold on these inputs, and the model raises `BarException` -/
def exZero : List Msg := [Msg.mkTimeSig 0 1 128 pyNone, Msg.mkOn 0 60 64 pyNone, Msg.mkWait 0 10, Msg.mkOff 0 60 pyNone]
def exZeroLate : List Msg := [Msg.mkWait 0 96, Msg.mkTimeSig 0 1 128 pyNone, Msg.mkWait 0 10]

example : barCapacity 24 1 128 = 0 := by decide +kernel

example : splitBars 24 [] [exZero] 0 false = .error .barError :=
  split_bars_zero_len 24 [] [exZero] 0 exZero rfl (by unfold NonNegWaits; decide) (by decide +kernel) (by decide +kernel)
    exZero (by simp) (by unfold NonNegWaits; decide) (by decide)

example : splitBars 24 [] [exZeroLate] 0 false = .error .barError :=
  split_bars_zero_len_at 24 [] [exZeroLate] 0 exZeroLate rfl (by decide +kernel)
    (alignedIn_of_B _ _ [] (by decide +kernel)).1 (by decide +kernel) 1 (by decide +kernel)
    exZeroLate (by simp) (by unfold NonNegWaits; decide) (by decide +kernel)

/-- outside both theorems (a bar of length 0, every track empty), evaluated: a zero-length first bar with nothing to split
    yields one empty bar per track -/
example : (outOf (splitBars 24 [] [[Msg.mkTimeSig 0 1 128 pyNone], []] 0 false)).map
      (fun bs => bs.map (fun b => (b.num, b.den, b.key, durRel b.seq)))
    = [[(1, 128, pyNone, 0)], [(1, 128, pyNone, 0)]] := by decide +kernel

/-- `split_bars_all_empty` on a concrete input: a meta track holding only a 3/4 signature, and an empty track -/
example : ∃ tb, splitBars 24 [] [[Msg.mkTimeSig 0 3 4 pyNone], []] 0 false = .ok tb ∧ tb.length = 2 ∧ ∀ bs ∈ tb, bs.length = 1 :=
  split_bars_all_empty 24 [] [[Msg.mkTimeSig 0 3 4 pyNone], []] 0 [Msg.mkTimeSig 0 3 4 pyNone] rfl
    (by unfold NonNegWaits; decide) (by decide +kernel) (alignedIn_of_B _ _ [] (by decide +kernel)).1 (by decide +kernel)
    (by
      intro i t hi hne
      rcases i with _ | _ | i
      · exact absurd rfl hne
      · cases hi; decide +kernel
      · simp at hi)
    (by decide)

example : splitBars 24 [] [exLong] 3 false = .error .indexError := split_bars_bad_meta 24 [] [exLong] 3 false rfl

end SCoda.Strong589
