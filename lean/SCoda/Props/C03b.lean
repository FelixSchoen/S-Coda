/-
  C03, last glue — where a call ends.
  A call moves the clock to the onset of its last event and then closes the bar in progress.  So a
  call on whole bars ends exactly at the end of its last bar *unless* its last event sits on a bar line
  (the bar after it is never opened): that is the known finding D19 (same root cause as D15).
-/
import SCoda.Props.C01
import SCoda.Props.C01b
namespace SCoda.C01
open SCoda

/-- the clock after the events of a call, before the final bar-closing step -/
def foldClock (c : Cfg) (st : TokSt) (evs : List (Int × Pairing)) : Clock :=
  (evs.foldl (specEvent c st.curTime) (clockOf st (c.capacity st.tsNum st.tsDen), [])).1

theorem foldClock_cur (c : Cfg) (st : TokSt) (evs : List (Int × Pairing)) (last : Int × Pairing) (m : Msg)
    (hev : EvsOk c st.curTime st.curTime evs) (hlast : evs.getLast? = some last) (hm : last.2.head? = some m)
    (hne : ∀ ev ∈ evs, ev.2 ≠ [])
    (hrem : 0 < st.capRem) (hbar : 0 ≤ st.curTimeBar) (hcap : 0 < c.capacity st.tsNum st.tsDen)
    (hcapEv : ∀ ev ∈ evs, ∀ m ∈ ev.2.head?, m.ty = .timeSignature → 0 < c.capacity m.num m.den) :
    (foldClock c st evs).cur = st.curTime + m.time := by
  unfold foldClock
  rw [fold_last c st.curTime st.curTime evs _ (FoldInv.init st _ hrem hbar hcap) hev.notBefore hev.ordered hcapEv hne,
    lastHead_getLast _ hlast hm]
  omega

/-- **where the call ends**: on the last onset if that is a bar line, else at the end of the bar containing it.
    (For a call on whole bars, read on the tokeniser's state and the chunk's length: `ChunksL.call_end`.) -/
theorem call_end (c : Cfg) (st : TokSt) (evs : List (Int × Pairing))
    (hrem : 0 < st.capRem) (hbar : 0 ≤ st.curTimeBar) (hcap : 0 < c.capacity st.tsNum st.tsDen)
    (hcapEv : ∀ ev ∈ evs, ∀ m ∈ ev.2.head?, m.ty = .timeSignature → 0 < c.capacity m.num m.den) :
    (specLog c st evs).1.cur =
      (if 0 < (foldClock c st evs).bar then (foldClock c st evs).cur + (foldClock c st evs).capRem
       else (foldClock c st evs).cur) := by
  rw [specLog_eq]
  exact closeBar_clock _ (fold_inv c st.curTime st.curTime evs _ (FoldInv.init st _ hrem hbar hcap) hcapEv).sane.1

/-- the tokeniser's final clock is the specification's (so `call_end` is about the real call) -/
theorem call_end_tokenise (c : Cfg) (hc : CfgOk c) (st st' : TokSt) (evs : List (Int × Pairing)) (toks : List Tok)
    (d : DetokSt) (hrel : Rel c st d) (hev : EvsOk c st.curTime st.curTime evs)
    (hcap0 : 0 < c.capacity st.tsNum st.tsDen)
    (hcapEv : ∀ ev ∈ evs, ∀ m ∈ ev.2.head?, m.ty = .timeSignature → 0 < c.capacity m.num m.den)
    (hok : tokeniseCore c st evs = .ok (toks, st')) :
    st'.curTime = (if 0 < (foldClock c st evs).bar then (foldClock c st evs).cur + (foldClock c st evs).capRem
                   else (foldClock c st evs).cur) := by
  obtain ⟨E, a1, _⟩ := core_sim_mono c hc st st' evs toks hrel.barNonneg (Or.inl hrel.remPos) hev hok
  have h := call_end c st evs hrel.remPos hrel.barNonneg hcap0 hcapEv
  rw [a1] at h
  exact h

/-- the configuration and the call of D19: a 3/8 bar holding one whole-bar note (36 ticks, no trailing rest) -/
def d19Cfg : Cfg := { steps := [2, 3, 4, 6, 8, 12, 16, 24], values := [4, 6, 8, 9, 12, 16, 18, 24, 36], bins := [127] }
def d19Evs : List (Int × Pairing) := [(0, [Msg.mkTimeSig 0 3 8 0]), (0, [Msg.mkOn 0 60 64 0, Msg.mkOff 0 60 36])]
/-- **D19, kernel-checked**: the call `d19Evs` is accepted and ends at tick 0, not 36 -/
theorem call_stalls_on_barline :
    ∃ toks st', tokeniseCore d19Cfg (TokSt.init d19Cfg) d19Evs = .ok (toks, st') ∧ st'.curTime = 0 ∧ st'.curTimeBar = 0 := by
  refine ⟨_, _, rfl, rfl, rfl⟩

end SCoda.C01
