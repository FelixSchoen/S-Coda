/-
  C02b — the *string* layer of C02 (audit item A9).

  In `Props/C02.lean` tokens are the structured datatype `Tok`; "the vocabulary keys and the emitted
  tokens are built by two string-building code paths that agree" and "`_split_token` / `int()` parses
  every key" are then true by construction.  Here the strings themselves are the subject:
  `render : Tok → String` produces the exact Python text (prefixes from the generated table
  `Gen.tokenPrefixes`, `:02` / `:03` padding), `parseTok` is `_split_token` + `int(...)`
  (notelike_tokenisation.py:441-445, 264-338).

  `String.splitOn`, `String.intercalate`, `toString`, `String.toInt?` are the core functions, not
  re-modelled: `Lemmas/RenderL.lean` proves `s.splitOn "c" = (s.toList.splitOn c).map ofList`.
-/
import SCoda.Props.C02
import SCoda.Lemmas.RenderL
import SCoda.Lemmas.RenderInjL
namespace SCoda.C02b
open SCoda
export SCoda.RenderL (TokOk OptNonneg CfgNonneg)

/-- A9: the prefix strings of `TokenisationPrefixes` are pairwise distinct (`decide` over the
    generated table; a colliding prefix in the source breaks this proof). -/
theorem prefixes_distinct : (Gen.tokenPrefixes.map (·.2)).Nodup := RenderL.table_prefixes_nodup

/-- A9: no prefix string contains the part separator `-`, the field separator `_`, or a digit
    (`decide` over the generated table). -/
theorem prefixes_clean :
    ∀ p ∈ Gen.tokenPrefixes, ∀ c ∈ p.2.toList, c ≠ '-' ∧ c ≠ '_' ∧ c.isDigit = false :=
  RenderL.table_prefixes_clean

/-- A9: every enum member that `render` / `parseTok` look up exists in the generated table, and
    the ten strings they obtain are pairwise distinct. -/
theorem prefixes_used :
    (∀ n ∈ RenderL.usedNames, (Gen.tokenPrefixes.find? (·.1 == n)).isSome = true)
    ∧ ∀ a ∈ RenderL.usedNames, ∀ b ∈ RenderL.usedNames, prefixOf a = prefixOf b → a = b :=
  ⟨RenderL.used_in_table, RenderL.prefixOf_inj⟩

/-- A9: splitting the Python text of a token on `-` and `_` and reading the numbers with `int()`
    gives the token back, for every token whose numeric fields are natural numbers. -/
theorem parse_render (t : Tok) (h : TokOk t) : parseTok (render t) = .ok t :=
  RenderL.parse_render_ok t h

example : TokOk (.note (some 1) 60 (some 12) (some 80)) := by decide +kernel
example : render (.note (some 1) 60 (some 12) (some 80)) = "trk_01-pit_060-val_12-vel_080" := by decide +kernel
example : parseTok (render (.note (some 1) 60 (some 12) (some 80))) = .ok (.note (some 1) 60 (some 12) (some 80)) :=
  parse_render _ (by decide)
example : parseTok "trk_01-pit_060-val_12-vel_080" = .ok (.note (some 1) 60 (some 12) (some 80)) := by
  have h : "trk_01-pit_060-val_12-vel_080" = render (.note (some 1) 60 (some 12) (some 80)) := by decide +kernel
  rw [h]; exact parse_render _ (by decide)

/-- A9: `render` is injective on tokens with natural-number fields: two different tokens never
    have the same Python text.  (`h₁`, `h₂` are not used: `Defs.render_injective_all` is the statement without them.) -/
theorem render_injective (t₁ t₂ : Tok) (h₁ : TokOk t₁) (h₂ : TokOk t₂) (h : render t₁ = render t₂) :
    t₁ = t₂ :=
  have _ := h₁; have _ := h₂
  RenderL.render_inj t₁ t₂ h

example : TokOk (.rest 2) ∧ TokOk (.tsig 12 8) := by decide +kernel

/-! `TokOk` is needed: a negative number is printed with a sign, and the sign is the part
    separator.  `f"{-5:02}"` is `"-5"`, the key is `"rst_-5"`, `_split_token` gives
    `[["rst", ""], ["5"]]` and `int("")` raises. -/
def parse_render_statement : Prop := ∀ t : Tok, parseTok (render t) = .ok t

theorem parse_render_neg : parseTok (render (.rest (-5))) = .error .valueError := by
  have h : render (.rest (-5)) = "rst_-5" := by decide +kernel
  have h1 : "rst_-5".splitOn "-" = ["rst_", "5"] := by
    rw [RenderL.dash_eq, RenderL.splitOn_singleton]; decide
  have h2 : "rst_".splitOn "_" = ["rst", ""] := by
    rw [RenderL.us_eq, RenderL.splitOn_singleton]; decide
  have h3 : "5".splitOn "_" = ["5"] := by
    rw [RenderL.us_eq, RenderL.splitOn_singleton]; decide
  have h4 : pyInt? "" = Option.none := by decide +kernel
  simp only [parseTok, h, h1, h2, h3, h4, List.map_cons, List.map_nil, List.foldl_cons, List.foldl_nil,
    bind, Except.bind]

theorem parse_render_statement_false : ¬ parse_render_statement := by
  intro h
  have := h (.rest (-5))
  rw [parse_render_neg] at this
  cases this

/-- A9: the string keys written by `_construct_dictionary` are pairwise distinct, so the Python
    dict has one entry per element of the construction sequence (no key is overwritten) and the
    structured vocabulary of `Props/C02.lean` is the dict. -/
theorem render_vocab_nodup (c : Cfg) (h : C02.CfgWF c) (hn : CfgNonneg c) :
    ((vocabSeq c).map render).Nodup := by
  have hnd := C02.vocab_nodup c h
  rw [List.Nodup, List.pairwise_map]
  refine List.Pairwise.imp_of_mem ?_ hnd
  intro a b ha hb hab e
  exact hab (render_injective a b (RenderL.vocab_tokOk c hn a ha) (RenderL.vocab_tokOk c hn b hb) e)

/-- Key distinctness without `CfgNonneg` (kept as a `def`; proved in Props/Defs.lean, `Defs.render_vocab_nodup_general`:
    `render` is injective on all tokens — a sign is always followed by a digit, a part separator by a letter).  On the real
    code the configurations `step_sizes=[-5,2]`, `pitch_range=(-1,1)`, `time_signature_range=(-1,2)` give dicts with as many
    keys as the counter reports. -/
def render_vocab_nodup_general_statement : Prop :=
  ∀ c : Cfg, C02.CfgWF c → ((vocabSeq c).map render).Nodup

/-- A9: every vocabulary string is accepted by `_split_token` / `int()` and yields the very token
    it was built from. -/
theorem vocab_tokens_parse (c : Cfg) (hn : CfgNonneg c) (s : String) (hs : s ∈ (vocabSeq c).map render) :
    ∃ t ∈ vocabSeq c, render t = s ∧ parseTok s = .ok t := by
  obtain ⟨t, ht, rfl⟩ := List.mem_map.1 hs
  exact ⟨t, ht, rfl, parse_render t (RenderL.vocab_tokOk c hn t ht)⟩

/-- A9: "every vocabulary token is accepted by detokenise" at string level: the key parses, and
    the parsed token is executed by `detokenise`'s loop body without an exception, from any state
    with one output sequence per track (composition with `C02.detok_accepts`). -/
theorem vocab_strings_detok_accept (c : Cfg) (hn : CfgNonneg c) (s : String)
    (hs : s ∈ (vocabSeq c).map render) (d : DetokSt)
    (hd : d.seqs.length = c.numTracks) (hp : 0 ≤ d.prvTrack ∧ d.prvTrack < (c.numTracks : Int))
    (hnt : 0 < c.numTracks) :
    ∃ t d', parseTok s = .ok t ∧ dstep c d t = .ok d' ∧ d'.seqs.length = c.numTracks
      ∧ 0 ≤ d'.prvTrack ∧ d'.prvTrack < (c.numTracks : Int) := by
  obtain ⟨t, ht, _, hparse⟩ := vocab_tokens_parse c hn s hs
  obtain ⟨d', h1, h2, h3, h4⟩ := C02.detok_accepts c t ht d hd hp hnt
  exact ⟨t, d', hparse, h1, h2, h3, h4⟩

/-- A9: the tokens `tokenise` emits are rendered to strings that are keys of the dict (the "two
    string-building code paths agree": both are `render` of a `Tok`, and `render` is injective on
    the vocabulary, so string membership and token membership coincide). -/
theorem tokenise_strings_in_vocab (c : Cfg) (h : C02.CfgWF c) (st st' : TokSt)
    (evs : List (Int × Pairing)) (toks : List Tok) (hch : C02.ChannelsOk c evs)
    (hok : tokeniseCore c st evs = .ok (toks, st')) :
    ∀ s ∈ toks.map render, s ∈ (vocabSeq c).map render := by
  intro s hs
  obtain ⟨t, ht, rfl⟩ := List.mem_map.1 hs
  exact List.mem_map.2 ⟨t, C02.tokenise_closed c h st st' evs toks hch hok t ht, rfl⟩

/-! Without `CfgNonneg` the vocabulary statement is false of the model — and of the real code
    (`step_sizes=[-5, 2]`: key `"rst_-5"`, `detokenise(["rst_-5"])` raises `ValueError`;
    `pitch_range=(-1, 1)`: key `"trk_00-pit_-01-val_04-vel_127"`, `TokenisationException`). -/
def vocab_tokens_parse_statement : Prop :=
  ∀ c : Cfg, C02.CfgWF c → ∀ t ∈ vocabSeq c, parseTok (render t) = .ok t

def negCfg : Cfg := { steps := [-5, 2], values := [4], bins := [127], pitchLo := 60, pitchHi := 61 }

theorem vocab_tokens_parse_statement_false : ¬ vocab_tokens_parse_statement := by
  intro h
  have := h negCfg (by constructor <;> decide) (.rest (-5)) (by decide)
  rw [parse_render_neg] at this
  cases this

example : C02.CfgWF C02.exCfg ∧ CfgNonneg C02.exCfg := by
  refine ⟨by constructor <;> decide, by decide⟩
example : "trk_01-pit_061-val_06" ∈ (vocabSeq C02.exCfg).map render := by decide +kernel
example : ((vocabSeq C02.exCfg).map render).length = 32 := by decide +kernel

end SCoda.C02b
