/-
  C12 (save then load returns the same notes) for MULTI-CHANNEL sequences — closes audit round 2, item F5
  ("carve-outs wider than the recorded finding"), row C12 of its section D table.

  `C13.Saved.oneCh` (all notes of a saved sequence on one channel) excludes far more than the recorded defect
  D21 (the file does not store the channel and the loader pairs note-offs by pitch alone, so two notes of EQUAL
  PITCH on DIFFERENT channels that overlap fuse).  Here the two end-to-end theorems are proved
  * under `Saved'`: `oneCh` replaced by the input-level decidable predicate `NoCrossChannelClash` — no two notes of
    equal pitch on different channels overlap or touch (the complement of harness/props/C12.py
    `cross_channel_overlap`, the recorded predicate of D21);
  * under the still weaker `SavedX`: forgetting the channels leaves the event list well-formed with notes of
    positive length.  This also covers two such notes that TOUCH when the earlier note's note-off is listed before
    the later note's note-on (replayed on the library: round trip exact); listed the other way round the library
    fuses them (replayed, and `touch_on_first_fuses` below for the model), so the exact class depends on the
    order of the two messages on the shared tick, which `SavedX` captures and a predicate on notes cannot.
  `Saved → Saved' → SavedX`.
-/
import SCoda.Props.C13b
import SCoda.Lemmas.MidiSave
import SCoda.Lemmas.ExtractL
namespace SCoda.C12n
open SCoda SCoda.C13 SCoda.C13b SCoda.MergeL SCoda.E2E

/-- a timed event list with every channel set to 0: all that a MIDI track written by `sequences_save` keeps
    (the lemmas say `C12NarrowL.mono`, the same function: `forgetCh_eq`) -/
def forgetCh (E : List Msg) : List Msg := E.map (fun m => { m with ch := 0 })

/-- a saved sequence, multi-channel: `C13.Saved` with `oneCh` replaced by `NoCrossChannelClash` on its notes -/
structure Saved' (r : List Msg) : Prop where
  ok : OkRel r
  noTime : ∀ m ∈ r, m.ty ≠ .wait → m.time = pyNone
  wf : WF r
  pos : C15.PosDur (eventsRel r)
  vel : ∀ m ∈ r, m.ty = .noteOn → m.vel ≠ pyNone ∧ 0 < m.vel
  sep : NoCrossChannelClash (notesOf (eventsRel r))

/-- the weakest class proved: `C13.Saved` with `oneCh` replaced by "still well-formed, with notes of positive length,
    once the channels are forgotten" -/
structure SavedX (r : List Msg) : Prop where
  ok : OkRel r
  noTime : ∀ m ∈ r, m.ty ≠ .wait → m.time = pyNone
  wf : WF r
  pos : C15.PosDur (eventsRel r)
  vel : ∀ m ∈ r, m.ty = .noteOn → m.vel ≠ pyNone ∧ 0 < m.vel
  monoWf : WF (forgetCh (eventsRel r))
  monoPos : C15.PosDur (forgetCh (eventsRel r))

theorem forgetCh_eq (E : List Msg) : forgetCh E = C12NarrowL.mono E := rfl

/-- `Saved'` is weaker than `Saved`: notes on one channel never clash across channels -/
theorem saved_saved' (r : List Msg) (h : Saved r) : Saved' r := by
  obtain ⟨c0, hc0⟩ := h.oneCh
  exact ⟨h.ok, h.noTime, h.wf, h.pos, h.vel, C12NarrowL.noClash_rel_oneCh r c0 hc0⟩

/-- `SavedX` is weaker than `Saved'`: notes of equal pitch on different channels that neither overlap nor touch keep
    every pitch well-formed when the channels are forgotten -/
theorem saved'_savedX (r : List Msg) (h : Saved' r) : SavedX r :=
  have g := MidiSave.noteGood_of_sep r h.ok h.noTime h.wf h.pos (fun m hm hon => (h.vel m hm hon).1) h.sep
  ⟨h.ok, h.noTime, h.wf, h.pos, h.vel, C12NarrowL.wf_of_good _ g.monoGood, C12NarrowL.posDur_of_good _ g.monoGood⟩

theorem savedX_noteGood (r : List Msg) (h : SavedX r) : MidiSave.NoteGood r :=
  ⟨⟨h.ok.1, h.noTime⟩, good_of_wf _ (wf_events r h.wf) h.pos, good_of_wf _ h.monoWf h.monoPos,
    fun m hm hon => (h.vel m hm hon).1⟩

/-- **C12, notes, multi-channel** (closes audit round 2 F5 / section D row C12 for `save_load_notes`): the notes of
    loaded sequence `i` — pitch, onset, offset, velocity — are exactly the notes of saved sequence `i`, each
    relabelled to channel 0, as a multiset, for every sequence that stays well-formed when its channels are
    forgotten (`SavedX`); any number of channels. -/
theorem save_load_notesX (ppqn : Int) (hp : 0 < ppqn) (rels : List (List Msg)) (hs : ∀ r ∈ rels, SavedX r)
    (out : List Seq) (h : saveLoad ppqn rels = .ok out)
    (i : Nat) (r : List Msg) (s s' : Seq) (a : List Msg) (hr : rels[i]? = some r) (ho : out[i]? = some s)
    (ha : s.readAbs = Except.ok (s', a)) :
    (notesOf (eventsAbs a)).Perm ((notesOf (eventsRel r)).map (fun n => { n with ch := 0 })) := by
  exact MidiSave.notes_core ppqn hp rels (fun r hr => savedX_noteGood r (hs r hr)) out h i r s s' a hr ho ha

/-- **C12, notes, multi-channel** under the notes-level hypothesis: the same for sequences in which no two notes of
    equal pitch on different channels overlap or touch — exactly the complement of the recorded class of D21
    (closes audit round 2 F5, row C12). -/
theorem save_load_notes' (ppqn : Int) (hp : 0 < ppqn) (rels : List (List Msg)) (hs : ∀ r ∈ rels, Saved' r)
    (out : List Seq) (h : saveLoad ppqn rels = .ok out)
    (i : Nat) (r : List Msg) (s s' : Seq) (a : List Msg) (hr : rels[i]? = some r) (ho : out[i]? = some s)
    (ha : s.readAbs = Except.ok (s', a)) :
    (notesOf (eventsAbs a)).Perm ((notesOf (eventsRel r)).map (fun n => { n with ch := 0 })) :=
  save_load_notesX ppqn hp rels (fun r hr => saved'_savedX r (hs r hr)) out h i r s s' a hr ho ha

/-- **C12, sounding set, multi-channel** (closes audit round 2 F5, row C12 for `C13.save_load_sounding`): saving and
    loading succeeds with one sequence per saved sequence, and loaded sequence `i` sounds pitch `p` (on channel 0) at
    tick `t` exactly when saved sequence `i` sounded `p` at `t` on some channel. -/
theorem save_load_soundingX (ppqn : Int) (hp : 0 < ppqn) (rels : List (List Msg)) (hs : ∀ r ∈ rels, SavedX r)
    (hne : rels ≠ []) :
    ∃ out, saveLoad ppqn rels = .ok out ∧ out.length = rels.length ∧
      ∀ (i : Nat) (r : List Msg) (s s' : Seq) (a : List Msg), rels[i]? = some r → out[i]? = some s → s.readAbs = Except.ok (s', a) →
        ∀ p t, SoundingAt (eventsAbs a) (0, p) t ↔ ∃ c, SoundingAt (eventsRel r) (c, p) t := by
  obtain ⟨out, hout, hlen⟩ := save_load_succeeds ppqn rels hne
  refine ⟨out, hout, hlen, ?_⟩
  intro i r s s' a hr ho ha p t
  exact MidiSave.sounding_core ppqn hp rels (fun r hr => savedX_noteGood r (hs r hr)) out hout i r s s' a hr ho ha p t

/-- **C12, sounding set, multi-channel** under the notes-level hypothesis `Saved'` (complement of D21's class) -/
theorem save_load_sounding' (ppqn : Int) (hp : 0 < ppqn) (rels : List (List Msg)) (hs : ∀ r ∈ rels, Saved' r)
    (hne : rels ≠ []) :
    ∃ out, saveLoad ppqn rels = .ok out ∧ out.length = rels.length ∧
      ∀ (i : Nat) (r : List Msg) (s s' : Seq) (a : List Msg), rels[i]? = some r → out[i]? = some s → s.readAbs = Except.ok (s', a) →
        ∀ p t, SoundingAt (eventsAbs a) (0, p) t ↔ ∃ c, SoundingAt (eventsRel r) (c, p) t :=
  save_load_soundingX ppqn hp rels (fun r hr => saved'_savedX r (hs r hr)) hne

/-- **C12, velocities, multi-channel** (audit round 2 F5, row C12): the note-on events of loaded sequence `i` are those of
    saved sequence `i`, with pitch, tick and velocity (channel 0 after loading) -/
theorem save_load_note_onsX (ppqn : Int) (hp : 0 < ppqn) (rels : List (List Msg)) (hs : ∀ r ∈ rels, SavedX r)
    (out : List Seq) (h : saveLoad ppqn rels = .ok out)
    (i : Nat) (r : List Msg) (s s' : Seq) (a : List Msg) (hr : rels[i]? = some r) (ho : out[i]? = some s)
    (ha : s.readAbs = Except.ok (s', a)) (p t v : Int) :
    (∃ m ∈ eventsAbs a, m.ty = .noteOn ∧ m.note = p ∧ m.time = t ∧ m.vel = v) ↔
    (∃ m ∈ eventsRel r, m.ty = .noteOn ∧ m.note = p ∧ m.time = t ∧ m.vel = v) := by
  exact MidiSave.note_ons_core ppqn hp rels (fun r hr => savedX_noteGood r (hs r hr)) out h i r s s' a hr ho ha p t v

/-- **C12, time signature in force, multi-channel**: `C13b.save_load_time_signature_in_force` needs nothing of the
    channels; stated here for `SavedX` sequences -/
theorem save_load_time_signature_in_forceX (ppqn : Int) (hp : 0 < ppqn) (rels : List (List Msg))
    (hs : ∀ r ∈ rels, SavedX r)
    (hpresent : ∀ r ∈ rels, ∀ m ∈ r, m.ty = .timeSignature → (m.num, m.den) ≠ (pyNone, pyNone))
    (out : List Seq) (h : saveLoad ppqn rels = .ok out)
    (s s' : Seq) (a : List Msg) (ho : out[0]? = some s) (ha : s.readAbs = Except.ok (s', a))
    (t : Int) (ht : 0 ≤ t) :
    (latest .timeSignature (eventsAbs a) t).map tsVal
      = (latest .timeSignature (dfltSig .timeSignature ++ rels.flatMap eventsRel) t).map tsVal := by
  exact MidiSave.inforce_saved_sig L2.tsKind ppqn hp rels (fun r hr => ⟨(hs r hr).ok.1, (hs r hr).noTime⟩) hpresent out h s s' a ho ha t
    (fun _ => ht)

/-- **C12, key signature in force, multi-channel** -/
theorem save_load_key_signature_in_forceX (ppqn : Int) (hp : 0 < ppqn) (rels : List (List Msg))
    (hs : ∀ r ∈ rels, SavedX r)
    (hpresent : ∀ r ∈ rels, ∀ m ∈ r, m.ty = .keySignature → m.key ≠ pyNone)
    (out : List Seq) (h : saveLoad ppqn rels = .ok out)
    (s s' : Seq) (a : List Msg) (ho : out[0]? = some s) (ha : s.readAbs = Except.ok (s', a)) (t : Int) :
    (latest .keySignature (eventsAbs a) t).map keyVal
      = (latest .keySignature (dfltSig .keySignature ++ rels.flatMap eventsRel) t).map keyVal := by
  exact MidiSave.inforce_saved_sig L2.ksKind ppqn hp rels (fun r hr => ⟨(hs r hr).ok.1, (hs r hr).noTime⟩) hpresent out h s s' a ho ha t
    (fun h => nomatch h)

/-! ## non-vacuity, and how tight the hypotheses are -/

/-- two channels: channel 0 plays pitch 60 over [0,12), channel 1 plays pitch 64 over [0,24) -/
def exTwo : List Msg :=
  [Msg.mkOn 0 60 64 pyNone, Msg.mkOn 1 64 70 pyNone, Msg.mkWait 0 12, Msg.mkOff 0 60 pyNone, Msg.mkWait 0 12,
   Msg.mkOff 1 64 pyNone]

/-- equal pitch on two channels, apart: channel 0 plays pitch 60 over [0,12), channel 1 plays pitch 60 over [13,25) -/
def exApart : List Msg :=
  [Msg.mkOn 0 60 64 pyNone, Msg.mkWait 0 12, Msg.mkOff 0 60 pyNone, Msg.mkWait 0 1, Msg.mkOn 1 60 70 pyNone,
   Msg.mkWait 0 12, Msg.mkOff 1 60 pyNone]

/-- equal pitch on two channels, touching, note-off listed first: channel 0 pitch 60 over [0,12), channel 1 pitch 60
    over [12,24) -/
def exTouch : List Msg :=
  [Msg.mkOn 0 60 64 pyNone, Msg.mkWait 0 12, Msg.mkOff 0 60 pyNone, Msg.mkOn 1 60 70 pyNone, Msg.mkWait 0 12,
   Msg.mkOff 1 60 pyNone]

/-- the same two notes with the note-on listed before the note-off on tick 12 -/
def exTouchOnFirst : List Msg :=
  [Msg.mkOn 0 60 64 pyNone, Msg.mkWait 0 12, Msg.mkOn 1 60 70 pyNone, Msg.mkOff 0 60 pyNone, Msg.mkWait 0 12,
   Msg.mkOff 1 60 pyNone]

/-- the conditions of `Saved'` / `SavedX` on single messages (decidable on a concrete list) -/
theorem pointwise_fields (r : List Msg)
    (h : ∀ m ∈ r, (m.ty = .wait → 0 ≤ m.time) ∧ m.ty ≠ .internal ∧ (m.ty ≠ .wait → m.time = pyNone)
      ∧ (m.ty = .noteOn → m.vel ≠ pyNone ∧ 0 < m.vel)) :
    OkRel r ∧ (∀ m ∈ r, m.ty ≠ .wait → m.time = pyNone) ∧ ∀ m ∈ r, m.ty = .noteOn → m.vel ≠ pyNone ∧ 0 < m.vel :=
  ⟨⟨fun m hm => (h m hm).1, fun m hm => (h m hm).2.1⟩, fun m hm => (h m hm).2.2.1, fun m hm => (h m hm).2.2.2⟩

theorem not_saved_of_channels {r : List Msg} (m m' : Msg) (hm : m ∈ r) (hm' : m' ∈ r)
    (ht : m.ty = .noteOn ∨ m.ty = .noteOff) (ht' : m'.ty = .noteOn ∨ m'.ty = .noteOff) (hc : m.ch ≠ m'.ch) : ¬ Saved r :=
  fun h => let ⟨_, hc0⟩ := h.oneCh; hc ((hc0 m hm ht).trans (hc0 m' hm' ht').symm)

theorem exTwo_saved' : Saved' exTwo :=
  have ⟨h1, h2, h3⟩ := pointwise_fields exTwo (by decide)
  ⟨h1, h2, by decide, by unfold C15.PosDur; decide, h3, by decide⟩

theorem exApart_saved' : Saved' exApart :=
  have ⟨h1, h2, h3⟩ := pointwise_fields exApart (by decide)
  ⟨h1, h2, by decide, by unfold C15.PosDur; decide, h3, by decide⟩

/-- a two-channel sequence meets `Saved'` and not `Saved` (non-vacuity of the widening) … -/
example : Saved' exTwo ∧ ¬ Saved exTwo :=
  ⟨exTwo_saved', not_saved_of_channels (Msg.mkOn 0 60 64 pyNone) (Msg.mkOn 1 64 70 pyNone) (by decide) (by decide)
    (Or.inl rfl) (Or.inl rfl) (by decide)⟩

/-- … so does one with EQUAL pitch on two channels, one tick apart -/
example : Saved' exApart ∧ ¬ Saved exApart :=
  ⟨exApart_saved', not_saved_of_channels (Msg.mkOn 0 60 64 pyNone) (Msg.mkOn 1 60 70 pyNone) (by decide) (by decide)
    (Or.inl rfl) (Or.inl rfl) (by decide)⟩

/-- the conclusion evaluated on the two examples (replayed on the library: the same notes) -/
example : (loadedAbs 24 24 ([exTwo].map toMido) [[0]] [0] 0 0).map (fun a => notesOf (eventsAbs a))
    = some [{ ch := 0, pitch := 60, on := 0, off := 12, vel := 64 }, { ch := 0, pitch := 64, on := 0, off := 24, vel := 70 }] := by
  decide +kernel
example : (loadedAbs 24 24 ([exApart].map toMido) [[0]] [0] 0 0).map (fun a => notesOf (eventsAbs a))
    = some [{ ch := 0, pitch := 60, on := 0, off := 12, vel := 64 }, { ch := 0, pitch := 60, on := 13, off := 25, vel := 70 }] := by
  decide +kernel

/-- touching notes with the note-off listed first: inside `SavedX`, outside `Saved'` -/
example : SavedX exTouch ∧ ¬ Saved' exTouch := by
  have ⟨h1, h2, h3⟩ := pointwise_fields exTouch (by decide)
  exact ⟨⟨h1, h2, by decide, by unfold C15.PosDur; decide, h3, by decide, by unfold C15.PosDur; decide⟩,
    fun h => absurd h.sep (by decide)⟩
example : (loadedAbs 24 24 ([exTouch].map toMido) [[0]] [0] 0 0).map (fun a => notesOf (eventsAbs a))
    = some [{ ch := 0, pitch := 60, on := 0, off := 12, vel := 64 }, { ch := 0, pitch := 60, on := 12, off := 24, vel := 70 }] := by
  decide +kernel

/-- the hypotheses are tight at the touching point: with the note-on listed first the two notes fuse into one note over
    [0,24) — in the model and in the library (replayed: saved [(60,0,12,64),(60,12,12,70)], loaded [(60,0,24,64)]); the
    sequence is outside `SavedX` (and D21's recorded example `C13b.cexD21` is outside too) -/
theorem touch_on_first_fuses :
    (loadedAbs 24 24 ([exTouchOnFirst].map toMido) [[0]] [0] 0 0).map (fun a => notesOf (eventsAbs a))
      = some [{ ch := 0, pitch := 60, on := 0, off := 24, vel := 64 }]
    ∧ ¬ WF (forgetCh (eventsRel exTouchOnFirst)) := by
  refine ⟨by decide +kernel, by decide⟩
example : ∀ r ∈ cexD21, ¬ NoCrossChannelClash (notesOf (eventsRel r)) ∧ ¬ WF (forgetCh (eventsRel r)) := by decide +kernel

end SCoda.C12n
