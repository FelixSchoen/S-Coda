/-
  The detokeniser run with a log: `dfold` is `dstep` folded over the tokens, returning the final state and the
  list of what was added to the output sequences (`Emit`).
-/
import SCoda.Model.Token
import SCoda.Lemmas.Detok
namespace SCoda.C01
open SCoda

/-- one thing `detokenise` adds to its output sequences -/
inductive Emit
  | barEnd (t : Int)                          -- an INTERNAL message at `t` on every sequence
  | note (trk pitch vel on off : Int)         -- note-on at `on` (velocity `vel`) and note-off at `off` on sequence `trk`
  | tsig (t num den : Int)                    -- a time-signature message on sequence 0
  deriving DecidableEq, Repr

/-- what one part of a token makes the detokeniser emit in state `d` (read off `dpart`) -/
def emitOfPart (c : Cfg) (d : DetokSt) : Part → List Emit
  | .bar => [.barEnd (d.curTime + d.capRem)]
  | .pit p => [.note d.prvTrack p d.prvVel d.curTime (d.curTime + d.prvValue)]
  | .tsig a b =>
    if d.curTimeBar > 0 then [] else
    let switched := d.tsNum != a || d.tsDen != b
    let simp := c.simplifyTs && a % 2 == 0 && b % 2 == 0
    if switched || !c.running then [.tsig d.curTime (if simp then a / 2 else a) (if simp then b / 2 else b)] else []
  | _ => []

/-- apply an emission to the output sequences exactly as `dpart` does (binary insort) -/
def applyEmit (seqs : List (List Msg)) : Emit → List (List Msg)
  | .barEnd t => seqs.map (fun l => insort l (Msg.mkInternal 0 t))
  | .note trk p v on off => addAbs (addAbs seqs trk.toNat (Msg.mkOn 0 p v on)) trk.toNat (Msg.mkOff 0 p off)
  | .tsig t n d => addAbs seqs 0 (Msg.mkTimeSig 0 n d t)

/-- the detokeniser run over a token list from state `d`: final state and emission log -/
def dfold (c : Cfg) : DetokSt → List Tok → Except Err (DetokSt × List Emit)
  | d, [] => .ok (d, [])
  | d, t :: ts =>
    match dstepLog c d t.parts with
    | .error e => .error e
    | .ok (d1, log1) =>
      match dfold c d1 ts with
      | .error e => .error e
      | .ok (d2, log2) => .ok (d2, log1 ++ log2)
where
  dstepLog (c : Cfg) : DetokSt → List Part → Except Err (DetokSt × List Emit)
    | d, [] => .ok (d, [])
    | d, p :: ps =>
      match dpart c d p with
      | .error e => .error e
      | .ok d1 =>
        match dstepLog c d1 ps with
        | .error e => .error e
        | .ok (d2, log) => .ok (d2, emitOfPart c d p ++ log)

theorem dstepLog_cons_inv {c : Cfg} {d d' : DetokSt} {p : Part} {ps : List Part} {log : List Emit}
    (h : dfold.dstepLog c d (p :: ps) = .ok (d', log)) :
    ∃ d1 log1, dpart c d p = .ok d1 ∧ dfold.dstepLog c d1 ps = .ok (d', log1) ∧ log = emitOfPart c d p ++ log1 := by
  simp only [dfold.dstepLog] at h
  split at h
  · cases h
  · rename_i d1 h1
    split at h
    · cases h
    · rename_i d2 log2 h2
      cases h
      exact ⟨d1, log2, h1, h2, rfl⟩

theorem dfold_cons_inv {c : Cfg} {d d' : DetokSt} {t : Tok} {ts : List Tok} {log : List Emit}
    (h : dfold c d (t :: ts) = .ok (d', log)) :
    ∃ d1 log1 log2, dfold.dstepLog c d t.parts = .ok (d1, log1) ∧ dfold c d1 ts = .ok (d', log2) ∧ log = log1 ++ log2 := by
  simp only [dfold] at h
  split at h
  · cases h
  · rename_i d1 log1 h1
    split at h
    · cases h
    · rename_i d2 log2 h2
      cases h
      exact ⟨d1, log1, log2, h1, h2, rfl⟩

theorem dfold_cons_ok {c : Cfg} {d d1 d2 : DetokSt} {t : Tok} {ts : List Tok} {log1 log2 : List Emit}
    (h1 : dfold.dstepLog c d t.parts = .ok (d1, log1)) (h2 : dfold c d1 ts = .ok (d2, log2)) :
    dfold c d (t :: ts) = .ok (d2, log1 ++ log2) := by
  simp only [dfold, h1, h2]

theorem dfold_append {c : Cfg} {a b : List Tok} {d d1 d2 : DetokSt} {log1 log2 : List Emit}
    (h1 : dfold c d a = .ok (d1, log1)) (h2 : dfold c d1 b = .ok (d2, log2)) :
    dfold c d (a ++ b) = .ok (d2, log1 ++ log2) := by
  induction a generalizing d log1 with
  | nil => simp only [dfold] at h1; cases h1; simpa using h2
  | cons t ts ih =>
    obtain ⟨d0, log0, log3, h0, h3, rfl⟩ := dfold_cons_inv h1
    simp only [List.cons_append, dfold, h0, ih h3, List.append_assoc]

theorem dstepLog_rest (c : Cfg) (d : DetokSt) (v : Int) :
    dfold.dstepLog c d (Tok.rest v).parts =
      .ok ({ d with curTime := d.curTime + v, curTimeBar := d.curTimeBar + v, capRem := d.capRem - v }, []) := rfl

theorem dstepLog_bar (c : Cfg) (d : DetokSt) :
    dfold.dstepLog c d Tok.bar.parts =
      .ok ({ d with curTime := d.curTime + d.capRem, curTimeBar := 0, capRem := d.capTotal,
                    seqs := d.seqs.map (fun l => insort l (Msg.mkInternal 0 (d.curTime + d.capRem))) },
           [Emit.barEnd (d.curTime + d.capRem)]) := rfl

/-- the specification's log (`specLog`) has bar ends and notes only, so the simulation (`C01.Sim`) compares it with
    `log.filter notTsig` -/
def notTsig : Emit → Bool
  | .tsig _ _ _ => false
  | _ => true

theorem filter_barEnd (xs : List Int) : (xs.map Emit.barEnd).filter notTsig = xs.map Emit.barEnd := by
  induction xs with
  | nil => rfl
  | cons x xs ih => simp [List.filter, notTsig, ih]

theorem dfold_note (c : Cfg) (d : DetokSt) (ot : Option Int) (p : Int) (ov ow : Option Int)
    (h0 : 0 ≤ ot.getD d.prvTrack) (h1 : (ot.getD d.prvTrack).toNat < d.seqs.length) :
    dfold c d [Tok.note ot p ov ow] =
      .ok ({ d with prvTrack := ot.getD d.prvTrack, prvValue := ov.getD d.prvValue, prvVel := ow.getD d.prvVel,
                    seqs := addAbs (addAbs d.seqs (ot.getD d.prvTrack).toNat (Msg.mkOn 0 p (ow.getD d.prvVel) d.curTime))
                              (ot.getD d.prvTrack).toNat (Msg.mkOff 0 p (d.curTime + ov.getD d.prvValue)) },
           [Emit.note (ot.getD d.prvTrack) p (ow.getD d.prvVel) d.curTime (d.curTime + ov.getD d.prvValue)]) := by
  have hcond : ∀ (x : Int) (n : Nat), 0 ≤ x → x.toNat < n → ¬ ((decide (x < 0) || decide (x.toNat ≥ n)) = true) := by
    intro x n hx hn; simp; omega
  cases ot <;> cases ov <;> cases ow <;>
    simp only [Option.getD] at h0 h1 ⊢ <;>
    simp [dfold, dfold.dstepLog, Tok.parts, dpart, emitOfPart, hcond _ _ h0 h1]

theorem dstepLog_tsig (c : Cfg) (d : DetokSt) (a b : Int) (hbar : ¬ d.curTimeBar > 0) (hlen : d.seqs.length ≠ 0) :
    ∃ d' log, dfold.dstepLog c d (Tok.tsig a b).parts = .ok (d', log)
      ∧ log.filter notTsig = []
      ∧ d'.curTime = d.curTime ∧ d'.curTimeBar = d.curTimeBar ∧ d'.capRem = c.capacity a b
      ∧ d'.capTotal = c.capacity a b ∧ d'.prvTrack = d.prvTrack ∧ d'.prvValue = d.prvValue
      ∧ d'.prvVel = d.prvVel ∧ d'.seqs.length = d.seqs.length := by
  have hl : (d.seqs.length == 0) = false := by simpa using hlen
  simp only [Tok.parts, dfold.dstepLog, dpart, emitOfPart, if_neg hbar, hl, Bool.and_false, Bool.false_eq_true,
    if_false, List.append_nil]
  refine ⟨_, _, rfl, ?_, rfl, rfl, rfl, rfl, rfl, rfl, rfl, ?_⟩
  · split <;> rfl
  · simp only
    split
    · exact Detok.length_addAbs _ _ _
    · rfl

theorem dfold_pre (c : Cfg) (d : DetokSt) (b1 b2 b3 : Bool) (t v w : Int) :
    dfold c d ((if b1 = true then [Tok.trk t] else []) ++ (if b2 = true then [Tok.val v] else [])
        ++ (if b3 = true then [Tok.vel w] else [])) =
      .ok ({ d with prvTrack := if b1 = true then t else d.prvTrack, prvValue := if b2 = true then v else d.prvValue,
                    prvVel := if b3 = true then w else d.prvVel }, []) := by
  cases b1 <;> cases b2 <;> cases b3 <;> rfl

end SCoda.C01
