/-
  Helper lemmas for `Props/C11d.lean` (audit item A10, property C11).
  * token text, read off the one grammar of `Lemmas/RenderL.lean` (`items`, `strs`): `render t`, split at '-' and '_'
    (Python's `_split_token`), has exactly the fields of `groups t`; a numeric field is all decimal digits and reads
    back as the model's integer;
  * what `tokeniseCore` can emit, for any configuration / state / events (`Tokenise.core_all` at the predicate
    `Emit`);
  * the float-taint typing: least fixpoint below any closed certificate, for variables *and* functions.
  (The `PyNum` sites are in `Lemmas/C11LNum.lean`.)
-/
import SCoda.Lemmas.RenderL
import SCoda.Lemmas.Tokenise
import SCoda.Props.C11c
namespace SCoda.C11L
open SCoda SCoda.RenderL

/-- `token.split("-")`, then `.split("_")` on every part, flattened — the strings `_split_token` looks at -/
def fieldsOf (s : String) : List String :=
  ((s.split '-').toList.map (·.copy)).flatMap fun p => (p.split '_').toList.map (·.copy)

theorem fieldsOf_eq (s : String) : fieldsOf s = ((s.splitOn "-").map fun p => p.splitOn "_").flatten := by
  have h2 : ∀ p : List Char, ((String.ofList p).split '_').toList.map (·.copy) = (String.ofList p).splitOn "_" := by
    intro p
    rw [us_eq, splitOn_singleton]
    simpa using @String.toList_split_char (String.ofList p) '_'
  rw [dash_eq, splitOn_singleton, List.map_map, ← List.flatMap_def]
  show (List.map String.Slice.copy (s.split '-').toList).flatMap _ = _
  rw [String.toList_split_char, List.flatMap_map]
  exact congrArg (List.flatMap · _) (funext h2)

/-- the text of a token as '-'-joined groups of '_'-joined fields: the strings of its items (`RenderL.render_eq`) -/
def groups (t : Tok) : List (List String) := (items t).map strs

theorem fieldsOf_render (t : Tok) (h : TokOk t) : fieldsOf (render t) = (groups t).flatten := by
  rw [fieldsOf_eq, split_render t h]; rfl

/-- the numeric fields of a token, in text order -/
def ints : Tok → List Int
  | .rest v => [v] | .trk t => [t] | .val v => [v] | .vel v => [v]
  | .note t p v w => t.toList ++ [p] ++ v.toList ++ w.toList
  | .tsig n d => [n, d]
  | _ => []

theorem items_ints (t : Tok) : (items t).flatMap (·.2) = ints t := by
  rcases t with _ | _ | _ | _ | v | v | v | v | ⟨(_ | a), b, (_ | c), (_ | d)⟩ | ⟨n, d⟩ <;> rfl

def Nonneg (t : Tok) : Prop := ∀ x ∈ ints t, 0 ≤ x

instance (t : Tok) : Decidable (Nonneg t) := by unfold Nonneg; infer_instance

theorem ints_nonneg {t : Tok} (h : TokOk t) : Nonneg t := by
  rw [Nonneg, ← items_ints]
  intro x hx
  obtain ⟨it, hit, hx⟩ := List.mem_flatMap.1 hx
  exact items_ok t h it hit x hx

def prefixValues : List String := Gen.tokenPrefixes.map (·.2)

theorem pfx_mem (n : Nm) : n.pfx ∈ prefixValues :=
  List.mem_map_of_mem (f := (·.2)) (prefixOf_entry n.str n.str_mem)

/-- a prefix is not a number: it is not empty and holds no digit (`Nm.pfx_clean`) -/
theorem pfx_toNat (n : Nm) : n.pfx.toNat? = Option.none := by
  apply String.toNat?_eq_none
  cases hisn : n.pfx.isNat with
  | false => rfl
  | true =>
    obtain ⟨hne, hall, _⟩ := String.isNat_iff.1 hisn
    cases hl : n.pfx.toList with
    | nil => exact absurd (String.toList_eq_nil_iff.1 hl) hne
    | cons c l =>
      have hc : c ∈ n.pfx.toList := by simp [hl]
      have := n.pfx_clean c hc
      rcases hall c hc with h | h
      · rw [this.2.2] at h; cases h
      · exact absurd h this.2.1

theorem zpad_digits (w : Nat) {v : Int} (hv : 0 ≤ v) : zpad w v ≠ "" ∧ ∀ c ∈ (zpad w v).toList, c.isDigit = true := by
  obtain ⟨n, rfl⟩ := Int.eq_ofNat_of_zero_le hv
  exact zpad_nat_digits w n

/-- Lean's `String.toNat?` (decimal digits only, like Python's `int()` on such a string) reads the field
    back as the model's integer -/
theorem zpad_toNat (w : Nat) {v : Int} (hv : 0 ≤ v) : (zpad w v).toNat? = some v.toNat := by
  obtain ⟨n, rfl⟩ := Int.eq_ofNat_of_zero_le hv
  exact toNat_zpad w n

theorem strs_fields {it : Nm × List Int} (h : ItemOk it) :
    ∀ f ∈ strs it, f ∈ prefixValues ∨ (f ≠ "" ∧ f.all Char.isDigit = true) := by
  intro f hf
  rcases List.mem_cons.1 hf with rfl | hf
  · exact Or.inl (pfx_mem _)
  · obtain ⟨v, hv, rfl⟩ := List.mem_map.1 hf
    have hd := zpad_digits it.1.width (h v hv)
    exact Or.inr ⟨hd.1, by rw [String.all_bool_eq, List.all_eq_true]; exact hd.2⟩

theorem groups_toNat (t : Tok) (h : TokOk t) :
    (groups t).flatten.filterMap String.toNat? = (ints t).map Int.toNat := by
  have hz : ∀ (w : Nat) (vs : List Int), (∀ v ∈ vs, 0 ≤ v) →
      (vs.map (zpad w)).filterMap String.toNat? = vs.map Int.toNat := by
    intro w vs
    induction vs with
    | nil => intro _; rfl
    | cons v vs ih =>
      intro hv
      rw [List.map_cons, List.filterMap_cons, zpad_toNat _ (hv v List.mem_cons_self),
        ih fun x hx => hv x (List.mem_cons_of_mem _ hx)]
      rfl
  have hs : ∀ its : List (Nm × List Int), (∀ it ∈ its, ItemOk it) →
      (its.map strs).flatten.filterMap String.toNat? = (its.flatMap (·.2)).map Int.toNat := by
    intro its
    induction its with
    | nil => intro _; rfl
    | cons it its ih =>
      intro hok
      rw [List.map_cons, List.flatten_cons, List.filterMap_append, strs, List.filterMap_cons, pfx_toNat,
        hz _ it.2 (hok it List.mem_cons_self), ih fun x hx => hok x (List.mem_cons_of_mem _ hx),
        List.flatMap_cons, List.map_append]
  rw [← items_ints]
  exact hs (items t) (items_ok t h)

theorem zpad_chars (w : Nat) (v : Int) : ∀ c ∈ (zpad w v).toList, c.isDigit = true ∨ c = '-' := by
  obtain ⟨k, e⟩ := zpad_toList w v
  intro c hc
  rw [e, numC, List.mem_append] at hc
  rcases hc with hc | hc
  · split at hc
    · exact Or.inr (List.mem_singleton.1 hc)
    · cases hc
  · exact Or.inl (zpadC_isDigit _ _ c hc)

theorem mem_intercalate {sep : List Char} {xs : List (List Char)} {x : Char}
    (h : x ∈ sep.intercalate xs) : x ∈ sep ∨ ∃ l ∈ xs, x ∈ l :=
  Classical.byContradiction fun hn =>
    not_mem_intercalate (fun hs => hn (.inl hs)) xs (fun l hl hx => hn (.inr ⟨l, hl, hx⟩)) h

theorem render_chars (t : Tok) : ∀ ch ∈ (render t).toList,
    ch.isDigit = true ∨ ch = '-' ∨ ch = '_' ∨ ∃ p ∈ prefixValues, ch ∈ p.toList := by
  intro ch hch
  rw [render_eq, String.toList_intercalate] at hch
  rcases mem_intercalate hch with h | ⟨l, hl, hx⟩
  · right; left; simpa using h
  · obtain ⟨l', hl', rfl⟩ := List.mem_map.1 hl
    obtain ⟨it, hit, rfl⟩ := List.mem_map.1 hl'
    rw [String.toList_intercalate] at hx
    rcases mem_intercalate hx with h | ⟨f, hf, hx⟩
    · right; right; left; simpa using h
    · obtain ⟨f', hf', rfl⟩ := List.mem_map.1 hf
      rcases List.mem_cons.1 hf' with rfl | hf'
      · exact Or.inr (Or.inr (Or.inr ⟨_, pfx_mem _, hx⟩))
      · obtain ⟨v, _, rfl⟩ := List.mem_map.1 hf'
        rcases zpad_chars _ _ ch hx with h | h
        · exact Or.inl h
        · exact Or.inr (Or.inl h)

/-! TEST (not a theorem; evaluated by the interpreter at build time): on the whole default vocabulary
    (2 tracks, default step sizes / note values, 8 velocity bins: 12 700 tokens) `fieldsOf`, which is
    defined with `String.split` on a character, gives the same fields as the legacy `String.splitOn` that
    `parseTok` (Model/Render.lean) uses, and they are `(groups t).flatten` (what `fieldsOf_eq` and `fieldsOf_render`
    prove, here run on the compiled definitions). -/
#guard
  let c : Cfg := { steps := [4, 6, 8, 12, 16, 24], values := [4, 6, 8, 9, 12, 16, 18, 24, 36],
                   bins := [24, 40, 56, 72, 88, 104, 120, 127], numTracks := 2 }
  (vocabSeq c).all fun t =>
    fieldsOf (render t) == ((render t).splitOn "-").flatMap (·.splitOn "_")
      && fieldsOf (render t) == (groups t).flatten

/-- the shape of an emitted token, from the configuration and two predicates on the *input* events
    (`chOk`: the channel of some note-on event; `valOk`: the tick difference of some note's pairing) -/
def Emit (c : Cfg) (chOk valOk : Int → Prop) : Tok → Prop
  | .bar => True
  | .rest v => v ∈ c.steps
  | .trk ch => chOk ch
  | .val v => v ∈ c.values ∧ valOk v
  | .vel w => w ∈ c.bins
  | .note t p v w => (∀ ch ∈ t, chOk ch) ∧ c.pitchLo ≤ p ∧ p ≤ c.pitchHi
      ∧ (∀ x ∈ v, x ∈ c.values ∧ valOk x) ∧ (∀ x ∈ w, x ∈ c.bins)
  | .tsig n d => c.tsLo ≤ n ∧ n ≤ c.tsHi ∧ d = c.defNum
  | _ => False

theorem eq_of_mem_ite_some {α : Type} {c : Prop} [Decidable c] {a x : α} (h : x ∈ (if c then some a else none)) :
    x = a := by
  split at h
  · exact (Option.some.inj h).symm
  · cases h

def EvOk (chOk valOk : Int → Prop) (ev : Int × Pairing) : Prop :=
  ∀ m rest, ev.2 = m :: rest → m.ty = .noteOn →
    chOk m.ch ∧ ∀ off r, rest = off :: r → valOk (off.time - m.time)

theorem tokeniseCore_emits (c : Cfg) (chOk valOk : Int → Prop) (st st' : TokSt)
    (evs : List (Int × Pairing)) (toks : List Tok) (hev : ∀ ev ∈ evs, EvOk chOk valOk ev)
    (hok : tokeniseCore c st evs = .ok (toks, st')) : ∀ t ∈ toks, Emit c chOk valOk t := by
  refine Tokenise.core_all (P := Emit c chOk valOk) trivial (fun _ hv => hv) (fun n hr => ⟨hr.1, hr.2, rfl⟩) hok ?_
  intro e1 m off r he hty st vel hvel hp hval
  obtain ⟨hch, hvo⟩ := hev _ he m _ rfl hty
  replace hvo := hvo off r rfl
  exact Tokenise.noteToks_all (fun _ => hvel) (fun _ => ⟨hval, hvo⟩) (fun _ => hch)
    ⟨fun ch hc => eq_of_mem_ite_some hc ▸ hch, hp.1, hp.2,
      fun x hx => eq_of_mem_ite_some hx ▸ ⟨hval, hvo⟩, fun x hx => eq_of_mem_ite_some hx ▸ hvel⟩

/-! The float-taint typing: its least solution lies below every closed certificate.

  `Derivable fns` is the least relation closed under the typing rules of `Props/C11c.lean` — an inductive
  definition, so "least" holds by construction (its induction principle).  Nothing here looks at the
  generated certificate: the certificate only enters as *some* closed set. -/

open SCoda.Gen SCoda.C11

/-- a typing judgement: variable `v` of function `fn` may hold a float / a function called `f` may return one -/
inductive Fact
  | var (fn : TaintFn) (v : Nat)
  | ret (f : Nat)

/-- the typing rules (the same three causes as `C11.infoTainted`, for assignments and for returns) -/
inductive Derivable (fns : List TaintFn) : Fact → Prop
  | assignNode {fn : TaintFn} {a : Nat × TaintInfo} : fn ∈ fns → a ∈ fn.assigns → a.2.2.1 = true →
      Derivable fns (.var fn a.1)
  | assignVar {fn : TaintFn} {a : Nat × TaintInfo} {v : Nat} : fn ∈ fns → a ∈ fn.assigns → v ∈ a.2.1 →
      Derivable fns (.var fn v) → Derivable fns (.var fn a.1)
  | assignCall {fn : TaintFn} {a : Nat × TaintInfo} {f : Nat} : fn ∈ fns → a ∈ fn.assigns → f ∈ a.2.2.2 →
      Derivable fns (.ret f) → Derivable fns (.var fn a.1)
  | retNode {fn : TaintFn} {r : TaintInfo} : fn ∈ fns → r ∈ fn.returns → r.2.1 = true →
      Derivable fns (.ret fn.name)
  | retVar {fn : TaintFn} {r : TaintInfo} {v : Nat} : fn ∈ fns → r ∈ fn.returns → v ∈ r.1 →
      Derivable fns (.var fn v) → Derivable fns (.ret fn.name)
  | retCall {fn : TaintFn} {r : TaintInfo} {f : Nat} : fn ∈ fns → r ∈ fn.returns → f ∈ r.2.2 →
      Derivable fns (.ret f) → Derivable fns (.ret fn.name)

/-- an expression of `fn` is maybe-float in the least solution -/
def MaybeFloat (fns : List TaintFn) (fn : TaintFn) (i : TaintInfo) : Prop :=
  i.2.1 = true ∨ (∃ v ∈ i.1, Derivable fns (.var fn v)) ∨ ∃ f ∈ i.2.2, Derivable fns (.ret f)

theorem infoTainted_iff (tv ff : List Nat) (i : TaintInfo) :
    infoTainted tv ff i = true ↔ i.2.1 = true ∨ (∃ v ∈ i.1, v ∈ tv) ∨ ∃ f ∈ i.2.2, f ∈ ff := by
  simp only [infoTainted, Bool.or_eq_true, List.any_eq_true, List.contains_iff_mem, or_assoc]

theorem closedFn_iff (ff : List Nat) (fn : TaintFn) : closedFn ff fn = true ↔
    (∀ a ∈ fn.assigns, infoTainted fn.cert ff a.2 = true → a.1 ∈ fn.cert)
    ∧ (∀ r ∈ fn.returns, infoTainted fn.cert ff r = true → fn.name ∈ ff) := by
  simp only [closedFn, Bool.and_eq_true, List.all_eq_true, Bool.or_eq_true, Bool.not_eq_true',
    List.contains_iff_mem]
  constructor
  · rintro ⟨h1, h2⟩
    refine ⟨fun a ha ht => ?_, fun r hr ht => ?_⟩
    · rcases h1 a ha with h | h
      · rw [ht] at h; cases h
      · exact h
    · rcases h2 r hr with h | h
      · rw [ht] at h; cases h
      · exact h
  · rintro ⟨h1, h2⟩
    refine ⟨fun a ha => ?_, fun r hr => ?_⟩
    · cases ht : infoTainted fn.cert ff a.2 with
      | false => exact Or.inl rfl
      | true => exact Or.inr (h1 a ha ht)
    · cases ht : infoTainted fn.cert ff r with
      | false => exact Or.inl rfl
      | true => exact Or.inr (h2 r hr ht)

theorem derivable_le_cert (fns : List TaintFn) (ff : List Nat) (hclosed : fns.all (closedFn ff) = true) :
    ∀ fact, Derivable fns fact →
      match fact with
      | .var fn v => v ∈ fn.cert
      | .ret f => f ∈ ff := by
  have hc : ∀ fn ∈ fns, _ := fun fn h => (closedFn_iff ff fn).1 (List.all_eq_true.1 hclosed fn h)
  intro fact h
  induction h with
  | assignNode hfn ha hn =>
    exact (hc _ hfn).1 _ ha ((infoTainted_iff _ _ _).2 (Or.inl hn))
  | assignVar hfn ha hv _ ih =>
    exact (hc _ hfn).1 _ ha ((infoTainted_iff _ _ _).2 (Or.inr (Or.inl ⟨_, hv, ih⟩)))
  | assignCall hfn ha hf _ ih =>
    exact (hc _ hfn).1 _ ha ((infoTainted_iff _ _ _).2 (Or.inr (Or.inr ⟨_, hf, ih⟩)))
  | retNode hfn hr hn =>
    exact (hc _ hfn).2 _ hr ((infoTainted_iff _ _ _).2 (Or.inl hn))
  | retVar hfn hr hv _ ih =>
    exact (hc _ hfn).2 _ hr ((infoTainted_iff _ _ _).2 (Or.inr (Or.inl ⟨_, hv, ih⟩)))
  | retCall hfn hr hf _ ih =>
    exact (hc _ hfn).2 _ hr ((infoTainted_iff _ _ _).2 (Or.inr (Or.inr ⟨_, hf, ih⟩)))

/-- soundness skeleton: a sink that is clean under *some* closed certificate is clean in the least solution -/
theorem maybeFloat_le_cert (fns : List TaintFn) (ff : List Nat) (hclosed : fns.all (closedFn ff) = true)
    (fn : TaintFn) (i : TaintInfo) (h : MaybeFloat fns fn i) : infoTainted fn.cert ff i = true := by
  rw [infoTainted_iff]
  rcases h with h | ⟨v, hv, hd⟩ | ⟨f, hf, hd⟩
  · exact Or.inl h
  · exact Or.inr (Or.inl ⟨v, hv, derivable_le_cert fns ff hclosed _ hd⟩)
  · exact Or.inr (Or.inr ⟨f, hf, derivable_le_cert fns ff hclosed _ hd⟩)

/-! the executable side: the iterative analysis of `C11c` (`varStep`, `iter`), extended to the set of
    float-returning functions, stays below every closed certificate at every stage — by `C11.least_le_cert` -/

/-- variables of `fn` the iterative analysis taints in `n` rounds, given float-returning functions `ff` -/
def fnVars (n : Nat) (ff : List Nat) (fn : TaintFn) : List Nat := iter (varStep ff fn.assigns) n []

/-- one global round: add every function one of whose return expressions is tainted -/
def fnStep (n : Nat) (fns : List TaintFn) (ff : List Nat) : List Nat :=
  fns.foldl (fun acc fn =>
    if !acc.contains fn.name && fn.returns.any (infoTainted (fnVars n acc fn) acc) then fn.name :: acc else acc) ff

/-- the float-returning functions after `m` global rounds of `n` local rounds each -/
def leastFns (n m : Nat) (fns : List TaintFn) : List Nat := iter (fnStep n fns) m []

theorem fnVars_le_cert (n : Nat) (ff ffC : List Nat) (hff : ∀ f ∈ ff, f ∈ ffC) (fn : TaintFn)
    (hc : closedFn ffC fn = true) : ∀ v ∈ fnVars n ff fn, v ∈ fn.cert :=
  least_le_cert ff ffC fn.cert hff fn.assigns ((closedFn_iff ffC fn).1 hc).1 n

theorem fnStep_le_cert (n : Nat) (ffC : List Nat) (fns : List TaintFn) (ff : List Nat)
    (hcl : fns.all (closedFn ffC) = true) (hff : ∀ f ∈ ff, f ∈ ffC) : ∀ f ∈ fnStep n fns ff, f ∈ ffC :=
  foldl_addIf_subset TaintFn.name (fun acc fn => fn.returns.any (infoTainted (fnVars n acc fn) acc)) ffC fns ff
    (fun fn hfn acc hacc ht => by
      have hc := List.all_eq_true.1 hcl fn hfn
      obtain ⟨r, hr, ht⟩ := List.any_eq_true.1 ht
      exact ((closedFn_iff ffC fn).1 hc).2 r hr (infoTainted_mono r (fnVars_le_cert n acc ffC hacc fn hc) hacc ht)) hff

theorem leastFns_le_cert (n m : Nat) (fns : List TaintFn) (ffC : List Nat)
    (hcl : fns.all (closedFn ffC) = true) : ∀ f ∈ leastFns n m fns, f ∈ ffC :=
  iter_inv (P := fun ff => ∀ f ∈ ff, f ∈ ffC) (fun ff h => fnStep_le_cert n ffC fns ff hcl h) m [] (by simp)

end SCoda.C11L
