/-
  For Props/ViewTie.lean (generated view functions = hand models): the bisection loop of the generated `binary_insort` on
  `Nat` positions against `insortGo`; fuel independence of the `while` loops of `transpose`, from their closed forms in
  Props/C14.lean; what the ties read the loop states and messages through (`toAbsTo`, `midoView`, `tkGen`).
-/
import SCoda.Lemmas.PyLoop
import SCoda.Gen.ViewFns
import SCoda.Model.Normalise
import SCoda.Model.Wrapper
import SCoda.Model.Midi
import SCoda.Props.C14
namespace SCoda.ViewTieL
open SCoda SCoda.Gen.View

theorem error_bind {α β ε : Type} (e : ε) (f : α → Except ε β) : (Except.error e >>= f) = Except.error e := SCoda.error_bind e f
theorem map_ok {α β ε : Type} (f : α → β) (x : α) : f <$> (Except.ok x : Except ε α) = Except.ok (f x) := SCoda.map_ok f x
theorem pure_eq_ok {α ε : Type} (x : α) : (pure x : Except ε α) = Except.ok x := SCoda.pure_eq_ok x

theorem pyGet_neg_one {α : Type} (l : List α) :
    pyGet l (-1) = match l.getLast? with | some x => .ok x | none => .error .indexError := by
  unfold pyGet
  cases h : l.getLast? with
  | none =>
    have : l = [] := by simpa using h
    subst this; simp; rfl
  | some x =>
    have hne : l ≠ [] := by intro h0; subst h0; simp at h
    have hlen : 0 < l.length := List.length_pos_iff.mpr hne
    have h1 : ((-1 : Int) + (l.length : Int)).toNat = l.length - 1 := by omega
    have h2 : ¬ ((-1 : Int) + (l.length : Int) < 0) := by omega
    simp only [show ((-1 : Int) < 0) from by decide, if_true, h2, if_false, h1]
    rw [List.getLast?_eq_getElem?] at h
    rw [h]; rfl

theorem pyGet_zero {α : Type} (l : List α) :
    pyGet l 0 = match l.head? with | some x => .ok x | none => .error .indexError := by
  unfold pyGet
  cases l <;> simp <;> rfl

theorem pyGet_nat {α : Type} (l : List α) (i : Nat) (h : i < l.length) : pyGet l (i : Int) = .ok l[i] := by
  unfold pyGet
  have h0 : ¬ ((i : Int) < 0) := by omega
  simp [h0, h]; rfl

theorem pyInsert_nat {α : Type} (l : List α) (k : Nat) (x : α) : pyInsert l (k : Int) x = l.take k ++ x :: l.drop k := by
  unfold pyInsert
  have h0 : ¬ ((k : Int) < 0) := by omega
  simp only [h0, if_false, Int.toNat_natCast]
  rw [List.take_eq_take_iff.2 (by omega : min (min k l.length) l.length = min k l.length),
    List.drop_eq_drop_iff.2 (by omega : min (min k l.length) l.length = min k l.length)]

theorem insertAt_eq {α : Type} (x : α) : ∀ (n : Nat) (l : List α), Seq.insertAt x n l = l.take n ++ x :: l.drop n
  | 0, l => by cases l <;> rfl
  | _ + 1, [] => rfl
  | n + 1, y :: ys => by rw [Seq.insertAt, insertAt_eq x n ys]; rfl

theorem pyInsert_nonneg {α : Type} (x : α) (n : Nat) (l : List α) : pyInsert l (n : Int) x = Seq.insertAt x n l := by
  rw [pyInsert_nat, insertAt_eq]

/-- the loop of the generated `binaryInsort` after `f` iterations, from the state `(lo, hi)` -/
def bisect (t : Int) (l : List Msg) : Nat → Nat × Nat → Nat × Nat
  | 0, s => s
  | f + 1, (lo, hi) =>
    if lo < hi then
      let mid := (lo + hi) / 2
      if t < (l.toArray.getD mid default).time then bisect t l f (lo, mid) else bisect t l f (mid + 1, hi)
    else (lo, hi)

/-- one round of the loop of the generated `binaryInsort` on the state `(lo, hi)` -/
def bisectStep (t : Int) (l : List Msg) (s : Nat × Nat) : ForInStep (Nat × Nat) :=
  if s.1 < s.2 then
    if t < (l.toArray.getD ((s.1 + s.2) / 2) default).time then .yield (s.1, (s.1 + s.2) / 2) else .yield ((s.1 + s.2) / 2 + 1, s.2)
  else .done s

/-- `bisect t l f (lo, hi)` against the generated loop, the hand model's bisection, the list and the fuel -/
structure BisectSpec (t : Int) (l : List Msg) (f lo hi : Nat) : Prop where
  run : runN (bisectStep t l) f (lo, hi) = bisect t l f (lo, hi)
  pos : (bisect t l f (lo, hi)).1 = insortGo t l.toArray f lo hi
  le : lo ≤ hi → hi ≤ l.length → (bisect t l f (lo, hi)).2 ≤ l.length
  exited : hi - lo < f → ¬ (bisect t l f (lo, hi)).1 < (bisect t l f (lo, hi)).2

theorem bisect_spec (t : Int) (l : List Msg) : ∀ (f lo hi : Nat), BisectSpec t l f lo hi := by
  intro f
  induction f with
  | zero => intro lo hi; exact ⟨rfl, rfl, fun _ h => h, fun h => by omega⟩
  | succ f ih =>
    intro lo hi
    by_cases h : lo < hi
    ·
      by_cases ht : t < (l.toArray.getD ((lo + hi) / 2) default).time
      · have s := ih lo ((lo + hi) / 2)
        constructor <;> simp only [bisect, runN, bisectStep, insortGo, h, ht, if_true]
        · exact s.run
        · exact s.pos
        · exact fun _ _ => s.le (by omega) (by omega)
        · exact fun hf => s.exited (by omega)
      · have s := ih ((lo + hi) / 2 + 1) hi
        constructor <;> simp only [bisect, runN, bisectStep, insortGo, h, ht, if_true, if_false]
        · exact s.run
        · exact s.pos
        · exact fun _ hh => s.le (by omega) hh
        · exact fun hf => s.exited (by omega)
    · constructor <;> simp only [bisect, runN, bisectStep, insortGo, h, if_false]
      · exact fun _ hh => hh
      · exact fun _ => not_false

theorem bisect_le (t : Int) (l : List Msg) : ∀ (f lo hi : Nat), lo ≤ hi → hi ≤ l.length →
    (bisect t l f (lo, hi)).2 ≤ l.length :=
  fun f lo hi => (bisect_spec t l f lo hi).le

theorem wrapUp_ge (lo : Int) (f : Nat) (p : Int) (h : lo - p < 12 * (f : Int)) : lo ≤ (wrapUp lo f p).1 := by
  rw [C14.wrapUp_eq lo f p h]; dsimp only; split <;> omega

theorem wrapDown_le (hi : Int) (f : Nat) (p : Int) (h : p - hi < 12 * (f : Int)) : (wrapDown hi f p).1 ≤ hi := by
  rw [C14.wrapDown_eq hi f p h]; dsimp only; split <;> omega

/-- `wrapPitch` with the fuels of the generated loops (distance + 1): the closed forms `C14.wrapUp_eq` / `wrapDown_eq` hold for
    every fuel that suffices, so the result does not depend on it -/
theorem wrapPitch_fuel (lo hi p : Int) :
    wrapPitch lo hi p =
      ((wrapDown hi (Int.toNat ((wrapUp lo (Int.toNat (lo - p) + 1) p).1 - hi) + 1) (wrapUp lo (Int.toNat (lo - p) + 1) p).1).1,
       (wrapUp lo (Int.toNat (lo - p) + 1) p).2 ||
       (wrapDown hi (Int.toNat ((wrapUp lo (Int.toNat (lo - p) + 1) p).1 - hi) + 1) (wrapUp lo (Int.toNat (lo - p) + 1) p).1).2) := by
  have h1 : wrapUp lo (Int.toNat (lo - p) / 12 + 2) p = wrapUp lo (Int.toNat (lo - p) + 1) p := by
    rw [C14.wrapUp_eq _ _ _ (by omega), C14.wrapUp_eq _ _ _ (by omega)]
  unfold wrapPitch
  rw [h1]
  generalize (wrapUp lo (Int.toNat (lo - p) + 1) p) = u
  have h2 : wrapDown hi (Int.toNat (u.1 - hi) / 12 + 2) u.1 = wrapDown hi (Int.toNat (u.1 - hi) + 1) u.1 := by
    rw [C14.wrapDown_eq _ _ _ (by omega), C14.wrapDown_eq _ _ _ (by omega)]
  obtain ⟨u1, u2⟩ := u
  simp only at h2 ⊢
  rw [h2]

/-- state of the hand model's fold ↦ loop state of the generated `toAbsoluteSequence` -/
def toAbsTo (s : ToAbsSt) : List Msg × Int × Option Int × Bool := (s.out.reverse, s.cur, s.defCh, s.cap)

/-- `Key.transpose_key` on key indices as a total function, from the generated translation (`-2` where the Python
    function raises).  `C14.tkGen` and `tkFn` of Driver.lean send `pyNone` to `pyNone` before they ask the translation;
    this one does not: `tkGen 2 pyNone = -2`, `C14.tkGen 2 pyNone = pyNone`. -/
def tkGen (by_ : Int) (k : Int) : Int :=
  match Gen.transposeKey k by_ with
  | some v => if v == -1000000 then pyNone else v
  | none => -2

theorem linkTheory_tkGen (by_ k : Int) (h : (Gen.transposeKey k by_).isSome) :
    linkTheory (Gen.transposeKey k by_) = .ok (tkGen by_ k) := by
  unfold linkTheory tkGen
  cases hk : Gen.transposeKey k by_ with
  | none => simp [hk] at h
  | some v => rfl

/-- what a mido message carries of a `MidiEv`: the fields its constructor was given (the hand model `toMidoGo` keeps
    the other fields of the internal message, the harness and the translation do not) -/
def midoView (m : Msg) : Msg :=
  match m.ty with
  | .noteOn | .noteOff => { ty := m.ty, ch := m.ch, time := m.time, note := m.note, vel := m.vel }
  | .timeSignature => { ty := m.ty, ch := m.ch, time := m.time, num := m.num, den := m.den }
  | .keySignature => { ty := m.ty, ch := m.ch, time := m.time, key := m.key }
  | .controlChange => { ty := m.ty, ch := m.ch, time := m.time, vel := m.vel, ctl := m.ctl }
  | _ => m

end SCoda.ViewTieL
