/-
  The notes of a timed event list read off the per-key view `key_view` (`Lemmas/RollKey`).  With time order the notes
  are separated (`notes_sep`) and cover exactly the sounding set (`notes_cover`, from `soundingAt_iff_covered`); they
  start exactly at the note-ons and end exactly at the note-offs (`notes_ons`, `notes_offs`); in the canonical order
  `EQ.KLe` no note has length 0 and no two note-ons of a key share a tick (`posDur_of_kle`, `notes_strict`).
-/
import SCoda.Lemmas.RollCover
import SCoda.Lemmas.NoteSets
namespace SCoda.NotesBL
open SCoda SplitL SCoda.NotesL

theorem mem_notes_key {x : List Msg} {n : Note} {k : Int × Int} :
    n ∈ (notesOf x).filter (fun n => decide ((n.ch, n.pitch) = k)) ↔ n ∈ notesOf x ∧ nkeyN n = k := by
  simp [List.mem_filter, nkeyN]

/-- the third component of `key_view`, as a set: the pairs of key `k` make the notes of the list that have key `k` -/
theorem mem_key_notes {x : List Msg} {k : Int × Int} {P : List (Msg × Msg)}
    (h : (notesOf x).filter (fun n => decide ((n.ch, n.pitch) = k)) = P.map NotesL.mkNote) {n : Note} :
    n ∈ P.map NotesL.mkNote ↔ n ∈ notesOf x ∧ nkeyN n = k := by
  rw [← h]; exact mem_notes_key

theorem chain_of_sorted : ∀ P : List (Msg × Msg), MergeL.Sorted (unpair P) →
    P.Pairwise (fun p q => p.2.time ≤ q.1.time) := by
  intro P
  induction P with
  | nil => intro _; exact List.Pairwise.nil
  | cons p P ih =>
    intro hs
    obtain ⟨_, hrest, hs'⟩ := unpair_sorted_cons hs
    exact List.pairwise_cons.2 ⟨fun q hq => hrest _ (mem_unpair.2 ⟨q, hq, Or.inl rfl⟩), ih hs'⟩

/-- the per-key view with what time-sortedness and positive durations add -/
structure KView (x : List Msg) (k : Int × Int) (P : List (Msg × Msg)) : Prop where
  ev : x.filter (isKN k) = unpair P
  good : ∀ p ∈ P, GoodPair k p
  notes : (notesOf x).filter (fun n => decide ((n.ch, n.pitch) = k)) = P.map NotesL.mkNote
  sorted : MergeL.Sorted (unpair P)
  chain : (P.map NotesL.mkNote).Pairwise (fun n n' => n.off ≤ n'.on)

theorem kview (x : List Msg) (hwf : WF x) (hs : MergeL.Sorted x) (k : Int × Int) : ∃ P, KView x k P := by
  obtain ⟨P, h1, h2, h3⟩ := key_view x hwf k
  have hs' : MergeL.Sorted (unpair P) := by rw [← h1]; exact List.Pairwise.filter _ hs
  refine ⟨P, h1, h2, h3, hs', ?_⟩
  rw [List.pairwise_map]
  exact chain_of_sorted P hs'

/-- **the notes of an event list, read as intervals**: in a well-formed, time-sorted list whose notes
    all last at least one tick, the notes are separated -/
theorem notes_sep (x : List Msg) (hwf : WF x) (hs : MergeL.Sorted x) (hpd : ∀ n ∈ notesOf x, n.on < n.off) :
    Sep (notesOf x) := by
  refine ⟨hpd, ?_, ?_⟩
  · intro n hn n' hn' hne hk
    obtain ⟨P, V⟩ := kview x hwf hs (nkeyN n)
    rcases pairwise_mem V.chain ((mem_key_notes V.notes).2 ⟨hn, rfl⟩) ((mem_key_notes V.notes).2 ⟨hn', hk.symm⟩) with h | h | h
    · exact absurd h hne
    · exact Or.inl h
    · exact Or.inr h
  · rw [List.nodup_iff_count]
    intro n
    obtain ⟨P, V⟩ := kview x hwf hs (nkeyN n)
    have hc : (notesOf x).count n = (P.map NotesL.mkNote).count n := by
      rw [← V.notes, List.count_filter]
      simp [nkeyN]
    rw [hc]
    have hnd : (P.map NotesL.mkNote).Nodup := by
      rw [List.nodup_iff_pairwise_ne]
      refine V.chain.imp_of_mem ?_
      rintro a b ha - hle rfl
      have := hpd a ((mem_key_notes V.notes).1 ha).1
      omega
    exact (List.nodup_iff_count.1 hnd) n

open SCoda.Strong589L in
/-- the two vocabularies of covering: `Covered` (a list of notes of one key, `Lemmas/RollCover`) and `Covers` (one note, with
    its key, `Lemmas/NoteSets`) -/
theorem covered_key (N : List Note) (k : Int × Int) (t : Int) :
    Covered (N.filter (keyIs k)) t ↔ ∃ n ∈ N, Covers n k t := by
  simp only [Covered, List.mem_filter, keyIs, decide_eq_true_eq, Covers, nkeyN, and_assoc]

open SCoda.Strong589L in
theorem notes_cover (x : List Msg) (hwf : WF x) (hs : MergeL.Sorted x) (k : Int × Int) (t : Int) :
    SoundingAt x k t ↔ ∃ n ∈ notesOf x, Covers n k t := by
  rw [soundingAt_iff_covered k t x ((wf_iff x).1 hwf k) hs, ← notesOf_key, covered_key]

theorem notes_ons (x : List Msg) (hwf : WF x) (α : Int × Int × Int × Int) :
    α ∈ (notesOf x).map onAttr ↔ ∃ m ∈ x, m.ty = .noteOn ∧ (m.ch, m.note, m.time, m.vel) = α := by
  constructor
  · intro h
    obtain ⟨n, hn, rfl⟩ := List.mem_map.1 h
    obtain ⟨P, h1, h2, h3⟩ := key_view x hwf (nkeyN n)
    obtain ⟨p, hp, rfl⟩ := List.mem_map.1 ((mem_key_notes h3).2 ⟨hn, rfl⟩)
    exact ⟨p.1, (mem_of_unpair h1 hp).1, (h2 p hp).on, rfl⟩
  · rintro ⟨m, hm, hty, rfl⟩
    obtain ⟨P, h1, h2, h3⟩ := key_view x hwf m.nkey
    have hm' : m ∈ unpair P := by
      rw [← h1]; exact List.mem_filter.2 ⟨hm, by simp [isKN, hty]⟩
    obtain ⟨p, hp, he⟩ := mem_unpair.1 hm'
    rcases he with rfl | rfl
    · exact List.mem_map.2 ⟨_, ((mem_key_notes h3).1 (List.mem_map_of_mem hp)).1, rfl⟩
    · have := (h2 p hp).off
      rw [hty] at this
      cases this

theorem notes_offs (x : List Msg) (hwf : WF x) (β : Int × Int × Int) :
    β ∈ (notesOf x).map offAttr ↔ ∃ m ∈ x, m.ty = .noteOff ∧ (m.ch, m.note, m.time) = β := by
  constructor
  · intro h
    obtain ⟨n, hn, rfl⟩ := List.mem_map.1 h
    obtain ⟨P, h1, h2, h3⟩ := key_view x hwf (nkeyN n)
    obtain ⟨p, hp, rfl⟩ := List.mem_map.1 ((mem_key_notes h3).2 ⟨hn, rfl⟩)
    have g := h2 p hp
    have hk : p.2.nkey = p.1.nkey := g.k2.trans g.k1.symm
    simp only [Msg.nkey, Prod.mk.injEq] at hk
    exact ⟨p.2, (mem_of_unpair h1 hp).2, g.off, by simp [offAttr, NotesL.mkNote, hk.1, hk.2]⟩
  · rintro ⟨m, hm, hty, rfl⟩
    obtain ⟨P, h1, h2, h3⟩ := key_view x hwf m.nkey
    have hm' : m ∈ unpair P := by
      rw [← h1]; exact List.mem_filter.2 ⟨hm, by simp [isKN, hty]⟩
    obtain ⟨p, hp, he⟩ := mem_unpair.1 hm'
    rcases he with rfl | rfl
    · have := (h2 p hp).on
      rw [hty] at this
      cases this
    · have g := h2 p hp
      have hk : p.2.nkey = p.1.nkey := g.k2.trans g.k1.symm
      simp only [Msg.nkey, Prod.mk.injEq] at hk
      exact List.mem_map.2 ⟨_, ((mem_key_notes h3).1 (List.mem_map_of_mem hp)).1, by simp [offAttr, NotesL.mkNote, hk.1, hk.2]⟩

theorem notes_onset (x : List Msg) (hwf : WF x) (k : Int × Int) (s : Int) :
    (∃ n ∈ notesOf x, nkeyN n = k ∧ n.on = s) ↔ (∃ m ∈ x, m.ty = .noteOn ∧ m.nkey = k ∧ m.time = s) := by
  constructor
  · rintro ⟨n, hn, hk, hs⟩
    obtain ⟨m, hm, hty, he⟩ := (notes_ons x hwf _).1 (List.mem_map.2 ⟨n, hn, rfl⟩)
    simp only [onAttr, Prod.mk.injEq] at he
    refine ⟨m, hm, hty, ?_, by omega⟩
    rw [← hk]; simp [Msg.nkey, nkeyN, he.1, he.2.1]
  · rintro ⟨m, hm, hty, hk, hs⟩
    obtain ⟨n, hn, he⟩ := List.mem_map.1 ((notes_ons x hwf _).2 ⟨m, hm, hty, rfl⟩)
    simp only [onAttr, Prod.mk.injEq] at he
    refine ⟨n, hn, ?_, by omega⟩
    rw [← hk]; simp [Msg.nkey, nkeyN, he.1, he.2.1]

/-! ### lists in canonical order (`EQ.KLe`: by tick, channel, type rank — note-off before note-on —, pitch) -/

theorem pair_rel_of_pairwise {R : Msg → Msg → Prop} : ∀ P : List (Msg × Msg), (unpair P).Pairwise R →
    ∀ p ∈ P, R p.1 p.2 := by
  intro P
  induction P with
  | nil => intro _ p hp; cases hp
  | cons q P ih =>
    intro h p hp
    rw [unpair_cons, List.pairwise_cons, List.pairwise_cons] at h
    rcases List.mem_cons.1 hp with rfl | hp
    · exact h.1 _ (by simp)
    · exact ih h.2.2 p hp

theorem onsets_sorted (P : List (Msg × Msg)) (hs : MergeL.Sorted (unpair P)) : P.Pairwise (fun p q => p.1.time ≤ q.1.time) :=
  (chain_of_sorted P hs).imp_of_mem fun hp _ h => Int.le_trans (pair_rel_of_pairwise P hs _ hp) h

theorem kle_on_off_lt {k : Int × Int} {p : Msg × Msg} (g : GoodPair k p) (h : EQ.KLe p.1 p.2) :
    p.1.time < p.2.time := by
  have hkk : p.1.nkey = p.2.nkey := g.k1.trans g.k2.symm
  simp only [Msg.nkey, Prod.mk.injEq] at hkk
  have := (keyLe_iff p.1 p.2).1 h
  simp only [g.on, g.off, MType.rank] at this
  omega

theorem posDur_of_kle (x : List Msg) (hwf : WF x) (hk : ∀ k, (x.filter (isKN k)).Pairwise EQ.KLe) :
    ∀ n ∈ notesOf x, n.on < n.off := by
  intro n hn
  obtain ⟨P, h1, h2, h3⟩ := key_view x hwf (nkeyN n)
  obtain ⟨p, hp, rfl⟩ := List.mem_map.1 ((mem_key_notes h3).2 ⟨hn, rfl⟩)
  exact kle_on_off_lt (h2 p hp) (pair_rel_of_pairwise P (by rw [← h1]; exact hk _) p hp)

theorem posDur_of_sorted (x : List Msg) (hwf : WF x) (hk : x.Pairwise EQ.KLe) : ∀ n ∈ notesOf x, n.on < n.off :=
  posDur_of_kle x hwf (fun _ => hk.filter _)

theorem sorted_of_kle {x : List Msg} (hk : x.Pairwise EQ.KLe) : MergeL.Sorted x :=
  hk.imp (fun h => keyLe_time h)

theorem key_times (l : List Msg) (hwf : WF l) (hs : l.Pairwise EQ.KLe) (k : Int × Int) :
    ∃ P : List (Msg × Msg), l.filter (isKN k) = unpair P ∧ (∀ p ∈ P, GoodPair k p)
      ∧ P.Pairwise (fun p q => p.1.time < q.1.time ∧ p.2.time < q.2.time) := by
  obtain ⟨P, h1, h2, _⟩ := key_view l hwf k
  have hk : (unpair P).Pairwise EQ.KLe := by rw [← h1]; exact hs.filter _
  refine ⟨P, h1, h2, (chain_of_sorted P (sorted_of_kle hk)).imp_of_mem ?_⟩
  intro a b ha hb h
  have := kle_on_off_lt (h2 a ha) (pair_rel_of_pairwise P hk a ha)
  have := kle_on_off_lt (h2 b hb) (pair_rel_of_pairwise P hk b hb)
  omega

theorem unpair_filter_on (k : Int × Int) : ∀ P : List (Msg × Msg), (∀ p ∈ P, GoodPair k p) →
    (unpair P).filter (fun m => m.ty == .noteOn) = P.map (·.1) := by
  intro P
  induction P with
  | nil => intro _; rfl
  | cons p P ih =>
    intro hg
    have g := hg p (by simp)
    rw [unpair_cons]
    simp [g.on, g.off, ih (fun q hq => hg q (List.mem_cons_of_mem _ hq))]

theorem unpair_filter_off (k : Int × Int) : ∀ P : List (Msg × Msg), (∀ p ∈ P, GoodPair k p) →
    (unpair P).filter (fun m => m.ty == .noteOff) = P.map (·.2) := by
  intro P
  induction P with
  | nil => intro _; rfl
  | cons p P ih =>
    intro hg
    have g := hg p (by simp)
    rw [unpair_cons]
    simp [g.on, g.off, ih (fun q hq => hg q (List.mem_cons_of_mem _ hq))]

theorem filter_type_key (l : List Msg) (τ : MType) (k : Int × Int) :
    (l.filter (fun m => m.ty == τ)).filter (isKN k) = (l.filter (isKN k)).filter (fun m => m.ty == τ) :=
  filter_comm' _ _ l

/-- in a canonically sorted well-formed list, two note-ons (resp. note-offs) never tie in the sort key -/
theorem notes_strict (l : List Msg) (hwf : WF l) (hs : l.Pairwise EQ.KLe) (τ : MType)
    (hτ : τ = .noteOn ∨ τ = .noteOff) :
    (l.filter (fun m => m.ty == τ)).Pairwise (fun x y => EQ.KLe x y ∧ ¬ EQ.KLe y x) := by
  refine (hs.filter _).and ?_
  rw [List.pairwise_iff_forall_sublist]
  intro x y hxy hyx
  have hx : x ∈ l.filter (fun m => m.ty == τ) := hxy.subset (by simp)
  have hy : y ∈ l.filter (fun m => m.ty == τ) := hxy.subset (by simp)
  have hxt : x.ty = τ := by simpa using (List.mem_filter.1 hx).2
  have hyt : y.ty = τ := by simpa using (List.mem_filter.1 hy).2
  have hxle : EQ.KLe x y := (List.pairwise_iff_forall_sublist.1 (hs.filter _)) hxy
  obtain ⟨e1, e2, _, e4⟩ := keyLe_antisymm hxle hyx
  obtain ⟨P, h1, h2, h3⟩ := key_times l hwf hs x.nkey
  have kx : isKN x.nkey x = true := by
    rcases hτ with h | h <;> simp [isKN, hxt, h]
  have ky : isKN x.nkey y = true := by
    have : y.nkey = x.nkey := by simp [Msg.nkey, e2, e4]
    rcases hτ with h | h <;> simp [isKN, hyt, h, this]
  have hsub : [x, y].Sublist ((l.filter (isKN x.nkey)).filter (fun m => m.ty == τ)) := by
    rw [← filter_type_key]
    have := hxy.filter (isKN x.nkey)
    simpa [List.filter_cons, kx, ky] using this
  rw [h1] at hsub
  rcases hτ with h | h
  · subst h
    rw [unpair_filter_on _ P h2] at hsub
    have hp : (P.map (·.1)).Pairwise (fun a b => a.time < b.time) := by
      rw [List.pairwise_map]; exact h3.imp (fun h => h.1)
    have := (List.pairwise_iff_forall_sublist.1 hp) hsub
    omega
  · subst h
    rw [unpair_filter_off _ P h2] at hsub
    have hp : (P.map (·.2)).Pairwise (fun a b => a.time < b.time) := by
      rw [List.pairwise_map]; exact h3.imp (fun h => h.2)
    have := (List.pairwise_iff_forall_sublist.1 hp) hsub
    omega

theorem keyLe_off {m x : Msg} (hm : m.ty = .noteOff) (hk : m.nkey = x.nkey) (hx : x.ty = .noteOn ∨ x.ty = .noteOff)
    (ht : m.time ≤ x.time) : keyLe m x = true := by
  have h1 : m.ch = x.ch := congrArg Prod.fst hk
  have h2 : m.note = x.note := congrArg Prod.snd hk
  by_cases hlt : m.time < x.time
  · exact keyLe_of_time_lt hlt
  · have : ¬ x.time < m.time := by omega
    rcases hx with hx | hx <;> simp [keyLe, hlt, this, h1, h2, hm, hx, MType.rank]

/-- notes of positive length of one key, none beginning before the end of the one before: their events are in sort order -/
theorem unpair_keyLe {k : Int × Int} : ∀ Q : List (Msg × Msg), (∀ q ∈ Q, GoodPair k q ∧ q.1.time < q.2.time) →
    Q.Pairwise (fun q q' => q.2.time ≤ q'.1.time) → (unpair Q).Pairwise EQ.KLe := by
  intro Q
  induction Q with
  | nil => intro _ _; exact List.Pairwise.nil
  | cons q Q ih =>
    intro hg hch
    obtain ⟨hq, hch'⟩ := List.pairwise_cons.1 hch
    obtain ⟨g, hpos⟩ := hg q List.mem_cons_self
    have hg' := fun r hr => hg r (List.mem_cons_of_mem _ hr)
    -- every later event is an event of the key, no earlier than the note-off
    have later : ∀ e ∈ unpair Q, q.2.time ≤ e.time ∧ e.nkey = k ∧ (e.ty = .noteOn ∨ e.ty = .noteOff) := by
      intro e he
      obtain ⟨r, hr, rfl | rfl⟩ := mem_unpair.1 he
      · exact ⟨hq r hr, (hg' r hr).1.k1, Or.inl (hg' r hr).1.on⟩
      · exact ⟨Int.le_trans (hq r hr) (Int.le_of_lt (hg' r hr).2), (hg' r hr).1.k2, Or.inr (hg' r hr).1.off⟩
    rw [unpair_cons]
    refine List.pairwise_cons.2 ⟨fun e he => ?_, List.pairwise_cons.2 ⟨fun e he => ?_, ih hg' hch'⟩⟩
    · rcases List.mem_cons.1 he with rfl | he
      · exact keyLe_of_time_lt hpos
      · exact keyLe_of_time_lt (Int.lt_of_lt_of_le hpos (later e he).1)
    · obtain ⟨h1, h2, h3⟩ := later e he
      exact keyLe_off g.off (g.k2.trans h2.symm) h3 h1

end SCoda.NotesBL
