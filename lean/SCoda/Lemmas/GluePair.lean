/-
  `get_message_pairings` and the interleaving of its channels on a time-sorted list (what `Model/Extract` and `equals`
  both read): the fold of `pairStep` is in `Inv` — the shapes are those of
  `NL.Good` (`Lemmas/PairStep`), and `Timed` adds the order of the pairings of a channel and that no note-off precedes its
  note-on — and `interleaveGo` (membership and order of its output).
-/
import SCoda.Lemmas.PairStep
namespace SCoda.GluePair
open SCoda SCoda.PairStep

section assoc
variable {κ ν : Type} [DecidableEq κ]

def KeysNodup (d : Assoc κ ν) : Prop := d.Pairwise (fun a b => a.1 ≠ b.1)

end assoc

theorem getElem?_modifyAt {α} (f : α → α) (l : List α) (i j : Nat) :
    (modifyAt f i l)[j]? = if i = j then (l[j]?).map f else l[j]? := by
  rw [SCoda.getElem?_modifyAt]
  exact ite_congr (propext eq_comm) (fun _ => rfl) (fun _ => rfl)

/-- order of two pairings by the time of their head messages -/
def HeadLe (p q : Pairing) : Prop := ∀ x ∈ p.head?, ∀ y ∈ q.head?, x.time ≤ y.time

/-- the same order on the heads -/
def OptLe (a b : Option Msg) : Prop := ∀ x ∈ a, ∀ y ∈ b, x.time ≤ y.time

theorem pairwise_headLe_iff (l : List Pairing) :
    l.Pairwise HeadLe ↔ (l.map List.head?).Pairwise OptLe := by
  rw [List.pairwise_map]; rfl

/-- shape of a pairing while the fold runs (`seen` = the processed messages) -/
def Good (types : List MType) (seen : List Msg) (p : Pairing) : Prop :=
  (∃ m, p = [m] ∧ m ∈ seen ∧ m.ty ∈ types ∧ m.ty ≠ .noteOff) ∨
  (∃ on off, p = [on, off] ∧ on ∈ seen ∧ on.ty = .noteOn ∧ off.ty = .noteOff ∧
    off.nkey = on.nkey ∧ on.time ≤ off.time)

theorem Good.head {types seen} {p : Pairing} (h : Good types seen p) :
    ∃ x, p.head? = some x ∧ x ∈ seen := by
  rcases h with ⟨m, rfl, h2, _⟩ | ⟨on, off, rfl, h2, _⟩
  · exact ⟨m, rfl, h2⟩
  · exact ⟨on, rfl, h2⟩

/-- invariant of the `pairStep` fold -/
structure Inv (types : List MType) (seen : List Msg) (s : PairSt) : Prop where
  good : ∀ c ∈ s.pairs, ∀ p ∈ c.2, Good types seen p
  sorted : ∀ c ∈ s.pairs, c.2.Pairwise HeadLe
  nodup : KeysNodup s.opens
  opens : ∀ k i, s.opens.get? k = some i →
    ∃ on, ((s.pairs.get? k.1).getD [])[i]? = some [on] ∧ on.nkey = k ∧ on.ty = .noteOn

theorem old_cases (pairs : Assoc Int (List Pairing)) (ch : Int) :
    ((pairs.get? ch).getD [] = [] ) ∨ (ch, (pairs.get? ch).getD []) ∈ pairs := by
  cases h : pairs.get? ch with
  | none => left; rfl
  | some ps => right; exact Q.mem_of_get? h

/-- what time order adds to `NL.Good`, for the pairings of one channel while the messages `later` are still to come:
    they are in the order of their heads, every head is a compared message no later than what is to come, and no
    note-off precedes its note-on -/
structure TimedL (types : List MType) (later : List Msg) (L : List Pairing) : Prop where
  sorted : L.Pairwise HeadLe
  head : ∀ p ∈ L, ∀ x ∈ p.head?, x.ty ∈ types ∧ ∀ y ∈ later, x.time ≤ y.time
  onOff : ∀ p ∈ L, ∀ on off, p = [on, off] → on.time ≤ off.time

theorem TimedL.nil {types later} : TimedL types later [] :=
  ⟨List.Pairwise.nil, fun _ hp => (nomatch hp), fun _ hp => (nomatch hp)⟩

theorem TimedL.tail {types m l} {L : List Pairing} (h : TimedL types (m :: l) L) : TimedL types l L :=
  ⟨h.sorted, fun p hp x hx => ⟨(h.head p hp x hx).1, fun y hy => (h.head p hp x hx).2 y (List.mem_cons_of_mem _ hy)⟩, h.onOff⟩

theorem TimedL.snoc {types m l} {L : List Pairing} (h : TimedL types (m :: l) L) (hm : m.ty ∈ types)
    (hl : ∀ y ∈ l, m.time ≤ y.time) : TimedL types l (L ++ [[m]]) := by
  refine ⟨List.pairwise_append.2 ⟨h.sorted, List.pairwise_singleton _ _, fun p hp q hq x hx y hy => ?_⟩,
    fun p hp => ?_, fun p hp => ?_⟩
  · rw [List.mem_singleton.1 hq] at hy
    rw [← Option.some.inj hy]
    exact (h.head p hp x hx).2 m List.mem_cons_self
  · rcases List.mem_append.1 hp with hp | hp
    · exact h.tail.head p hp
    · rw [List.mem_singleton.1 hp]
      exact fun x hx => by rw [← Option.some.inj hx]; exact ⟨hm, hl⟩
  · rcases List.mem_append.1 hp with hp | hp
    · exact h.onOff p hp
    · rw [List.mem_singleton.1 hp]
      exact fun _ _ e => nomatch e

/-- closing the note-on at index `i` at the tick of the next message leaves every head where it is -/
theorem TimedL.close {types m l} {L : List Pairing} (h : TimedL types (m :: l) L) {i : Nat} {on : Msg}
    (hi : L[i]? = some [on]) (off : Msg) (ht : off.time = m.time) : TimedL types (m :: l) (modifyAt (· ++ [off]) i L) := by
  have hon := h.head [on] (List.mem_of_getElem? hi) on rfl
  -- a pairing of the new list is an old one or `[on, off]`
  have cases : ∀ p ∈ modifyAt (· ++ [off]) i L, p ∈ L ∨ p = [on, off] := fun p hp =>
    (mem_modifyAt_get hp).imp id fun ⟨y, hy, e⟩ => by rw [hi] at hy; rw [e, ← Option.some.inj hy]; rfl
  refine ⟨?_, fun p hp => ?_, fun p hp => ?_⟩
  · rw [pairwise_headLe_iff, map_modifyAt_eq _ _ _ _ fun y hy => by rw [hi] at hy; rw [← Option.some.inj hy]; rfl]
    exact (pairwise_headLe_iff L).1 h.sorted
  · rcases cases p hp with hp | rfl
    · exact h.head p hp
    · exact fun x hx => by rw [← Option.some.inj hx]; exact hon
  · rcases cases p hp with hp | rfl
    · exact h.onOff p hp
    · intro on' off' e
      rw [← (List.cons.inj e).1, ← (List.cons.inj (List.cons.inj e).2).1, ht]
      exact hon.2 m List.mem_cons_self

def Timed (types : List MType) (later : List Msg) (s : PairSt) : Prop := ∀ c ∈ s.pairs, TimedL types later c.2

theorem Timed.get {types later s} (h : Timed types later s) (ch : Int) : TimedL types later ((s.pairs.get? ch).getD []) := by
  rcases old_cases s.pairs ch with h0 | h0
  · rw [h0]; exact TimedL.nil
  · exact h _ h0

theorem Timed.set {types later s} (h : Timed types later s) {s' : PairSt} {ch : Int} {v : List Pairing}
    (hs : s'.pairs = s.pairs.set ch v) (hv : TimedL types later v) : Timed types later s' := by
  intro c hc
  rw [hs] at hc
  rcases Q.mem_set hc with hc | rfl
  · exact h c hc
  · exact hv

theorem Timed.tail {types m l s} (h : Timed types (m :: l) s) : Timed types l s := fun c hc => (h c hc).tail

/-- one step on the next message, which nothing to come precedes; `NL.Good` says what `opens` points at -/
theorem timed_step {types : List MType} {src : List Msg} {s : PairSt} {m : Msg} {l : List Msg} (hg : NL.Good types src s)
    (h : Timed types (m :: l) s) (hl : ∀ y ∈ l, m.time ≤ y.time) : Timed types l (pairStep types true s m) := by
  by_cases hc : types.contains m.ty = true
  · have hty : m.ty ∈ types := by simpa using hc
    obtain ⟨h1, _⟩ := NL.ensure_good src s m.ch hg
    have h0 : Timed types (m :: l) (setDefault s m.ch) := by
      unfold setDefault
      split
      · exact h
      · exact h.set rfl TimedL.nil
    have close : ∀ (off : Msg) (i : Nat), off.time = m.time → (setDefault s m.ch).opens.get? m.nkey = some i →
        Timed types (m :: l) (NL.closeOp (setDefault s m.ch) m.nkey i off) := by
      intro off i hoff hk
      obtain ⟨L, on, hL, hLi, _⟩ := h1.B m.nkey i hk
      exact h0.set rfl ((h0.get m.nkey.1).close (by rw [hL]; exact hLi) off hoff)
    have push : ∀ {s' : PairSt}, Timed types (m :: l) s' → ∀ {s'' : PairSt},
        s''.pairs = s'.pairs.set m.ch ((s'.pairs.get? m.ch).getD [] ++ [[m]]) → Timed types l s'' :=
      fun h' _ e => h'.tail.set e ((h'.get m.ch).snoc hty hl)
    by_cases hon : m.ty = .noteOn
    · rw [pairStep_on true s hc hon, NL.stepOn_eq]
      cases hk : (setDefault s m.ch).opens.get? m.nkey with
      | none => exact push h0 rfl
      | some i => exact push (close (Msg.mkOff m.ch m.note m.time) i rfl hk) rfl
    · by_cases hoff : m.ty = .noteOff
      · rw [pairStep_off true s hc hoff, NL.stepOff_eq]
        cases hk : (setDefault s m.ch).opens.get? m.nkey with
        | none => exact h0.tail
        | some i => exact (close m i rfl hk).tail
      · rw [pairStep_other true s hc hon hoff]
        exact push h0 rfl
  · rw [pairStep_skip true s hc]
    exact h.tail

theorem timed_fold {types : List MType} {src : List Msg} : ∀ (l : List Msg) (s : PairSt), NL.Good types src s →
    (∀ m ∈ l, m ∈ src) → Timed types l s → l.Pairwise (fun x y => x.time ≤ y.time) →
    Timed types [] (l.foldl (pairStep types true) s) := by
  intro l
  induction l with
  | nil => intro s _ _ h _; exact h
  | cons m l ih =>
    intro s hg hsrc h hs
    rw [List.pairwise_cons] at hs
    exact ih _ (NL.pairStep_good src s m hg (hsrc m List.mem_cons_self)) (fun x hx => hsrc x (List.mem_cons_of_mem _ hx))
      (timed_step hg h hs.1) hs.2

theorem inv_foldl (types : List MType) (a : List Msg) (ha : a.Pairwise (fun x y => x.time ≤ y.time)) :
    Inv types a (a.foldl (pairStep types true) {}) := by
  have hg := NL.fold_good (T := types) a
  have ht := timed_fold (types := types) a {} (NL.good_init a) (fun _ h => h) (fun _ hc => nomatch hc) ha
  refine ⟨fun c hc p hp => ?_, fun c hc => (ht c hc).sorted, hg.kno, fun k i hk => ?_⟩
  · obtain ⟨j, hj⟩ := List.getElem?_of_mem hp
    rcases hg.A c.1 c.2 (Q.get?_of_mem hg.knp hc) j p hj with ⟨on, rfl, h2, _, h4, _⟩ | ⟨on, off, rfl, g1, g2, g3, _, g5⟩ |
      ⟨m, rfl, hT, g1, g2, _, g6⟩
    · exact Or.inl ⟨on, rfl, h4, ((ht c hc).head _ hp on rfl).1, by rw [h2]; exact fun e => nomatch e⟩
    · exact Or.inr ⟨on, off, rfl, g5, g1, g2, g3, (ht c hc).onOff _ hp on off rfl⟩
    · exact Or.inl ⟨m, rfl, g6, hT, g2⟩
  · obtain ⟨l, on, hl, hli, h3⟩ := hg.B k i hk
    exact ⟨on, by rw [hl]; exact hli, h3⟩

/-- shape of a pairing handed out by `pairingsSorted` -/
def Closed (types : List MType) (seen : List Msg) (p : Pairing) : Prop :=
  (∃ m, p = [m] ∧ m ∈ seen ∧ m.ty ∈ types ∧ m.ty ≠ .noteOff ∧ m.ty ≠ .noteOn) ∨
  (∃ on off, p = [on, off] ∧ on ∈ seen ∧ on.ty = .noteOn ∧ off.ty = .noteOff ∧
    off.nkey = on.nkey ∧ on.time ≤ off.time)

theorem closeUnclosed_good {types seen} {p : Pairing} (std : Int) (hstd : 0 ≤ std)
    (h : Good types seen p) : Closed types seen (closeUnclosed std true p) := by
  rcases h with ⟨m, rfl, h2, h3, h4⟩ | ⟨on, off, rfl, h2⟩
  · by_cases hon : m.ty = .noteOn
    · right
      refine ⟨m, Msg.mkOff m.ch m.note (m.time + std), ?_, h2, hon, rfl, rfl, ?_⟩
      · simp [closeUnclosed, hon]
      · simp [Msg.mkOff]; omega
    · left
      exact ⟨m, by simp [closeUnclosed, hon], h2, h3, h4, hon⟩
  · right
    exact ⟨on, off, rfl, h2⟩

theorem pairingsSorted_spec (types : List MType) (std : Int) (a : List Msg)
    (ha : a.Pairwise (fun x y => x.time ≤ y.time)) :
    ∀ c ∈ pairingsSorted types std true a,
      (∀ p ∈ c.2, ∃ q, Good types a q ∧ p = closeUnclosed std true q) ∧ c.2.Pairwise HeadLe := by
  intro c hc
  have hinv := inv_foldl types a ha
  simp only [pairingsSorted, List.mem_map] at hc
  obtain ⟨kv, hkv, rfl⟩ := hc
  refine ⟨?_, ?_⟩
  · intro p hp
    simp only [List.mem_map] at hp
    obtain ⟨q, hq, rfl⟩ := hp
    exact ⟨q, hinv.good kv hkv q hq, rfl⟩
  · have := hinv.sorted kv hkv
    rw [pairwise_headLe_iff] at this ⊢
    simp only [List.map_map]
    have hfun : (List.head? ∘ closeUnclosed std true) = List.head? := by
      funext p; exact closeUnclosed_head std true p
    rw [hfun]; exact this

/-- what `argMinFirst` returns: an index whose value is minimal -/
theorem argMinFirst_spec : ∀ (ts : List (Option Int)) (i : Nat) (best : Option (Nat × Int)) (j : Nat) (v : Int),
    argMinFirst ts i best = some (j, v) →
      ((best = some (j, v)) ∨ (i ≤ j ∧ ts[j - i]? = some (some v))) ∧
      (∀ w, some w ∈ ts → v ≤ w) ∧ (∀ b, best = some b → v ≤ b.2) := by
  intro ts
  induction ts with
  | nil =>
    intro i best j v h
    simp only [argMinFirst] at h
    subst h
    exact ⟨Or.inl rfl, by simp, by intro b hb; cases hb; exact Int.le_refl _⟩
  | cons t ts ih =>
    intro i best j v h
    simp only [argMinFirst] at h
    obtain ⟨h1, h2, h3⟩ := ih _ _ _ _ h
    -- an index found in the tail, read in `t :: ts`
    have shift : (i + 1 ≤ j ∧ ts[j - (i + 1)]? = some (some v)) → i ≤ j ∧ (t :: ts)[j - i]? = some (some v) := by
      rintro ⟨h1, h1'⟩
      refine ⟨by omega, ?_⟩
      rw [show j - i = (j - (i + 1)) + 1 by omega]
      simpa using h1'
    -- the head itself was taken
    have here : ∀ u, t = some u → some (i, u) = some (j, v) → i ≤ j ∧ (t :: ts)[j - i]? = some (some v) := by
      rintro u rfl e
      cases e
      simp
    have tail : ∀ w, (∀ u, t = some u → v ≤ u) → some w ∈ t :: ts → v ≤ w := by
      intro w hu hw
      rcases List.mem_cons.1 hw with rfl | hw
      · exact hu w rfl
      · exact h2 w hw
    cases t with
    | none => exact ⟨h1.imp id shift, fun w => tail w (fun _ e => by cases e), h3⟩
    | some u =>
      cases best with
      | none =>
        simp only at h1 h3
        have hvu : v ≤ u := h3 (i, u) rfl
        exact ⟨Or.inr (h1.elim (here u rfl) shift), fun w => tail w (fun _ e => by cases e; exact hvu), by simp⟩
      | some bb =>
        obtain ⟨bi, b⟩ := bb
        simp only at h1 h3
        by_cases hub : u < b
        · simp only [hub, if_true] at h1 h3
          have hvu : v ≤ u := h3 (i, u) rfl
          exact ⟨Or.inr (h1.elim (here u rfl) shift), fun w => tail w (fun _ e => by cases e; exact hvu),
            fun b' hb' => by cases hb'; simp only; omega⟩
        · simp only [hub, if_false] at h1 h3
          have hvb : v ≤ b := h3 (bi, b) rfl
          exact ⟨h1.imp id shift, fun w => tail w (fun _ e => by cases e; omega), fun b' hb' => by cases hb'; exact hvb⟩

/-- order of two events by the time of their head messages -/
def EvLe (a b : Int × Pairing) : Prop := HeadLe a.2 b.2

theorem headTime_le {v : Int} {ps : List Pairing} (hmin : ∀ w, headTime ps = some w → v ≤ w)
    (hs : ps.Pairwise HeadLe) (hne : ∀ p ∈ ps, p ≠ []) :
    ∀ q ∈ ps, ∀ y ∈ q.head?, v ≤ y.time := by
  intro q hq y hy
  cases ps with
  | nil => simp at hq
  | cons q0 qs =>
    cases q0 with
    | nil => exact absurd rfl (hne [] (by simp))
    | cons m0 r0 =>
      have h0 : v ≤ m0.time := hmin m0.time rfl
      rcases List.mem_cons.1 hq with rfl | hq
      · simp at hy; subst hy; exact h0
      · have := (List.pairwise_cons.1 hs).1 q hq m0 (by simp) y hy
        omega

theorem interleaveGo_sorted : ∀ (fuel : Nat) (chans : List (Int × List Pairing)) (acc : List (Int × Pairing)),
    (∀ c ∈ chans, c.2.Pairwise HeadLe) → (∀ c ∈ chans, ∀ p ∈ c.2, p ≠ []) →
    acc.reverse.Pairwise EvLe → (∀ a ∈ acc, ∀ c ∈ chans, ∀ p ∈ c.2, HeadLe a.2 p) →
    (interleaveGo fuel chans acc).Pairwise EvLe := by
  intro fuel
  induction fuel with
  | zero => intro chans acc _ _ h3 _; simpa [interleaveGo] using h3
  | succ fuel ih =>
    intro chans acc h1 h2 h3 h4
    unfold interleaveGo
    split
    · exact h3
    · rename_i i v harg
      split
      · rename_i ch p rest hget
        have hmem := List.mem_of_getElem? hget
        obtain ⟨hidx, hmin, _⟩ := argMinFirst_spec _ _ _ _ _ harg
        simp at hidx
        obtain ⟨c0, ps0, hc0, hv⟩ := hidx
        rw [hget] at hc0
        simp at hc0
        obtain ⟨rfl, rfl⟩ := hc0
        -- the head of `p` has time `v`
        have hp : ∀ x ∈ p.head?, x.time = v := by
          intro x hx
          cases p with
          | nil => simp at hx
          | cons m r => simp at hx; subst hx; simpa [headTime] using hv
        have hminc : ∀ c ∈ chans, ∀ q ∈ c.2, ∀ y ∈ q.head?, v ≤ y.time := by
          intro c hc
          apply headTime_le _ (h1 c hc) (h2 c hc)
          intro w hw
          apply hmin w
          simp only [List.mem_map]
          exact ⟨c, hc, hw⟩
        have hsub : ∀ c ∈ modifyAt (fun c : Int × List Pairing => (c.1, c.2.drop 1)) i chans,
            ∃ c0 ∈ chans, List.Sublist c.2 c0.2 := by
          intro c hc
          rcases mem_modifyAt_get hc with hc | ⟨y, hy, rfl⟩
          · exact ⟨c, hc, List.Sublist.refl _⟩
          · exact ⟨y, List.mem_of_getElem? hy, List.drop_sublist _ _⟩
        apply ih
        · intro c hc
          obtain ⟨c0, hc0, hs⟩ := hsub c hc
          exact (h1 c0 hc0).sublist hs
        · intro c hc q hq
          obtain ⟨c0, hc0, hs⟩ := hsub c hc
          exact h2 c0 hc0 q (hs.subset hq)
        · rw [List.reverse_cons, List.pairwise_append]
          refine ⟨h3, by simp, ?_⟩
          intro a ha b hb
          simp at hb; subst hb
          exact h4 a (by simpa using ha) _ hmem p (by simp)
        · intro a ha c hc q hq
          obtain ⟨c0, hc0, hs⟩ := hsub c hc
          have hq0 := hs.subset hq
          rcases List.mem_cons.1 ha with rfl | ha
          · intro x hx y hy
            rw [hp x hx]
            exact hminc c0 hc0 q hq0 y hy
          · exact h4 a ha c0 hc0 q hq0
      · exact h3


theorem interleaved_mem (types : List MType) (std : Int) (a : List Msg) :
    ∀ ev ∈ interleaved types std true a,
      ∃ q, Good types (sortAbs a) q ∧ ev.2 = closeUnclosed std true q :=
  interleaved_forall (Q := fun _ p => ∃ q, Good types (sortAbs a) q ∧ p = closeUnclosed std true q)
    fun c hc => (pairingsSorted_spec types std _ (sortAbs_pairwise a) c hc).1

theorem interleaved_sorted (types : List MType) (std : Int) (a : List Msg) :
    (interleaved types std true a).Pairwise EvLe := by
  simp only [interleaved, pairings]
  apply interleaveGo_sorted
  · intro c hc
    exact (pairingsSorted_spec types std _ (sortAbs_pairwise a) c hc).2
  · intro c hc p hp
    obtain ⟨q, hq, rfl⟩ := (pairingsSorted_spec types std _ (sortAbs_pairwise a) c hc).1 p hp
    obtain ⟨x, hx, _⟩ := hq.head
    intro hnil
    have := closeUnclosed_head std true q
    rw [hnil, hx] at this
    cases this
  · simp
  · intro a ha; simp at ha

end SCoda.GluePair
