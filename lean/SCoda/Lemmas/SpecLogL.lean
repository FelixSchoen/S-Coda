/-
  The specification log of C01 read from the input side, for `Props/C01c.lean`: its notes are the note events, each at
  its onset with its duration and its velocity looked up in the bins (`specLog_notes`); its final clock is the first bar
  line at or after the last onset on the grid that the signature events induce (`specLog_cur`, `barCeil`).
  The file continues namespace `SCoda.ExtractL`.
-/
import SCoda.Lemmas.ExtractL
import SCoda.Lemmas.TokSim
namespace SCoda.ExtractL
open SCoda SCoda.E2E SCoda.MergeL SCoda.EQ SCoda.GlueAux

/-- "the value of its velocity bin": the smallest bin value that is not below the velocity
    (0 if there is none — excluded by validity).  Specified without `binIndex` / `np.digitize`. -/
def binValue (bins : List Int) (v : Int) : Int := ((bins.filter (fun b => decide (v ≤ b))).min?).getD 0

theorem binIndex_cons (b : Int) (bs : List Int) (v : Int) :
    binIndex (b :: bs) v = (if b < v then 1 else 0) + binIndex bs v := by
  unfold binIndex
  by_cases h : b < v <;> simp [h] <;> omega

/-- on non-decreasing bins the tokeniser's lookup `bins[digitize v]` is the smallest bin ≥ v -/
theorem binIndex_spec (v : Int) : ∀ (bins : List Int), bins.Pairwise (· ≤ ·) → binIndex bins v < bins.length →
    ∃ w, bins[binIndex bins v]? = some w ∧ w ∈ bins ∧ v ≤ w ∧ ∀ b ∈ bins, v ≤ b → w ≤ b := by
  intro bins
  induction bins with
  | nil => intro _ h; simp at h
  | cons b bs ih =>
    intro hs hlt
    rw [List.pairwise_cons] at hs
    rw [binIndex_cons] at hlt ⊢
    by_cases hb : b < v
    · rw [if_pos hb] at hlt ⊢
      obtain ⟨w, h1, h2, h3, h4⟩ := ih hs.2 (by simp only [List.length_cons] at hlt; omega)
      refine ⟨w, ?_, List.mem_cons_of_mem _ h2, h3, ?_⟩
      · rw [Nat.add_comm, List.getElem?_cons_succ]; exact h1
      · intro b' hb' hv
        rcases List.mem_cons.1 hb' with rfl | hb'
        · omega
        · exact h4 b' hb' hv
    · have h0 : binIndex bs v = 0 := by
        unfold binIndex
        rw [List.length_eq_zero_iff, List.filter_eq_nil_iff]
        intro x hx
        have := hs.1 x hx
        simp only [decide_eq_true_eq]; omega
      rw [if_neg hb, h0]
      refine ⟨b, rfl, List.mem_cons_self, by omega, ?_⟩
      intro b' hb' _
      rcases List.mem_cons.1 hb' with rfl | hb'
      · exact Int.le_refl _
      · exact hs.1 b' hb'

theorem binValue_eq (bins : List Int) (v w : Int) (h1 : w ∈ bins) (h2 : v ≤ w) (h3 : ∀ b ∈ bins, v ≤ b → w ≤ b) :
    binValue bins v = w := by
  unfold binValue
  have : (bins.filter (fun b => decide (v ≤ b))).min? = some w := by
    rw [List.min?_eq_some_iff]
    refine ⟨List.mem_filter.2 ⟨h1, by simpa using h2⟩, ?_⟩
    intro b hb
    have := List.mem_filter.1 hb
    exact h3 b this.1 (by simpa using this.2)
  rw [this]; rfl

theorem binIndex_lt (bins : List Int) (v : Int) (h : ∃ b ∈ bins, v ≤ b) : binIndex bins v < bins.length := by
  unfold binIndex
  rw [List.length_filter_lt_length_iff_exists]
  obtain ⟨b, hb, hvb⟩ := h
  exact ⟨b, hb, by simpa using hvb⟩

theorem bins_lookup (bins : List Int) (v : Int) (hs : bins.Pairwise (· ≤ ·)) (h : ∃ b ∈ bins, v ≤ b) :
    (bins[binIndex bins v]?).getD 0 = binValue bins v := by
  obtain ⟨w, h1, h2, h3, h4⟩ := binIndex_spec v bins hs (binIndex_lt bins v h)
  rw [h1, binValue_eq bins v w h2 h3 h4]
  rfl

open SCoda.C01 in
/-- the notes in an emission log, the track index in the channel slot -/
def logNotes (log : List C01.Emit) : List Note :=
  log.filterMap (fun e => match e with
    | .note trk p v on off => some { ch := trk, pitch := p, on := on, off := off, vel := v }
    | _ => Option.none)

theorem logNotes_append (a b : List C01.Emit) : logNotes (a ++ b) = logNotes a ++ logNotes b := by
  simp [logNotes, List.filterMap_append]

theorem logNotes_barEnds (xs : List Int) : logNotes (xs.map C01.Emit.barEnd) = [] := by
  simp [logNotes, List.filterMap_map, Function.comp_def]

/-- every event is a note (note-on, note-off) or a single non-note-on message -/
def Shape (evs : List (Int × Pairing)) : Prop :=
  ∀ ev ∈ evs, (∃ on off, ev.2 = [on, off] ∧ on.ty = .noteOn) ∨ (∃ m, ev.2 = [m] ∧ m.ty ≠ .noteOn)

/-- what the log says of a note read off the events: shifted by the call's start clock, velocity looked
    up in the bins -/
def binShift (c : Cfg) (s : Int) (n : Note) : Note :=
  { n with on := n.on + s, off := n.on + s + (n.off - n.on), vel := (c.bins[binIndex c.bins n.vel]?).getD 0 }

theorem Shape.ne {evs : List (Int × Pairing)} (h : Shape evs) : ∀ ev ∈ evs, ev.2 ≠ [] := by
  intro ev he
  rcases h ev he with ⟨on, off, h1, _⟩ | ⟨m, h1, _⟩ <;> rw [h1] <;> simp

theorem Shape.head {e1 : Int} {m : Msg} {restP : List Msg} {evs : List (Int × Pairing)} (h : Shape ((e1, m :: restP) :: evs)) :
    ((∃ off, restP = [off] ∧ m.ty = .noteOn) ∨ (restP = [] ∧ m.ty ≠ .noteOn)) ∧ Shape evs := by
  refine ⟨?_, fun e he => h e (List.mem_cons_of_mem _ he)⟩
  rcases h _ List.mem_cons_self with ⟨on, off, h1, hty⟩ | ⟨m', h1, hty⟩ <;> cases h1
  · exact Or.inl ⟨off, rfl, hty⟩
  · exact Or.inr ⟨rfl, hty⟩

theorem logNotes_upTo (T : Int) (kl : C01.Clock × List C01.Emit) : logNotes (C01.upTo T kl).2 = logNotes kl.2 := by
  show logNotes (kl.2 ++ _) = _
  rw [logNotes_append, logNotes_barEnds, List.append_nil]

theorem fold_notes (c : Cfg) (start s : Int) (evs : List (Int × Pairing)) (kl : C01.Clock × List C01.Emit)
    (hI : C01.FoldInv start kl) (hle : ∀ ev ∈ evs, ∀ m ∈ ev.2.head?, kl.1.cur ≤ m.time + s)
    (hord : evs.Pairwise (fun a b => ∀ x ∈ a.2.head?, ∀ y ∈ b.2.head?, x.time ≤ y.time))
    (hcap : ∀ ev ∈ evs, ∀ m ∈ ev.2.head?, m.ty = .timeSignature → 0 < c.capacity m.num m.den) (hsh : Shape evs) :
    logNotes (evs.foldl (C01.specEvent c s) kl).2 = logNotes kl.2 ++ (evs.filterMap evNote).map (binShift c s) := by
  refine C01.fold_ind c start s (Q := fun evs kl => Shape evs → logNotes (evs.foldl (C01.specEvent c s) kl).2
    = logNotes kl.2 ++ (evs.filterMap evNote).map (binShift c s)) ?_ ?_ evs kl hI hle hord hcap hsh.ne hsh
  · intro kl _ _; simp
  · intro e1 m restP evs kl r _ _ hr hcur hE _ hQ hsh
    obtain ⟨hshape, hsh'⟩ := hsh.head
    have hT : logNotes (C01.specTail c m restP r.1).2 = ((evNote (e1, m :: restP)).toList).map (binShift c s) := by
      rw [C01.specTail_emits]
      rcases hshape with ⟨off, rfl, hty⟩ | ⟨rfl, hty⟩
      · simp only [hty, if_true, hcur, logNotes, evNote, List.filterMap_cons, List.filterMap_nil,
          Option.toList_some, List.map_cons, List.map_nil, binShift]
      · rfl
    have hL : logNotes r.2 = logNotes kl.2 := by rw [hr, logNotes_upTo]
    rw [List.foldl_cons, hQ hsh', hE]
    simp only [logNotes_append, hL, hT, List.filterMap_cons]
    cases hN : evNote (e1, m :: restP) <;> simp

theorem closeBar_notes (kl : C01.Clock × List C01.Emit) : logNotes (C01.closeBar kl).2 = logNotes kl.2 := by
  unfold C01.closeBar
  split
  · simp [logNotes_append, logNotes_barEnds]
  · rfl

/-- **the notes of the specification log** of a call from the initial state are the note events, in
    order, each at its onset with its duration and its velocity looked up in the bins -/
theorem specLog_notes (c : Cfg) (hc : C01.CfgOk c) (evs : List (Int × Pairing)) (hev : C01.EvsOk c 0 0 evs)
    (hcap : ∀ ev ∈ evs, ∀ m ∈ ev.2.head?, m.ty = .timeSignature → 0 < c.capacity m.num m.den) (hsh : Shape evs) :
    logNotes (C01.specLog c (TokSt.init c) evs).2 = (evs.filterMap evNote).map (binShift c 0) := by
  have hpos := hc.defCap_pos
  rw [C01.specLog_eq, closeBar_notes]
  have e0 : (TokSt.init c).curTime = 0 := rfl
  rw [e0]
  have := fold_notes c 0 0 evs (C01.clockOf (TokSt.init c) (c.capacity (TokSt.init c).tsNum (TokSt.init c).tsDen), [])
    (C01.FoldInv.init (TokSt.init c) _ hpos (Int.le_refl 0) hpos) hev.notBefore hev.ordered hcap hsh
  simpa [logNotes] using this

theorem logNotes_filter (log : List C01.Emit) : logNotes (log.filter C01.notTsig) = logNotes log := by
  induction log with
  | nil => rfl
  | cons e log ih =>
    cases e <;> simp_all [logNotes, C01.notTsig, List.filter_cons]

open SCoda.C01 in
/-- move the bar clock forward to tick `t` -/
def goTo (k : C01.Clock) (t : Int) : C01.Clock := (C01.advance ((t - k.cur).toNat + 1) (t - k.cur) k).1

/-- a time signature re-sizes the bars from its tick on -/
def sigStep (c : Cfg) (k : C01.Clock) (m : Msg) : C01.Clock :=
  { goTo k m.time with capTotal := c.capacity m.num m.den, capRem := c.capacity m.num m.den }

/-- the clock before the piece starts: tick 0, on a bar line, default signature -/
def clock0 (c : Cfg) : C01.Clock :=
  { cur := 0, bar := 0, capTotal := c.capacity c.defNum c.defDen, capRem := c.capacity c.defNum c.defDen }

/-- the first bar line at or after tick `L` of the grid induced by the signature changes `sigs` -/
def barCeil (c : Cfg) (sigs : List Msg) (L : Int) : Int :=
  let k := goTo (sigs.foldl (sigStep c) (clock0 c)) L
  if k.bar > 0 then k.cur + k.capRem else k.cur

/-- every signature change stands on a bar line of the grid induced by the earlier ones -/
def OnBars (c : Cfg) : C01.Clock → List Msg → Prop
  | _, [] => True
  | k, m :: ms => (goTo k m.time).bar = 0 ∧ OnBars c (sigStep c k m) ms

instance (c : Cfg) : ∀ (k : C01.Clock) (sigs : List Msg), Decidable (OnBars c k sigs)
  | _, [] => isTrue trivial
  | k, m :: ms =>
    have := instDecidableOnBars c (sigStep c k m) ms
    inferInstanceAs (Decidable ((goTo k m.time).bar = 0 ∧ OnBars c (sigStep c k m) ms))

theorem goTo_self (k : C01.Clock) (t : Int) (h : t ≤ k.cur) : goTo k t = k :=
  congrArg Prod.fst (C01.adv_stay k (by omega))

theorem goTo_sane (k : C01.Clock) (hs : C01.Sane k) (t : Int) : C01.Sane (goTo k t) := (C01.adv_inv _ k hs).sane

theorem goTo_cur (k : C01.Clock) (hs : C01.Sane k) (t : Int) (h : k.cur ≤ t) : (goTo k t).cur = t := by
  have := (C01.adv_inv (t - k.cur) k hs).cur
  show (C01.adv (t - k.cur) k).1.cur = t
  omega

theorem goTo_capTotal (k : C01.Clock) (hs : C01.Sane k) (t : Int) : (goTo k t).capTotal = k.capTotal :=
  (C01.adv_inv _ k hs).capTotal

theorem goTo_goTo (k : C01.Clock) (hs : C01.Sane k) (t1 t2 : Int) (h1 : k.cur ≤ t1) (h2 : t1 ≤ t2) :
    goTo (goTo k t1) t2 = goTo k t2 :=
  congrArg (·.1) (C01.upTo_upTo (k, []) hs h1 h2)

/-- the rule of the code: a signature that does not stand on a bar line is skipped -/
def sigStepI (c : Cfg) (k : C01.Clock) (m : Msg) : C01.Clock :=
  if (goTo k m.time).bar > 0 then goTo k m.time else sigStep c k m

theorem upTo_fst (t : Int) (kl : C01.Clock × List C01.Emit) : (C01.upTo t kl).1 = goTo kl.1 t := rfl

theorem specEvent_clock (c : Cfg) (kl : C01.Clock × List C01.Emit) (e1 : Int) (m : Msg) (restP : List Msg) :
    (C01.specEvent c 0 kl (e1, m :: restP)).1 =
      if m.ty = .timeSignature then sigStepI c kl.1 m else goTo kl.1 m.time := by
  rw [C01.specEvent_cons]
  simp only [Int.add_zero, upTo_fst]
  rw [C01.specTail_clock]
  unfold sigStepI sigStep
  by_cases hty : m.ty = .timeSignature <;> by_cases hb : (goTo kl.1 m.time).bar > 0 <;> simp [hty, hb]

/-- going on to a later tick commutes with a first stop before the next signature -/
theorem sigfold_goTo (c : Cfg) (sigs : List Msg) (k : C01.Clock) (hs : C01.Sane k) (t L : Int) (h1 : k.cur ≤ t)
    (h2 : t ≤ L) (hsig : ∀ m ∈ sigs, t ≤ m.time) :
    goTo (sigs.foldl (sigStepI c) (goTo k t)) L = goTo (sigs.foldl (sigStepI c) k) L := by
  cases sigs with
  | nil => exact goTo_goTo k hs t L h1 h2
  | cons m ms =>
    have : sigStepI c (goTo k t) m = sigStepI c k m := by
      unfold sigStepI sigStep
      rw [goTo_goTo k hs t m.time h1 (hsig m List.mem_cons_self)]
    rw [List.foldl_cons, List.foldl_cons, this]

/-- seen from a later tick, the clock of the fold is the clock of its signature events -/
theorem fold_clock (c : Cfg) (start : Int) (evs : List (Int × Pairing)) (kl : C01.Clock × List C01.Emit)
    (hI : C01.FoldInv start kl) (hle : ∀ ev ∈ evs, ∀ m ∈ ev.2.head?, kl.1.cur ≤ m.time + 0)
    (hord : evs.Pairwise (fun a b => ∀ x ∈ a.2.head?, ∀ y ∈ b.2.head?, x.time ≤ y.time))
    (hcap : ∀ ev ∈ evs, ∀ m ∈ ev.2.head?, m.ty = .timeSignature → 0 < c.capacity m.num m.den) (hsh : Shape evs) :
    ∀ L, (∀ ev ∈ evs, ∀ m ∈ ev.2.head?, m.time ≤ L) → kl.1.cur ≤ L →
      goTo (evs.foldl (C01.specEvent c 0) kl).1 L = goTo ((evs.filterMap tsOf).foldl (sigStepI c) kl.1) L := by
  refine C01.fold_ind c start 0 (Q := fun evs kl => Shape evs → ∀ L, (∀ ev ∈ evs, ∀ m ∈ ev.2.head?, m.time ≤ L) →
    kl.1.cur ≤ L → goTo (evs.foldl (C01.specEvent c 0) kl).1 L = goTo ((evs.filterMap tsOf).foldl (sigStepI c) kl.1) L)
    ?_ ?_ evs kl hI hle hord hcap hsh.ne hsh
  · intro kl _ _ L _ _; rfl
  · intro e1 m restP evs kl r hI hm _ hcur hE hlater hQ hsh L hL hkL
    obtain ⟨hshape, hsh'⟩ := hsh.head
    have hcur' : (C01.specEvent c 0 kl (e1, m :: restP)).1.cur = m.time := by
      rw [hE]
      simp only
      rw [(C01.specTail_props c m restP r.1).1, hcur, Int.add_zero]
    have hts : tsOf (e1, m :: restP) = if m.ty = .timeSignature then some m else Option.none := by
      rcases hshape with ⟨off, rfl, hty⟩ | ⟨rfl, hty⟩
      · rw [if_neg (by rw [hty]; decide)]; rfl
      · rfl
    have hmL : m.time ≤ L := hL (e1, m :: restP) List.mem_cons_self m rfl
    rw [List.foldl_cons, hQ hsh' L (fun ev hev => hL ev (List.mem_cons_of_mem _ hev)) (by rw [hcur']; exact hmL),
      specEvent_clock, List.filterMap_cons, hts]
    by_cases hty : m.ty = .timeSignature
    · rw [if_pos hty, if_pos hty, List.foldl_cons]
    · rw [if_neg hty, if_neg hty]
      refine sigfold_goTo c _ kl.1 hI.sane m.time L (by omega) hmL ?_
      intro m' hm'
      rw [List.mem_filterMap] at hm'
      obtain ⟨ev, hev, hev'⟩ := hm'
      exact hlater ev hev m' (tsOf_head hev').1

/-- under `OnBars` the skip rule never fires -/
theorem sigfold_onBars (c : Cfg) : ∀ (sigs : List Msg) (k : C01.Clock), OnBars c k sigs →
    sigs.foldl (sigStepI c) k = sigs.foldl (sigStep c) k := by
  intro sigs
  induction sigs with
  | nil => intro k _; rfl
  | cons m ms ih =>
    intro k h
    obtain ⟨h1, h2⟩ := h
    have : sigStepI c k m = sigStep c k m := by
      unfold sigStepI
      rw [if_neg (by omega)]
    rw [List.foldl_cons, List.foldl_cons, this]
    exact ih _ h2

theorem lastHead_max : ∀ (evs : List (Int × Pairing)) (d : Int),
    evs.Pairwise (fun a b => ∀ x ∈ a.2.head?, ∀ y ∈ b.2.head?, x.time ≤ y.time) →
    (∀ ev ∈ evs, ev.2 ≠ []) →
    (∀ ev ∈ evs, ∀ m ∈ ev.2.head?, m.time ≤ C01.lastHead evs d)
    ∧ (C01.lastHead evs d = d ∨ ∃ ev ∈ evs, ∃ m ∈ ev.2.head?, C01.lastHead evs d = m.time) := by
  intro evs
  induction evs with
  | nil => intro d _ _; exact ⟨by simp, Or.inl rfl⟩
  | cons ev evs ih =>
    intro d hord hne
    have hord' := List.pairwise_cons.1 hord
    obtain ⟨m, restP, hm⟩ : ∃ m restP, ev.2 = m :: restP := by
      cases h : ev.2 with
      | nil => exact absurd h (hne ev List.mem_cons_self)
      | cons m restP => exact ⟨m, restP, rfl⟩
    have hlh : C01.lastHead (ev :: evs) d = C01.lastHead evs m.time := by simp [C01.lastHead, hm]
    obtain ⟨i1, i2⟩ := ih m.time hord'.2 (fun e he => hne e (List.mem_cons_of_mem _ he))
    rw [hlh]
    refine ⟨?_, ?_⟩
    · intro ev' hev' m' hm'
      rcases List.mem_cons.1 hev' with rfl | hev'
      · rw [hm] at hm'; simp at hm'; subst hm'
        rcases i2 with h | ⟨e2, he2, m2, hm2, h⟩
        · rw [h]; exact Int.le_refl _
        · rw [h]; exact hord'.1 e2 he2 m (by simp [hm]) m2 hm2
      · exact i1 ev' hev' m' hm'
    · right
      rcases i2 with h | ⟨e2, he2, m2, hm2, h⟩
      · exact ⟨ev, List.mem_cons_self, m, by simp [hm], h⟩
      · exact ⟨e2, List.mem_cons_of_mem _ he2, m2, hm2, h⟩

/-- **the final clock of the specification log** is the first bar line at or after the last onset, on the
    grid induced by the signature events -/
theorem specLog_cur (c : Cfg) (hc : C01.CfgOk c) (evs : List (Int × Pairing)) (hev : C01.EvsOk c 0 0 evs)
    (hcap : ∀ ev ∈ evs, ∀ m ∈ ev.2.head?, m.ty = .timeSignature → 0 < c.capacity m.num m.den) (hsh : Shape evs)
    (hob : OnBars c (clock0 c) (evs.filterMap tsOf)) :
    (C01.specLog c (TokSt.init c) evs).1.cur = barCeil c (evs.filterMap tsOf) (C01.lastHead evs 0) := by
  have hpos := hc.defCap_pos
  have hI0 : C01.FoldInv 0 (clock0 c, []) := C01.FoldInv.init (TokSt.init c) _ hpos (Int.le_refl 0) hpos
  have f1 := (C01.fold_inv c 0 0 evs _ hI0 hcap).sane
  have f2 : _ = C01.lastHead evs (0 - 0) + 0 := C01.fold_last c 0 0 evs _ hI0 hev.notBefore hev.ordered hcap hsh.ne
  have f3 := fold_clock c 0 evs _ hI0 hev.notBefore hev.ordered hcap hsh
  have e : C01.specLog c (TokSt.init c) evs = C01.closeBar (evs.foldl (C01.specEvent c 0) (clock0 c, [])) :=
    C01.specLog_eq c _ evs
  rw [e, C01.closeBar_clock _ f1.1]
  generalize evs.foldl (C01.specEvent c 0) (clock0 c, []) = kf at f1 f2 f3 ⊢
  rw [Int.sub_self, Int.add_zero] at f2
  -- the fold's clock is the signature clock moved to the last onset
  have hk : kf.1 = goTo ((evs.filterMap tsOf).foldl (sigStep c) (clock0 c)) (C01.lastHead evs 0) := by
    obtain ⟨hmax, hlast⟩ := lastHead_max evs 0 hev.ordered hsh.ne
    have h0 : (clock0 c).cur ≤ kf.1.cur := by
      rw [f2]
      rcases hlast with h | ⟨ev, he, m, hm, h⟩
      · rw [h]; exact Int.le_refl 0
      · rw [h]; have := hev.notBefore ev he m hm; show (0 : Int) ≤ m.time; omega
    have := f3 kf.1.cur (by rw [f2]; exact hmax) h0
    rw [goTo_self kf.1 kf.1.cur (Int.le_refl _), sigfold_onBars c _ _ hob] at this
    rw [this, f2]
  unfold barCeil
  simp only
  rw [← hk]

theorem sigfold_sane (c : Cfg) : ∀ (sigs : List Msg) (k : C01.Clock) (L : Int), C01.Sane k → k.cur ≤ L →
    (∀ m ∈ sigs, 0 < c.capacity m.num m.den ∧ m.time ≤ L) → Sorted sigs → (∀ m ∈ sigs, k.cur ≤ m.time) →
    C01.Sane (sigs.foldl (sigStep c) k) ∧ (sigs.foldl (sigStep c) k).cur ≤ L := by
  intro sigs
  induction sigs with
  | nil => intro k L hs hL _ _ _; exact ⟨hs, hL⟩
  | cons m ms ih =>
    intro k L hs hL hcap hsort hge
    have hsort' := List.pairwise_cons.1 hsort
    have hm := hcap m List.mem_cons_self
    have h1 := goTo_sane k hs m.time
    have h2 := goTo_cur k hs m.time (hge m List.mem_cons_self)
    rw [List.foldl_cons]
    refine ih (sigStep c k m) L ⟨hm.1, h1.2.1, hm.1⟩ (by simp only [sigStep]; omega)
      (fun x hx => hcap x (List.mem_cons_of_mem _ hx)) hsort'.2 ?_
    intro x hx
    simp only [sigStep]
    rw [h2]
    exact hsort'.1 x hx

/-- between a tick and the first bar line at or after it nothing changes -/
theorem barCeil_idem (c : Cfg) (sigs : List Msg) (L T : Int)
    (hs : C01.Sane (sigs.foldl (sigStep c) (clock0 c))) (hk : (sigs.foldl (sigStep c) (clock0 c)).cur ≤ L)
    (h1 : L ≤ T) (h2 : T ≤ barCeil c sigs L) : barCeil c sigs T = barCeil c sigs L := by
  unfold barCeil at h2 ⊢
  simp only at h2 ⊢
  generalize sigs.foldl (sigStep c) (clock0 c) = k at hs hk h2 ⊢
  have hkL := goTo_sane k hs L
  have hcur := goTo_cur k hs L hk
  rw [← goTo_goTo k hs L T hk h1]
  generalize goTo k L = kL at hkL hcur h2 ⊢
  by_cases hb : kL.bar > 0
  · rw [if_pos hb] at h2
    rw [if_pos hb]
    by_cases hz : T ≤ L
    · rw [goTo_self kL T (by omega), if_pos hb]
    · rw [show goTo kL T = (C01.adv (T - kL.cur) kL).1 from rfl]
      by_cases hin : T - L < kL.capRem
      · rw [C01.adv_in _ kL (by omega) (by omega)]
        simp only
        rw [if_pos (by omega)]
        omega
      · rw [show T - kL.cur = kL.capRem by omega, C01.adv_full kL hkL.1]
        simp only
        rw [if_neg (by omega)]
  · rw [if_neg hb] at h2
    rw [if_neg hb, goTo_self kL T (by omega), if_neg hb]

theorem le_barCeil (c : Cfg) (sigs : List Msg) (L : Int)
    (hs : C01.Sane (sigs.foldl (sigStep c) (clock0 c))) (hk : (sigs.foldl (sigStep c) (clock0 c)).cur ≤ L) :
    L ≤ barCeil c sigs L := by
  unfold barCeil
  simp only
  have h1 := goTo_sane _ hs L
  have h2 := goTo_cur _ hs L hk
  split
  · have := h1.1; omega
  · omega

theorem barCeil_mono (c : Cfg) (sigs : List Msg) (L T : Int)
    (hs : C01.Sane (sigs.foldl (sigStep c) (clock0 c))) (hk : (sigs.foldl (sigStep c) (clock0 c)).cur ≤ L)
    (h1 : L ≤ T) : barCeil c sigs L ≤ barCeil c sigs T := by
  by_cases h : T ≤ barCeil c sigs L
  · rw [barCeil_idem c sigs L T hs hk h1 h]; exact Int.le_refl _
  · have := le_barCeil c sigs T hs (by omega)
    omega

/-- **the final clock of the specification log** of a call from the initial state, in one piece: `specLog_cur`, and what
    holds of the bar ceiling of every tick from the last onset on -/
theorem specLog_clock (c : Cfg) (hc : C01.CfgOk c) (evs : List (Int × Pairing)) (hev : C01.EvsOk c 0 0 evs)
    (hcap : ∀ ev ∈ evs, ∀ m ∈ ev.2.head?, m.ty = .timeSignature → 0 < c.capacity m.num m.den) (hsh : Shape evs)
    (hob : OnBars c (clock0 c) (evs.filterMap tsOf)) :
    (C01.specLog c (TokSt.init c) evs).1.cur = barCeil c (evs.filterMap tsOf) (C01.lastHead evs 0)
    ∧ 0 ≤ C01.lastHead evs 0
    ∧ ∀ T, C01.lastHead evs 0 ≤ T →
        T ≤ barCeil c (evs.filterMap tsOf) T
        ∧ barCeil c (evs.filterMap tsOf) (C01.lastHead evs 0) ≤ barCeil c (evs.filterMap tsOf) T
        ∧ (T ≤ barCeil c (evs.filterMap tsOf) (C01.lastHead evs 0) →
            barCeil c (evs.filterMap tsOf) T = barCeil c (evs.filterMap tsOf) (C01.lastHead evs 0)) := by
  obtain ⟨hmax, hmem⟩ := lastHead_max evs 0 hev.ordered hsh.ne
  have hL0 : 0 ≤ C01.lastHead evs 0 := by
    rcases hmem with h | ⟨ev, he, m, hm, h⟩
    · rw [h]; exact Int.le_refl 0
    · rw [h]; have := hev.notBefore ev he m hm; omega
  have hhead : ∀ m ∈ evs.filterMap tsOf, ∃ ev ∈ evs, m ∈ ev.2.head? ∧ m.ty = .timeSignature := by
    intro m hm
    obtain ⟨ev, he, h⟩ := List.mem_filterMap.1 hm
    exact ⟨ev, he, tsOf_head h⟩
  have hpos := hc.defCap_pos
  obtain ⟨hsane, hkL⟩ := sigfold_sane c (evs.filterMap tsOf) (clock0 c) (C01.lastHead evs 0) ⟨hpos, Int.le_refl 0, hpos⟩ hL0
    (fun m hm => by
      obtain ⟨ev, he, hmh, hty⟩ := hhead m hm
      exact ⟨hcap ev he m hmh hty, hmax ev he m hmh⟩)
    (List.Pairwise.filterMap tsOf (fun a a' hR b hb b' hb' => hR b (tsOf_head hb).1 b' (tsOf_head hb').1) hev.ordered)
    (fun m hm => by
      obtain ⟨ev, he, hmh, _⟩ := hhead m hm
      have := hev.notBefore ev he m hmh
      simp only [clock0]; omega)
  exact ⟨specLog_cur c hc evs hev hcap hsh hob, hL0, fun T hT =>
    ⟨le_barCeil c (evs.filterMap tsOf) T hsane (by omega), barCeil_mono c _ _ T hsane hkL hT,
      barCeil_idem c _ _ T hsane hkL hT⟩⟩

end SCoda.ExtractL
