/-
  When `sequences_split_bars` returns and when it raises (for `Props/Strong589B.lean`: audit item A6(b), property C09):
  the track side, on the grid and the change queues of `Lemmas/BarGrid.lean`.  One round on one track succeeds, so a
  per-track run along a schedule that carries the track's own signatures does, so a call on the input-level bar grid
  never raises; and the zero-length-bar branch (on `SplitL.split_zero`).
-/
import SCoda.Lemmas.BarGrid
namespace SCoda.Strong589LB
open SCoda SCoda.SplitL SCoda.SB SCoda.BarL

/-- **one round on one track succeeds**, for any way `hfirst` of building the bar from a piece not longer than the bar
    that carries the bar's signature only -/
theorem trackStep_ok (ppqn : Int) (values : List Int) (requant : Bool) (TI : List Msg → Prop) (hTI0 : TI [])
    (g : Sg) (t : List Msg) (A : Int) (hc : 0 < sgLen ppqn g) (hw : NonNegWaits t)
    (hTI : ∀ pieces, split t [sgLen ppqn g] = .ok pieces → ∀ p ∈ pieces, TI p)
    (hfirst : ∀ first, NonNegWaits first → TI first → durRel first ≤ sgLen ppqn g →
      (∀ m ∈ first, m.ty = .timeSignature → (m.num, m.den) = (g.1, g.2.1)) →
      ∃ piece b, requantPiece values ppqn requant first = .ok piece ∧ mkBar ppqn piece g.1 g.2.1 g.2.2 = .ok b)
    (hsig : ∀ e ∈ N A t, e.ty = .timeSignature → e.time < A + sgLen ppqn g → (e.num, e.den) = (g.1, g.2.1)) :
    ∃ o, trackStep ppqn values requant g t = .ok o ∧ TI o.2.1 ∧ ∀ e ∈ N (A + sgLen ppqn g) o.2.1, e ∈ N A t := by
  obtain ⟨pieces, hs⟩ := C08.split_total t [sgLen ppqn g]
  have hcut := Cut.of_split hs
  obtain ⟨hfn, _, hdur⟩ := hcut.dur hc hw
  obtain ⟨hfe, hre⟩ := hcut.events hc hw A
  obtain ⟨hfi, hri⟩ := hcut.inv TI hTI0 hTI
  -- the piece holds events of the track inside the bar, so it carries the bar's signature only
  obtain ⟨piece, b, hrq, hb⟩ := hfirst _ hfn hfi (by unfold durRel at *; omega) fun m hm hts => by
    obtain ⟨e, he, h1, h2, h3⟩ := mem_N_of_timeSig _ A m hm hts
    obtain ⟨h4, h5⟩ := hfe e he
    rw [← h2, ← h3]
    exact hsig e h4 h1 h5
  exact ⟨(_, _, b), trackStep_iff.2 ⟨_, piece, hcut, hrq, hb⟩, hri, hre⟩

theorem sigInForce_in_bar (ppqn : Int) (sigs : List Msg) (hnn : NonNegBars ppqn sigs)
    (hal : ∀ m ∈ sigs, OnGrid ppqn sigs m.time) (k : Nat) (t : Int)
    (h1 : gridStart ppqn sigs k ≤ t) (h2 : t < gridStart ppqn sigs (k + 1)) :
    C09.sigInForce sigs t = C09.sigInForce sigs (gridStart ppqn sigs k) := by
  unfold C09.sigInForce
  have : sigs.filter (fun m => decide (m.time ≤ t)) = sigs.filter (fun m => decide (m.time ≤ gridStart ppqn sigs k)) := by
    apply List.filter_congr
    intro m hm
    obtain ⟨j, hj⟩ := hal m hm
    by_cases hle : m.time ≤ gridStart ppqn sigs k
    · have : m.time ≤ t := by omega
      simp [hle, this]
    · have hlt : gridStart ppqn sigs k < gridStart ppqn sigs j := by rw [← hj]; omega
      have := grid_next (gridStart ppqn sigs) (gridStart_step_le ppqn sigs hnn) k j hlt
      have : ¬ m.time ≤ t := by omega
      simp [hle, this]
  rw [this]

theorem sgLen_of_sig {ppqn : Int} {g : Sg} {x : Int × Int} (h : (g.1, g.2.1) = x) :
    sgLen ppqn g = barCapacity ppqn x.1 x.2 := by
  rw [← h]; rfl

theorem trackRun_ok (ppqn : Int) (values : List Int) (requant : Bool) (TI : List Msg → Prop)
    (hTI : ∀ (g : Sg) (t : List Msg) (A : Int), 0 < sgLen ppqn g → NonNegWaits t → TI t →
      (∀ e ∈ N A t, e.ty = .timeSignature → e.time < A + sgLen ppqn g → (e.num, e.den) = (g.1, g.2.1)) →
      ∃ o, trackStep ppqn values requant g t = .ok o ∧ TI o.2.1 ∧ ∀ e ∈ N (A + sgLen ppqn g) o.2.1, e ∈ N A t) :
    ∀ (gs : List Sg) (t : List Msg) (a : Int), (∀ g ∈ gs, 0 < sgLen ppqn g) → NonNegWaits t → TI t →
    (∀ (i : Nat) (g : Sg), gs[i]? = some g → ∀ e ∈ N a t, e.ty = .timeSignature → e.time < a + psum ppqn gs (i + 1) →
      a + psum ppqn gs i ≤ e.time → (e.num, e.den) = (g.1, g.2.1)) →
    ∃ x, trackRun ppqn values requant gs t = .ok x := by
  intro gs
  induction gs with
  | nil => intro t _ _ _ _ _; exact ⟨_, rfl⟩
  | cons g gs ih =>
    intro t a hpos hw hti hsig
    have hc := hpos g List.mem_cons_self
    obtain ⟨o, hts, hto, hsub⟩ := hTI g t a hc hw hti (fun e he hty hlt =>
      hsig 0 g rfl e he hty (by rw [psum_cons_succ, psum_zero]; omega)
        (by rw [psum_zero]; have := (eventsRelGo_bounds t a hw e (N_mem_eventsRelGo _ _ e he).1).1; omega))
    obtain ⟨x, hx⟩ := ih o.2.1 (a + sgLen ppqn g) (fun x hx => hpos x (List.mem_cons_of_mem _ hx))
      (trackStep_dur hts hc hw).1 hto (fun i g' hg' e he hty hlt hle =>
        hsig (i + 1) g' hg' e (hsub e he) hty (by rw [psum_cons_succ]; omega) (by rw [psum_cons_succ]; omega))
    exact ⟨_, trackRun_cons hts hx⟩

theorem sigInForce_self (q : List Msg) (hd : DistinctTicks q) (e : Msg) (he : e ∈ q) :
    C09.sigInForce q e.time = (e.num, e.den) := by
  obtain ⟨pre, post, rfl⟩ := List.append_of_mem he
  have h1 := List.pairwise_append.1 hd
  have hpre : ∀ a ∈ pre, a.time ≤ e.time := fun a ha => Int.le_of_lt (h1.2.2 a ha e List.mem_cons_self)
  have hpost : ∀ b ∈ post, e.time < b.time := (List.pairwise_cons.1 h1.2.1).1
  unfold C09.sigInForce
  rw [List.filter_append, List.filter_cons, filter_le_eq_self pre e.time hpre, filter_le_eq_nil post e.time hpost]
  simp

/-- **agreement**: every time-signature event of the track carries the signature that `sigs` puts in force at its
    tick (so a side track may repeat the meta track's signatures, anywhere inside the bars they govern) -/
def SigsAgree (sigs : List Msg) (t : List Msg) : Prop :=
  ∀ e ∈ eventsRel t, e.ty = .timeSignature → (e.num, e.den) = C09.sigInForce sigs e.time

instance (sigs t : List Msg) : Decidable (SigsAgree sigs t) := by unfold SigsAgree; infer_instance

theorem meta_agrees (metaTrack : List Msg) (hd : DistinctTicks (sigsOf metaTrack)) :
    SigsAgree (sigsOf metaTrack) metaTrack := by
  intro e he hts
  have : e ∈ sigsOf metaTrack := by
    simp only [timesOfType, List.mem_filter, beq_iff_eq]
    exact ⟨mem_toAbs.2 (Or.inl he), hts⟩
  exact (sigInForce_self _ hd e this).symm

theorem splitBars_ok (ppqn : Int) (values : List Int) (requant : Bool) (TI : List Msg → Prop)
    (hTI : ∀ (g : Sg) (t : List Msg) (A : Int), 0 < sgLen ppqn g → NonNegWaits t → TI t →
      (∀ e ∈ N A t, e.ty = .timeSignature → e.time < A + sgLen ppqn g → (e.num, e.den) = (g.1, g.2.1)) →
      ∃ o, trackStep ppqn values requant g t = .ok o ∧ TI o.2.1 ∧ ∀ e ∈ N (A + sgLen ppqn g) o.2.1, e ∈ N A t)
    (tracks : List (List Msg)) (metaIdx : Nat) (metaTrack : List Msg) (hm : tracks[metaIdx]? = some metaTrack)
    (hw : ∀ t ∈ tracks, NonNegWaits t) (hti : ∀ t ∈ tracks, TI t)
    (hpos : PosBars ppqn (sigsOf metaTrack))
    (hal : ∀ m ∈ sigsOf metaTrack, OnGrid ppqn (sigsOf metaTrack) m.time)
    (hd : DistinctTicks (sigsOf metaTrack))
    (hag : ∀ (i : Nat) (t : List Msg), tracks[i]? = some t → i ≠ metaIdx → SigsAgree (sigsOf metaTrack) t) :
    ∃ tb, splitBars ppqn values tracks metaIdx requant = .ok tb := by
  have hnn := hpos.nonneg
  rcases splitBars_cases ppqn values tracks metaIdx requant metaTrack hm with ⟨tb, _, h, _⟩ | ⟨_, r, _, t, ht, herr⟩ | ⟨hf, _⟩
  · exact ⟨tb, h⟩
  · -- no track raises: its time signatures are those the grid puts in force, bar by bar
    obtain ⟨x, hx⟩ := trackRun_ok ppqn values requant TI hTI (sched ppqn metaTrack (r + 1)) t 0
      (sched_pos ppqn metaTrack hpos hd hal _) (hw t ht) (hti t ht) (by
        intro i g hg e he hts hlt hle
        have hi : i < r + 1 := by have := lt_of_getElem?_some hg; rwa [sched_length] at this
        rw [psum_grid ppqn metaTrack hnn hd hal (r + 1) _ (by omega), Int.zero_add] at hlt hle
        rw [sched_sig ppqn metaTrack hnn hd hal (r + 1) i g hg,
          ← sigInForce_in_bar ppqn _ hnn hal i e.time hle hlt]
        have he' : e ∈ eventsRel t := (N_mem_eventsRelGo _ _ e he).1
        obtain ⟨n, hn, rfl⟩ := List.getElem_of_mem ht
        by_cases him : n = metaIdx
        · subst him
          have : tracks[n] = metaTrack := by
            rw [List.getElem?_eq_getElem hn] at hm
            exact Option.some.inj hm
          rw [this] at he'
          exact meta_agrees metaTrack hd e he' hts
        · exact hag n _ (List.getElem?_eq_getElem hn) him e he' hts)
    exact absurd (hx.symm.trans herr) (fun h => nomatch h)
  · exact absurd hf (splitBars_not_fuel ppqn values tracks metaIdx requant metaTrack hm
      (sched_pos ppqn metaTrack hpos hd hal _) hw)


/-! ## Re-quantisation on (audit item A6(b), the `quantise_note_lengths=True` case): the re-quantised piece is not longer
    than the piece, and carries the same time-signature values. -/

theorem lastTimeD_le (l : List Msg) : ∀ (cur T : Int), cur ≤ T → (∀ m ∈ l, m.time ≤ T) → lastTimeD cur l ≤ T := by
  induction l with
  | nil => intro cur T h _; simpa [lastTimeD] using h
  | cons m ms ih =>
    intro cur T _ h
    simp only [lastTimeD]
    exact ih m.time T (h m List.mem_cons_self) (fun x hx => h x (List.mem_cons_of_mem _ hx))

theorem requant_facts (values : List Int) (ppqn : Int) (first piece : List Msg) (hv : ∀ v ∈ values, 0 < v)
    (hw : NonNegWaits first) (hwf : WF first) (hz : NoZeroNotes first)
    (h : requantPiece values ppqn true first = .ok piece) :
    NonNegWaits piece ∧ durRel piece ≤ durRel first ∧
      ∀ m ∈ piece, m.ty = .timeSignature → ∃ m0 ∈ first, m0.ty = .timeSignature ∧ m0.num = m.num ∧ m0.den = m.den := by
  obtain ⟨out, hq, rfl, hmem, hsorted⟩ := requant_out values ppqn first piece hv hw h
  have hT := fun e he => (toAbs_bounds first hw e he).2.1
  have hnoteT : ∀ m ∈ out, (m.ty = .noteOn ∨ m.ty = .noteOff) → m.time ≤ totalWait first := by
    intro m hm hty
    obtain ⟨ps, ps', hn, hf, hs', hfl'⟩ := qnl_kview values ppqn first out hv hw hwf hz hq m.nkey
    have hmk : m ∈ out.filter (isKN m.nkey) := List.mem_filter.2 ⟨hm, isKN_iff_kev.2 ⟨rfl, hty⟩⟩
    rw [hfl'] at hmk
    obtain ⟨p', hp', hx⟩ := NotesBL.mem_unpair.1 hmk
    obtain ⟨p, hp, e1, e2⟩ := shrunk_mem (hs'.shrunk hv) p' hp'
    have hb : ∀ x ∈ flat ps, x.time ≤ totalWait first := by
      intro x hx
      rw [← hf] at hx
      have := (eventsRelGo_bounds first 0 hw x (List.mem_filter.1 hx).1).2
      omega
    rcases hx with rfl | rfl
    · rw [← e1]; exact hb _ (NotesBL.mem_unpair.2 ⟨p, hp, Or.inl rfl⟩)
    · have := hb _ (NotesBL.mem_unpair.2 ⟨p, hp, Or.inr rfl⟩); omega
  have hallT : ∀ m ∈ out, m.time ≤ totalWait first := by
    intro m hm
    by_cases hty : m.ty = .noteOn ∨ m.ty = .noteOff
    · exact hnoteT m hm hty
    · have : m ∈ nonNotes out := by
        simp only [nonNotes, List.mem_filter, Bool.and_eq_true, bne_iff_ne, ne_eq]
        exact ⟨hm, fun h => hty (Or.inl h), fun h => hty (Or.inr h)⟩
      have := (C06.others_same values ppqn true _ out hq).mem_iff.1 this
      exact hT m (List.mem_filter.1 this).1
  refine ⟨fun m hm => (toRelGo_ok out 0 (fun m hm => (hmem m hm).2) m hm).1, ?_, ?_⟩
  · have h1 := totalWait_toRelGo out 0 hsorted (fun m hm => (hmem m hm).1) (fun m hm => (hmem m hm).2)
    have h2 := lastTimeD_le out 0 (totalWait first) (totalWait_nonneg first hw) hallT
    unfold durRel toRel
    omega
  · intro m hm hts
    rcases mem_toRelGo out 0 m hm with ⟨_, _, _, rfl⟩ | ⟨m1, hm1, rfl⟩
    · cases hts
    · have hts1 : m1.ty = .timeSignature := hts
      have : m1 ∈ nonNotes out := by
        simp only [nonNotes, List.mem_filter, Bool.and_eq_true, bne_iff_ne, ne_eq]
        exact ⟨hm1, by rw [hts1]; simp, by rw [hts1]; simp⟩
      have := (C06.others_same values ppqn true _ out hq).mem_iff.1 this
      rcases mem_toAbs_cases (List.mem_filter.1 this).1 with hi | he
      · rw [hts1] at hi; cases hi
      · obtain ⟨m0, hm0, -, c', rfl⟩ := eventsRelGo_src first 0 m1 he
        exact ⟨m0, hm0, hts1, rfl, rfl⟩

theorem trackStep_ok_true (ppqn : Int) (values : List Int) (hv : ∀ v ∈ values, 0 < v) (g : Sg) (t : List Msg) (A : Int)
    (hc : 0 < sgLen ppqn g) (hw : NonNegWaits t) (hti : WF t ∧ NoZeroNotes t)
    (hsig : ∀ e ∈ N A t, e.ty = .timeSignature → e.time < A + sgLen ppqn g → (e.num, e.den) = (g.1, g.2.1)) :
    ∃ o, trackStep ppqn values true g t = .ok o ∧ (WF o.2.1 ∧ NoZeroNotes o.2.1) ∧
      ∀ e ∈ N (A + sgLen ppqn g) o.2.1, e ∈ N A t := by
  refine trackStep_ok ppqn values true (fun p => WF p ∧ NoZeroNotes p) ⟨wf_nil, noZero_nil⟩ g t A hc hw
    (fun pieces hs p hp => ?_) (fun first hfw hfi hfd hs => ?_) hsig
  · have h := split_one_notes t _ pieces hs hc hw hti.1 hti.2 p hp
    exact ⟨h.1, h.2.2⟩
  · obtain ⟨out, hout⟩ := C06.total values ppqn true (toAbs first)
    have hrq : requantPiece values ppqn true first = .ok (toRel out) := by
      simp [requantPiece, hout, bind, Except.bind]
    obtain ⟨hpn, hpd, hpts⟩ := requant_facts values ppqn first _ hv hfw hfi.1 hfi.2 hrq
    obtain ⟨b, hb⟩ := mkBar_accepts ppqn (toRel out) g.1 g.2.1 g.2.2 hpn (by unfold sgLen at hfd; omega) (by
      intro m hm hts
      obtain ⟨m0, hm0, hts0, hn0, hd0⟩ := hpts m hm hts
      rw [← hn0, ← hd0]
      exact hs m0 hm0 hts0)
    exact ⟨_, b, hrq, hb⟩


/-! ## The zero-length-bar branch of `sequences_split_bars` (audit item A6(b), DESIGN §4 C09 `split_bars_zero_len`).
    With a bar length of 0 the loop cannot make progress: a track that still has material either fails at once
    (`Bar capacity exceeded`) or is left *stuck* (`SplitL.Stuck`: nothing but deferrable events before a positive wait),
    and a stuck track fails in the next round.
-/

theorem mkBar_too_long_false {ppqn : Int} {q : List Msg} {n d key : Int} {b : Bar} (hw : NonNegWaits q)
    (hcap : barCapacity ppqn n d = 0) (hpos : 0 < durRel q) (h : mkBar ppqn q n d key = .ok b) : False := by
  have := (mkBar_ok h).1
  rw [normalise_totalWait q hw, hcap] at this
  unfold durRel at hpos
  omega

theorem cut_zero {t first rest : List Msg} {two : Bool} (h : Cut 0 t first rest two) (hw : NonNegWaits t)
    (hpos : 0 < durRel t) : (two = false ∧ NonNegWaits first ∧ durRel first = durRel t) ∨
      (¬ Stuck t ∧ two = true ∧ Stuck rest ∧ NonNegWaits rest ∧ durRel rest = durRel t) := by
  obtain ⟨pieces, hs, rfl, rfl, rfl⟩ := h
  obtain ⟨q, hqn, hqd, hqs, hq, hst⟩ := split_zero t pieces hs hw hpos
  rcases hq with rfl | ⟨p, rfl⟩
  · exact Or.inl ⟨rfl, hqn, hqd⟩
  · exact Or.inr ⟨fun hs' => by simpa using hst hs', rfl, hqs, hqn, hqd⟩

theorem trackStep_zero (ppqn : Int) (values : List Int) (g : Sg) (t : List Msg) (o : Bool × List Msg × Bar)
    (hlen : sgLen ppqn g = 0) (hw : NonNegWaits t) (hpos : 0 < durRel t)
    (h : trackStep ppqn values false g t = .ok o) :
    ¬ Stuck t ∧ o.1 = true ∧ Stuck o.2.1 ∧ NonNegWaits o.2.1 ∧ durRel o.2.1 = durRel t := by
  obtain ⟨first, piece, hcut, hrq, hmk⟩ := trackStep_iff.1 h
  rw [hlen] at hcut
  rw [requantPiece_false values ppqn _ piece hrq] at hmk
  rcases cut_zero hcut hw hpos with ⟨_, hfn, hfd⟩ | h2
  · -- one piece: it carries the whole duration and does not fit the bar
    exact (mkBar_too_long_false hfn hlen (by omega) hmk).elim
  · exact h2

theorem trackRun_zero_at (ppqn : Int) (values : List Int) : ∀ (k : Nat) (gs : List Sg) (t : List Msg) (tw : List Bool)
    (t' : List Msg) (nb : List Bar), trackRun ppqn values false gs t = .ok (tw, t', nb) → NonNegWaits t →
    (∀ j g, j < k → gs[j]? = some g → 0 < sgLen ppqn g) → (∀ g, gs[k]? = some g → sgLen ppqn g = 0) →
    (∀ j, j ≤ k → j ≤ gs.length → psum ppqn gs j < durRel t) →
    (∀ j b, j ≤ k → tw[j]? = some b → b = true) ∧
      ∀ g1, gs[k + 1]? = some g1 → sgLen ppqn g1 ≠ 0 := by
  intro k
  induction k with
  | zero =>
    intro gs t tw t' nb h hw _ h0 hd
    rcases gs with _ | ⟨g, gs⟩
    · cases h; exact ⟨fun j b _ hb => by simp at hb, fun _ hg1 => by simp at hg1⟩
    · have hd := hd 0 (Nat.le_refl 0) (Nat.zero_le _)
      rw [psum_zero] at hd
      obtain ⟨o, r, h1, h2, rfl, rfl, rfl⟩ := trackRun_cons_inv h
      obtain ⟨_, ho1, hos, hon, hod⟩ := trackStep_zero ppqn values _ t o (h0 g rfl) hw hd h1
      refine ⟨fun j b hj hb => ?_, fun g1 hg1 h10 => ?_⟩
      · obtain rfl := Nat.le_zero.1 hj
        simpa [ho1] using hb.symm
      · rcases gs with _ | ⟨g', gs⟩
        · cases hg1
        · cases hg1
          obtain ⟨o', r', h1', _⟩ := trackRun_cons_inv (tw := r.1) (t' := r.2.1) (nb := r.2.2) h2
          exact (trackStep_zero ppqn values _ o.2.1 o' h10 hon (by omega) h1').1 hos
  | succ k ih =>
    intro gs t tw t' nb h hw hpos h0 hd
    rcases gs with _ | ⟨g, gs⟩
    · cases h; exact ⟨fun j b _ hb => by simp at hb, fun _ hg1 => by simp at hg1⟩
    · obtain ⟨o, r, h1, h2, rfl, rfl, rfl⟩ := trackRun_cons_inv h
      have hc := hpos 0 g (Nat.succ_pos k) rfl
      have hd1 := hd 1 (by omega) (by simp)
      rw [psum_cons_succ, psum_zero] at hd1
      obtain ⟨hon, hcase⟩ := trackStep_dur h1 hc hw
      rcases hcase with ⟨_, _, hle⟩ | ⟨ho1, _, hod⟩
      · omega
      · obtain ⟨i1, i2⟩ := ih gs o.2.1 r.1 r.2.1 r.2.2 h2 hon (fun j g' hj hg' => hpos (j + 1) g' (by omega) hg')
          (fun g' hg' => h0 g' hg') (fun j hj hjl => by
            have := hd (j + 1) (by omega) (by simpa using hjl)
            rw [psum_cons_succ] at this
            omega)
        refine ⟨fun j b hj hb => ?_, fun g1 hg1 => i2 g1 (by simpa using hg1)⟩
        cases j with
        | zero => simpa [ho1] using hb.symm
        | succ j => exact i1 j b (by omega) (by simpa using hb)

theorem first_two_lookups (q : List Msg) (hd : DistinctTicks q) (hnn : ∀ m ∈ q, 0 ≤ m.time) :
    ((nextSig 0 4 4 q).1, (nextSig 0 4 4 q).2.1) = C09.sigInForce q 0 ∧
    (nextSig 0 (nextSig 0 4 4 q).1 (nextSig 0 4 4 q).2.1 (nextSig 0 4 4 q).2.2).1 = (nextSig 0 4 4 q).1 ∧
    (nextSig 0 (nextSig 0 4 4 q).1 (nextSig 0 4 4 q).2.1 (nextSig 0 4 4 q).2.2).2.1 = (nextSig 0 4 4 q).2.1 := by
  cases q with
  | nil => exact ⟨rfl, rfl, rfl⟩
  | cons m rest =>
    have hrest : ∀ x ∈ rest, m.time < x.time := (List.pairwise_cons.1 hd).1
    have hm0 := hnn m List.mem_cons_self
    by_cases hdue : m.time ≤ 0
    · have hq : nextSig 0 4 4 (m :: rest) = (m.num, m.den, rest) := by simp [nextSig, hdue]
      rw [hq]
      refine ⟨?_, ?_, ?_⟩
      · unfold C09.sigInForce
        rw [List.filter_cons, filter_le_eq_nil rest 0 (fun x hx => by have := hrest x hx; omega)]
        simp [hdue]
      all_goals
        cases rest with
        | nil => rfl
        | cons r rt =>
          have := hrest r List.mem_cons_self
          have hnd : ¬ r.time ≤ 0 := by omega
          simp [nextSig, hnd]
    · have hq : nextSig 0 4 4 (m :: rest) = (4, 4, m :: rest) := by simp [nextSig, hdue]
      rw [hq]
      refine ⟨?_, ?_, ?_⟩
      · unfold C09.sigInForce
        rw [filter_le_eq_nil (m :: rest) 0 (by
          intro x hx
          rcases List.mem_cons.1 hx with rfl | hx
          · omega
          · have := hrest x hx; omega)]
        rfl
      all_goals simp [nextSig, hdue]

theorem initTs_distinct_nonneg (metaTrack : List Msg) (hw : NonNegWaits metaTrack) (hd : DistinctTicks (sigsOf metaTrack)) :
    DistinctTicks (initTs metaTrack) ∧ ∀ m ∈ initTs metaTrack, 0 ≤ m.time :=
  initTs_ind metaTrack (fun q => DistinctTicks q ∧ ∀ m ∈ q, 0 ≤ m.time)
    (fun _ => ⟨by simp [DistinctTicks], List.forall_mem_singleton.2 (by simp [Msg.mkTimeSig])⟩)
    ⟨hd, fun m hm => (toAbs_bounds metaTrack hw m (List.mem_filter.1 hm).1).1⟩

theorem sched_first_two (ppqn : Int) (metaTrack : List Msg) (hw : NonNegWaits metaTrack)
    (hd : DistinctTicks (sigsOf metaTrack)) (n : Nat) :
    ∃ g0, (sched ppqn metaTrack (n + 1))[0]? = some g0 ∧ (g0.1, g0.2.1) = C09.sigInForce (sigsOf metaTrack) 0 ∧
      (sgLen ppqn g0 = 0 → ∀ g1, (sched ppqn metaTrack (n + 1))[1]? = some g1 → sgLen ppqn g1 = 0) := by
  obtain ⟨hd', hnn'⟩ := initTs_distinct_nonneg metaTrack hw hd
  obtain ⟨e1, e2, e3⟩ := first_two_lookups (initTs metaTrack) hd' hnn'
  rw [sigInForce_initTs] at e1
  refine ⟨_, rfl, e1, fun h0 g1 hg1 => ?_⟩
  cases n with
  | zero => cases hg1
  | succ n =>
    simp only [sched, ctl, List.getElem?_cons_succ, List.getElem?_cons_zero, Option.some.injEq] at hg1 h0
    rw [h0, Int.zero_add] at hg1
    rw [← hg1]
    simp only [sgLen, e2, e3]
    exact h0

theorem exists_least (P : Nat → Prop) : ∀ k, P k → ∃ k', k' ≤ k ∧ P k' ∧ ∀ j, j < k' → ¬ P j := by
  intro k
  induction k using Nat.strongRecOn with
  | ind k ih =>
    intro h
    by_cases hex : ∃ j, j < k ∧ P j
    · obtain ⟨j, hj, hp⟩ := hex
      obtain ⟨k', h1, h2, h3⟩ := ih j hj hp
      exact ⟨k', by omega, h2, h3⟩
    · exact ⟨k, Nat.le_refl _, h, fun j hj hp => hex ⟨j, hj, hp⟩⟩

theorem trackRun_zero_grid (ppqn : Int) (values : List Int) (metaTrack : List Msg)
    (hnn : NonNegBars ppqn (sigsOf metaTrack)) (hd : DistinctTicks (sigsOf metaTrack))
    (hal : ∀ m ∈ sigsOf metaTrack, OnGrid ppqn (sigsOf metaTrack) m.time) (k : Nat)
    (hk0 : barCapacity ppqn (C09.sigInForce (sigsOf metaTrack) (gridStart ppqn (sigsOf metaTrack) k)).1
      (C09.sigInForce (sigsOf metaTrack) (gridStart ppqn (sigsOf metaTrack) k)).2 = 0)
    (hkpos : ∀ j, j < k → 0 < barCapacity ppqn (C09.sigInForce (sigsOf metaTrack) (gridStart ppqn (sigsOf metaTrack) j)).1
      (C09.sigInForce (sigsOf metaTrack) (gridStart ppqn (sigsOf metaTrack) j)).2)
    (t : List Msg) (hw : NonNegWaits t) (hlt : gridStart ppqn (sigsOf metaTrack) k < durRel t)
    (m : Nat) (tw : List Bool) (t' : List Msg) (nb : List Bar)
    (hrun : trackRun ppqn values false (sched ppqn metaTrack (m + 1)) t = .ok (tw, t', nb)) :
    ((m : Int) + 1 ≤ durRel t) ∧ tw[m]? = some true := by
  have hlen : ∀ (n i : Nat) (g : Sg), (sched ppqn metaTrack n)[i]? = some g → sgLen ppqn g =
      barCapacity ppqn (C09.sigInForce (sigsOf metaTrack) (gridStart ppqn (sigsOf metaTrack) i)).1
        (C09.sigInForce (sigsOf metaTrack) (gridStart ppqn (sigsOf metaTrack) i)).2 :=
    fun n i g hg => sgLen_of_sig (sched_sig ppqn metaTrack hnn hd hal n i g hg)
  have hpos : ∀ (n i : Nat) (g : Sg), i < k → (sched ppqn metaTrack n)[i]? = some g → 0 < sgLen ppqn g :=
    fun n i g hi hg => by rw [hlen n i g hg]; exact hkpos i hi
  have hk : (k : Int) ≤ gridStart ppqn (sigsOf metaTrack) k := by
    rw [← psum_grid ppqn metaTrack hnn hd hal k k (Nat.le_refl _)]
    refine psum_ge ppqn _ (fun g hg => ?_) k (by rw [sched_length]; exact Nat.le_refl _)
    obtain ⟨i, hi, rfl⟩ := List.getElem_of_mem hg
    exact hpos k i _ (by rwa [sched_length] at hi) (List.getElem?_eq_getElem hi)
  obtain ⟨h1, h2⟩ := trackRun_zero_at ppqn values k _ t tw t' nb hrun hw (hpos _)
    (fun g hg => (hlen _ _ g hg).trans hk0) (fun j hj hjl => by
      rw [sched_length] at hjl
      have := gridStart_mono ppqn _ hnn j k hj
      rw [psum_grid ppqn metaTrack hnn hd hal (m + 1) j hjl]
      omega)
  have hm1 : m < tw.length := by
    rw [(trackRun_shape ppqn values false _ _ _ _ _ hrun).1, sched_length]; exact Nat.lt_succ_self m
  rcases Nat.lt_or_ge k m with hkm | hmk
  · -- a round after bar `k`: the next bar starts where bar `k` does and has length 0 as well
    have hk1 : k + 1 < (sched ppqn metaTrack (m + 1)).length := by rw [sched_length]; omega
    refine absurd ?_ (h2 _ (List.getElem?_eq_getElem hk1))
    rw [hlen _ _ _ (List.getElem?_eq_getElem hk1), gridStart_succ, hk0, Int.add_zero]
    exact hk0
  · exact ⟨by omega, by rw [List.getElem?_eq_getElem hm1, h1 m _ hmk (List.getElem?_eq_getElem hm1)]⟩

end SCoda.Strong589LB
