/-
  What `parse_mido_message` (Model/MidiParse.lean) keeps of a mido message, that a parsed track is parsed message
  by message, and that the name the saver writes for a key is mapped back to that key (`key_round_trip`).
-/
import SCoda.Model.MidiParse
namespace SCoda.MidiParseL
open SCoda

theorem lookup_mem {α β} [BEq α] [LawfulBEq α] (l : List (α × β)) (a : α) (b : β) (h : l.lookup a = some b) :
    (a, b) ∈ l := by
  obtain ⟨l₁, l₂, rfl, -⟩ := List.lookup_eq_some_iff.1 h
  exact List.mem_append_right _ List.mem_cons_self

theorem key_round_trip :
    ∀ i : Nat, i < 15 → (Gen.keyValues[i]?).bind (fun nm => Gen.keyKeyMapping.lookup nm) = some (i : Int) := by
  decide +kernel

theorem keyName_lookup (k : Int) (h0 : 0 ≤ k) (h1 : k < 15) :
    ∃ nm, keyName k = some nm ∧ Gen.keyKeyMapping.lookup nm = some k := by
  have hlt : k.toNat < 15 := by omega
  have hrt := key_round_trip k.toNat hlt
  have hkk : ((k.toNat : Nat) : Int) = k := by omega
  cases hv : Gen.keyValues[k.toNat]? with
  | none => rw [hv] at hrt; simp at hrt
  | some nm =>
    rw [hv] at hrt
    simp only [Option.bind_some] at hrt
    rw [hkk] at hrt
    exact ⟨nm, by simp [keyName, h0, hv], hrt⟩

theorem parseMido_ok (m : MidoMsg) (e : MidiEv) (h : parseMido m = .ok e) :
    e.time = m.time ∧ (m.channel = none → e.ch = pyNone)
    ∧ (e.ty = .timeSignature → m.type = .timeSignature ∧ e.num = m.numerator ∧ e.den = m.denominator)
    ∧ (e.ty = .keySignature → m.type = .keySignature ∧ Gen.keyKeyMapping.lookup m.key = some e.key) := by
  unfold parseMido at h
  cases hty : m.type <;>
    simp only [hty, reduceCtorEq, false_and, true_and, or_false, or_true, if_false, if_true] at h
  case noteOn =>
    split at h
    · cases h; exact ⟨rfl, fun hc => by rw [hc], by simp, by simp⟩
    · split at h <;> (cases h; exact ⟨rfl, fun hc => by rw [hc], by simp, by simp⟩)
  case keySignature =>
    split at h
    · rename_i k hk; cases h; exact ⟨rfl, fun hc => by rw [hc], by simp, by simp [hk]⟩
    · cases h
  all_goals (cases h; exact ⟨rfl, fun hc => by rw [hc], by simp, by simp⟩)

theorem parseTrack_mem (ms : List MidoMsg) :
    ∀ evs, parseTrack ms = .ok evs → ∀ e ∈ evs, ∃ m ∈ ms, parseMido m = .ok e := by
  induction ms with
  | nil =>
    intro evs h e he
    simp only [parseTrack, Except.ok.injEq] at h
    subst h; simp at he
  | cons m ms ih =>
    intro evs h e he
    simp only [parseTrack] at h
    split at h
    · simp at h
    · rename_i e0 he0
      split at h
      · simp at h
      · rename_i es hes
        simp only [Except.ok.injEq] at h
        subst h
        rcases List.mem_cons.1 he with rfl | he
        · exact ⟨m, List.mem_cons_self, he0⟩
        · obtain ⟨m', hm', h'⟩ := ih es hes e he
          exact ⟨m', List.mem_cons_of_mem _ hm', h'⟩

theorem parse_time (ms : List MidoMsg) : ∀ evs, parseTrack ms = .ok evs → ∀ e ∈ evs, ∃ m ∈ ms, e.time = m.time := by
  intro evs h e he
  obtain ⟨m, hm, hp⟩ := parseTrack_mem ms evs h e he
  exact ⟨m, hm, (parseMido_ok m e hp).1⟩

end SCoda.MidiParseL
