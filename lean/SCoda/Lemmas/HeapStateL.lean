/-
  The states of the heap the identity-level tie speaks of, for the functions of `Model/HeapOps.lean` alone (no translated code here):
  how the primitives of `Heap` compose (a store after a store or after the allocation of the same cell; what a cell reads after it);
  `Ext h h'` (nothing that existed was written) and the decidable conditions under which a translated route runs like its model —
  `IdsOk`, `ViewOk`, `SeqCopyOk`, `BarOk`, `TrkOk` — with their transport along `Ext`; when `self.rel` is a plain read (`RelLive`,
  `SeqLive`, and `Settled`: relative view current, absolute view stale, the state every call after the first finds inside the
  constructors of `Bar` and `Track`), with `barBody_eq`, the body of `Bar.__init__` in that form; and the copies of bars, tracks and
  compositions whose relative views are not stale, which write nothing that existed (`*_spec_fresh`, `*_spec_ok`); last, the heap and
  the references `buildIds` leaves, whatever its source list.
  (Namespace `SCoda.HeapTieL`, shared with Lemmas/HeapFrameL.lean and Lemmas/HeapTieL.lean, whose statements these conditions serve.)
-/
import SCoda.Lemmas.HeapOpsL
import SCoda.Lemmas.HeapFrameL
namespace SCoda.HeapTieL
open SCoda SCoda.HeapOps

@[simp] theorem msg_setMsg (h : Heap) (i : Nat) (m : Msg) : (h.setMsg i m).msg i = m := by simp [Heap.setMsg]

@[simp] theorem setMsg_setMsg (h : Heap) (i : Nat) (m m' : Msg) : (h.setMsg i m).setMsg i m' = h.setMsg i m' := by
  simp only [Heap.setMsg]; congr 1; funext j; split <;> rfl

@[simp] theorem setMsg_newMsg (h : Heap) (m m' : Msg) : (h.newMsg m).1.setMsg h.nMsg m' = (h.newMsg m').1 := by
  simp only [Heap.setMsg, Heap.newMsg]; congr 1; funext j; split <;> rfl

@[simp] theorem newMsg_snd (h : Heap) (m : Msg) : (h.newMsg m).2 = h.nMsg := rfl

theorem setMsg_self (h : Heap) (i : Nat) : h.setMsg i (h.msg i) = h := by
  cases h; simp only [Heap.setMsg]; congr 1; funext j; split <;> simp_all

@[simp] theorem lst_setLst (h : Heap) (i : Nat) (l : List Nat) : (h.setLst i l).lst i = l := by simp [Heap.setLst]

@[simp] theorem setLst_setLst (h : Heap) (i : Nat) (l l' : List Nat) : (h.setLst i l).setLst i l' = h.setLst i l' := by
  simp only [Heap.setLst]; congr 1; funext j; split <;> rfl

@[simp] theorem setLst_newLst (h : Heap) (l l' : List Nat) : (h.newLst l).1.setLst h.nLst l' = (h.newLst l').1 := by
  simp only [Heap.setLst, Heap.newLst]; congr 1; funext j; split <;> rfl

@[simp] theorem newLst_snd (h : Heap) (l : List Nat) : (h.newLst l).2 = h.nLst := rfl

@[simp] theorem lst_newLst (h : Heap) (l : List Nat) : (h.newLst l).1.lst h.nLst = l := by simp [Heap.newLst]

@[simp] theorem seq_setSeq (h : Heap) (i : Nat) (c : SeqCell) : (h.setSeq i c).seq i = c := by simp [Heap.setSeq]

@[simp] theorem setSeq_setSeq (h : Heap) (i : Nat) (c c' : SeqCell) : (h.setSeq i c).setSeq i c' = h.setSeq i c' := by
  simp only [Heap.setSeq]; congr 1; funext j; split <;> rfl

@[simp] theorem setSeq_newSeq (h : Heap) (c c' : SeqCell) : (h.newSeq c).1.setSeq h.nSeq c' = (h.newSeq c').1 := by
  simp only [Heap.setSeq, Heap.newSeq]; congr 1; funext j; split <;> rfl

@[simp] theorem seq_newSeq (h : Heap) (c : SeqCell) : (h.newSeq c).1.seq h.nSeq = c := by simp [Heap.newSeq]

theorem setSeq_self (h : Heap) (i : Nat) : h.setSeq i (h.seq i) = h := by
  cases h; simp only [Heap.setSeq]; congr 1; funext j; split <;> simp_all

theorem seqInit_snd (a r : Option Nat) (h : Heap) : (seqInit h a r).2 = h.nSeq := by
  cases a <;> cases r <;> simp [seqInit, Heap.newSeq, Heap.newLst]

@[simp] theorem setBar_newBar (h : Heap) (c c' : BarCell) : (h.newBar c).1.setBar h.nBar c' = (h.newBar c').1 := by
  simp only [Heap.setBar, Heap.newBar]; congr 1; funext j; split <;> rfl

@[simp] theorem bar_newBar (h : Heap) (c : BarCell) : (h.newBar c).1.bar h.nBar = c := by simp [Heap.newBar]

@[simp] theorem newBar_snd (h : Heap) (c : BarCell) : (h.newBar c).2 = h.nBar := rfl

@[simp] theorem setTrk_newTrk (h : Heap) (c c' : TrkCell) : (h.newTrk c).1.setTrk h.nTrk c' = (h.newTrk c').1 := by
  simp only [Heap.setTrk, Heap.newTrk]; congr 1; funext j; split <;> rfl

@[simp] theorem trk_newTrk (h : Heap) (c : TrkCell) : (h.newTrk c).1.trk h.nTrk = c := by simp [Heap.newTrk]

@[simp] theorem newTrk_snd (h : Heap) (c : TrkCell) : (h.newTrk c).2 = h.nTrk := rfl

theorem setTrk_self (h : Heap) (i : Nat) : h.setTrk i (h.trk i) = h := by
  cases h; simp only [Heap.setTrk]; congr 1; funext j; split <;> simp_all

@[simp] theorem newCmp_snd (h : Heap) (ts : List Nat) : (h.newCmp ts).2 = h.nCmp := rfl

/-- `h'` extends `h`: nothing is de-allocated, every allocated cell has the content it had — `HeapL.Pres (Fresh h) h h'` written out
    (`Ext.of_spec` is the bridge from the region calculus) -/
def Ext (h h' : Heap) : Prop := (∀ k, h.next k ≤ h'.next k) ∧ ∀ c, h.alloc c → h'.get c = h.get c

theorem Ext.refl (h : Heap) : Ext h h := ⟨fun _ => Nat.le_refl _, fun _ _ => rfl⟩

theorem Ext.trans {h h1 h2 : Heap} (a : Ext h h1) (b : Ext h1 h2) : Ext h h2 :=
  ⟨fun k => Nat.le_trans (a.1 k) (b.1 k), fun c hc => by rw [b.2 c (HeapL.alloc_mono a.1 hc), a.2 c hc]⟩

theorem Ext.of_spec {h h' : Heap} (sp : HeapL.Spec (HeapL.Fresh h) h h') : Ext h h' :=
  ⟨sp.pres.le, HeapL.Spec.same_alloc sp⟩

theorem Ext.msg {h h' : Heap} (e : Ext h h') {i : Nat} (hi : i < h.nMsg) : h'.msg i = h.msg i :=
  Val.msg.inj (e.2 (.msg, i) hi)

theorem Ext.lst {h h' : Heap} (e : Ext h h') {i : Nat} (hi : i < h.nLst) : h'.lst i = h.lst i :=
  Val.lst.inj (e.2 (.lst, i) hi)

theorem Ext.seq {h h' : Heap} (e : Ext h h') {i : Nat} (hi : i < h.nSeq) : h'.seq i = h.seq i :=
  Val.seq.inj (e.2 (.seq, i) hi)

theorem Ext.bar {h h' : Heap} (e : Ext h h') {i : Nat} (hi : i < h.nBar) : h'.bar i = h.bar i :=
  Val.bar.inj (e.2 (.bar, i) hi)

theorem Ext.trk {h h' : Heap} (e : Ext h h') {i : Nat} (hi : i < h.nTrk) : h'.trk i = h.trk i :=
  Val.trk.inj (e.2 (.trk, i) hi)

theorem Ext.upd {h0 h h' : Heap} {c : Cell} {v : Val} (e : Ext h0 h) (u : HeapL.Upd h h' c v) (hc : ¬ h0.alloc c) : Ext h0 h' :=
  ⟨fun k => Nat.le_trans (e.1 k) (u.le k), fun c' hc' => (u.get c' fun e' => hc (e' ▸ hc')).trans (e.2 c' hc')⟩

theorem Ext.newMsg {h0 h : Heap} (e : Ext h0 h) (m : Msg) : Ext h0 (h.newMsg m).1 :=
  Ext.upd e (HeapL.upd_newMsg h m) (Nat.not_lt.2 (e.1 .msg))

theorem Ext.newLst {h0 h : Heap} (e : Ext h0 h) (ids : List Nat) : Ext h0 (h.newLst ids).1 :=
  Ext.upd e (HeapL.upd_newLst h ids) (Nat.not_lt.2 (e.1 .lst))

theorem Ext.setLst {h0 h : Heap} (e : Ext h0 h) {p : Nat} (hp : h0.nLst ≤ p) (ids : List Nat) : Ext h0 (h.setLst p ids) :=
  Ext.upd e (HeapL.upd_setLst h p ids) (Nat.not_lt.2 hp)

theorem receiver_of_ext {h h' : Heap} (he : Ext h h') {l : Nat} (hl : l < h.nLst) (hm : ∀ i ∈ h.lst l, i < h.nMsg) :
    h'.lst l = h.lst l ∧ h'.viewVals l = h.viewVals l :=
  ⟨he.lst hl, HeapL.viewVals_congr (he.2 _ hl) fun i hi => he.2 _ (hm i hi)⟩

def RelLive (h : Heap) (s l : Nat) : Prop := (h.seq s).relStale = false ∧ (h.seq s).rel = some l

/-- `self.rel` succeeds: the relative view is live, or it is stale and the absolute view is live -/
def SeqLive (h : Heap) (s : Nat) : Prop :=
  ((h.seq s).relStale = false ∧ (h.seq s).rel.isSome)
    ∨ ((h.seq s).relStale = true ∧ (h.seq s).absStale = false ∧ (h.seq s).abs.isSome)

theorem getRel_of_fresh (o : Orc) {h : Heap} {s : Nat} (hf : (h.seq s).relStale = false) : getRel o h s = (h, (h.seq s).rel) := by
  simp [getRel, hf]

theorem getRel_of_live {o : Orc} {h : Heap} {s l : Nat} (hl : RelLive h s l) : getRel o h s = (h, some l) := by
  rw [getRel_of_fresh o hl.1, hl.2]

theorem getRel_some_of_seqLive (o : Orc) {h : Heap} {s : Nat} (hl : SeqLive h s) :
    ∃ l, (getRel o h s).2 = some l ∧ RelLive (getRel o h s).1 s l := by
  rcases hl with ⟨h1, h2⟩ | ⟨h1, h2, h3⟩
  · obtain ⟨l, hl⟩ := Option.isSome_iff_exists.mp h2
    exact ⟨l, by simp [getRel, h1, hl], by simp [getRel, h1, hl, RelLive]⟩
  · obtain ⟨a, ha⟩ := Option.isSome_iff_exists.mp h3
    exact ⟨(convView o.toRel h a).2, by simp [getRel, h1, h2, ha], by simp [getRel, h1, h2, ha, RelLive]⟩

theorem RelLive.seqLive {h : Heap} {s l : Nat} (hl : RelLive h s l) : SeqLive h s :=
  Or.inl ⟨hl.1, by rw [hl.2]; rfl⟩

theorem withRel_of_live {o : Orc} {h : Heap} {s l : Nat} (hl : RelLive h s l) (f : Heap → Nat → Heap) :
    withRel o h s f = invalidateAbs (f h l) s := by
  simp [withRel, getRel_of_live hl]

theorem invalidateAbs_idem (h : Heap) (s : Nat) : invalidateAbs (invalidateAbs h s) s = invalidateAbs h s := by
  simp [invalidateAbs]

theorem invalidateAbs_of_stale {h : Heap} {s : Nat} (hs : (h.seq s).absStale = true) : invalidateAbs h s = h := by
  unfold invalidateAbs
  have : { h.seq s with absStale := true } = h.seq s := by
    cases hc : h.seq s; simp_all
  rw [this, setSeq_self]

@[simp] theorem invalidateAbs_absStale (h : Heap) (s : Nat) : ((invalidateAbs h s).seq s).absStale = true := by
  simp [invalidateAbs]

theorem relLive_invalidateAbs {h : Heap} {s l : Nat} (hl : RelLive h s l) : RelLive (invalidateAbs h s) s l := by
  simp [RelLive, invalidateAbs, hl.1, hl.2]

theorem relLive_viewLevel {f : Heap → Nat → Heap} (hf : ViewLevel f) {h : Heap} {s l : Nat} (hl : RelLive h s l) (l' : Nat) :
    RelLive (f h l') s l := by
  simp [RelLive, hf.seq h l', hl.1, hl.2]

theorem relLive_newMsg {h : Heap} {s l : Nat} (hl : RelLive h s l) (m : Msg) : RelLive (h.newMsg m).1 s l := hl

theorem relLive_withRel (o : Orc) {h : Heap} {s l : Nat} (hl : RelLive h s l) {f : Heap → Nat → Heap} (hf : ViewLevel f) :
    RelLive (withRel o h s f) s l := by
  rw [withRel_of_live hl]
  exact relLive_invalidateAbs (relLive_viewLevel hf hl l)

theorem relLive_getRel (o : Orc) {h : Heap} {s l : Nat} (hl : RelLive h s l) (a : Nat) : RelLive (getRel o h a).1 s l := by
  by_cases hne : s = a
  · subst hne; rw [getRel_of_live hl]; exact hl
  · unfold RelLive; rw [getRel_seq_other o h hne]; exact hl

theorem relLive_getRels (o : Orc) : ∀ (ss : List Nat) (h : Heap) {s l : Nat}, RelLive h s l → RelLive (getRels o h ss).1 s l := by
  intro ss
  induction ss with
  | nil => intro h s l hl; exact hl
  | cons a ss ih =>
    intro h s l hl
    simp only [getRels]
    split
    · exact relLive_getRel o hl a
    · exact ih _ (relLive_getRel o hl a)

theorem seqLive_getRel (o : Orc) {h : Heap} {s s' : Nat} (hs : SeqLive h s) (hs' : SeqLive h s') :
    SeqLive (getRel o h s).1 s' := by
  by_cases hne : s' = s
  · subst hne
    obtain ⟨l, _, hl⟩ := getRel_some_of_seqLive o hs
    exact hl.seqLive
  · unfold SeqLive
    rw [getRel_seq_other o h hne]
    exact hs'

theorem seqInit_seq_lt (h : Heap) (a r : Option Nat) {s : Nat} (hs : s < h.nSeq) : (seqInit h a r).1.seq s = h.seq s := by
  have : s ≠ h.nSeq := by omega
  cases a <;> cases r <;> simp [seqInit, Heap.newSeq, Heap.newLst, this]

theorem seqLive_new (h : Heap) : SeqLive (seqInit h none none).1 h.nSeq := by
  simp [SeqLive, seqInit, Heap.newSeq, Heap.newLst]

theorem seqLive_barSeqs {h : Heap} {bars : List Nat} (hb : ∀ b ∈ bars, (h.bar b).seq < h.nSeq ∧ SeqLive h (h.bar b).seq) :
    ∀ a ∈ bars.map (fun b => ((seqInit h none none).1.bar b).seq), SeqLive (seqInit h none none).1 a := by
  intro a ha
  obtain ⟨b, hbm, rfl⟩ := List.mem_map.mp ha
  have := hb b hbm
  simp only [seqInit_bar]
  unfold SeqLive
  rw [seqInit_seq_lt h none none this.1]
  exact this.2

/-- the state in which every wrapper method after the first finds the sequence it works on: the relative view `l` is
    there and current, the absolute view is stale.  Then `self.rel` is a plain read and `invalidate_abs()` writes nothing. -/
def Settled (c : SeqCell) (l : Nat) : Prop := c.relStale = false ∧ c.rel = some l ∧ c.absStale = true

section settled
variable {h : Heap} {s l : Nat}

theorem Settled.rel {c : SeqCell} {l : Nat} (hs : Settled c l) : c.rel = some l := hs.2.1
theorem Settled.absStale {c : SeqCell} {l : Nat} (hs : Settled c l) : c.absStale = true := hs.2.2

theorem Settled.live (hs : Settled (h.seq s) l) : RelLive h s l := ⟨hs.1, hs.rel⟩

theorem settled_invalidateAbs (hl : RelLive h s l) : Settled ((invalidateAbs h s).seq s) l :=
  ⟨(relLive_invalidateAbs hl).1, (relLive_invalidateAbs hl).2, invalidateAbs_absStale h s⟩

theorem getRels_some_of_seqLive (o : Orc) : ∀ (ss : List Nat) (h : Heap), (∀ s ∈ ss, SeqLive h s) →
    ∃ ls, (getRels o h ss).2 = some ls := by
  intro ss
  induction ss with
  | nil => intro h _; exact ⟨[], rfl⟩
  | cons s ss ih =>
    intro h hl
    have hs := hl s (by simp)
    obtain ⟨l, hg, _⟩ := getRel_some_of_seqLive o hs
    obtain ⟨ls, hls⟩ := ih _ (fun s' hs' => seqLive_getRel o hs (hl s' (by simp [hs'])))
    exact ⟨l :: ls, by simp [getRels, hg, hls]⟩

theorem concatenate_settles (o : Orc) {h : Heap} {s : Nat} {args : List Nat} (hs : SeqLive h s) (ha : ∀ a ∈ args, SeqLive h a) :
    ∃ l, Settled ((concatenate o h s args).seq s) l := by
  obtain ⟨l, hg, hl⟩ := getRel_some_of_seqLive o hs
  obtain ⟨ls, hls⟩ := getRels_some_of_seqLive o args _ (fun a ha' => seqLive_getRel o hs (ha a ha'))
  refine ⟨l, ?_⟩
  unfold concatenate
  simp only [hg, hls]
  apply settled_invalidateAbs
  unfold RelLive
  rw [extendView_seq]
  exact relLive_getRels o args _ hl

theorem settled_overwriteRel (h : Heap) (s : Nat) (ids : List Nat) : Settled ((overwriteRel h s ids).seq s) h.nLst := by
  simp [Settled, overwriteRel]

theorem getRel_settled (o : Orc) (hs : Settled (h.seq s) l) : getRel o h s = (h, some l) := getRel_of_live hs.live

theorem invalidateAbs_settled (hs : Settled (h.seq s) l) : invalidateAbs h s = h := invalidateAbs_of_stale hs.absStale

theorem withRel_settled (o : Orc) (hs : Settled (h.seq s) l) (f : Heap → Nat → Heap) (hf : (f h l).seq = h.seq) :
    withRel o h s f = f h l := by
  rw [withRel_of_live hs.live, invalidateAbs_of_stale (by rw [hf]; exact hs.absStale)]

theorem iterRel_settled (o : Orc) (hs : Settled (h.seq s) l) : iterRel o h s = h := withRel_settled o hs _ rfl

theorem withRel_settles (o : Orc) (hl : SeqLive h s) {f : Heap → Nat → Heap} (hf : ViewLevel f) :
    ∃ l, (getRel o h s).2 = some l ∧ Settled ((withRel o h s f).seq s) l := by
  obtain ⟨l, hg, live⟩ := getRel_some_of_seqLive o hl
  refine ⟨l, hg, ?_⟩
  have e : withRel o h s f = invalidateAbs (f (getRel o h s).1 l) s := by simp [withRel, hg]
  rw [e]
  exact settled_invalidateAbs (relLive_viewLevel hf live l)

end settled

theorem barBody_eq (o : Orc) (tag : Nat) {h : Heap} {s : Nat} (num den : Int) (hl : SeqLive h s) :
    ∃ l, (getRel o h s).2 = some l ∧ Settled ((normalise o tag h s).seq s) l
      ∧ barBody o tag h s num den
          = barFinish o (mix tag 2) (padView (o.barPadMsg (mix tag 1)) (normalise o tag h s) l) s l num den := by
  obtain ⟨l, hg, hs⟩ := withRel_settles o hl (viewLevel_rebuild (o.plan tag))
  change Settled ((normalise o tag h s).seq s) l at hs
  have hp := (viewLevel_pad (o.barPadMsg (mix tag 1)) (normalise o tag h s) l).1
  have hs3 : Settled ((padView (o.barPadMsg (mix tag 1)) (normalise o tag h s) l).seq s) l := by rw [hp]; exact hs
  refine ⟨l, hg, hs, ?_⟩
  unfold barBody
  simp only [iterRel_settled o hs, withRel_settled o hs _ hp, iterRel_settled o hs3, getRel_settled o hs3]

theorem barFinish_settled (o : Orc) (tag : Nat) (h : Heap) (s l : Nat) (num den : Int) :
    Settled ((barFinish o tag h s l num den).seq s) h.nLst := by
  unfold barFinish addRel
  exact settled_invalidateAbs (relLive_withRel o (relLive_newMsg (settled_overwriteRel _ s _).live _) (viewLevel_insert _ _))

theorem barBody_live (o : Orc) (tag : Nat) {h : Heap} {s : Nat} (num den : Int) (hs : SeqLive h s) :
    SeqLive (barBody o tag h s num den) s := by
  obtain ⟨l, _, _, e⟩ := barBody_eq o tag num den hs
  rw [e]
  exact (barFinish_settled ..).live.seqLive

def IdsOk (h : Heap) (ids : List Nat) : Prop := ∀ x ∈ ids, x < h.nMsg ∧ (h.msg x).ch ≠ pyNone

def ViewOk (h : Heap) (l : Nat) : Prop := l < h.nLst ∧ IdsOk h (h.lst l)

theorem ViewOk.ext {h h' : Heap} (e : Ext h h') {l : Nat} (v : ViewOk h l) : ViewOk h' l := by
  refine ⟨Nat.lt_of_lt_of_le v.1 (e.1 .lst), ?_⟩
  rw [e.lst v.1]
  intro x hx
  have := v.2 x hx
  exact ⟨Nat.lt_of_lt_of_le this.1 (e.1 .msg), by rw [e.msg this.1]; exact this.2⟩

/-- the hypothesis of the copy route on a `Sequence`: a view that is not stale exists (the flag protocol
    `Sequence.__init__` establishes; otherwise `.copy()` is called on `None`), its messages exist (no dangling
    identity) and have a channel (`Message.__init__` gives a copy of a message without channel the channel 0) -/
def SeqCopyOk (h : Heap) (s : Nat) : Prop :=
  ((h.seq s).absStale = false → ∃ a, (h.seq s).abs = some a ∧ ViewOk h a)
    ∧ ((h.seq s).relStale = false → ∃ r, (h.seq s).rel = some r ∧ ViewOk h r)

theorem SeqCopyOk.ext {h h' : Heap} (e : Ext h h') {s : Nat} (hs : s < h.nSeq) (hok : SeqCopyOk h s) : SeqCopyOk h' s := by
  unfold SeqCopyOk
  rw [e.seq hs]
  exact ⟨fun hf => let ⟨a, ha, va⟩ := hok.1 hf; ⟨a, ha, va.ext e⟩, fun hf => let ⟨r, hr, vr⟩ := hok.2 hf; ⟨r, hr, vr.ext e⟩⟩

/-- the copy of a sequence whose non-stale views exist can be read through `rel` (the copy of a sequence with BOTH views
    stale is a new empty sequence: `Sequence(None, None)`) -/
theorem seqCopy_live (h : Heap) (s : Nat) (hok : SeqCopyOk h s) : SeqLive (seqCopy h s).1 (seqCopy h s).2 := by
  obtain ⟨ha, hr⟩ := hok
  unfold seqCopy copyOpt SeqLive
  cases hfa : (h.seq s).absStale <;> cases hfr : (h.seq s).relStale
  · obtain ⟨a, hva, _⟩ := ha hfa
    obtain ⟨r, hvr, _⟩ := hr hfr
    simp [hfa, hfr, hva, hvr, seqInit, Heap.newSeq]
  · obtain ⟨a, hva, _⟩ := ha hfa
    simp [hfa, hfr, hva, seqInit, Heap.newSeq]
  · obtain ⟨r, hvr, _⟩ := hr hfr
    simp [hfa, hfr, hvr, seqInit, Heap.newSeq]
  · simp [hfa, hfr, seqInit, Heap.newSeq, Heap.newLst]

/-- a bar that `Bar.copy` copies without writing its source: it exists, its sequence exists and satisfies `SeqCopyOk`, and the
    relative view of its sequence is not stale, so that `self.sequence.rel` (bar.py:59) is a plain read.  The last two conjuncts
    are `HeapTie.BarCopyOk`, the hypothesis of `HeapTie.barCopy_eq`, where the stale case is told. -/
def BarOk (h : Heap) (b : Nat) : Prop :=
  b < h.nBar ∧ (h.bar b).seq < h.nSeq ∧ SeqCopyOk h (h.bar b).seq ∧ (h.seq (h.bar b).seq).relStale = false

theorem BarOk.bar {h : Heap} {b : Nat} (hok : BarOk h b) : b < h.nBar := hok.1
theorem BarOk.seq {h : Heap} {b : Nat} (hok : BarOk h b) : (h.bar b).seq < h.nSeq := hok.2.1
theorem BarOk.copyOk {h : Heap} {b : Nat} (hok : BarOk h b) : SeqCopyOk h (h.bar b).seq := hok.2.2.1
theorem BarOk.relFresh {h : Heap} {b : Nat} (hok : BarOk h b) : (h.seq (h.bar b).seq).relStale = false := hok.2.2.2

def NewBarOk (h : Heap) (b : Nat) : Prop := b < h.nBar ∧ (h.bar b).seq < h.nSeq ∧ SeqLive h (h.bar b).seq

theorem BarOk.ext {h h' : Heap} (e : Ext h h') {b : Nat} (hok : BarOk h b) : BarOk h' b := by
  unfold BarOk
  rw [e.bar hok.1]
  exact ⟨Nat.lt_of_lt_of_le hok.bar (e.1 .bar), Nat.lt_of_lt_of_le hok.seq (e.1 .seq), hok.copyOk.ext e hok.seq,
    by rw [e.seq hok.seq]; exact hok.relFresh⟩

theorem NewBarOk.ext {h h' : Heap} (e : Ext h h') {b : Nat} (hok : NewBarOk h b) : NewBarOk h' b := by
  unfold NewBarOk SeqLive
  rw [e.bar hok.1, e.seq hok.2.1]
  exact ⟨Nat.lt_of_lt_of_le hok.1 (e.1 .bar), Nat.lt_of_lt_of_le hok.2.1 (e.1 .seq), hok.2.2⟩

def TrkOk (h : Heap) (t : Nat) : Prop := t < h.nTrk ∧ ∀ b ∈ (h.trk t).bars, BarOk h b

theorem TrkOk.ext {h h' : Heap} (e : Ext h h') {t : Nat} (hok : TrkOk h t) : TrkOk h' t := by
  unfold TrkOk
  rw [e.trk hok.1]
  exact ⟨Nat.lt_of_lt_of_le hok.1 (e.1 .trk), fun b hb => (hok.2 b hb).ext e⟩

instance (h : Heap) (ids : List Nat) : Decidable (IdsOk h ids) := by unfold IdsOk; infer_instance
instance (h : Heap) (l : Nat) : Decidable (ViewOk h l) := by unfold ViewOk; infer_instance
instance (h : Heap) (s : Nat) : Decidable (SeqCopyOk h s) := by unfold SeqCopyOk; infer_instance
instance (h : Heap) (b : Nat) : Decidable (BarOk h b) := by unfold BarOk; infer_instance
instance (h : Heap) (t : Nat) : Decidable (TrkOk h t) := by unfold TrkOk; infer_instance

theorem convView_ext (f : List Msg → List Msg) (h : Heap) (l : Nat) : Ext h (convView f h l).1 :=
  Ext.of_spec (HeapL.convView_spec (HeapL.good_fresh h) f l).1

theorem copyView_ext (h : Heap) (l : Nat) : Ext h (copyView h l).1 := convView_ext id h l

theorem setSeq_get_other (h : Heap) (s : Nat) (v : SeqCell) {c : Cell} (hne : c ≠ (.seq, s)) : (h.setSeq s v).get c = h.get c :=
  (HeapL.upd_setSeq h s v).get c hne

theorem getRel_frame (o : Orc) (h : Heap) (s : Nat) :
    (∀ k, h.next k ≤ (getRel o h s).1.next k) ∧ ∀ c, h.alloc c → c ≠ (.seq, s) → (getRel o h s).1.get c = h.get c := by
  have triv : (∀ k, h.next k ≤ h.next k) ∧ ∀ c, h.alloc c → c ≠ (Kind.seq, s) → h.get c = h.get c :=
    ⟨fun _ => Nat.le_refl _, fun _ _ _ => rfl⟩
  unfold getRel
  dsimp only
  split
  · split
    · exact triv
    · split
      · exact triv
      · rename_i a _
        have e := convView_ext o.toRel h a
        exact ⟨fun k => by cases k <;> exact e.1 _, fun c hc hne => (setSeq_get_other _ _ _ hne).trans (e.2 c hc)⟩
  · exact triv

theorem wrapStep_ext (h : Heap) (p : Nat) : Ext h (seqInit (copyView h p).1 none (some (copyView h p).2)).1 := by
  have := Ext.of_spec (HeapL.wrapCopies_spec (HeapL.good_fresh h) [p]).1
  simpa [wrapCopies] using this

theorem readRel_of_fresh (o : Orc) {h : Heap} {s : Nat} (hf : (h.seq s).relStale = false) : readRel o h s = h :=
  congrArg Prod.fst (getRel_of_fresh o hf)

theorem barCopy_of_fresh (o : Orc) (tag : Nat) {h : Heap} {b : Nat} (hf : (h.seq (h.bar b).seq).relStale = false) :
    HeapOps.barCopy o tag h b
      = HeapOps.barInit o tag (seqCopy h (h.bar b).seq).1 (seqCopy h (h.bar b).seq).2 (h.bar b).num (h.bar b).den (h.bar b).key := by
  rw [HeapL.barCopy_eq, readRel_of_fresh o hf]

theorem barCopy_spec_fresh {X : HeapL.Region} (o : Orc) (tag : Nat) {h : Heap} {b : Nat} (hg : HeapL.Good X h)
    (hf : (h.seq (h.bar b).seq).relStale = false) :
    HeapL.Spec X h (HeapOps.barCopy o tag h b).1 ∧ HeapL.In X (HeapOps.barCopy o tag h b).1 (.bar, (HeapOps.barCopy o tag h b).2) := by
  rw [barCopy_of_fresh o tag hf]
  exact HeapL.barCopyFrom_spec (o := o) hg tag _ _ _ _

theorem barCopy_post (o : Orc) (tag : Nat) {h : Heap} {b : Nat} (hok : BarOk h b) :
    Ext h (HeapOps.barCopy o tag h b).1 ∧ NewBarOk (HeapOps.barCopy o tag h b).1 (HeapOps.barCopy o tag h b).2 := by
  obtain ⟨sp, hin⟩ := barCopy_spec_fresh o tag (HeapL.good_fresh h) hok.relFresh
  have hseqin := HeapL.bar_seq_in sp.good hin
  refine ⟨Ext.of_spec sp, hin.2, hseqin.2, ?_⟩
  have hlive := seqCopy_live h (h.bar b).seq hok.copyOk
  rw [barCopy_of_fresh o tag hok.relFresh]
  unfold HeapOps.barInit
  simp only [barBody_bar, newBar_snd, bar_newBar]
  exact barBody_live o tag (h := ((seqCopy h (h.bar b).seq).1.newBar
      { seq := (seqCopy h (h.bar b).seq).2, num := (h.bar b).num, den := (h.bar b).den, key := (h.bar b).key }).1)
      (h.bar b).num (h.bar b).den hlive

theorem barCopies_spec_ok {X : HeapL.Region} (o : Orc) : ∀ (bs : List Nat) (tag : Nat) (h : Heap), HeapL.Good X h → (∀ b ∈ bs, BarOk h b) →
    HeapL.Spec X h (barCopies o tag h bs).1 ∧ Ext h (barCopies o tag h bs).1
      ∧ ∀ nb ∈ (barCopies o tag h bs).2, HeapL.In X (barCopies o tag h bs).1 (.bar, nb) ∧ NewBarOk (barCopies o tag h bs).1 nb := by
  intro bs
  induction bs with
  | nil => intro tag h hg _; exact ⟨HeapL.Spec.refl hg, Ext.refl h, by simp [barCopies]⟩
  | cons b bs ih =>
    intro tag h hg hok
    obtain ⟨s1, i1⟩ := barCopy_spec_fresh (X := X) o tag hg (hok b (by simp)).relFresh
    obtain ⟨e1, n1⟩ := barCopy_post o tag (hok b (by simp))
    obtain ⟨s2, e2, i2⟩ := ih (mix tag 3) _ s1.good (fun b' hb' => (hok b' (by simp [hb'])).ext e1)
    exact ⟨s1.trans s2, e1.trans e2, List.forall_mem_cons.2 ⟨⟨i1.mono s2.pres, n1.ext e2⟩, i2⟩⟩

theorem trkCopy_spec_ok {X : HeapL.Region} (o : Orc) (tag : Nat) {h : Heap} {t : Nat} (hg : HeapL.Good X h) (hok : TrkOk h t) :
    HeapL.Spec X h (trkCopy o tag h t).1 ∧ HeapL.In X (trkCopy o tag h t).1 (.trk, (trkCopy o tag h t).2) := by
  obtain ⟨s1, _, i1⟩ := barCopies_spec_ok (X := X) o (h.trk t).bars tag h hg hok.2
  obtain ⟨s2, i2⟩ := HeapL.trkInit_spec (o := o) s1.good (mix tag 4) _ (h.trk t).name fun b hb => (i1 b hb).1
  exact ⟨s1.trans s2, i2⟩

theorem trkCopy_ext (o : Orc) (tag : Nat) (h : Heap) (t : Nat) (hok : TrkOk h t) : Ext h (trkCopy o tag h t).1 :=
  Ext.of_spec (trkCopy_spec_ok o tag (HeapL.good_fresh h) hok).1

theorem trkCopies_spec_ok {X : HeapL.Region} (o : Orc) : ∀ (ts : List Nat) (tag : Nat) (h : Heap), HeapL.Good X h → (∀ t ∈ ts, TrkOk h t) →
    HeapL.Spec X h (trkCopies o tag h ts).1 ∧ ∀ nt ∈ (trkCopies o tag h ts).2, HeapL.In X (trkCopies o tag h ts).1 (.trk, nt) := by
  intro ts
  induction ts with
  | nil => intro tag h hg _; exact ⟨HeapL.Spec.refl hg, by simp [trkCopies]⟩
  | cons t ts ih =>
    intro tag h hg hok
    obtain ⟨s1, i1⟩ := trkCopy_spec_ok (X := X) o tag hg (hok t (by simp))
    have e1 := trkCopy_ext o tag h t (hok t (by simp))
    obtain ⟨s2, i2⟩ := ih (mix tag 5) _ s1.good (fun t' ht' => (hok t' (by simp [ht'])).ext e1)
    exact ⟨s1.trans s2, List.forall_mem_cons.2 ⟨i1.mono s2.pres, i2⟩⟩

theorem cmpCopy_spec_ok {X : HeapL.Region} (o : Orc) (tag : Nat) {h : Heap} {c : Nat} (hg : HeapL.Good X h) (hok : ∀ t ∈ h.cmp c, TrkOk h t) :
    HeapL.Spec X h (cmpCopy o tag h c).1 ∧ HeapL.In X (cmpCopy o tag h c).1 (.cmp, (cmpCopy o tag h c).2) := by
  obtain ⟨s1, i1⟩ := trkCopies_spec_ok (X := X) o (h.cmp c) tag h hg hok
  obtain ⟨s2, i2⟩ := HeapL.newCmp_spec s1.good _ i1
  exact ⟨s1.trans s2, i2⟩

/-- `buildIds` (behind `rebuildView`) leaves the same heap whatever the source list: the source only decides which references are kept -/
theorem buildIds_heap (src : List Nat) (p : List Item) : ∀ h : Heap, (buildIds h src p).1 = (buildIds h [] p).1 := by
  induction p with
  | nil => intro h; rfl
  | cons it p ih =>
    intro h
    cases it with
    | keep k => simp only [buildIds]; exact ih h
    | fresh m => simp only [buildIds]; exact ih _

theorem buildIds_ext (src : List Nat) (p : List Item) (h : Heap) : Ext h (buildIds h src p).1 := by
  rw [buildIds_heap]
  exact Ext.of_spec (HeapL.buildIds_spec (HeapL.good_fresh h) [] (by simp) p).1

theorem buildIds_ids (src : List Nat) (p : List Item) : ∀ h : Heap,
    h.nMsg ≤ (buildIds h src p).1.nMsg ∧ ∀ i ∈ (buildIds h src p).2, i ∈ src ∨ (h.nMsg ≤ i ∧ i < (buildIds h src p).1.nMsg) := by
  induction p with
  | nil => intro h; simp [buildIds]
  | cons it p ih =>
    intro h
    cases it with
    | keep k =>
      simp only [buildIds]
      refine ⟨(ih h).1, fun i hi => ?_⟩
      cases hk : src[k]? with
      | none => rw [hk] at hi; exact (ih h).2 i hi
      | some j =>
        rw [hk] at hi
        rcases List.mem_cons.1 hi with rfl | hi
        · exact Or.inl (List.mem_of_getElem? hk)
        · exact (ih h).2 i hi
    | fresh m =>
      simp only [buildIds]
      have := ih (h.newMsg m).1
      have hn : (h.newMsg m).1.nMsg = h.nMsg + 1 := rfl
      rw [hn] at this
      refine ⟨by omega, fun i hi => ?_⟩
      rcases List.mem_cons.1 hi with rfl | hi
      · exact Or.inr ⟨Nat.le_refl _, by simp only [newMsg_snd]; omega⟩
      · rcases this.2 i hi with h1 | h1
        · exact Or.inl h1
        · exact Or.inr ⟨by omega, h1.2⟩

end SCoda.HeapTieL
