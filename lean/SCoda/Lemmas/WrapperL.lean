/-
  The concrete wrapper model `SCoda.Seq` of `Model/Wrapper.lean` (audit item A3); preservation by whole operations is in
  `Props/C04c.lean`.
  `Inv s` is `C04.Inv C04.views (C04.ofSeq s)` (`inv_iff_generic`).  What is said of the concrete `Seq` (Props/C04c–e, Gaps,
  StaticTie) goes through this file's `Inv`, `absView`, `relView`, `Readable`; what is said of the generic machine, and of the
  heap through it (Props/C04, C04b, C16cW), through `C04.Inv`.
-/
import SCoda.Props.C04b
import SCoda.Lemmas.Quantise
namespace SCoda.WrapperL
open SCoda SCoda.Q

/-- the wrapper invariant, on the concrete state of `Model/Wrapper.lean` -/
structure Inv (s : Seq) : Prop where
  notBoth : ¬ (s.absStale = true ∧ s.relStale = true)
  absOk : s.absStale = false → OkAbs s.abs
  relOk : s.relStale = false → OkRel s.rel
  agreeEv : s.absStale = false → s.relStale = false → (eventsAbs s.abs).Perm (eventsRel s.rel)
  agreeDur : s.absStale = false → s.relStale = false → durAbs s.abs = durRel s.rel

/-- what a read of `.abs` returns -/
def absView (s : Seq) : List Msg := if s.absStale then toAbs s.rel else s.abs
/-- what a read of `.rel` returns -/
def relView (s : Seq) : List Msg := if s.relStale then toRel s.abs else s.rel

def Readable (s : Seq) : Prop := ¬ (s.absStale = true ∧ s.relStale = true)

theorem readAbs_eq (s : Seq) (h : Readable s) :
    s.readAbs = .ok ({ s with abs := absView s, absStale := false }, absView s) := by
  obtain ⟨a, r, fa, fr⟩ := s
  cases fa <;> cases fr <;> simp_all [Readable, Seq.readAbs, absView]

theorem readRel_eq (s : Seq) (h : Readable s) :
    s.readRel = .ok ({ s with rel := relView s, relStale := false }, relView s) := by
  obtain ⟨a, r, fa, fr⟩ := s
  cases fa <;> cases fr <;> simp_all [Readable, Seq.readRel, relView]

theorem readAbs_stale (s : Seq) (h : ¬ Readable s) : s.readAbs = .error .sequenceStale := by
  obtain ⟨a, r, fa, fr⟩ := s
  cases fa <;> cases fr <;> simp_all [Readable, Seq.readAbs]

theorem readRel_stale (s : Seq) (h : ¬ Readable s) : s.readRel = .error .sequenceStale := by
  obtain ⟨a, r, fa, fr⟩ := s
  cases fa <;> cases fr <;> simp_all [Readable, Seq.readRel]

theorem onAbs_eq (s : Seq) (h : Readable s) (f : List Msg → Except Err (List Msg)) :
    s.onAbs f = (f (absView s)).map
      (fun a' => { s with abs := a', absStale := false, relStale := true }) := by
  simp only [Seq.onAbs, readAbs_eq s h, bind, Except.bind]
  cases f (absView s) <;> rfl

theorem onRel_eq (s : Seq) (h : Readable s) (f : List Msg → Except Err (List Msg)) :
    s.onRel f = (f (relView s)).map
      (fun r' => { s with rel := r', relStale := false, absStale := true }) := by
  simp only [Seq.onRel, readRel_eq s h, bind, Except.bind]
  cases f (relView s) <;> rfl

theorem inv_readable {s : Seq} (h : Inv s) : Readable s := h.notBoth

theorem inv_iff_generic (s : Seq) : Inv s ↔ C04.Inv C04.views (C04.ofSeq s) :=
  ⟨fun ⟨a, b, c, d, e⟩ => ⟨a, b, c, fun x y => ⟨d x y, e x y⟩⟩,
   fun ⟨a, b, c, d⟩ => ⟨a, b, c, fun x y => (d x y).1, fun x y => (d x y).2⟩⟩

theorem inv_iff_views (s : Seq) : Inv s ↔ Readable s ∧ OkAbs (absView s) ∧ OkRel (relView s) ∧
    (eventsAbs (absView s)).Perm (eventsRel (relView s)) ∧ durAbs (absView s) = durRel (relView s) :=
  (inv_iff_generic s).trans (C04.inv_iff_views C04.views (C04.ofSeq s))

theorem absView_ok {s : Seq} (h : Inv s) : OkAbs (absView s) := ((inv_iff_views s).1 h).2.1

theorem relView_ok {s : Seq} (h : Inv s) : OkRel (relView s) := ((inv_iff_views s).1 h).2.2.1

theorem views_events {s : Seq} (h : Inv s) : (eventsAbs (absView s)).Perm (eventsRel (relView s)) :=
  ((inv_iff_views s).1 h).2.2.2.1

theorem views_dur {s : Seq} (h : Inv s) : durAbs (absView s) = durRel (relView s) :=
  ((inv_iff_views s).1 h).2.2.2.2

theorem inv_setAbs (s : Seq) (a' : List Msg) (h : OkAbs a') :
    Inv { s with abs := a', absStale := false, relStale := true } :=
  ⟨by simp, fun _ => h, by simp, by simp, by simp⟩

theorem inv_setRel (s : Seq) (r' : List Msg) (h : OkRel r') :
    Inv { s with rel := r', relStale := false, absStale := true } :=
  ⟨by simp, by simp, fun _ => h, by simp, by simp⟩

theorem inv_afterReadAbs {s : Seq} (h : Inv s) : Inv { s with abs := absView s, absStale := false } :=
  (inv_iff_generic _).2 (C04.inv_afterAbs C04.views ((inv_iff_generic s).1 h))

theorem inv_afterReadRel {s : Seq} (h : Inv s) : Inv { s with rel := relView s, relStale := false } :=
  (inv_iff_generic _).2 (C04.inv_afterRel C04.views ((inv_iff_generic s).1 h))

theorem views_afterReadAbs (s : Seq) (h : Readable s) :
    absView { s with abs := absView s, absStale := false } = absView s ∧
    (s.relStale = false → relView { s with abs := absView s, absStale := false } = relView s) :=
  ⟨(C04.views_afterAbs C04.views (C04.ofSeq s) h).1, fun _ => (C04.views_afterAbs C04.views (C04.ofSeq s) h).2⟩

theorem read_views {s s1 : Seq} {l : List Msg} (h : Readable s)
    (hr : s.readAbs = .ok (s1, l) ∨ s.readRel = .ok (s1, l)) :
    absView s1 = absView s ∧ relView s1 = relView s := by
  rw [readAbs_eq s h, readRel_eq s h] at hr
  rcases hr with hr | hr <;> cases hr
  · exact C04.views_afterAbs C04.views (C04.ofSeq s) h
  · exact C04.views_afterRel C04.views (C04.ofSeq s) h

theorem durAbs_sortAbs (a : List Msg) (hs : TimeSorted a) : durAbs (sortAbs a) = durAbs a := by
  cases hl : a.getLast? with
  | none =>
    have : a = [] := by simpa using hl
    subst this; rfl
  | some m =>
    have hd : durAbs a = m.time := by simp [durAbs, hl]
    rw [hd]
    obtain ⟨init, rfl⟩ : ∃ init, a = init ++ [m] := by
      rw [List.getLast?_eq_some_iff] at hl; exact hl
    have hp := (timeSorted_iff_pairwise _).1 hs
    rw [List.pairwise_append] at hp
    refine durAbs_of_max _ _ (sortAbs_pairwise _) ?_ ⟨m, (mem_sortAbs _ _).2 (by simp), rfl⟩
    intro e he
    rcases List.mem_append.1 ((mem_sortAbs _ _).1 he) with he | he
    · exact hp.2.2 e he m (by simp)
    · simp at he; subst he; exact Int.le_refl _

theorem eventsAbs_sortAbs (a : List Msg) : (eventsAbs (sortAbs a)).Perm (eventsAbs a) :=
  (sortAbs_perm a).filter _

/-- `get_message_pairings` sorts the absolute view in place and leaves both flags as they are -/
theorem inv_resort {s : Seq} (h : Inv s) (hf : s.absStale = false) :
    Inv { s with abs := sortAbs s.abs } := by
  obtain ⟨h1, h2, h3, h4, h5⟩ := h
  refine ⟨h1, fun _ => okAbs_sortAbs (h2 hf), h3, ?_, ?_⟩
  · intro _ hr
    exact (eventsAbs_sortAbs _).trans (h4 hf hr)
  · intro _ hr
    show durAbs (sortAbs s.abs) = _
    rw [durAbs_sortAbs _ (h2 hf).1]; exact h5 hf hr

/-- editing only the first yielded message -/
def editFirst (f : Msg → Msg) : List Msg → List Msg
  | [] => []
  | m :: ms => f m :: ms

theorem editFirst_okR (f : Msg → Msg) (hf : ∀ m, Ops.Good m → Ops.Good (f m)) (r : List Msg)
    (h : OkRel r) : OkRel (editFirst f r) := by
  rw [Ops.okRel_iff] at h ⊢
  cases r with
  | nil => exact h
  | cons m ms =>
    rw [List.forall_mem_cons] at h
    exact List.forall_mem_cons.2 ⟨hf m h.1, h.2⟩

theorem editFirst_okA (f : Msg → Msg) (h1 : ∀ m, m.ty ≠ .wait → (f m).ty ≠ .wait)
    (h2 : ∀ m, 0 ≤ m.time → 0 ≤ (f m).time ∧ (f m).time ≤ m.time) (a : List Msg) (h : OkAbs a) :
    OkAbs (editFirst f a) := by
  rw [okAbs_iff] at h ⊢
  cases a with
  | nil => exact h
  | cons m ms =>
    rw [List.pairwise_cons, List.forall_mem_cons] at h
    have hm := h2 m h.2.1.1
    exact ⟨List.pairwise_cons.2 ⟨fun y hy => Int.le_trans hm.2 (h.1.1 y hy), h.1.2⟩,
      List.forall_mem_cons.2 ⟨⟨hm.1, h1 m h.2.1.2⟩, h.2.2⟩⟩


theorem qnl_ok (v : List Int) (hv : ∀ x ∈ v, 0 ≤ x) (std : Int) (dne : Bool) (a : List Msg) (ha : OkAbs a) :
    ∃ a', quantiseNoteLengths v std dne a = .ok a' ∧ OkAbs a' := by
  obtain ⟨out, ho⟩ := C06.total v std dne a
  exact ⟨out, ho, C04.qnl_okA_any v hv std dne a out ha ho⟩

theorem quantiseS_total_any {steps : List Int} (hne : steps ≠ []) (a : List Msg) :
    ∃ out, quantiseS steps a = .ok out := quantise_total_any hne (sortAbs a)

/-- unlike `C05.total`, no well-formedness of the notes is needed -/
theorem quantiseS_ok (st : List Int) (hs : C05.StepsOk st) (a : List Msg) (ha : OkAbs a) :
    ∃ a', quantiseS st a = .ok a' ∧ OkAbs a' :=
  (quantiseS_total_any hs.1 a).imp fun out ho => ⟨ho, C04.quantise_okA st hs _ out (okAbs_sortAbs ha) ho⟩

theorem bind_ok {α : Type} (x : Except Err α) : x.bind .ok = x := by cases x <;> rfl

theorem transposeSeq_eq (e : Env) (s : Seq) (h : Readable s) (b : Int) :
    Seq.transposeSeq e s b =
      (s.onRel (fun r => .ok (transposeRel e.noteLo e.noteHi (fun k => e.tk k b) b r).1)).bind (fun s1 =>
        if (transposeRel e.noteLo e.noteHi (fun k => e.tk k b) b (relView s)).2 then
          s1.normaliseSeq.bind (fun s2 => (Seq.qnlSeq e s2 Option.none e.ppqn false).bind
            (fun s3 => .ok (s3, true)))
        else .ok (s1, false)) := by
  rw [onRel_eq s h]
  simp only [Seq.transposeSeq, readRel_eq s h, bind, Except.bind, Except.map]

theorem readRel_ok {s s0 : Seq} {r : List Msg} (h : s.readRel = .ok (s0, r)) : s0.relStale = false ∧ s0.rel = r := by
  obtain ⟨a, rl, fa, fr⟩ := s
  cases fa <;> cases fr <;> simp [Seq.readRel] at h <;> obtain ⟨rfl, rfl⟩ := h <;> exact ⟨rfl, rfl⟩

theorem transposeSeq_read (e : Env) (s s0 : Seq) (r : List Msg) (by_ : Int)
    (hread : s.readRel = .ok (s0, r)) :
    Seq.transposeSeq e s by_ =
      if (transposeRel e.noteLo e.noteHi (fun k => e.tk k by_) by_ r).2 = true then
        (match quantiseNoteLengths e.defValues e.ppqn false
            (toAbs (normalise (transposeRel e.noteLo e.noteHi (fun k => e.tk k by_) by_ r).1)) with
          | .ok v => .ok ({ abs := v, rel := normalise (transposeRel e.noteLo e.noteHi (fun k => e.tk k by_) by_ r).1,
                            absStale := false, relStale := true }, true)
          | .error err => .error err)
      else .ok ({ abs := s0.abs, rel := (transposeRel e.noteLo e.noteHi (fun k => e.tk k by_) by_ r).1,
                  absStale := true, relStale := false }, false) := by
  obtain ⟨a0, r0, fa0, fr0⟩ := s0
  obtain ⟨rfl, rfl⟩ := readRel_ok hread
  unfold Seq.transposeSeq
  simp only [hread, bind, Except.bind]
  by_cases hc : (transposeRel e.noteLo e.noteHi (fun k => e.tk k by_) by_ r0).2 = true
  · simp only [hc, if_true]
    simp only [Seq.normaliseSeq, Seq.onRel, Seq.readRel, Seq.qnlSeq, Seq.onAbs, Seq.readAbs,
      bind, Except.bind, Bool.false_eq_true, if_false, if_true, Option.getD_none]
    cases quantiseNoteLengths e.defValues e.ppqn false
        (toAbs (normalise (transposeRel e.noteLo e.noteHi (fun k => e.tk k by_) by_ r0).fst)) <;> rfl
  · simp [hc]

theorem transposeSeq_ok {e : Env} {s s0 s' : Seq} {r : List Msg} {by_ : Int} {flag : Bool}
    (hread : s.readRel = .ok (s0, r)) (h : Seq.transposeSeq e s by_ = .ok (s', flag)) :
    flag = (transposeRel e.noteLo e.noteHi (fun k => e.tk k by_) by_ r).2
    ∧ (flag = false →
        s' = { abs := s0.abs, rel := (transposeRel e.noteLo e.noteHi (fun k => e.tk k by_) by_ r).1,
               absStale := true, relStale := false })
    ∧ (flag = true → ∃ v, quantiseNoteLengths e.defValues e.ppqn false
          (toAbs (normalise (transposeRel e.noteLo e.noteHi (fun k => e.tk k by_) by_ r).1)) = .ok v
        ∧ s' = { abs := v, rel := normalise (transposeRel e.noteLo e.noteHi (fun k => e.tk k by_) by_ r).1,
                 absStale := false, relStale := true }) := by
  rw [transposeSeq_read e s s0 r by_ hread] at h
  by_cases hc : (transposeRel e.noteLo e.noteHi (fun k => e.tk k by_) by_ r).2 = true
  · rw [if_pos hc] at h
    split at h
    · rename_i v hv
      cases h
      exact ⟨hc.symm, (fun hh => nomatch hh), fun _ => ⟨v, hv, rfl⟩⟩
    · cases h
  · rw [if_neg hc] at h
    cases h
    exact ⟨((Bool.not_eq_true _).mp hc).symm, fun _ => rfl, fun hh => nomatch hh⟩

theorem mem_qnl_nonNote (values : List Int) (stdLen : Int) (dne : Bool) (a out : List Msg)
    (h : quantiseNoteLengths values stdLen dne a = .ok out) (m : Msg) (hm : m ∈ out)
    (h1 : m.ty ≠ .noteOn) (h2 : m.ty ≠ .noteOff) : m ∈ a := by
  have hp := C06.others_same values stdLen dne a out h
  have : m ∈ nonNotes out := by
    simp only [nonNotes, List.mem_filter, hm, true_and, Bool.and_eq_true, bne_iff_ne, ne_eq]
    exact ⟨h1, h2⟩
  have := hp.mem_iff.1 this
  exact (List.mem_filter.1 this).1

/-- **a message of the wrapped branch of `transpose`** (`normalise`, absolute view, note lengths quantised) other than a
    note-off is a re-timed message of the shifted list: note-ons are kept by the quantisation (`C06.onsets_kept`), the
    other messages are not touched by it (`C06.others_same`), and `normalise` invents only waits -/
theorem wrapped_src {values : List Int} {std : Int} {dne : Bool} {r1 out : List Msg}
    (hq : quantiseNoteLengths values std dne (toAbs (normalise r1)) = .ok out) (m : Msg) (hm : m ∈ out)
    (h1 : m.ty ≠ .noteOff) (h2 : m.ty ≠ .internal) :
    ∃ m0 ∈ r1, m0.ty = m.ty ∧ m = { m0 with time := m.time } := by
  have hma : m ∈ toAbs (normalise r1) := by
    by_cases hon : m.ty = .noteOn
    · exact C06.onsets_kept _ _ _ _ _ hq m hm hon
    · exact mem_qnl_nonNote _ _ _ _ _ hq m hm hon h1
  obtain ⟨m0, h0, hw, t, rfl⟩ := eventsRelGo_src _ 0 m (mem_toAbs_events hma h2)
  exact ⟨m0, ((normalise_entries r1 m0 h0).resolve_left fun h => hw h.1).2, rfl, rfl⟩

theorem splitSeq_eq (s : Seq) (h : Readable s) (caps : List Int) :
    s.splitSeq caps = (split (relView s) caps).map
      (fun ps => ({ s with rel := relView s, relStale := false }, ps.map Seq.ofRel)) := by
  simp only [Seq.splitSeq, readRel_eq s h, bind, Except.bind]
  cases split (relView s) caps <;> rfl

theorem copy_views (s : Seq) (h : Readable s) :
    Readable s.copy ∧ absView s.copy = absView s ∧ relView s.copy = relView s := by
  obtain ⟨a, r, fa, fr⟩ := s
  cases fa <;> cases fr <;> simp_all [Readable, Seq.copy, Seq.ofAbs, Seq.ofRel, absView, relView]

theorem copy_inv (s : Seq) (h : Inv s) : Inv s.copy :=
  (inv_iff_generic _).2 (C04.copy_inv s ((inv_iff_generic s).1 h)).1


end SCoda.WrapperL
