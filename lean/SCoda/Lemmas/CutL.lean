/-
  Helper definitions and lemmas for Props/C03e (audit item A1 (ii), the glue between the bars of the real pipeline and
  the whole-bar chunks of Props/C03c).

  No pipeline code is involved here: a time-ordered event list is cut at cumulative bar lengths (`cutAt`; the last bar takes
  everything that is left, so the cap message at the very end stays in it), and `GoodAt` says, without the cut, what the
  list must satisfy for the cut to be a well-formed whole-bar chunk (`cutAt_barsOk`).
-/
import SCoda.Lemmas.ChunksL
import SCoda.Lemmas.Sort
namespace SCoda.GlueL
open SCoda SCoda.C01 SCoda.ChunksL

/-- events in onset order (the relation of `BarOk.ordered`) -/
abbrev HeadLe (a b : Int × Pairing) : Prop := ∀ x ∈ a.2.head?, ∀ y ∈ b.2.head?, x.time ≤ y.time

/-- the event starts before tick `B` -/
def before (B : Int) (ev : Int × Pairing) : Bool :=
  match ev.2.head? with
  | some m => decide (m.time < B)
  | none => true

/-- summed bar lengths of a list of signatures -/
def total (c : Cfg) : List (Int × Int) → Int
  | [] => 0
  | s :: rest => c.capacity s.1 s.2 + total c rest

/-- cut the events (absolute ticks; the first bar starts at `A`) into one bar per signature, bar-relative ticks -/
def cutAt (c : Cfg) : Int → List (Int × Int) → List (Int × Pairing) → List BarEv
  | _, [], _ => []
  | A, [s], evs => [{ num := s.1, den := s.2, evs := shiftEvs (-A) evs }]
  | A, s :: s2 :: rest, evs =>
    { num := s.1, den := s.2, evs := shiftEvs (-A) (evs.takeWhile (before (A + c.capacity s.1 s.2))) }
      :: cutAt c (A + c.capacity s.1 s.2) (s2 :: rest) (evs.dropWhile (before (A + c.capacity s.1 s.2)))

theorem cutAt_sigs (c : Cfg) : ∀ (sigs : List (Int × Int)) (A : Int) (evs : List (Int × Pairing)),
    (cutAt c A sigs evs).map (fun b => (b.num, b.den)) = sigs := by
  intro sigs
  induction sigs with
  | nil => intro A evs; rfl
  | cons s rest ih =>
    intro A evs
    cases rest with
    | nil => rfl
    | cons s2 rest =>
      simp only [cutAt, List.map_cons, List.cons.injEq, true_and]
      exact ih _ _

theorem cutAt_length (c : Cfg) (sigs : List (Int × Int)) (A : Int) (evs : List (Int × Pairing)) :
    (cutAt c A sigs evs).length = sigs.length := by
  have := congrArg List.length (cutAt_sigs c sigs A evs)
  simpa using this

theorem layBars_cutAt (c : Cfg) : ∀ (sigs : List (Int × Int)) (A : Int) (evs : List (Int × Pairing)), sigs ≠ [] →
    layBars c (cutAt c A sigs evs) = shiftEvs (-A) evs := by
  intro sigs
  induction sigs with
  | nil => intro A evs h; exact absurd rfl h
  | cons s rest ih =>
    intro A evs _
    cases rest with
    | nil => simp [cutAt, layBars, shiftEvs_nil]
    | cons s2 rest =>
      simp only [cutAt, layBars, barLen]
      have e : -(A + c.capacity s.1 s.2) + c.capacity s.1 s.2 = -A := by omega
      rw [ih _ _ (by simp), shiftEvs_shiftEvs, e, ← shiftEvs_append, List.takeWhile_append_dropWhile]

/-- `m` sits on a bar line of the grid `sigs` laid from `A` and carries that bar's signature -/
def SigAt (c : Cfg) : Int → List (Int × Int) → Msg → Prop
  | _, [], _ => False
  | A, s :: rest, m => (m.time = A ∧ m.num = s.1 ∧ m.den = s.2) ∨ SigAt c (A + c.capacity s.1 s.2) rest m

/-- the bar lines of the signatures `sigs` laid from tick `A`, each with its signature -/
def grid (c : Cfg) : Int → List (Int × Int) → List (Int × Int × Int)
  | _, [] => []
  | A, s :: rest => (A, s) :: grid c (A + c.capacity s.1 s.2) rest

theorem sigAt_iff (c : Cfg) (m : Msg) : ∀ (sigs : List (Int × Int)) (A : Int),
    SigAt c A sigs m ↔ (m.time, m.num, m.den) ∈ grid c A sigs := by
  intro sigs
  induction sigs with
  | nil => intro A; simp [SigAt, grid]
  | cons s rest ih =>
    intro A
    obtain ⟨n, d⟩ := s
    simp only [SigAt, grid, List.mem_cons, ih, Prod.mk.injEq]

/-- every bar whose length differs from the running one (`C` before the first) has property `P` on its line -/
def AnnP (c : Cfg) (P : Int → Prop) : Int → Int → List (Int × Int) → Prop
  | _, _, [] => True
  | A, C, s :: rest => (c.capacity s.1 s.2 = C ∨ P A) ∧ AnnP c P (A + c.capacity s.1 s.2) (c.capacity s.1 s.2) rest

def HasSig (evs : List (Int × Pairing)) (t : Int) : Prop :=
  ∃ ev ∈ evs, ∃ m ∈ ev.2.head?, m.ty = .timeSignature ∧ m.time = t

abbrev Announced (c : Cfg) (evs : List (Int × Pairing)) : Int → Int → List (Int × Int) → Prop := AnnP c (HasSig evs)

theorem annP_mono (c : Cfg) (P P' : Int → Prop) : ∀ (sigs : List (Int × Int)) (A C : Int),
    (∀ s ∈ sigs, 0 < s.1 ∧ 0 < s.2 ∧ 0 < c.capacity s.1 s.2) → (∀ t, A ≤ t → P t → P' t) →
    AnnP c P A C sigs → AnnP c P' A C sigs := by
  intro sigs
  induction sigs with
  | nil => intro _ _ _ _ _; trivial
  | cons s rest ih =>
    intro A C hp hsub h
    obtain ⟨h1, h2⟩ := h
    have hc := (hp s List.mem_cons_self).2.2
    refine ⟨?_, ih _ _ (fun x hx => hp x (List.mem_cons_of_mem _ hx)) (fun t ht => hsub t (by omega)) h2⟩
    rcases h1 with h1 | h1
    · exact Or.inl h1
    · exact Or.inr (hsub A (Int.le_refl _) h1)

/-- what makes `cutAt c A sigs evs` a well-formed chunk after a bar of length `C` -/
structure GoodAt (c : Cfg) (A C : Int) (sigs : List (Int × Int)) (evs : List (Int × Pairing)) : Prop where
  pos : ∀ s ∈ sigs, 0 < s.1 ∧ 0 < s.2 ∧ 0 < c.capacity s.1 s.2
  nonempty : ∀ ev ∈ evs, ev.2 ≠ []
  chans : ∀ ev ∈ evs, ∀ m ∈ ev.2.head?, 0 ≤ m.ch ∧ m.ch < (c.numTracks : Int)
  range : ∀ ev ∈ evs, ∀ m ∈ ev.2.head?, A ≤ m.time ∧ m.time ≤ A + total c sigs
  ordered : evs.Pairwise HeadLe
  sigOk : ∀ ev ∈ evs, ∀ m ∈ ev.2.head?, m.ty = .timeSignature → SigAt c A sigs m
  noteOk : ∀ ev ∈ evs, ∀ m ∈ ev.2.head?, m.ty = .noteOn → m.time < A + total c sigs
  ann : Announced c evs A C sigs

theorem total_nonneg (c : Cfg) (sigs : List (Int × Int)) (h : ∀ s ∈ sigs, 0 < s.1 ∧ 0 < s.2 ∧ 0 < c.capacity s.1 s.2) :
    0 ≤ total c sigs := by
  induction sigs with
  | nil => simp [total]
  | cons s rest ih =>
    have h1 := (h s List.mem_cons_self).2.2
    have h2 := ih (fun x hx => h x (List.mem_cons_of_mem _ hx))
    simp only [total]; omega

theorem grid_lt (c : Cfg) : ∀ (sigs : List (Int × Int)) (A : Int),
    (∀ s ∈ sigs, 0 < s.1 ∧ 0 < s.2 ∧ 0 < c.capacity s.1 s.2) →
    (∀ x ∈ grid c A sigs, A ≤ x.1) ∧ (grid c A sigs).Pairwise (fun a b => a.1 < b.1) := by
  intro sigs
  induction sigs with
  | nil => intro A _; simp [grid]
  | cons s rest ih =>
    intro A hp
    have hc := (hp s List.mem_cons_self).2.2
    obtain ⟨i1, i2⟩ := ih (A + c.capacity s.1 s.2) (fun x hx => hp x (List.mem_cons_of_mem _ hx))
    simp only [grid, List.mem_cons, List.pairwise_cons, forall_eq_or_imp]
    exact ⟨⟨Int.le_refl _, fun x hx => by have := i1 x hx; omega⟩, fun x hx => by have := i1 x hx; omega, i2⟩

theorem sigAt_ge (c : Cfg) (sigs : List (Int × Int)) (A : Int) (m : Msg)
    (hp : ∀ s ∈ sigs, 0 < s.1 ∧ 0 < s.2 ∧ 0 < c.capacity s.1 s.2) (h : SigAt c A sigs m) : A ≤ m.time :=
  (grid_lt c sigs A hp).1 _ ((sigAt_iff c m sigs A).1 h)

theorem not_before_of_le (B : Int) (e x : Int × Pairing) (hne : x.2 ≠ []) (hle : HeadLe e x) (he : before B e = false) :
    before B x = false := by
  cases hx : x.2.head? with
  | none => rw [List.head?_eq_none_iff] at hx; exact absurd hx hne
  | some m =>
    cases hh : e.2.head? with
    | none => simp [before, hh] at he
    | some m0 =>
      have := hle m0 hh m hx
      simp only [before, hh, decide_eq_false_iff_not] at he
      simp only [before, hx, decide_eq_false_iff_not]
      omega

theorem takeWhile_before_eq (B : Int) (evs : List (Int × Pairing)) (ho : evs.Pairwise HeadLe) (hne : ∀ ev ∈ evs, ev.2 ≠ []) :
    evs.takeWhile (before B) = evs.filter (before B)
      ∧ evs.dropWhile (before B) = evs.filter (fun ev => !before B ev) :=
  takeWhile_eq_filter (before B) evs ho (fun e x hx hle he => not_before_of_le B e x (hne x hx) hle he)

theorem dropWhile_not_before (B : Int) (evs : List (Int × Pairing)) (ho : evs.Pairwise HeadLe) (hne : ∀ ev ∈ evs, ev.2 ≠ []) :
    ∀ ev ∈ evs.dropWhile (before B), ∀ m ∈ ev.2.head?, B ≤ m.time := by
  intro ev hev m hm
  rw [(takeWhile_before_eq B evs ho hne).2, List.mem_filter] at hev
  simp only [Option.mem_def] at hm
  simpa [before, hm] using hev.2

theorem mem_takeWhile_before (B : Int) (evs : List (Int × Pairing)) (ev : Int × Pairing)
    (h : ev ∈ evs.takeWhile (before B)) : ev ∈ evs ∧ ∀ m ∈ ev.2.head?, m.time < B := by
  refine ⟨(List.takeWhile_sublist _).subset h, ?_⟩
  intro m hm
  have := List.all_eq_true.1 List.all_takeWhile _ h
  simp only [Option.mem_def] at hm
  simpa [before, hm] using this

theorem mem_takeWhile_of_before (B : Int) (evs : List (Int × Pairing)) (hp : evs.Pairwise HeadLe)
    (hne : ∀ ev ∈ evs, ev.2 ≠ []) (ev : Int × Pairing) (hev : ev ∈ evs) (m : Msg) (hm : m ∈ ev.2.head?) (hlt : m.time < B) :
    ev ∈ evs.takeWhile (before B) := by
  rw [(takeWhile_before_eq B evs hp hne).1, List.mem_filter]
  simp only [Option.mem_def] at hm
  exact ⟨hev, by simp [before, hm, hlt]⟩

theorem announced_mono (c : Cfg) (evs evs' : List (Int × Pairing)) (sigs : List (Int × Int)) (A C : Int)
    (hp : ∀ s ∈ sigs, 0 < s.1 ∧ 0 < s.2 ∧ 0 < c.capacity s.1 s.2)
    (hsub : ∀ ev ∈ evs, ∀ m ∈ ev.2.head?, A ≤ m.time → ev ∈ evs')
    (h : Announced c evs A C sigs) : Announced c evs' A C sigs := by
  refine annP_mono c _ _ sigs A C hp ?_ h
  rintro t ht ⟨ev, hev, m, hm, hty, rfl⟩
  exact ⟨ev, hsub ev hev m hm ht, m, hm, hty, rfl⟩

theorem noteEv_shift (s : Int) (evs : List (Int × Pairing)) :
    (shiftEvs s evs).filter isNoteEv = shiftEvs s (evs.filter isNoteEv) :=
  filter_map_of_comp _ _ _ _ (fun ev _ => by simp only [isNoteEv, List.head?_map]; cases ev.2.head? <;> rfl)

theorem mem_shift_of_mem (s : Int) (evs : List (Int × Pairing)) (ev : Int × Pairing) (hev : ev ∈ evs) (m : Msg)
    (hm : m ∈ ev.2.head?) :
    ∃ ev' ∈ shiftEvs s evs, ∃ m' ∈ ev'.2.head?, m' = { m with time := m.time + s } := by
  refine ⟨(ev.1, ev.2.map (fun m => { m with time := m.time + s })), ?_, { m with time := m.time + s }, ?_, rfl⟩
  · exact mem_shiftEvs.2 ⟨ev, hev, rfl⟩
  · simp only [Option.mem_def] at hm
    simp [hm]

theorem barOk_first (c : Cfg) (A C : Int) (s : Int × Int) (rest : List (Int × Int)) (evs part : List (Int × Pairing))
    (hg : GoodAt c A C (s :: rest) evs)
    (hsub : ∀ ev ∈ part, ev ∈ evs) (hord : part.Pairwise HeadLe)
    (hin : rest ≠ [] → ∀ ev ∈ part, ∀ m ∈ ev.2.head?, m.time < A + c.capacity s.1 s.2)
    (hall : ∀ ev ∈ evs, ∀ m ∈ ev.2.head?, m.time < A + c.capacity s.1 s.2 → ev ∈ part) :
    BarOk c C { num := s.1, den := s.2, evs := shiftEvs (-A) part } := by
  obtain ⟨hs1, hs2, hs3⟩ := hg.pos s List.mem_cons_self
  have hlen : barLen c { num := s.1, den := s.2, evs := shiftEvs (-A) part } = c.capacity s.1 s.2 := rfl
  -- the events of the bar end with it, its note-ons before it: by `hin`, or because the bar is the last of the run
  have hend : ∀ ev ∈ part, ∀ m ∈ ev.2.head?, m.time ≤ A + c.capacity s.1 s.2 ∧ (m.ty = .noteOn → m.time < A + c.capacity s.1 s.2) := by
    intro ev hev m hm
    by_cases hr : rest = []
    · have h1 := (hg.range ev (hsub ev hev) m hm).2
      have h2 := hg.noteOk ev (hsub ev hev) m hm
      subst hr
      simp only [total, Int.add_zero] at h1 h2
      exact ⟨h1, h2⟩
    · have := hin hr ev hev m hm
      exact ⟨by omega, fun _ => this⟩
  refine ⟨hs1, hs2, hs3, shift_nonempty _ _ (fun ev hev => hg.nonempty ev (hsub ev hev)), ?_, ?_, shift_pairwise _ _ hord, ?_, ?_, ?_⟩
  · exact shift_heads _ _ _ fun ev hev m hm => hg.chans ev (hsub ev hev) m hm
  · refine shift_heads _ _ _ fun ev hev m hm => ?_
    have h1 := (hg.range ev (hsub ev hev) m hm).1
    have h2 := (hend ev hev m hm).1
    rw [hlen]
    simp only
    omega
  · refine shift_heads _ _ _ fun ev hev m hm hty => ?_
    rcases hg.sigOk ev (hsub ev hev) m hm hty with ⟨h1, h2, h3⟩ | h1
    · exact ⟨by simp only; omega, h2, h3⟩
    · have h2 := sigAt_ge c rest _ m (fun x hx => hg.pos x (List.mem_cons_of_mem _ hx)) h1
      by_cases hr : rest = []
      · subst hr; exact absurd h1 (fun h => h)
      · have := hin hr ev hev m hm; omega
  · refine shift_heads _ _ _ fun ev hev m hm hty => ?_
    have h1 := (hend ev hev m hm).2 hty
    rw [hlen]
    simp only
    omega
  · rcases hg.ann.1 with h | ⟨ev, hev, m, hm, hty, ht⟩
    · exact Or.inl h
    · right
      have hp := hall ev hev m hm (by omega)
      obtain ⟨ev', hev', m', hm', rfl⟩ := mem_shift_of_mem (-A) part ev hp m hm
      exact ⟨ev', hev', _, hm', hty⟩

theorem cutAt_barsOk (c : Cfg) : ∀ (sigs : List (Int × Int)) (A C : Int) (evs : List (Int × Pairing)),
    GoodAt c A C sigs evs → BarsOk c C (cutAt c A sigs evs) := by
  intro sigs
  induction sigs with
  | nil => intro _ _ _ _; trivial
  | cons s rest ih =>
    intro A C evs hg
    cases rest with
    | nil =>
      refine ⟨barOk_first c A C s [] evs evs hg (fun _ h => h) hg.ordered (fun h => absurd rfl h) (fun ev h _ _ _ => h), trivial⟩
    | cons s2 rest =>
      obtain ⟨hs1, hs2, hs3⟩ := hg.pos s List.mem_cons_self
      have hposR : ∀ x ∈ s2 :: rest, 0 < x.1 ∧ 0 < x.2 ∧ 0 < c.capacity x.1 x.2 :=
        fun x hx => hg.pos x (List.mem_cons_of_mem _ hx)
      have hdw := dropWhile_not_before (A + c.capacity s.1 s.2) evs hg.ordered hg.nonempty
      have ht : total c (s :: s2 :: rest) = c.capacity s.1 s.2 + total c (s2 :: rest) := rfl
      have hdsub : ∀ ev ∈ evs.dropWhile (before (A + c.capacity s.1 s.2)), ev ∈ evs :=
        fun ev h => (List.dropWhile_sublist _).subset h
      refine ⟨?_, ?_⟩
      · exact barOk_first c A C s (s2 :: rest) evs _ hg
          (fun ev h => (mem_takeWhile_before _ _ ev h).1)
          (hg.ordered.sublist (List.takeWhile_sublist _))
          (fun _ ev h => (mem_takeWhile_before _ _ ev h).2)
          (fun ev hev m hm hlt => mem_takeWhile_of_before _ evs hg.ordered hg.nonempty ev hev m hm hlt)
      · apply ih
        refine ⟨hposR, fun ev h => hg.nonempty ev (hdsub ev h), fun ev h => hg.chans ev (hdsub ev h), ?_,
          hg.ordered.sublist (List.dropWhile_sublist _), ?_, ?_, ?_⟩
        · intro ev hev m hm
          have h1 := hg.range ev (hdsub ev hev) m hm
          have h2 := hdw ev hev m hm
          rw [ht] at h1
          constructor <;> omega
        · intro ev hev m hm hty
          have h2 := hdw ev hev m hm
          rcases hg.sigOk ev (hdsub ev hev) m hm hty with ⟨h1, _⟩ | h1
          · omega
          · exact h1
        · intro ev hev m hm hty
          have h1 := hg.noteOk ev (hdsub ev hev) m hm hty
          rw [ht] at h1
          omega
        · refine announced_mono c evs _ _ _ _ hposR ?_ hg.ann.2
          intro ev hev m hm hge
          rw [← List.takeWhile_append_dropWhile (p := before (A + c.capacity s.1 s.2)) (l := evs)] at hev
          rcases List.mem_append.1 hev with h | h
          · have := (mem_takeWhile_before _ _ ev h).2 m hm
            omega
          · exact h

end SCoda.GlueL
