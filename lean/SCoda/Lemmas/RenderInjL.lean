/-
  `render` (Model/Render.lean) is injective on ALL tokens, signed fields included.  `parseTok` fails on signed numbers, so the
  text cannot be read back by parsing; here the characters are read directly: a token text is a `-`-separated list of items `prefix(_number)*`, a number is an
  optional `-` followed by a non-empty block of digits, a prefix contains neither `-` nor `_` and is not empty, so the
  boundaries are determined by the text (a `-` after `_` is a sign, a `-` after a digit or a prefix is a separator).
-/
import SCoda.Lemmas.RenderL
set_option linter.unusedSimpArgs false
namespace SCoda.RenderL
open SCoda

def HeadNot (P : Char → Bool) (x : List Char) : Prop := ∀ c, x.head? = some c → P c = false

/-- two `P`-blocks followed by non-`P` remainders: equal concatenations have equal blocks and remainders (the block is what
    `takeWhile P` takes of the text) -/
theorem block_cancel (P : Char → Bool) (a b x y : List Char) (ha : ∀ c ∈ a, P c = true) (hb : ∀ c ∈ b, P c = true)
    (hx : HeadNot P x) (hy : HeadNot P y) (h : a ++ x = b ++ y) : a = b ∧ x = y := by
  have key : ∀ a x, (∀ c ∈ a, P c = true) → HeadNot P x → (a ++ x).takeWhile P = a := by
    intro a x ha hx
    rw [List.takeWhile_append_of_pos ha]
    cases x with
    | nil => simp
    | cons c r => simp [hx c rfl]
  have e : a = b := by rw [← key a x ha hx, h, key b y hb hy]
  subst e
  exact ⟨rfl, List.append_cancel_left h⟩

theorem zpadC_inj (k₁ k₂ n₁ n₂ : Nat) (h : zpadC k₁ n₁ = zpadC k₂ n₂) : n₁ = n₂ := by
  have := congrArg (fun l => Nat.ofDigitChars 10 l 0) h
  simpa [zpadC, Nat.ofDigitChars_append, Nat.ofDigitChars_replicate_zero, Nat.ofDigitChars_toDigits] using this

theorem zpadC_head_digit (k n : Nat) : ∃ c r, zpadC k n = c :: r ∧ c.isDigit = true := by
  cases h : zpadC k n with
  | nil => exact absurd h (zpadC_ne_nil k n)
  | cons c r => exact ⟨c, r, rfl, zpadC_isDigit k n c (by rw [h]; simp)⟩

theorem num_cancel (k₁ k₂ : Nat) (v₁ v₂ : Int) (x y : List Char) (hx : HeadNot Char.isDigit x) (hy : HeadNot Char.isDigit y)
    (h : numC k₁ v₁ ++ x = numC k₂ v₂ ++ y) : v₁ = v₂ ∧ x = y := by
  obtain ⟨c₁, r₁, e₁, d₁⟩ := zpadC_head_digit k₁ v₁.natAbs
  obtain ⟨c₂, r₂, e₂, d₂⟩ := zpadC_head_digit k₂ v₂.natAbs
  by_cases h1 : v₁ < 0 <;> by_cases h2 : v₂ < 0
  · simp only [numC, h1, h2, if_true, List.cons_append, List.nil_append, List.cons.injEq, true_and] at h
    obtain ⟨e, rfl⟩ := block_cancel Char.isDigit _ _ x y (zpadC_isDigit _ _) (zpadC_isDigit _ _) hx hy h
    have := zpadC_inj _ _ _ _ e
    exact ⟨by omega, rfl⟩
  · simp only [numC, h1, h2, if_true, if_false, List.cons_append, List.nil_append, e₂, List.cons.injEq] at h
    rw [← h.1] at d₂; cases d₂
  · simp only [numC, h1, h2, if_true, if_false, List.cons_append, List.nil_append, e₁, List.cons.injEq] at h
    rw [h.1] at d₁; cases d₁
  · simp only [numC, h1, h2, if_false, List.nil_append] at h
    obtain ⟨e, rfl⟩ := block_cancel Char.isDigit _ _ x y (zpadC_isDigit _ _) (zpadC_isDigit _ _) hx hy h
    have := zpadC_inj _ _ _ _ e
    exact ⟨by omega, rfl⟩

def isPfxChar (c : Char) : Bool := c != '-' && c != '_'

theorem pfx_chars (n : Nm) : ∀ c ∈ (prefixOf n.str).toList, isPfxChar c = true := by
  intro c hc
  obtain ⟨h1, h2, -⟩ := n.pfx_clean c hc
  simp [isPfxChar, h1, h2]

theorem pfx_ne_nil (n : Nm) : (prefixOf n.str).toList ≠ [] :=
  table_prefixes_ne_nil (n.str, prefixOf n.str) (prefixOf_entry n.str n.str_mem)

theorem pfx_inj (a b : Nm) (h : (prefixOf a.str).toList = (prefixOf b.str).toList) : a = b :=
  Nm.pfx_inj (String.toList_injective h)

/-- `_n₁_n₂…` -/
def numsC (w : Nat) : List Int → List Char
  | [] => []
  | v :: vs => '_' :: ((zpad w v).toList ++ numsC w vs)

def itemC (it : Nm × List Int) : List Char := (prefixOf it.1.str).toList ++ numsC it.1.width it.2

def itemsC : List (Nm × List Int) → List Char
  | [] => []
  | [a] => itemC a
  | a :: b :: r => itemC a ++ '-' :: itemsC (b :: r)

/-- what follows an item: nothing, or the separator `-` -/
def Tail (x : List Char) : Prop := x = [] ∨ ∃ r, x = '-' :: r

theorem numsC_headNot (P : Char → Bool) (hus : P '_' = false) (hdash : P '-' = false) (w : Nat) (vs : List Int)
    (x : List Char) (hx : Tail x) : HeadNot P (numsC w vs ++ x) := by
  intro c hc
  cases vs with
  | nil =>
    rcases hx with rfl | ⟨r, rfl⟩
    · cases hc
    · cases hc; exact hdash
  | cons a l => cases hc; exact hus

theorem numsC_cancel (w₁ w₂ : Nat) : ∀ (vs₁ vs₂ : List Int) (x y : List Char), Tail x → Tail y →
    numsC w₁ vs₁ ++ x = numsC w₂ vs₂ ++ y → vs₁ = vs₂ ∧ x = y := by
  intro vs₁
  induction vs₁ with
  | nil =>
    intro vs₂ x y hx hy h
    cases vs₂ with
    | nil => exact ⟨rfl, h⟩
    | cons v vs =>
      simp only [numsC, List.nil_append, List.cons_append] at h
      rcases hx with rfl | ⟨r, rfl⟩ <;> simp at h
  | cons v₁ vs₁ ih =>
    intro vs₂ x y hx hy h
    cases vs₂ with
    | nil =>
      simp only [numsC, List.nil_append, List.cons_append] at h
      rcases hy with rfl | ⟨r, rfl⟩ <;> simp at h
    | cons v₂ vs₂ =>
      simp only [numsC, List.cons_append, List.cons.injEq, true_and, List.append_assoc] at h
      obtain ⟨k₁, e₁⟩ := zpad_toList w₁ v₁
      obtain ⟨k₂, e₂⟩ := zpad_toList w₂ v₂
      rw [e₁, e₂] at h
      obtain ⟨rfl, h'⟩ := num_cancel k₁ k₂ v₁ v₂ _ _ (numsC_headNot _ rfl rfl w₁ vs₁ x hx)
        (numsC_headNot _ rfl rfl w₂ vs₂ y hy) h
      obtain ⟨rfl, rfl⟩ := ih vs₂ x y hx hy h'
      exact ⟨rfl, rfl⟩

theorem itemC_cancel (a b : Nm × List Int) (x y : List Char) (hx : Tail x) (hy : Tail y)
    (h : itemC a ++ x = itemC b ++ y) : a = b ∧ x = y := by
  obtain ⟨n₁, vs₁⟩ := a
  obtain ⟨n₂, vs₂⟩ := b
  simp only [itemC, List.append_assoc] at h
  obtain ⟨hp, h'⟩ := block_cancel isPfxChar _ _ _ _ (pfx_chars n₁) (pfx_chars n₂)
    (numsC_headNot _ rfl rfl _ vs₁ x hx) (numsC_headNot _ rfl rfl _ vs₂ y hy) h
  have := pfx_inj _ _ hp
  subst this
  obtain ⟨rfl, rfl⟩ := numsC_cancel _ _ vs₁ vs₂ x y hx hy h'
  exact ⟨rfl, rfl⟩

theorem itemC_ne_nil (a : Nm × List Int) : itemC a ≠ [] := by
  intro h
  simp only [itemC, List.append_eq_nil_iff] at h
  exact pfx_ne_nil a.1 h.1

/-- what `itemsC` writes behind its first item -/
def restC : List (Nm × List Int) → List Char
  | [] => []
  | b :: r => '-' :: itemsC (b :: r)

theorem itemsC_cons (a : Nm × List Int) (r : List (Nm × List Int)) : itemsC (a :: r) = itemC a ++ restC r := by
  cases r <;> simp [itemsC, restC]

theorem tail_restC (r : List (Nm × List Int)) : Tail (restC r) := by
  cases r with
  | nil => exact Or.inl rfl
  | cons b r => exact Or.inr ⟨_, rfl⟩

theorem itemsC_inj : ∀ l₁ l₂ : List (Nm × List Int), itemsC l₁ = itemsC l₂ → l₁ = l₂ := by
  intro l₁
  induction l₁ with
  | nil =>
    intro l₂ h
    cases l₂ with
    | nil => rfl
    | cons b r =>
      rw [itemsC_cons] at h
      have : itemC b = [] := (List.append_eq_nil_iff.1 h.symm).1
      exact absurd this (itemC_ne_nil b)
  | cons a r₁ ih =>
    intro l₂ h
    cases l₂ with
    | nil =>
      rw [itemsC_cons] at h
      have : itemC a = [] := (List.append_eq_nil_iff.1 h).1
      exact absurd this (itemC_ne_nil a)
    | cons b r₂ =>
      rw [itemsC_cons, itemsC_cons] at h
      obtain ⟨rfl, h'⟩ := itemC_cancel a b _ _ (tail_restC r₁) (tail_restC r₂) h
      have : itemsC r₁ = itemsC r₂ := by
        cases r₁ <;> cases r₂ <;> simp [restC] at h' ⊢
        exact h'
      rw [ih r₂ this]

theorem optItem_head (n : Nm) (a : Option Int) : ∀ y ∈ (optItem n a).head?, y.1 = n := by
  cases a <;> simp [optItem]

theorem optItem_cancel (n : Nm) (a a' : Option Int) (X X' : List (Nm × List Int))
    (hX : ∀ y ∈ X.head?, y.1 ≠ n) (hX' : ∀ y ∈ X'.head?, y.1 ≠ n) (h : optItem n a ++ X = optItem n a' ++ X') :
    a = a' ∧ X = X' := by
  cases a <;> cases a' <;> simp only [optItem, List.nil_append, List.cons_append] at h
  · exact ⟨rfl, h⟩
  · subst h; exact absurd rfl (hX _ rfl)
  · subst h; exact absurd rfl (hX' _ rfl)
  · simp only [List.cons.injEq, Prod.mk.injEq, true_and] at h
    exact ⟨by rw [h.1.1], h.2⟩

theorem items_note_inj {t t' : Option Int} {p p' : Int} {v v' w w' : Option Int}
    (h : items (.note t p v w) = items (.note t' p' v' w')) : Tok.note t p v w = .note t' p' v' w' := by
  simp only [items, List.append_assoc, List.cons_append, List.nil_append] at h
  obtain ⟨rfl, h1⟩ := optItem_cancel .trk t t' _ _ (by simp) (by simp) h
  simp only [List.cons.injEq, Prod.mk.injEq, true_and, and_true] at h1
  obtain ⟨rfl, h2⟩ := h1
  obtain ⟨rfl, h3⟩ := optItem_cancel .val v v' _ _ (fun y hy => by rw [optItem_head _ _ y hy]; decide)
    (fun y hy => by rw [optItem_head _ _ y hy]; decide) h2
  obtain ⟨rfl, -⟩ := optItem_cancel .vel w w' [] [] (by simp) (by simp) (by simpa using h3)
  rfl

/-- a note token has a pitch item; no other token has one -/
theorem items_note_ne (t : Option Int) (p : Int) (v w : Option Int) (n : Nm) (a : List Int) (hn : n ≠ .pit) :
    items (.note t p v w) ≠ [(n, a)] := by
  cases t <;> simp [items, optItem, Ne.symm hn]

theorem items_inj (t₁ t₂ : Tok) (h : items t₁ = items t₂) : t₁ = t₂ := by
  cases t₁ with
  | note t p v w =>
    cases t₂ with
    | note t' p' v' w' => exact items_note_inj h
    | _ => exact absurd h (items_note_ne t p v w _ _ (by decide))
  | _ =>
    cases t₂ with
    | note t' p' v' w' => exact absurd h.symm (items_note_ne t' p' v' w' _ _ (by decide))
    | _ => cases h <;> rfl

theorem render_toList (t : Tok) : (render t).toList = itemsC (items t) := by
  rcases t with _ | _ | _ | _ | v | v | v | v | ⟨(_ | a), b, (_ | c), (_ | d)⟩ | ⟨n, d⟩ <;>
    simp [render, items, optItem, itemsC, itemC, numsC, Nm.str, Nm.width, String.toList_append]

theorem render_inj (t₁ t₂ : Tok) (h : render t₁ = render t₂) : t₁ = t₂ := by
  apply items_inj
  apply itemsC_inj
  rw [← render_toList, ← render_toList, h]

end SCoda.RenderL
