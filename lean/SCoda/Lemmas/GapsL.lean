/-
  Helper lemmas for `Props/Gaps.lean` (audit items A12, A15, A17 of docs/audit_report_round1.md):
  * C14: the generated key function (`genTk`, built from `Gen.transposeKey`), the closed form of `Bar.transpose`
    (Model/BarOps.lean; that of `Sequence.transpose` is `WrapperL.transposeSeq_read`);
  * C10: exact quotient or floor;
  * C18: the wrapper invariant on concrete `Seq` states and what both views show after a view-local mutator;
  * C19: the detokeniser never removes a placed message (every branch of `dpart` leaves `seqs` alone or inserts with
    `insort`), threaded `tokenise` calls.
-/
import SCoda.Model.BarOps
import SCoda.Props.C14
import SCoda.Props.C20
import SCoda.Props.C06
import SCoda.Props.C04b
import SCoda.Lemmas.WrapperL
import SCoda.Props.C19b
import SCoda.Lemmas.PyLoop
namespace SCoda.GapsL
open SCoda SCoda.C01 SCoda.C19

theorem genTk_eq_tkGen (k by_ : Int) : genTk k by_ = C14.tkGen by_ k := rfl

theorem genTk_valid (k by_ : Int) (hk : C20.validKey k) :
    ∃ k', Gen.transposeKey k by_ = some k' ∧ genTk k by_ = k' ∧ C20.validKey k'
      ∧ C20.tonicD k' = (C20.tonicD k + by_) % 12 := by
  obtain ⟨k', h1, hv, ht⟩ := C20.tonic_of_transpose k by_ hk
  exact ⟨k', h1, C14.tkGen_eq by_ k k' hk hv h1, hv, ht⟩

theorem validKey_ne_none (k : Int) (hk : C20.validKey k) : k ≠ pyNone := by
  have hk' : 0 ≤ k ∧ k < (C20.nKeys : Int) := hk
  simp only [pyNone]; omega

theorem genTk_back (k by_ : Int) (hk : C20.validKey k) :
    C20.validKey (genTk (genTk k by_) (-by_)) ∧
      C20.tonicD (genTk (genTk k by_) (-by_)) = C20.tonicD k := by
  obtain ⟨k1, _, e1, v1, t1⟩ := genTk_valid k by_ hk
  rw [e1]
  obtain ⟨k2, _, e2, v2, t2⟩ := genTk_valid k1 (-by_) v1
  rw [e2]
  refine ⟨v2, ?_⟩
  obtain ⟨t, ht, h0, h12, _⟩ := C20.scales_major k hk
  have : C20.tonicD k = t := by simp [C20.tonicD, ht]
  rw [t2, t1, this]; omega

/-- what a message looks like after transposing by `by_` and back by `-by_` when nothing wraps:
    only the key of a key signature may be re-spelled -/
def ksBack (by_ : Int) (m : Msg) : Msg :=
  if m.ty == .keySignature then { m with key := genTk (genTk m.key by_) (-by_) } else m

theorem ksBack_ty (by_ : Int) (m : Msg) : (ksBack by_ m).ty = m.ty := by
  unfold ksBack; split <;> rfl
theorem ksBack_time (by_ : Int) (m : Msg) : (ksBack by_ m).time = m.time := by
  unfold ksBack; split <;> rfl
theorem ksBack_note (by_ : Int) (m : Msg) (h : m.ty ≠ .keySignature) : ksBack by_ m = m := by
  unfold ksBack; simp [h]
theorem ksBack_stamp (by_ : Int) (m : Msg) (c : Int) :
    ksBack by_ { m with time := c } = { ksBack by_ m with time := c } := by
  unfold ksBack; split <;> rfl

theorem eventsRelGo_ksBack (by_ : Int) (cur : Int) (r : List Msg) :
    eventsRelGo cur (r.map (ksBack by_)) = (eventsRelGo cur r).map (ksBack by_) :=
  eventsRelGo_hom (ksBack by_) (ksBack by_) id (ksBack_ty by_) (fun _ m _ => by rw [ksBack_time]; rfl)
    (fun c m _ => ksBack_stamp by_ m c) r cur

theorem notesGo_ksBack (by_ : Int) (evs opens : List Msg) :
    notesGo (evs.map (ksBack by_)) opens = notesGo evs opens := by
  induction evs generalizing opens with
  | nil => rfl
  | cons m ms ih =>
    simp only [List.map_cons, notesGo, ksBack_ty]
    by_cases hks : m.ty = .keySignature
    · simp only [hks]
      exact ih _
    · rw [ksBack_note by_ m hks]
      split
      · exact ih _
      · split
        · split <;> simp only [ih]
        · exact ih _

theorem totalWait_ksBack (by_ : Int) (r : List Msg) : totalWait (r.map (ksBack by_)) = totalWait r :=
  totalWait_map _ (ksBack_ty by_) (ksBack_time by_) r

theorem mem_toAbs_src (r : List Msg) (m : Msg) (hm : m ∈ toAbs r) (hty : m.ty ≠ .internal) :
    ∃ m0 ∈ r, m0.ty = m.ty ∧ m = { m0 with time := m.time } := by
  obtain ⟨m0, h0, -, t, rfl⟩ := eventsRelGo_src r 0 m (mem_toAbs_events hm hty)
  exact ⟨m0, h0, rfl, rfl⟩

/-- a key-signature message is the image of a key signature of `r` under the generated key function (its tick is not read:
    a re-timed image is an image) -/
def KeyImage (by_ : Int) (r : List Msg) (m' : Msg) : Prop :=
  ∃ m ∈ r, m.ty = .keySignature ∧ m'.ch = m.ch ∧ Gen.transposeKey m.key by_ = some m'.key
    ∧ C20.validKey m'.key ∧ C20.tonicD m'.key = (C20.tonicD m.key + by_) % 12

theorem transposeRel_keys (lo hi : Int) (by_ : Int) (r : List Msg)
    (hk : ∀ m ∈ r, m.ty = .keySignature → C20.validKey m.key) :
    ∀ m' ∈ (transposeRel lo hi (fun k => genTk k by_) by_ r).1, m'.ty = .keySignature → KeyImage by_ r m' := by
  intro m' hm' hty
  simp only [transposeRel, List.mem_map] at hm'
  obtain ⟨m, hm, rfl⟩ := hm'
  have hty0 : m.ty = .keySignature := by rw [← C14.transposeMsg_ty lo hi (fun k => genTk k by_) by_ m]; exact hty
  have := (C14.image_pointwise lo hi (fun k => genTk k by_) by_ m).2.1 hty0
  rw [this]
  obtain ⟨k', e1, e2, e3, e4⟩ := genTk_valid m.key by_ (hk m hm hty0)
  exact ⟨m, hm, hty0, rfl, by simp only [e2]; exact e1, by simp only [e2]; exact e3, by simp only [e2]; exact e4⟩

/-- position-wise relation between two lists (which then have equal length) -/
def Pointwise {α β} (R : α → β → Prop) : List α → List β → Prop
  | [], [] => True
  | a :: as, b :: bs => R a b ∧ Pointwise R as bs
  | _, _ => False

theorem pointwise_map_right {α β} (R : α → β → Prop) (f : α → β) (l : List α) (h : ∀ x ∈ l, R x (f x)) :
    Pointwise R l (l.map f) := by
  induction l with
  | nil => trivial
  | cons x xs ih =>
    exact ⟨h x (by simp), ih (fun y hy => h y (List.mem_cons_of_mem _ hy))⟩

theorem barTranspose_eq (e : Env) (b : Bar) (by_ : Int) :
    Bar.transpose e b by_ =
      if (transposeRel e.noteLo e.noteHi (fun k => e.tk k by_) by_ b.seq).2 = true then
        (match quantiseNoteLengths e.defValues e.ppqn false
            (toAbs (normalise (transposeRel e.noteLo e.noteHi (fun k => e.tk k by_) by_ b.seq).1)) with
          | .ok v => .ok ({ b with seq := toRel v,
                                   key := if b.key == pyNone then pyNone else e.tk b.key by_ }, true)
          | .error err => .error err)
      else .ok ({ b with seq := (transposeRel e.noteLo e.noteHi (fun k => e.tk k by_) by_ b.seq).1,
                         key := if b.key == pyNone then pyNone else e.tk b.key by_ }, false) := by
  unfold Bar.transpose
  simp only [WrapperL.transposeSeq_read e (Seq.ofRel b.seq) (Seq.ofRel b.seq) b.seq by_ rfl]
  by_cases hc : (transposeRel e.noteLo e.noteHi (fun k => e.tk k by_) by_ b.seq).2 = true
  · simp only [hc, if_true]
    cases quantiseNoteLengths e.defValues e.ppqn false
        (toAbs (normalise (transposeRel e.noteLo e.noteHi (fun k => e.tk k by_) by_ b.seq).1)) <;> rfl
  · simp only [hc, Bool.false_eq_true, if_false]
    rfl

theorem barTranspose_ok {e : Env} {b b' : Bar} {by_ : Int} {flag : Bool} (h : Bar.transpose e b by_ = .ok (b', flag)) :
    flag = (transposeRel e.noteLo e.noteHi (fun k => e.tk k by_) by_ b.seq).2
    ∧ b'.num = b.num ∧ b'.den = b.den
    ∧ b'.key = (if b.key == pyNone then pyNone else e.tk b.key by_)
    ∧ (flag = false → b'.seq = (transposeRel e.noteLo e.noteHi (fun k => e.tk k by_) by_ b.seq).1)
    ∧ (flag = true → ∃ v,
        quantiseNoteLengths e.defValues e.ppqn false
          (toAbs (normalise (transposeRel e.noteLo e.noteHi (fun k => e.tk k by_) by_ b.seq).1)) = .ok v
        ∧ b'.seq = toRel v) := by
  rw [barTranspose_eq] at h
  by_cases hc : (transposeRel e.noteLo e.noteHi (fun k => e.tk k by_) by_ b.seq).2 = true
  · rw [if_pos hc] at h
    split at h
    · rename_i v hv
      cases h
      exact ⟨hc.symm, rfl, rfl, rfl, (fun hh => by cases hh), fun _ => ⟨v, hv, rfl⟩⟩
    · cases h
  · rw [if_neg hc] at h
    cases h
    exact ⟨((Bool.not_eq_true _).mp hc).symm, rfl, rfl, rfl, fun _ => rfl, fun hh => by cases hh⟩

theorem ediv_exact_or_floor (N d : Int) (hd : 0 < d) :
    (d ∣ N → N / d * d = N) ∧ (¬ d ∣ N → N / d * d < N ∧ N < (N / d + 1) * d) := by
  have h1 := Int.emod_add_mul_ediv N d
  have h2 := Int.emod_nonneg N (Int.ne_of_gt hd)
  have h3 := Int.emod_lt_of_pos N hd
  rw [Int.add_mul, Int.one_mul, Int.mul_comm (N / d) d]
  constructor
  · intro hdv
    have := Int.emod_eq_zero_of_dvd hdv
    omega
  · intro hdv
    have : N % d ≠ 0 := fun h => hdv (Int.dvd_of_emod_eq_zero h)
    omega

/-- the wrapper invariant of `C04` on concrete wrapper states -/
def SeqInv (s : Seq) : Prop := C04.Inv C04.views (C04.ofSeq s)

section
open SCoda.WrapperL

/-- both views of `s` can be read, are legal, and show the timed events `evs` (up to the order of
    simultaneous events) and the duration `dur` -/
def ViewsShow (s : Seq) (evs : List Msg) (dur : Int) : Prop :=
  (∃ s' a, s.readAbs = .ok (s', a) ∧ OkAbs a ∧ (eventsAbs a).Perm evs ∧ durAbs a = dur)
  ∧ (∃ s' r, s.readRel = .ok (s', r) ∧ OkRel r ∧ (eventsRel r).Perm evs ∧ durRel r = dur)

theorem inv_views (s : Seq) (h : SeqInv s) :
    ∃ s0 r, s.readRel = .ok (s0, r) ∧ ViewsShow s (eventsRel r) (durRel r) := by
  have hi := (inv_iff_generic s).2 h
  exact ⟨_, relView s, readRel_eq s hi.notBoth,
    ⟨_, absView s, readAbs_eq s hi.notBoth, absView_ok hi, views_events hi, views_dur hi⟩,
    ⟨_, relView s, readRel_eq s hi.notBoth, relView_ok hi, List.Perm.refl _, rfl⟩⟩

theorem inv_views_abs (s : Seq) (h : SeqInv s) :
    ∃ s0 a, s.readAbs = .ok (s0, a) ∧ OkAbs a ∧ ViewsShow s (eventsAbs a) (durAbs a) := by
  obtain ⟨_, _, _, ⟨s1, a, ha, oka, pa, da⟩, ⟨s2, r, hr, okr, pr, dr⟩⟩ := inv_views s h
  exact ⟨s1, a, ha, oka, ⟨s1, a, ha, oka, List.Perm.refl _, rfl⟩, ⟨s2, r, hr, okr, pr.trans pa.symm, dr.trans da.symm⟩⟩

theorem onRel_views (s s0 : Seq) (r : List Msg) (f : List Msg → List Msg) (h : SeqInv s)
    (hread : s.readRel = .ok (s0, r)) (hf : OkRel r → OkRel (f r)) :
    ∃ s', s.onRel (fun r => .ok (f r)) = .ok s' ∧ SeqInv s' ∧ ViewsShow s' (eventsRel (f r)) (durRel (f r))
      ∧ s'.readRel = .ok (s', f r) := by
  have hi := (inv_iff_generic s).2 h
  rw [readRel_eq s hi.notBoth] at hread
  cases hread
  have hfr := hf (relView_ok hi)
  refine ⟨_, by rw [onRel_eq s hi.notBoth]; rfl, (inv_iff_generic _).1 (inv_setRel s _ hfr), ?_, rfl⟩
  exact ⟨⟨_, toAbs (f (relView s)), rfl, C04.toAbs_ok _ hfr, C04.toAbs_events _ hfr, C04.toAbs_duration _ hfr⟩,
    ⟨_, f (relView s), rfl, hfr, List.Perm.refl _, rfl⟩⟩

theorem onAbs_views (s s0 : Seq) (a : List Msg) (f : List Msg → List Msg) (h : SeqInv s)
    (hread : s.readAbs = .ok (s0, a)) (hf : OkAbs a → OkAbs (f a)) :
    ∃ s', s.onAbs (fun a => .ok (f a)) = .ok s' ∧ SeqInv s'
      ∧ s'.readAbs = .ok (s', f a) ∧ OkAbs (f a)
      ∧ ∃ s'', s'.readRel = .ok (s'', toRel (f a)) := by
  have hi := (inv_iff_generic s).2 h
  rw [readAbs_eq s hi.notBoth] at hread
  cases hread
  have hfa := hf (absView_ok hi)
  exact ⟨_, by rw [onAbs_eq s hi.notBoth]; rfl, (inv_iff_generic _).1 (inv_setAbs s _ hfa), rfl, hfa, _, rfl⟩

end

theorem nonNotes_eventsAbs_perm {a b : List Msg} (h : (nonNotes a).Perm (nonNotes b)) :
    (nonNotes (eventsAbs a)).Perm (nonNotes (eventsAbs b)) := by
  have e : ∀ x : List Msg, nonNotes (eventsAbs x) = (nonNotes x).filter (fun m => m.ty != .internal) := by
    intro x
    simp only [nonNotes, eventsAbs, List.filter_filter]
    congr 1
    funext m
    exact Bool.and_comm _ _
  rw [e, e]
  exact h.filter _

/-- every message of every output sequence of `a` is still in the same sequence of `b` -/
def SeqsLe (a b : List (List Msg)) : Prop :=
  ∀ (i : Nat) (l : List Msg), a[i]? = some l → ∃ l', b[i]? = some l' ∧ ∀ m ∈ l, m ∈ l'

theorem seqsLe_refl (a : List (List Msg)) : SeqsLe a a := fun _ l h => ⟨l, h, fun _ hm => hm⟩
theorem seqsLe_trans {a b c : List (List Msg)} (h1 : SeqsLe a b) (h2 : SeqsLe b c) : SeqsLe a c := by
  intro i l hl
  obtain ⟨l1, e1, m1⟩ := h1 i l hl
  obtain ⟨l2, e2, m2⟩ := h2 i l1 e1
  exact ⟨l2, e2, fun m hm => m2 m (m1 m hm)⟩

theorem seqsLe_addAbs (seqs : List (List Msg)) (i : Nat) (m : Msg) : SeqsLe seqs (addAbs seqs i m) := by
  intro j l h
  rw [addAbs, getElem?_modifyAt, h]
  split
  · exact ⟨_, rfl, fun _ hy => mem_insort_of_mem m hy⟩
  · exact ⟨l, rfl, fun _ hy => hy⟩

theorem seqsLe_map_insort (seqs : List (List Msg)) (m : Msg) :
    SeqsLe seqs (seqs.map (fun l => insort l m)) := by
  intro i l h
  exact ⟨insort l m, by simp [h], fun y hy => mem_insort_of_mem m hy⟩

theorem seqsLe_applyEmit (seqs : List (List Msg)) (e : Emit) : SeqsLe seqs (applyEmit seqs e) := by
  cases e with
  | barEnd t => exact seqsLe_map_insort _ _
  | note trk p v on off => exact seqsLe_trans (seqsLe_addAbs _ _ _) (seqsLe_addAbs _ _ _)
  | tsig t n d => exact seqsLe_addAbs _ _ _

theorem seqsLe_foldl_applyEmit (log : List Emit) : ∀ seqs, SeqsLe seqs (log.foldl applyEmit seqs) := by
  induction log with
  | nil => exact seqsLe_refl
  | cons e es ih => exact fun seqs => seqsLe_trans (seqsLe_applyEmit seqs e) (ih _)

theorem dpart_seqsLe (c : Cfg) (d d' : DetokSt) (p : Part) (h : dpart c d p = .ok d') :
    SeqsLe d.seqs d'.seqs := dpart_seqs c d d' p h ▸ seqsLe_foldl_applyEmit _ _

theorem dstep_seqsLe (c : Cfg) (d d' : DetokSt) (t : Tok) (h : dstep c d t = .ok d') :
    SeqsLe d.seqs d'.seqs :=
  foldlM_inv (fun x => SeqsLe d.seqs x.seqs) (fun _ => True) (dpart c)
    (fun p l l' _ hl h => seqsLe_trans hl (dpart_seqsLe c l l' p h)) t.parts d d' (fun _ _ => trivial) (seqsLe_refl _)
    (Detok.dstep_eq c d t ▸ h)

theorem foldlM_dstep_seqsLe (c : Cfg) (toks : List Tok) (d d' : DetokSt) (h : toks.foldlM (dstep c) d = .ok d') :
    SeqsLe d.seqs d'.seqs :=
  foldlM_inv (fun x => SeqsLe d.seqs x.seqs) (fun _ => True) (dstep c)
    (fun t l l' _ hl h => seqsLe_trans hl (dstep_seqsLe c l l' t h)) toks d d' (fun _ _ => trivial) (seqsLe_refl _) h

/-- **what a token places stays**: an accepted stream split at one of its tokens `t` -/
theorem placed_stays (c : Cfg) (pre post : List Tok) (t : Tok) (seqs : List (List Msg))
    (h : detokenise c (pre ++ t :: post) = .ok seqs) :
    ∃ d d', detokFold c pre = .ok d ∧ dstep c d t = .ok d' ∧ SeqsLe d'.seqs seqs := by
  rw [detokenise_eq] at h
  cases hf : detokFold c (pre ++ t :: post) with
  | error e => rw [hf] at h; cases h
  | ok dfin =>
    rw [hf] at h
    simp only [Except.map, Except.ok.injEq] at h
    subst h
    rw [detokFold_foldlM, List.foldlM_append] at hf
    obtain ⟨d, e1, hf⟩ := bind_eq_ok hf
    rw [List.foldlM_cons] at hf
    obtain ⟨d', e2, e3⟩ := bind_eq_ok hf
    exact ⟨d, d', by rw [detokFold_foldlM]; exact e1, e2, foldlM_dstep_seqsLe c post d' dfin e3⟩

theorem dstep_note_placed (c : Cfg) (d d' : DetokSt) (tr : Option Int) (p : Int) (v w : Option Int)
    (h : dstep c d (.note tr p v w) = .ok d') :
    ∃ l, d'.seqs[(tr.getD d.prvTrack).toNat]? = some l
      ∧ Msg.mkOn 0 p (w.getD d.prvVel) d.curTime ∈ l
      ∧ Msg.mkOff 0 p (d.curTime + v.getD d.prvValue) ∈ l :=
  let ⟨_, _, _, _, _, _, hplaced⟩ := dpart_pit (Detok.dstep_note_eq c d tr p v w ▸ h)
  hplaced

theorem getPosition_spec (p : Int) :
    Gen.getPosition p = some (genCof p) ∧ -5 ≤ genCof p ∧ genCof p ≤ 6
      ∧ Gen.circleOfFifthsOrder[(genCof p + 5).toNat]? = some (p % 12) := by
  obtain ⟨q, h1, h2⟩ := C20.getPosition_spec p
  rw [show genCof p = q by rw [genCof, h1]; rfl]
  exact ⟨h1, h2⟩

/-- a sequence of `tokenise` calls, each starting from the state the previous one returned; the token
    streams are concatenated -/
def threaded (c : Cfg) : TokSt → List (List (Int × Pairing)) → Except Err (List Tok × TokSt)
  | st, [] => .ok ([], st)
  | st, evs :: rest =>
    match tokeniseCore c st evs with
    | .error e => .error e
    | .ok (t1, st1) =>
      match threaded c st1 rest with
      | .error e => .error e
      | .ok (t2, st2) => .ok (t1 ++ t2, st2)

theorem evsOk_shift {c : Cfg} {evs : List (Int × Pairing)} (h : EvsOk c 0 0 evs) (t : Int) : EvsOk c t t evs :=
  ⟨h.chans, h.ordered, fun ev he m hm => by have := h.notBefore ev he m hm; omega, h.denPos⟩

/-- every signature event of the call announces bars of positive length: the hypothesis that `C01.fold_inv`,
    `C01.specLog_inv`, `C01.core_sim_ready`, `C01.sim_partial`, `C01.call_end` and `C19.times_monotone` spell out -/
def CapsPos (c : Cfg) (evs : List (Int × Pairing)) : Prop :=
  ∀ ev ∈ evs, ∀ m ∈ ev.2.head?, m.ty = .timeSignature → 0 < c.capacity m.num m.den

/-- call after call: `core_sim_ready`, `Plays.append` -/
theorem threaded_sim (c : Cfg) (hc : CfgOk c) (calls : List (List (Int × Pairing))) :
    ∀ (st st' : TokSt) (toks : List Tok), Ready c st →
      (∀ evs ∈ calls, EvsOk c 0 0 evs ∧ CapsPos c evs) → threaded c st calls = .ok (toks, st') →
      ∃ E, Plays c st toks st' E ∧ Ready c st' ∧ List.Pairwise (· < ·) (InBar.bes E)
        ∧ (∀ t ∈ InBar.bes E, st.curTime < t ∧ t ≤ st'.curTime) ∧ st.curTime ≤ st'.curTime := by
  induction calls with
  | nil =>
    intro st st' toks hr _ h
    simp only [threaded, Except.ok.injEq, Prod.mk.injEq] at h
    obtain ⟨rfl, rfl⟩ := h
    exact ⟨[], Plays.nil, hr, List.Pairwise.nil, by simp [InBar.bes], Int.le_refl _⟩
  | cons evs rest ih =>
    intro st st' toks hr hcalls h
    simp only [threaded] at h
    split at h
    · cases h
    · rename_i t1 st1 h1
      split at h
      · cases h
      · rename_i t2 st2 h2
        simp only [Except.ok.injEq, Prod.mk.injEq] at h
        obtain ⟨rfl, rfl⟩ := h
        obtain ⟨hev0, hcap⟩ := hcalls evs (by simp)
        obtain ⟨E, _, p1, hr1, hpw1, hb1, hle1⟩ :=
          core_sim_ready c hc st st1 evs t1 hr (evsOk_shift hev0 st.curTime) hcap h1
        obtain ⟨E2, p2, c3, c4, c5, c6⟩ := ih st1 st2 t2 hr1 (fun e he => hcalls e (by simp [he])) h2
        refine ⟨E ++ E2, p1.append p2, c3, ?_, ?_, by omega⟩
        · rw [InBar.bes_append, List.pairwise_append]
          refine ⟨hpw1, c4, fun a ha b hb => ?_⟩
          have := (hb1 a ha).2
          have := (c5 b hb).1
          omega
        · intro t ht
          rw [InBar.bes_append, List.mem_append] at ht
          rcases ht with ht | ht
          · have := hb1 t ht; omega
          · have := c5 t ht; omega

theorem threaded_init (c : Cfg) (hc : CfgOk c) (calls : List (List (Int × Pairing))) (toks : List Tok) (st' : TokSt)
    (hcalls : ∀ evs ∈ calls, EvsOk c 0 0 evs ∧ CapsPos c evs) (hcap0 : 0 < c.capacity c.defNum c.defDen)
    (hok : threaded c (TokSt.init c) calls = .ok (toks, st')) :
    ∃ d log, dfold c (DetokSt.init c) toks = .ok (d, log) ∧ RelD c st' d ∧ InBar.Mono c (DetokSt.init c) toks
      ∧ List.Pairwise (· < ·) (InBar.bes log) := by
  obtain ⟨E, hp, _, hpw, _⟩ := threaded_sim c hc calls _ st' toks (Ready.init c hcap0) hcalls hok
  obtain ⟨d, log, b1, b2, b3, hm⟩ := hp (DetokSt.init c) (relD_init c)
  exact ⟨d, log, b1, b2, hm, by rw [← b3, InBar.bes_filter] at hpw; exact hpw⟩

end SCoda.GapsL
