/-
  The event in force: `C13.latest ty evs t` is the event of type `ty` with the greatest tick `≤ t`, the later one in
  list order on equal ticks.  Pure list theory.  On a time-sorted list it is the last candidate (`latest_sorted`);
  `binary_insort` keeps it (`latest_insort`), so on any list it is the last candidate of the list stably sorted by tick
  (`latest_closed`).  How it passes through maps that keep type and tick, and that removing repeated values (`dedupBy`,
  what `normalise` does to signatures) does not change the value in force (`dedup_latest`).
-/
import SCoda.Props.C13
import SCoda.Lemmas.Normalise
import SCoda.Lemmas.RollNotes
import SCoda.Lemmas.OpsTable
namespace SCoda.E2E
open SCoda SCoda.MergeL SCoda.C13

def cand (ty : MType) (t : Int) (m : Msg) : Bool := m.ty == ty && decide (m.time ≤ t)

def lstep (ty : MType) (t : Int) (best : Option Msg) (m : Msg) : Option Msg :=
  if m.ty == ty && decide (m.time ≤ t) && best.all (fun b => decide (b.time ≤ m.time)) then some m else best

theorem latest_eq (ty : MType) (evs : List Msg) (t : Int) : latest ty evs t = evs.foldl (lstep ty t) Option.none := rfl

theorem lstep_not (ty : MType) (t : Int) (best : Option Msg) (m : Msg) (h : cand ty t m = false) :
    lstep ty t best m = best := by
  unfold cand at h
  simp [lstep, h]

theorem lstep_cand (ty : MType) (t : Int) (best : Option Msg) (m : Msg) (h : cand ty t m = true)
    (hb : ∀ b ∈ best, b.time ≤ m.time) : lstep ty t best m = some m := by
  unfold cand at h
  cases best with
  | none => simp [lstep, h]
  | some b => simp [lstep, h, hb b rfl]

theorem lstep_lt (ty : MType) (t : Int) (b m : Msg) (h : m.time < b.time) : lstep ty t (some b) m = some b := by
  have : ¬ b.time ≤ m.time := by omega
  simp [lstep, this]

theorem foldl_lstep_filter (ty : MType) (t : Int) (L : List Msg) (best : Option Msg) :
    L.foldl (lstep ty t) best = (L.filter (fun m => m.ty == ty)).foldl (lstep ty t) best := by
  rw [List.foldl_filter]
  congr 1
  funext b m
  split
  · rfl
  · rename_i hm
    exact lstep_not ty t b m (by simp [cand, hm])

theorem latest_filter (ty : MType) (t : Int) (L : List Msg) :
    latest ty L t = latest ty (L.filter (fun m => m.ty == ty)) t := foldl_lstep_filter ty t L none

theorem foldl_lstep_some (ty : MType) (t : Int) (L : List Msg) : ∀ b, ∃ x, L.foldl (lstep ty t) (some b) = some x := by
  induction L with
  | nil => intro b; exact ⟨b, rfl⟩
  | cons m ms ih =>
    intro b
    simp only [List.foldl_cons]
    unfold lstep
    split
    · exact ih m
    · exact ih b

theorem foldl_lstep_head (ty : MType) (t : Int) (S : List Msg) : ∀ d,
    (∀ m ∈ S, cand ty t m = true → d.time ≤ m.time) →
    S.foldl (lstep ty t) (some d) = (S.foldl (lstep ty t) none).or (some d) := by
  induction S with
  | nil => intro d _; rfl
  | cons x xs ih =>
    intro d hd
    simp only [List.foldl_cons]
    by_cases hx : cand ty t x = true
    · rw [lstep_cand ty t (some d) x hx (by intro b hb; cases hb; exact hd x List.mem_cons_self hx),
        lstep_cand ty t none x hx (by simp)]
      obtain ⟨y, hy⟩ := foldl_lstep_some ty t xs x
      rw [hy]; rfl
    · have hx' : cand ty t x = false := by simpa using hx
      rw [lstep_not ty t _ x hx', lstep_not ty t _ x hx']
      exact ih d (fun m hm => hd m (List.mem_cons_of_mem _ hm))

theorem latest_cons (ty : MType) (t : Int) (d : Msg) (S : List Msg) (hd : cand ty t d = true)
    (h : ∀ m ∈ S, cand ty t m = true → d.time ≤ m.time) :
    latest ty (d :: S) t = (latest ty S t).or (some d) := by
  rw [latest_eq]
  rw [List.foldl_cons, lstep_cand ty t none d hd (by simp)]
  exact foldl_lstep_head ty t S d h

theorem foldl_lstep_sorted (ty : MType) (t : Int) (L : List Msg) : ∀ best, Sorted L →
    (∀ b ∈ best, ∀ m ∈ L, b.time ≤ m.time) →
    L.foldl (lstep ty t) best = ((L.filter (cand ty t)).getLast?).or best := by
  induction L with
  | nil => intro best _ _; simp
  | cons x xs ih =>
    intro best hs hb
    have hs := List.pairwise_cons.1 hs
    simp only [List.foldl_cons]
    by_cases hx : cand ty t x = true
    · rw [lstep_cand ty t best x hx (fun b hb' => hb b hb' x List.mem_cons_self),
        ih (some x) hs.2 (by intro b hb' m hm; cases hb'; exact hs.1 m hm)]
      simp only [List.filter_cons, hx, if_true, List.getLast?_cons]
      cases (xs.filter (cand ty t)).getLast? <;> rfl
    · have hx' : cand ty t x = false := by simpa using hx
      rw [lstep_not ty t best x hx', ih best hs.2 (fun b hb' m hm => hb b hb' m (List.mem_cons_of_mem _ hm))]
      simp only [List.filter_cons, hx', Bool.false_eq_true, if_false]

theorem latest_sorted (ty : MType) (t : Int) (L : List Msg) (hs : Sorted L) :
    latest ty L t = (L.filter (cand ty t)).getLast? := by
  rw [latest_eq]
  rw [foldl_lstep_sorted ty t L none hs (by simp)]
  simp

theorem lastD_getLast {β} (l : List β) : ∀ p, lastD p l = l.getLast?.getD p := by
  induction l with
  | nil => intro p; rfl
  | cons x xs ih =>
    intro p
    simp only [lastD, List.getLast?_cons, Option.getD_some]
    rw [ih x]

theorem dedup_latest {β} [DecidableEq β] (ty : MType) (t : Int) (v : Msg → β) (p0 : β) (T : List Msg)
    (hs : Sorted T) (hty : ∀ x ∈ T, x.ty = ty) (hne : ∀ x ∈ T, v x ≠ p0) :
    (latest ty (dedupBy v p0 T) t).map v = (latest ty T t).map v := by
  have hsK : Sorted (dedupBy v p0 T) := List.Pairwise.sublist (dedupBy_sublist v T p0) hs
  rw [latest_sorted ty t _ hsK, latest_sorted ty t _ hs]
  obtain ⟨X, Y, hT, hX, hY⟩ := split_sorted T t hs
  have hcX : ∀ x ∈ X, cand ty t x = true := by
    intro x hx
    simp [cand, hty x (by rw [hT]; exact List.mem_append_left _ hx), hX x hx]
  have hcY : ∀ x ∈ Y, cand ty t x = false := by
    intro x hx
    have := hY x hx
    simp [cand]; intro _; omega
  have e1 : T.filter (cand ty t) = X := by
    rw [hT, List.filter_append, List.filter_eq_self.2 hcX, List.filter_eq_nil_iff.2 (by simpa using hcY),
      List.append_nil]
  have e2 : (dedupBy v p0 T).filter (cand ty t) = dedupBy v p0 X := by
    rw [hT, dedupBy_append, List.filter_append,
      List.filter_eq_self.2 (fun x hx => hcX x ((dedupBy_sublist v X p0).subset hx)),
      List.filter_eq_nil_iff.2 (fun x hx => by simpa using hcY x ((dedupBy_sublist v Y _).subset hx)),
      List.append_nil]
  rw [e1, e2]
  have h1 := lastD_dedupBy v X p0
  rw [lastD_getLast, lastD_getLast, List.getLast?_map, List.getLast?_map] at h1
  cases hXl : X.getLast? with
  | none =>
    have : X = [] := List.getLast?_eq_none_iff.1 hXl
    subst this
    rfl
  | some x =>
    have hx : x ∈ X := List.mem_of_getLast? hXl
    have hvx := hne x (by rw [hT]; exact List.mem_append_left _ hx)
    rw [hXl] at h1
    simp only [Option.map_some, Option.getD_some] at h1 ⊢
    cases hD : (dedupBy v p0 X).getLast? with
    | none => rw [hD] at h1; simp at h1; exact absurd h1.symm hvx
    | some y => rw [hD] at h1; simp at h1; simp [h1]

theorem map_or_some {α β} (g : α → β) (o : Option α) (d : α) :
    (o.or (some d)).map g = (o.map g).or (some (g d)) := by
  cases o <;> rfl

theorem latest_insort (ty : MType) (t : Int) (A : List Msg) (hs : Sorted A) (x : Msg) :
    latest ty (insort A x) t = lstep ty t (latest ty A t) x := by
  obtain ⟨p, hins, h2, h3⟩ := insort_split A x hs
  rw [latest_sorted ty t _ (insort_pairwise A x hs), latest_sorted ty t A hs, hins]
  conv => rhs; rw [← List.take_append_drop p A]
  simp only [List.filter_append, List.filter_cons]
  -- the candidates before and behind the place of `x`
  generalize hX : (A.take p).filter (cand ty t) = X
  generalize hD : (A.drop p).filter (cand ty t) = D
  have hXt : ∀ b ∈ X.getLast?, b.time ≤ x.time :=
    fun b hb => h2 b (List.mem_filter.1 (hX ▸ List.mem_of_getLast? hb)).1
  by_cases hx : cand ty t x = true
  · rw [if_pos hx, List.getLast?_append, List.getLast?_append, List.getLast?_cons]
    cases hl : D.getLast? with
    | none => exact (lstep_cand ty t _ x hx hXt).symm
    | some y => exact (lstep_lt ty t y x (h3 y (List.mem_filter.1 (hD ▸ List.mem_of_getLast? hl)).1)).symm
  · rw [if_neg hx, lstep_not ty t _ x (by simpa using hx)]

theorem latest_foldl_insort (ty : MType) (t : Int) (L : List Msg) : ∀ A, Sorted A →
    Sorted (L.foldl insort A) ∧ latest ty (L.foldl insort A) t = L.foldl (lstep ty t) (latest ty A t) := by
  induction L with
  | nil => intro A hA; exact ⟨hA, rfl⟩
  | cons x xs ih =>
    intro A hA
    simp only [List.foldl_cons]
    rw [← latest_insort ty t A hA x]
    exact ih _ (insort_pairwise A x hA)

theorem latest_insorted (ty : MType) (t : Int) (L : List Msg) : latest ty (L.foldl insort []) t = latest ty L t :=
  (latest_foldl_insort ty t L [] List.Pairwise.nil).2

theorem latest_closed (ty : MType) (t : Int) (L : List Msg) :
    latest ty L t = ((L.foldl insort []).filter (cand ty t)).getLast? := by
  rw [← latest_insorted, latest_sorted ty t _ (latest_foldl_insort ty t L [] List.Pairwise.nil).1]

theorem latest_mem {ty : MType} {t : Int} {L : List Msg} {b : Msg} (h : latest ty L t = some b) :
    b ∈ L ∧ cand ty t b = true := by
  rw [latest_closed] at h
  have := List.mem_filter.1 (List.mem_of_getLast? h)
  exact ⟨by simpa using (foldl_insort_perm L []).mem_iff.1 this.1, this.2⟩

theorem latest_isSome {ty : MType} {t : Int} {L : List Msg} {m : Msg} (hm : m ∈ L) (hc : cand ty t m = true) :
    ∃ b, latest ty L t = some b := by
  rw [latest_closed]
  have hmem : m ∈ (L.foldl insort []).filter (cand ty t) :=
    List.mem_filter.2 ⟨(foldl_insort_perm L []).mem_iff.2 (by simpa using hm), hc⟩
  cases h : ((L.foldl insort []).filter (cand ty t)).getLast? with
  | none => rw [List.getLast?_eq_none_iff.1 h] at hmem; cases hmem
  | some b => exact ⟨b, rfl⟩

theorem lstep_map (ty : MType) (t : Int) (g : Msg → Msg) (best : Option Msg) (m : Msg)
    (hm : (g m).ty = m.ty ∧ (g m).time = m.time) (hb : ∀ b ∈ best, (g b).time = b.time) :
    lstep ty t (best.map g) (g m) = (lstep ty t best m).map g := by
  unfold lstep
  rw [hm.1, hm.2]
  have : (best.map g).all (fun b => decide (b.time ≤ m.time)) = best.all (fun b => decide (b.time ≤ m.time)) := by
    cases best with
    | none => rfl
    | some b => simp [hb b rfl]
  rw [this]
  split <;> rfl

theorem latest_map (ty : MType) (t : Int) (g : Msg → Msg) (L : List Msg)
    (hg : ∀ m ∈ L, (g m).ty = m.ty ∧ (g m).time = m.time) : latest ty (L.map g) t = (latest ty L t).map g := by
  have : ∀ (best : Option Msg), (∀ b ∈ best, (g b).time = b.time) →
      (∀ m ∈ L, (g m).ty = m.ty ∧ (g m).time = m.time) →
      (L.map g).foldl (lstep ty t) (best.map g) = (L.foldl (lstep ty t) best).map g := by
    induction L with
    | nil => intro best _ _; rfl
    | cons x xs ih =>
      intro best hb hL
      simp only [List.map_cons, List.foldl_cons]
      rw [lstep_map ty t g best x (hL x List.mem_cons_self) hb]
      apply ih (fun m hm => hg m (List.mem_cons_of_mem _ hm))
      · intro b hb'
        unfold lstep at hb'
        split at hb'
        · simp only [Option.mem_def, Option.some.injEq] at hb'; subst hb'; exact (hL x List.mem_cons_self).2
        · exact hb b hb'
      · exact fun m hm => hL m (List.mem_cons_of_mem _ hm)
  exact this none (by simp) hg

theorem latest_map_congr {β} (ty : MType) (t : Int) (L : List Msg) (f g : Msg → β)
    (h : ∀ m ∈ L, m.ty = ty → f m = g m) : (latest ty L t).map f = (latest ty L t).map g := by
  cases hl : latest ty L t with
  | none => rfl
  | some b =>
    obtain ⟨hb, hc⟩ := latest_mem hl
    simp only [cand, Bool.and_eq_true, beq_iff_eq] at hc
    exact congrArg some (h b hb hc.1)

theorem latest_map_lift {β γ} (ty : MType) (t : Int) (L L' : List Msg) (v : Msg → β) (f : Msg → γ) (emb : β → γ)
    (hL : ∀ m ∈ L, m.ty = ty → f m = emb (v m)) (hL' : ∀ m ∈ L', m.ty = ty → f m = emb (v m))
    (e : (latest ty L t).map v = (latest ty L' t).map v) : (latest ty L t).map f = (latest ty L' t).map f := by
  rw [latest_map_congr ty t L f (fun m => emb (v m)) hL, latest_map_congr ty t L' f (fun m => emb (v m)) hL']
  simpa [Option.map_map, Function.comp_def] using congrArg (Option.map emb) e

theorem latest_dflt (ty : MType) (t : Int) (L : List Msg) (hL : ∀ m ∈ L, 0 ≤ m.time) (ht : ty = .timeSignature → 0 ≤ t) :
    latest ty (dfltSig ty ++ L) t = (latest ty L t).or (dfltSig ty).head? := by
  by_cases h : ty = .timeSignature
  · subst h
    exact latest_cons _ t _ L (by simp [cand, Msg.mkTimeSig, ht rfl]) (fun m hm _ => hL m hm)
  · have : dfltSig ty = [] := by cases ty <;> simp_all [dfltSig]
    rw [this]
    simp

theorem latest_dflt_congr {β : Type} (ty : MType) (t : Int) (L L' : List Msg) (v : Msg → β) (hL : ∀ m ∈ L, 0 ≤ m.time)
    (hL' : ∀ m ∈ L', 0 ≤ m.time) (ht : ty = .timeSignature → 0 ≤ t)
    (h : (latest ty L t).map v = (latest ty L' t).map v) :
    (latest ty (dfltSig ty ++ L) t).map v = (latest ty (dfltSig ty ++ L') t).map v := by
  rw [latest_dflt ty t L hL ht, latest_dflt ty t L' hL' ht]
  cases h1 : latest ty L t <;> cases h2 : latest ty L' t <;> simp_all

end SCoda.E2E
