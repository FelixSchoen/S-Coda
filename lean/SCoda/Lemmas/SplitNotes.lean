/-
  The notes through `split`, key by key, under the hypothesis that makes it keep them: no zero-length note on a
  boundary tick (`zlB B`, for a predicate `B` on ticks; `zl` / `NoZeroNotes` is the case "every tick").
  Everything is read off the closed form of one run of the inner loop (`SplitL.Run`).  The table of open notes, seen
  from one key, is the note-on of that key that is waiting (`get?_opensAfter`: the entry under `k` is `nkEnd k`), so it
  follows the alternation of the key (`key_instant`); partitioning the boundary instant into what stays and what is
  deferred does not reorder the events of a key (`events_partition`: the one place where `zlB` is used;
  `krun_partition`, `R_partition` read it), and the notes of the piece followed by the carried memory are those of the
  input cut at the boundary (`R_cut`, `Run.notes`; along the chain of runs `Runs.notes`).
  Two namespaces alternate, as the full names require: `SCoda.Strong589L` holds what is stated in the vocabulary of
  `Lemmas/RollCover` alone (`nkEnd`, `nkNotes`, `cutNotes`, `R`: the first block, and `R_offs` … `cut1_zl`), `SCoda.SplitL`
  what speaks of the `split` model (`zl`, `zlB`, the table, `key_*`, `AltOB`, `Run.notes`, `Runs.notes`).
-/
import SCoda.Lemmas.Split
import SCoda.Lemmas.RollCover
namespace SCoda.Strong589L
open SCoda SCoda.SplitL

/-- only channel, pitch, tick and velocity of the waiting note-on matter -/
theorem nkNotes_congr (k : Int × Int) (l : List Msg) (on on' : Msg)
    (h : ∀ t, mkN on t = mkN on' t) : nkNotes k l (some on) = nkNotes k l (some on') := by
  induction l with
  | nil => rfl
  | cons m ms ih =>
    rcases kev_cases k m with h1 | h1 | h1
    · rw [nkNotes_cons_on k m _ _ h1, nkNotes_cons_on k m _ _ h1]
    · rw [nkNotes_cons_off k m _ _ h1, nkNotes_cons_off k m _ _ h1]
      simp only [h]
    · rw [nkNotes_cons_skip k m _ _ h1, nkNotes_cons_skip k m _ _ h1, ih]

theorem cutNotes_nil (bs : List Int) : cutNotes bs [] = [] := cutNotes_id bs [] fun _ h => nomatch h

theorem stamp_ty (a : Int) (m : Msg) : (stamp a m).ty = m.ty := rfl

theorem mem_nk_of_notesOf {evs : List Msg} {n : Note} (h : n ∈ notesOf evs) :
    n ∈ nkNotes (n.ch, n.pitch) evs none := by
  rw [← notesOf_key]
  exact List.mem_filter.2 ⟨h, by simp [keyIs]⟩

end SCoda.Strong589L

namespace SCoda.SplitL
open SCoda SCoda.Strong589L

theorem not_kev_wait {k : Int × Int} {m : Msg} (h : m.ty = .wait) : ¬ Kev k m :=
  not_kev_of_ty (by simp [h]) (by simp [h])

/-- no note of key `k` has zero length: after a note-on of `k` (`fresh = true`) a positive wait
    comes before the next note-off of `k` -/
def zl (k : Int × Int) : Bool → List Msg → Prop
  | _, [] => True
  | fresh, m :: ms =>
    if m.ty = .wait then zl k (fresh && decide (m.time ≤ 0)) ms
    else if m.nkey = k ∧ m.ty = .noteOn then zl k true ms
    else if m.nkey = k ∧ m.ty = .noteOff then fresh = false ∧ zl k false ms
    else zl k fresh ms

def NoZeroNotes (r : List Msg) : Prop := ∀ k, zl k false r

theorem zl_cons_wait (k : Int × Int) (f : Bool) (m : Msg) (l : List Msg) (h : m.ty = .wait) :
    zl k f (m :: l) ↔ zl k (f && decide (m.time ≤ 0)) l := by
  simp [zl, h]

theorem zl_cons_on (k : Int × Int) (f : Bool) (m : Msg) (l : List Msg) (h : m.nkey = k ∧ m.ty = .noteOn) :
    zl k f (m :: l) ↔ zl k true l := by
  simp [zl, h]

theorem zl_cons_off (k : Int × Int) (f : Bool) (m : Msg) (l : List Msg) (h : m.nkey = k ∧ m.ty = .noteOff) :
    zl k f (m :: l) ↔ f = false ∧ zl k false l := by
  simp [zl, h]

theorem zl_cons_skip (k : Int × Int) (f : Bool) (m : Msg) (l : List Msg) (hw : m.ty ≠ .wait) (h : ¬ Kev k m) :
    zl k f (m :: l) ↔ zl k f l := by
  simp [zl, hw, (not_kev_iff.1 h).1, (not_kev_iff.1 h).2]

/-- no note of key `k` in `l` — read from clock `clk`, with the note-on `o` waiting — has zero length on a tick of `B` -/
def zlB (B : Int → Prop) (k : Int × Int) (o : Option Msg) (clk : Int) (l : List Msg) : Prop :=
  ∀ n ∈ nkNotes k (eventsRelGo clk l) o, n.on = n.off → ¬ B n.on

variable {B : Int → Prop}

theorem zlB_cons_wait (k : Int × Int) (o : Option Msg) (c : Int) (m : Msg) (l : List Msg) (h : m.ty = .wait) :
    zlB B k o c (m :: l) ↔ zlB B k o (c + m.time) l := by
  rw [zlB, eventsRelGo_cons_wait c m l h]; rfl

theorem zlB_cons_on (k : Int × Int) (o : Option Msg) (c : Int) (m : Msg) (l : List Msg) (h : m.nkey = k ∧ m.ty = .noteOn) :
    zlB B k o c (m :: l) ↔ zlB B k (some (stamp c m)) c l := by
  rw [zlB, eventsRelGo_cons_nowait c m l (by rw [h.2]; exact fun e => nomatch e)]
  change (∀ n ∈ nkNotes k (stamp c m :: _) o, _) ↔ _
  rw [nkNotes_cons_on k (stamp c m) _ o h]; rfl

theorem zlB_cons_off (k : Int × Int) (o : Option Msg) (c : Int) (m : Msg) (l : List Msg) (h : m.nkey = k ∧ m.ty = .noteOff) :
    zlB B k o c (m :: l) → zlB B k none c l := by
  rw [zlB, eventsRelGo_cons_nowait c m l (by rw [h.2]; exact fun e => nomatch e)]
  change (∀ n ∈ nkNotes k (stamp c m :: _) o, _) → _
  rw [nkNotes_cons_off k (stamp c m) _ o h]
  exact fun h0 n hn => h0 n (List.mem_append_right _ hn)

theorem zlB_cons_skip (k : Int × Int) (o : Option Msg) (c : Int) (m : Msg) (l : List Msg) (hw : m.ty ≠ .wait) (h : ¬ Kev k m) :
    zlB B k o c (m :: l) ↔ zlB B k o c l := by
  rw [zlB, eventsRelGo_cons_nowait c m l hw]
  change (∀ n ∈ nkNotes k (stamp c m :: _) o, _) ↔ _
  rw [nkNotes_cons_skip k (stamp c m) _ o h]; rfl

theorem zlB_drop (k : Int × Int) (u w : List Msg) (o : Option Msg) (a : Int) (h : zlB B k o a (u ++ w)) :
    zlB B k (nkEnd k (eventsRelGo a u) o) (a + totalWait u) w := fun n hn =>
  h n (by rw [eventsRelGo_append, nkNotes_append]; exact List.mem_append_right _ hn)

def keys (d : Assoc (Int × Int) Msg) : List (Int × Int) := d.map Prod.fst

theorem keys_set (d : Assoc (Int × Int) Msg) (k : Int × Int) (v : Msg) :
    keys (d.set k v) = if k ∈ keys d then keys d else keys d ++ [k] := by
  induction d with
  | nil => simp [Assoc.set, keys]
  | cons x rest ih =>
    obtain ⟨k', w⟩ := x
    simp only [Assoc.set]
    by_cases hk : k' = k
    · subst hk; simp [keys]
    · have hk' : ¬ k = k' := fun h => hk h.symm
      simp only [keys, List.map_cons, List.mem_cons, hk, hk', if_false, false_or] at ih ⊢
      rw [ih]
      split
      · rename_i h; simp [h]
      · rename_i h; simp [h]

theorem keys_erase (d : Assoc (Int × Int) Msg) (k : Int × Int) :
    keys (d.erase k) = (keys d).erase k := by
  induction d with
  | nil => simp [Assoc.erase, keys]
  | cons x rest ih =>
    obtain ⟨k', w⟩ := x
    simp only [Assoc.erase]
    by_cases hk : k' = k
    · subst hk; simp [keys]
    · simp only [keys, List.map_cons, hk, if_false] at ih ⊢
      rw [ih, List.erase_cons_tail (by simpa using hk)]

/-- the dictionary has distinct keys and every entry is filed under the key of its message -/
structure OpensOK (opens : Assoc (Int × Int) Msg) : Prop where
  nodup : (keys opens).Nodup
  cons : ∀ kv ∈ opens, kv.2.nkey = kv.1

theorem OpensOK.set {opens : Assoc (Int × Int) Msg} (h : OpensOK opens) (m : Msg) :
    OpensOK (opens.set m.nkey m) := by
  refine ⟨?_, ?_⟩
  · rw [keys_set]
    split
    · exact h.nodup
    · rename_i hk
      rw [List.nodup_append]
      refine ⟨h.nodup, by simp, ?_⟩
      intro a ha b hb
      simp at hb; subst hb
      intro hab; subst hab; exact hk ha
  · intro kv hkv
    rcases Q.mem_set hkv with hkv | hkv
    · exact h.cons kv hkv
    · subst hkv; rfl

theorem OpensOK.erase {opens : Assoc (Int × Int) Msg} (h : OpensOK opens) (k : Int × Int) :
    OpensOK (opens.erase k) := by
  refine ⟨?_, ?_⟩
  · rw [keys_erase]; exact h.nodup.erase _
  · intro kv hkv
    exact h.cons kv (Q.mem_erase hkv)

theorem OpensOK.nil : OpensOK [] := ⟨List.nodup_nil, fun _ h => nomatch h⟩

theorem OpensOK.nodupKeys {o : Assoc (Int × Int) Msg} (h : OpensOK o) : Q.NodupKeys o :=
  List.pairwise_map.1 h.nodup

theorem mem_keys_iff (d : Assoc (Int × Int) Msg) (k : Int × Int) : k ∈ keys d ↔ (d.get? k).isSome = true := by
  induction d with
  | nil => simp [keys, Assoc.get?]
  | cons x rest ih =>
    obtain ⟨k', w⟩ := x
    simp only [keys, List.map_cons, List.mem_cons, Assoc.get?] at ih ⊢
    by_cases hk : k' = k
    · simp [hk]
    · rw [if_neg hk, ← ih]
      exact ⟨fun h => h.resolve_left (fun e => hk e.symm), Or.inr⟩

/-- of the messages made from the dictionary entries (`g` is `offOf` or `onOf`), only the one filed under `k`, if
    there is one, is a note event of `k` -/
theorem opens_kev (k : Int × Int) (g : (Int × Int) × Msg → Msg) (hg : ∀ kv, (g kv).nkey = kv.2.nkey)
    (opens : Assoc (Int × Int) Msg) (h : OpensOK opens) :
    if k ∈ keys opens then ∃ u kv v, opens.map g = u ++ g kv :: v ∧ (g kv).nkey = k ∧
        (∀ x ∈ u, ¬ Kev k x) ∧ (∀ x ∈ v, ¬ Kev k x) ∧ kv ∈ opens
    else ∀ x ∈ opens.map g, ¬ Kev k x := by
  have hnot : ∀ l : Assoc (Int × Int) Msg, (∀ kv ∈ l, kv ∈ opens) → k ∉ keys l → ∀ x ∈ l.map g, ¬ Kev k x := by
    intro l hl hk x hx hkx
    obtain ⟨kv, hkv, rfl⟩ := List.mem_map.1 hx
    exact hk (List.mem_map.2 ⟨kv, hkv, ((hg kv).trans (h.cons kv (hl kv hkv))).symm.trans hkx.1⟩)
  split
  · rename_i hk
    obtain ⟨kv, hkv, rfl⟩ := List.mem_map.1 hk
    obtain ⟨l1, l2, rfl⟩ := List.append_of_mem hkv
    have hnd := h.nodup
    simp only [keys, List.map_append, List.map_cons, List.nodup_append, List.nodup_cons] at hnd
    refine ⟨l1.map g, kv, l2.map g, by rw [List.map_append, List.map_cons], (hg kv).trans (h.cons kv hkv),
      hnot l1 (fun x hx => List.mem_append_left _ hx) (fun hm => hnd.2.2 _ hm _ List.mem_cons_self rfl),
      hnot l2 (fun x hx => List.mem_append_right _ (List.mem_cons_of_mem _ hx)) hnd.2.1.1, hkv⟩
  · rename_i hk
    exact hnot opens (fun _ hx => hx) hk

theorem ons_not_kev (k : Int × Int) (opens : Assoc (Int × Int) Msg) (h : OpensOK opens) (hk : k ∉ keys opens) :
    ∀ x ∈ opens.map onOf, ¬ Kev k x := by
  have := opens_kev k onOf (fun _ => rfl) opens h
  rwa [if_neg hk] at this

theorem offs_not_kev (k : Int × Int) (opens : Assoc (Int × Int) Msg) (h : OpensOK opens) (hk : k ∉ keys opens) :
    ∀ x ∈ opens.map offOf, ¬ Kev k x := by
  have := opens_kev k offOf (fun _ => rfl) opens h
  rwa [if_neg hk] at this

theorem krun_offs (k : Int × Int) (b : Bool) (opens : Assoc (Int × Int) Msg) (h : OpensOK opens) (w : List Msg) :
    krun k b (opens.map offOf ++ w) =
      if k ∈ keys opens then (if b then krun k false w else none) else krun k b w := by
  have := opens_kev k offOf (fun _ => rfl) opens h
  by_cases hk : k ∈ keys opens
  · rw [if_pos hk] at this ⊢
    obtain ⟨u, kv, v, e, hkv, hu, hv, _⟩ := this
    rw [e, List.append_assoc, krun_skip_append k b u _ hu, List.cons_append, krun_cons_off k b _ _ ⟨hkv, rfl⟩,
      krun_skip_append k false v w hv]
  · rw [if_neg hk] at this ⊢
    exact krun_skip_append k b _ w this

theorem krun_ons (k : Int × Int) (b : Bool) (opens : Assoc (Int × Int) Msg) (h : OpensOK opens) (w : List Msg) :
    krun k b (opens.map onOf ++ w) =
      if k ∈ keys opens then (if b then none else krun k true w) else krun k b w := by
  have := opens_kev k onOf (fun _ => rfl) opens h
  by_cases hk : k ∈ keys opens
  · rw [if_pos hk] at this ⊢
    obtain ⟨u, kv, v, e, hkv, hu, hv, _⟩ := this
    rw [e, List.append_assoc, krun_skip_append k b u _ hu, List.cons_append, krun_cons_on k b _ _ ⟨hkv, rfl⟩,
      krun_skip_append k true v w hv]
  · rw [if_neg hk] at this ⊢
    exact krun_skip_append k b _ w this

theorem OpensOK.after {o : Assoc (Int × Int) Msg} (h : OpensOK o) (l : List Msg) : OpensOK (opensAfter o l) := by
  induction l generalizing o with
  | nil => exact h
  | cons m ms ih =>
    rw [opensAfter_cons]
    split
    · exact ih (h.set m)
    · split
      · exact ih (h.erase _)
      · exact ih h

/-- **the table seen from one key**: the entry under `k` after `l` has been written is the note-on of `k` waiting after `l` -/
theorem get?_opensAfter (k : Int × Int) : ∀ (l : List Msg) (o : Assoc (Int × Int) Msg), OpensOK o →
    (opensAfter o l).get? k = nkEnd k l (o.get? k) := by
  intro l
  induction l with
  | nil => intro o _; rfl
  | cons m ms ih =>
    intro o hok
    rw [opensAfter_cons]
    rcases kev_cases k m with h | h | h
    · rw [if_pos h.2, ih _ (hok.set m), Q.get?_set, if_pos h.1, nkEnd_cons_on k m ms _ h]
    · rw [if_neg (by rw [h.2]; exact fun c => nomatch c), if_pos h.2, ih _ (hok.erase _), Q.get?_erase hok.nodupKeys,
        if_pos h.1, nkEnd_cons_off k m ms _ h]
    · rw [nkEnd_cons_skip k m ms _ h]
      split
      · rename_i hon
        rw [ih _ (hok.set m), Q.get?_set, if_neg (fun e => h ⟨e, Or.inl hon⟩)]
      · split
        · rename_i hoff
          rw [ih _ (hok.erase _), Q.get?_erase_ne _ (fun e => h ⟨e, Or.inr hoff⟩)]
        · exact ih o hok

theorem zlB_fresh_nooff (k : Int × Int) (b : Int) (hb : B b) : ∀ (z w : List Msg) (on0 : Msg), Inst z → on0.time = b →
    zlB B k (some on0) b (z ++ w) → ∀ y ∈ z, ¬ (y.nkey = k ∧ y.ty = .noteOff) := by
  intro z
  induction z with
  | nil => intro w _ _ _ _ y hy; cases hy
  | cons x xs ih =>
    intro w on0 hz hon0 h y hy
    have hz' : Inst xs := hz.tail
    rw [List.cons_append] at h
    have key : (¬ (x.nkey = k ∧ x.ty = .noteOff)) ∧ ∃ on1, on1.time = b ∧ zlB B k (some on1) b (xs ++ w) := by
      by_cases hw : x.ty = .wait
      · rw [zlB_cons_wait k _ _ x _ hw, hz x List.mem_cons_self hw, Int.add_zero] at h
        exact ⟨fun c => by rw [hw] at c; exact (nomatch c.2), on0, hon0, h⟩
      · by_cases hon : x.nkey = k ∧ x.ty = .noteOn
        · rw [zlB_cons_on k _ _ x _ hon] at h
          exact ⟨fun c => by rw [hon.2] at c; exact (nomatch c.2), _, rfl, h⟩
        · by_cases hoff : x.nkey = k ∧ x.ty = .noteOff
          · -- the note from `on0` to this note-off has length zero
            have hzero := h (mkN on0 b) ?_ hon0
            · exact absurd hb (hon0 ▸ hzero)
            rw [eventsRelGo_cons_nowait b x _ hw]
            change _ ∈ nkNotes k (stamp b x :: _) _
            rw [nkNotes_cons_off k (stamp b x) _ _ hoff]
            exact List.mem_append_left _ (List.mem_singleton.2 rfl)
          · rw [zlB_cons_skip k _ _ x _ hw (not_kev_of hon hoff)] at h; exact ⟨hoff, on0, hon0, h⟩
    rcases List.mem_cons.1 hy with rfl | hy
    · exact key.1
    · obtain ⟨on1, h1, h2⟩ := key.2
      exact ih w on1 hz' h1 h2 y hy

/-- the partition of the boundary instant into what stays and what is deferred does not reorder the note events of a
    key: a deferred message is no event of `k`, or it is a note-on of `k`, and then no note-off of `k` stays behind it -/
theorem events_partition (k : Int × Int) (b : Int) (hb : B b) : ∀ (z w : List Msg) (o : Option Msg), Inst z →
    zlB B k o b (z ++ w) →
    (eventsRelGo b (z.filter stays ++ (z.filter (fun x => !stays x) ++ w))).filter (isKN k)
      = (eventsRelGo b (z ++ w)).filter (isKN k) := by
  intro z
  induction z with
  | nil => intro w o _ _; rfl
  | cons x xs ih =>
    intro w o hz h
    have hz' : Inst xs := hz.tail
    rw [List.cons_append] at h ⊢
    by_cases hw : x.ty = .wait
    · rw [zlB_cons_wait k _ _ x _ hw, hz x List.mem_cons_self hw, Int.add_zero] at h
      rw [List.filter_cons_of_pos (by simp [stays, hw]), List.filter_cons_of_neg (by simp [stays, hw]), List.cons_append,
        eventsRelGo_cons_wait _ _ _ hw, eventsRelGo_cons_wait _ _ _ hw, hz x List.mem_cons_self hw, Int.add_zero]
      exact ih w _ hz' h
    · by_cases hoff : x.ty = .noteOff
      · have h' : ∃ o', zlB B k o' b (xs ++ w) := by
          by_cases hk : x.nkey = k
          · exact ⟨_, zlB_cons_off k _ _ x _ ⟨hk, hoff⟩ h⟩
          · exact ⟨_, (zlB_cons_skip k _ _ x _ hw (fun c => hk c.1)).1 h⟩
        obtain ⟨o', h'⟩ := h'
        rw [List.filter_cons_of_pos (by simp [stays, hoff]), List.filter_cons_of_neg (by simp [stays, hoff]), List.cons_append,
          eventsRelGo_cons_nowait _ _ _ hw, eventsRelGo_cons_nowait _ _ _ hw, List.filter_cons, List.filter_cons,
          ih w o' hz' h']
      · rw [List.filter_cons_of_neg (by simp [stays, hoff, hw]), List.filter_cons_of_pos (by simp [stays, hoff, hw]),
          List.cons_append]
        have hS0 := totalWait_inst (hz'.filter stays)
        have hL : eventsRelGo b (xs.filter stays ++ x :: (xs.filter (fun x => !stays x) ++ w))
            = eventsRelGo b (xs.filter stays)
              ++ { x with time := b } :: eventsRelGo b (xs.filter (fun x => !stays x) ++ w) := by
          rw [eventsRelGo_append, hS0, Int.add_zero, eventsRelGo_cons_nowait _ _ _ hw]
        by_cases hon : x.nkey = k ∧ x.ty = .noteOn
        · have h' := (zlB_cons_on k _ _ x _ hon).1 h
          have hno : (eventsRelGo b (xs.filter stays)).filter (isKN k) = [] := by
            refine List.filter_eq_nil_iff.2 fun e he => isKN_false (Strong589L.kev_events (fun y hy => ?_) e he)
            have hy' := List.mem_filter.1 hy
            refine not_kev_of (fun c => ?_) (zlB_fresh_nooff k b hb xs w _ hz' rfl h' y hy'.1)
            simp [stays, c.2] at hy'
          have hI := ih w _ hz' h'
          rw [eventsRelGo_append, hS0, Int.add_zero, List.filter_append, hno, List.nil_append] at hI
          rw [hL, eventsRelGo_cons_nowait _ _ _ hw, List.filter_append, hno, List.nil_append, List.filter_cons,
            List.filter_cons, hI]
        · have hnk : ¬ Kev k x := not_kev_of hon (fun c => hoff c.2)
          have hx : ¬ isKN k { x with time := b } = true := isKN_false hnk
          have hI := ih w o hz' ((zlB_cons_skip k _ _ x _ hw hnk).1 h)
          rw [eventsRelGo_append, hS0, Int.add_zero, List.filter_append] at hI
          rw [hL, eventsRelGo_cons_nowait _ _ _ hw, List.filter_append, List.filter_cons_of_neg hx,
            List.filter_cons_of_neg hx, hI]

theorem krun_partition (k : Int × Int) (b : Int) (hb : B b) (z w : List Msg) (o : Option Msg) (bb : Bool) (hz : Inst z)
    (h : zlB B k o b (z ++ w)) :
    krun k bb (z.filter stays ++ (z.filter (fun x => !stays x) ++ w)) = krun k bb (z ++ w) := by
  rw [← Strong589L.krun_events k b, ← Strong589L.krun_events k b (z ++ w)]
  simp only [krun, kword, events_partition k b hb z w o hz h]

/-- the invariant between two runs of the inner loop, on the working memory `wm` read from clock `clk` and the table `o`.
    The table is not emptied by a cut: `fresh` says that every entry is overwritten, by the note-on that strikes its note
    again, before the first wait is read -/
structure AltOB (B : Int → Prop) (clk : Int) (wm : List Msg) (o : Assoc (Int × Int) Msg) : Prop where
  ok : OpensOK o
  wf : WF wm
  zl : ∀ k, zlB B k none clk wm
  fresh : ∀ k ∈ keys o, ∃ p x q, wm = p ++ x :: q ∧ (∀ y ∈ p, y.ty ≠ .wait) ∧ Kev k x

theorem AltOB.init (A : Int) (r : List Msg) (hwf : WF r) (hz : ∀ k, zlB B k none A r) : AltOB B A r [] :=
  ⟨OpensOK.nil, hwf, hz, fun _ hk => nomatch hk⟩

theorem head_in_early {p q u z w : List Msg} {x : Msg} (e : p ++ x :: q = u ++ (z ++ w)) (hp : ∀ y ∈ p, y.ty ≠ .wait)
    (hx : x.ty ≠ .wait) (hz : (∀ y ∈ u, y.ty ≠ .wait) → z = []) (hw : ∀ y, w.head? = some y → y.ty = .wait) : x ∈ u := by
  rcases List.append_eq_append_iff.1 e with ⟨a', hu, hq⟩ | ⟨c', hp', hq⟩
  · cases a' with
    | nil =>
      rw [hz (by rw [hu, List.append_nil]; exact hp)] at hq
      exact absurd (hw x (by rw [show w = x :: q from hq.symm]; rfl)) hx
    | cons y a'' => rw [hu, (List.cons.inj hq).1]; simp
  · rw [hz fun y hy => hp y (by rw [hp']; exact List.mem_append_left _ hy)] at hq
    cases c' with
    | nil => exact absurd (hw x (by rw [show w = x :: q from hq]; rfl)) hx
    | cons y c'' => exact absurd (hw y (by rw [show w = y :: (c'' ++ x :: q) from hq]; rfl)) (hp y (by rw [hp']; simp))

/-- **Key `k` through the boundary instant**: once `u ++ z.filter stays` has been written the table holds under `k` the
    note-on of `k` that is waiting, so it agrees with the open flag of `k` -/
theorem key_instant (k : Int × Int) (A c rem : Int) (u z w : List Msg) (o : Assoc (Int × Int) Msg)
    (hc : 0 < c) (hb : B (A + c)) (hA : AltOB B A (u ++ (z ++ w)) o) (hz : Inst z) (htw : totalWait u + rem = c) (hzr : z ≠ [] → rem = 0) (hw : ∀ y, w.head? = some y → y.ty = .wait) :
    (opensAfter o (u ++ z.filter stays)).get? k = nkEnd k (u ++ z.filter stays) none ∧
    krun k false (u ++ z.filter stays) = some (decide (k ∈ keys (opensAfter o (u ++ z.filter stays)))) ∧
      krun k (decide (k ∈ keys (opensAfter o (u ++ z.filter stays)))) (z.filter (fun x => !stays x) ++ w) = some false := by
  have hzu : (∀ y ∈ u, y.ty ≠ .wait) → z = [] := fun hu => Classical.byContradiction fun hne => by
    have := hzr hne; have := totalWait_nowait u hu; omega
  have hwf := (wf_iff _).1 hA.wf k
  -- an entry left over from the last cut is overwritten while `u` is read
  have htab : (opensAfter o (u ++ z.filter stays)).get? k = nkEnd k (u ++ z.filter stays) none := by
    rw [get?_opensAfter k _ o hA.ok, nkEnd_append, nkEnd_append]
    congr 1
    cases hg : o.get? k with
    | none => rfl
    | some v =>
      obtain ⟨p, x, q, e, hp, hx⟩ := hA.fresh k ((mem_keys_iff o k).2 (by rw [hg]; rfl))
      exact nkEnd_of_kev k u ⟨x, head_in_early e.symm hp (fun h => not_kev_wait h hx) hzu hw, hx⟩ _ _
  refine ⟨htab, ?_⟩
  rw [krun_append] at hwf
  cases h1 : krun k false u with
  | none => rw [h1] at hwf; cases hwf
  | some b1 =>
    rw [h1, Option.bind_some] at hwf
    have hpart : krun k b1 (z.filter stays ++ (z.filter (fun x => !stays x) ++ w)) = some false := by
      by_cases hze : z = []
      · subst hze; exact hwf
      · have hf := zlB_drop k u (z ++ w) none A (hA.zl k)
        rw [show A + totalWait u = A + c by have := hzr hze; omega] at hf
        rw [krun_partition k (A + c) hb z _ _ b1 hz hf]; exact hwf
    rw [krun_append] at hpart
    cases h2 : krun k b1 (z.filter stays) with
    | none => rw [h2] at hpart; cases hpart
    | some b2 =>
      rw [h2, Option.bind_some] at hpart
      have hcr : krun k false (u ++ z.filter stays) = some b2 := by rw [krun_append, h1, Option.bind_some, h2]
      have hb2 : decide (k ∈ keys (opensAfter o (u ++ z.filter stays))) = b2 := by
        rw [← nkEnd_isSome k _ false b2 none hcr rfl, ← htab, Bool.eq_iff_iff, decide_eq_true_iff]
        exact mem_keys_iff _ k
      rw [hb2]
      exact ⟨hcr, hpart⟩

/-- key `k` at a cut: `cr` has been written, `qr` deferred, `o'` is the table after `cr`, the wait `m` did not fit -/
structure KeyCut (k : Int × Int) (rem : Int) (m : Msg) (cr qr rest' : List Msg) (o' : Assoc (Int × Int) Msg) : Prop where
  tab : o'.get? k = nkEnd k cr none
  ck : krun k false cr = some (decide (k ∈ keys o'))
  alt : krun k (decide (k ∈ keys o')) (qr ++ m :: rest') = some false
  qk : k ∈ keys o' → ∀ x ∈ qr, ¬ Kev k x
  piece : krun k false (closedPiece rem m cr o') = some false
  carried : krun k false (carried rem m rest' qr o') = some false

theorem key_cut (k : Int × Int) (A c rem : Int) (u z rest' : List Msg) (m : Msg) (o : Assoc (Int × Int) Msg)
    (hc : 0 < c) (hb : B (A + c)) (hA : AltOB B A (u ++ (z ++ m :: rest')) o) (hz : Inst z)
    (htw : totalWait u + rem = c) (hzr : z ≠ [] → rem = 0) (hm : m.ty = .wait) :
    KeyCut k rem m (u ++ z.filter stays) (z.filter (fun x => !stays x)) rest' (opensAfter o (u ++ z.filter stays)) := by
  let cr := u ++ z.filter stays
  let qr := z.filter (fun x => !stays x)
  let o' := opensAfter o cr
  show KeyCut k rem m cr qr rest' o'
  have hnk : ¬ Kev k m := not_kev_wait hm
  have hok' : OpensOK o' := hA.ok.after cr
  obtain ⟨htab, hck, hpart⟩ := key_instant k A c rem u z (m :: rest') o hc hb hA hz htw hzr
    (by intro y hy; cases hy; exact hm)
  have hqk : k ∈ keys o' → ∀ x ∈ qr, ¬ Kev k x := by
    intro hk
    rw [decide_eq_true hk] at hpart
    exact krun_true_prefix k _ _ (fun q hq e => (deferred_ty q hq).2 e.2) _ hpart
  refine ⟨htab, hck, hpart, hqk, ?_, ?_⟩
  · unfold closedPiece
    rw [krun_append, hck, Option.bind_some]
    have hopt : krun k (decide (k ∈ keys o')) ((if 0 < rem then [Msg.mkWait m.ch rem] else []) ++ o'.map offOf)
        = krun k (decide (k ∈ keys o')) (o'.map offOf ++ []) := by
      split
      · rw [List.singleton_append, krun_cons_skip k _ _ _ (not_kev_wait rfl)]
        simp
      · simp
    rw [hopt, krun_offs k _ o' hok']
    by_cases hk : k ∈ keys o' <;> simp [hk]
  · -- what is deferred, then the note-ons of the open notes: `k` is struck again exactly if it was open
    unfold carried
    rw [krun_append] at hpart ⊢
    by_cases hk : k ∈ keys o'
    · rw [decide_eq_true hk, krun_skip k _ _ (hqk hk), Option.bind_some, krun_cons_skip k _ m _ hnk] at hpart
      rw [krun_skip k _ _ (hqk hk), Option.bind_some, krun_ons k _ o' hok', if_pos hk,
        krun_cons_skip k _ _ _ (not_kev_wait rfl)]
      exact hpart
    · rw [decide_eq_false hk] at hpart
      rw [← hpart]
      congr 1; funext b'
      rw [krun_ons k _ o' hok', if_neg hk, krun_cons_skip k _ m _ hnk, krun_cons_skip k _ _ _ (not_kev_wait rfl)]

theorem key_end (k : Int × Int) (A c rem : Int) (u z : List Msg) (o : Assoc (Int × Int) Msg) (hc : 0 < c)
    (hb : B (A + c)) (hA : AltOB B A (u ++ (z ++ [])) o) (hz : Inst z) (htw : totalWait u + rem = c) (hzr : z ≠ [] → rem = 0) :
    krun k false (u ++ z.filter stays) = some false ∧ (∀ x ∈ z.filter (fun x => !stays x), ¬ Kev k x) ∧
      k ∉ keys (opensAfter o (u ++ z.filter stays)) := by
  obtain ⟨_, hck, hpart⟩ := key_instant k A c rem u z [] o hc hb hA hz htw hzr (fun _ h => nomatch h)
  rw [List.append_nil] at hpart
  obtain ⟨hc2, hq⟩ := krun_nooff_closed k _ _ (fun x hx => (deferred_ty x hx).2) hpart
  exact ⟨by rw [hck, hc2], hq, by simpa using hc2⟩

theorem zl_skip (k : Int × Int) (f : Bool) (l : List Msg) (h : ∀ x ∈ l, ¬ Kev k x) : zl k f l := by
  induction l generalizing f with
  | nil => trivial
  | cons m ms ih =>
    have h' : ∀ x ∈ ms, ¬ Kev k x := fun x hx => h x (List.mem_cons_of_mem _ hx)
    by_cases hw : m.ty = .wait
    · rw [zl_cons_wait k _ m ms hw]; exact ih _ h'
    · rw [zl_cons_skip k _ m ms hw (h m List.mem_cons_self)]; exact ih _ h'

theorem not_kev_of_not_mem (k : Int × Int) (l : List Msg) (h : k ∉ l.map Msg.nkey) : ∀ x ∈ l, ¬ Kev k x := by
  intro x hx hk
  apply h
  rw [← hk.1]
  exact List.mem_map_of_mem hx

/-- only the keys that occur matter -/
theorem wf_of_keys (l : List Msg) (h : ∀ k ∈ l.map Msg.nkey, krun k false l = some false) : WF l := by
  rw [wf_iff]
  intro k
  by_cases hk : k ∈ l.map Msg.nkey
  · exact h k hk
  · exact krun_skip k false l (not_kev_of_not_mem k l hk)

theorem noZero_of_keys (l : List Msg) (h : ∀ k ∈ l.map Msg.nkey, zl k false l) : NoZeroNotes l := by
  intro k
  by_cases hk : k ∈ l.map Msg.nkey
  · exact h k hk
  · exact zl_skip k false l (not_kev_of_not_mem k l hk)

instance zlDec (k : Int × Int) : ∀ (f : Bool) (l : List Msg), Decidable (zl k f l)
  | _, [] => isTrue trivial
  | f, m :: ms =>
    if hw : m.ty = .wait then
      @decidable_of_iff _ _ (zl_cons_wait k f m ms hw).symm (zlDec k _ ms)
    else if hon : m.nkey = k ∧ m.ty = .noteOn then
      @decidable_of_iff _ _ (zl_cons_on k f m ms hon).symm (zlDec k _ ms)
    else if hoff : m.nkey = k ∧ m.ty = .noteOff then
      @decidable_of_iff _ _ (zl_cons_off k f m ms hoff).symm (@instDecidableAnd _ _ _ (zlDec k _ ms))
    else
      @decidable_of_iff _ _ (zl_cons_skip k f m ms hw (not_kev_of hon hoff)).symm (zlDec k _ ms)

theorem Dp_nil (k : Int × Int) (t a : Int) (d : Nat) : Dp k t a [] d = d := rfl

theorem Dp_append (k : Int × Int) (t a : Int) (u y : List Msg) (d : Nat) :
    Dp k t a (u ++ y) d = Dp k t (a + totalWait u) y (Dp k t a u d) := by
  simp only [Dp, eventsRelGo_append, List.filter_append, depth_append]

theorem Dp_cons_wait (k : Int × Int) (t a : Int) (m : Msg) (l : List Msg) (d : Nat) (h : m.ty = .wait) :
    Dp k t a (m :: l) d = Dp k t (a + m.time) l d := by
  simp only [Dp, eventsRelGo_cons_wait a m l h]

theorem Dp_nowait_late (k : Int × Int) (t a : Int) (u : List Msg) (d : Nat) (hu : ∀ x ∈ u, x.ty ≠ .wait)
    (h : t < a) : Dp k t a u d = d := by
  have : (eventsRelGo a u).filter (fun m => decide (m.time ≤ t)) = [] := by
    rw [eventsRelGo_nowait a u hu, List.filter_eq_nil_iff]
    intro x hx
    simp only [List.mem_map] at hx
    obtain ⟨y, _, rfl⟩ := hx
    simp only [decide_eq_true_eq]; omega
  simp only [Dp, this, depth]

theorem Dp_nowait_early (k : Int × Int) (t a : Int) (u : List Msg) (d : Nat) (hu : ∀ x ∈ u, x.ty ≠ .wait)
    (h : a ≤ t) : Dp k t a u d = depth k u d := by
  have : (eventsRelGo a u).filter (fun m => decide (m.time ≤ t)) = u.map (fun m => { m with time := a }) := by
    rw [eventsRelGo_nowait a u hu, List.filter_eq_self]
    intro x hx
    simp only [List.mem_map] at hx
    obtain ⟨y, _, rfl⟩ := hx
    simp only [decide_eq_true_eq]; omega
  simp only [Dp, this, depth_map_time]

theorem Dp_nowait_skip (k : Int × Int) (t a : Int) (u : List Msg) (d : Nat) (hu : ∀ x ∈ u, x.ty ≠ .wait)
    (hk : ∀ x ∈ u, ¬ Kev k x) : Dp k t a u d = d := by
  by_cases h : a ≤ t
  · rw [Dp_nowait_early k t a u d hu h, depth_skip k u d hk]
  · exact Dp_nowait_late k t a u d hu (by omega)

/-- without truncation when the whole list ends at or before `t` -/
theorem Dp_eq_depth (k : Int × Int) (t a : Int) (l : List Msg) (d : Nat) (hl : NonNegWaits l)
    (h : a + totalWait l ≤ t) : Dp k t a l d = depth k (eventsRelGo a l) d := by
  have : (eventsRelGo a l).filter (fun m => decide (m.time ≤ t)) = eventsRelGo a l := by
    rw [List.filter_eq_self]
    intro x hx
    have := (eventsRelGo_bounds l a hl x hx).2
    simp only [decide_eq_true_eq]; omega
  simp only [Dp, this]

end SCoda.SplitL

namespace SCoda.Strong589L
open SCoda SCoda.SplitL

variable {B : Int → Prop}

theorem R_offs (k : Int × Int) (a : Int) (opens : Assoc (Int × Int) Msg) (h : OpensOK opens)
    (st : Option Msg × List Note) :
    R k a (opens.map offOf) st =
      if k ∈ keys opens then (none, st.2 ++ (match st.1 with | some on => [mkN on a] | none => [])) else st := by
  have := opens_kev k offOf (fun _ => rfl) opens h
  by_cases hk : k ∈ keys opens
  · rw [if_pos hk] at this ⊢
    obtain ⟨u, kv, v, e, hkv, hu, hv, _⟩ := this
    have hu0 := totalWait_nowait u (fun x hx => map_offOf_nowait opens x (e ▸ List.mem_append_left _ hx))
    rw [e, R_append, R_skip k a u st hu, hu0, Int.add_zero, R_cons_nowait k a _ v st (by simp [offOf]),
      R_skip k a v _ hv, nkRun_single_off k (stamp a (offOf kv)) st ⟨hkv, rfl⟩, stamp_time]
    -- the `match` of the statement and that of `nkRun_single_off` come from different files
    rcases st with ⟨_ | _, _⟩ <;> rfl
  · rw [if_neg hk] at this ⊢
    exact R_skip k a _ st this

theorem R_ons (k : Int × Int) (a : Int) (opens : Assoc (Int × Int) Msg) (h : OpensOK opens)
    (st : Option Msg × List Note) (v : Msg) (hv : opens.get? k = some v) :
    R k a (opens.map onOf) st = (some (stamp a (onOf (k, v))), st.2) := by
  have := opens_kev k onOf (fun _ => rfl) opens h
  rw [if_pos ((mem_keys_iff opens k).2 (by rw [hv]; rfl))] at this
  obtain ⟨u, kv, w, e, hkv, hu, hw, hmem⟩ := this
  have hu0 := totalWait_nowait u (fun x hx => map_onOf_nowait opens x (e ▸ List.mem_append_left _ hx))
  have hk1 : kv.1 = k := (h.cons kv hmem).symm.trans hkv
  have hkv' : kv = (k, v) := by
    have := Q.get?_of_mem h.nodupKeys (show (kv.1, kv.2) ∈ opens from hmem)
    rw [hk1, hv] at this
    exact Prod.ext hk1 (Option.some.inj this).symm
  rw [e, R_append, R_skip k a u st hu, hu0, Int.add_zero, R_cons_nowait k a _ w st (by simp [onOf]),
    R_skip k a w _ hw, nkRun_single_on k (stamp a (onOf kv)) st ⟨hkv, rfl⟩, hkv']

theorem R_fst_eq (k : Int × Int) (a : Int) (l : List Msg) (o : Option Msg) (N : List Note) :
    (R k a l (o, N)).1 = nkEnd k (eventsRelGo a l) o := rfl

theorem R_snd_eq (k : Int × Int) (a : Int) (l : List Msg) (o : Option Msg) (N : List Note) :
    (R k a l (o, N)).2 = N ++ nkNotes k (eventsRelGo a l) o := rfl

theorem R_notes_off_le (k : Int × Int) (a : Int) (l : List Msg) (hl : NonNegWaits l) (o : Option Msg) :
    ∀ n ∈ nkNotes k (eventsRelGo a l) o, n.off ≤ a + totalWait l :=
  nkNotes_off_le k _ _ o (fun e he => (eventsRelGo_bounds l a hl e he).2)

/-- a wait that does not fit: the notes of key `k` in the closed piece followed by the carried memory are those of the
    input, cut at the boundary `A + c` (the timed events of the two lists are `eventsRelGo_exit`, `eventsRelGo_loop`);
    `hlt`: the note-on waiting after `cr` was struck before the boundary -/
theorem R_cut (k : Int × Int) (A c rem : Int) (m : Msg) (wm cr qr : List Msg)
    (opens : Assoc (Int × Int) Msg) (hm : m.ty = .wait) (hr : rem < m.time) (hr0 : 0 ≤ rem)
    (htc : totalWait cr + rem = c) (hok : OpensOK opens) (hqnw : ∀ x ∈ qr, x.ty ≠ .wait) (hqrem : qr ≠ [] → rem = 0)
    (hnn : NonNegWaits cr) (hkc : KeyCut k rem m cr qr wm opens) (hnnwm : NonNegWaits wm)
    (hlt : ∀ on0, nkEnd k (eventsRelGo A cr) none = some on0 → on0.time < A + c) :
    nkNotes k (eventsRelGo A (closedPiece rem m cr opens ++ carried rem m wm qr opens)) none
      = (nkNotes k (eventsRelGo A (cr ++ (qr ++ m :: wm))) none).flatMap (cut1 (A + c)) := by
  obtain ⟨htab, hck, halt, hqk, _, _⟩ := hkc
  have key : (R k A (closedPiece rem m cr opens ++ carried rem m wm qr opens) (none, [])).2
      = ((R k A (cr ++ (qr ++ m :: wm)) (none, [])).2).flatMap (cut1 (A + c)) := by
    rw [R, R, eventsRelGo_exit A rem m cr wm qr opens hqnw hqrem hr0, eventsRelGo_loop A m cr wm qr hm hqnw,
      show A + totalWait cr + rem = A + c by omega]
    simp only [nkRun_append, ← R.eq_1]
    generalize hstX : R k A cr (none, []) = stX
    obtain ⟨oX, NX⟩ := stX
    have hoX : oX = nkEnd k (eventsRelGo A cr) none := (congrArg Prod.fst hstX).symm
    have hNX : NX = nkNotes k (eventsRelGo A cr) none := (congrArg Prod.snd hstX).symm
    have hNXle : ∀ n ∈ NX, n.off ≤ A + c ∨ A + c ≤ n.on := fun n hn => by
      have := R_notes_off_le k A cr hnn none n (hNX ▸ hn)
      left; omega
    have hwmlate : ∀ e ∈ eventsRelGo (A + totalWait cr + m.time) wm, A + c < e.time := by
      intro e he
      have := (eventsRelGo_bounds wm _ hnnwm e he).1
      omega
    by_cases hk : k ∈ keys opens
    · have hqk := hqk hk
      simp only [hk, decide_true] at hck halt
      rw [krun_skip_append k _ _ _ hqk,
        krun_cons_skip k _ m _ (not_kev_wait hm)] at halt
      have hsome : oX.isSome = true := by
        rw [hoX]
        exact nkEnd_isSome k _ false true none (by rw [krun_events]; exact hck) rfl
      obtain ⟨on0, rfl⟩ := Option.isSome_iff_exists.1 hsome
      -- the table holds the note-on that is waiting, up to its time stamp
      have hst := nkEnd_events k cr A none none rfl
      rw [← hoX, ← htab] at hst
      obtain ⟨v, hv, hst⟩ := Option.map_eq_some_iff.1 hst.symm
      have hf1 : v.ch = on0.ch := (congrArg Msg.ch hst :)
      have hf2 : v.note = on0.note := (congrArg Msg.note hst :)
      have hf3 : v.vel = on0.vel := (congrArg Msg.vel hst :)
      rw [R_skip k _ qr _ hqk, R_skip k _ qr _ hqk, R_ons k (A + c) opens hok _ v hv, R_offs k _ opens hok, if_pos hk]
      simp only [R_snd_eq, List.flatMap_append, flatMap_cut1_id _ _ hNXle]
      rw [nkNotes_cut_open k (A + c) on0 (stamp (A + c) (onOf (k, v))) _
        (by rw [krun_events]; exact halt) (hlt on0 hoX.symm) hwmlate
        (by intro t'; simp [mkN, stamp, onOf, hf1, hf2, hf3])]
      simp
    · simp only [hk, decide_false] at hck
      have hnone : oX = none := by
        have : oX.isSome = false := by
          rw [hoX]
          exact nkEnd_isSome k _ false false none (by rw [krun_events]; exact hck) rfl
        cases oX with
        | none => rfl
        | some x => simp at this
      subst hnone
      -- nothing of `k` happens on the boundary: both sides are the run over `qr`, then `wm`, and nothing is cut
      rw [R_offs k _ opens hok, if_neg hk, R_skip k _ (opens.map onOf) _ (ons_not_kev k opens hok hk)]
      refine (flatMap_cut1_id _ _ fun n hn => ?_).symm
      have hmerge : R k (A + totalWait cr + m.time) wm (R k (A + totalWait cr) qr (none, NX))
          = R k (A + totalWait cr) (qr ++ m :: wm) (none, NX) := by
        rw [R_append, totalWait_nowait qr hqnw, Int.add_zero, R_cons_wait k _ m wm _ hm]
      rw [hmerge, R_snd_eq] at hn
      rcases List.mem_append.1 hn with hn | hn
      · exact hNXle n hn
      · right
        refine nkNotes_on_ge k (A + c) _ none (fun e he => ?_) (fun _ h => nomatch h) n hn
        rcases (mem_eventsRelGo_append _ qr _).1 he with he | he
        · have hqe : qr ≠ [] := fun h0 => by rw [h0] at he; cases he
          have := (eventsRelGo_bounds qr _ (nonNegWaits_nowait qr hqnw) e he).1
          have := hqrem hqe
          omega
        · rw [totalWait_nowait qr hqnw, Int.add_zero, eventsRelGo_cons_wait _ _ _ hm] at he
          exact Int.le_of_lt (hwmlate e he)
  simpa only [R_snd_eq, List.nil_append] using key

theorem R_partition (k : Int × Int) (b : Int) (hb : B b) (z w : List Msg) (o : Option Msg) (st : Option Msg × List Note)
    (hz : Inst z) (h : zlB B k o b (z ++ w)) :
    R k b (z.filter stays ++ (z.filter (fun x => !stays x) ++ w)) st = R k b (z ++ w) st := by
  rw [R, R, ← nkRun_filter, events_partition k b hb z w o hz h, nkRun_filter]

theorem nkEnd_wf (k : Int × Int) (a : Int) (p : List Msg) (hp : WF p) : nkEnd k (eventsRelGo a p) none = none := by
  have h1 := (wf_iff p).1 hp k
  have := nkEnd_isSome k (eventsRelGo a p) false false none (by rw [krun_events]; exact h1) rfl
  cases h : nkEnd k (eventsRelGo a p) none with
  | none => rfl
  | some x => rw [h] at this; simp at this

theorem nkNotes_wf_append (k : Int × Int) (a : Int) (p y : List Msg) (hp : WF p) :
    nkNotes k (eventsRelGo a (p ++ y)) none
      = nkNotes k (eventsRelGo a p) none ++ nkNotes k (eventsRelGo (a + totalWait p) y) none := by
  rw [eventsRelGo_append, nkNotes_append, nkEnd_wf k a p hp]

theorem cut1_zl (b : Int) (N : List Note) (h : ∀ n ∈ N, n.on = n.off → ¬ B n.on) :
    ∀ n ∈ N.flatMap (cut1 b), n.on = n.off → ¬ B n.on := by
  intro n hn h0
  obtain ⟨n0, hn0, hc⟩ := List.mem_flatMap.1 hn
  unfold cut1 at hc
  split at hc
  · simp only [List.mem_cons, List.not_mem_nil, or_false] at hc
    rcases hc with rfl | rfl <;> simp only at h0 <;> omega
  · rw [List.mem_singleton.1 hc] at h0 ⊢; exact h n0 hn0 h0

end SCoda.Strong589L

namespace SCoda.SplitL
open SCoda SCoda.Strong589L

variable {B : Int → Prop}

/-- `zl` is `zlB` for "every tick is a boundary"; `fresh` says that the waiting note-on was struck at the present clock -/
theorem zl_iff_nk (k : Int × Int) : ∀ (l : List Msg) (clk : Int) (fresh : Bool) (o : Option Msg), NonNegWaits l →
    (fresh = true ↔ ∃ on0, o = some on0 ∧ on0.time = clk) → (∀ on0, o = some on0 → on0.time ≤ clk) →
    (zl k fresh l ↔ zlB (fun _ => True) k o clk l) := by
  intro l
  induction l with
  | nil => intro clk fresh o _ _ _; exact ⟨fun _ n hn => by simp [eventsRelGo, nkNotes] at hn, fun _ => trivial⟩
  | cons m ms ih =>
    intro clk fresh o hnn hfr hle
    have hnn' : NonNegWaits ms := nonNegWaits_tail hnn
    by_cases hw : m.ty = .wait
    · have h0 := hnn m List.mem_cons_self hw
      rw [zl_cons_wait k _ m ms hw, zlB_cons_wait k _ _ m ms hw]
      refine ih _ _ o hnn' ?_ (fun on0 h => by have := hle on0 h; omega)
      simp only [Bool.and_eq_true, decide_eq_true_eq, hfr]
      constructor
      · rintro ⟨⟨on0, ho, ht⟩, hm0⟩; exact ⟨on0, ho, by omega⟩
      · rintro ⟨on0, ho, ht⟩; have := hle on0 ho; exact ⟨⟨on0, ho, by omega⟩, by omega⟩
    · rcases kev_cases k m with h | h | h
      · rw [zl_cons_on k _ m ms h, zlB_cons_on k _ _ m ms h]
        exact ih _ _ (some (stamp clk m)) hnn' ⟨fun _ => ⟨_, rfl, rfl⟩, fun _ => rfl⟩
          (by rintro on0 ⟨⟩; exact Int.le_refl _)
      · rw [zl_cons_off k _ m ms h, zlB, eventsRelGo_cons_nowait clk m ms hw]
        change _ ↔ ∀ n ∈ nkNotes k (stamp clk m :: eventsRelGo clk ms) o, _
        rw [nkNotes_cons_off k (stamp clk m) _ _ h, List.forall_mem_append]
        refine and_congr ?_ (ih _ _ none hnn' (by simp) (fun _ h => nomatch h))
        cases o with
        | none =>
          have : fresh ≠ true := fun hf => by obtain ⟨_, h, _⟩ := hfr.1 hf; cases h
          simpa using this
        | some on0 =>
          simp only [List.mem_singleton, forall_eq, mkN, stamp_time, not_true_eq_false, imp_false]
          constructor
          · intro h1 e; rw [hfr.2 ⟨on0, rfl, e⟩] at h1; cases h1
          · intro h1
            cases hf : fresh with
            | false => rfl
            | true => obtain ⟨on1, ho, ht⟩ := hfr.1 hf; cases ho; exact absurd ht h1
      · rw [zl_cons_skip k _ m ms hw h, zlB_cons_skip k _ _ m ms hw h]
        exact ih _ _ o hnn' hfr hle

theorem zlB_true (k : Int × Int) (l : List Msg) (c : Int) (hl : NonNegWaits l) :
    zlB (fun _ => True) k none c l ↔ zl k false l :=
  (zl_iff_nk k l c false none hl (by simp) (fun _ h => nomatch h)).symm

theorem zlB_of_cut (k : Int × Int) (A b : Int) (p y wm : List Msg) (hwf : WF p) (hz : zlB B k none A wm)
    (hR : nkNotes k (eventsRelGo A (p ++ y)) none = (nkNotes k (eventsRelGo A wm) none).flatMap (cut1 b)) :
    zlB B k none A p ∧ zlB B k none (A + totalWait p) y := by
  have hcut := cut1_zl b _ hz
  rw [← hR, nkNotes_wf_append k A p y hwf] at hcut
  exact ⟨fun n hn => hcut n (List.mem_append_left _ hn), fun n hn => hcut n (List.mem_append_right _ hn)⟩

/-- **the notes through one run of the inner loop**, read off its closed form: key by key those of the working memory cut at
    the boundary `A + c` -/
theorem Run.notes {c A : Int} {wm p wm' : List Msg} {o o' : Assoc (Int × Int) Msg} (h : Run c wm o p wm' o') (hc : 0 < c)
    (hb : B (A + c)) (hw : NonNegWaits wm) (hA : AltOB B A wm o) :
    AltOB B (A + c) wm' o' ∧ WF p ∧ (∀ k, zlB B k none A p) ∧
      ∀ k, nkNotes k (eventsRelGo A (p ++ wm')) none = (nkNotes k (eventsRelGo A wm) none).flatMap (cut1 (A + c)) := by
  obtain ⟨hnp, hnc, _⟩ := h.timing A hw
  obtain ⟨u, z, rest, rem, hR⟩ := h
  have e := hR.parts
  have he := hR.early
  have hz := hR.inst
  have hr := hR.remNonneg
  have htw := hR.cap
  have hzr := hR.remZero
  have ho := hR.table
  have hd := hR.out
  have hzs := totalWait_inst (hz.filter stays)
  have hnn := nonNegWaits_written hw e
  have htc : totalWait (u ++ z.filter stays) + rem = c := by rw [totalWait_append, hzs]; omega
  have hclk : z ≠ [] → A + totalWait u = A + c := fun hne => by have := hzr hne; omega
  -- the notes of `k` in the input, with the instant partitioned
  have hRp : ∀ k, nkNotes k (eventsRelGo A (u ++ (z.filter stays ++ (z.filter (fun x => !stays x) ++ rest)))) none
      = nkNotes k (eventsRelGo A wm) none := by
    intro k
    have : R k A (u ++ (z.filter stays ++ (z.filter (fun x => !stays x) ++ rest))) (none, []) = R k A wm (none, []) := by
      rw [e, R_append, R_append k A u]
      by_cases hze : z = []
      · subst hze; rfl
      · have hf := zlB_drop k u (z ++ rest) none A (e ▸ hA.zl k)
        rw [hclk hze] at hf ⊢
        exact R_partition k (A + c) hb z rest _ _ hz hf
    simpa only [R_snd_eq, List.nil_append] using congrArg Prod.snd this
  have hok' : OpensOK o' := ho ▸ hA.ok.after _
  rcases hd with ⟨m, rest', rfl, hm, hlt, rfl, rfl⟩ | ⟨rfl, rfl, rfl⟩
  · -- a wait did not fit
    have hex := fun k' => key_cut k' A c rem u z rest' m o hc hb (e ▸ hA) hz htw hzr hm
    simp only [← ho] at hex
    have hqw : ∀ x ∈ z.filter (fun x => !stays x), x.ty ≠ .wait := fun x hx => (deferred_ty x hx).1
    have hwfp : WF (closedPiece rem m (u ++ z.filter stays) o') := (wf_iff _).2 fun k' => (hex k').piece
    have hR : ∀ k, nkNotes k (eventsRelGo A (closedPiece rem m (u ++ z.filter stays) o' ++
        carried rem m rest' (z.filter (fun x => !stays x)) o')) none
        = (nkNotes k (eventsRelGo A wm) none).flatMap (cut1 (A + c)) := by
      intro k
      rw [← hRp k, ← List.append_assoc u]
      refine R_cut k A c rem m rest' _ _ o' hm hlt hr htc hok' hqw
        (fun hne => hzr (fun h0 => hne (by rw [h0]; rfl))) hnn (hex k) (fun x hx => hw x (by rw [e]; simp [hx])) ?_
      -- the waiting note-on was struck while capacity was left
      intro on0 h0
      rcases nkEnd_mem k _ none on0 h0 with h1 | ⟨h1, hty⟩
      · cases h1
      · rcases (mem_eventsRelGo_append A u _).1 h1 with h1 | h1
        · exact he.events u c A on0 h1
        · obtain ⟨_, x, hx, hxt⟩ := eventsRelGo_ty _ _ on0 h1
          rcases stays_ty x hx with h2 | h2 <;> rw [hty, h2] at hxt <;> cases hxt
    have hzl := fun k => zlB_of_cut k A (A + c) _ _ _ hwfp (hA.zl k) (hR k)
    refine ⟨⟨hok', (wf_iff _).2 fun k' => (hex k').carried, fun k => ?_, fun k hk => ?_⟩, hwfp, fun k => (hzl k).1, hR⟩
    · have := (hzl k).2
      rwa [totalWait_closedPiece rem m _ o' hr, htc] at this
    · -- the note-on made from the entry under `k` comes before the wait
      obtain ⟨kv, hkv, rfl⟩ := List.mem_map.1 hk
      obtain ⟨l1, l2, hl12⟩ := List.append_of_mem (List.mem_map_of_mem (f := onOf) hkv)
      refine ⟨z.filter (fun x => !stays x) ++ l1, onOf kv, l2 ++ Msg.mkWait m.ch (m.time - rem) :: rest', ?_, ?_,
        (hok'.cons kv hkv), Or.inl rfl⟩
      · rw [carried, hl12]; simp
      · intro y hy
        rcases List.mem_append.1 hy with hy | hy
        · exact hqw y hy
        · exact map_onOf_nowait o' y (by rw [hl12]; exact List.mem_append_left _ hy)
  · -- the input ended
    rw [List.append_nil] at e
    have hex := fun k' => key_end k' A c rem u z o hc hb (by rw [List.append_nil, ← e]; exact hA) hz htw hzr
    simp only [← ho] at hex
    have hwfp : WF (u ++ z.filter stays) := (wf_iff _).2 fun k' => (hex k').1
    have hR : ∀ k, nkNotes k (eventsRelGo A (u ++ z.filter stays ++ [])) none
        = (nkNotes k (eventsRelGo A wm) none).flatMap (cut1 (A + c)) := by
      intro k
      rw [List.append_nil, ← hRp k, List.append_nil, ← List.append_assoc, nkNotes_wf_append k A _ _ hwfp,
        (nk_skip k _ none (kev_events (hex k).2.1)).1, List.append_nil]
      refine (flatMap_cut1_id _ _ ?_).symm
      intro n hn
      have := R_notes_off_le k A _ hnn none n hn
      left; omega
    exact ⟨⟨hok', wf_nil, fun k n hn => (nomatch hn), fun k hk => absurd hk (hex k).2.2⟩, hwfp,
      fun k => (zlB_of_cut k A (A + c) _ _ _ hwfp (hA.zl k) (hR k)).1, hR⟩

/-- **the notes along a chain of runs** read from clock `A`, when the boundaries are ticks of `B` -/
theorem Runs.notes {caps : List Int} {wm wm' : List Msg} {o o' : Assoc (Int × Int) Msg} {ps : List (List Msg)}
    (h : Runs caps wm o ps wm' o') : ∀ A, (∀ c ∈ caps, 0 < c) → (∀ b ∈ cums A caps, B b) → NonNegWaits wm → AltOB B A wm o →
    WF wm' ∧ NonNegWaits wm' ∧ (∀ p ∈ ps, WF p ∧ NonNegWaits p) ∧
      ∀ k, nkNotes k (eventsRelGo A (ps.flatten ++ wm')) none = cutNotes (cums A caps) (nkNotes k (eventsRelGo A wm) none) := by
  induction h with
  | nil wm o => exact fun A _ _ hw hA => ⟨hA.wf, hw, (fun _ hp => nomatch hp), fun _ => rfl⟩
  | @cons c cs wm p wm1 wm' o o1 o' ps hrun hruns ih =>
    intro A hpos hB hw hA
    have hcp : 0 < c := hpos c List.mem_cons_self
    have hpos' : ∀ x ∈ cs, 0 < x := fun x hx => hpos x (List.mem_cons_of_mem _ hx)
    obtain ⟨hnp, hw1, _, _, hd1⟩ := hrun.timing A hw
    obtain ⟨hA1, hwfp, _, hN1⟩ := hrun.notes hcp (hB _ (by simp [cums])) hw hA
    obtain ⟨hwf2, hnw2, hwfn2, hN2⟩ := ih (A + c) hpos' (fun b hb => hB b (by simp [cums, hb])) hw1 hA1
    refine ⟨hwf2, hnw2, fun q hq => (mem_pushIf hq).elim (fun e => e.1 ▸ ⟨hwfp, hnp⟩) (hwfn2 q), fun k => ?_⟩
    -- nothing of the piece reaches beyond its boundary
    have hple : totalWait p ≤ c := by
      rcases hd1 with ⟨_, hpc, _, _⟩ | ⟨rfl, hle, _⟩
      · omega
      · have := (hrun.timing A hw).dur
        rw [List.append_nil] at this; omega
    have hid : cutNotes (cums (A + c) cs) (nkNotes k (eventsRelGo A p) none) = nkNotes k (eventsRelGo A p) none :=
      cutNotes_id _ _ fun n hn b hb => by
        have h1 := R_notes_off_le k A p hnp none n hn
        have h2 := cums_gt cs (A + c) hpos' b hb
        left; omega
    simp only [cums, cutNotes]
    rw [pushIf_flatten, List.append_assoc, ← hN1 k, nkNotes_wf_append k A p _ hwfp, nkNotes_wf_append k A p _ hwfp,
      cutNotes_append, hid]
    rcases hd1 with ⟨_, hpc, _, _⟩ | ⟨rfl, _, _⟩
    · rw [hpc, hN2 k]
    · -- the input ended: nothing follows
      obtain ⟨rfl, rfl, _⟩ := hruns.of_nil rfl
      simp [eventsRelGo, nkNotes, cutNotes_nil]

end SCoda.SplitL
