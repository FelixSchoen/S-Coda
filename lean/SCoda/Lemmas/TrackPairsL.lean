/-
  The notes of a track with both messages kept (`ExtractL.trackPairs`) under appending and shifting timed lists, and where
  the pairs of good tracks lie.  For the whole-bar glue of Props/C03e, C03f.
-/
import SCoda.Lemmas.ExtractL
import SCoda.Lemmas.ChunksL
namespace SCoda.GlueL
open SCoda SCoda.C01 SCoda.ChunksL SCoda.ExtractL SCoda.E2E SCoda.MergeL SCoda.NotesL SCoda.GlueAux SCoda.EQ

def shP (a : Int) (p : Msg × Msg) : Msg × Msg := (shiftM a p.1, shiftM a p.2)

/-- key by key both sides are the consecutive pairs of the key's note events (`NotesBL.key_form`) -/
theorem pairsGo_append_perm (x y : List Msg) (hx : WF x) (hy : WF y) :
    (pairsGo (x ++ y) []).Perm (pairsGo x [] ++ pairsGo y []) :=
  NotesL.perm_of_filters (fun p : Msg × Msg => p.1.nkey) _ _ (fun k => by
    obtain ⟨P, hP, hg⟩ := NotesBL.key_form k x (hx k)
    obtain ⟨Q, hQ, hq⟩ := NotesBL.key_form k y (hy k)
    show List.filter (pkey k) _ = List.filter (pkey k) _
    rw [List.filter_append, NotesBL.pairs_of_form hP hg, NotesBL.pairs_of_form hQ hq]
    exact NotesBL.pairs_of_form (by rw [List.filter_append, hP, hQ, NotesBL.unpair_append])
      (fun p hp => (List.mem_append.1 hp).elim (hg p) (hq p)))

theorem pairsGo_shift (a : Int) (l os : List Msg) :
    pairsGo (l.map (shiftM a)) (os.map (shiftM a)) = (pairsGo l os).map (shP a) :=
  NotesL.pairsGo_map_key (shiftM a) (fun _ => rfl) (fun _ => rfl) l os

theorem trackEvents_append (i : Nat) (x y : List Msg) :
    trackEvents i (x ++ y) = trackEvents i x ++ (trackEvents i y).map (shiftM (totalWait x)) := by
  simp only [trackEvents, eventsRel]
  rw [eventsRelGo_append, eventsRelGo_shift, List.map_append, List.map_map, List.map_map]
  rfl

theorem trackPairs_append (i : Nat) (x y : List Msg) (hx : WF (trackEvents i x)) (hy : WF (trackEvents i y)) :
    (trackPairs i (x ++ y)).Perm (trackPairs i x ++ (trackPairs i y).map (shP (totalWait x))) := by
  simp only [trackPairs]
  rw [trackEvents_append, ← pairsGo_shift _ _ []]
  exact pairsGo_append_perm _ _ hx (fun k => (altFrom_map k (shiftM _) _ (fun _ _ => ⟨rfl, rfl⟩) false).2 (hy k))

theorem trackGood_append (i : Nat) (x y : List Msg) (hx : TrackGood i x) (hy : TrackGood i y) : TrackGood i (x ++ y) := by
  refine ⟨okRel_append hx.okRel hy.okRel, ?_, ?_⟩
  · rw [trackEvents_append]
    exact fun k => altFrom_append k _ _ ((altFrom_map k (shiftM _) _ (fun _ _ => ⟨rfl, rfl⟩) false).2 (hy.wf k)) false (hx.wf k)
  · intro n hn
    rw [trackNotes_eq, ((trackPairs_append i x y hx.wf hy.wf).map _).mem_iff, List.map_append, List.mem_append] at hn
    rcases hn with hn | hn
    · rw [← trackNotes_eq] at hn
      exact hx.pos n hn
    · rw [List.map_map, List.mem_map] at hn
      obtain ⟨p, hp, rfl⟩ := hn
      have := hy.pos (mkNote p) (by rw [trackNotes_eq]; exact List.mem_map_of_mem hp)
      simp only [Function.comp, mkNote, shP, shiftM] at this ⊢
      omega

theorem trackGood_nil (i : Nat) : TrackGood i [] := by
  refine ⟨⟨by intro m hm; simp at hm, by intro m hm; simp at hm⟩, ?_, ?_⟩
  · intro k; simp [trackEvents, eventsRel, eventsRelGo, altFrom]
  · intro n hn; simp [trackNotes, trackEvents, eventsRel, eventsRelGo, notesOf, notesGo] at hn

theorem trackPairs_bounds (i : Nat) (r : List Msg) (hg : TrackGood i r) (p : Msg × Msg) (hp : p ∈ trackPairs i r) :
    0 ≤ p.1.time ∧ p.1.time < p.2.time ∧ p.2.time ≤ totalWait r := by
  have hb := trackEvents_time i r hg.okRel.1
  obtain ⟨h1, h2, _⟩ := NotesL.pairsGo_src _ [] p hp
  have h3 := hg.pos (mkNote p) (by rw [trackNotes_eq]; exact List.mem_map_of_mem hp)
  simp only [mkNote] at h3
  exact ⟨(hb _ (h1.elim (·.1) (nomatch ·))).1, h3, (hb _ h2).2⟩

theorem piecePairs_bounds (tracks : List (List Msg)) (hg : ∀ i r, tracks[i]? = some r → TrackGood i r) (p : Msg × Msg)
    (hp : p ∈ piecePairs tracks) :
    ∃ (i : Nat) (r : List Msg), tracks[i]? = some r ∧ 0 ≤ p.1.time ∧ p.1.time < p.2.time ∧ p.2.time ≤ totalWait r := by
  obtain ⟨i, r, hi, hpr, _⟩ := piecePairs_note hp
  exact ⟨i, r, hi, trackPairs_bounds i r (hg i r hi) p hpr⟩

@[simp] theorem isNoteEv_evOf (p : Msg × Msg) : isNoteEv (evOf p) = (p.1.ty == .noteOn) := rfl
@[simp] theorem isNoteEv_evOne (m : Msg) : isNoteEv (evOne m) = (m.ty == .noteOn) := rfl

theorem extract_pairs_perm (ppqn : Int) (tracks : List (List Msg)) (hg : ∀ i r, tracks[i]? = some r → TrackGood i r) :
    ((extract ppqn tracks).filter isNoteEv).Perm ((piecePairs tracks).map evOf) := by
  refine ((extract_perm ppqn tracks hg).filter isNoteEv).trans ?_
  rw [List.filter_append, List.filter_eq_self.2, List.filter_eq_nil_iff.2, List.append_nil]
  · intro x hx
    obtain ⟨m, hm, rfl⟩ := List.mem_map.1 hx
    simpa using others_not_on hm
  · intro x hx
    obtain ⟨p, hp, rfl⟩ := List.mem_map.1 hx
    simpa using piecePairs_on hp

theorem evOf_shP (a : Int) (Y : List (Msg × Msg)) : (Y.map (shP a)).map evOf = shiftEvs a (Y.map evOf) := by
  unfold shiftEvs
  rw [List.map_map, List.map_map]
  rfl

end SCoda.GlueL
