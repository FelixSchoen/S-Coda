/-
  Which kinds of cell the functions of `Model/HeapOps.lean` leave alone: a function that works on views writes message and list
  cells only (`ViewLevel`), one that works on a `Sequence` leaves the fields of bars and tracks as they are (`*_bar`, `*_trk`)
  and every other wrapper (`getRel_seq_other`).
  The tie (`Lemmas/HeapTieL.lean`) uses them where the translated constructors re-read `self.sequence` / `self.bars` after a call;
  `barInit_bar` and `trkInit_trk`, the content of the cell a constructor has just built, are behind `C16c.copy_equal_bar` / `_trk`.
  (Namespace `SCoda.HeapTieL`, shared with the tie's lemma files; nothing here mentions translated code.)
-/
import SCoda.Model.HeapOps
namespace SCoda.HeapTieL
open SCoda SCoda.HeapOps

theorem newMsgs_frame (ms : List Msg) : ∀ h : Heap, (newMsgs h ms).1.lst = h.lst ∧ (newMsgs h ms).1.seq = h.seq
    ∧ (newMsgs h ms).1.bar = h.bar ∧ (newMsgs h ms).1.trk = h.trk ∧ (newMsgs h ms).1.cmp = h.cmp
    ∧ (newMsgs h ms).1.nLst = h.nLst ∧ (newMsgs h ms).1.nSeq = h.nSeq ∧ (newMsgs h ms).1.nBar = h.nBar
    ∧ (newMsgs h ms).1.nTrk = h.nTrk ∧ (newMsgs h ms).1.nCmp = h.nCmp := by
  induction ms with
  | nil => intro h; simp [newMsgs]
  | cons m ms ih => intro h; simp only [newMsgs]; have := ih (h.newMsg m).1; simp_all [Heap.newMsg]

theorem newMsgs_nLst (ms : List Msg) (h : Heap) : (newMsgs h ms).1.nLst = h.nLst := (newMsgs_frame ms h).2.2.2.2.2.1

theorem newMsgs_nSeq (ms : List Msg) (h : Heap) : (newMsgs h ms).1.nSeq = h.nSeq := (newMsgs_frame ms h).2.2.2.2.2.2.1

@[simp] theorem convView_seq (f : List Msg → List Msg) (h : Heap) (l : Nat) : (convView f h l).1.seq = h.seq := by
  simp [convView, Heap.newLst, (newMsgs_frame _ h).2.1]

@[simp] theorem convView_bar (f : List Msg → List Msg) (h : Heap) (l : Nat) : (convView f h l).1.bar = h.bar := by
  simp [convView, Heap.newLst, (newMsgs_frame _ h).2.2.1]

@[simp] theorem convView_trk (f : List Msg → List Msg) (h : Heap) (l : Nat) : (convView f h l).1.trk = h.trk := by
  simp [convView, Heap.newLst, (newMsgs_frame _ h).2.2.2.1]

@[simp] theorem copyView_seq (h : Heap) (l : Nat) : (copyView h l).1.seq = h.seq := convView_seq id h l

@[simp] theorem copyView_bar (h : Heap) (l : Nat) : (copyView h l).1.bar = h.bar := convView_bar id h l

theorem seqInit_bar (h : Heap) (a r : Option Nat) : (seqInit h a r).1.bar = h.bar := by
  cases a <;> cases r <;> rfl

theorem seqInit_trk (h : Heap) (a r : Option Nat) : (seqInit h a r).1.trk = h.trk := by
  cases a <;> cases r <;> rfl

theorem seqCopy_bar (h : Heap) (s : Nat) : (seqCopy h s).1.bar = h.bar := by
  unfold seqCopy copyOpt
  simp only [seqInit_bar]
  cases (h.seq s).absStale <;> cases (h.seq s).relStale <;> cases (h.seq s).abs <;> cases (h.seq s).rel <;> simp

/-- a view-level operation: writes message cells and list cells only -/
def ViewLevel (f : Heap → Nat → Heap) : Prop :=
  ∀ h l, (f h l).seq = h.seq ∧ (f h l).bar = h.bar ∧ (f h l).trk = h.trk ∧ (f h l).nBar = h.nBar ∧ (f h l).nSeq = h.nSeq

theorem buildIds_frame (src : List Nat) (p : List Item) : ∀ h : Heap, (buildIds h src p).1.seq = h.seq ∧ (buildIds h src p).1.bar = h.bar
    ∧ (buildIds h src p).1.trk = h.trk ∧ (buildIds h src p).1.nBar = h.nBar ∧ (buildIds h src p).1.nSeq = h.nSeq
    ∧ (buildIds h src p).1.lst = h.lst ∧ (buildIds h src p).1.nLst = h.nLst := by
  induction p with
  | nil => intro h; simp [buildIds]
  | cons it p ih =>
    intro h
    cases it with
    | keep k => simp only [buildIds]; exact ih h
    | fresh m => simp only [buildIds]; have := ih (h.newMsg m).1; simp_all [Heap.newMsg]

theorem ViewLevel.seq {f : Heap → Nat → Heap} (hf : ViewLevel f) (h : Heap) (l : Nat) : (f h l).seq = h.seq := (hf h l).1
theorem ViewLevel.bar {f : Heap → Nat → Heap} (hf : ViewLevel f) (h : Heap) (l : Nat) : (f h l).bar = h.bar := (hf h l).2.1
theorem ViewLevel.trk {f : Heap → Nat → Heap} (hf : ViewLevel f) (h : Heap) (l : Nat) : (f h l).trk = h.trk := (hf h l).2.2.1

theorem viewLevel_rebuild (p : List Msg → List Item) : ViewLevel (rebuildView p) := by
  intro h l
  have := buildIds_frame (h.lst l) (p (h.viewVals l)) h
  simp_all [rebuildView, Heap.setLst]

theorem viewLevel_pad (w : List Msg → Option Msg) : ViewLevel (padView w) := by
  intro h l
  unfold padView
  split <;> simp [Heap.setLst, Heap.newMsg]

theorem viewLevel_insert (i : Nat) (idx : Option Nat) : ViewLevel (fun h l => insertView h l i idx) := by
  intro h l
  simp [insertView, Heap.setLst]

theorem viewLevel_id : ViewLevel (fun h _ => h) := fun _ _ => ⟨rfl, rfl, rfl, rfl, rfl⟩

@[simp] theorem getRel_bar (o : Orc) (h : Heap) (s : Nat) : (getRel o h s).1.bar = h.bar := by
  unfold getRel
  simp only
  split
  · split
    · rfl
    · split <;> simp [Heap.setSeq]
  · rfl

@[simp] theorem getRel_trk (o : Orc) (h : Heap) (s : Nat) : (getRel o h s).1.trk = h.trk := by
  unfold getRel
  simp only
  split
  · split
    · rfl
    · split <;> simp [Heap.setSeq]
  · rfl

theorem getRel_seq_other (o : Orc) (h : Heap) {s s' : Nat} (hne : s' ≠ s) : (getRel o h s).1.seq s' = h.seq s' := by
  unfold getRel
  simp only
  split
  · split
    · rfl
    · split
      · rfl
      · simp [Heap.setSeq, hne]
  · rfl

theorem getRels_trk (o : Orc) : ∀ (ss : List Nat) (h : Heap), (getRels o h ss).1.trk = h.trk := by
  intro ss
  induction ss with
  | nil => intro h; rfl
  | cons s ss ih =>
    intro h
    simp only [getRels]
    split
    · simp
    · simp [ih]

theorem extendView_seq (l : Nat) : ∀ (as : List Nat) (h : Heap), (extendView h l as).seq = h.seq := by
  intro as
  induction as with
  | nil => intro h; rfl
  | cons a as ih => intro h; simp [extendView, ih, Heap.setLst]

theorem extendView_trk (l : Nat) : ∀ (as : List Nat) (h : Heap), (extendView h l as).trk = h.trk := by
  intro as
  induction as with
  | nil => intro h; rfl
  | cons a as ih => intro h; simp [extendView, ih, Heap.setLst]

theorem withRel_fields (o : Orc) (h : Heap) (s : Nat) {f : Heap → Nat → Heap} (hf : ViewLevel f) :
    (withRel o h s f).bar = h.bar ∧ (withRel o h s f).trk = h.trk := by
  unfold withRel
  simp only
  split
  · simp
  · simp [invalidateAbs, Heap.setSeq, hf.bar, hf.trk]

theorem withRel_bar (o : Orc) (h : Heap) (s : Nat) {f : Heap → Nat → Heap} (hf : ViewLevel f) : (withRel o h s f).bar = h.bar :=
  (withRel_fields o h s hf).1

@[simp] theorem normalise_bar (o : Orc) (tag : Nat) (h : Heap) (s : Nat) : (normalise o tag h s).bar = h.bar :=
  withRel_bar o h s (viewLevel_rebuild _)
@[simp] theorem iterRel_bar (o : Orc) (h : Heap) (s : Nat) : (iterRel o h s).bar = h.bar := withRel_bar o h s viewLevel_id
@[simp] theorem pad_bar (o : Orc) (tag : Nat) (h : Heap) (s : Nat) : (pad o tag h s).bar = h.bar :=
  withRel_bar o h s (viewLevel_pad _)
@[simp] theorem overwriteRel_bar (h : Heap) (s : Nat) (ids : List Nat) : (overwriteRel h s ids).bar = h.bar := rfl
@[simp] theorem addRel_bar (o : Orc) (h : Heap) (s i : Nat) (idx : Option Nat) : (addRel o h s i idx).bar = h.bar :=
  withRel_bar o h s (viewLevel_insert i idx)
@[simp] theorem newMsg_bar (h : Heap) (m : Msg) : (h.newMsg m).1.bar = h.bar := rfl

theorem writeMsgs_seq : ∀ (ws : List (Nat × Msg)) (h : Heap), (writeMsgs h ws).seq = h.seq := by
  intro ws
  induction ws with
  | nil => intro h; rfl
  | cons w ws ih => intro h; obtain ⟨i, m⟩ := w; simp only [writeMsgs]; rw [ih]; rfl

theorem absOpView_seq (o : Orc) (tag : Nat) (h : Heap) (l : Nat) : (absOpView o tag h l).seq = h.seq := by
  unfold absOpView
  rw [(viewLevel_rebuild _).seq]
  exact writeMsgs_seq _ _

theorem concatenate_trk (o : Orc) (h : Heap) (s : Nat) (args : List Nat) : (concatenate o h s args).trk = h.trk := by
  unfold concatenate
  simp only
  split
  · simp
  · split
    · simp [getRels_trk]
    · simp [invalidateAbs, Heap.setSeq, extendView_trk, getRels_trk]

theorem barFinish_bar (o : Orc) (tag : Nat) (h : Heap) (s l : Nat) (num den : Int) : (barFinish o tag h s l num den).bar = h.bar := by
  simp [barFinish, invalidateAbs, Heap.setSeq]

theorem barBody_bar (o : Orc) (tag : Nat) (h : Heap) (s : Nat) (num den : Int) : (barBody o tag h s num den).bar = h.bar := by
  unfold barBody
  simp only
  split
  · simp [withRel_bar _ _ _ (viewLevel_pad _)]
  · simp [barFinish_bar, withRel_bar _ _ _ (viewLevel_pad _)]

theorem barInit_bar (o : Orc) (tag : Nat) (h : Heap) (s : Nat) (n d k : Int) :
    (barInit o tag h s n d k).1.bar (barInit o tag h s n d k).2 = { seq := s, num := n, den := d, key := k } := by
  simp [barInit, barBody_bar, Heap.newBar]

/-- of the track cell `Track.__init__` has filled, only `program` is written again -/
theorem trkInit_trk (o : Orc) (tag : Nat) (h : Heap) (bars : List Nat) (name : Int) :
    ((trkInit o tag h bars name).1.trk (trkInit o tag h bars name).2).bars = bars
      ∧ ((trkInit o tag h bars name).1.trk (trkInit o tag h bars name).2).name = name := by
  simp [trkInit, iterRel, (withRel_fields _ _ _ viewLevel_id).2, barsToSequence, concatenate_trk, seqInit_trk, Heap.setTrk, Heap.newTrk]

end SCoda.HeapTieL
