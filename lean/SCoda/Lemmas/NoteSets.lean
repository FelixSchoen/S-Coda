/-
  Lists of notes as sets of intervals, nothing about messages.  A list is separated (`Sep`) when per key its
  intervals are positive and disjoint.  Two separated lists that cover the same ticks and start at the same
  (key, tick) pairs have the same notes (`off_unique`, `perm_of_spec`, `shapes_perm_of_spec`).  `fuse` — sort by
  (channel, pitch, onset), sweep once — joins overlapping notes of a key: its output is separated, covers what the
  input covers, and starts where an input note starts outside every other input note (`fuse_spec`).  `fuse` is the
  specification side of merging (C15); what `normalise` does to the messages of a key is `fuseK` of `Lemmas/Fuse`, and the
  two meet in `Props/NotesB`.
-/
import SCoda.Lemmas.Sort
namespace SCoda.NotesBL
open SCoda

/-- the `(channel, pitch)` key of a note -/
def nkeyN (n : Note) : Int × Int := (n.ch, n.pitch)

/-- tick `t` lies in the interval of note `n`, which has key `k` -/
def Covers (n : Note) (k : Int × Int) (t : Int) : Prop := nkeyN n = k ∧ n.on ≤ t ∧ t < n.off

/-- a list of notes is *separated*: every note lasts at least one tick, two different notes of one
    key never overlap (they may touch), and no note is listed twice -/
structure Sep (S : List Note) : Prop where
  pos : ∀ n ∈ S, n.on < n.off
  disj : ∀ n ∈ S, ∀ n' ∈ S, n ≠ n' → nkeyN n = nkeyN n' → n.off ≤ n'.on ∨ n'.off ≤ n.on
  nodup : S.Nodup

/-- what starts a note: channel, pitch, onset, velocity -/
def onAttr (n : Note) : Int × Int × Int × Int := (n.ch, n.pitch, n.on, n.vel)
/-- what ends a note: channel, pitch, end -/
def offAttr (n : Note) : Int × Int × Int := (n.ch, n.pitch, n.off)
/-- a note without its velocity: channel, pitch, onset, end -/
def shape (n : Note) : Int × Int × Int × Int := (n.ch, n.pitch, n.on, n.off)

theorem note_ext {n n' : Note} (h1 : n.ch = n'.ch) (h2 : n.pitch = n'.pitch) (h3 : n.on = n'.on)
    (h4 : n.off = n'.off) (h5 : n.vel = n'.vel) : n = n' := by
  cases n; cases n'; simp_all

private theorem off_not_lt (X S : List Note) (hX : Sep X) (hS : Sep S)
    (hcov : ∀ k t, (∃ n ∈ X, Covers n k t) → (∃ n ∈ S, Covers n k t))
    (hon : ∀ k s, (∃ n ∈ S, nkeyN n = k ∧ n.on = s) → (∃ n ∈ X, nkeyN n = k ∧ n.on = s))
    {n n' : Note} (hn : n ∈ X) (hn' : n' ∈ S) (hk : nkeyN n = nkeyN n') (ho : n.on = n'.on) :
    ¬ n'.off < n.off := by
  intro hlt
  have hp' := hS.pos n' hn'
  -- the end of `n'` is still covered in `X`, hence in `S`
  obtain ⟨m, hm, hmk, hm1, hm2⟩ := hcov (nkeyN n) n'.off ⟨n, hn, rfl, by omega, hlt⟩
  have hmn : m ≠ n' := by intro e; subst e; omega
  rcases hS.disj m hm n' hn' hmn (hmk.trans hk) with h | h
  · omega
  · -- so a note of `S` starts there; then one of `X` does too, inside `n`
    have hmo : m.on = n'.off := by omega
    obtain ⟨m', hm', hm'k, hm'o⟩ := hon (nkeyN n) n'.off ⟨m, hm, hmk, hmo⟩
    have hp := hX.pos m' hm'
    have hne : m' ≠ n := by intro e; subst e; omega
    rcases hX.disj m' hm' n hn hne hm'k with h | h <;> omega

/-- **the end of a note is determined** by separation, the covered ticks and the onsets -/
theorem off_unique (X S : List Note) (hX : Sep X) (hS : Sep S)
    (hcov : ∀ k t, (∃ n ∈ X, Covers n k t) ↔ (∃ n ∈ S, Covers n k t))
    (hon : ∀ k s, (∃ n ∈ X, nkeyN n = k ∧ n.on = s) ↔ (∃ n ∈ S, nkeyN n = k ∧ n.on = s))
    {n n' : Note} (hn : n ∈ X) (hn' : n' ∈ S) (hk : nkeyN n = nkeyN n') (ho : n.on = n'.on) :
    n.off = n'.off := by
  have h1 := off_not_lt X S hX hS (fun k t => (hcov k t).1) (fun k s => (hon k s).2) hn hn' hk ho
  have h2 := off_not_lt S X hS hX (fun k t => (hcov k t).2) (fun k s => (hon k s).1) hn' hn hk.symm ho.symm
  omega

/-- separated + same covered ticks + same (key, onset, velocity) triples ⇒ the same notes -/
theorem perm_of_spec (X S : List Note) (hX : Sep X) (hS : Sep S)
    (hcov : ∀ k t, (∃ n ∈ X, Covers n k t) ↔ (∃ n ∈ S, Covers n k t))
    (hattr : ∀ α, α ∈ X.map onAttr ↔ α ∈ S.map onAttr) : X.Perm S := by
  have hon : ∀ k s, (∃ n ∈ X, nkeyN n = k ∧ n.on = s) ↔ (∃ n ∈ S, nkeyN n = k ∧ n.on = s) := by
    intro k s
    constructor
    · rintro ⟨n, hn, h1, h2⟩
      obtain ⟨n', hn', he⟩ := List.mem_map.1 ((hattr _).1 (List.mem_map.2 ⟨n, hn, rfl⟩))
      simp only [onAttr, Prod.mk.injEq] at he
      exact ⟨n', hn', by simp only [nkeyN, he.1, he.2.1]; exact h1, by omega⟩
    · rintro ⟨n, hn, h1, h2⟩
      obtain ⟨n', hn', he⟩ := List.mem_map.1 ((hattr _).2 (List.mem_map.2 ⟨n, hn, rfl⟩))
      simp only [onAttr, Prod.mk.injEq] at he
      exact ⟨n', hn', by simp only [nkeyN, he.1, he.2.1]; exact h1, by omega⟩
  rw [List.perm_ext_iff_of_nodup hX.nodup hS.nodup]
  intro n
  constructor
  · intro hn
    obtain ⟨n', hn', he⟩ := List.mem_map.1 ((hattr _).1 (List.mem_map.2 ⟨n, hn, rfl⟩))
    simp only [onAttr, Prod.mk.injEq] at he
    have hoff := off_unique X S hX hS hcov hon hn hn' (by simp [nkeyN, he.1, he.2.1]) he.2.2.1.symm
    rw [note_ext he.1.symm he.2.1.symm he.2.2.1.symm hoff he.2.2.2.symm]
    exact hn'
  · intro hn
    obtain ⟨n', hn', he⟩ := List.mem_map.1 ((hattr _).2 (List.mem_map.2 ⟨n, hn, rfl⟩))
    simp only [onAttr, Prod.mk.injEq] at he
    have hoff := off_unique X S hX hS hcov hon hn' hn (by simp [nkeyN, he.1, he.2.1]) he.2.2.1
    rw [← note_ext he.1 he.2.1 he.2.2.1 hoff he.2.2.2]
    exact hn'

theorem sep_shape_nodup (X : List Note) (hX : Sep X) : (X.map shape).Nodup := by
  rw [List.nodup_iff_pairwise_ne, List.pairwise_map]
  refine (List.nodup_iff_pairwise_ne.1 hX.nodup).imp_of_mem ?_
  intro a b ha hb hne he
  simp only [shape, Prod.mk.injEq] at he
  have := hX.pos a ha
  have := hX.pos b hb
  rcases hX.disj a ha b hb hne (by simp [nkeyN, he.1, he.2.1]) with h | h <;> omega

/-- separated + same covered ticks + same (key, onset) pairs ⇒ the same note shapes
    (channel, pitch, onset, end) -/
theorem shapes_perm_of_spec (X S : List Note) (hX : Sep X) (hS : Sep S)
    (hcov : ∀ k t, (∃ n ∈ X, Covers n k t) ↔ (∃ n ∈ S, Covers n k t))
    (hon : ∀ k s, (∃ n ∈ X, nkeyN n = k ∧ n.on = s) ↔ (∃ n ∈ S, nkeyN n = k ∧ n.on = s)) :
    (X.map shape).Perm (S.map shape) := by
  rw [List.perm_ext_iff_of_nodup (sep_shape_nodup X hX) (sep_shape_nodup S hS)]
  intro s
  constructor
  · intro hs
    obtain ⟨n, hn, rfl⟩ := List.mem_map.1 hs
    obtain ⟨n', hn', h1, h2⟩ := (hon _ _).1 ⟨n, hn, rfl, rfl⟩
    have hoff := off_unique X S hX hS hcov hon hn hn' h1.symm h2.symm
    simp only [nkeyN, Prod.mk.injEq] at h1
    exact List.mem_map.2 ⟨n', hn', by simp [shape, h1.1, h1.2, h2, hoff]⟩
  · intro hs
    obtain ⟨n, hn, rfl⟩ := List.mem_map.1 hs
    obtain ⟨n', hn', h1, h2⟩ := (hon _ _).2 ⟨n, hn, rfl, rfl⟩
    have hoff := off_unique X S hX hS hcov hon hn' hn h1 h2
    simp only [nkeyN, Prod.mk.injEq] at h1
    exact List.mem_map.2 ⟨n', hn', by simp [shape, h1.1, h1.2, h2, hoff]⟩

/-- notes ordered by channel, then pitch, then onset -/
def leN (n n' : Note) : Prop :=
  n.ch < n'.ch ∨ (n.ch = n'.ch ∧ (n.pitch < n'.pitch ∨ (n.pitch = n'.pitch ∧ n.on ≤ n'.on)))

instance (n n' : Note) : Decidable (leN n n') := by unfold leN; infer_instance

def leNb (n n' : Note) : Bool := decide (leN n n')

/-- one sweep over the notes sorted by (channel, pitch, onset): a note that starts before the current
    one of its key has ended extends it, any other note closes it -/
def sweep : Note → List Note → List Note
  | cur, [] => [cur]
  | cur, n :: ns =>
    if n.ch = cur.ch ∧ n.pitch = cur.pitch ∧ n.on < cur.off then
      sweep { cur with off := max cur.off n.off } ns
    else cur :: sweep n ns

/-- **the fusion of a list of notes**: sort by (channel, pitch, onset), sweep once.  The fused note keeps
    the velocity of the first note of its chain. -/
def fuse (N : List Note) : List Note :=
  match isort leNb N with
  | [] => []
  | n :: ns => sweep n ns

theorem leN_total (a b : Note) : leN a b ∨ leN b a := by unfold leN; omega
theorem leN_trans {a b c : Note} (h1 : leN a b) (h2 : leN b c) : leN a c := by unfold leN at *; omega

theorem leN_on {a b : Note} (h : leN a b) (hk : nkeyN a = nkeyN b) : a.on ≤ b.on := by
  have e1 : a.ch = b.ch := congrArg Prod.fst hk
  have e2 : a.pitch = b.pitch := congrArg Prod.snd hk
  unfold leN at h
  omega

theorem leN_mid {a b c : Note} (h1 : leN a b) (h2 : leN b c) (hk : nkeyN a = nkeyN c) : nkeyN b = nkeyN a := by
  have e1 : a.ch = c.ch := congrArg Prod.fst hk
  have e2 : a.pitch = c.pitch := congrArg Prod.snd hk
  unfold leN at h1 h2
  exact Prod.ext (by simp only [nkeyN]; omega) (by simp only [nkeyN]; omega)

theorem isortN_sorted (l : List Note) : (isort leNb l).Pairwise leN :=
  isort_pairwise leNb leN (fun _ _ h => by simpa [leNb] using h)
    (fun a b h => (leN_total a b).resolve_left (by simpa [leNb] using h)) (fun h1 h2 => leN_trans h1 h2) l

/-- the order of the output of the sweep: by key, and within a key separated in time -/
def sepN (m m' : Note) : Prop :=
  m.ch < m'.ch ∨ (m.ch = m'.ch ∧ (m.pitch < m'.pitch ∨ (m.pitch = m'.pitch ∧ m.off ≤ m'.on)))

theorem sepN_off {m m' : Note} (h : sepN m m') (hk : nkeyN m = nkeyN m') : m.off ≤ m'.on := by
  have e1 : m.ch = m'.ch := congrArg Prod.fst hk
  have e2 : m.pitch = m'.pitch := congrArg Prod.snd hk
  unfold sepN at h
  omega

/-- a note the sweep does not fuse into `cur` separates `cur` from everything behind it -/
theorem sepN_of_next {cur n m : Note} (h1 : leN cur n) (h2 : leN n m)
    (hc : ¬ (n.ch = cur.ch ∧ n.pitch = cur.pitch ∧ n.on < cur.off)) : sepN cur m := by
  by_cases hk : nkeyN cur = nkeyN m
  · -- `n` lies between two notes of one key, so it has that key and starts after `cur` has ended
    have hkn := leN_mid h1 h2 hk
    have a := leN_on h2 (hkn.trans hk)
    have e3 : n.ch = cur.ch := congrArg Prod.fst hkn
    have e4 : n.pitch = cur.pitch := congrArg Prod.snd hkn
    exact Or.inr ⟨congrArg Prod.fst hk, Or.inr ⟨congrArg Prod.snd hk, by omega⟩⟩
  · have h3 := leN_trans h1 h2
    have : ¬ (cur.ch = m.ch ∧ cur.pitch = m.pitch) := fun e => hk (Prod.ext e.1 e.2)
    unfold leN at h3
    unfold sepN
    omega

/-- what the sweep is run on: sorted, bounded below by the current note, every note positive -/
structure SweepIn (cur : Note) (L : List Note) : Prop where
  sorted : L.Pairwise leN
  lb : ∀ n ∈ L, leN cur n
  pos : cur.on < cur.off
  posL : ∀ n ∈ L, n.on < n.off

theorem SweepIn.fuse_step {cur n : Note} {ns : List Note} (h : SweepIn cur (n :: ns)) :
    SweepIn { cur with off := max cur.off n.off } ns :=
  ⟨(List.pairwise_cons.1 h.sorted).2, fun x hx => h.lb x (List.mem_cons_of_mem _ hx),
    by have := h.pos; simp only; omega, fun x hx => h.posL x (List.mem_cons_of_mem _ hx)⟩

theorem SweepIn.next_step {cur n : Note} {ns : List Note} (h : SweepIn cur (n :: ns)) : SweepIn n ns :=
  ⟨(List.pairwise_cons.1 h.sorted).2, (List.pairwise_cons.1 h.sorted).1, h.posL n List.mem_cons_self,
    fun x hx => h.posL x (List.mem_cons_of_mem _ hx)⟩

theorem sweep_struct : ∀ (L : List Note) (cur : Note), SweepIn cur L →
    (sweep cur L).Pairwise sepN ∧ (∀ m ∈ sweep cur L, m.on < m.off ∧ leN cur m) := by
  intro L
  induction L with
  | nil =>
    intro cur h
    refine ⟨List.pairwise_singleton _ _, fun m hm => ?_⟩
    rw [List.mem_singleton.1 hm]
    exact ⟨h.pos, (leN_total cur cur).elim id id⟩
  | cons n ns ih =>
    intro cur h
    simp only [sweep]
    split
    · -- the fused note has the channel, pitch and onset of `cur`, which is all `leN` reads
      exact ih _ h.fuse_step
    · rename_i hc
      have hn := h.lb n List.mem_cons_self
      obtain ⟨r1, r2⟩ := ih n h.next_step
      refine ⟨List.pairwise_cons.2 ⟨fun m hm => sepN_of_next hn (r2 m hm).2 hc, r1⟩, fun m hm => ?_⟩
      rcases List.mem_cons.1 hm with rfl | hm
      · exact ⟨h.pos, (leN_total m m).elim id id⟩
      · exact ⟨(r2 m hm).1, leN_trans hn (r2 m hm).2⟩

/-! The fused note `u = { cur with off := max cur.off n.off }`, for `n` of the key of `cur` with
    `cur.on ≤ n.on < cur.off`: it covers what `cur` and `n` cover, has strictly inside what they have, and
    starts where `cur` does. -/

theorem fused_covers {cur n : Note} (hk : nkeyN n = nkeyN cur) (h1 : cur.on ≤ n.on) (h2 : n.on < cur.off)
    (k : Int × Int) (t : Int) :
    Covers { cur with off := max cur.off n.off } k t ↔ Covers cur k t ∨ Covers n k t := by
  constructor
  · rintro ⟨e, a, b⟩
    by_cases c : t < cur.off
    · exact Or.inl ⟨e, a, c⟩
    · exact Or.inr ⟨hk.trans e, by omega, by simp only at b; omega⟩
  · rintro (⟨e, a, b⟩ | ⟨e, a, b⟩)
    · exact ⟨e, a, by simp only; omega⟩
    · exact ⟨hk.symm.trans e, by simp only; omega, by simp only; omega⟩

theorem fused_inside {cur n : Note} (hk : nkeyN n = nkeyN cur) (h1 : cur.on ≤ n.on) (h2 : n.on < cur.off)
    (k : Int × Int) (s : Int) :
    (nkeyN { cur with off := max cur.off n.off } = k ∧ ({ cur with off := max cur.off n.off } : Note).on < s
        ∧ s < ({ cur with off := max cur.off n.off } : Note).off) ↔
      (nkeyN cur = k ∧ cur.on < s ∧ s < cur.off) ∨ (nkeyN n = k ∧ n.on < s ∧ s < n.off) := by
  constructor
  · rintro ⟨e, a, b⟩
    by_cases c : s < cur.off
    · exact Or.inl ⟨e, a, c⟩
    · exact Or.inr ⟨hk.trans e, by simp only at a b; omega, by simp only at b; omega⟩
  · rintro (⟨e, a, b⟩ | ⟨e, a, b⟩)
    · exact ⟨e, a, by simp only; omega⟩
    · exact ⟨hk.symm.trans e, by simp only; omega, by simp only; omega⟩

theorem sweep_cover : ∀ (L : List Note) (cur : Note) (k : Int × Int) (t : Int), SweepIn cur L →
    ((∃ m ∈ sweep cur L, Covers m k t) ↔ (∃ n ∈ cur :: L, Covers n k t)) := by
  intro L
  induction L with
  | nil => intro cur k t _; rfl
  | cons n ns ih =>
    intro cur k t h
    simp only [sweep]
    split
    · rename_i hc
      have hk : nkeyN n = nkeyN cur := Prod.ext hc.1 hc.2.1
      rw [ih _ k t h.fuse_step, exists_cons, exists_cons, exists_cons,
        fused_covers hk (leN_on (h.lb n List.mem_cons_self) hk.symm) hc.2.2, or_assoc]
    · rw [exists_cons, ih n k t h.next_step, exists_cons (l := n :: ns)]

theorem sweep_onset : ∀ (L : List Note) (cur : Note) (k : Int × Int) (s : Int), SweepIn cur L →
    ((∃ m ∈ sweep cur L, nkeyN m = k ∧ m.on = s) ↔
      ((∃ n ∈ cur :: L, nkeyN n = k ∧ n.on = s) ∧ ¬ ∃ n' ∈ cur :: L, nkeyN n' = k ∧ n'.on < s ∧ s < n'.off)) := by
  intro L
  induction L with
  | nil =>
    intro cur k s _
    simp only [sweep, List.mem_singleton, exists_eq_left]
    exact ⟨fun h => ⟨h, fun ⟨_, h3, _⟩ => by have := h.2; omega⟩, fun h => h.1⟩
  | cons n ns ih =>
    intro cur k s h
    have hn := h.lb n List.mem_cons_self
    simp only [sweep]
    split
    · rename_i hc
      have hk : nkeyN n = nkeyN cur := Prod.ext hc.1 hc.2.1
      have hon := leN_on hn hk.symm
      rw [ih _ k s h.fuse_step, exists_cons, exists_cons, exists_cons,
        exists_cons, exists_cons, exists_cons,
        fused_inside hk hon hc.2.2, or_assoc]
      -- an onset of `n` that is not strictly inside `cur` is the onset of `cur`
      have hstart : (nkeyN n = k ∧ n.on = s) → ¬ (nkeyN cur = k ∧ cur.on < s ∧ s < cur.off) →
          nkeyN cur = k ∧ cur.on = s :=
        fun ⟨e, a⟩ hi => ⟨hk.symm.trans e, by
          have : ¬ (cur.on < s ∧ s < cur.off) := fun c => hi ⟨hk.symm.trans e, c⟩
          omega⟩
      constructor
      · rintro ⟨h1, h2⟩
        exact ⟨h1.elim Or.inl (fun x => Or.inr (Or.inr x)), h2⟩
      · rintro ⟨h1, h2⟩
        refine ⟨?_, h2⟩
        rcases h1 with h1 | h1 | h1
        · exact Or.inl h1
        · exact Or.inl (hstart h1 (fun c => h2 (Or.inl c)))
        · exact Or.inr h1
    · rename_i hc
      rw [exists_cons, ih n k s h.next_step, exists_cons (l := n :: ns),
        exists_cons (l := n :: ns)]
      -- `cur` is first in its key: where it starts nothing of `n :: ns` is under way
      have g1 : (nkeyN cur = k ∧ cur.on = s) → ¬ ∃ x ∈ n :: ns, nkeyN x = k ∧ x.on < s ∧ s < x.off := by
        rintro ⟨e, a⟩ ⟨x, hx, e', b, _⟩
        have := leN_on (h.lb x hx) (e.trans e'.symm)
        omega
      -- a note of the key of `cur` behind `n` shows that `n` has that key, so `n` starts after `cur` ends
      have g2 : (∃ x ∈ n :: ns, nkeyN x = k ∧ x.on = s) → ¬ (nkeyN cur = k ∧ cur.on < s ∧ s < cur.off) := by
        rintro ⟨x, hx, e', a⟩ ⟨e, _, c⟩
        have hnx : leN n x := by
          rcases List.mem_cons.1 hx with rfl | hx
          · exact (leN_total x x).elim id id
          · exact (List.pairwise_cons.1 h.sorted).1 x hx
        have hkn := leN_mid hn hnx (e.trans e'.symm)
        have := leN_on hnx (hkn.trans (e.trans e'.symm))
        exact hc ⟨congrArg Prod.fst hkn, congrArg Prod.snd hkn, by omega⟩
      constructor
      · rintro (h1 | ⟨h1, h2⟩)
        · exact ⟨Or.inl h1, fun c => c.elim (fun c => by have := h1.2; omega) (g1 h1)⟩
        · exact ⟨Or.inr h1, fun c => c.elim (g2 h1) h2⟩
      · rintro ⟨h1 | h1, h2⟩
        · exact Or.inl h1
        · exact Or.inr ⟨h1, fun c => h2 (Or.inr c)⟩

/-- the sweep computes a fusion: separated output, same cover, onsets = input onsets not strictly inside
    an input note of the key -/
theorem fuse_spec (N : List Note) (hpos : ∀ n ∈ N, n.on < n.off) :
    Sep (fuse N)
    ∧ (∀ k t, (∃ m ∈ fuse N, Covers m k t) ↔ (∃ n ∈ N, Covers n k t))
    ∧ (∀ k s, (∃ m ∈ fuse N, nkeyN m = k ∧ m.on = s) ↔
        ((∃ n ∈ N, nkeyN n = k ∧ n.on = s) ∧ ¬ ∃ n' ∈ N, nkeyN n' = k ∧ n'.on < s ∧ s < n'.off)) := by
  have hperm := isort_perm leNb N
  have hsorted := isortN_sorted N
  unfold fuse
  cases hL : isort leNb N with
  | nil =>
    rw [hL] at hperm
    have : N = [] := List.Perm.eq_nil hperm.symm
    subst this
    simp only []
    exact ⟨⟨by simp, by simp, List.nodup_nil⟩, by simp, by simp⟩
  | cons n ns =>
    rw [hL] at hperm hsorted
    simp only []
    have hin : SweepIn n ns := by
      rw [List.pairwise_cons] at hsorted
      exact ⟨hsorted.2, hsorted.1, hpos n (hperm.mem_iff.1 List.mem_cons_self),
        fun x hx => hpos x (hperm.mem_iff.1 (List.mem_cons_of_mem _ hx))⟩
    obtain ⟨r1, r2⟩ := sweep_struct ns n hin
    have ex : ∀ P : Note → Prop, (∃ x ∈ n :: ns, P x) ↔ (∃ x ∈ N, P x) := fun P =>
      ⟨fun ⟨x, hx, hp⟩ => ⟨x, hperm.mem_iff.1 hx, hp⟩, fun ⟨x, hx, hp⟩ => ⟨x, hperm.mem_iff.2 hx, hp⟩⟩
    refine ⟨⟨fun m hm => (r2 m hm).1, ?_, ?_⟩, ?_, ?_⟩
    · intro m hm m' hm' hne hk
      rcases pairwise_mem r1 hm hm' with e | e | e
      · exact absurd e hne
      · exact Or.inl (sepN_off e hk)
      · exact Or.inr (sepN_off e hk.symm)
    · rw [List.nodup_iff_pairwise_ne]
      refine r1.imp_of_mem ?_
      rintro a b ha _ hs rfl
      have := (r2 a ha).1
      have := sepN_off hs rfl
      omega
    · intro k t
      rw [sweep_cover ns n k t hin, ex]
    · intro k s
      rw [sweep_onset ns n k s hin, ex, ex]

end SCoda.NotesBL
