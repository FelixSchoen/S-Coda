/-
  The clock side of the `Roll` vocabulary (`Model/Roll.lean`, `Model/Conv.lean`).  `eventsRelGo` stamps every message that is no
  wait with the clock it happens at, and `totalWait` is what the clock advances by: both are homomorphic in `++`
  (`eventsRelGo_append`), a map that respects the clock maps the events (`eventsRelGo_hom`), and with non-negative waits the
  events come in time order between the start and the final clock (`eventsRelGo_bounds`, `events_sorted`).  `toRel` / `toAbs`
  are read against them: `toAbs r` is the sorted events of `r` plus, if `r` ends in a wait, the `INTERNAL` cap (`toAbs_eq`,
  `mem_toAbs`); the duration of a sorted list is the tick of its last message (`durAbs_last`).
-/
import SCoda.Lemmas.Sort
namespace SCoda

theorem totalWait_cons_wait (m : Msg) (l : List Msg) (h : m.ty = .wait) : totalWait (m :: l) = m.time + totalWait l := by
  simp [totalWait, h]

theorem totalWait_cons_nowait (m : Msg) (l : List Msg) (h : m.ty ≠ .wait) : totalWait (m :: l) = totalWait l := by
  simp [totalWait, h]

theorem totalWait_mkWait (c t : Int) (l : List Msg) : totalWait (Msg.mkWait c t :: l) = t + totalWait l :=
  totalWait_cons_wait _ l rfl

theorem totalWait_append (a b : List Msg) : totalWait (a ++ b) = totalWait a + totalWait b := by
  induction a with
  | nil => simp [totalWait]
  | cons x xs ih => simp only [List.cons_append, totalWait, ih]; omega


theorem totalWait_nowait (l : List Msg) (h : ∀ m ∈ l, m.ty ≠ .wait) : totalWait l = 0 := by
  induction l with
  | nil => rfl
  | cons m ms ih =>
    rw [totalWait_cons_nowait m ms (h m List.mem_cons_self)]
    exact ih (fun x hx => h x (List.mem_cons_of_mem _ hx))

theorem totalWait_map (f : Msg → Msg) (hty : ∀ m, (f m).ty = m.ty) (htime : ∀ m, (f m).time = m.time)
    (r : List Msg) : totalWait (r.map f) = totalWait r := by
  induction r with
  | nil => rfl
  | cons m ms ih => simp only [List.map_cons, totalWait, hty, htime, ih]

theorem totalWait_nonneg (l : List Msg) (h : NonNegWaits l) : 0 ≤ totalWait l := by
  induction l with
  | nil => simp [totalWait]
  | cons y ys ih =>
    have := ih (fun x hx => h x (List.mem_cons_of_mem _ hx))
    simp only [totalWait]
    split
    · rename_i hyw
      have := h y (by simp) (by simpa using hyw)
      omega
    · omega


theorem nonNegWaits_nil : NonNegWaits [] := fun _ h => nomatch h

theorem nonNegWaits_nowait (l : List Msg) (h : ∀ m ∈ l, m.ty ≠ .wait) : NonNegWaits l :=
  fun m hm hw => absurd hw (h m hm)

theorem nonNegWaits_tail {m : Msg} {l : List Msg} (h : NonNegWaits (m :: l)) : NonNegWaits l :=
  fun x hx => h x (List.mem_cons_of_mem _ hx)

theorem nonNegWaits_cons {m : Msg} {l : List Msg} (hm : m.ty = .wait → 0 ≤ m.time) (h : NonNegWaits l) :
    NonNegWaits (m :: l) := by
  intro x hx hw
  rcases List.mem_cons.1 hx with rfl | hx
  · exact hm hw
  · exact h x hx hw

theorem nonNegWaits_flatten (ps : List (List Msg)) (h : ∀ p ∈ ps, NonNegWaits p) : NonNegWaits ps.flatten := by
  intro m hm
  obtain ⟨p, hp, hmp⟩ := List.mem_flatten.1 hm
  exact h p hp m hmp

theorem nonNegWaits_map (f : Msg → Msg) (hty : ∀ m, (f m).ty = m.ty) (htm : ∀ m, (f m).time = m.time) {l : List Msg}
    (h : NonNegWaits l) : NonNegWaits (l.map f) := by
  intro m hm hw
  obtain ⟨m0, hm0, rfl⟩ := List.mem_map.1 hm
  rw [htm]
  exact h m0 hm0 (by rw [← hty]; exact hw)

theorem nonNegWaits_append {a b : List Msg} : NonNegWaits (a ++ b) ↔ NonNegWaits a ∧ NonNegWaits b := by
  simp only [NonNegWaits, List.mem_append]
  constructor
  · intro h; exact ⟨fun m hm => h m (Or.inl hm), fun m hm => h m (Or.inr hm)⟩
  · rintro ⟨h1, h2⟩ m (hm | hm)
    · exact h1 m hm
    · exact h2 m hm


theorem okRel_append {x y : List Msg} (hx : OkRel x) (hy : OkRel y) : OkRel (x ++ y) :=
  ⟨nonNegWaits_append.2 ⟨hx.1, hy.1⟩, fun m hm => (List.mem_append.1 hm).elim (hx.2 m) (hy.2 m)⟩

/-- a legal absolute view is time-sorted plus a condition on the single message: read `OkAbs` through this, not by position -/
theorem okAbs_iff (l : List Msg) :
    OkAbs l ↔ l.Pairwise (fun a b => a.time ≤ b.time) ∧ ∀ m ∈ l, 0 ≤ m.time ∧ m.ty ≠ .wait := by
  unfold OkAbs NonNegTimes
  rw [timeSorted_iff_pairwise]
  exact ⟨fun h => ⟨h.1, fun m hm => ⟨h.2.1 m hm, h.2.2 m hm⟩⟩,
    fun h => ⟨h.1, fun m hm => (h.2 m hm).1, fun m hm => (h.2 m hm).2⟩⟩

theorem okAbs_nil : OkAbs [] := (okAbs_iff []).2 ⟨List.Pairwise.nil, fun _ hm => nomatch hm⟩

theorem okAbs_sortAbs {a : List Msg} (ha : OkAbs a) : OkAbs (sortAbs a) :=
  (okAbs_iff _).2 ⟨sortAbs_pairwise a, fun m hm => ((okAbs_iff a).1 ha).2 m ((mem_sortAbs a m).1 hm)⟩

theorem okAbs_sortAbs_flatten (as : List (List Msg)) (h : ∀ a ∈ as, OkAbs a) : OkAbs (sortAbs as.flatten) := by
  refine (okAbs_iff _).2 ⟨sortAbs_pairwise _, fun m hm => ?_⟩
  obtain ⟨a, ha, hma⟩ := List.mem_flatten.1 ((mem_sortAbs _ _).1 hm)
  exact ((okAbs_iff a).1 (h a ha)).2 m hma

theorem eventsRelGo_cons_wait (a : Int) (m : Msg) (l : List Msg) (h : m.ty = .wait) :
    eventsRelGo a (m :: l) = eventsRelGo (a + m.time) l := by
  simp [eventsRelGo, h]

theorem eventsRelGo_cons_nowait (a : Int) (m : Msg) (l : List Msg) (h : m.ty ≠ .wait) :
    eventsRelGo a (m :: l) = { m with time := a } :: eventsRelGo a l := by
  simp [eventsRelGo, h]

theorem eventsRelGo_mkWait (a c t : Int) (l : List Msg) :
    eventsRelGo a (Msg.mkWait c t :: l) = eventsRelGo (a + t) l :=
  eventsRelGo_cons_wait a _ l rfl

theorem eventsRelGo_append (a : Int) (u y : List Msg) :
    eventsRelGo a (u ++ y) = eventsRelGo a u ++ eventsRelGo (a + totalWait u) y := by
  induction u generalizing a with
  | nil => rw [totalWait, Int.add_zero]; rfl
  | cons m ms ih =>
    by_cases hw : m.ty = .wait
    · rw [List.cons_append, eventsRelGo_cons_wait _ _ _ hw, eventsRelGo_cons_wait _ _ _ hw, ih,
        totalWait_cons_wait m ms hw, Int.add_assoc]
    · rw [List.cons_append, eventsRelGo_cons_nowait _ _ _ hw, eventsRelGo_cons_nowait _ _ _ hw, ih,
        totalWait_cons_nowait m ms hw, List.cons_append]

theorem mem_eventsRelGo_append {e : Msg} (a : Int) (u y : List Msg) :
    e ∈ eventsRelGo a (u ++ y) ↔ e ∈ eventsRelGo a u ∨ e ∈ eventsRelGo (a + totalWait u) y := by
  rw [eventsRelGo_append, List.mem_append]

theorem eventsRelGo_nowait (a : Int) (l : List Msg) (h : ∀ m ∈ l, m.ty ≠ .wait) :
    eventsRelGo a l = l.map (fun m => { m with time := a }) := by
  induction l with
  | nil => rfl
  | cons m ms ih =>
    rw [eventsRelGo_cons_nowait a m ms (h m List.mem_cons_self), ih (fun x hx => h x (List.mem_cons_of_mem _ hx)),
      List.map_cons]

/-- `f` acts on the messages, `φ` on the clock, `g` on the timed events: if waits stay waits and advance the image clock as `φ` says,
    and a stamped message is mapped as `g` says, the events of the mapped list are the mapped events -/
theorem eventsRelGo_hom (f g : Msg → Msg) (φ : Int → Int) (hty : ∀ m, (f m).ty = m.ty)
    (hφ : ∀ c m, m.ty = .wait → φ (c + m.time) = φ c + (f m).time)
    (hg : ∀ c m, m.ty ≠ .wait → g { m with time := c } = { f m with time := φ c }) (r : List Msg) :
    ∀ c, eventsRelGo (φ c) (r.map f) = (eventsRelGo c r).map g := by
  induction r with
  | nil => intro c; rfl
  | cons m ms ih =>
    intro c
    rw [List.map_cons, eventsRelGo, eventsRelGo, hty]
    split
    · rename_i hw
      rw [← hφ c m (beq_iff_eq.1 hw), ih]
    · rename_i hw
      rw [List.map_cons, ih, hg c m fun e => hw (beq_iff_eq.2 e)]
      simp only [hty]

/-- a message moved by `c` ticks -/
def shiftM (c : Int) (m : Msg) : Msg := { m with time := m.time + c }

theorem eventsRelGo_shift (l : List Msg) (a c : Int) : eventsRelGo (a + c) l = (eventsRelGo a l).map (shiftM c) := by
  have := eventsRelGo_hom id (shiftM c) (· + c) (fun _ => rfl) (fun _ _ _ => Int.add_right_comm ..) (fun _ _ _ => rfl) l a
  rwa [List.map_id] at this

theorem eventsRelGo_bounds (r : List Msg) : ∀ (cur : Int), NonNegWaits r →
    ∀ e ∈ eventsRelGo cur r, cur ≤ e.time ∧ e.time ≤ cur + totalWait r := by
  induction r with
  | nil => intro cur _ e he; simp [eventsRelGo] at he
  | cons m ms ih =>
    intro cur hnn e he
    have hnn' : NonNegWaits ms := fun x hx => hnn x (List.mem_cons_of_mem _ hx)
    have htw : 0 ≤ totalWait ms := totalWait_nonneg ms hnn'
    by_cases hw : m.ty = .wait
    · have hm := hnn m (by simp) hw
      simp only [eventsRelGo, hw, beq_self_eq_true, if_true] at he
      have := ih _ hnn' e he
      simp only [totalWait, hw, beq_self_eq_true, if_true]
      omega
    · simp [eventsRelGo, hw] at he
      simp [totalWait, hw]
      rcases he with rfl | he
      · simp; omega
      · exact ih _ hnn' e he

theorem eventsRelGo_src (r : List Msg) : ∀ (cur : Int), ∀ e ∈ eventsRelGo cur r,
    ∃ m ∈ r, m.ty ≠ .wait ∧ ∃ t, e = { m with time := t } := by
  induction r with
  | nil => intro cur e he; cases he
  | cons m ms ih =>
    intro cur e he
    by_cases hw : m.ty = .wait
    · simp only [eventsRelGo, hw, beq_self_eq_true, if_true] at he
      obtain ⟨x, hx, h⟩ := ih _ e he
      exact ⟨x, List.mem_cons_of_mem _ hx, h⟩
    · simp [eventsRelGo, hw] at he
      rcases he with rfl | he
      · exact ⟨m, List.mem_cons_self, hw, cur, rfl⟩
      · obtain ⟨x, hx, h⟩ := ih _ e he
        exact ⟨x, List.mem_cons_of_mem _ hx, h⟩

theorem eventsRelGo_ty (r : List Msg) (cur : Int) (e : Msg) (he : e ∈ eventsRelGo cur r) :
    e.ty ≠ .wait ∧ ∃ m ∈ r, e.ty = m.ty :=
  let ⟨m, hm, hw, _, h⟩ := eventsRelGo_src r cur e he; h ▸ ⟨hw, m, hm, rfl⟩

theorem events_sorted (r : List Msg) : ∀ (c : Int), NonNegWaits r →
    (eventsRelGo c r).Pairwise (fun a b => a.time ≤ b.time) := by
  induction r with
  | nil => intro c _; exact List.Pairwise.nil
  | cons m ms ih =>
    intro c h
    by_cases hw : m.ty = .wait
    · rw [eventsRelGo_cons_wait _ _ _ hw]
      exact ih _ (nonNegWaits_tail h)
    · rw [eventsRelGo_cons_nowait _ _ _ hw, List.pairwise_cons]
      exact ⟨fun e he => (eventsRelGo_bounds ms c (nonNegWaits_tail h) e he).1, ih _ (nonNegWaits_tail h)⟩

/-! ### dropping messages that are no waits: `totalWait` and `eventsRelGo` under a `filter`

  The list is read through any `f` into messages, so that the filter may look at more than the message. -/

/-- a predicate on messages that does not look at the time stamp -/
def StampInv (g : Msg → Bool) : Prop := ∀ (m : Msg) (t : Int), g { m with time := t } = g m

theorem totalWait_map_filter {α} (f : α → Msg) (P : α → Bool) (L : List α)
    (hP : ∀ e ∈ L, P e = false → (f e).ty ≠ .wait) :
    totalWait ((L.filter P).map f) = totalWait (L.map f) := by
  induction L with
  | nil => rfl
  | cons e L ih =>
    have ih' := ih (fun x hx => hP x (List.mem_cons_of_mem _ hx))
    by_cases hpe : P e = true
    · simp [List.filter_cons, hpe, totalWait, ih']
    · have := hP e (by simp) (by simpa using hpe)
      simp [List.filter_cons, hpe, totalWait, ih', this]

theorem eventsRelGo_map_filter_sublist {α} (f : α → Msg) (P : α → Bool) (L : List α)
    (hP : ∀ e ∈ L, P e = false → (f e).ty ≠ .wait) : ∀ c : Int,
    (eventsRelGo c ((L.filter P).map f)).Sublist (eventsRelGo c (L.map f)) := by
  induction L with
  | nil => intro c; simp
  | cons e L ih =>
    intro c
    have ih' := ih (fun x hx => hP x (List.mem_cons_of_mem _ hx))
    by_cases hpe : P e = true
    · by_cases hw : (f e).ty = .wait
      · simp [List.filter_cons, hpe, eventsRelGo, hw, ih']
      · simp [List.filter_cons, hpe, eventsRelGo, hw, ih']
    · have := hP e (by simp) (by simpa using hpe)
      simp only [List.filter_cons, hpe, List.map_cons, eventsRelGo, this]
      simp only [Bool.false_eq_true, if_false, beq_iff_eq, this]
      exact List.Sublist.cons _ (ih' c)

/-- a class `g` of events does not see the dropping of messages outside it -/
theorem eventsRelGo_map_filter_filter (g : Msg → Bool) (hg : StampInv g) {α} (f : α → Msg) (P : α → Bool) (L : List α)
    (hP : ∀ e ∈ L, P e = false → (f e).ty ≠ .wait ∧ g (f e) = false) : ∀ c : Int,
    (eventsRelGo c ((L.filter P).map f)).filter g = (eventsRelGo c (L.map f)).filter g := by
  induction L with
  | nil => intro c; simp
  | cons e L ih =>
    intro c
    have ih' := ih (fun x hx => hP x (List.mem_cons_of_mem _ hx))
    by_cases hpe : P e = true
    · by_cases hw : (f e).ty = .wait
      · simp [List.filter_cons, hpe, eventsRelGo, hw, ih']
      · simp [List.filter_cons, hpe, eventsRelGo, hw, ih', hg (f e) c]
    · have := hP e (by simp) (by simpa using hpe)
      simp [List.filter_cons, hpe, eventsRelGo, this.1, ih', hg (f e) c, this.2]

theorem totalWait_filter (p : Msg → Bool) (hp : ∀ m : Msg, m.ty = .wait → p m = true) (l : List Msg) :
    totalWait (l.filter p) = totalWait l := by
  simpa using totalWait_map_filter id p l (fun m _ h hw => by simp [hp m hw] at h)

theorem eventsRelGo_filter (p : Msg → Bool) (hp : ∀ m : Msg, m.ty = .wait → p m = true)
    (hs : StampInv p) (l : List Msg) : ∀ c : Int,
    eventsRelGo c (l.filter p) = (eventsRelGo c l).filter p := by
  intro c
  have h := eventsRelGo_map_filter_filter p hs id p l (fun m _ h => ⟨fun hw => by simp [hp m hw] at h, h⟩) c
  simp only [List.map_id] at h
  rw [← h]
  refine (List.filter_eq_self.2 fun e he => ?_).symm
  obtain ⟨m, hm, _, t, rfl⟩ := eventsRelGo_src _ c e he
  rw [hs]
  exact (List.mem_filter.1 hm).2

/-- time of the last message, `cur` if there is none -/
def lastTimeD (cur : Int) : List Msg → Int
  | [] => cur
  | m :: ms => lastTimeD m.time ms

theorem durAbs_eq_lastTimeD (l : List Msg) : durAbs l = lastTimeD 0 l := by
  have key : ∀ (l : List Msg) (cur : Int),
      (match l.getLast? with | some m => m.time | Option.none => cur) = lastTimeD cur l := by
    intro l
    induction l with
    | nil => intro cur; simp [lastTimeD]
    | cons a l ih =>
      intro cur
      cases l with
      | nil => simp [lastTimeD]
      | cons b rest =>
        have := ih a.time
        simp only [List.getLast?_cons_cons] at this ⊢
        rw [lastTimeD]
        rw [← this]
        cases h : (b :: rest).getLast? with
        | none => simp at h
        | some x => rfl
  exact key l 0

/-- the duration of a time-sorted list is the tick of its last message, which is the largest; 0 if there is none -/
theorem durAbs_last (l : List Msg) (hs : l.Pairwise (fun a b => a.time ≤ b.time)) :
    (l = [] ∧ durAbs l = 0) ∨ ∃ x ∈ l, durAbs l = x.time ∧ ∀ e ∈ l, e.time ≤ x.time := by
  rcases List.eq_nil_or_concat l with rfl | ⟨q, x, rfl⟩
  · exact Or.inl ⟨rfl, rfl⟩
  · rw [List.concat_eq_append] at hs ⊢
    refine Or.inr ⟨x, by simp, by simp [durAbs], fun e he => ?_⟩
    rcases List.mem_append.1 he with he | he
    · exact (List.pairwise_append.1 hs).2.2 e he x (by simp)
    · rw [List.mem_singleton.1 he]; exact Int.le_refl _

theorem durAbs_of_max (l : List Msg) (T : Int)
    (hs : l.Pairwise (fun a b => a.time ≤ b.time))
    (hle : ∀ e ∈ l, e.time ≤ T) (hex : ∃ e ∈ l, e.time = T) : durAbs l = T := by
  obtain ⟨e, he, rfl⟩ := hex
  rcases durAbs_last l hs with ⟨rfl, _⟩ | ⟨x, hx, hd, hmax⟩
  · cases he
  · have := hmax e he
    have := hle x hx
    omega

theorem durAbs_eq (l : List Msg) (T : Int) (hs : l.Pairwise (fun a b => a.time ≤ b.time)) (hn : NonNegTimes l)
    (hle : ∀ e ∈ l, e.time ≤ T) (hex : T = 0 ∨ ∃ e ∈ l, e.time = T) : durAbs l = T := by
  rcases hex with rfl | hex
  · rcases durAbs_last l hs with ⟨_, h⟩ | ⟨x, hx, hd, _⟩
    · exact h
    · have := hn x hx
      have := hle x hx
      omega
  · exact durAbs_of_max l T hs hle hex

theorem toRelGo_spec (l : List Msg) :
    ∀ (cur : Int), l.Pairwise (fun a b => a.time ≤ b.time) → (∀ m ∈ l, cur ≤ m.time) → (∀ m ∈ l, m.ty ≠ .wait) →
      eventsRelGo cur (toRelGo cur l) = eventsAbs l ∧ cur + totalWait (toRelGo cur l) = lastTimeD cur l := by
  induction l with
  | nil => intro cur _ _ _; simp [toRelGo, eventsRelGo, eventsAbs, totalWait, lastTimeD]
  | cons m ms ih =>
    intro cur hs hc hw
    rw [List.pairwise_cons] at hs
    have hcm := hc m (by simp)
    have hwm := hw m (by simp)
    obtain ⟨ih1, ih2⟩ := ih m.time hs.2 hs.1 (fun x hx => hw x (List.mem_cons_of_mem _ hx))
    simp only [eventsAbs] at ih1 ⊢
    simp only [lastTimeD]
    rw [← ih2]
    by_cases hgt : m.time > cur
    · have hclk : cur + (m.time - cur) = m.time := by omega
      by_cases hint : m.ty = .internal
      · simp [toRelGo, hgt, hint, eventsRelGo, totalWait, Msg.mkWait, hclk, ih1]
        omega
      · simp [toRelGo, hgt, hint, eventsRelGo, totalWait, Msg.mkWait, hwm, hclk, ih1]
        omega
    · have hceq : cur = m.time := by omega
      subst hceq
      by_cases hint : m.ty = .internal
      · simp [toRelGo, hint, ih1]
      · simp [toRelGo, hint, eventsRelGo, totalWait, hwm, ih1]

theorem eventsRelGo_toRelGo (l : List Msg) (cur : Int) (hs : l.Pairwise (fun a b => a.time ≤ b.time))
    (hc : ∀ m ∈ l, cur ≤ m.time) (hw : ∀ m ∈ l, m.ty ≠ .wait) : eventsRelGo cur (toRelGo cur l) = eventsAbs l :=
  (toRelGo_spec l cur hs hc hw).1

theorem totalWait_toRelGo (l : List Msg) (cur : Int) (hs : l.Pairwise (fun a b => a.time ≤ b.time))
    (hc : ∀ m ∈ l, cur ≤ m.time) (hw : ∀ m ∈ l, m.ty ≠ .wait) : cur + totalWait (toRelGo cur l) = lastTimeD cur l :=
  (toRelGo_spec l cur hs hc hw).2

theorem toRelGo_ok (l : List Msg) :
    ∀ (cur : Int), (∀ m ∈ l, m.ty ≠ .wait) →
      ∀ x ∈ toRelGo cur l, (x.ty = .wait → 0 ≤ x.time) ∧ x.ty ≠ .internal := by
  induction l with
  | nil => intro cur _ x hx; simp [toRelGo] at hx
  | cons m ms ih =>
    intro cur hw x hx
    have hwm := hw m (by simp)
    have ih' := fun c => ih c (fun x hx => hw x (List.mem_cons_of_mem _ hx)) x
    simp only [toRelGo, List.mem_append] at hx
    rcases hx with (hx | hx) | hx
    · split at hx
      · simp at hx; subst hx
        simp [Msg.mkWait]; omega
      · simp at hx
    · split at hx
      · rename_i hne
        simp at hx; subst hx
        simp at hne
        simp [hwm, hne]
      · simp at hx
    · exact ih' _ hx

theorem mem_toRelGo (l : List Msg) : ∀ (cur : Int) (x : Msg), x ∈ toRelGo cur l →
    (∃ m ∈ l, ∃ t, x = Msg.mkWait m.ch t) ∨ ∃ m ∈ l, x = { m with time := pyNone } := by
  induction l with
  | nil => intro cur x hx; simp [toRelGo] at hx
  | cons m ms ih =>
    intro cur x hx
    simp only [toRelGo, List.mem_append] at hx
    rcases hx with (hx | hx) | hx
    · split at hx
      · exact Or.inl ⟨m, List.mem_cons_self, _, List.mem_singleton.1 hx⟩
      · simp at hx
    · split at hx
      · exact Or.inr ⟨m, List.mem_cons_self, List.mem_singleton.1 hx⟩
      · simp at hx
    · exact (ih _ x hx).imp (fun ⟨m', hm', h⟩ => ⟨m', List.mem_cons_of_mem _ hm', h⟩)
        fun ⟨m', hm', h⟩ => ⟨m', List.mem_cons_of_mem _ hm', h⟩

theorem mem_toRel {a : List Msg} {x : Msg} (hx : x ∈ toRel a) (hw : x.ty ≠ .wait) :
    ∃ m ∈ a, x = { m with time := pyNone } :=
  (mem_toRelGo a 0 x hx).resolve_left fun ⟨_, _, _, e⟩ => hw (e ▸ rfl)

theorem foldl_toAbsStep_out (r : List Msg) : ∀ (s : ToAbsSt),
    (r.foldl toAbsStep s).out.reverse = s.out.reverse ++ eventsRelGo s.cur r := by
  induction r with
  | nil => intro s; simp [eventsRelGo]
  | cons m ms ih =>
    intro s
    rw [List.foldl_cons, ih]
    by_cases hw : m.ty = .wait
    · simp [toAbsStep, hw, eventsRelGo]
    · simp [toAbsStep, hw, eventsRelGo]

theorem foldl_toAbsStep_cur (r : List Msg) : ∀ (s : ToAbsSt),
    (r.foldl toAbsStep s).cur = s.cur + totalWait r := by
  induction r with
  | nil => intro s; simp [totalWait]
  | cons m ms ih =>
    intro s
    rw [List.foldl_cons, ih]
    by_cases hw : m.ty = .wait
    · simp [toAbsStep, hw, totalWait]; omega
    · simp [toAbsStep, hw, totalWait]

/-- if the fold ends with `cap = true`, the last message was an event at the final clock
    (or nothing happened at all) -/
theorem foldl_toAbsStep_cap (r : List Msg) : ∀ (s : ToAbsSt),
    (r.foldl toAbsStep s).cap = true →
      (∃ e ∈ eventsRelGo s.cur r, e.time = s.cur + totalWait r) ∨ (r = [] ∧ s.cap = true) := by
  induction r with
  | nil => intro s h; right; exact ⟨rfl, h⟩
  | cons m ms ih =>
    intro s h
    rw [List.foldl_cons] at h
    left
    have ih' := ih _ h
    by_cases hw : m.ty = .wait
    · simp [toAbsStep, hw] at ih'
      simp only [eventsRelGo, hw, totalWait, beq_self_eq_true, if_true]
      obtain ⟨e, he, het⟩ := ih'
      exact ⟨e, he, by omega⟩
    · simp [toAbsStep, hw] at ih'
      simp [eventsRelGo, hw, totalWait]
      rcases ih' with ⟨e, he, het⟩ | hnil
      · right; exact ⟨e, he, het⟩
      · left; subst hnil; simp [totalWait]

theorem toAbs_eq (r : List Msg) :
    toAbs r =
      if (r.foldl toAbsStep {}).cap then sortAbs (eventsRel r)
      else insort (sortAbs (eventsRel r))
        (Msg.mkInternal ((r.foldl toAbsStep {}).defCh.getD 0) (totalWait r)) := by
  have h1 := foldl_toAbsStep_out r {}
  have h2 := foldl_toAbsStep_cur r {}
  simp at h1 h2
  simp only [toAbs, h1, h2, eventsRel]


theorem mem_toAbs {r : List Msg} {x : Msg} :
    x ∈ toAbs r ↔ x ∈ eventsRel r ∨ (¬ (r.foldl toAbsStep {}).cap
      ∧ x = Msg.mkInternal ((r.foldl toAbsStep {}).defCh.getD 0) (totalWait r)) := by
  rw [toAbs_eq]
  split
  · rename_i hcap
    rw [mem_sortAbs]
    exact ⟨Or.inl, fun h => h.elim id (fun h => absurd hcap h.1)⟩
  · rename_i hcap
    rw [(insort_perm _ _).mem_iff, List.mem_cons, mem_sortAbs]
    exact ⟨fun h => h.elim (fun h => Or.inr ⟨hcap, h⟩) Or.inl, fun h => h.elim Or.inr (fun h => Or.inl h.2)⟩

theorem mem_toAbs_cases {r : List Msg} {x : Msg} (hx : x ∈ toAbs r) : x.ty = .internal ∨ x ∈ eventsRel r :=
  (mem_toAbs.1 hx).elim Or.inr (fun h => Or.inl (h.2 ▸ rfl))

theorem mem_toAbs_events {r : List Msg} {x : Msg} (hx : x ∈ toAbs r) (hty : x.ty ≠ .internal) : x ∈ eventsRel r :=
  (mem_toAbs_cases hx).resolve_left hty

theorem toAbs_bounds (r : List Msg) (hw : NonNegWaits r) :
    ∀ e ∈ toAbs r, 0 ≤ e.time ∧ e.time ≤ totalWait r ∧ e.ty ≠ .wait := by
  intro e he
  rcases mem_toAbs.1 he with he | ⟨-, rfl⟩
  · have h := eventsRelGo_bounds r 0 hw e he
    exact ⟨h.1, by omega, (eventsRelGo_ty r 0 e he).1⟩
  · exact ⟨totalWait_nonneg r hw, Int.le_refl _, fun h => nomatch h⟩

/-- a filter that does not let the `INTERNAL` cap through sees the absolute view in time order, whatever the waits are -/
theorem toAbs_filter_pairwise (p : Msg → Bool) (hp : ∀ c t, p (Msg.mkInternal c t) = false) (r : List Msg) :
    ((toAbs r).filter p).Pairwise (fun a b => a.time ≤ b.time) := by
  rw [toAbs_eq]
  split
  · exact (sortAbs_pairwise _).filter _
  · rw [filter_insort _ _ _ (hp _ _)]
    exact (sortAbs_pairwise _).filter _

theorem eventsRel_not_internal (r : List Msg) (h : OkRel r) :
    ∀ e ∈ eventsRel r, e.ty ≠ .internal := by
  intro e he
  obtain ⟨_, m, hm, hty⟩ := eventsRelGo_ty r 0 e he
  rw [hty]; exact h.2 m hm

/-- everything `C04.toAbs_duration` and `C04.toAbs_ok` (`Props/C04`) need about the result of `toAbs` -/
theorem toAbs_struct (r : List Msg) (h : OkRel r) :
    (toAbs r).Pairwise (fun a b => a.time ≤ b.time)
    ∧ (∀ e ∈ toAbs r, 0 ≤ e.time ∧ e.time ≤ totalWait r ∧ e.ty ≠ .wait)
    ∧ ((∃ e ∈ toAbs r, e.time = totalWait r) ∨ (toAbs r = [] ∧ totalWait r = 0)) := by
  have hle : ∀ e ∈ sortAbs (eventsRel r), e.time ≤ totalWait r := fun e he => by
    have := (eventsRelGo_bounds r 0 h.1 e ((mem_sortAbs _ _).1 he)).2
    omega
  refine ⟨?_, toAbs_bounds r h.1, ?_⟩
  · rw [toAbs_eq]
    split
    · exact sortAbs_pairwise _
    · -- the cap goes behind every event
      rw [insort_of_ge _ _ (sortAbs_pairwise _) hle, List.pairwise_append]
      exact ⟨sortAbs_pairwise _, List.pairwise_singleton _ _, fun a ha b hb => List.mem_singleton.1 hb ▸ hle a ha⟩
  · by_cases hcap : (r.foldl toAbsStep {}).cap = true
    · rcases foldl_toAbsStep_cap r {} hcap with ⟨e, he, het⟩ | ⟨rfl, _⟩
      · exact Or.inl ⟨e, mem_toAbs.2 (Or.inl he), by simpa using het⟩
      · exact Or.inr ⟨rfl, rfl⟩
    · exact Or.inl ⟨_, mem_toAbs.2 (Or.inr ⟨hcap, rfl⟩), rfl⟩

end SCoda
