/-
  The translated `Sequence.sequences_split_bars` (Gen/StaticFns.lean) against the hand model `splitBars`, after what every tie
  of the static layer uses and the three small ties `get_message_times_of_type`, `parse_mido_message`, `parse_mido_track`
  (`MidiFile.convert` is in Lemmas/ConvertTieL.lean).  The slots go through an abstraction function, the queues through a relation:
  * a slot `(sequences[i], tracks_bars[i])` is abstracted by `absSlot` (the relative view it shows; its bars through
    `GBar.toBar`, reversed); one slot in one round commutes with the abstraction (`slot_step`), and both sides run a `mapM` over
    the same zipped list;
  * the two queues are not abstracted but related: the code's queue of `(time, message)` pairs stands beside any queue of the
    model that shows the same `(time, numerator, denominator, key)` entry by entry (`QSim`);
  * `while_eq`: the `while` loop is `splitBarsGo` on the abstraction of its slots and any such queues, by induction on the fuel;
  * namespace `R6L` (audit round 3, item R6): since `while_eq` asks of the queues only `QSim`, the code's queues may come from another list
    than the model's as long as the signature events agree, and what is needed of the meta sequence is `AbsCoherentSigs`.
-/
import SCoda.Gen.StaticFns
import SCoda.Props.ElemTie
import SCoda.Lemmas.SplitBars
import SCoda.Lemmas.WrapperL
namespace SCoda.R6L

/-- what `sequences_split_bars` reads of a signature message: its time, numerator, denominator and key -/
def sigView (m : Msg) : Int × Int × Int × Int := (m.time, m.num, m.den, m.key)

end SCoda.R6L

namespace SCoda.StaticTieL
open SCoda SCoda.WrapTie SCoda.SB SCoda.ElemTie
open SCoda.WrapperL (relView)
open SCoda.R6L (sigView)

theorem pyGetNat_some {α} {l : List α} {i : Nat} {x : α} (h : l[i]? = some x) : pyGetNat l i = .ok x := by
  simp [pyGetNat, h]

theorem pyGetNat_none {α} {l : List α} {i : Nat} (h : l[i]? = none) : pyGetNat l i = .error .indexError := by
  simp [pyGetNat, h]

theorem pyGetNat_lt {α} (l : List α) (i : Nat) (h : i < l.length) : pyGetNat l i = .ok l[i] := by
  simp [pyGetNat, h]

theorem pyGetNat_ge {α} (l : List α) (i : Nat) (h : l.length ≤ i) : pyGetNat l i = .error .indexError := by
  simp [pyGetNat, List.getElem?_eq_none h]

theorem pySetNat_lt {α} (l : List α) (i : Nat) (v : α) (h : i < l.length) : pySetNat l i v = .ok (l.set i v) := by
  simp [pySetNat, h]

theorem pySetNat_ge {α} (l : List α) (i : Nat) (v : α) (h : l.length ≤ i) : pySetNat l i v = .error .indexError := by
  simp [pySetNat, Nat.not_lt.mpr h]

theorem pyGetInt_zero {α} (l : List α) : pyGetInt l 0 = pyGetNat l 0 := by simp [pyGetInt]
theorem pyGetInt_one {α} (l : List α) : pyGetInt l 1 = pyGetNat l 1 := by simp [pyGetInt]
theorem pySetInt_zero {α} (l : List α) (v : α) : pySetInt l 0 v = pySetNat l 0 v := by simp [pySetInt]
theorem pyGetInt_nat {α} (l : List α) (t : Int) (h0 : 0 ≤ t) : pyGetInt l t = pyGetNat l t.toNat := by
  simp [pyGetInt, h0]
theorem pySetInt_nat {α} (l : List α) (t : Int) (v : α) (h0 : 0 ≤ t) : pySetInt l t v = pySetNat l t.toNat v := by
  simp [pySetInt, h0]

theorem forIn_ext {α β : Type} (l : List α) (b : β) (f g : α → β → Except Err (ForInStep β)) (h : ∀ a b, f a b = g a b) :
    forIn l b f = forIn l b g := by
  have : f = g := funext fun a => funext (h a)
  rw [this]

theorem mapM_abs {α α' β β' ε : Type} (G : α → α') (F : β → β') (P : α → Prop) (f : α → Except ε β) (f' : α' → Except ε β')
    (h : ∀ a, P a → F <$> f a = f' (G a)) :
    ∀ l : List α, (∀ a ∈ l, P a) → List.map F <$> l.mapM f = (l.map G).mapM f' := by
  intro l
  induction l with
  | nil => intro _; rfl
  | cons a as ih =>
    intro hP
    rw [List.map_cons, List.mapM_cons, List.mapM_cons, ← h a (hP a (by simp)), ← ih (fun x hx => hP x (by simp [hx]))]
    cases f a with
    | error x => rfl
    | ok b => cases as.mapM f <;> rfl

theorem mapM_map {α β γ ε : Type} (F : β → γ) (f : α → Except ε β) (l : List α) :
    List.map F <$> l.mapM f = l.mapM (fun a => F <$> f a) := by
  have h := mapM_abs id F (fun _ => True) f (fun a => F <$> f a) (fun _ _ => rfl) l (fun _ _ => trivial)
  rwa [List.map_id] at h

/-- the queue the translated code works with: `(time, ReadOnlyMessage(msg))` per message -/
def qOf (q : List Msg) : List (Int × Msg) := q.map (fun m => (m.time, pyMsgCopy m))

theorem getMessageTimesOfType_eq (e : Env) (s : Seq) (tys : List MType) :
    Gen.Static.getMessageTimesOfType e s tys =
      (do let p ← s.readAbs; pure (p.1, qOf (p.2.filter (fun m => tys.contains m.ty)))) := by
  unfold Gen.Static.getMessageTimesOfType
  simp only [getAbs_eq, View.abs_get_message_times_of_type,
    fun l => forIn_collect (fun p : Int × Msg => (p.1, pyMsgCopy p.2)) (Gen.Static.getMessageTimesOfType_loop1 e) l (fun _ _ _ => rfl)]
  cases hr : s.readAbs with
  | error er => rfl
  | ok p =>
    have hp := readAbs_snd _ _ _ (show s.readAbs = .ok (p.1, p.2) from hr)
    obtain ⟨⟨a, r, sa, sr⟩, l⟩ := p
    simp only at hp
    subst hp
    simp [qOf, List.map_map, Function.comp_def]

theorem filter_ty (ty : MType) (a : List Msg) : a.filter (fun m => [ty].contains m.ty) = timesOfType ty a := by
  unfold timesOfType
  congr 1
  funext m
  by_cases h : m.ty = ty <;> simp [h]


theorem parseMidoMessage_eq (e : Env) (m : MidoMsg) : Gen.Static.parseMidoMessage e m = parseMido m := by
  unfold Gen.Static.parseMidoMessage parseMido
  obtain ⟨ty, time, ch, note, vel, num, den, key, ctl, val, prog⟩ := m
  cases ch <;> cases ty <;> simp [MidiEv.empty, pyAttr, pyDictGet] <;> cases List.lookup key Gen.keyKeyMapping <;> rfl


theorem parseTrack_eq_mapM : ∀ l : List MidoMsg, parseTrack l = l.mapM parseMido
  | [] => rfl
  | m :: ms => by
    rw [List.mapM_cons, ← parseTrack_eq_mapM ms, parseTrack]
    cases parseMido m with
    | error x => rfl
    | ok ev => cases parseTrack ms <;> rfl

/-- the body of `for i, x in enumerate(xs)` in alias mode: read `xs[i]`, one step, write `xs[i]`, append to `ys[i]` -/
def getSetBody {α γ : Type} (step : α → Except Err (Bool × α × γ)) (i : Nat) (st : List α × List (List γ) × Bool) :
    Except Err (ForInStep (List α × List (List γ) × Bool)) := do
  let x ← pyGetNat st.1 i
  let o ← step x
  let xs ← pySetNat st.1 i o.2.1
  let y ← pyGetNat st.2.1 i
  let ys ← pySetNat st.2.1 i (y ++ [o.2.2])
  pure (.yield (xs, ys, st.2.2 && !o.1))

theorem foldl_and_not (l : List Bool) : ∀ b : Bool, l.foldl (fun s two => s && !two) b = (b && l.all (!·)) := by
  induction l with
  | nil => intro b; simp
  | cons x xs ih => intro b; simp [ih, Bool.and_assoc]

theorem getSet_loop {α γ : Type} (step : α → Except Err (Bool × α × γ)) (zs : List (α × List γ)) (sync : Bool) :
    forIn (List.range zs.length) (zs.map (·.1), zs.map (·.2), sync) (getSetBody step) =
      zs.mapM (fun z => step z.1 >>= fun o => pure ((o.2.1, z.2 ++ [o.2.2]), o.1)) >>= fun os =>
        pure ((os.map (·.1)).map (·.1), (os.map (·.1)).map (·.2), sync && os.all (fun o => !o.2)) := by
  have := forIn_range_slots (fun (zs : List (α × List γ)) (sync : Bool) => (zs.map (·.1), zs.map (·.2), sync)) (getSetBody step)
    (fun z => step z.1 >>= fun o => pure ((o.2.1, z.2 ++ [o.2.2]), o.1)) (fun s two => s && !two)
    (fun xs s i hi => by
      have h1 : i < (xs.map (·.1)).length := by simpa using hi
      have h2 : i < (xs.map (·.2)).length := by simpa using hi
      simp only [getSetBody, pyGetNat_lt _ _ h1, pyGetNat_lt _ _ h2, pySetNat_lt _ _ _ h1, pySetNat_lt _ _ _ h2, ok_bind, bind_assoc,
        pure_bind, List.getElem_map, List.map_set]) zs sync
  simpa [List.length_map, foldl_and_not, List.all_map, Function.comp_def] using this

/-- the tail of the inner loop body: optional shorten-only re-quantisation of the piece, then `Bar(…)` -/
def barG (e : Env) (requant : Bool) (num den key : Int) (first : Seq) : Except Err GBar :=
  (if requant then Seq.qnlSeq e first none e.ppqn true else pure first) >>= fun first' =>
    Gen.Elem.barInit e first' num den (if decide (key ≠ pyNone) then key else pyNone) 0

/-- what the inner loop body of `sequences_split_bars` does to `sequences[i]`: `(two pieces?, new sequences[i], bar)` -/
def trackStepG (e : Env) (requant : Bool) (num den key len : Int) (s : Seq) : Except Err (Bool × Seq × GBar) := do
  let p ← s.readRel
  let ps ← split p.2 [len]
  let (two, rest, first) := match ps with
    | a :: b :: _ => (true, Seq.ofRel b, Seq.ofRel a)
    | [a] => (false, Seq.new, Seq.ofRel a)
    | [] => (false, Seq.new, Seq.new)
  let bar ← barG e requant num den key first
  pure (two, rest, bar)

/-- the loop state of the `while` loop -/
abbrev St := List Seq × Int × Int × Int × Int × List (Int × Msg) × List (Int × Msg) × List (List GBar) × Bool

namespace St
abbrev seqs (st : St) : List Seq := st.1
abbrev now (st : St) : Int := st.2.1
abbrev num (st : St) : Int := st.2.2.1
abbrev den (st : St) : Int := st.2.2.2.1
abbrev key (st : St) : Int := st.2.2.2.2.1
abbrev tsT (st : St) : List (Int × Msg) := st.2.2.2.2.2.1
abbrev ksT (st : St) : List (Int × Msg) := st.2.2.2.2.2.2.1
abbrev bars (st : St) : List (List GBar) := st.2.2.2.2.2.2.2.1
abbrev sync (st : St) : Bool := st.2.2.2.2.2.2.2.2
end St

/-- `next((t for t in q if t[0] <= now), None)`, then `q.pop(0)`: the entry found and the queue left -/
def queueStep (now : Int) (q : List (Int × Msg)) : Except Err (Option Msg × List (Int × Msg)) :=
  match q.find? (fun t => decide (t.1 ≤ now)) with
  | some t => do let p ← pyPop0 q; pure (some t.2, p.2)
  | none => pure (none, q)

/-- `int(PPQN * (numerator / (denominator / 4)))` as translated -/
def lenPy (e : Env) (num den : Int) : Int :=
  pyIntOf (PyNum.mul (PyNum.int e.ppqn) (PyNum.truediv (PyNum.int num) (PyNum.truediv (PyNum.int den) (PyNum.int 4))))


/-- one iteration of the translated `while` loop -/
def roundBody (e : Env) (requant : Bool) (st : St) : Except Err (ForInStep St) :=
  if St.sync st then pure (.done st) else do
    let sg ← queueStep (St.now st) (St.tsT st)
    let kk ← queueStep (St.now st) (St.ksT st)
    let nd := (sg.1.map (fun m => (m.num, m.den))).getD (St.num st, St.den st)
    let key := (kk.1.map (·.key)).getD (St.key st)
    let len := lenPy e nd.1 nd.2
    let r ← forIn (List.range (St.seqs st).length) (St.seqs st, St.bars st, true) (getSetBody (trackStepG e requant nd.1 nd.2 key len))
    pure (.yield (r.1, St.now st + len, nd.1, nd.2, key, sg.2, kk.2, r.2.1, r.2.2))

theorem loop2_eq (e : Env) (rq : Bool) (num den key len : Int) :
    Gen.Static.sequencesSplitBars_loop2 e rq num den key len = getSetBody (trackStepG e rq num den key len) := by
  funext i ⟨xs, ys, sync⟩
  unfold Gen.Static.sequencesSplitBars_loop2 getSetBody trackStepG
  simp only []
  cases hx : pyGetNat xs i with
  | error er => rfl
  | ok x =>
    have hi : i < xs.length := by
      by_contra h
      rw [pyGetNat_ge _ _ (by omega)] at hx; cases hx
    simp only [ok_bind, getRel_eq]
    cases hr : x.readRel with
    | error er => rfl
    | ok p =>
      have hp := readRel_snd _ _ _ (show x.readRel = .ok (p.1, p.2) from hr)
      simp only [ok_bind, View.rel_split, ← hp]
      cases hs : split p.2 [len] with
      | error er => rfl
      | ok ps =>
        simp only [ok_bind, pySetNat_lt _ _ _ hi, View.seq_init, pyGetInt_zero, pyGetInt_one, pySetInt_zero,
          quantiseNoteLengths_eq, barG]
        rcases ps with _ | ⟨a, _ | ⟨b, tl⟩⟩ <;> cases rq <;>
          simp [pyGetNat, pySetNat, hi, unit_bind]

theorem loop1_eq (e : Env) (rq : Bool) :
    Gen.Static.sequencesSplitBars_loop1 e rq = fun _ st => roundBody e rq st := by
  funext u ⟨sq, now, num, den, key, tsT, ksT, bars, sync⟩
  unfold Gen.Static.sequencesSplitBars_loop1 roundBody
  simp only []
  cases sync
  · simp only [Bool.not_false, Bool.not_true, queueStep, lenPy, loop2_eq]
    cases List.find? (fun t : Int × Msg => decide (t.1 ≤ now)) tsT <;>
    cases List.find? (fun t : Int × Msg => decide (t.1 ≤ now)) ksT <;>
    simp only [Bool.false_eq_true, if_false, pure_eq, ok_bind] <;>
    (try cases pyPop0 tsT) <;> (try cases pyPop0 ksT) <;> rfl
  · rfl

/-- times never decrease along a queue (true of everything `toAbs` produces) -/
def TimeAsc (q : List Msg) : Prop := q.Pairwise (fun a b => a.time ≤ b.time)


/-- what the loop reads of an entry `(time, message)` of one of its queues -/
def entryView (t : Int × Msg) : Int × Int × Int × Int := (t.1, t.2.num, t.2.den, t.2.key)

/-- a queue of the translated loop beside a queue of the hand model: entry by entry the same time, numerator, denominator
    and key.  The loop is tied to the model on any such pair of queues (`while_eq`), so the code may have read its queues from
    another list than the model as long as the signature events agree (audit round 3, item R6). -/
def QSim (l : List (Int × Msg)) (q : List Msg) : Prop := l.map entryView = q.map sigView

theorem qSim_qOf (q q' : List Msg) (h : q.map sigView = q'.map sigView) : QSim (qOf q) q' := by
  rw [QSim, ← h]
  simp [qOf, entryView, sigView, pyMsgCopy, List.map_map, Function.comp_def]

theorem QSim.length_eq {l : List (Int × Msg)} {q : List Msg} (h : QSim l q) : l.length = q.length := by
  simpa using congrArg List.length h

theorem qSim_cons {t : Int × Msg} {l : List (Int × Msg)} {m : Msg} {q : List Msg} :
    QSim (t :: l) (m :: q) ↔ entryView t = sigView m ∧ QSim l q := by
  simp only [QSim, List.map_cons, List.cons.injEq]

theorem QSim.time_mem {l : List (Int × Msg)} {q : List Msg} (h : QSim l q) {x : Int × Msg} (hx : x ∈ l) : ∃ m ∈ q, x.1 = m.time := by
  have hx' : entryView x ∈ q.map sigView := h ▸ List.mem_map_of_mem hx
  obtain ⟨m, hm, he⟩ := List.mem_map.mp hx'
  exact ⟨m, hm, (congrArg (·.1) he).symm⟩

/-- one lookup, code against model, for whatever `val` the round reads of the entry found -/
theorem queueStep_sim {α : Type} (val : Msg → α) (hv : ∀ t m, entryView t = sigView m → val t.2 = val m)
    (now : Int) (cur : α) (l : List (Int × Msg)) (q : List Msg) (h : QSim l q) (hq : TimeAsc q) :
    ∃ r, queueStep now l = .ok r ∧ (r.1.map val).getD cur = (nextQ val now cur q).1 ∧ QSim r.2 (nextQ val now cur q).2 := by
  rcases l with _ | ⟨t, l⟩ <;> rcases q with _ | ⟨m, q⟩
  · exact ⟨(none, []), rfl, rfl, rfl⟩
  · exact absurd h.length_eq (by simp)
  · exact absurd h.length_eq (by simp)
  · obtain ⟨hh, ht⟩ := qSim_cons.1 h
    have htime : t.1 = m.time := congrArg (·.1) hh
    by_cases hm : m.time ≤ now
    · refine ⟨(some t.2, l), by simp [queueStep, htime, hm, pyPop0], ?_, ?_⟩
      · simp [nextQ, hm, hv t m hh]
      · simp only [nextQ, hm, if_true]; exact ht
    · refine ⟨(none, t :: l), ?_, by simp [nextQ, hm], by simpa [nextQ, hm] using h⟩
      -- no entry is due: each carries the time of an entry of the model's queue, and those do not decrease
      have hn : (t :: l).find? (fun t => decide (t.1 ≤ now)) = none := by
        rw [List.find?_eq_none]
        intro x hx
        obtain ⟨m', hm', hxt⟩ := h.time_mem hx
        have : m.time ≤ m'.time := by
          rcases List.mem_cons.mp hm' with rfl | hm'
          · exact Int.le_refl _
          · exact (List.pairwise_cons.mp hq).1 m' hm'
        simp only [decide_eq_true_eq]; omega
      simp [queueStep, hn]

theorem nextSig_mem (now num den : Int) (q : List Msg) (hq : ∀ m ∈ q, 0 ≤ m.num ∧ 0 < m.den) (hn : 0 ≤ num) (hd : 0 < den) :
    0 ≤ (nextSig now num den q).1 ∧ 0 < (nextSig now num den q).2.1 ∧ (∀ m ∈ (nextSig now num den q).2.2, 0 ≤ m.num ∧ 0 < m.den) := by
  unfold nextSig
  cases q with
  | nil => exact ⟨hn, hd, hq⟩
  | cons m rest =>
    by_cases hm : m.time ≤ now
    · simp only [hm, if_true]
      exact ⟨(hq m (by simp)).1, (hq m (by simp)).2, fun x hx => hq x (by simp [hx])⟩
    · simp only [hm, if_false]
      exact ⟨hn, hd, hq⟩

theorem nextQ_asc {α : Type} (val : Msg → α) (now : Int) (cur : α) (q : List Msg) (h : TimeAsc q) : TimeAsc (nextQ val now cur q).2 := by
  unfold nextQ
  cases q with
  | nil => exact h
  | cons m rest =>
    by_cases hm : m.time ≤ now
    · simp only [hm, if_true]; exact (List.pairwise_cons.mp h).2
    · simp only [hm, if_false]; exact h

theorem nextSig_asc (now num den : Int) (q : List Msg) (h : TimeAsc q) : TimeAsc (nextSig now num den q).2.2 := by
  rw [nextSig_eq]
  exact nextQ_asc _ now _ q h

theorem nextKey_asc (now key : Int) (q : List Msg) (h : TimeAsc q) : TimeAsc (nextKey now key q).2 := by
  rw [nextKey_eq]
  exact nextQ_asc _ now key q h

theorem lenPy_eq (e : Env) (n d : Int) (hn : 0 ≤ n) (hp : 0 ≤ e.ppqn) (hd : 0 < d) : lenPy e n d = barCapacity e.ppqn n d := by
  have h := C11.splitBarLenPy_eq n e.ppqn d hn hp hd
  unfold splitBarLenPy at h
  simp [lenPy, pyIntOf, h]

theorem keyIte (key : Int) : (if decide (key ≠ pyNone) then key else pyNone) = key := by
  by_cases h : key = pyNone <;> simp [h]

theorem barG_spec (e : Env) (rq : Bool) (num den key : Int) (hn : 0 ≤ num) (hd : 0 < den) (hp : 0 ≤ e.ppqn)
    (first : Seq) (a : List Msg) (hf : first = Seq.ofRel a ∨ (first = Seq.new ∧ a = [])) :
    GBar.toBar <$> barG e rq num den key first =
      (do let piece ← requantPiece e.defValues e.ppqn rq a
          mkBar e.ppqn piece num den key) := by
  unfold barG
  rw [keyIte]
  have hb := fun s => barInit_toBar e s num den key hn hd hp
  cases rq
  · simp only [Bool.false_eq_true, if_false, pure_eq, ok_bind, requantPiece]
    have h1 := hb first
    obtain ⟨s', hr⟩ : ∃ s', first.readRel = .ok (s', a) := by
      rcases hf with rfl | ⟨rfl, rfl⟩
      · exact ⟨_, rfl⟩
      · exact ⟨_, rfl⟩
    rw [hr] at h1
    exact h1
  · simp only [if_true, requantPiece, Seq.qnlSeq, Seq.onAbs, Option.getD_none]
    have hra : first.readAbs = .ok ({ first with abs := toAbs a, absStale := false }, toAbs a) := by
      rcases hf with rfl | ⟨rfl, rfl⟩
      · rfl
      · decide
    rw [hra]
    simp only [ok_bind]
    cases hq : quantiseNoteLengths e.defValues e.ppqn true (toAbs a) with
    | error x => rfl
    | ok a' =>
      simp only [ok_bind]
      have h1 := hb { abs := a', rel := first.rel, absStale := false, relStale := true }
      simp only [Seq.readRel, if_true, Bool.false_eq_true, if_false, ok_bind] at h1
      exact h1

/-- a sequence that can be read (what `C04` keeps true of every reachable sequence); the predicate of `WrapperL.Readable`
    under a name of this layer: the lemmas of Lemmas/WrapperL.lean (`readRel_eq`, `copy_views`) are used on it as they stand -/
def Readable (s : Seq) : Prop := ¬(s.absStale = true ∧ s.relStale = true)

/-- what the hand model keeps of a slot `(sequences[i], tracks_bars[i])` -/
def absSlot (z : Seq × List GBar) : List Msg × List Bar := (relView z.1, (z.2.map GBar.toBar).reverse)

theorem slot_step (e : Env) (rq : Bool) (num den key : Int) (hn : 0 ≤ num) (hd : 0 < den) (hp : 0 ≤ e.ppqn)
    (z : Seq × List GBar) (hz : Readable z.1) :
    (fun o : (Seq × List GBar) × Bool => (absSlot o.1, o.2)) <$>
        (trackStepG e rq num den key (barCapacity e.ppqn num den) z.1 >>= fun o => pure ((o.2.1, z.2 ++ [o.2.2]), o.1)) =
      slotStep e.ppqn e.defValues rq (num, den, key) (absSlot z) := by
  have hr := WrapperL.readRel_eq _ hz
  -- of a slot's result the abstraction keeps the bar through `GBar.toBar`, which is what `barG_spec` speaks of
  have hK : ∀ (x : Except Err GBar) (two : Bool) (rest : Seq),
      (fun o : (Seq × List GBar) × Bool => ((relView o.1.1, (o.1.2.map GBar.toBar).reverse), o.2)) <$>
          ((x >>= fun bar => pure (two, rest, bar)) >>= fun o => pure ((o.2.1, z.2 ++ [o.2.2]), o.1)) =
        (GBar.toBar <$> x) >>= fun bar => pure ((relView rest, bar :: (z.2.map GBar.toBar).reverse), two) := by
    intro x two rest
    cases x with
    | error er => rfl
    | ok g => simp
  have f0 := barG_spec e rq num den key hn hd hp Seq.new [] (Or.inr ⟨rfl, rfl⟩)
  have f1 := fun a => barG_spec e rq num den key hn hd hp (Seq.ofRel a) a (Or.inl rfl)
  unfold trackStepG slotStep trackStep
  simp only [hr, ok_bind, sgLen, absSlot]
  cases split (relView z.1) [barCapacity e.ppqn num den] with
  | error x => rfl
  | ok ps =>
    rcases ps with _ | ⟨a, _ | ⟨b, tl⟩⟩ <;> simp only [hK, ok_bind, f0, f1] <;> cases requantPiece _ _ _ _ with
      | error x => rfl
      | ok piece => simp only [ok_bind]; cases mkBar _ _ _ _ _ <;> rfl


/-- the translated `while` loop with its final test -/
def whileG (e : Env) (rq : Bool) (fuel : Nat) (st : St) : Except Err (List (List GBar)) := do
  let st' ← forIn (List.replicate fuel ()) st (fun _ st => roundBody e rq st)
  if !St.sync st' then throw Err.fuel else pure (St.bars st')

theorem forIn_done (e : Env) (rq : Bool) (n : Nat) (st : St) (h : St.sync st = true) :
    forIn (List.replicate n ()) st (fun _ st => roundBody e rq st) = .ok st := by
  cases n with
  | zero => rfl
  | succ n =>
    rw [List.replicate_succ, List.forIn_cons]
    simp [roundBody, h]


/-- the state `Bar.__init__` leaves a bar's sequence in -/
def Constructed (g : GBar) : Prop := g.sequence.absStale = true ∧ g.sequence.relStale = false

def AllConstructed (tb : List (List GBar)) : Prop := ∀ bars ∈ tb, ∀ g ∈ bars, Constructed g

theorem barG_out {e : Env} {rq : Bool} {num den key : Int} {first : Seq} {g : GBar}
    (h : barG e rq num den key first = .ok g) : Constructed g := by
  unfold barG at h
  obtain ⟨first', _, h⟩ := bind_eq_ok h
  obtain ⟨h1, h2, _⟩ := barInit_shape e first' num den _ 0 g h
  exact ⟨h1, h2⟩

theorem trackStepG_out {e : Env} {rq : Bool} {num den key len : Int} {s : Seq} {o : Bool × Seq × GBar}
    (h : trackStepG e rq num den key len s = .ok o) : Readable o.2.1 ∧ Constructed o.2.2 := by
  unfold trackStepG at h
  obtain ⟨p, _, h⟩ := bind_eq_ok h
  obtain ⟨ps, _, h⟩ := bind_eq_ok h
  rcases ps with _ | ⟨a, _ | ⟨b, tl⟩⟩ <;> obtain ⟨g, hg, h⟩ := bind_eq_ok h <;> cases h <;>
    exact ⟨by simp [Readable, Seq.new, Seq.ofRel], barG_out hg⟩


/-- the hand model's state for a state of the translated loop given by its slots, on queues `tsQ`, `ksQ` -/
abbrev absSt (zs : List (Seq × List GBar)) (now num den key : Int) (tsQ ksQ : List Msg) : SBSt :=
  { now := now, num := num, den := den, key := key, tsQ := tsQ, ksQ := ksQ,
    tracks := zs.map (fun z => (absSlot z).1), bars := zs.map (fun z => (absSlot z).2) }

/-- **the translated `while` loop is `splitBarsGo` on the abstraction of its state**, on any queues that show the loop's
    queues entry by entry (`QSim`), and every bar it returns is in the constructed state.  Invariants: every `sequences[i]`
    can be read, the queues are in time order, the signatures to come are in the domain of `lenPy_eq`. -/
theorem while_eq (e : Env) (rq : Bool) (hp : 0 ≤ e.ppqn) : ∀ (fuel : Nat) (zs : List (Seq × List GBar)) (now num den key : Int)
    (tsT ksT : List (Int × Msg)) (tsQ ksQ : List Msg),
    (∀ z ∈ zs, Readable z.1 ∧ ∀ g ∈ z.2, Constructed g) → QSim tsT tsQ → QSim ksT ksQ → TimeAsc tsQ → TimeAsc ksQ →
    (∀ m ∈ tsQ, 0 ≤ m.num ∧ 0 < m.den) → 0 ≤ num → 0 < den →
    (fun tb => tb.map (·.map GBar.toBar)) <$>
          whileG e rq fuel (zs.map (·.1), now, num, den, key, tsT, ksT, zs.map (·.2), false) =
        splitBarsGo e.ppqn e.defValues rq fuel (absSt zs now num den key tsQ ksQ) ∧
      ∀ tb, whileG e rq fuel (zs.map (·.1), now, num, den, key, tsT, ksT, zs.map (·.2), false) = .ok tb → AllConstructed tb := by
  intro fuel
  induction fuel with
  | zero => intro zs now num den key tsT ksT tsQ ksQ _ _ _ _ _ _ _ _; exact ⟨rfl, fun tb h => by cases h⟩
  | succ fuel ih =>
    intro zs now num den key tsT ksT tsQ ksQ hz hts hks hta hka hq hn hd
    obtain ⟨rt, hrt, hvt, hst⟩ := queueStep_sim (fun m => (m.num, m.den))
      (fun t m h => by simp only [entryView, sigView, Prod.mk.injEq] at h; simp [h]) now (num, den) tsT tsQ hts hta
    obtain ⟨rk, hrk, hvk, hsk⟩ := queueStep_sim (fun m => m.key)
      (fun t m h => by simp only [entryView, sigView, Prod.mk.injEq] at h; simp [h]) now key ksT ksQ hks hka
    obtain ⟨hn', hd', hq'⟩ := nextSig_mem now num den _ hq hn hd
    have hta' := nextQ_asc (fun m => (m.num, m.den)) now (num, den) _ hta
    have hka' := nextQ_asc (fun m => m.key) now key _ hka
    rw [nextSig_eq, ← hvt] at hn' hd'
    rw [nextSig_eq] at hq'
    rw [splitBarsGo_succ]
    simp only [absSt, nextSig_eq, nextKey_eq, ← hvt, ← hvk, sgLen]
    unfold whileG
    rw [List.replicate_succ, List.forIn_cons, roundBody]
    simp only [St.sync, St.now, St.num, St.den, St.key, St.tsT, St.ksT, St.seqs, St.bars, Bool.false_eq_true, if_false, hrt, hrk, ok_bind,
      lenPy_eq e _ _ hn' hp hd']
    generalize (rt.1.map (fun m => (m.num, m.den))).getD (num, den) = nd at *
    generalize (rk.1.map (fun m => m.key)).getD key = key' at *
    rw [List.length_map, getSet_loop, List.zip_map', fold_eq,
      ← mapM_abs absSlot (fun o : (Seq × List GBar) × Bool => (absSlot o.1, o.2)) (fun z => Readable z.1) _ _
        (fun z hz => slot_step e rq nd.1 nd.2 key' hn' hd' hp z hz) zs (fun z hz' => (hz z hz').1)]
    cases hos : zs.mapM (fun z => trackStepG e rq nd.1 nd.2 key' (barCapacity e.ppqn nd.1 nd.2) z.1 >>= fun o =>
        pure ((o.2.1, z.2 ++ [o.2.2]), o.1)) with
    | error x => exact ⟨rfl, fun tb h => by cases h⟩
    | ok os =>
      have hz' : ∀ z ∈ os.map (·.1), Readable z.1 ∧ ∀ g ∈ z.2, Constructed g := by
        intro z hz'
        obtain ⟨o, ho, rfl⟩ := List.mem_map.mp hz'
        obtain ⟨z0, hz0, h0⟩ := (mapM_mem hos).1 o ho
        obtain ⟨g, hg, h0⟩ := bind_eq_ok h0
        cases h0
        obtain ⟨h1, h2⟩ := trackStepG_out hg
        refine ⟨h1, fun g' hg' => ?_⟩
        rcases List.mem_append.mp hg' with hg' | hg'
        · exact (hz z0 hz0).2 g' hg'
        · rw [List.mem_singleton.mp hg']; exact h2
      simp only [map_ok, ok_bind, pure_eq, Except.bind, List.map_map, List.all_map, Function.comp_def, List.nil_append, Bool.true_and]
      cases hsync : os.all (fun o => !o.2) with
      | true =>
        simp only [if_true]
        rw [forIn_done e rq fuel _ rfl]
        refine ⟨by simp [absSlot, List.map_map, Function.comp_def], fun tb h => ?_⟩
        simp only [ok_bind, Bool.not_true, Bool.false_eq_true, if_false, Except.ok.injEq] at h
        subst h
        intro bars hb g hg
        obtain ⟨o, ho, rfl⟩ := List.mem_map.mp hb
        exact (hz' o.1 (List.mem_map_of_mem ho)).2 g hg
      | false =>
        simp only [Bool.false_eq_true, if_false]
        have := ih (os.map (·.1)) (now + barCapacity e.ppqn nd.1 nd.2) nd.1 nd.2 key' rt.2 rk.2 _ _ hz' hst hsk hta' hka' hq' hn' hd'
        unfold whileG at this
        simpa [absSt, List.map_map, Function.comp_def] using this


theorem timesOfType_toAbs_asc (ty : MType) (hty : ty ≠ .internal) (r : List Msg) : TimeAsc (timesOfType ty (toAbs r)) :=
  toAbs_filter_pairwise _ (fun _ _ => beq_false_of_ne (a := MType.internal) fun h => hty h.symm) r

theorem timesOfType_toAbs_sig (r : List Msg) (h : ∀ m ∈ r, m.ty = .timeSignature → 0 ≤ m.num ∧ 0 < m.den) :
    ∀ m ∈ timesOfType .timeSignature (toAbs r), 0 ≤ m.num ∧ 0 < m.den := by
  intro m hm
  simp only [timesOfType, List.mem_filter, beq_iff_eq] at hm
  rcases mem_toAbs_cases hm.1 with hi | he
  · rw [hm.2] at hi; cases hi
  · obtain ⟨m', hm', -, c', rfl⟩ := eventsRelGo_src r 0 m he
    exact h m' hm' hm.2

/-- the absolute view of a sequence, where it is fresh, is the conversion of its relative view (the hand model reads the
    signatures of the meta track through `toAbs` of the relative view; the code reads the fresh absolute view of the copy) -/
def AbsCoherent (s : Seq) : Prop := s.absStale = false → ∀ p, s.readRel = .ok p → s.abs = toAbs p.2

theorem mapM_copy (e : Env) (seqs : List Seq) :
    seqs.mapM (fun s => do let r ← Gen.Wrap.copy e s; pure r.2) = .ok (seqs.map Seq.copy) :=
  mapM_eq_map _ Seq.copy seqs fun s _ => by simp only [copy_eq, ok_bind, pure_eq]

theorem readRels_relView (seqs : List Seq) (h : ∀ s ∈ seqs, Readable s) : readRels seqs = .ok (seqs.map relView) :=
  mapM_eq_map _ relView seqs fun s hs => by
    have hr := WrapperL.readRel_eq _ (h s hs)
    rw [hr]; rfl

theorem splitBarsFuel_relView (seqs : List Seq) (h : ∀ s ∈ seqs, Readable s) : splitBarsFuel seqs = fuelOf (seqs.map relView) := by
  have : seqs.map seqTicks = (seqs.map relView).map (fun t => (totalWait t).toNat) := by
    rw [List.map_map]
    apply List.map_congr_left
    intro s hs
    have hr := WrapperL.readRel_eq _ (h s hs)
    simp [seqTicks, hr]
  simp [splitBarsFuel, fuelOf, this]


theorem relView_of_read {c : Seq} {r : List Msg} (h : (·.2) <$> c.readRel = .ok r) : relView c = r ∧ Readable c := by
  obtain ⟨a, r0, sa, sr⟩ := c
  cases sa <;> cases sr <;> simp [Seq.readRel, relView, Readable] at h ⊢ <;> exact h

theorem whileG_shape (e : Env) (rq : Bool) (fuel : Nat) (st0 : St) :
    (do let st ← forIn (List.replicate fuel ()) st0 (fun _ st => roundBody e rq st)
        if (!St.sync st) = true then (do throw Err.fuel; Except.ok (St.bars st)) else Except.ok (St.bars st))
      = whileG e rq fuel st0 := by
  unfold whileG
  cases forIn (List.replicate fuel ()) st0 (fun _ st => roundBody e rq st) with
  | error er => rfl
  | ok st => simp only [ok_bind]; split <;> rfl

end SCoda.StaticTieL

namespace SCoda.R6L
open SCoda SCoda.WrapTie SCoda.StaticTieL SCoda.SB SCoda.ElemTie
open SCoda.WrapperL (relView)

def sigsOf (ty : MType) (a : List Msg) : List (Int × Int × Int × Int) := (timesOfType ty a).map sigView

/-- **the hypothesis the function really needs**: where the absolute view of the (meta) sequence is fresh, its time-signature
    events and its key-signature events are — as lists of `(time, numerator, denominator, key)`, in list order — those of
    `toAbs` of the relative view.  Nothing is asked of any other message, of channels, or of the order of a signature
    relative to a non-signature message.  Decidable, about the state only. -/
def AbsCoherentSigs (s : Seq) : Prop :=
  s.absStale = false → ∀ p, s.readRel = .ok p →
    sigsOf .timeSignature s.abs = sigsOf .timeSignature (toAbs p.2) ∧
    sigsOf .keySignature s.abs = sigsOf .keySignature (toAbs p.2)

instance (s : Seq) : Decidable (AbsCoherentSigs s) := by
  unfold AbsCoherentSigs
  cases h : s.readRel with
  | error x => exact isTrue (fun _ p hp => by cases hp)
  | ok q =>
    by_cases hs : s.absStale = false
    · by_cases hc : sigsOf .timeSignature s.abs = sigsOf .timeSignature (toAbs q.2) ∧
          sigsOf .keySignature s.abs = sigsOf .keySignature (toAbs q.2)
      · exact isTrue (fun _ p hp => by injection hp with hp; subst hp; exact hc)
      · exact isFalse (fun hh => hc (hh hs q rfl))
    · exact isTrue (fun h' => absurd h' hs)

theorem AbsCoherentSigs_of_AbsCoherent (s : Seq) (h : AbsCoherent s) : AbsCoherentSigs s := by
  intro hs p hp
  rw [h hs p hp]
  exact ⟨rfl, rfl⟩

theorem AbsCoherentSigs_of_absStale (s : Seq) (h : s.absStale = true) : AbsCoherentSigs s := by
  intro hs; rw [h] at hs; cases hs

theorem copy_readAbs_sigs (s : Seq) (h : Readable s) (hc : AbsCoherentSigs s) (p : Seq × List Msg) (hp : s.readRel = .ok p) :
    ∃ c' a, s.copy.readAbs = .ok (c', a) ∧ c'.readAbs = .ok (c', a) ∧ (·.2) <$> c'.readRel = .ok p.2 ∧
      sigsOf .timeSignature a = sigsOf .timeSignature (toAbs p.2) ∧ sigsOf .keySignature a = sigsOf .keySignature (toAbs p.2) := by
  obtain ⟨a, r, sa, sr⟩ := s
  cases sa <;> cases sr <;> simp [Readable] at h
  · have := hc rfl _ hp
    simp [Seq.readRel] at hp
    subst hp
    exact ⟨_, a, rfl, rfl, rfl, this⟩
  · have := hc rfl _ hp
    simp [Seq.readRel] at hp
    subst hp
    exact ⟨Seq.ofAbs a, a, rfl, rfl, rfl, this⟩
  · simp [Seq.readRel] at hp
    subst hp
    exact ⟨_, _, rfl, rfl, rfl, rfl, rfl⟩

theorem while_fresh (e : Env) (rq : Bool) (hp : 0 ≤ e.ppqn) (fuel : Nat) (S : List Seq) (hS : ∀ x ∈ S, Readable x)
    (tsT ksT : List (Int × Msg)) (tsQ ksQ : List Msg) (hts : QSim tsT tsQ) (hks : QSim ksT ksQ)
    (hta : TimeAsc tsQ) (hka : TimeAsc ksQ) (hpos : ∀ m ∈ tsQ, 0 ≤ m.num ∧ 0 < m.den) :
    (fun tb => tb.map (·.map GBar.toBar)) <$> whileG e rq fuel (S, 0, 4, 4, pyNone, tsT, ksT, S.map (fun _ => []), false) =
        splitBarsGo e.ppqn e.defValues rq fuel { tsQ := tsQ, ksQ := ksQ, tracks := S.map relView, bars := S.map (fun _ => []) } ∧
      ∀ tb, whileG e rq fuel (S, 0, 4, 4, pyNone, tsT, ksT, S.map (fun _ => []), false) = .ok tb → AllConstructed tb := by
  have hw := while_eq e rq hp fuel (S.map (fun x => (x, ([] : List GBar)))) 0 4 4 pyNone tsT ksT tsQ ksQ
    (fun z hz => by obtain ⟨x, hx, rfl⟩ := List.mem_map.mp hz; exact ⟨hS x hx, fun g hg => by cases hg⟩)
    hts hks hta hka hpos (by decide) (by decide)
  simpa only [absSt, absSlot, List.map_map, Function.comp_def, List.map_id', List.map_nil, List.reverse_nil] using hw

/-- **`Sequence.sequences_split_bars` as translated against `splitBars` on the relative views**, under `AbsCoherentSigs` of the
    meta sequence: same exception or the same bars through `GBar.toBar`, and every returned bar is in the constructed state.
    The prefix (copies, the two queues read from the copy of the meta track, the fuel) is computed once; the loop is
    `while_eq` between the queues the code read and those of `toAbs` of the relative view. -/
theorem sequencesSplitBars_spec (e : Env) (seqs : List Seq) (mi : Nat) (rq : Bool) (hp : 0 ≤ e.ppqn)
    (hread : ∀ s ∈ seqs, Readable s)
    (hmeta : ∀ s, seqs[mi]? = some s → AbsCoherentSigs s)
    (hsig : ∀ s p, seqs[mi]? = some s → s.readRel = .ok p → ∀ m ∈ p.2, m.ty = .timeSignature → 0 ≤ m.num ∧ 0 < m.den) :
    (fun tb => tb.map (·.map GBar.toBar)) <$> Gen.Static.sequencesSplitBars e seqs mi rq =
        (do let rels ← readRels seqs
            splitBars e.ppqn e.defValues rels mi rq) ∧
      ∀ tb, Gen.Static.sequencesSplitBars e seqs mi rq = .ok tb → AllConstructed tb := by
  rw [readRels_relView seqs hread]
  simp only [ok_bind]
  unfold Gen.Static.sequencesSplitBars
  simp only [mapM_copy, ok_bind]
  cases hs : seqs[mi]? with
  | none =>
    have h1 : pyGetNat (seqs.map Seq.copy) mi = .error .indexError := pyGetNat_none (by simp [hs])
    simp [h1, splitBars, hs]
  | some s =>
    have hrs := hread s (List.mem_of_getElem? hs)
    have hp' := WrapperL.readRel_eq _ hrs
    have h1 : pyGetNat (seqs.map Seq.copy) mi = .ok s.copy := pyGetNat_some (by simp [hs])
    obtain ⟨c', a, hc1, hc2, hc3, hts0, hks0⟩ := copy_readAbs_sigs s hrs (hmeta s hs) _ hp'
    obtain ⟨hc4, hc5⟩ := relView_of_read hc3
    have hi : mi < (seqs.map Seq.copy).length := by simpa using (List.getElem?_eq_some_iff.mp hs).1
    have hg2 : pyGetNat ((seqs.map Seq.copy).set mi c') mi = .ok c' := pyGetNat_some (List.getElem?_set_self hi)
    have hi2 : mi < ((seqs.map Seq.copy).set mi c').length := by simpa using hi
    have hS : ∀ x ∈ (seqs.map Seq.copy).set mi c', Readable x := by
      intro x hx
      rcases List.mem_or_eq_of_mem_set hx with hx | rfl
      · obtain ⟨y, hy, rfl⟩ := List.mem_map.mp hx
        exact (WrapperL.copy_views y (hread y hy)).1
      · exact hc5
    have hSr : ((seqs.map Seq.copy).set mi c').map relView = seqs.map relView := by
      have hcp : seqs.map (relView ∘ Seq.copy) = seqs.map relView :=
        List.map_congr_left (fun y hy => (WrapperL.copy_views y (hread y hy)).2.2)
      rw [List.map_set, hc4, List.map_map, hcp]
      have hlt : mi < (seqs.map relView).length := by simpa using hi
      have hget : (seqs.map relView)[mi] = relView s := by
        simp only [List.getElem_map]; rw [(List.getElem?_eq_some_iff.mp hs).2]
      rw [← hget, List.set_getElem_self]
    simp only [h1, ok_bind, getMessageTimesOfType_eq, hc1, hc2, pure_eq, pySetNat_lt _ _ _ hi, pySetNat_lt _ _ _ hi2, hg2, List.set_set,
      loop1_eq, filter_ty, whileG_shape, splitBarsFuel_relView _ hS, hSr]
    rw [SB.splitBars_eq e.ppqn e.defValues _ mi rq (relView s) (by simp [hs])]
    generalize (seqs.map Seq.copy).set mi c' = S at hS hSr ⊢
    -- the loop from either initial time-signature queue (the default 4/4 entry, or the meta track's own signatures)
    have key := fun tsT htv => while_fresh e rq hp (fuelOf (seqs.map relView)) S hS tsT (qOf (timesOfType .keySignature a))
      (initTs (relView s)) (timesOfType .keySignature (toAbs (relView s))) htv (qSim_qOf _ _ hks0)
      (by unfold initTs
          split
          · simp [TimeAsc]
          · exact timesOfType_toAbs_asc .timeSignature (by decide) (relView s))
      (timesOfType_toAbs_asc .keySignature (by decide) (relView s))
      (fun m hm => by
        unfold initTs at hm
        split at hm
        · simp only [List.mem_singleton] at hm; subst hm; decide
        · exact timesOfType_toAbs_sig (relView s) (hsig s _ hs hp') m hm)
    have hb : S.map (fun _ => ([] : List Bar)) = (seqs.map relView).map (fun _ => []) := by rw [← hSr, List.map_map]; rfl
    rw [hSr, hb] at key
    by_cases hemp : (timesOfType .timeSignature (toAbs (relView s))).length = 0
    · have hlts : (timesOfType .timeSignature a).length = 0 := by
        simpa [sigsOf, hemp] using congrArg List.length hts0
      have h0a : timesOfType .timeSignature a = [] := List.length_eq_zero_iff.mp hlts
      simp only [h0a, qOf, List.map_nil, List.length_nil, Int.natCast_zero, decide_true, if_true]
      exact key _ (by simp [initTs, hemp]; rfl)
    · have hne : ¬ (((qOf (timesOfType .timeSignature a)).length : Int) = 0) := by
        have : (timesOfType .timeSignature a).length = (timesOfType .timeSignature (toAbs (relView s))).length := by
          simpa [sigsOf] using congrArg List.length hts0
        simp only [qOf, List.length_map]; omega
      simp only [hne, decide_false, Bool.false_eq_true, if_false]
      exact key _ (qSim_qOf _ _ (by simpa [initTs, hemp, sigsOf] using hts0))

/-- the link `View.seq_split_bars` is the translated function up to the stale absolute view of every bar's sequence, wherever
    the translated function is `splitBars` on the relative views -/
theorem seq_split_bars_link_of_eq (e : Env) (seqs : List Seq) (mi : Nat) (rq : Bool)
    (h : (fun tb => tb.map (·.map GBar.toBar)) <$> Gen.Static.sequencesSplitBars e seqs mi rq =
      (do let rels ← readRels seqs
          splitBars e.ppqn e.defValues rels mi rq)) :
    View.seq_split_bars e seqs mi rq =
      (fun tb => tb.map (·.map (fun g => GBar.ofBar g.toBar))) <$> Gen.Static.sequencesSplitBars e seqs mi rq := by
  have hv : View.seq_split_bars e seqs mi rq =
      (fun (tb : List (List Bar)) => tb.map (fun bs => bs.map GBar.ofBar)) <$>
        (readRels seqs >>= fun rels => splitBars e.ppqn e.defValues rels mi rq) := by
    unfold View.seq_split_bars readRels
    cases List.mapM (fun x : Seq => (·.2) <$> x.readRel) seqs with
    | error x => rfl
    | ok rels => simp only [ok_bind]; cases splitBars e.ppqn e.defValues rels mi rq <;> rfl
  rw [hv, ← h]
  cases Gen.Static.sequencesSplitBars e seqs mi rq with
  | error er => rfl
  | ok tb => simp [List.map_map, Function.comp_def]


end SCoda.R6L
