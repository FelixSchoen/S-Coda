/-
  The loop of `splitBars` (C09) is a *schedule* — the signature / key chosen in every round, a function of the control part
  of the state only — with independent per-track runs along that schedule, whatever the outcome (`splitBars_cases`).

  Several statements take a property `TI : List Msg → Prop` of tracks: anything that holds of `[]` and that `split t [c]`
  hands from a track to its pieces (instances: `True`, `NoZeroNotes`, `NoZeroNotes` with all notes on one channel).
-/
import SCoda.Model.Bar
import SCoda.Model.Roll
import SCoda.Lemmas.RollCover
import SCoda.Props.C08
import SCoda.Props.C10
import SCoda.Props.C06
namespace SCoda.SB
open SCoda SCoda.SplitL SCoda.BarL

/-- signature, key: what a round decides -/
abbrev Sg := Int × Int × Int

def sgLen (ppqn : Int) (g : Sg) : Int := barCapacity ppqn g.1 g.2.1

def nextSig (now num den : Int) (tsQ : List Msg) : Int × Int × List Msg :=
  match tsQ with
  | m :: rest => if m.time <= now then (m.num, m.den, rest) else (num, den, tsQ)
  | [] => (num, den, tsQ)

def nextKey (now key : Int) (ksQ : List Msg) : Int × List Msg :=
  match ksQ with
  | m :: rest => if m.time <= now then (m.key, rest) else (key, ksQ)
  | [] => (key, ksQ)

/-- what one round does to one track: `(two pieces?, remainder, bar)` -/
def trackStep (ppqn : Int) (values : List Int) (requant : Bool) (g : Sg) (t : List Msg) :
    Except Err (Bool × List Msg × Bar) := do
  let pieces ← split t [sgLen ppqn g]
  let (two, rest, first) := match pieces with
    | p :: q :: _ => (true, q, p)
    | [p] => (false, [], p)
    | [] => (false, [], [])
  let piece ← requantPiece values ppqn requant first
  let bar ← mkBar ppqn piece g.1 g.2.1 g.2.2
  .ok (two, rest, bar)

def foldBody (ppqn : Int) (values : List Int) (requant : Bool) (g : Sg)
    (acc : Bool × List (List Msg) × List (List Bar)) (tb : List Msg × List Bar) :
    Except Err (Bool × List (List Msg) × List (List Bar)) := do
  let pieces ← split tb.1 [sgLen ppqn g]
  let (sync, rest, first) := match pieces with
    | p :: q :: _ => (false, q, p)
    | [p] => (acc.1, [], p)
    | [] => (acc.1, [], [])
  let piece ← requantPiece values ppqn requant first
  let bar ← mkBar ppqn piece g.1 g.2.1 g.2.2
  .ok (sync, acc.2.1 ++ [rest], acc.2.2 ++ [bar :: tb.2])

theorem splitBarsGo_succ (ppqn : Int) (values : List Int) (requant : Bool) (fuel : Nat) (s : SBSt) :
    splitBarsGo ppqn values requant (fuel + 1) s =
      (let sg := nextSig s.now s.num s.den s.tsQ
       let kk := nextKey s.now s.key s.ksQ
       let g : Sg := (sg.1, sg.2.1, kk.1)
       (foldlM' (foldBody ppqn values requant g) (true, [], []) (s.tracks.zip s.bars)).bind fun step =>
         if step.1 then .ok (step.2.2.map List.reverse)
         else splitBarsGo ppqn values requant fuel
           { now := s.now + sgLen ppqn g, num := sg.1, den := sg.2.1, key := kk.1, tsQ := sg.2.2, ksQ := kk.2,
             tracks := step.2.1, bars := step.2.2 }) := by
  rw [splitBarsGo]
  rfl

theorem foldBody_eq (ppqn : Int) (values : List Int) (requant : Bool) (g : Sg)
    (acc : Bool × List (List Msg) × List (List Bar)) (tb : List Msg × List Bar) :
    foldBody ppqn values requant g acc tb =
      (trackStep ppqn values requant g tb.1).bind fun o =>
        .ok (!o.1 && acc.1, acc.2.1 ++ [o.2.1], acc.2.2 ++ [o.2.2 :: tb.2]) := by
  unfold foldBody trackStep
  simp only [bind, Except.bind]
  cases split tb.1 [sgLen ppqn g] with
  | error e => rfl
  | ok pieces =>
    simp only
    rcases pieces with _ | ⟨p, _ | ⟨q, tl⟩⟩
    all_goals
      simp only
      cases requantPiece values ppqn requant _ with
      | error e => rfl
      | ok piece =>
        simp only
        cases mkBar ppqn piece g.1 g.2.1 g.2.2 with
        | error e => rfl
        | ok bar => simp

def roundSg (s : SBSt) : Sg :=
  ((nextSig s.now s.num s.den s.tsQ).1, (nextSig s.now s.num s.den s.tsQ).2.1, (nextKey s.now s.key s.ksQ).1)

theorem mapM_error {α β ε} {f : α → Except ε β} : ∀ {xs : List α} {e : ε}, xs.mapM f = .error e →
    ∃ x ∈ xs, f x = .error e := by
  intro xs
  induction xs with
  | nil => intro e h; cases h
  | cons x xs ih =>
    intro e h
    rw [List.mapM_cons] at h
    cases hx : f x with
    | error e' => rw [hx] at h; cases h; exact ⟨x, List.mem_cons_self, hx⟩
    | ok y =>
      rw [hx] at h
      cases hs : xs.mapM f with
      | error e' =>
        rw [hs] at h; cases h
        obtain ⟨x', hx', h2⟩ := ih hs
        exact ⟨x', List.mem_cons_of_mem _ hx', h2⟩
      | ok ys => rw [hs] at h; cases h

theorem mapM_ok {α β ε} {f : α → Except ε β} : ∀ {xs : List α} {ys : List β}, xs.mapM f = .ok ys →
    ys.length = xs.length ∧ ∀ (i : Nat) (x : α), xs[i]? = some x → ∃ y, ys[i]? = some y ∧ f x = .ok y := by
  intro xs
  induction xs with
  | nil => intro ys h; cases h; exact ⟨rfl, fun i x hx => by simp at hx⟩
  | cons x xs ih =>
    intro ys h
    rw [List.mapM_cons] at h
    cases hx : f x with
    | error e => rw [hx] at h; cases h
    | ok y =>
      rw [hx] at h
      cases hs : xs.mapM f with
      | error e => rw [hs] at h; cases h
      | ok ys' =>
        rw [hs] at h
        cases h
        obtain ⟨hl, hi⟩ := ih hs
        refine ⟨by simp [hl], fun i x' hx' => ?_⟩
        cases i with
        | zero => simp only [List.getElem?_cons_zero, Option.some.injEq] at hx'; subst hx'; exact ⟨y, rfl, hx⟩
        | succ i => simpa using hi i x' (by simpa using hx')

theorem mapM_mem {α β ε} {f : α → Except ε β} {xs : List α} {ys : List β} (h : xs.mapM f = .ok ys) :
    (∀ y ∈ ys, ∃ x ∈ xs, f x = .ok y) ∧ ∀ x ∈ xs, ∃ y ∈ ys, f x = .ok y := by
  obtain ⟨hl, hstep⟩ := mapM_ok h
  refine ⟨fun y hy => ?_, fun x hx => ?_⟩
  · obtain ⟨i, hi, hiy⟩ := List.getElem_of_mem hy
    obtain ⟨y', hy', hf⟩ := hstep i _ (List.getElem?_eq_getElem (hl ▸ hi))
    rw [List.getElem?_eq_getElem hi, hiy] at hy'
    cases hy'
    exact ⟨_, List.getElem_mem _, hf⟩
  · obtain ⟨i, hi, hix⟩ := List.getElem_of_mem hx
    obtain ⟨y, hy, hf⟩ := hstep i x (by rw [List.getElem?_eq_getElem hi, hix])
    exact ⟨y, List.mem_of_getElem? hy, hf⟩

theorem lt_of_getElem?_some {α} {l : List α} {i : Nat} {a : α} (h : l[i]? = some a) : i < l.length :=
  (List.getElem?_eq_some_iff.1 h).1

/-- a slot is a track with its bars so far, newest first; the flag: whether the track yielded two pieces -/
def slotStep (ppqn : Int) (values : List Int) (requant : Bool) (g : Sg) (z : List Msg × List Bar) :
    Except Err ((List Msg × List Bar) × Bool) :=
  (trackStep ppqn values requant g z.1).bind fun o => .ok ((o.2.1, o.2.2 :: z.2), o.1)

theorem fold_eq (ppqn : Int) (values : List Int) (requant : Bool) (g : Sg) (zs : List (List Msg × List Bar)) :
    ∀ acc : Bool × List (List Msg) × List (List Bar),
    foldlM' (foldBody ppqn values requant g) acc zs =
      (zs.mapM (slotStep ppqn values requant g)).bind fun os =>
        .ok (acc.1 && os.all (fun o => !o.2), acc.2.1 ++ os.map (·.1.1), acc.2.2 ++ os.map (·.1.2)) := by
  induction zs with
  | nil => intro acc; simp [foldlM', Except.bind, pure, Except.pure]
  | cons z zs ih =>
    intro acc
    simp only [foldlM', List.mapM_cons, slotStep, bind, pure, Except.pure]
    rw [foldBody_eq]
    cases trackStep ppqn values requant g z.1 with
    | error e => rfl
    | ok o =>
      simp only [Except.bind]
      rw [ih]
      cases zs.mapM (slotStep ppqn values requant g) with
      | error e => rfl
      | ok os =>
        simp only [Except.bind, List.all_cons, List.map_cons, List.append_assoc, List.singleton_append,
          Except.ok.injEq, Prod.mk.injEq, and_true]
        cases o.1 <;> cases acc.1 <;> simp

def roundNext (ppqn : Int) (s : SBSt) (os : List ((List Msg × List Bar) × Bool)) : SBSt :=
  { now := s.now + sgLen ppqn (roundSg s), num := (roundSg s).1, den := (roundSg s).2.1, key := (roundSg s).2.2,
    tsQ := (nextSig s.now s.num s.den s.tsQ).2.2, ksQ := (nextKey s.now s.key s.ksQ).2,
    tracks := os.map (·.1.1), bars := os.map (·.1.2) }

theorem splitBarsGo_round_eq (ppqn : Int) (values : List Int) (requant : Bool) (fuel : Nat) (s : SBSt) :
    splitBarsGo ppqn values requant (fuel + 1) s =
      match (s.tracks.zip s.bars).mapM (slotStep ppqn values requant (roundSg s)) with
      | .error e => .error e
      | .ok os =>
        if os.all (fun o => !o.2) then .ok ((roundNext ppqn s os).bars.map List.reverse)
        else splitBarsGo ppqn values requant fuel (roundNext ppqn s os) := by
  rw [splitBarsGo_succ]
  show (foldlM' (foldBody ppqn values requant (roundSg s)) _ _).bind _ = _
  rw [fold_eq]
  cases (s.tracks.zip s.bars).mapM (slotStep ppqn values requant (roundSg s)) with
  | error e => rfl
  | ok os => simp only [Except.bind, List.nil_append, Bool.true_and]; rfl

theorem roundNext_tracks (ppqn : Int) (s : SBSt) (os : List ((List Msg × List Bar) × Bool)) :
    (roundNext ppqn s os).tracks = os.map (·.1.1) := rfl

theorem roundNext_bars (ppqn : Int) (s : SBSt) (os : List ((List Msg × List Bar) × Bool)) :
    (roundNext ppqn s os).bars = os.map (·.1.2) := rfl

theorem roundNext_slots (ppqn : Int) (s : SBSt) (os : List ((List Msg × List Bar) × Bool)) :
    (roundNext ppqn s os).tracks.zip (roundNext ppqn s os).bars = os.map (·.1) := by
  rw [roundNext_tracks, roundNext_bars, List.zip_map']

theorem slotStep_ok {ppqn : Int} {values : List Int} {requant : Bool} {g : Sg} {z : List Msg × List Bar}
    {o : (List Msg × List Bar) × Bool} (h : slotStep ppqn values requant g z = .ok o) :
    ∃ b, trackStep ppqn values requant g z.1 = .ok (o.2, o.1.1, b) ∧ o.1.2 = b :: z.2 := by
  unfold slotStep at h
  cases ht : trackStep ppqn values requant g z.1 with
  | error e => rw [ht] at h; cases h
  | ok o' => rw [ht] at h; cases h; exact ⟨o'.2.2, rfl, rfl⟩

theorem slotStep_error {ppqn : Int} {values : List Int} {requant : Bool} {g : Sg} {z : List Msg × List Bar} {e : Err}
    (h : slotStep ppqn values requant g z = .error e) : trackStep ppqn values requant g z.1 = .error e := by
  unfold slotStep at h
  cases ht : trackStep ppqn values requant g z.1 with
  | error e' => rw [ht] at h; cases h; rfl
  | ok o' => rw [ht] at h; cases h

theorem trackStep_error {ppqn : Int} {values : List Int} {requant : Bool} {g : Sg} {t : List Msg} {e : Err}
    (h : trackStep ppqn values requant g t = .error e) : e = .barError := by
  unfold trackStep at h
  simp only [bind, Except.bind] at h
  obtain ⟨pieces, hs⟩ := C08.split_total t [sgLen ppqn g]
  simp only [hs] at h
  have hrq : ∀ first, ∃ piece, requantPiece values ppqn requant first = .ok piece := by
    intro first
    unfold requantPiece
    cases requant with
    | false => exact ⟨first, rfl⟩
    | true =>
      obtain ⟨out, hout⟩ := C06.total values ppqn true (toAbs first)
      exact ⟨toRel out, by simp [hout, bind, Except.bind]⟩
  rcases pieces with _ | ⟨p, _ | ⟨q, tl⟩⟩
  all_goals
    simp only at h
    split at h
    · rename_i e' he
      obtain ⟨piece, hp⟩ := hrq _
      rw [hp] at he
      cases he
    · rename_i piece _
      split at h
      · rename_i e' he
        cases h
        rcases mkBar_cases ppqn piece g.1 g.2.1 g.2.2 with ⟨b, hb⟩ | hb
        · rw [hb] at he; cases he
        · rw [hb] at he; cases he; rfl
      · cases h

/-- the signatures / keys chosen in the first `r` rounds from a given control state -/
def ctl (ppqn : Int) : Nat → Int → Int → Int → Int → List Msg → List Msg → List Sg
  | 0, _, _, _, _, _, _ => []
  | r + 1, now, num, den, key, tsQ, ksQ =>
    let sg := nextSig now num den tsQ
    let kk := nextKey now key ksQ
    let g : Sg := (sg.1, sg.2.1, kk.1)
    g :: ctl ppqn r (now + sgLen ppqn g) sg.1 sg.2.1 kk.1 sg.2.2 kk.2

theorem ctl_round (ppqn : Int) (r : Nat) (s : SBSt) (os : List ((List Msg × List Bar) × Bool)) :
    ctl ppqn (r + 1) s.now s.num s.den s.key s.tsQ s.ksQ = roundSg s ::
      ctl ppqn r (roundNext ppqn s os).now (roundNext ppqn s os).num (roundNext ppqn s os).den
        (roundNext ppqn s os).key (roundNext ppqn s os).tsQ (roundNext ppqn s os).ksQ := rfl

theorem ctl_length (ppqn : Int) : ∀ (r : Nat) (now num den key : Int) (tsQ ksQ : List Msg),
    (ctl ppqn r now num den key tsQ ksQ).length = r := by
  intro r
  induction r with
  | zero => intros; rfl
  | succ r ih => intros; simp [ctl, ih]

def initTs (metaTrack : List Msg) : List Msg :=
  if (timesOfType .timeSignature (toAbs metaTrack)).length == 0 then [Msg.mkTimeSig 0 4 4 0]
  else timesOfType .timeSignature (toAbs metaTrack)

/-- the queue the loop starts with is the meta track's signature list, or `[4/4 @ 0]` if that is empty -/
theorem initTs_ind (metaTrack : List Msg) (P : List Msg → Prop)
    (h0 : timesOfType .timeSignature (toAbs metaTrack) = [] → P [Msg.mkTimeSig 0 4 4 0])
    (h1 : P (timesOfType .timeSignature (toAbs metaTrack))) : P (initTs metaTrack) := by
  unfold initTs
  split
  · rename_i hz
    exact h0 (by simpa using hz)
  · exact h1

/-- the schedule of a whole run of `r` rounds -/
def sched (ppqn : Int) (metaTrack : List Msg) (r : Nat) : List Sg :=
  ctl ppqn r 0 4 4 pyNone (initTs metaTrack) (timesOfType .keySignature (toAbs metaTrack))

theorem sched_length (ppqn : Int) (metaTrack : List Msg) (r : Nat) : (sched ppqn metaTrack r).length = r :=
  ctl_length ppqn r _ _ _ _ _ _

def fuelOf (tracks : List (List Msg)) : Nat :=
  ((tracks.map (fun t => (totalWait t).toNat)).foldl max 0) + tracks.length + 2

theorem splitBars_eq (ppqn : Int) (values : List Int) (tracks : List (List Msg)) (metaIdx : Nat) (requant : Bool)
    (metaTrack : List Msg) (hm : tracks[metaIdx]? = some metaTrack) :
    splitBars ppqn values tracks metaIdx requant =
      splitBarsGo ppqn values requant (fuelOf tracks)
        { tsQ := initTs metaTrack, ksQ := timesOfType .keySignature (toAbs metaTrack), tracks := tracks,
          bars := tracks.map (fun _ => []) } := by
  simp only [splitBars, hm]
  rfl

theorem le_foldl_max (l : List Nat) : ∀ a : Nat, a ≤ l.foldl max a ∧ ∀ x ∈ l, x ≤ l.foldl max a := by
  induction l with
  | nil => intro a; simp
  | cons y ys ih =>
    intro a
    obtain ⟨h1, h2⟩ := ih (max a y)
    simp only [List.foldl_cons, List.mem_cons]
    refine ⟨by omega, ?_⟩
    rintro x (rfl | hx)
    · omega
    · exact h2 x hx

theorem durRel_lt_fuelOf (tracks : List (List Msg)) (t : List Msg) (ht : t ∈ tracks) :
    durRel t < (fuelOf tracks : Int) := by
  have h := (le_foldl_max (tracks.map (fun t => (totalWait t).toNat)) 0).2 (totalWait t).toNat
    (List.mem_map.2 ⟨t, ht, rfl⟩)
  unfold fuelOf durRel
  omega

theorem ctl_sig_mem (ppqn : Int) : ∀ (r : Nat) (now num den key : Int) (tsQ ksQ : List Msg),
    ∀ g ∈ ctl ppqn r now num den key tsQ ksQ, (g.1, g.2.1) = (num, den) ∨ ∃ m ∈ tsQ, (g.1, g.2.1) = (m.num, m.den) := by
  intro r
  induction r with
  | zero => intro _ _ _ _ _ _ g hg; cases hg
  | succ r ih =>
    intro now num den key tsQ ksQ g hg
    have hn : (((nextSig now num den tsQ).1, (nextSig now num den tsQ).2.1) = (num, den) ∨
        ∃ m ∈ tsQ, ((nextSig now num den tsQ).1, (nextSig now num den tsQ).2.1) = (m.num, m.den)) ∧
        ∀ m ∈ (nextSig now num den tsQ).2.2, m ∈ tsQ := by
      unfold nextSig
      cases tsQ with
      | nil => exact ⟨Or.inl rfl, fun _ h => h⟩
      | cons m rest =>
        simp only
        split
        · exact ⟨Or.inr ⟨m, List.mem_cons_self, rfl⟩, fun x hx => List.mem_cons_of_mem _ hx⟩
        · exact ⟨Or.inl rfl, fun _ h => h⟩
    rcases List.mem_cons.1 hg with rfl | hg
    · exact hn.1
    · rcases ih _ _ _ _ _ _ g hg with h | ⟨m, hm, h⟩
      · rw [h]; exact hn.1
      · exact Or.inr ⟨m, hn.2 m hm, h⟩

theorem sched_sig_src (ppqn : Int) (metaTrack : List Msg) (r : Nat) : ∀ g ∈ sched ppqn metaTrack r,
    (g.1, g.2.1) = (4, 4) ∨ ∃ m ∈ metaTrack, m.ty = .timeSignature ∧ (g.1, g.2.1) = (m.num, m.den) := by
  intro g hg
  rcases ctl_sig_mem ppqn r _ _ _ _ _ _ g hg with h | ⟨m, hm, h⟩
  · exact Or.inl h
  · revert m
    refine initTs_ind metaTrack (fun q => ∀ m ∈ q, (g.1, g.2.1) = (m.num, m.den) → _)
      (fun _ m hm h => Or.inl (by rw [List.mem_singleton.1 hm] at h; exact h)) fun m hm h => ?_
    simp only [timesOfType, List.mem_filter, beq_iff_eq] at hm
    rcases mem_toAbs_cases hm.1 with hi | he
    · rw [hm.2] at hi; cases hi
    · obtain ⟨m', hm', -, c', rfl⟩ := eventsRelGo_src _ 0 m he
      exact Or.inr ⟨m', hm', hm.2, h⟩

theorem foldl_add_init (l : List Int) : ∀ a : Int, l.foldl (· + ·) a = a + l.foldl (· + ·) 0 := by
  induction l with
  | nil => intro a; simp
  | cons x xs ih =>
    intro a
    simp only [List.foldl_cons]
    rw [ih (a + x), ih (0 + x)]
    omega

/-- start of round `k`: the sum of the lengths of the rounds before it -/
def psum (ppqn : Int) (gs : List Sg) (k : Nat) : Int := ((gs.take k).map (sgLen ppqn)).foldl (· + ·) 0

theorem psum_zero (ppqn : Int) (gs : List Sg) : psum ppqn gs 0 = 0 := by simp [psum]

theorem psum_nil (ppqn : Int) (k : Nat) : psum ppqn [] k = 0 := by simp [psum]

theorem psum_cons_succ (ppqn : Int) (g : Sg) (gs : List Sg) (k : Nat) :
    psum ppqn (g :: gs) (k + 1) = sgLen ppqn g + psum ppqn gs k := by
  simp only [psum, List.take_succ_cons, List.map_cons, List.foldl_cons]
  rw [foldl_add_init]
  omega

theorem psum_succ (ppqn : Int) : ∀ (gs : List Sg) (k : Nat) (g : Sg), gs[k]? = some g →
    psum ppqn gs (k + 1) = psum ppqn gs k + sgLen ppqn g := by
  intro gs
  induction gs with
  | nil => intro k g h; simp at h
  | cons x xs ih =>
    intro k g h
    cases k with
    | zero =>
      simp only [List.getElem?_cons_zero, Option.some.injEq] at h
      subst h
      rw [psum_cons_succ, psum_zero, psum_zero]; omega
    | succ k =>
      simp only [List.getElem?_cons_succ] at h
      rw [psum_cons_succ, psum_cons_succ, ih k g h]; omega

theorem psum_mono (ppqn : Int) : ∀ (gs : List Sg) (j k : Nat), (∀ g ∈ gs, 0 ≤ sgLen ppqn g) → j ≤ k →
    psum ppqn gs j ≤ psum ppqn gs k := by
  intro gs
  induction gs with
  | nil => intro j k _ _; rw [psum_nil, psum_nil]; omega
  | cons x xs ih =>
    intro j k h hjk
    have h' : ∀ g ∈ xs, 0 ≤ sgLen ppqn g := fun g hg => h g (List.mem_cons_of_mem _ hg)
    have hx := h x List.mem_cons_self
    cases k with
    | zero => rw [Nat.le_zero.1 hjk]; omega
    | succ k =>
      rw [psum_cons_succ]
      cases j with
      | zero =>
        have := ih 0 k h' (Nat.zero_le k)
        rw [psum_zero] at this ⊢
        omega
      | succ j =>
        rw [psum_cons_succ]
        have := ih j k h' (by omega)
        omega

theorem psum_nonneg (ppqn : Int) (gs : List Sg) (k : Nat) (h : ∀ g ∈ gs, 0 ≤ sgLen ppqn g) : 0 ≤ psum ppqn gs k := by
  have := psum_mono ppqn gs 0 k h (Nat.zero_le k)
  rwa [psum_zero] at this

theorem psum_ge (ppqn : Int) (gs : List Sg) (h : ∀ g ∈ gs, 0 < sgLen ppqn g) : ∀ k, k ≤ gs.length →
    (k : Int) ≤ psum ppqn gs k := by
  intro k
  induction k with
  | zero => intro _; rw [psum_zero]; exact Int.le_refl _
  | succ k ih =>
    intro hk
    have hlt : k < gs.length := hk
    rw [psum_succ ppqn gs k _ (List.getElem?_eq_getElem hlt)]
    have := h _ (List.getElem_mem hlt)
    have := ih (by omega)
    omega

/-- one lookup in a queue of timed change events: the head is consumed iff it is due -/
def nextQ {α} (val : Msg → α) (now : Int) (cur : α) (q : List Msg) : α × List Msg :=
  match q with
  | m :: rest => if m.time <= now then (val m, rest) else (cur, q)
  | [] => (cur, q)

theorem nextSig_eq (now num den : Int) (q : List Msg) :
    nextSig now num den q = ((nextQ (fun m => (m.num, m.den)) now (num, den) q).1.1,
      (nextQ (fun m => (m.num, m.den)) now (num, den) q).1.2, (nextQ (fun m => (m.num, m.den)) now (num, den) q).2) := by
  unfold nextSig nextQ
  cases q with
  | nil => rfl
  | cons m rest =>
    simp only
    split <;> rfl

theorem nextKey_eq (now key : Int) (q : List Msg) : nextKey now key q = nextQ (fun m => m.key) now key q := by
  unfold nextKey nextQ
  cases q with
  | nil => rfl
  | cons m rest => rfl

/-- one bar length off a track, as a round sees `split t [c]`: the piece `first` that becomes the bar, what is left
    of the track (`rest`), and whether the track went on beyond the bar (`two`) -/
def Cut (c : Int) (t first rest : List Msg) (two : Bool) : Prop :=
  ∃ pieces, split t [c] = .ok pieces ∧ first = pieces.headD [] ∧ rest = pieces.tail.headD [] ∧ two = !pieces.tail.isEmpty

theorem Cut.of_split {c : Int} {t : List Msg} {pieces : List (List Msg)} (h : split t [c] = .ok pieces) :
    Cut c t (pieces.headD []) (pieces.tail.headD []) (!pieces.tail.isEmpty) := ⟨pieces, h, rfl, rfl, rfl⟩

theorem Cut.nil {c : Int} {first rest : List Msg} {two : Bool} (h : Cut c [] first rest two) :
    first = [] ∧ rest = [] ∧ two = false := by
  obtain ⟨pieces, hs, rfl, rfl, rfl⟩ := h
  rw [split_nil] at hs
  cases hs
  exact ⟨rfl, rfl, rfl⟩

theorem trackStep_iff {ppqn : Int} {values : List Int} {requant : Bool} {g : Sg} {t : List Msg}
    {o : Bool × List Msg × Bar} : trackStep ppqn values requant g t = .ok o ↔
    ∃ first piece, Cut (sgLen ppqn g) t first o.2.1 o.1 ∧ requantPiece values ppqn requant first = .ok piece ∧
      mkBar ppqn piece g.1 g.2.1 g.2.2 = .ok o.2.2 := by
  unfold trackStep Cut
  simp only [bind, Except.bind]
  cases split t [sgLen ppqn g] with
  | error e => simp
  | ok pieces =>
    obtain ⟨two, rest, bar⟩ := o
    rcases pieces with _ | ⟨p, _ | ⟨q, tl⟩⟩
    all_goals
      simp only [Except.ok.injEq, exists_eq_left', List.headD_nil, List.headD_cons, List.tail_cons, List.tail_nil,
        List.isEmpty_nil, List.isEmpty_cons, Bool.not_true, Bool.not_false]
      constructor
      · intro h
        split at h
        · cases h
        · rename_i piece hr
          split at h
          · cases h
          · rename_i b hb
            cases h
            exact ⟨_, piece, ⟨rfl, rfl, rfl⟩, hr, hb⟩
      · rintro ⟨first, piece, ⟨rfl, rfl, rfl⟩, hr, hb⟩
        simp only [hr, hb]

theorem Cut.run {c : Int} {t first rest : List Msg} {two : Bool} (h : Cut c t first rest two) (hc : 0 < c)
    (hw : NonNegWaits t) : ∃ o', Run c t [] first rest o' ∧ (two = true ↔ rest ≠ []) := by
  obtain ⟨pieces, hs, rfl, rfl, rfl⟩ := h
  obtain ⟨p, wm', o', hrun, rfl⟩ := split_one_run t c pieces hs (Int.le_of_lt hc) hw
  refine ⟨o', ?_⟩
  rcases (hrun.timing 0 hw).ends with ⟨hne, hpc, _, _⟩ | ⟨rfl, _, _⟩
  · have hpne : p ≠ [] := fun h0 => by rw [h0, totalWait_nil] at hpc; omega
    rw [pushIf_pos hpne, pushIf_pos hne]
    exact ⟨hrun, by simpa using hne⟩
  · rw [pushIf_nil, List.append_nil]
    rcases pushIf_cases p [] with ⟨rfl, e⟩ | ⟨_, e⟩ <;> rw [e] <;> exact ⟨hrun, by simp⟩

theorem Cut.dur {c : Int} {t first rest : List Msg} {two : Bool} (h : Cut c t first rest two) (hc : 0 < c)
    (hw : NonNegWaits t) : NonNegWaits first ∧ NonNegWaits rest ∧
      ((two = false ∧ rest = [] ∧ durRel t ≤ c ∧ totalWait first = durRel t) ∨
       (two = true ∧ c < durRel t ∧ totalWait first = c ∧ durRel rest = durRel t - c)) := by
  obtain ⟨o', hrun, htwo⟩ := h.run hc hw
  obtain ⟨hnf, hnr, ht, _, hd⟩ := hrun.timing 0 hw
  refine ⟨hnf, hnr, ?_⟩
  unfold durRel
  rw [totalWait_append] at ht
  rcases hd with ⟨hne, hpc, _, _⟩ | ⟨hr, hle, _⟩
  · exact Or.inr ⟨htwo.2 hne, by omega, hpc, by omega⟩
  · refine Or.inl ⟨by simpa [hr] using htwo, hr, hle, ?_⟩
    rw [hr, totalWait_nil] at ht; omega

theorem Cut.events {c : Int} {t first rest : List Msg} {two : Bool} (h : Cut c t first rest two) (hc : 0 < c)
    (hw : NonNegWaits t) (A : Int) :
    (∀ e ∈ N A first, e ∈ N A t ∧ e.time < A + c) ∧ ∀ e ∈ N (A + c) rest, e ∈ N A t := by
  obtain ⟨o', hrun, _⟩ := h.run hc hw
  obtain ⟨_, _, _, hearly, hd⟩ := hrun.timing A hw
  rcases hd with ⟨_, hpc, _, hN⟩ | ⟨rfl, _, hN⟩
  · rw [N_append, hpc] at hN
    exact ⟨fun e he => ⟨hN ▸ List.mem_append_left _ he, hearly e he⟩, fun e he => hN ▸ List.mem_append_right _ he⟩
  · exact ⟨fun e he => ⟨(List.mem_filter.1 (hN ▸ he)).1, hearly e he⟩, fun e he => nomatch he⟩

theorem Cut.inv {c : Int} {t first rest : List Msg} {two : Bool} (h : Cut c t first rest two) (TI : List Msg → Prop)
    (h0 : TI []) (hTI : ∀ pieces, split t [c] = .ok pieces → ∀ p ∈ pieces, TI p) : TI first ∧ TI rest := by
  obtain ⟨pieces, hs, rfl, rfl, _⟩ := h
  have := hTI pieces hs
  rcases pieces with _ | ⟨p, _ | ⟨q, tl⟩⟩
  · exact ⟨h0, h0⟩
  · exact ⟨this p (by simp), h0⟩
  · exact ⟨this p (by simp), this q (by simp)⟩

theorem Cut.rest_nil {c : Int} {t first rest : List Msg} (h : Cut c t first rest false) : rest = [] := by
  obtain ⟨pieces, _, _, rfl, h2⟩ := h
  rcases pieces with _ | ⟨p, _ | ⟨q, tl⟩⟩
  · rfl
  · rfl
  · cases h2

theorem split_one (r : List Msg) (c : Int) (pieces : List (List Msg)) (h : split r [c] = .ok pieces)
    (hc : 0 < c) (hw : NonNegWaits r) :
    (durRel r ≤ c ∧ (pieces = [] ∨ ∃ p, pieces = [p]) ∧ durRel pieces.flatten = durRel r) ∨
    (c < durRel r ∧ ∃ p q, pieces = [p, q] ∧ durRel p = c ∧ durRel q = durRel r - c ∧ NonNegWaits q) := by
  have hl := split_one_length r c pieces h (Int.le_of_lt hc) hw
  obtain ⟨_, hrn, hcase⟩ := (Cut.of_split h).dur hc hw
  rcases pieces with _ | ⟨a, _ | ⟨b, _ | ⟨d, tl⟩⟩⟩
  · rcases hcase with ⟨_, _, h1, h2⟩ | ⟨h0, _⟩
    · exact Or.inl ⟨h1, Or.inl rfl, h2⟩
    · cases h0
  · rcases hcase with ⟨_, _, h1, h2⟩ | ⟨h0, _⟩
    · exact Or.inl ⟨h1, Or.inr ⟨a, rfl⟩, by simpa [durRel] using h2⟩
    · cases h0
  · rcases hcase with ⟨h0, _⟩ | ⟨_, h1, h2, h3⟩
    · cases h0
    · exact Or.inr ⟨h1, a, b, rfl, h2, h3, hrn⟩
  · simp at hl

theorem trackStep_dur {ppqn : Int} {values : List Int} {requant : Bool} {g : Sg} {t : List Msg}
    {o : Bool × List Msg × Bar} (h : trackStep ppqn values requant g t = .ok o) (hc : 0 < sgLen ppqn g)
    (hw : NonNegWaits t) :
    NonNegWaits o.2.1 ∧
      ((o.1 = false ∧ o.2.1 = [] ∧ durRel t ≤ sgLen ppqn g) ∨
       (o.1 = true ∧ sgLen ppqn g < durRel t ∧ durRel o.2.1 = durRel t - sgLen ppqn g)) := by
  obtain ⟨_, _, hcut, _⟩ := trackStep_iff.1 h
  obtain ⟨_, hr, hcase⟩ := hcut.dur hc hw
  exact ⟨hr, hcase.imp (fun h => ⟨h.1, h.2.1, h.2.2.1⟩) (fun h => ⟨h.1, h.2.1, h.2.2.2⟩)⟩

theorem trackStep_rest_nil {ppqn : Int} {values : List Int} {requant : Bool} {g : Sg} {t : List Msg}
    {o : Bool × List Msg × Bar} (h : trackStep ppqn values requant g t = .ok o) (hf : o.1 = false) : o.2.1 = [] := by
  obtain ⟨_, _, hcut, _⟩ := trackStep_iff.1 h
  exact (hf ▸ hcut).rest_nil

theorem requantPiece_false (values : List Int) (ppqn : Int) (first piece : List Msg)
    (h : requantPiece values ppqn false first = .ok piece) : piece = first := by
  simp only [requantPiece, Bool.false_eq_true, if_false, Except.ok.injEq] at h
  exact h.symm

theorem bar_wf_nn (ppqn : Int) (rel : List Msg) (n d key : Int) (b : Bar) (h : mkBar ppqn rel n d key = .ok b) :
    WF b.seq ∧ NonNegWaits b.seq ∧ durRel b.seq = barCapacity ppqn n d := by
  obtain ⟨h1, _, _, hb⟩ := mkBar_ok h
  subst hb
  exact ⟨barSeq_wf ppqn rel n d, barSeq_nonneg ppqn rel n d, barSeq_dur ppqn rel n d h1⟩

theorem noZero_nil : NoZeroNotes [] := fun _ => trivial

/-- one track along a schedule: `(two-piece flags, remainder, bars in order)` -/
def trackRun (ppqn : Int) (values : List Int) (requant : Bool) :
    List Sg → List Msg → Except Err (List Bool × List Msg × List Bar)
  | [], t => .ok ([], t, [])
  | g :: gs, t => (trackStep ppqn values requant g t).bind fun o =>
      (trackRun ppqn values requant gs o.2.1).bind fun r => .ok (o.1 :: r.1, r.2.1, o.2.2 :: r.2.2)

theorem trackRun_cons {ppqn : Int} {values : List Int} {requant : Bool} {g : Sg} {gs : List Sg} {t : List Msg}
    {o : Bool × List Msg × Bar} {r : List Bool × List Msg × List Bar}
    (h1 : trackStep ppqn values requant g t = .ok o) (h2 : trackRun ppqn values requant gs o.2.1 = .ok r) :
    trackRun ppqn values requant (g :: gs) t = .ok (o.1 :: r.1, r.2.1, o.2.2 :: r.2.2) := by
  simp only [trackRun, h1, h2, Except.bind]

theorem trackRun_cons_error {ppqn : Int} {values : List Int} {requant : Bool} {g : Sg} {gs : List Sg} {t : List Msg}
    {o : Bool × List Msg × Bar} {e : Err}
    (h1 : trackStep ppqn values requant g t = .ok o) (h2 : trackRun ppqn values requant gs o.2.1 = .error e) :
    trackRun ppqn values requant (g :: gs) t = .error e := by
  simp only [trackRun, h1, h2, Except.bind]

theorem trackRun_cons_inv {ppqn : Int} {values : List Int} {requant : Bool} {g : Sg} {gs : List Sg} {t : List Msg}
    {tw : List Bool} {t' : List Msg} {nb : List Bar}
    (h : trackRun ppqn values requant (g :: gs) t = .ok (tw, t', nb)) :
    ∃ o r, trackStep ppqn values requant g t = .ok o ∧ trackRun ppqn values requant gs o.2.1 = .ok r ∧
      tw = o.1 :: r.1 ∧ t' = r.2.1 ∧ nb = o.2.2 :: r.2.2 := by
  simp only [trackRun] at h
  cases h1 : trackStep ppqn values requant g t with
  | error e => simp [h1, Except.bind] at h
  | ok o =>
    simp only [h1, Except.bind] at h
    cases h2 : trackRun ppqn values requant gs o.2.1 with
    | error e => simp [h2] at h
    | ok r =>
      simp only [h2, Except.ok.injEq, Prod.mk.injEq] at h
      exact ⟨o, r, rfl, h2, h.1.symm, h.2.1.symm, h.2.2.symm⟩

theorem trackRun_shape (ppqn : Int) (values : List Int) (requant : Bool) : ∀ (gs : List Sg) (t : List Msg)
    (tw : List Bool) (t' : List Msg) (nb : List Bar), trackRun ppqn values requant gs t = .ok (tw, t', nb) →
    tw.length = gs.length ∧ nb.length = gs.length ∧
      ∀ (k : Nat) (g : Sg) (b : Bar), gs[k]? = some g → nb[k]? = some b →
        ∃ piece, mkBar ppqn piece g.1 g.2.1 g.2.2 = .ok b := by
  intro gs
  induction gs with
  | nil =>
    intro t tw t' nb h
    simp only [trackRun, Except.ok.injEq, Prod.mk.injEq] at h
    obtain ⟨rfl, _, rfl⟩ := h
    simp
  | cons g gs ih =>
    intro t tw t' nb h
    obtain ⟨o, r, h1, h2, rfl, rfl, rfl⟩ := trackRun_cons_inv h
    obtain ⟨i1, i2, i3⟩ := ih _ _ _ _ h2
    refine ⟨by simp [i1], by simp [i2], ?_⟩
    intro k g' b hg hb
    cases k with
    | zero =>
      simp only [List.getElem?_cons_zero, Option.some.injEq] at hg hb
      subst hg hb
      obtain ⟨_, piece, _, _, hmk⟩ := trackStep_iff.1 h1
      exact ⟨piece, hmk⟩
    | succ k =>
      simp only [List.getElem?_cons_succ] at hg hb
      exact i3 k g' b hg hb

theorem trackRun_sigs (ppqn : Int) (values : List Int) (requant : Bool) (gs : List Sg) (t : List Msg)
    (tw : List Bool) (t' : List Msg) (nb : List Bar) (h : trackRun ppqn values requant gs t = .ok (tw, t', nb)) :
    nb.map (fun b => ((b.num, b.den, b.key) : Sg)) = gs := by
  obtain ⟨_, h2, h3⟩ := trackRun_shape ppqn values requant gs t tw t' nb h
  apply List.ext_getElem?
  intro k
  rw [List.getElem?_map]
  by_cases hk : k < gs.length
  · have hk' : k < nb.length := by omega
    obtain ⟨piece, hp⟩ := h3 k _ _ (List.getElem?_eq_getElem hk) (List.getElem?_eq_getElem hk')
    obtain ⟨_, _, e1, e2, e3⟩ := C10.bar_leading_sig ppqn piece _ _ _ _ hp
    rw [List.getElem?_eq_getElem hk', List.getElem?_eq_getElem hk]
    simp only [Option.map_some, e1, e2, e3]
  · rw [List.getElem?_eq_none (by omega), List.getElem?_eq_none (by omega)]
    rfl

theorem trackRun_flags (ppqn : Int) (values : List Int) (requant : Bool) : ∀ (gs : List Sg) (t : List Msg)
    (tw : List Bool) (t' : List Msg) (nb : List Bar), trackRun ppqn values requant gs t = .ok (tw, t', nb) →
    (∀ g ∈ gs, 0 < sgLen ppqn g) → NonNegWaits t →
    ∀ (j : Nat) (b : Bool), tw[j]? = some b → (b = true ↔ psum ppqn gs (j + 1) < durRel t) := by
  intro gs
  induction gs with
  | nil =>
    intro t tw t' nb h _ _ j b hj
    simp only [trackRun, Except.ok.injEq, Prod.mk.injEq] at h
    obtain ⟨rfl, _, _⟩ := h
    simp at hj
  | cons g gs ih =>
    intro t tw t' nb h hpos hw j b hj
    obtain ⟨o, r, h1, h2, rfl, rfl, rfl⟩ := trackRun_cons_inv h
    have hpos' : ∀ g ∈ gs, 0 < sgLen ppqn g := fun x hx => hpos x (List.mem_cons_of_mem _ hx)
    obtain ⟨hwo, hd⟩ := trackStep_dur h1 (hpos g List.mem_cons_self) hw
    rw [psum_cons_succ]
    cases j with
    | zero =>
      simp only [List.getElem?_cons_zero, Option.some.injEq] at hj
      subst hj
      rw [psum_zero]
      rcases hd with ⟨hf, _, hle⟩ | ⟨ht, hlt, _⟩
      · rw [hf]; constructor
        · intro hh; cases hh
        · intro hh; omega
      · rw [ht]; constructor
        · intro _; omega
        · intro _; rfl
    | succ j =>
      simp only [List.getElem?_cons_succ] at hj
      have hih := ih _ _ _ _ h2 hpos' hwo j b hj
      have hnn := psum_nonneg ppqn gs (j + 1) (fun g hg => Int.le_of_lt (hpos' g hg))
      rcases hd with ⟨_, he, hle⟩ | ⟨_, hlt, hq⟩
      · rw [he] at hih
        simp only [durRel, totalWait] at hih hle ⊢
        rw [hih]
        constructor <;> intro hh <;> omega
      · rw [hih, hq]
        constructor <;> intro hh <;> omega

theorem trackRun_rest_nil (ppqn : Int) (values : List Int) (requant : Bool) : ∀ (gs : List Sg) (t : List Msg)
    (tw : List Bool) (t' : List Msg) (nb : List Bar), trackRun ppqn values requant gs t = .ok (tw, t', nb) →
    ∀ j, tw[j]? = some false → j + 1 = gs.length → t' = [] := by
  intro gs
  induction gs with
  | nil => intro t tw t' nb _ j _ hj; simp at hj
  | cons g gs ih =>
    intro t tw t' nb h j hj hlen
    obtain ⟨o, r, h1, h2, rfl, rfl, rfl⟩ := trackRun_cons_inv h
    cases j with
    | zero =>
      simp only [List.getElem?_cons_zero, Option.some.injEq] at hj
      have hgs : gs = [] := by
        cases gs with
        | nil => rfl
        | cons _ _ => simp at hlen
      subst hgs
      simp only [trackRun, Except.ok.injEq] at h2
      rw [← h2]
      exact trackStep_rest_nil h1 hj
    | succ j =>
      simp only [List.getElem?_cons_succ] at hj
      exact ih _ _ _ _ h2 j hj (by simpa using hlen)

/-- **the loop is the schedule with independent per-track runs**, whatever the outcome -/
theorem splitBarsGo_cases (ppqn : Int) (values : List Int) (requant : Bool) : ∀ (fuel : Nat) (s : SBSt),
    (∃ tb r, splitBarsGo ppqn values requant fuel s = .ok tb ∧ r < fuel ∧ tb.length = (s.tracks.zip s.bars).length ∧
      (∀ (i : Nat) (z : List Msg × List Bar), (s.tracks.zip s.bars)[i]? = some z →
        ∃ tw t' nb, trackRun ppqn values requant (ctl ppqn (r + 1) s.now s.num s.den s.key s.tsQ s.ksQ) z.1
            = .ok (tw, t', nb) ∧ tb[i]? = some (z.2.reverse ++ nb) ∧ tw[r]? = some false) ∧
      (∀ j, j < r → ∃ z ∈ s.tracks.zip s.bars, ∃ tw t' nb,
        trackRun ppqn values requant (ctl ppqn (r + 1) s.now s.num s.den s.key s.tsQ s.ksQ) z.1 = .ok (tw, t', nb) ∧
        tw[j]? = some true)) ∨
    (splitBarsGo ppqn values requant fuel s = .error .barError ∧ ∃ r, r < fuel ∧ ∃ z ∈ s.tracks.zip s.bars,
      trackRun ppqn values requant (ctl ppqn (r + 1) s.now s.num s.den s.key s.tsQ s.ksQ) z.1 = .error .barError) ∨
    (splitBarsGo ppqn values requant fuel s = .error .fuel ∧
      (∀ z ∈ s.tracks.zip s.bars, ∃ x,
        trackRun ppqn values requant (ctl ppqn fuel s.now s.num s.den s.key s.tsQ s.ksQ) z.1 = .ok x) ∧
      ∀ j, j < fuel → ∃ z ∈ s.tracks.zip s.bars, ∃ tw t' nb,
        trackRun ppqn values requant (ctl ppqn fuel s.now s.num s.den s.key s.tsQ s.ksQ) z.1 = .ok (tw, t', nb) ∧
        tw[j]? = some true) := by
  intro fuel
  induction fuel with
  | zero =>
    intro s
    exact Or.inr (Or.inr ⟨rfl, fun z _ => ⟨_, rfl⟩, fun j hj => absurd hj (Nat.not_lt_zero j)⟩)
  | succ fuel ih =>
    intro s
    rw [splitBarsGo_round_eq ppqn values requant fuel s]
    cases hst : (s.tracks.zip s.bars).mapM (slotStep ppqn values requant (roundSg s)) with
    | error e =>
      obtain ⟨z, hz, hts⟩ := mapM_error hst
      have hts := slotStep_error hts
      obtain rfl := trackStep_error hts
      refine Or.inr (Or.inl ⟨rfl, 0, Nat.succ_pos _, z, hz, ?_⟩)
      rw [ctl_round ppqn 0 s []]
      simp only [trackRun, hts, Except.bind]
    | ok os =>
    simp only
    obtain ⟨hl, hpos⟩ := mapM_ok hst
    obtain ⟨hout, hin⟩ := mapM_mem hst
    by_cases hsync : os.all (fun o => !o.2) = true
    · rw [if_pos hsync]
      refine Or.inl ⟨_, 0, rfl, Nat.succ_pos _, by rw [roundNext_bars, List.length_map, List.length_map, hl], ?_,
        fun j hj => absurd hj (Nat.not_lt_zero j)⟩
      intro i z hz
      obtain ⟨o, ho, hts⟩ := hpos i z hz
      obtain ⟨b, hts, hb⟩ := slotStep_ok hts
      have ho1 : o.2 = false := by
        have := List.all_eq_true.1 hsync o (List.mem_of_getElem? ho)
        simpa using this
      refine ⟨[o.2], o.1.1, [b], ?_, by rw [roundNext_bars]; simp [ho, hb], by simp [ho1]⟩
      rw [ctl_round ppqn 0 s os]
      exact trackRun_cons (gs := []) (r := ([], o.1.1, [])) hts rfl
    · rw [if_neg hsync]
      have ih := ih (roundNext ppqn s os)
      simp only [roundNext_slots] at ih
      rcases ih with ⟨tb, r, h, hr, htl, hall, hex⟩ | ⟨h, r, hr, rz, hrz, herr⟩ | ⟨h, hall, hex⟩
      · refine Or.inl ⟨tb, r + 1, h, by omega, by rw [htl]; simp [hl], ?_, ?_⟩
        · intro i z hz
          obtain ⟨o, ho, hts⟩ := hpos i z hz
          obtain ⟨b, hts, hb⟩ := slotStep_ok hts
          obtain ⟨tw, t', nb, hrun, htb, hlast⟩ := hall i o.1 (by rw [List.getElem?_map, ho]; rfl)
          exact ⟨o.2 :: tw, t', b :: nb, by rw [ctl_round ppqn (r + 1) s os]; exact trackRun_cons hts hrun,
            by rw [htb, hb]; simp, by simpa using hlast⟩
        · intro j hj
          cases j with
          | zero =>
            obtain ⟨o, hom, ho1⟩ := List.all_eq_false.1 (Bool.eq_false_iff.2 hsync)
            obtain ⟨z, hz, hts⟩ := hout o hom
            obtain ⟨b, hts, _⟩ := slotStep_ok hts
            obtain ⟨i, hi, hio⟩ := List.getElem_of_mem hom
            obtain ⟨tw, t', nb, hrun, _, _⟩ := hall i o.1 (by rw [List.getElem?_map, List.getElem?_eq_getElem hi, hio]; rfl)
            exact ⟨z, hz, o.2 :: tw, t', b :: nb,
              by rw [ctl_round ppqn (r + 1) s os]; exact trackRun_cons hts hrun, by simpa using ho1⟩
          | succ j =>
            obtain ⟨rz, hrz, tw, t', nb, hrun, hj'⟩ := hex j (by omega)
            obtain ⟨o, ho, rfl⟩ := List.mem_map.1 hrz
            obtain ⟨z, hz, hts⟩ := hout o ho
            obtain ⟨b, hts, _⟩ := slotStep_ok hts
            exact ⟨z, hz, o.2 :: tw, t', b :: nb,
              by rw [ctl_round ppqn (r + 1) s os]; exact trackRun_cons hts hrun, by simpa using hj'⟩
      · obtain ⟨o, ho, rfl⟩ := List.mem_map.1 hrz
        obtain ⟨z, hz, hts⟩ := hout o ho
        obtain ⟨b, hts, _⟩ := slotStep_ok hts
        exact Or.inr (Or.inl ⟨h, r + 1, by omega, z, hz,
          by rw [ctl_round ppqn (r + 1) s os]; exact trackRun_cons_error hts herr⟩)
      · refine Or.inr (Or.inr ⟨h, fun z hz => ?_, fun j hj => ?_⟩)
        · obtain ⟨o, ho, hts⟩ := hin z hz
          obtain ⟨b, hts, _⟩ := slotStep_ok hts
          obtain ⟨x, hx⟩ := hall _ (List.mem_map.2 ⟨o, ho, rfl⟩)
          exact ⟨_, by rw [ctl_round ppqn fuel s os]; exact trackRun_cons hts hx⟩
        · cases j with
          | zero =>
            obtain ⟨o, hom, ho1⟩ := List.all_eq_false.1 (Bool.eq_false_iff.2 hsync)
            obtain ⟨z, hz, hts⟩ := hout o hom
            obtain ⟨b, hts, _⟩ := slotStep_ok hts
            obtain ⟨x, hx⟩ := hall _ (List.mem_map.2 ⟨o, hom, rfl⟩)
            exact ⟨z, hz, _, _, _, by rw [ctl_round ppqn fuel s os]; exact trackRun_cons hts hx, by simpa using ho1⟩
          | succ j =>
            obtain ⟨rz, hrz, tw, t', nb, hrun, hj'⟩ := hex j (by omega)
            obtain ⟨o, ho, rfl⟩ := List.mem_map.1 hrz
            obtain ⟨z, hz, hts⟩ := hout o ho
            obtain ⟨b, hts, _⟩ := slotStep_ok hts
            exact ⟨z, hz, o.2 :: tw, t', b :: nb,
              by rw [ctl_round ppqn fuel s os]; exact trackRun_cons hts hrun, by simpa using hj'⟩

/-- **a call of `splitBars` is the schedule of the meta track with independent per-track runs**, whatever the outcome -/
theorem splitBars_cases (ppqn : Int) (values : List Int) (tracks : List (List Msg)) (metaIdx : Nat) (requant : Bool)
    (metaTrack : List Msg) (hm : tracks[metaIdx]? = some metaTrack) :
    (∃ tb r, splitBars ppqn values tracks metaIdx requant = .ok tb ∧ r < fuelOf tracks ∧ tb.length = tracks.length ∧
      (∀ (i : Nat) (t : List Msg), tracks[i]? = some t →
        ∃ tw t' nb, trackRun ppqn values requant (sched ppqn metaTrack (r + 1)) t = .ok (tw, t', nb) ∧
          tb[i]? = some nb ∧ tw[r]? = some false) ∧
      (∀ j, j < r → ∃ t ∈ tracks, ∃ tw t' nb,
        trackRun ppqn values requant (sched ppqn metaTrack (r + 1)) t = .ok (tw, t', nb) ∧ tw[j]? = some true)) ∨
    (splitBars ppqn values tracks metaIdx requant = .error .barError ∧ ∃ r, r < fuelOf tracks ∧ ∃ t ∈ tracks,
      trackRun ppqn values requant (sched ppqn metaTrack (r + 1)) t = .error .barError) ∨
    (splitBars ppqn values tracks metaIdx requant = .error .fuel ∧
      (∀ t ∈ tracks, ∃ x, trackRun ppqn values requant (sched ppqn metaTrack (fuelOf tracks)) t = .ok x) ∧
      ∀ j, j < fuelOf tracks → ∃ t ∈ tracks, ∃ tw t' nb,
        trackRun ppqn values requant (sched ppqn metaTrack (fuelOf tracks)) t = .ok (tw, t', nb) ∧ tw[j]? = some true) := by
  rw [splitBars_eq ppqn values tracks metaIdx requant metaTrack hm]
  have hz : tracks.zip (tracks.map (fun _ => ([] : List Bar))) = tracks.map (fun t => (t, [])) := by
    simpa using List.zip_map' (f := id) (g := fun _ => ([] : List Bar)) (l := tracks)
  have hmem : ∀ {P : List Msg → Prop}, (∃ z ∈ tracks.map (fun t => (t, ([] : List Bar))), P z.1) → ∃ t ∈ tracks, P t := by
    rintro P ⟨z, hz, hp⟩
    obtain ⟨t, ht, rfl⟩ := List.mem_map.1 hz
    exact ⟨t, ht, hp⟩
  have := splitBarsGo_cases ppqn values requant (fuelOf tracks)
    { tsQ := initTs metaTrack, ksQ := timesOfType .keySignature (toAbs metaTrack), tracks := tracks,
      bars := tracks.map (fun _ => []) }
  simp only [hz] at this
  refine this.imp ?_ (Or.imp ?_ ?_)
  · rintro ⟨tb, r, h, hr, hl, hall, hex⟩
    refine ⟨tb, r, h, hr, by simpa using hl, fun i t ht => ?_, fun j hj => hmem (hex j hj)⟩
    obtain ⟨tw, t', nb, h1, h2, h3⟩ := hall i (t, []) (by rw [List.getElem?_map, ht]; rfl)
    exact ⟨tw, t', nb, h1, by simpa using h2, h3⟩
  · rintro ⟨h, r, hr, hex⟩
    exact ⟨h, r, hr, hmem hex⟩
  · rintro ⟨h, hall, hex⟩
    exact ⟨h, fun t ht => hall (t, []) (List.mem_map.2 ⟨t, ht, rfl⟩), fun j hj => hmem (hex j hj)⟩

theorem splitBars_run (ppqn : Int) (values : List Int) (tracks : List (List Msg)) (metaIdx : Nat) (requant : Bool)
    (tb : List (List Bar)) (h : splitBars ppqn values tracks metaIdx requant = .ok tb) :
    ∃ metaTrack r, tracks[metaIdx]? = some metaTrack ∧ tb.length = tracks.length ∧
      (∀ (i : Nat) (t : List Msg), tracks[i]? = some t →
        ∃ tw t' nb, trackRun ppqn values requant (sched ppqn metaTrack (r + 1)) t = .ok (tw, t', nb) ∧
          tb[i]? = some nb ∧ tw[r]? = some false) ∧
      (∀ j, j < r → ∃ t ∈ tracks, ∃ tw t' nb,
        trackRun ppqn values requant (sched ppqn metaTrack (r + 1)) t = .ok (tw, t', nb) ∧ tw[j]? = some true) := by
  cases hm : tracks[metaIdx]? with
  | none => simp [splitBars, hm] at h
  | some metaTrack =>
    rcases splitBars_cases ppqn values tracks metaIdx requant metaTrack hm with ⟨tb', r, h', _, hr⟩ | ⟨h', _⟩ | ⟨h', _⟩
    · rw [h] at h'; cases h'; exact ⟨metaTrack, r, rfl, hr⟩
    · rw [h] at h'; cases h'
    · rw [h] at h'; cases h'

theorem splitBars_track (ppqn : Int) (values : List Int) (tracks : List (List Msg)) (metaIdx : Nat) (requant : Bool)
    (tb : List (List Bar)) (h : splitBars ppqn values tracks metaIdx requant = .ok tb) :
    ∃ metaTrack r, tracks[metaIdx]? = some metaTrack ∧ tb.length = tracks.length ∧
      ∀ (i : Nat) (bars : List Bar), tb[i]? = some bars → ∃ t tw, tracks[i]? = some t ∧
        trackRun ppqn values requant (sched ppqn metaTrack (r + 1)) t = .ok (tw, [], bars) ∧
        bars.map (fun b => ((b.num, b.den, b.key) : Sg)) = sched ppqn metaTrack (r + 1) := by
  obtain ⟨metaTrack, r, hm, hl, hall, _⟩ := splitBars_run ppqn values tracks metaIdx requant tb h
  refine ⟨metaTrack, r, hm, hl, fun i bars hb => ?_⟩
  have hi : i < tracks.length := by rw [← hl]; exact lt_of_getElem?_some hb
  obtain ⟨tw, t', nb, hrun, htb, hlast⟩ := hall i _ (List.getElem?_eq_getElem hi)
  rw [hb] at htb
  cases htb
  obtain rfl := trackRun_rest_nil ppqn values requant _ _ _ _ _ hrun r hlast (by rw [sched_length])
  exact ⟨_, tw, List.getElem?_eq_getElem hi, hrun, trackRun_sigs ppqn values requant _ _ _ _ _ hrun⟩

theorem splitBars_bars (ppqn : Int) (values : List Int) (tracks : List (List Msg)) (metaIdx : Nat) (requant : Bool)
    (tb : List (List Bar)) (h : splitBars ppqn values tracks metaIdx requant = .ok tb) :
    ∃ metaTrack r, tracks[metaIdx]? = some metaTrack ∧ tb.length = tracks.length ∧
      ∀ (i : Nat) (bs : List Bar), tb[i]? = some bs → bs.length = r + 1 ∧
        ∀ (k : Nat) (b : Bar), bs[k]? = some b →
          ∃ g piece, (sched ppqn metaTrack (r + 1))[k]? = some g ∧ mkBar ppqn piece g.1 g.2.1 g.2.2 = .ok b := by
  obtain ⟨metaTrack, r, hm, hl, hall⟩ := splitBars_track ppqn values tracks metaIdx requant tb h
  refine ⟨metaTrack, r, hm, hl, fun i bs hbs => ?_⟩
  obtain ⟨t, tw, _, hrun, hs⟩ := hall i bs hbs
  have h2 : bs.length = r + 1 := by rw [← sched_length ppqn metaTrack (r + 1), ← hs, List.length_map]
  refine ⟨h2, fun k b hb => ?_⟩
  have hk : k < (sched ppqn metaTrack (r + 1)).length := by
    rw [sched_length, ← h2]; exact lt_of_getElem?_some hb
  obtain ⟨piece, hp⟩ := (trackRun_shape ppqn values requant _ _ _ _ _ hrun).2.2 k _ b (List.getElem?_eq_getElem hk) hb
  exact ⟨_, piece, List.getElem?_eq_getElem hk, hp⟩

/-- every round of positive length takes at least one tick off the longest track -/
theorem splitBars_not_fuel (ppqn : Int) (values : List Int) (tracks : List (List Msg)) (metaIdx : Nat) (requant : Bool)
    (metaTrack : List Msg) (hm : tracks[metaIdx]? = some metaTrack)
    (hpos : ∀ g ∈ sched ppqn metaTrack (fuelOf tracks), 0 < sgLen ppqn g) (hw : ∀ t ∈ tracks, NonNegWaits t) :
    splitBars ppqn values tracks metaIdx requant ≠ .error .fuel := by
  rcases splitBars_cases ppqn values tracks metaIdx requant metaTrack hm with ⟨tb, _, h, _⟩ | ⟨h, _⟩ | ⟨_, _, hex⟩
  · rw [h]; exact fun h => nomatch h
  · rw [h]; exact fun h => nomatch h
  · have h0 : 0 < fuelOf tracks := by unfold fuelOf; omega
    obtain ⟨t, ht, tw, t', nb, hrun, hj⟩ := hex (fuelOf tracks - 1) (by omega)
    have h1 := (trackRun_flags ppqn values requant _ _ _ _ _ hrun hpos (hw t ht) _ true hj).1 rfl
    have h2 := psum_ge ppqn _ hpos (fuelOf tracks) (by rw [sched_length]; exact Nat.le_refl _)
    have := durRel_lt_fuelOf tracks t ht
    rw [show fuelOf tracks - 1 + 1 = fuelOf tracks by omega] at h1
    omega

theorem splitBars_raises (ppqn : Int) (values : List Int) (tracks : List (List Msg)) (metaIdx : Nat) (requant : Bool)
    (metaTrack : List Msg) (hm : tracks[metaIdx]? = some metaTrack) (t : List Msg) (ht : t ∈ tracks)
    (H : ∀ (m : Nat) (tw : List Bool) (t' : List Msg) (nb : List Bar),
      trackRun ppqn values requant (sched ppqn metaTrack (m + 1)) t = .ok (tw, t', nb) →
      m + 1 < fuelOf tracks ∧ tw[m]? = some true) :
    splitBars ppqn values tracks metaIdx requant = .error .barError := by
  rcases splitBars_cases ppqn values tracks metaIdx requant metaTrack hm with ⟨tb, r, _, _, _, hall, _⟩ | ⟨h, _⟩ | ⟨_, hall, _⟩
  · obtain ⟨i, hi, rfl⟩ := List.getElem_of_mem ht
    obtain ⟨tw, t', nb, hrun, _, hlast⟩ := hall i _ (List.getElem?_eq_getElem hi)
    rw [(H r tw t' nb hrun).2] at hlast
    cases hlast
  · exact h
  · obtain ⟨fuel', hf⟩ : ∃ f, fuelOf tracks = f + 1 := ⟨fuelOf tracks - 1, by unfold fuelOf; omega⟩
    rw [hf] at hall
    obtain ⟨⟨tw, t', nb⟩, hx⟩ := hall t ht
    have := (H fuel' tw t' nb hx).1
    omega

open SCoda.Strong589L

variable {B : Int → Prop}

theorem Cut.notes {c : Int} {t first rest : List Msg} {two : Bool} (h : Cut c t first rest two) (hc : 0 < c)
    (hw : NonNegWaits t) (hwf : WF t) (a : Int) (hb : B (a + c)) (hz : ∀ k, zlB B k none a t) :
    WF first ∧ WF rest ∧ (∀ k, zlB B k none a first) ∧ (∀ k, zlB B k none (a + c) rest) ∧
      ∀ k, nkNotes k (eventsRelGo a (first ++ rest)) none = (nkNotes k (eventsRelGo a t) none).flatMap (cut1 (a + c)) := by
  obtain ⟨o', hrun, _⟩ := h.run hc hw
  obtain ⟨hA, hwfp, hzp, hN⟩ := hrun.notes hc hb hw (AltOB.init a t hwf hz)
  exact ⟨hwfp, hA.wf, hzp, hA.zl, hN⟩

end SCoda.SB

namespace SCoda.Strong589LT
open SCoda SCoda.SB

/-- `firsts[j]` is the piece split off in round `j` (before re-quantisation), `bars[j]` the bar built from it -/
def BarsOf (ppqn : Int) (values : List Int) (requant : Bool) : List Sg → List (List Msg) → List Bar → Prop
  | [], [], [] => True
  | g :: gs, f :: fs, b :: bs =>
    (∃ piece, requantPiece values ppqn requant f = .ok piece ∧ mkBar ppqn piece g.1 g.2.1 g.2.2 = .ok b) ∧
    WF f ∧ NonNegWaits f ∧ (totalWait f = sgLen ppqn g ∨ (totalWait f ≤ sgLen ppqn g ∧ fs.flatten = [])) ∧
    BarsOf ppqn values requant gs fs bs
  | _, _, _ => False

/-- what links a piece to its bar: the first conjunct of a step of `BarsOf`, under a name -/
def BarStep (ppqn : Int) (values : List Int) (requant : Bool) (g : Sg) (f : List Msg) (b : Bar) : Prop :=
  ∃ piece, requantPiece values ppqn requant f = .ok piece ∧ mkBar ppqn piece g.1 g.2.1 g.2.2 = .ok b

end SCoda.Strong589LT

namespace SCoda.SB
open SCoda SCoda.SplitL SCoda.BarL SCoda.Strong589L SCoda.Strong589LT

variable {B : Int → Prop}

/-- **the pieces behind the bars**: `firsts`, one per round, each the source of that round's bar -/
theorem trackRun_firsts (ppqn : Int) (values : List Int) (requant : Bool) (TI : List Msg → Prop) (hTI0 : TI [])
    (hTI : ∀ (t : List Msg) (c : Int) (pieces : List (List Msg)), 0 < c → NonNegWaits t → WF t → TI t →
      split t [c] = .ok pieces → ∀ p ∈ pieces, TI p) :
    ∀ (gs : List Sg) (t : List Msg) (tw : List Bool) (t' : List Msg) (nb : List Bar) (a : Int),
    trackRun ppqn values requant gs t = .ok (tw, t', nb) → (∀ g ∈ gs, 0 < sgLen ppqn g) →
    NonNegWaits t → WF t → TI t → (∀ b ∈ cums a (gs.map (sgLen ppqn)), B b) → (∀ k', zlB B k' none a t) →
    ∃ firsts, BarsOf ppqn values requant gs firsts nb ∧ (∀ f ∈ firsts, TI f) ∧ WF t' ∧ NonNegWaits t' ∧
      (t = [] → firsts.flatten = [] ∧ t' = []) ∧
      ∀ k, nkNotes k (eventsRelGo a (firsts.flatten ++ t')) none
        = cutNotes (cums a (gs.map (sgLen ppqn))) (nkNotes k (eventsRelGo a t) none) := by
  intro gs
  induction gs with
  | nil =>
    intro t tw t' nb a h _ hw hwf _ _ _
    simp only [trackRun, Except.ok.injEq, Prod.mk.injEq] at h
    obtain ⟨_, rfl, rfl⟩ := h
    exact ⟨[], trivial, by simp, hwf, hw, fun h => ⟨rfl, h⟩, fun k => by simp [cums, cutNotes]⟩
  | cons g gs ih =>
    intro t tw t' nb a h hpos hw hwf hti hB hz
    obtain ⟨o, r, h1, h2, rfl, rfl, rfl⟩ := trackRun_cons_inv h
    have hc := hpos g List.mem_cons_self
    have hpos' : ∀ x ∈ gs, 0 < sgLen ppqn x := fun x hx => hpos x (List.mem_cons_of_mem _ hx)
    have hposl : ∀ c ∈ gs.map (sgLen ppqn), 0 < c := by
      intro c hc'
      obtain ⟨x, hx, rfl⟩ := List.mem_map.1 hc'
      exact hpos' x hx
    have hbc : B (a + sgLen ppqn g) := hB _ (by simp [cums])
    have hB' : ∀ b ∈ cums (a + sgLen ppqn g) (gs.map (sgLen ppqn)), B b := fun b hb => hB b (by simp [cums, hb])
    obtain ⟨first, piece, hcut, hrq, hmk⟩ := trackStep_iff.1 h1
    obtain ⟨hfn, hrn, hdur⟩ := hcut.dur hc hw
    obtain ⟨hfw, hrw, _, hrz, hN⟩ := hcut.notes hc hw hwf a hbc hz
    obtain ⟨hfi, hri⟩ := hcut.inv TI hTI0 (fun pieces hs => hTI t _ pieces hc hw hwf hti hs)
    -- the notes of the first piece end by the bar line, so the later cuts leave them alone
    have hid : ∀ k, ∀ n ∈ nkNotes k (eventsRelGo a first) none,
        ∀ b ∈ cums (a + sgLen ppqn g) (gs.map (sgLen ppqn)), n.off ≤ b ∨ b ≤ n.on := by
      intro k n hn b hb
      have h1' := R_notes_off_le k a first hfn none n hn
      have h2' := cums_gt _ (a + sgLen ppqn g) hposl b hb
      left; omega
    obtain ⟨firsts, hBs, hfs, hwt, hnt, hnil, hNs⟩ := ih _ _ _ _ (a + sgLen ppqn g) h2 hpos' hrn hrw hri hB' hrz
    have hcase : (totalWait first ≤ sgLen ppqn g ∧ o.2.1 = [] ∧ firsts.flatten = [] ∧ r.2.1 = []) ∨
        totalWait first = sgLen ppqn g :=
      hdur.imp (fun h => ⟨by unfold durRel at h; omega, h.2.1, hnil h.2.1⟩) (fun h => h.2.2.1)
    refine ⟨first :: firsts, ⟨⟨piece, hrq, hmk⟩, hfw, hfn, hcase.elim (fun h => Or.inr ⟨h.1, h.2.2.1⟩) Or.inl, hBs⟩,
      ?_, hwt, hnt, ?_, ?_⟩
    · intro f hf
      rcases List.mem_cons.1 hf with rfl | hf
      · exact hfi
      · exact hfs f hf
    · rintro rfl
      obtain ⟨hf0, hr0, _⟩ := hcut.nil
      exact ⟨by rw [List.flatten_cons, hf0, (hnil hr0).1]; rfl, (hnil hr0).2⟩
    · intro k
      simp only [List.flatten_cons, List.append_assoc, List.map_cons, cums, cutNotes]
      rw [← hN k]
      rcases hcase with ⟨_, hrest, hfl, ht'⟩ | htw
      · rw [hfl, ht', hrest, List.append_nil, List.append_nil, cutNotes_id _ _ (hid k)]
      · rw [nkNotes_wf_append k a first _ hfw, nkNotes_wf_append k a first _ hfw, htw, hNs k,
          cutNotes_append, cutNotes_id _ _ (hid k)]

theorem barsToSeq_cons (b : Bar) (bs : List Bar) : barsToSeq (b :: bs) = b.seq ++ barsToSeq bs := by
  simp [barsToSeq]

theorem barsOf_mem (ppqn : Int) (values : List Int) (requant : Bool) : ∀ (gs : List Sg) (firsts : List (List Msg))
    (nb : List Bar), BarsOf ppqn values requant gs firsts nb →
    ∀ b ∈ nb, ∃ g f, f ∈ firsts ∧ BarStep ppqn values requant g f b ∧ WF f ∧ NonNegWaits f := by
  intro gs
  induction gs with
  | nil =>
    intro firsts nb hB b hb
    cases firsts <;> cases nb <;> simp only [BarsOf] at hB
    cases hb
  | cons g gs ih =>
    intro firsts nb hB b hb
    rcases firsts with _ | ⟨f, fs⟩ <;> rcases nb with _ | ⟨b0, bs⟩ <;> simp only [BarsOf] at hB
    obtain ⟨hstep, hfw, hfn, _, hrest⟩ := hB
    rcases List.mem_cons.1 hb with rfl | hb
    · exact ⟨g, f, List.mem_cons_self, hstep, hfw, hfn⟩
    · obtain ⟨g', f', hf', h⟩ := ih fs bs hrest b hb
      exact ⟨g', f', List.mem_cons_of_mem _ hf', h⟩

theorem barsOf_wf (ppqn : Int) (values : List Int) (requant : Bool) : ∀ (gs : List Sg) (firsts : List (List Msg))
    (nb : List Bar), BarsOf ppqn values requant gs firsts nb → WF (barsToSeq nb) ∧ NonNegWaits (barsToSeq nb) := by
  intro gs
  induction gs with
  | nil =>
    intro firsts nb hB
    cases firsts <;> cases nb <;> simp only [BarsOf] at hB
    exact ⟨wf_nil, nonNegWaits_nil⟩
  | cons g gs ih =>
    intro firsts nb hB
    rcases firsts with _ | ⟨f, fs⟩ <;> rcases nb with _ | ⟨b, bs⟩ <;> simp only [BarsOf] at hB
    obtain ⟨⟨piece, _, hmk⟩, _, _, _, hrest⟩ := hB
    obtain ⟨hbw, hbn, _⟩ := bar_wf_nn ppqn piece _ _ _ _ hmk
    obtain ⟨h1, h2⟩ := ih fs bs hrest
    rw [barsToSeq_cons]
    exact ⟨wf_append hbw h1, nonNegWaits_append.2 ⟨hbn, h2⟩⟩

theorem bars_rel (ppqn : Int) (values : List Int) (requant : Bool) (k : Int × Int) (Rel : List Note → List Note → Prop)
    (TI : List Msg → Prop) (hnil : Rel [] [])
    (happ : ∀ {x y x' y'}, Rel x y → Rel x' y' → Rel (x ++ x') (y ++ y'))
    (H : ∀ (g : Sg) (f : List Msg) (b : Bar) (c : Int), BarStep ppqn values requant g f b → WF f → NonNegWaits f →
      TI f → Rel (nkNotes k (eventsRelGo c b.seq) none) (nkNotes k (eventsRelGo c f) none)) :
    ∀ (gs : List Sg) (firsts : List (List Msg)) (nb : List Bar) (a : Int), BarsOf ppqn values requant gs firsts nb →
      (∀ f ∈ firsts, TI f) →
      Rel (nkNotes k (eventsRelGo a (barsToSeq nb)) none) (nkNotes k (eventsRelGo a firsts.flatten) none) := by
  intro gs
  induction gs with
  | nil =>
    intro firsts nb a hB _
    cases firsts <;> cases nb <;> simp only [BarsOf] at hB
    exact hnil
  | cons g gs ih =>
    intro firsts nb a hB hF
    rcases firsts with _ | ⟨f, fs⟩ <;> rcases nb with _ | ⟨b, bs⟩ <;> simp only [BarsOf] at hB
    obtain ⟨⟨piece, hrq, hmk⟩, hfw, hfn, hlen, hrest⟩ := hB
    obtain ⟨hbw, _, hbd⟩ := bar_wf_nn ppqn piece _ _ _ _ hmk
    have hbd' : totalWait b.seq = sgLen ppqn g := hbd
    rw [barsToSeq_cons, nkNotes_wf_append k a b.seq _ hbw, hbd', List.flatten_cons, nkNotes_wf_append k a f _ hfw]
    have h1 := H g f b a ⟨piece, hrq, hmk⟩ hfw hfn (hF f List.mem_cons_self)
    have h2 := ih fs bs (a + sgLen ppqn g) hrest (fun f' hf' => hF f' (List.mem_cons_of_mem _ hf'))
    rcases hlen with hlen | ⟨_, hnil'⟩
    · rw [hlen]; exact happ h1 h2
    · rw [hnil'] at h2 ⊢; exact happ h1 h2

/-- **a whole per-track run**: a relation that holds bar by bar between the notes of a bar and of its piece holds
    between the notes of the bars and the notes of the track cut at the bar lines -/
theorem trackRun_rel (ppqn : Int) (values : List Int) (requant : Bool) (k : Int × Int)
    (Rel : List Note → List Note → Prop) (TI : List Msg → Prop) (hTI0 : TI [])
    (hTI : ∀ (t : List Msg) (c : Int) (pieces : List (List Msg)), 0 < c → NonNegWaits t → WF t → TI t →
      split t [c] = .ok pieces → ∀ p ∈ pieces, TI p)
    (hnil : Rel [] []) (happ : ∀ {x y x' y'}, Rel x y → Rel x' y' → Rel (x ++ x') (y ++ y'))
    (H : ∀ (g : Sg) (f : List Msg) (b : Bar) (c : Int), BarStep ppqn values requant g f b → WF f → NonNegWaits f →
      TI f → Rel (nkNotes k (eventsRelGo c b.seq) none) (nkNotes k (eventsRelGo c f) none))
    (gs : List Sg) (t : List Msg) (tw : List Bool) (nb : List Bar) (a : Int)
    (h : trackRun ppqn values requant gs t = .ok (tw, [], nb)) (hpos : ∀ g ∈ gs, 0 < sgLen ppqn g)
    (hw : NonNegWaits t) (hwf : WF t) (hti : TI t) (hB : ∀ b ∈ cums a (gs.map (sgLen ppqn)), B b)
    (hz : ∀ k', zlB B k' none a t) :
    WF (barsToSeq nb) ∧ NonNegWaits (barsToSeq nb) ∧
      Rel (nkNotes k (eventsRelGo a (barsToSeq nb)) none)
        (cutNotes (cums a (gs.map (sgLen ppqn))) (nkNotes k (eventsRelGo a t) none)) := by
  obtain ⟨firsts, hBars, hZ, _, _, _, hN⟩ := trackRun_firsts ppqn values requant TI hTI0 hTI gs t tw [] nb a h hpos hw hwf hti hB hz
  obtain ⟨hbw, hbn⟩ := barsOf_wf ppqn values requant gs firsts nb hBars
  rw [← hN k, List.append_nil]
  exact ⟨hbw, hbn, bars_rel ppqn values requant k Rel TI hnil happ H gs firsts nb a hBars hZ⟩

theorem split_one_notes (r : List Msg) (c : Int) (pieces : List (List Msg)) (h : split r [c] = .ok pieces)
    (hc : 0 < c) (hw : NonNegWaits r) (hwf : WF r) (hz : NoZeroNotes r) :
    ∀ p ∈ pieces, WF p ∧ NonNegWaits p ∧ NoZeroNotes p := by
  have hcut := Cut.of_split h
  obtain ⟨h1, h2, _⟩ := hcut.dur hc hw
  obtain ⟨h3, h4, h5, h6, _⟩ := hcut.notes (B := fun _ => True) hc hw hwf 0 trivial
    (fun k => (zlB_true k r 0 hw).2 (hz k))
  intro p hp
  rcases split_one_mem r c pieces h (Int.le_of_lt hc) hw p hp with rfl | rfl
  · exact ⟨h3, h1, fun k => (zlB_true k _ 0 h1).1 (h5 k)⟩
  · exact ⟨h4, h2, fun k => (zlB_true k _ _ h2).1 (h6 k)⟩

end SCoda.SB
