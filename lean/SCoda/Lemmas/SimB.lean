/-
  For C01b, about the model only: the greedy rest decomposition (`Tokenise.Rests`) succeeds on the grid.
-/
import SCoda.Lemmas.Tokenise
namespace SCoda.SimB
open SCoda

theorem sub_mod {a b g : Int} (ha : a % g = 0) (hb : b % g = 0) : (a - b) % g = 0 :=
  Int.emod_eq_zero_of_dvd (Int.dvd_sub (Int.dvd_of_emod_eq_zero ha) (Int.dvd_of_emod_eq_zero hb))

theorem add_mod {a b g : Int} (ha : a % g = 0) (hb : b % g = 0) : (a + b) % g = 0 :=
  Int.emod_eq_zero_of_dvd (Int.dvd_add (Int.dvd_of_emod_eq_zero ha) (Int.dvd_of_emod_eq_zero hb))

theorem le_of_pos_mod {n g : Int} (hn : 0 < n) (hng : n % g = 0) : g ≤ n :=
  Int.le_of_dvd hn (Int.dvd_of_emod_eq_zero hng)

theorem next_multiple (g v n : Int) (hg : 0 < g) (hv : v % g ≠ 0) (hn : n % g = 0) (hvn : v ≤ n) :
    v < (v / g + 1) * g ∧ (v / g + 1) * g ≤ n := by
  have h1 : g * (v / g) + v % g = v := Int.mul_ediv_add_emod v g
  have h2 : 0 ≤ v % g := Int.emod_nonneg _ (by omega)
  have h3 : v % g < g := Int.emod_lt_of_pos _ hg
  have h4 : g * (n / g) = n := Int.mul_ediv_cancel' (Int.dvd_of_emod_eq_zero hn)
  have h5 : (v / g + 1) * g = g * (v / g) + g := by
    rw [Int.add_mul, Int.one_mul, Int.mul_comm]
  rw [h5]
  refine ⟨by omega, ?_⟩
  have h6 : v / g + 1 ≤ n / g := by
    refine Decidable.byContradiction fun hneg => ?_
    have : n / g ≤ v / g := by omega
    have := Int.mul_le_mul_of_nonneg_left this (Int.le_of_lt hg)
    omega
  have h7 := Int.mul_le_mul_of_nonneg_left h6 (Int.le_of_lt hg)
  rw [Int.mul_add, Int.mul_one] at h7
  omega

theorem getLast_max (steps : List Int) (last : Int) (hsort : steps.Pairwise (· < ·))
    (hl : steps.getLast? = some last) : ∀ s ∈ steps, s ≤ last := by
  induction steps with
  | nil => simp
  | cons a as ih =>
    rw [List.pairwise_cons] at hsort
    cases as with
    | nil =>
      simp at hl; subst hl; simp
    | cons b bs =>
      rw [List.getLast?_cons_cons] at hl
      have := ih hsort.2 hl
      intro s hs
      rcases List.mem_cons.1 hs with rfl | hs
      · have h1 := hsort.1 last (List.mem_of_getLast? hl)
        omega
      · exact this s hs

/-- the grid condition, unbundled (bundled as `GridOk` in Props/C01b) -/
structure Grid (steps : List Int) (g : Int) : Prop where
  pos : 0 < g
  mem : g ∈ steps
  least : ∀ s ∈ steps, g ≤ s
  dominated : ∀ s ∈ steps, s % g = 0 ∨ (s / g + 1) * g ∈ steps
  sorted : steps.Pairwise (· < ·)

theorem chooseStep_grid (c : Cfg) (g : Int) (hg : Grid c.steps g) (n : Int) (hn : 0 < n) (hng : n % g = 0) :
    ∃ v, Tokenise.chooseStep c n = .ok v ∧ 0 < v ∧ v ≤ n ∧ v % g = 0 := by
  have hgn : g ≤ n := le_of_pos_mod hn hng
  obtain ⟨last, hlast⟩ : ∃ last, c.steps.getLast? = some last := by
    cases h : c.steps.getLast? with
    | none =>
      rw [List.getLast?_eq_none_iff] at h
      have := hg.mem; rw [h] at this; simp at this
    | some l => exact ⟨l, rfl⟩
  have hany : c.steps.any (fun s => decide (n ≥ s)) = true := by
    rw [List.any_eq_true]
    exact ⟨g, hg.mem, by simpa using hgn⟩
  have hv : ∃ v, (if n > last then some last else largestLe c.steps n) = some v
      ∧ v ∈ c.steps ∧ v ≤ n ∧ v % g = 0 := by
    by_cases hgt : n > last
    · rw [if_pos hgt]
      have hlm := List.mem_of_getLast? hlast
      refine ⟨last, rfl, hlm, by omega, ?_⟩
      rcases hg.dominated last hlm with h | h
      · exact h
      · refine Decidable.byContradiction fun hne => ?_
        have := (next_multiple g last n hg.pos hne hng (by omega)).1
        have := getLast_max c.steps last hg.sorted hlast _ h
        omega
    · rw [if_neg hgt]
      obtain ⟨v, e1, e2, e3, e4⟩ := Tokenise.largestLe_max c.steps n hg.sorted ⟨g, hg.mem, hgn⟩
      refine ⟨v, e1, e2, e3, ?_⟩
      rcases hg.dominated v e2 with h | h
      · exact h
      · refine Decidable.byContradiction fun hne => ?_
        obtain ⟨n1, n2⟩ := next_multiple g v n hg.pos hne hng e3
        have := e4 _ h n2
        omega
  obtain ⟨v, hv1, hv2, hv3, hv4⟩ := hv
  refine ⟨v, ?_, by have := hg.least v hv2; have := hg.pos; omega, hv3, hv4⟩
  unfold Tokenise.chooseStep
  simp only [hlast, hany, Bool.or_true, Bool.not_true, Bool.false_eq_true, if_false, hv1]

theorem rests_grid (c : Cfg) (g : Int) (hg : Grid c.steps g) (cap : Int) (hcap : 0 < cap) (hcg : cap % g = 0)
    (n : Nat) (buf cur bar rem : Int) (hn : buf.toNat ≤ n)
    (hbg : buf % g = 0) (hrem : 0 < rem) (hremg : rem % g = 0) :
    ∃ new ends bar' rem', Tokenise.Rests c cap buf (cur, bar, rem) new ends (cur + max buf 0, bar', rem')
      ∧ 0 < rem' ∧ rem' % g = 0 := by
  induction n generalizing buf cur bar rem with
  | zero =>
    have hb : buf ≤ 0 := by omega
    exact ⟨[], [], bar, rem, by rw [Int.max_eq_right hb, Int.add_zero]; exact .stop hb, hrem, hremg⟩
  | succ n ih =>
    by_cases hb : buf ≤ 0
    · exact ⟨[], [], bar, rem, by rw [Int.max_eq_right hb, Int.add_zero]; exact .stop hb, hrem, hremg⟩
    · have hmg : (min buf rem) % g = 0 := by
        rcases Int.le_total buf rem with h | h
        · rw [Int.min_eq_left h]; exact hbg
        · rw [Int.min_eq_right h]; exact hremg
      obtain ⟨v, hv, v1, v2, v4⟩ := chooseStep_grid c g hg (min buf rem) (by omega) hmg
      have e : cur + v + max (buf - v) 0 = cur + max buf 0 := by omega
      by_cases hz : rem - v = 0
      · obtain ⟨new, ends, bar', rem', e1, e2, e3⟩ := ih (buf - v) (cur + v) 0 cap (by omega) (sub_mod hbg v4) hcap hcg
        rw [e] at e1
        exact ⟨_, _, bar', rem', .close (by omega) hv hz e1, e2, e3⟩
      · obtain ⟨new, ends, bar', rem', e1, e2, e3⟩ := ih (buf - v) (cur + v) (bar + v) (rem - v) (by omega)
          (sub_mod hbg v4) (by omega) (sub_mod hremg v4)
        rw [e] at e1
        exact ⟨_, _, bar', rem', .inside (by omega) hv hz e1, e2, e3⟩

end SCoda.SimB
