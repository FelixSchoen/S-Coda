/-
  Helper lemmas for `Props/HeapTie2.lean`: a weakest-precondition reading `Sat` of the monad `HeapLib.HM` (so that loops with
  `break` and data-dependent branches can be reasoned about by invariants rather than by run equations), the heap invariant
  `Inv` of the translated `RelativeSequence.split` with its preservation lemmas (one per heap primitive, on `Ext.newMsg`, `Ext.newLst`,
  `Ext.setLst` for the frame), `Ctx` (the invariant together with what the locals of the method hold) and `split_sat`, the one
  `Sat` statement of the method, from which every theorem of `Props/HeapTie2.lean` about it is read off.
-/
import SCoda.Gen.HeapFns2
import SCoda.Lemmas.HeapTieL2
namespace SCoda.HeapTie2L
open SCoda SCoda.HeapOps SCoda.HeapLib SCoda.Gen.HeapFns SCoda.Gen.HeapFns2 SCoda.HeapTieL

/-- running `m` on `h` ends normally with a result and a heap satisfying `Q`, or with an exception and a heap satisfying `E` -/
def Sat {α : Type} (m : HM α) (h : Heap) (Q : α → Heap → Prop) (E : Heap → Prop) : Prop :=
  match m h with
  | (.ok a, h') => Q a h'
  | (.error _, h') => E h'

theorem sat_of_run {α : Type} {m : HM α} {h h' : Heap} {a : α} (hr : m h = (.ok a, h')) (Q : α → Heap → Prop) (E : Heap → Prop) :
    Sat m h Q E ↔ Q a h' := by
  simp [Sat, hr]

theorem Sat.mono {α : Type} {m : HM α} {h : Heap} {Q Q' : α → Heap → Prop} {E E' : Heap → Prop}
    (hs : Sat m h Q E) (hq : ∀ a h', Q a h' → Q' a h') (he : ∀ h', E h' → E' h') : Sat m h Q' E' := by
  unfold Sat at *
  split <;> simp_all

@[simp] theorem sat_pure {α : Type} (a : α) (h : Heap) (Q : α → Heap → Prop) (E : Heap → Prop) :
    Sat (pure a : HM α) h Q E ↔ Q a h := Iff.rfl

@[simp] theorem sat_bind {α β : Type} (m : HM α) (f : α → HM β) (h : Heap) (Q : β → Heap → Prop) (E : Heap → Prop) :
    Sat (m >>= f) h Q E ↔ Sat m h (fun a h' => Sat (f a) h' Q E) E := by
  unfold Sat
  simp only [run_bind]
  rcases m h with ⟨r, h'⟩
  cases r <;> simp [HM.bindRes]

@[simp] theorem sat_get (h : Heap) (Q : Heap → Heap → Prop) (E : Heap → Prop) : Sat HM.get h Q E ↔ Q h h := Iff.rfl
@[simp] theorem sat_modify (f : Heap → Heap) (h : Heap) (Q : Unit → Heap → Prop) (E : Heap → Prop) :
    Sat (HM.modify f) h Q E ↔ Q () (f h) := Iff.rfl
@[simp] theorem sat_alloc {α : Type} (f : Heap → Heap × α) (h : Heap) (Q : α → Heap → Prop) (E : Heap → Prop) :
    Sat (HM.alloc f) h Q E ↔ Q (f h).2 (f h).1 := Iff.rfl
@[simp] theorem sat_fail {α : Type} (e : HErr) (h : Heap) (Q : α → Heap → Prop) (E : Heap → Prop) :
    Sat (HM.fail e : HM α) h Q E ↔ E h := Iff.rfl

@[simp] theorem sat_ite {α : Type} (c : Prop) [Decidable c] (a b : HM α) (h : Heap) (Q : α → Heap → Prop) (E : Heap → Prop) :
    Sat (if c then a else b) h Q E ↔ (c → Sat a h Q E) ∧ (¬ c → Sat b h Q E) := by
  split <;> simp_all

theorem sat_deref {α : Type} (x : Option α) (h : Heap) (Q : α → Heap → Prop) (E : Heap → Prop) :
    Sat (HM.deref x) h Q E ↔ (∀ a, x = some a → Q a h) ∧ (x = none → E h) := by
  cases x <;> simp [HM.deref, Sat, HM.fail, pure]

/-- `xs[0]` of `xs.pop(0)` -/
theorem sat_index_zero {α : Type} (xs : List α) (h : Heap) (Q : α → Heap → Prop) (E : Heap → Prop) :
    Sat (HM.index xs 0) h Q E ↔ (match xs with | x :: _ => Q x h | [] => E h) := by
  cases xs <;> rfl

/-- invariant rule for a `for` loop (with `break`): `I rest state heap` holds before each round, `rest` the elements still to come -/
theorem sat_forIn {α β : Type} (f : α → β → HM (ForInStep β)) (I : List α → β → Heap → Prop) (Q : β → Heap → Prop) (E : Heap → Prop)
    (hstep : ∀ a as b h, I (a :: as) b h →
      Sat (f a b) h (fun r h' => match r with | .yield b' => I as b' h' | .done b' => Q b' h') E)
    (hend : ∀ b h, I [] b h → Q b h) :
    ∀ (xs : List α) (b : β) (h : Heap), I xs b h → Sat (forIn xs b f) h Q E := by
  intro xs
  induction xs with
  | nil => intro b h hi; exact hend b h hi
  | cons a as ih =>
    intro b h hi
    rw [List.forIn_cons, sat_bind]
    refine (hstep a as b h hi).mono ?_ (fun _ he => he)
    intro r h' hr
    cases r with
    | done b' => exact hr
    | yield b' => exact ih b' h' hr

theorem sat_run {α : Type} {m : HM α} {h : Heap} {Q : α → Heap → Prop} {E : Heap → Prop} (hs : Sat m h Q E) :
    (∀ a, (m h).1 = .ok a → Q a (m h).2) ∧ ((∀ a, (m h).1 ≠ .ok a) → E (m h).2) := by
  unfold Sat at hs
  rcases hr : m h with ⟨r, h'⟩
  rw [hr] at hs
  cases r with
  | ok a => exact ⟨fun b hb => (by cases hb; exact hs), fun hn => absurd rfl (hn a)⟩
  | error e => exact ⟨fun b hb => (by cases hb), fun _ => hs⟩

theorem sat_run_both {α : Type} {m : HM α} {h : Heap} {P : Heap → Prop} (hs : Sat m h (fun _ h' => P h') P) : P (m h).2 := by
  unfold Sat at hs
  rcases hr : m h with ⟨r, h'⟩
  rw [hr] at hs
  cases r <;> exact hs

theorem sat_ok {α : Type} {m : HM α} {h : Heap} {Q : α → Heap → Prop} (hs : Sat m h Q (fun _ => False)) :
    ∃ a, (m h).1 = .ok a ∧ Q a (m h).2 := by
  unfold Sat at hs
  rcases hr : m h with ⟨r, h'⟩
  rw [hr] at hs
  cases r with
  | ok a => exact ⟨a, rfl, hs⟩
  | error e => exact hs.elim

@[simp] theorem sat_newView (h : Heap) (Q : Nat → Heap → Prop) (E : Heap → Prop) :
    Sat newView h Q E ↔ Q h.nLst (h.newLst []).1 := Iff.rfl

@[simp] theorem sat_relativeSequenceInit_none (g : GOrc) (tag i : Nat) (h : Heap) (Q : Unit → Heap → Prop) (E : Heap → Prop) :
    Sat (relativeSequenceInit g tag i none) h Q E ↔ Q () (h.setLst i []) :=
  sat_of_run (by unfold relativeSequenceInit; exact abstractSequenceInit_none g tag i h) Q E

@[simp] theorem sat_addMessage_none (g : GOrc) (tag l i : Nat) (h : Heap) (Q : Unit → Heap → Prop) (E : Heap → Prop) :
    Sat (relativeSequenceAddMessage g tag l i none) h Q E ↔ Q () (h.setLst l (h.lst l ++ [i])) :=
  sat_of_run (relativeSequenceAddMessage_none g tag l i h) Q E

@[simp] theorem sat_newMessage (h : Heap) (Q : Nat → Heap → Prop) (E : Heap → Prop) :
    Sat newMessage h Q E ↔ Q h.nMsg (h.newMsg blankMsg).1 := Iff.rfl

theorem initVal_ch (ty : MType) (ch time note vel ctl num den key prog : Int) :
    (initVal ty ch time note vel ctl num den key prog).ch ≠ pyNone := by
  simp only [initVal]
  split <;> simp_all [pyNone]

@[simp] theorem sat_messageInit (g : GOrc) (tag i : Nat) (ty : MType) (ch time note vel ctl num den key prog : Int) (h : Heap)
    (Q : Unit → Heap → Prop) (E : Heap → Prop) :
    Sat (messageInit g tag i ty ch time note vel ctl num den key prog) h Q E
      ↔ Q () (h.setMsg i (initVal ty ch time note vel ctl num den key prog)) :=
  sat_of_run (messageInit_run g tag i ty ch time note vel ctl num den key prog h) Q E

/-- a message reference the call may hold: a message object of the receiver's list, or one allocated since the call began -/
def OkId (h0 : Heap) (src : List Nat) (h : Heap) (i : Nat) : Prop := i ∈ src ∨ (h0.nMsg ≤ i ∧ i < h.nMsg)

/-- a view object allocated since the call began -/
def OkV (h0 h : Heap) (p : Nat) : Prop := h0.nLst ≤ p ∧ p < h.nLst

/-- the heap invariant: nothing that existed when the call began was written; only messages and views were allocated; every view
    allocated since holds message objects of the receiver's list or messages allocated since, and the latter have a channel -/
structure Inv (h0 : Heap) (src : List Nat) (h : Heap) : Prop where
  ext : Ext h0 h
  kinds : h.nSeq = h0.nSeq ∧ h.nBar = h0.nBar ∧ h.nTrk = h0.nTrk ∧ h.nCmp = h0.nCmp
  views : ∀ p, OkV h0 h p → ∀ i ∈ h.lst p, OkId h0 src h i
  chan : ∀ i, h0.nMsg ≤ i → i < h.nMsg → (h.msg i).ch ≠ pyNone

theorem Inv.refl (h0 : Heap) (src : List Nat) : Inv h0 src h0 :=
  ⟨Ext.refl h0, ⟨rfl, rfl, rfl, rfl⟩, fun p hp => by unfold OkV at hp; omega, fun i h1 h2 => by omega⟩

theorem OkId.mono {h0 : Heap} {src : List Nat} {h h' : Heap} {i : Nat} (hi : OkId h0 src h i) (hle : h.nMsg ≤ h'.nMsg) :
    OkId h0 src h' i := by
  rcases hi with hi | hi
  · exact Or.inl hi
  · exact Or.inr ⟨hi.1, by omega⟩

theorem OkV.mono {h0 h h' : Heap} {p : Nat} (hp : OkV h0 h p) (hle : h.nLst ≤ h'.nLst) : OkV h0 h' p := by
  unfold OkV at *; omega

theorem Inv.nMsg_le {h0 : Heap} {src : List Nat} {h : Heap} (hi : Inv h0 src h) : h0.nMsg ≤ h.nMsg := hi.ext.1 .msg
theorem Inv.nLst_le {h0 : Heap} {src : List Nat} {h : Heap} (hi : Inv h0 src h) : h0.nLst ≤ h.nLst := hi.ext.1 .lst

theorem Inv.newMsgV {h0 : Heap} {src : List Nat} {h : Heap} (hi : Inv h0 src h) (m : Msg) (hch : m.ch ≠ pyNone) :
    Inv h0 src (h.newMsg m).1 := by
  refine ⟨Ext.newMsg hi.ext m, hi.kinds, fun p hp i hmem => (hi.views p hp i hmem).mono (Nat.le_succ _), fun i h1 h2 => ?_⟩
  by_cases he : i = h.nMsg
  · subst he; simp only [Heap.newMsg, if_true]; exact hch
  · simp only [Heap.newMsg, he, if_false]; exact hi.chan i h1 (Nat.lt_of_le_of_ne (Nat.le_of_lt_succ h2) he)

/-- `Message(...)`: a new message cell holding what `Message.__init__` stored -/
theorem Inv.newMsg {h0 : Heap} {src : List Nat} {h : Heap} (hi : Inv h0 src h) (ty : MType)
    (ch time note vel ctl num den key prog : Int) :
    Inv h0 src (h.newMsg (initVal ty ch time note vel ctl num den key prog)).1 :=
  hi.newMsgV _ (initVal_ch _ _ _ _ _ _ _ _ _ _)

/-- `RelativeSequence()`: a new empty view -/
theorem Inv.newLst {h0 : Heap} {src : List Nat} {h : Heap} (hi : Inv h0 src h) : Inv h0 src (h.newLst []).1 := by
  refine ⟨Ext.newLst hi.ext [], hi.kinds, fun p hp i hmem => ?_, hi.chan⟩
  by_cases he : p = h.nLst
  · subst he; simp [Heap.newLst] at hmem
  · simp only [Heap.newLst, he, if_false] at hmem
    exact hi.views p ⟨hp.1, Nat.lt_of_le_of_ne (Nat.le_of_lt_succ hp.2) he⟩ i hmem

theorem Inv.setLstV {h0 : Heap} {src : List Nat} {h : Heap} (hi : Inv h0 src h) {p : Nat} (hp : OkV h0 h p) {is : List Nat}
    (his : ∀ i ∈ is, OkId h0 src h i) : Inv h0 src (h.setLst p is) := by
  refine ⟨Ext.setLst hi.ext hp.1 is, hi.kinds, fun q hq i hmem => ?_, hi.chan⟩
  by_cases he : q = p
  · subst he
    simp only [Heap.setLst, if_true] at hmem
    exact his i hmem
  · simp only [Heap.setLst, he, if_false] at hmem
    exact hi.views q hq i hmem

theorem Inv.setLstApp {h0 : Heap} {src : List Nat} {h : Heap} (hi : Inv h0 src h) {p : Nat} (hp : OkV h0 h p) {is : List Nat}
    (his : ∀ i ∈ is, i ∈ h.lst p ∨ OkId h0 src h i) : Inv h0 src (h.setLst p is) :=
  hi.setLstV hp (fun i hm => (his i hm).elim (hi.views p hp i) id)

/-- `view._messages.append(x)` / `.extend(xs)` on a view allocated since the call began -/
theorem Inv.append {h0 : Heap} {src : List Nat} {h : Heap} (hi : Inv h0 src h) {p : Nat} (hp : OkV h0 h p) {is : List Nat}
    (his : ∀ i ∈ is, OkId h0 src h i) : Inv h0 src (h.setLst p (h.lst p ++ is)) :=
  hi.setLstApp hp (fun i hm => (List.mem_append.1 hm).imp id (his i))

theorem mem_dictSet {κ ν : Type} [DecidableEq κ] {d : List (κ × ν)} {k : κ} {v : ν} {x : κ × ν}
    (hx : x ∈ HeapLib2.dictSet d k v) : x ∈ d ∨ x.2 = v := by
  induction d with
  | nil => simp_all [HeapLib2.dictSet]
  | cons e d ih =>
    simp only [HeapLib2.dictSet] at hx
    split at hx <;> simp only [List.mem_cons] at hx ⊢ <;> grind

theorem mem_dictDel {κ ν : Type} [DecidableEq κ] {d : List (κ × ν)} {k : κ} {x : κ × ν}
    (hx : x ∈ HeapLib2.dictDel d k) : x ∈ d := by
  induction d with
  | nil => simp [HeapLib2.dictDel] at hx
  | cons e d ih =>
    simp only [HeapLib2.dictDel] at hx
    split at hx <;> simp only [List.mem_cons] at hx ⊢ <;> grind

/-- the invariant together with what the locals hold: `vs` views allocated since the call began, `ids` message references that are the
    receiver's or allocated since -/
def Ctx (h0 : Heap) (src : List Nat) (h : Heap) (vs ids : List Nat) : Prop :=
  Inv h0 src h ∧ (∀ p ∈ vs, OkV h0 h p) ∧ (∀ i ∈ ids, OkId h0 src h i)

/-- list-membership side goals -/
macro "mem_tac" : tactic => `(tactic| first | (simp; done) | (simp; grind) | grind)

/-- fewer locals (the two inclusions are found from the lists the caller needs) -/
theorem Ctx.sub {h0 : Heap} {src : List Nat} {h : Heap} {vs ids vs' ids' : List Nat} (hc : Ctx h0 src h vs ids)
    (h1 : ∀ p ∈ vs', p ∈ vs := by mem_tac) (h2 : ∀ i ∈ ids', i ∈ ids := by mem_tac) : Ctx h0 src h vs' ids' :=
  ⟨hc.1, fun p hp => hc.2.1 p (h1 p hp), fun i hi => hc.2.2 i (h2 i hi)⟩

theorem Ctx.out {h0 : Heap} {src : List Nat} {h : Heap} {vs ids ps : List Nat} (hc : Ctx h0 src h vs ids)
    (h1 : ∀ p ∈ ps, p ∈ vs := by mem_tac) : Inv h0 src h ∧ ∀ p ∈ ps, OkV h0 h p :=
  ⟨hc.1, fun p hp => hc.2.1 p (h1 p hp)⟩

theorem Ctx.newMsg {h0 : Heap} {src : List Nat} {h : Heap} {vs ids : List Nat} (hc : Ctx h0 src h vs ids) (ty : MType)
    (ch time note vel ctl num den key prog : Int) :
    Ctx h0 src (h.newMsg (initVal ty ch time note vel ctl num den key prog)).1 vs (h.nMsg :: ids) := by
  refine ⟨hc.1.newMsg .., fun p hp => (hc.2.1 p hp).mono (by simp [Heap.newMsg]), fun i hi => ?_⟩
  rcases List.mem_cons.1 hi with hi | hi
  · subst hi; exact Or.inr ⟨hc.1.nMsg_le, by simp [Heap.newMsg]⟩
  · exact (hc.2.2 i hi).mono (by simp [Heap.newMsg])

theorem Ctx.newLst {h0 : Heap} {src : List Nat} {h : Heap} {vs ids : List Nat} (hc : Ctx h0 src h vs ids) :
    Ctx h0 src (h.newLst []).1 (h.nLst :: vs) ids := by
  refine ⟨hc.1.newLst, fun p hp => ?_, fun i hi => (hc.2.2 i hi).mono (by simp [Heap.newLst])⟩
  rcases List.mem_cons.1 hp with hp | hp
  · subst hp; exact ⟨hc.1.nLst_le, by simp [Heap.newLst]⟩
  · exact (hc.2.1 p hp).mono (by simp [Heap.newLst])

theorem Ctx.append {h0 : Heap} {src : List Nat} {h : Heap} {vs ids : List Nat} (hc : Ctx h0 src h vs ids) {p : Nat} {is : List Nat}
    (hp : p ∈ vs) (his : ∀ i ∈ is, i ∈ ids) : Ctx h0 src (h.setLst p (h.lst p ++ is)) vs ids :=
  ⟨hc.1.append (hc.2.1 p hp) (fun i hi => hc.2.2 i (his i hi)), fun q hq => hc.2.1 q hq, fun i hi => hc.2.2 i hi⟩

/-- the loop states of the translated `RelativeSequence.split`, in the order of the `let mut`s: outer loop `St1` = (`split_sequences`,
    `working_memory`, `current_sequence`, `open_messages`); the `while` loop `St2` adds (`next_sequence_queue`, `remaining_capacity`, the
    `break` flag of the loop) -/
abbrev St1 := List Nat × List Nat × Nat × List ((Int × Int) × Nat)
abbrev St2 := List Nat × List Nat × Nat × List ((Int × Int) × Nat) × List Nat × Int × Bool

/-- `RelativeSequence.split` keeps `Inv`, returns views allocated by the call, and does not raise: `working_memory.pop(0)` is behind the
    guard `len(working_memory) == 0`, and the bound `len(working_memory) + 1` of the `while` loop is not exhausted — every round that
    does not `break` takes one message from `working_memory` -/
theorem split_sat (g : GOrc) (tag l : Nat) (caps : List Int) (h0 : Heap) :
    Sat (relativeSequenceSplit g tag l caps) h0 (fun ps h => Inv h0 (h0.lst l) h ∧ ∀ p ∈ ps, OkV h0 h p) (fun _ => False) := by
  unfold relativeSequenceSplit
  simp only [sat_bind, sat_get, sat_newView, sat_relativeSequenceInit_none, setLst_newLst]
  refine sat_forIn _ (fun _ (s : St1) h => Ctx h0 (h0.lst l) h (s.2.2.1 :: s.1) s.2.1) _ _ ?step ?cont caps _ _
    (show Ctx h0 (h0.lst l) h0 [] (h0.lst l) from ⟨Inv.refl _ _, by simp, fun i hi => Or.inl hi⟩).newLst
  case cont =>
    rintro ⟨split, wm, cur, opn⟩ h hctx
    simp only [sat_bind, sat_get, sat_modify, sat_ite, sat_pure]
    have e1 : Ctx h0 (h0.lst l) (h.setLst cur (h.lst cur ++ wm)) (cur :: split) wm := hctx.append (by simp) (by simp)
    exact ⟨fun _ => ⟨fun _ => e1.out, fun _ => e1.out⟩, fun _ => ⟨fun _ => hctx.out, fun _ => hctx.out⟩⟩
  case step =>
    rintro cap _ ⟨split, wm, cur, opn⟩ h hctx
    simp only [sat_bind, sat_newView, sat_relativeSequenceInit_none, setLst_newLst]
    have hc1 : Ctx h0 (h0.lst l) (h.newLst []).1 (h.nLst :: cur :: split) wm := hctx.newLst
    generalize (h.newLst []).1 = hn at hc1 ⊢
    generalize h.nLst = nxt at hc1 ⊢
    -- the `while` loop ends by `break` (`done`), with the invariant
    refine Sat.mono (Q := fun (s : St2) h' => Ctx h0 (h0.lst l) h' (nxt :: s.2.2.1 :: s.1) (s.2.1 ++ s.2.2.2.2.1) ∧ s.2.2.2.2.2.2 = true)
      ?loop2 ?cont2 (fun _ he => he)
    case cont2 =>
      rintro ⟨split, wm, cur, opn, queue, rc, done⟩ h' ⟨hc, hd⟩
      dsimp only at hd
      subst hd
      simp only [sat_bind, sat_fail, sat_ite, sat_pure, Bool.not_true, Bool.false_eq_true, false_implies, not_false_eq_true, true_implies, true_and]
      exact hc.sub
    case loop2 =>
      refine sat_forIn _ (fun rest (s : St2) h' => Ctx h0 (h0.lst l) h' (nxt :: s.2.2.1 :: s.1) (s.2.1 ++ s.2.2.2.2.1)
        ∧ (s.2.2.2.2.2.2 = true ∨ s.2.1.length + 1 ≤ rest.length)) _ _ ?step2 ?end2 _ _ _ ?init2
      case init2 => exact ⟨by simpa using hc1, Or.inr (by simp)⟩
      case end2 =>
        rintro s _ ⟨hc, hd⟩
        exact ⟨hc, hd.resolve_right (by simp)⟩
      case step2 =>
        rintro x rest ⟨split, wm, cur, opn, queue, rc, done⟩ h' ⟨hc, hfuel⟩
        dsimp only at hc hfuel
        cases wm with
        | nil =>
          simp only [sat_bind, sat_get, sat_ite, sat_pure, List.length_nil, beq_self_eq_true, not_true_eq_false, false_implies, and_true, true_implies]
          exact ⟨fun _ => hc, fun _ => ⟨fun _ => hc.sub, fun _ => hc⟩⟩
        | cons m wm =>
          simp only [sat_bind, sat_get, sat_ite, sat_pure, sat_index_zero, sat_addMessage_none, sat_newMessage, sat_messageInit, setMsg_newMsg, List.drop_succ_cons, List.drop_zero]
          have hy : done = true ∨ wm.length + 1 ≤ rest.length := hfuel.imp_right (fun hl => by simp at hl; omega)
          have happ : Ctx h0 (h0.lst l) (h'.setLst cur (h'.lst cur ++ [m])) (nxt :: cur :: split) (wm ++ queue) :=
            (hc.append (p := cur) (is := [m]) (by mem_tac) (by mem_tac)).sub
          have hkeep : Ctx h0 (h0.lst l) h' (nxt :: cur :: split) (wm ++ (queue ++ [m])) := hc.sub
          -- the leaves, in the order of the branches of the body: `remaining_capacity < 0` (the round ends); `working_memory` empty (not here);
          -- NOTE_ON: added to the piece (`happ`) or queued (`hkeep`); NOTE_OFF: added; WAIT that fits: added; WAIT that does not fit: the cut,
          -- with (`?A`) or without (`?B`) a new WAIT for what is left of the capacity; any other message: added or queued like a NOTE_ON
          refine ⟨fun _ => ⟨hc, trivial⟩, fun _ => ⟨fun hl => by simp at hl, fun _ => ⟨fun _ => ⟨fun _ => ⟨happ, hy⟩, fun _ => ⟨hkeep, hy⟩⟩,
            fun _ => ⟨fun _ => ⟨happ, hy⟩, fun _ => ⟨fun _ => ⟨fun _ => ⟨happ, hy⟩, fun _ => ⟨fun _ => ?A, fun _ => ?B⟩⟩,
              fun _ => ⟨fun _ => ⟨happ, hy⟩, fun _ => ⟨hkeep, hy⟩⟩⟩⟩⟩⟩⟩
          -- the cut: with or without the new WAIT in the current piece, the loop over `open_messages.items()` and the carry, then `break`
          all_goals
            refine sat_forIn _ (fun _ (a : List Nat) hh => Ctx h0 (h0.lst l) hh (nxt :: cur :: split) (wm ++ a)) _ _ ?_ ?_ _ _ _
              (by first
                | exact hc.sub
                | exact ((hc.newMsg ..).append (p := cur) (is := [h'.nMsg]) (by mem_tac) (by mem_tac)).sub)
            · intro kv _ q hh hq
              simp only [sat_bind, sat_get, sat_pure, sat_addMessage_none, sat_newMessage, sat_messageInit, setMsg_newMsg]
              exact (((hq.newMsg ..).append (p := cur) (is := [hh.nMsg]) (by mem_tac) (by mem_tac)).newMsg ..).sub
            · intro a hh hq
              have hq2 := hq.newMsg MType.wait (hh.msg m).ch ((h'.msg m).time - rc) pyNone pyNone pyNone pyNone pyNone pyNone pyNone
              exact ⟨fun _ => ⟨hq2.sub, trivial⟩, fun _ => ⟨hq2.sub, trivial⟩⟩

end SCoda.HeapTie2L
