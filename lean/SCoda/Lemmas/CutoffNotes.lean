/-
  Cut-off at the level of notes.  The walk of `cutoff` seen from one key only looks at the note events of the key
  (`cutoffGo_filter_key`); on the pair form `on₁, off₁, on₂, off₂, …` it shortens the pairs (`cutoffGo_unpair`).  Hence on a
  canonically sorted, well-formed list without zero-length notes the notes of the result are the notes of the input, each
  longer than the maximum shortened (`cutoff_notes_core`).
-/
import SCoda.Lemmas.Cutoff
import SCoda.Lemmas.RollNotes
namespace SCoda.NotesL
open SCoda

def cutF (m r : Int) (n : Note) : Note := if n.off - n.on > m then { n with off := n.on + r } else n

/-- what one step of the walk puts out … -/
def cutOut (m r : Int) (x : Msg) (o : Assoc (Int × Int) Int) : Msg :=
  match x.ty, o.get? x.nkey with
  | .noteOff, some t => if x.time - t > m then { x with time := t + r } else x
  | _, _ => x

/-- … and the table it goes on with -/
def cutNext (x : Msg) (o : Assoc (Int × Int) Int) : Assoc (Int × Int) Int :=
  match x.ty with
  | .noteOn => o.set x.nkey x.time
  | .noteOff => (match o.get? x.nkey with | some _ => o.erase x.nkey | Option.none => o)
  | _ => o

theorem cutoffGo_step (m r : Int) (x : Msg) (xs : List Msg) (o : Assoc (Int × Int) Int) :
    cutoffGo m r (x :: xs) o = cutOut m r x o :: cutoffGo m r xs (cutNext x o) := cutoffGo_cons m r x xs o

theorem isKN_cutOut (m r : Int) (k : Int × Int) (x : Msg) (o : Assoc (Int × Int) Int) : isKN k (cutOut m r x o) = isKN k x := by
  unfold cutOut
  split
  · split <;> rfl
  · rfl

theorem get?_cutNext {o : Assoc (Int × Int) Int} (hk : Q.NodupKeys o) (x : Msg) (k : Int × Int) :
    (cutNext x o).get? k = if x.nkey = k ∧ x.ty = .noteOn then some x.time else if x.nkey = k ∧ x.ty = .noteOff then Option.none
      else o.get? k := by
  unfold cutNext
  by_cases hx : x.nkey = k
  · subst hx
    cases hty : x.ty <;> simp only [true_and, reduceCtorEq, if_false, if_true, and_false, Q.get?_set]
    cases hgo : o.get? x.nkey with
    | none => exact hgo
    | some t => exact Q.get?_erase_self hk _
  · cases hty : x.ty <;> simp only [hx, false_and, if_false, Q.get?_set]
    cases hgo : o.get? x.nkey with
    | none => rfl
    | some t => exact Q.get?_erase_ne _ hx

theorem nodup_cutNext {o : Assoc (Int × Int) Int} (hk : Q.NodupKeys o) (x : Msg) : Q.NodupKeys (cutNext x o) := by
  unfold cutNext
  split
  · exact Q.nodupKeys_set hk _ _
  · split
    · exact Q.nodupKeys_erase hk _
    · exact hk
  · exact hk

theorem cutoffGo_filter_key (m r : Int) (k : Int × Int) : ∀ (l : List Msg) (o o' : Assoc (Int × Int) Int),
    Q.NodupKeys o → Q.NodupKeys o' → o.get? k = o'.get? k →
    (cutoffGo m r l o).filter (isKN k) = cutoffGo m r (l.filter (isKN k)) o' := by
  intro l
  induction l with
  | nil => intro o o' _ _ _; rfl
  | cons x xs ih =>
    intro o o' hk hk' hg
    rw [cutoffGo_step]
    by_cases hp : isKN k x = true
    · have hx : x.nkey = k := (isKN_iff_kev.1 hp).1
      have ho : cutOut m r x o = cutOut m r x o' := by unfold cutOut; rw [hx, hg]
      rw [List.filter_cons_of_pos (by rw [isKN_cutOut]; exact hp), List.filter_cons_of_pos hp, cutoffGo_step, ho]
      congr 1
      exact ih _ _ (nodup_cutNext hk x) (nodup_cutNext hk' x) (by rw [get?_cutNext hk, get?_cutNext hk', hg])
    · rw [List.filter_cons_of_neg (by rw [isKN_cutOut]; exact hp), List.filter_cons_of_neg hp]
      refine ih _ _ (nodup_cutNext hk x) hk' ?_
      have hn := fun h => hp (isKN_iff_kev.2 h)
      rw [get?_cutNext hk, if_neg fun h => hn ⟨h.1, Or.inl h.2⟩, if_neg fun h => hn ⟨h.1, Or.inr h.2⟩]
      exact hg

def cutP (m r : Int) (p : Msg × Msg) : Msg × Msg :=
  (p.1, if p.2.time - p.1.time > m then { p.2 with time := p.1.time + r } else p.2)

open SCoda.NotesBL in
theorem cutoffGo_unpair (m r : Int) (k : Int × Int) : ∀ P : List (Msg × Msg), (∀ p ∈ P, GoodPair k p) →
    cutoffGo m r (unpair P) [] = unpair (P.map (cutP m r)) := by
  intro P
  induction P with
  | nil => intro _; rfl
  | cons p P ih =>
    intro hg
    have g := hg p (by simp)
    have hget : (Assoc.set ([] : Assoc (Int × Int) Int) p.1.nkey p.1.time).get? p.2.nkey = some p.1.time := by
      rw [Q.get?_set, if_pos (g.k1.trans g.k2.symm)]
    have he : (Assoc.set ([] : Assoc (Int × Int) Int) p.1.nkey p.1.time).erase p.2.nkey = [] := by
      simp [Assoc.set, Assoc.erase, g.k1, g.k2]
    rw [unpair_cons, cutoffGo_on m r p.1 _ _ g.on, cutoffGo_off_some m r p.2 _ _ g.off p.1.time hget, he,
      ih (fun q hq => hg q (List.mem_cons_of_mem _ hq)), List.map_cons, unpair_cons]
    rfl

theorem mkNote_cutP (m r : Int) (p : Msg × Msg) : mkNote (cutP m r p) = cutF m r (mkNote p) := by
  by_cases h : p.2.time - p.1.time > m <;> simp [cutP, cutF, mkNote, h]

open SCoda.NotesBL in
/-- key by key: on the pair form `on₁, off₁, on₂, off₂, …` the cut-off shortens the pairs (`cutoffGo_unpair`); what is left are
    notes of positive length in their old order, so their events are still in sort order and the final sort changes nothing -/
theorem cutoff_notes_core (m r : Int) (hr : 1 ≤ r ∧ r ≤ m) (l : List Msg) (hs : l.Pairwise EQ.KLe) (hwf : WF l)
    (hpd : ∀ n ∈ notesOf l, n.on < n.off) :
    (notesOf (sortAbs (cutoffGo m r l []))).Perm ((notesOf l).map (cutF m r)) := by
  apply perm_of_filters (fun n : Note => (n.ch, n.pitch))
  intro k
  obtain ⟨P, h1, h2, h3⟩ := key_view l hwf k
  have hk : (unpair P).Pairwise EQ.KLe := by rw [← h1]; exact hs.filter _
  have hout : (cutoffGo m r l []).filter (isKN k) = unpair (P.map (cutP m r)) := by
    rw [cutoffGo_filter_key m r k l [] [] List.Pairwise.nil List.Pairwise.nil rfl, h1, cutoffGo_unpair m r k P h2]
  have hg' : ∀ q ∈ P.map (cutP m r), GoodPair k q ∧ q.1.time < q.2.time := by
    intro q hq
    obtain ⟨p, hp, rfl⟩ := List.mem_map.1 hq
    have g := h2 p hp
    have hpos : p.1.time < p.2.time := hpd _ ((mem_key_notes h3).1 (List.mem_map_of_mem hp)).1
    have hoff : (cutP m r p).2.ty = .noteOff ∧ (cutP m r p).2.nkey = k ∧ p.1.time < (cutP m r p).2.time := by
      rw [cutP]
      split
      · exact ⟨g.off, g.k2, by simp only; omega⟩
      · exact ⟨g.off, g.k2, hpos⟩
    exact ⟨⟨g.on, hoff.1, g.k1, hoff.2.1⟩, hoff.2.2⟩
  have hch : (P.map (cutP m r)).Pairwise (fun q q' => q.2.time ≤ q'.1.time) := by
    rw [List.pairwise_map]
    refine (chain_of_sorted P (sorted_of_kle hk)).imp fun {p q} h => ?_
    show (cutP m r p).2.time ≤ q.1.time
    rw [cutP]
    split <;> (simp only; omega)
  have e : ∀ n : Note, decide (((cutF m r n).ch, (cutF m r n).pitch) = k) = decide ((n.ch, n.pitch) = k) := by
    intro n; simp only [cutF]; split <;> rfl
  have hP' : (sortAbs (cutoffGo m r l [])).filter (isKN k) = unpair (P.map (cutP m r)) := by
    rw [filter_sortAbs, hout, sortAbs_of_sorted _ (unpair_keyLe _ hg' hch)]
  rw [notes_of_form hP' (fun q hq => (hg' q hq).1), List.map_map, List.filter_map]
  simp only [Function.comp_def, e, mkNote_cutP]
  rw [h3, List.map_map]
  rfl

end SCoda.NotesL
