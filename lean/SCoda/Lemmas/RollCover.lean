/-
  The notes of one key as a function along a timed event list (`nkNotes`, with the waiting note-on `nkEnd`; on one key
  it is `notesGo`: `notesOf_key`), cutting notes at ticks (`cutNotes`), and the link to the depth counter of `Model/Roll`:
  at a tick the depth of an alternating, time-sorted list is the start depth plus one exactly when a note of the key
  covers the tick — seen on the normal form of the key (`depth_unpair_le`).  Sounding statements are read off notes
  statements by it (`soundingAt_iff_covered`).
  `nkNotes` is kept beside `pairsGo … |>.filter (pkey k)` of `Lemmas/RollKey` because it carries the waiting note-on across
  `++` (`nkNotes_append`), which is what the split and bar theories cut lists with; on the normal form the two agree
  (`nkNotes_of_form`, `notes_of_form`).  The namespace is `SCoda.Strong589L`, after the audit items (exact forms of C05/C08/C09)
  these notions were made for; `R k a l st` is `nkRun` along a relative list started at clock `a`, used by name in
  `Lemmas/SplitNotes`.
-/
import SCoda.Lemmas.RollKey
namespace SCoda.Strong589L
open SCoda SCoda.SplitL

/-- the note a note-on makes when it is closed at tick `off` -/
def mkN (on : Msg) (off : Int) : Note := { ch := on.ch, pitch := on.note, on := on.time, off := off, vel := on.vel }

/-- the waiting note-on of key `k` after the timed events `evs` (`o` before them) -/
def nkEnd (k : Int × Int) : List Msg → Option Msg → Option Msg
  | [], o => o
  | m :: ms, o =>
    if m.nkey = k ∧ m.ty = .noteOn then nkEnd k ms (some m)
    else if m.nkey = k ∧ m.ty = .noteOff then nkEnd k ms none
    else nkEnd k ms o

/-- the notes of key `k` in the timed events `evs`, in time order; `o` is the note-on waiting at the start -/
def nkNotes (k : Int × Int) : List Msg → Option Msg → List Note
  | [], _ => []
  | m :: ms, o =>
    if m.nkey = k ∧ m.ty = .noteOn then nkNotes k ms (some m)
    else if m.nkey = k ∧ m.ty = .noteOff then
      match o with
      | some on => mkN on m.time :: nkNotes k ms none
      | none => nkNotes k ms none
    else nkNotes k ms o

theorem nkEnd_cons_on (k : Int × Int) (m : Msg) (l : List Msg) (o : Option Msg) (h : m.nkey = k ∧ m.ty = .noteOn) :
    nkEnd k (m :: l) o = nkEnd k l (some m) := by simp [nkEnd, h]
theorem nkEnd_cons_off (k : Int × Int) (m : Msg) (l : List Msg) (o : Option Msg) (h : m.nkey = k ∧ m.ty = .noteOff) :
    nkEnd k (m :: l) o = nkEnd k l none := by
  have h1 : ¬ (m.nkey = k ∧ m.ty = .noteOn) := by rw [h.2]; simp
  simp [nkEnd, h]
theorem nkEnd_cons_skip (k : Int × Int) (m : Msg) (l : List Msg) (o : Option Msg) (h : ¬ Kev k m) :
    nkEnd k (m :: l) o = nkEnd k l o := by
  simp [nkEnd, (not_kev_iff.1 h).1, (not_kev_iff.1 h).2]
theorem nkNotes_cons_on (k : Int × Int) (m : Msg) (l : List Msg) (o : Option Msg) (h : m.nkey = k ∧ m.ty = .noteOn) :
    nkNotes k (m :: l) o = nkNotes k l (some m) := by simp [nkNotes, h]
theorem nkNotes_cons_off (k : Int × Int) (m : Msg) (l : List Msg) (o : Option Msg) (h : m.nkey = k ∧ m.ty = .noteOff) :
    nkNotes k (m :: l) o = (match o with | some on => [mkN on m.time] | none => []) ++ nkNotes k l none := by
  have h1 : ¬ (m.nkey = k ∧ m.ty = .noteOn) := by rw [h.2]; simp
  cases o <;> simp [nkNotes, h]
theorem nkNotes_cons_skip (k : Int × Int) (m : Msg) (l : List Msg) (o : Option Msg) (h : ¬ Kev k m) :
    nkNotes k (m :: l) o = nkNotes k l o := by
  simp [nkNotes, (not_kev_iff.1 h).1, (not_kev_iff.1 h).2]

theorem nkEnd_append (k : Int × Int) (x y : List Msg) (o : Option Msg) :
    nkEnd k (x ++ y) o = nkEnd k y (nkEnd k x o) := by
  induction x generalizing o with
  | nil => rfl
  | cons m ms ih =>
    rw [List.cons_append]
    rcases kev_cases k m with h | h | h
    · rw [nkEnd_cons_on k m _ o h, nkEnd_cons_on k m _ o h, ih]
    · rw [nkEnd_cons_off k m _ o h, nkEnd_cons_off k m _ o h, ih]
    · rw [nkEnd_cons_skip k m _ o h, nkEnd_cons_skip k m _ o h, ih]

theorem nkNotes_append (k : Int × Int) (x y : List Msg) (o : Option Msg) :
    nkNotes k (x ++ y) o = nkNotes k x o ++ nkNotes k y (nkEnd k x o) := by
  induction x generalizing o with
  | nil => rfl
  | cons m ms ih =>
    rw [List.cons_append]
    rcases kev_cases k m with h | h | h
    · rw [nkNotes_cons_on k m _ o h, nkNotes_cons_on k m _ o h, nkEnd_cons_on k m _ o h, ih]
    · rw [nkNotes_cons_off k m _ o h, nkNotes_cons_off k m _ o h, nkEnd_cons_off k m _ o h, ih, List.append_assoc]
    · rw [nkNotes_cons_skip k m _ o h, nkNotes_cons_skip k m _ o h, nkEnd_cons_skip k m _ o h, ih]

theorem nk_filter (k : Int × Int) (l : List Msg) (o : Option Msg) :
    nkNotes k (l.filter (isKN k)) o = nkNotes k l o ∧ nkEnd k (l.filter (isKN k)) o = nkEnd k l o := by
  induction l generalizing o with
  | nil => exact ⟨rfl, rfl⟩
  | cons m ms ih =>
    rcases kev_cases k m with h | h | h
    · rw [List.filter_cons_of_pos (isKN_true ⟨h.1, Or.inl h.2⟩), nkNotes_cons_on k m _ o h, nkNotes_cons_on k m _ o h,
        nkEnd_cons_on k m _ o h, nkEnd_cons_on k m _ o h]
      exact ih _
    · rw [List.filter_cons_of_pos (isKN_true ⟨h.1, Or.inr h.2⟩), nkNotes_cons_off k m _ o h, nkNotes_cons_off k m _ o h,
        nkEnd_cons_off k m _ o h, nkEnd_cons_off k m _ o h, (ih none).1]
      exact ⟨rfl, (ih none).2⟩
    · rw [List.filter_cons_of_neg (isKN_false h), nkNotes_cons_skip k m _ o h, nkEnd_cons_skip k m _ o h]
      exact ih o

theorem nk_skip (k : Int × Int) (u : List Msg) (o : Option Msg) (h : ∀ x ∈ u, ¬ Kev k x) :
    nkNotes k u o = [] ∧ nkEnd k u o = o := by
  have := nk_filter k u o
  rw [List.filter_eq_nil_iff.2 fun x hx => isKN_false (h x hx)] at this
  exact ⟨this.1.symm, this.2.symm⟩

/-- every note read off `l` pairs a note-on (the waiting one, or one of `l`) with the tick of an event of `l` -/
theorem nkNotes_mem (k : Int × Int) (l : List Msg) : ∀ (o : Option Msg), ∀ n ∈ nkNotes k l o,
    ∃ on e, (o = some on ∨ on ∈ l) ∧ e ∈ l ∧ n = mkN on e.time := by
  induction l with
  | nil => intro o n hn; simp [nkNotes] at hn
  | cons m ms ih =>
    intro o n hn
    rcases kev_cases k m with h1 | h1 | h1
    · rw [nkNotes_cons_on k m _ _ h1] at hn
      obtain ⟨on, e, ho, he, rfl⟩ := ih _ n hn
      refine ⟨on, e, Or.inr ?_, List.mem_cons_of_mem _ he, rfl⟩
      rcases ho with ho | ho
      · cases ho; exact List.mem_cons_self
      · exact List.mem_cons_of_mem _ ho
    · rw [nkNotes_cons_off k m _ _ h1] at hn
      rcases List.mem_append.1 hn with hn | hn
      · cases o with
        | none => simp at hn
        | some on => exact ⟨on, m, Or.inl rfl, List.mem_cons_self, List.mem_singleton.1 hn⟩
      · obtain ⟨on, e, ho, he, rfl⟩ := ih _ n hn
        rcases ho with ho | ho
        · cases ho
        · exact ⟨on, e, Or.inr (List.mem_cons_of_mem _ ho), List.mem_cons_of_mem _ he, rfl⟩
    · rw [nkNotes_cons_skip k m _ _ h1] at hn
      obtain ⟨on, e, ho, he, rfl⟩ := ih _ n hn
      exact ⟨on, e, ho.imp id (List.mem_cons_of_mem _), List.mem_cons_of_mem _ he, rfl⟩

theorem nkNotes_off_le (k : Int × Int) (hi : Int) (l : List Msg) (o : Option Msg) (h : ∀ e ∈ l, e.time ≤ hi) :
    ∀ n ∈ nkNotes k l o, n.off ≤ hi := by
  intro n hn
  obtain ⟨on, e, _, he, rfl⟩ := nkNotes_mem k l o n hn
  exact h e he

theorem nkNotes_on_ge (k : Int × Int) (lo : Int) (l : List Msg) (o : Option Msg) (h : ∀ e ∈ l, lo ≤ e.time)
    (ho : ∀ on, o = some on → lo ≤ on.time) : ∀ n ∈ nkNotes k l o, lo ≤ n.on := by
  intro n hn
  obtain ⟨on, e, hon, _, rfl⟩ := nkNotes_mem k l o n hn
  exact hon.elim (ho on) (h on)

/-- a note that sounds across tick `b` becomes two, the second re-struck at `b`; any other note is kept -/
def cut1 (b : Int) (n : Note) : List Note :=
  if n.on < b ∧ b < n.off then [{ n with off := b }, { n with on := b }] else [n]

/-- cut at each tick of the list in turn -/
def cutNotes : List Int → List Note → List Note
  | [], N => N
  | b :: bs, N => cutNotes bs (N.flatMap (cut1 b))

theorem cut1_id (b : Int) (n : Note) (h : n.off ≤ b ∨ b ≤ n.on) : cut1 b n = [n] := by
  unfold cut1; rw [if_neg]; omega

theorem flatMap_cut1_id (b : Int) (N : List Note) (h : ∀ n ∈ N, n.off ≤ b ∨ b ≤ n.on) :
    N.flatMap (cut1 b) = N := by
  induction N with
  | nil => rfl
  | cons n ns ih =>
    rw [List.flatMap_cons, cut1_id b n (h n List.mem_cons_self), ih (fun x hx => h x (List.mem_cons_of_mem _ hx))]
    rfl

theorem cutNotes_append (bs : List Int) (N M : List Note) : cutNotes bs (N ++ M) = cutNotes bs N ++ cutNotes bs M := by
  induction bs generalizing N M with
  | nil => rfl
  | cons b bs ih => simp only [cutNotes, List.flatMap_append, ih]

theorem cutNotes_id (bs : List Int) (N : List Note) (h : ∀ n ∈ N, ∀ b ∈ bs, n.off ≤ b ∨ b ≤ n.on) :
    cutNotes bs N = N := by
  induction bs with
  | nil => rfl
  | cons b bs ih =>
    rw [cutNotes, flatMap_cut1_id b N (fun n hn => h n hn b List.mem_cons_self)]
    exact ih (fun n hn b' hb' => h n hn b' (List.mem_cons_of_mem _ hb'))

/-- the waiting note-on is cut at `b`; everything that follows lies after `b` -/
theorem nkNotes_cut_open (k : Int × Int) (b : Int) (on0 on1 : Msg) (l : List Msg)
    (halt : krun k true l = some false) (h0 : on0.time < b) (hl : ∀ e ∈ l, b < e.time)
    (h1 : ∀ t, mkN on1 t = { mkN on0 t with on := b }) :
    (nkNotes k l (some on0)).flatMap (cut1 b) = mkN on0 b :: nkNotes k l (some on1) := by
  induction l with
  | nil => simp at halt
  | cons m ms ih =>
    have hl' : ∀ e ∈ ms, b < e.time := fun e he => hl e (List.mem_cons_of_mem _ he)
    have hm := hl m List.mem_cons_self
    rcases kev_cases k m with h | h | h
    · rw [krun_cons_on k _ m ms h] at halt; simp at halt
    · rw [nkNotes_cons_off k m _ _ h, nkNotes_cons_off k m _ _ h]
      simp only [List.singleton_append, List.flatMap_cons]
      have hc : cut1 b (mkN on0 m.time) = [mkN on0 b, mkN on1 m.time] := by
        unfold cut1
        rw [if_pos (by simp only [mkN]; omega), h1]
        rfl
      rw [hc, flatMap_cut1_id b _ (fun n hn => Or.inr (Int.le_of_lt
        (nkNotes_on_ge k (b + 1) ms none (fun e he => hl' e he) (by intro on hon; cases hon) n hn)))]
      rfl
    · rw [krun_cons_skip k _ m ms h] at halt
      rw [nkNotes_cons_skip k m _ _ h, nkNotes_cons_skip k m _ _ h]
      exact ih halt hl'

/-- a message stamped with the tick at which it happens -/
def stamp (a : Int) (m : Msg) : Msg := { m with time := a }

theorem stamp_time (a : Int) (m : Msg) : (stamp a m).time = a := rfl

theorem krun_events (k : Int × Int) (a : Int) (l : List Msg) (b : Bool) :
    krun k b (eventsRelGo a l) = krun k b l := by
  rw [krun, kword_eventsRelGo]; rfl

/-- the waiting note-on follows the open flag of the alternation -/
theorem nkEnd_isSome (k : Int × Int) (l : List Msg) (b b' : Bool) (o : Option Msg)
    (h : krun k b l = some b') (ho : o.isSome = b) : (nkEnd k l o).isSome = b' := by
  induction l generalizing b o with
  | nil => simp only [krun_nil, Option.some.injEq] at h; subst h; exact ho
  | cons m ms ih =>
    rcases kev_cases k m with h1 | h1 | h1
    · rw [krun_cons_on k b m ms h1] at h
      cases b with
      | true => simp at h
      | false => rw [nkEnd_cons_on k m ms o h1]; exact ih true (some m) (by simpa using h) rfl
    · rw [krun_cons_off k b m ms h1] at h
      cases b with
      | false => simp at h
      | true => rw [nkEnd_cons_off k m ms o h1]; exact ih false none (by simpa using h) rfl
    · rw [krun_cons_skip k b m ms h1] at h
      rw [nkEnd_cons_skip k m ms o h1]; exact ih b o h ho

theorem nkEnd_of_kev (k : Int × Int) : ∀ (l : List Msg), (∃ x ∈ l, Kev k x) → ∀ w w', nkEnd k l w = nkEnd k l w' := by
  intro l
  induction l with
  | nil => rintro ⟨x, hx, _⟩; cases hx
  | cons m ms ih =>
    rintro ⟨x, hx, hk⟩ w w'
    rcases kev_cases k m with h | h | h
    · rw [nkEnd_cons_on k m ms _ h, nkEnd_cons_on k m ms _ h]
    · rw [nkEnd_cons_off k m ms _ h, nkEnd_cons_off k m ms _ h]
    · rw [nkEnd_cons_skip k m ms _ h, nkEnd_cons_skip k m ms _ h]
      rcases List.mem_cons.1 hx with rfl | hx
      · exact absurd hk h
      · exact ih ⟨x, hx, hk⟩ w w'

theorem nkEnd_mem (k : Int × Int) : ∀ (l : List Msg) (w : Option Msg) (on0 : Msg), nkEnd k l w = some on0 →
    w = some on0 ∨ (on0 ∈ l ∧ on0.ty = .noteOn) := by
  intro l
  induction l with
  | nil => intro w on0 h; exact Or.inl h
  | cons m ms ih =>
    intro w on0 h
    rcases kev_cases k m with h1 | h1 | h1
    · rw [nkEnd_cons_on k m ms _ h1] at h
      rcases ih _ on0 h with e | e
      · cases e; exact Or.inr ⟨List.mem_cons_self, h1.2⟩
      · exact Or.inr ⟨List.mem_cons_of_mem _ e.1, e.2⟩
    · rw [nkEnd_cons_off k m ms _ h1] at h
      rcases ih _ on0 h with e | e
      · cases e
      · exact Or.inr ⟨List.mem_cons_of_mem _ e.1, e.2⟩
    · rw [nkEnd_cons_skip k m ms _ h1] at h
      exact (ih _ on0 h).imp id fun e => ⟨List.mem_cons_of_mem _ e.1, e.2⟩

/-- the waiting note-on read off the timed events is the one read off the messages, up to its time stamp -/
theorem nkEnd_events (k : Int × Int) : ∀ (l : List Msg) (a : Int) (w w' : Option Msg), w.map (stamp 0) = w'.map (stamp 0) →
    (nkEnd k (eventsRelGo a l) w).map (stamp 0) = (nkEnd k l w').map (stamp 0) := by
  intro l
  induction l with
  | nil => intro a w w' h; exact h
  | cons m ms ih =>
    intro a w w' h
    by_cases hw : m.ty = .wait
    · rw [eventsRelGo_cons_wait a m ms hw, nkEnd_cons_skip k m ms _ (not_kev_of_ty (by simp [hw]) (by simp [hw]))]
      exact ih _ w w' h
    · rw [eventsRelGo_cons_nowait a m ms hw]
      change (nkEnd k (stamp a m :: _) w).map _ = _
      rcases kev_cases k m with h1 | h1 | h1
      · rw [nkEnd_cons_on k (stamp a m) _ _ h1, nkEnd_cons_on k m ms _ h1]
        exact ih a _ _ rfl
      · rw [nkEnd_cons_off k (stamp a m) _ _ h1, nkEnd_cons_off k m ms _ h1]
        exact ih a _ _ rfl
      · rw [nkEnd_cons_skip k (stamp a m) _ _ h1, nkEnd_cons_skip k m ms _ h1]
        exact ih a w w' h

/-- `n'` is a piece of `n`: same channel, pitch and velocity, inside `n`, and it starts where `n` starts or
    while `n` is sounding -/
def Frag (n n' : Note) : Prop :=
  n'.ch = n.ch ∧ n'.pitch = n.pitch ∧ n'.vel = n.vel ∧ n.on ≤ n'.on ∧ n'.off ≤ n.off ∧ (n'.on = n.on ∨ n'.on < n.off)

theorem Frag.refl (n : Note) : Frag n n := ⟨rfl, rfl, rfl, Int.le_refl _, Int.le_refl _, Or.inl rfl⟩

theorem Frag.trans {a b c : Note} (h1 : Frag a b) (h2 : Frag b c) : Frag a c := by
  obtain ⟨a1, a2, a3, a4, a5, a6⟩ := h1
  obtain ⟨b1, b2, b3, b4, b5, b6⟩ := h2
  refine ⟨b1.trans a1, b2.trans a2, b3.trans a3, by omega, by omega, ?_⟩
  omega

theorem cut1_frag (b : Int) (n : Note) : ∀ n' ∈ cut1 b n, Frag n n' := by
  intro n' hn'
  unfold cut1 at hn'
  split at hn'
  · rename_i hc
    simp only [List.mem_cons, List.not_mem_nil, or_false] at hn'
    rcases hn' with rfl | rfl
    · exact ⟨rfl, rfl, rfl, Int.le_refl _, by simp; omega, Or.inl rfl⟩
    · exact ⟨rfl, rfl, rfl, by simp; omega, Int.le_refl _, Or.inr (by simp; omega)⟩
  · simp only [List.mem_singleton] at hn'; subst hn'; exact Frag.refl _

theorem cutNotes_frag (bs : List Int) : ∀ (N : List Note), ∀ n' ∈ cutNotes bs N, ∃ n ∈ N, Frag n n' := by
  induction bs with
  | nil => intro N n' hn'; exact ⟨n', hn', Frag.refl _⟩
  | cons b bs ih =>
    intro N n' hn'
    obtain ⟨n1, hn1, hf1⟩ := ih _ n' hn'
    obtain ⟨n, hn, hn1'⟩ := List.mem_flatMap.1 hn1
    exact ⟨n, hn, (cut1_frag b n n1 hn1').trans hf1⟩

/-- waiting note-on and notes so far of key `k`, advanced over the timed events `evs` -/
def nkRun (k : Int × Int) (evs : List Msg) (st : Option Msg × List Note) : Option Msg × List Note :=
  (nkEnd k evs st.1, st.2 ++ nkNotes k evs st.1)

/-- the same along the relative list `l` started at clock `a` -/
def R (k : Int × Int) (a : Int) (l : List Msg) (st : Option Msg × List Note) : Option Msg × List Note :=
  nkRun k (eventsRelGo a l) st

theorem nkRun_append (k : Int × Int) (x y : List Msg) (st : Option Msg × List Note) :
    nkRun k (x ++ y) st = nkRun k y (nkRun k x st) := by
  simp only [nkRun, nkEnd_append, nkNotes_append, List.append_assoc]

theorem nkRun_filter (k : Int × Int) (evs : List Msg) (st : Option Msg × List Note) :
    nkRun k (evs.filter (isKN k)) st = nkRun k evs st := by
  rw [nkRun, nkRun, (nk_filter k evs st.1).1, (nk_filter k evs st.1).2]

theorem R_append (k : Int × Int) (a : Int) (u y : List Msg) (st : Option Msg × List Note) :
    R k a (u ++ y) st = R k (a + totalWait u) y (R k a u st) := by
  simp only [R, eventsRelGo_append, nkRun_append]

theorem R_nil (k : Int × Int) (a : Int) (st : Option Msg × List Note) : R k a [] st = st := by
  obtain ⟨o, N⟩ := st
  simp [R, nkRun, eventsRelGo, nkEnd, nkNotes]

theorem R_cons_wait (k : Int × Int) (a : Int) (m : Msg) (l : List Msg) (st : Option Msg × List Note)
    (h : m.ty = .wait) : R k a (m :: l) st = R k (a + m.time) l st := by
  simp only [R, eventsRelGo_cons_wait a m l h]

theorem R_mkWait (k : Int × Int) (a c w : Int) (l : List Msg) (st : Option Msg × List Note) :
    R k a (Msg.mkWait c w :: l) st = R k (a + w) l st :=
  R_cons_wait k a _ l st rfl

theorem kev_events {k : Int × Int} {a : Int} {u : List Msg} (h : ∀ x ∈ u, ¬ Kev k x) :
    ∀ e ∈ eventsRelGo a u, ¬ Kev k e := by
  intro e he
  obtain ⟨m, hm, -, c', rfl⟩ := eventsRelGo_src u a e he
  exact h m hm

theorem R_skip (k : Int × Int) (a : Int) (u : List Msg) (st : Option Msg × List Note) (h : ∀ x ∈ u, ¬ Kev k x) :
    R k a u st = st := by
  obtain ⟨o, N⟩ := st
  obtain ⟨h1, h2⟩ := nk_skip k (eventsRelGo a u) o (kev_events h)
  simp [R, nkRun, h1, h2]

theorem nkRun_single_on (k : Int × Int) (e : Msg) (st : Option Msg × List Note) (h : e.nkey = k ∧ e.ty = .noteOn) :
    nkRun k [e] st = (some e, st.2) := by
  unfold nkRun
  rw [nkEnd_cons_on k e _ _ h, nkNotes_cons_on k e _ _ h]
  simp [nkEnd, nkNotes]

theorem nkRun_single_off (k : Int × Int) (e : Msg) (st : Option Msg × List Note) (h : e.nkey = k ∧ e.ty = .noteOff) :
    nkRun k [e] st = (none, st.2 ++ (match st.1 with | some on => [mkN on e.time] | none => [])) := by
  unfold nkRun
  rw [nkEnd_cons_off k e _ _ h, nkNotes_cons_off k e _ _ h]
  simp [nkEnd, nkNotes]

theorem nkRun_single_skip (k : Int × Int) (e : Msg) (st : Option Msg × List Note) (h : ¬ Kev k e) :
    nkRun k [e] st = st := by
  obtain ⟨o, N⟩ := st
  unfold nkRun
  rw [nkEnd_cons_skip k e _ _ h, nkNotes_cons_skip k e _ _ h]
  simp [nkEnd, nkNotes]

theorem R_cons_nowait (k : Int × Int) (a : Int) (m : Msg) (l : List Msg) (st : Option Msg × List Note)
    (h : m.ty ≠ .wait) : R k a (m :: l) st = R k a l (nkRun k [stamp a m] st) := by
  simp only [R, eventsRelGo_cons_nowait a m l h]
  exact nkRun_append k [stamp a m] _ st

/-- the test "note `n` has key `k`" -/
def keyIs (k : Int × Int) (n : Note) : Bool := decide ((n.ch, n.pitch) = k)

theorem notesGo_konly (k : Int × Int) : ∀ (l os : List Msg), (∀ m ∈ l, isKN k m = true) → (∀ o ∈ os, o.nkey = k) →
    notesGo l os = nkNotes k l os.head? := by
  intro l
  induction l with
  | nil => intro os _ _; rfl
  | cons x xs ih =>
    intro os hl hos
    have ih' := fun os' => ih os' fun m hm => hl m (List.mem_cons_of_mem _ hm)
    have hdrop : os.filter (fun o => o.nkey != x.nkey) = [] :=
      List.filter_eq_nil_iff.2 fun o ho => by simp [hos o ho, (isKN_iff_kev.1 (hl x List.mem_cons_self)).1]
    obtain ⟨hk, hty | hty⟩ := isKN_iff_kev.1 (hl x List.mem_cons_self)
    · rw [notesGo_cons_on hty, hdrop, nkNotes_cons_on k x xs _ ⟨hk, hty⟩]
      exact ih' [x] fun o ho => (List.mem_singleton.1 ho) ▸ hk
    · rw [nkNotes_cons_off k x xs _ ⟨hk, hty⟩]
      cases os with
      | nil => rw [notesGo_cons_off_none hty _ _ rfl, ih' [] fun _ ho => nomatch ho]; rfl
      | cons o os' =>
        have ho : (o.nkey == x.nkey) = true := by simp [hos o List.mem_cons_self, hk]
        rw [notesGo_cons_off_some hty _ _ (List.find?_cons_of_pos ho), hdrop, ih' [] fun _ ho => nomatch ho]; rfl

theorem notesGo_key (k : Int × Int) (l os : List Msg) :
    (notesGo l os).filter (keyIs k) = nkNotes k l (os.find? (fun o => o.nkey == k)) := by
  rw [← List.head?_filter, ← (nk_filter k l _).1]
  exact (NotesL.notesGo_proj k l os).trans
    (notesGo_konly k _ _ (fun m hm => (List.mem_filter.1 hm).2) fun o ho => by simpa using (List.mem_filter.1 ho).2)

theorem notesOf_key (k : Int × Int) (evs : List Msg) : (notesOf evs).filter (keyIs k) = nkNotes k evs none :=
  notesGo_key k evs []

theorem mem_notesOf_of_nk {k : Int × Int} {evs : List Msg} {n : Note} (h : n ∈ nkNotes k evs none) :
    n ∈ notesOf evs := by
  rw [← notesOf_key] at h
  exact (List.mem_filter.1 h).1

theorem perm_of_keys (N M : List Note) (h : ∀ k, N.filter (keyIs k) = M.filter (keyIs k)) : N.Perm M :=
  NotesL.perm_of_filters (fun n : Note => (n.ch, n.pitch)) N M h

theorem cut1_key (k : Int × Int) (b : Int) (n : Note) : ∀ n' ∈ cut1 b n, keyIs k n' = keyIs k n := by
  intro n' hn'
  unfold cut1 at hn'
  split at hn'
  · simp only [List.mem_cons, List.not_mem_nil, or_false] at hn'
    rcases hn' with rfl | rfl <;> rfl
  · simp only [List.mem_singleton] at hn'; subst hn'; rfl

theorem flatMap_cut1_filter (k : Int × Int) (b : Int) (N : List Note) :
    (N.flatMap (cut1 b)).filter (keyIs k) = (N.filter (keyIs k)).flatMap (cut1 b) := by
  induction N with
  | nil => rfl
  | cons n ns ih =>
    rw [List.flatMap_cons, List.filter_append, ih, List.filter_cons]
    have hall := cut1_key k b n
    by_cases hk : keyIs k n = true
    · rw [if_pos hk, List.flatMap_cons]
      congr 1
      exact List.filter_eq_self.2 (fun x hx => by rw [hall x hx]; exact hk)
    · rw [if_neg hk]
      have : (cut1 b n).filter (keyIs k) = [] :=
        List.filter_eq_nil_iff.2 (fun x hx => by rw [hall x hx]; exact hk)
      rw [this, List.nil_append]

theorem cutNotes_filter (k : Int × Int) (bs : List Int) (N : List Note) :
    (cutNotes bs N).filter (keyIs k) = cutNotes bs (N.filter (keyIs k)) := by
  induction bs generalizing N with
  | nil => rfl
  | cons b bs ih => simp only [cutNotes, ih, flatMap_cut1_filter]

/-- tick `t` lies inside one of the notes -/
def Covered (N : List Note) (t : Int) : Prop := ∃ n ∈ N, n.on ≤ t ∧ t < n.off

theorem covered_append (N M : List Note) (t : Int) : Covered (N ++ M) t ↔ Covered N t ∨ Covered M t := by
  simp only [Covered, List.mem_append, or_and_right, exists_or]

theorem covered_cut1 (b : Int) (n : Note) (t : Int) : Covered (cut1 b n) t ↔ Covered [n] t := by
  unfold cut1
  split
  · simp only [Covered, List.mem_cons, List.not_mem_nil, or_false, exists_eq_or_imp, exists_eq_left]
    omega
  · rfl

theorem covered_flatMap_cut1 (b : Int) (N : List Note) (t : Int) : Covered (N.flatMap (cut1 b)) t ↔ Covered N t := by
  induction N with
  | nil => rfl
  | cons n ns ih =>
    rw [List.flatMap_cons, covered_append, covered_cut1, ih, ← covered_append]; rfl

theorem covered_cutNotes (bs : List Int) (N : List Note) (t : Int) : Covered (cutNotes bs N) t ↔ Covered N t := by
  induction bs generalizing N with
  | nil => rfl
  | cons b bs ih => rw [cutNotes, ih, covered_flatMap_cut1]

open NotesBL in
theorem nkNotes_unpair (k : Int × Int) : ∀ P : List (Msg × Msg), (∀ p ∈ P, GoodPair k p) →
    nkNotes k (unpair P) none = P.map NotesL.mkNote := by
  intro P
  induction P with
  | nil => intro _; rfl
  | cons p P ih =>
    intro hg
    have g := hg p List.mem_cons_self
    rw [unpair_cons, nkNotes_cons_on k _ _ _ ⟨g.k1, g.on⟩, nkNotes_cons_off k _ _ _ ⟨g.k2, g.off⟩,
      ih fun q hq => hg q (List.mem_cons_of_mem _ hq)]
    rfl

open NotesBL in
theorem nkNotes_of_form {k : Int × Int} {evs : List Msg} {P : List (Msg × Msg)} (hP : evs.filter (isKN k) = unpair P)
    (hg : ∀ p ∈ P, GoodPair k p) : nkNotes k evs none = P.map NotesL.mkNote := by
  rw [← (nk_filter k evs none).1, hP, nkNotes_unpair k P hg]

theorem on_note (k : Int × Int) (l : List Msg) (halt : krun k false l = some false) (m : Msg) (hm : m ∈ l)
    (hk : m.nkey = k) (hty : m.ty = .noteOn) : ∃ t, mkN m t ∈ nkNotes k l none := by
  obtain ⟨P, hP, hg⟩ := NotesBL.key_form k l ((altFrom_iff_run k false l).2 halt)
  obtain ⟨p, hp, rfl | rfl⟩ := NotesBL.mem_unpair.1 (hP ▸ List.mem_filter.2 ⟨hm, isKN_true ⟨hk, Or.inl hty⟩⟩)
  · exact ⟨p.2.time, nkNotes_of_form hP hg ▸ List.mem_map_of_mem hp⟩
  · exact absurd ((hg p hp).off ▸ hty) (by simp)

open NotesBL in
/-- on the normal form in time order, the depth at tick `t` counts the pair that covers `t` -/
theorem depth_unpair_le (k : Int × Int) (t : Int) : ∀ P : List (Msg × Msg), (∀ p ∈ P, GoodPair k p) →
    MergeL.Sorted (unpair P) → ∃ c : Bool, (c = true ↔ Covered (P.map NotesL.mkNote) t) ∧
      ∀ d, depth k ((unpair P).filter (fun m => decide (m.time ≤ t))) d = d + c.toNat := by
  intro P
  induction P with
  | nil => intro _ _; exact ⟨false, by simp [Covered], fun d => rfl⟩
  | cons p P ih =>
    intro hg hs
    have g := hg p List.mem_cons_self
    obtain ⟨h12, hrest, hs'⟩ := unpair_sorted_cons hs
    have hcons : Covered ((p :: P).map NotesL.mkNote) t ↔ (p.1.time ≤ t ∧ t < p.2.time) ∨ Covered (P.map NotesL.mkNote) t := by
      simp [Covered, NotesL.mkNote]
    rw [unpair_cons, hcons]
    by_cases h2 : p.2.time ≤ t
    · -- the first note is over by `t`
      obtain ⟨c, hc, hd⟩ := ih (fun q hq => hg q (List.mem_cons_of_mem _ hq)) hs'
      refine ⟨c, hc.trans ⟨Or.inr, fun h => h.resolve_left (by omega)⟩, fun d => ?_⟩
      rw [List.filter_cons_of_pos (by simpa using Int.le_trans h12 h2), List.filter_cons_of_pos (by simpa using h2),
        depth_cons_on ⟨g.k1, g.on⟩, depth_cons_off ⟨g.k2, g.off⟩]
      exact hd d
    · -- it ends after `t`, and everything behind it begins after `t`
      have tail : (p.2 :: unpair P).filter (fun m => decide (m.time ≤ t)) = [] :=
        filter_le_eq_nil _ t fun e he => (List.mem_cons.1 he).elim (fun e => by rw [e]; omega) (fun he => by have := hrest e he; omega)
      have later : ¬ Covered (P.map NotesL.mkNote) t := by
        rintro ⟨n, hn, h1, _⟩
        obtain ⟨q, hq, rfl⟩ := List.mem_map.1 hn
        have := hrest q.1 (mem_unpair.2 ⟨q, hq, Or.inl rfl⟩)
        simp only [NotesL.mkNote] at h1
        omega
      by_cases h1 : p.1.time ≤ t
      · refine ⟨true, iff_of_true rfl (Or.inl ⟨h1, by omega⟩), fun d => ?_⟩
        rw [List.filter_cons_of_pos (by simpa using h1), tail, depth_cons_on ⟨g.k1, g.on⟩]; rfl
      · exact ⟨false, iff_of_false (fun h => nomatch h) fun h => h.elim (fun h => h1 h.1) later,
          fun d => by rw [List.filter_cons_of_neg (by simpa using h1), tail]; rfl⟩

theorem depth_covered (k : Int × Int) (t : Int) (evs : List Msg) (halt : krun k false evs = some false)
    (hs : evs.Pairwise (fun a b => a.time ≤ b.time)) : ∃ c : Bool, (c = true ↔ Covered (nkNotes k evs none) t) ∧
      ∀ d, depth k (evs.filter (fun m => decide (m.time ≤ t))) d = d + c.toNat := by
  obtain ⟨P, hP, hg⟩ := NotesBL.key_form k evs ((altFrom_iff_run k false evs).2 halt)
  obtain ⟨c, hc, hd⟩ := depth_unpair_le k t P hg (hP ▸ hs.filter _)
  refine ⟨c, by rw [hc, nkNotes_of_form hP hg], fun d => ?_⟩
  rw [← hd, ← hP, filter_comm', depth_filter_kn]

theorem Dp_covered (k : Int × Int) (t a : Int) (l : List Msg) (hl : NonNegWaits l) (halt : krun k false l = some false) :
    ∃ c : Bool, (c = true ↔ Covered (nkNotes k (eventsRelGo a l) none) t) ∧ ∀ d, Dp k t a l d = d + c.toNat :=
  depth_covered k t _ (by rw [krun_events]; exact halt) (events_sorted l a hl)

theorem Dp_of_covered (k : Int × Int) (t a : Int) (l l' : List Msg) (hl : NonNegWaits l) (hl' : NonNegWaits l')
    (h : krun k false l = some false) (h' : krun k false l' = some false)
    (hc : Covered (nkNotes k (eventsRelGo a l) none) t ↔ Covered (nkNotes k (eventsRelGo a l') none) t) (d : Nat) :
    Dp k t a l d = Dp k t a l' d := by
  obtain ⟨c, hc1, hd⟩ := Dp_covered k t a l hl h
  obtain ⟨c', hc1', hd'⟩ := Dp_covered k t a l' hl' h'
  rw [hd, hd', Bool.eq_iff_iff.2 (hc1.trans (hc.trans hc1'.symm))]

/-- **sounding from notes**: in an alternating, time-sorted event list a key sounds at `t` exactly when one of its
    notes covers `t` -/
theorem soundingAt_iff_covered (k : Int × Int) (t : Int) (evs : List Msg) (halt : krun k false evs = some false)
    (hs : evs.Pairwise (fun a b => a.time ≤ b.time)) : SoundingAt evs k t ↔ Covered (nkNotes k evs none) t := by
  obtain ⟨c, hc, hd⟩ := depth_covered k t evs halt hs
  rw [← hc, SoundingAt, hd 0]
  cases c <;> simp

theorem sounding_iff_covered (k : Int × Int) (t : Int) (l : List Msg) (hl : NonNegWaits l) (hwf : WF l) :
    SoundingAt (eventsRel l) k t ↔ Covered (nkNotes k (eventsRel l) none) t :=
  soundingAt_iff_covered k t _ (by rw [eventsRel, krun_events]; exact (wf_iff l).1 hwf k) (events_sorted l 0 hl)

end SCoda.Strong589L
