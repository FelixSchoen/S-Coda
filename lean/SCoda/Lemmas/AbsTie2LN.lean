/-
  `quantise_note_lengths`: the generated `quantiseNoteLengths` (pairings, stores through
  `message_pairing[1].time += …`, `note_occurrences`, `list.index`, `list.remove`) against the hand model of Model/Quantise.lean.
  The model never fails and is a function of the pairings, pairing by pairing (`NL.quantise_eq`, `NL.stepOne` of
  Lemmas/NoteLengths), so the tie is a `Sat` statement: the loop over the channels keeps `NRel`, the loop over the pairings of a channel
  keeps `BRel` and computes `NL.stepOne` (`qnl_spec`).
-/
import SCoda.Lemmas.AbsTie2LC
import SCoda.Lemmas.NoteLengths
namespace SCoda.AbsTie2L
open SCoda SCoda.Gen.Abs2 SCoda.AbsTie2

theorem pyRemove_mem (l : List Int) (x : Int) (h : x ∈ l) : pyRemove l x = .ok (removeFirst x l) := by
  induction l with
  | nil => simp at h
  | cons y ys ih =>
    simp only [pyRemove, removeFirst]
    by_cases hy : y = x
    · simp [hy]; rfl
    · have hy' : (y == x) = false := by simpa using hy
      have hx : x ∈ ys := by
        rcases List.mem_cons.1 h with e | h
        · exact absurd e.symm hy
        · exact h
      simp only [hy, if_false, hy', Bool.false_eq_true, ih hx]
      rfl

/-- first loop (`valid_durations.remove(note_value)` without a guard): it never raises because `valid_durations` starts as a copy of
    `note_values` and every value is removed at most as often as it occurs -/
theorem remove_loop (c : Int → Bool) : ∀ (rest v : List Int), (∀ x, rest.count x ≤ v.count x) →
    forIn rest v (fun (nv : Int) (v : List Int) =>
      (if c nv = true then (do let r ← pyRemove v nv; pure (ForInStep.yield r)) else pure (ForInStep.yield v) : Except PyErr (ForInStep (List Int))))
      = .ok (rest.foldl (fun v x => if c x then removeFirst x v else v) v) := by
  intro rest
  induction rest with
  | nil => intro v _; rfl
  | cons x xs ih =>
    intro v hcount
    rw [List.forIn_cons]
    simp only [List.foldl_cons]
    have hxv : x ∈ v := by
      have := hcount x
      simp only [List.count_cons_self] at this
      exact List.count_pos_iff.1 (by omega)
    by_cases hc : c x = true
    · simp only [hc, if_true, pyRemove_mem v x hxv, ok_bind]
      apply ih
      intro y
      rw [NL.removeFirst_eq_erase, List.count_erase]
      have := hcount y
      rw [List.count_cons] at this
      by_cases hyx : x = y
      · subst hyx; simp at this ⊢; omega
      · have h1 : (x == y) = false := by simpa using hyx
        have h2 : (y == x) = false := by simpa using (fun e => hyx e.symm)
        simp only [h1, Bool.false_eq_true, if_false] at this ⊢
        omega
    · have hc' : c x = false := by simpa using hc
      simp only [hc', Bool.false_eq_true, if_false, ok_bind, pure_eq_ok]
      apply ih
      intro y
      have := hcount y
      rw [List.count_cons] at this
      omega

/-- second loop (guarded by `note_value in valid_durations`) -/
theorem remove_loop_guarded (c : Int → Bool) (rest v : List Int) :
    forIn rest v (fun (nv : Int) (v : List Int) =>
      (if (c nv && v.contains nv) = true then (do let r ← pyRemove v nv; pure (ForInStep.yield r)) else pure (ForInStep.yield v) : Except PyErr (ForInStep (List Int))))
      = .ok (rest.foldl (fun v x => if c x && v.contains x then removeFirst x v else v) v) := by
  refine forIn_fold' _ _ (fun x v => ?_) rest v
  by_cases hc : (c x && v.contains x) = true
  · rw [if_pos hc, if_pos hc, pyRemove_mem v x (List.contains_iff_mem.1 (Bool.and_eq_true _ _ ▸ hc).2)]; rfl
  · rw [if_neg hc, if_neg hc]; rfl

def headNote (h : Heap) (p : List Nat) : Int := (hGet h (p.headD 0)).note

def samePitch (h : Heap) (n : Int) (p : List Nat) : Bool := headNote h p == n

/-- one step of the loop that builds `note_occurrences` -/
def noStep (h : Heap) (no : Assoc Int (List (List Nat))) (p : List Nat) : Assoc Int (List (List Nat)) :=
  (dictSetDefault no (headNote h p) []).set (headNote h p) (((dictSetDefault no (headNote h p) []).get? (headNote h p)).getD [] ++ [p])

theorem noStep_get (h : Heap) (no : Assoc Int (List (List Nat))) (p : List Nat) (n : Int) :
    (noStep h no p).get? n = if headNote h p = n then some ((no.get? n).getD [] ++ [p]) else no.get? n := by
  unfold noStep
  rw [Q.get?_set]
  by_cases hn : headNote h p = n
  · subst hn
    simp only [if_true, get?_setDefault]
    cases no.get? (headNote h p) <;> simp
  · simp only [hn, if_false, get?_setDefault]

theorem noFold_get (h : Heap) (n : Int) : ∀ (row : List (List Nat)) (no : Assoc Int (List (List Nat))),
    (row.foldl (noStep h) no).get? n
      = if row.filter (samePitch h n) = [] then no.get? n
        else some ((no.get? n).getD [] ++ row.filter (samePitch h n)) := by
  intro row
  induction row with
  | nil => intro no; simp
  | cons p ps ih =>
    intro no
    simp only [List.foldl_cons, ih, noStep_get, List.filter_cons, samePitch]
    by_cases hn : headNote h p = n
    · have hb : (headNote h p == n) = true := by simpa using hn
      simp only [hn, if_true, Option.getD_some, List.append_assoc, List.cons_append, List.nil_append]
      split
      · rename_i he; simp [he]
      · simp
    · have hb : (headNote h p == n) = false := by simpa using hn
      simp only [hn, if_false, hb, Bool.false_eq_true]

theorem pyIndexGo_append {α : Type} [DecidableEq α] (x : α) : ∀ (A B : List α) (i : Int), x ∉ A →
    pyIndexGo (A ++ x :: B) x i = .ok (i + (A.length : Int)) := by
  intro A
  induction A with
  | nil => intro B i _; simp [pyIndexGo]; rfl
  | cons a as ih =>
    intro B i hx
    have ha : ¬ a = x := fun e => hx (by simp [e])
    simp only [List.cons_append, pyIndexGo, ha, if_false]
    rw [ih B (i + 1) (fun h => hx (by simp [h]))]
    congr 1
    simp only [List.length_cons]
    omega

theorem filter_split {α : Type} (P : α → Bool) (row : List α) (k : Nat) (hk : k < row.length) (hP : P row[k] = true) :
    row.filter P = (row.take k).filter P ++ row[k] :: (row.drop (k + 1)).filter P := by
  have : row = row.take k ++ row[k] :: row.drop (k + 1) := by
    rw [← List.drop_eq_getElem_cons hk, List.take_append_drop]
  have h2 : (row.take k ++ row[k] :: row.drop (k + 1)).filter P = (row.take k).filter P ++ row[k] :: (row.drop (k + 1)).filter P := by
    rw [List.filter_append, List.filter_cons, hP]; rfl
  rw [← h2, ← this]

/-- position of the `k`-th pairing among the pairings of its pitch, and the one after it -/
theorem index_next {α : Type} [DecidableEq α] (P : α → Bool) (row : List α) (hnd : row.Nodup) (k : Nat) (hk : k < row.length)
    (hP : P row[k] = true) :
    pyIndex (row.filter P) row[k] = .ok ((((row.take k).filter P).length : Nat) : Int) ∧
    (row.filter P)[((row.take k).filter P).length + 1]? = (row.drop (k + 1)).find? P ∧
    (row.filter P).length = ((row.take k).filter P).length + 1 + ((row.drop (k + 1)).filter P).length := by
  have hsplit := filter_split P row k hk hP
  have hnot : row[k] ∉ (row.take k).filter P := by
    intro hm
    have hm' : row[k] ∈ row.take k := (List.mem_filter.1 hm).1
    obtain ⟨j, hj, hje⟩ := List.getElem_of_mem hm'
    have hjk : j < k := by simp at hj; omega
    rw [List.getElem_take] at hje
    have hjl : j < row.length := by omega
    have := (List.pairwise_iff_getElem.1 hnd) j k hjl hk hjk
    exact this hje
  refine ⟨?_, ?_, ?_⟩
  · rw [pyIndex, hsplit, pyIndexGo_append _ _ _ _ hnot]; simp
  · rw [hsplit, List.getElem?_append_right (by omega)]
    have : ((row.take k).filter P).length + 1 - ((row.take k).filter P).length = 1 := by omega
    rw [this, List.getElem?_cons_succ, ← List.head?_filter]
    cases (row.drop (k + 1)).filter P <;> rfl
  · rw [hsplit]; simp; omega

/-- relation between the outer loop state (heap, quantised_messages) and the model's collected notes -/
structure NRel (h1 : Heap) (pre : List (List (List Nat))) (b : Heap × List Nat) (acc : List Msg) : Prop where
  out : deref b.1 b.2 = acc
  len : b.1.length = h1.length
  un : ∀ r, (∀ row ∈ pre, ∀ p ∈ row, p[1]? ≠ some r) → hGet b.1 r = hGet h1 r
  qr : ∀ r ∈ b.2, ∃ row ∈ pre, ∃ p ∈ row, r ∈ p
  ty : ∀ r, (hGet b.1 r).ty = (hGet h1 r).ty

/-- state of the loop over the pairings of one channel: `kept` are the processed pairings (a removed one is `[]`) -/
structure BRel (heap : Heap) (row : List (List Nat)) (k : Nat) (b : Heap × List (List Nat)) (out : List Pairing) : Prop where
  shape : ∃ kept, b.2 = kept ++ row.drop k ∧ kept.length = k ∧ kept.map (deref b.1) = out ∧ ∀ p ∈ kept, p = [] ∨ p ∈ row.take k
  len : b.1.length = heap.length
  un : ∀ r, (∀ p ∈ row.take k, p[1]? ≠ some r) → hGet b.1 r = hGet heap r
  ty : ∀ r, (hGet b.1 r).ty = (hGet heap r).ty

theorem zipIdx_enumFrom (h1 : Heap) : ∀ (row : List (List Nat)) (k : Nat),
    (row.map (deref h1)).zipIdx k = (enumFrom (k : Int) row).map (fun x => (deref h1 x.2, x.1.toNat)) := by
  intro row
  induction row with
  | nil => intro k; simp [enumFrom_nil]
  | cons p ps ih =>
    intro k
    rw [enumFrom_cons]
    simp only [List.map_cons, List.zipIdx_cons, Int.toNat_natCast, List.cons.injEq, true_and]
    have : ((k : Int) + 1) = ((k + 1 : Nat) : Int) := by omega
    rw [this]
    exact ih (k + 1)

theorem flatten_disjoint {α : Type} (l : List (List α)) (h : l.flatten.Nodup) (j k : Nat) (hj : j < l.length) (hk : k < l.length)
    (hjk : j ≠ k) (x : α) (hxj : x ∈ l[j]) (hxk : x ∈ l[k]) : False := by
  have hd := List.pairwise_iff_getElem.1 (List.pairwise_flatten.1 h).2
  rcases Nat.lt_or_gt_of_ne hjk with hlt | hgt
  · exact hd j k hj hk hlt x hxj x hxk rfl
  · exact hd k j hk hj hgt x hxk x hxj rfl

theorem nodup_of_flatten {α : Type} (l : List (List α)) (h : l.flatten.Nodup) (hne : ∀ p ∈ l, p ≠ []) : l.Nodup := by
  rw [List.nodup_iff_pairwise_ne, List.pairwise_iff_getElem]
  intro i j hi hj hij e
  have hne' := hne l[i] (List.getElem_mem hi)
  obtain ⟨x, hx⟩ := List.exists_mem_of_ne_nil _ hne'
  exact flatten_disjoint l h i j hi hj (by omega) x hx (e ▸ hx)

theorem mem_take_succ {α : Type} (l : List α) (k : Nat) (x : α) (h : x ∈ l.take k) : x ∈ l.take (k + 1) := by
  rw [List.take_add]; exact List.mem_append_left _ h

theorem BRel.length_eq {heap row k b out} (hB : BRel heap row k b out) (hk : k ≤ row.length) : b.2.length = row.length := by
  obtain ⟨⟨kept, h1, h2, _⟩, _⟩ := hB
  rw [h1, List.length_append, List.length_drop, h2]; omega

/-- `message_pairings[i] = []`: the `k`-th pairing has no valid duration left -/
theorem brel_removed {heap row k b out} (hB : BRel heap row k b out) (hk : k < row.length) :
    BRel heap row (k + 1) (b.1, b.2.set k []) (out ++ [[]]) := by
  obtain ⟨⟨kept, hk1, hk2, hk3, hk4⟩, hlen, hun, hty⟩ := hB
  subst hk2
  refine ⟨⟨kept ++ [[]], ?_, by simp, by simp [hk3, deref], ?_⟩, hlen, fun r hr => hun r fun q hq => hr q (mem_take_succ _ _ _ hq), hty⟩
  · rw [hk1, List.drop_eq_getElem_cons hk, List.set_append_right _ _ (Nat.le_refl _), Nat.sub_self, List.set_cons_zero, List.append_assoc]; rfl
  · intro q hq
    rcases List.mem_append.1 hq with hq | hq
    · exact (hk4 q hq).imp id (mem_take_succ _ _ _)
    · simp at hq; exact Or.inl hq

/-- `message_pairing[1].time += correction`: the store `f` to the second cell `s` of the `k`-th pairing `[a, s]`; no earlier pairing of the
    row holds `a` or `s`, so what has been collected reads as before -/
theorem brel_stored {heap row k b out} (hB : BRel heap row k b out) (hk : k < row.length) {a s : Nat} (hp : row[k] = [a, s])
    (has : a ≠ s) (hs : s < b.1.length) (hfresh : ∀ r ∈ [a, s], ∀ q ∈ row.take k, r ∉ q)
    (f : Msg → Msg) (hf : ∀ m, (f m).ty = m.ty) :
    BRel heap row (k + 1) (hUpd b.1 s f, b.2) (out ++ [[hGet b.1 a, f (hGet b.1 s)]]) := by
  obtain ⟨⟨kept, hk1, hk2, hk3, hk4⟩, hlen, hun, hty⟩ := hB
  subst hk2
  have hdrop : row.drop kept.length = [a, s] :: row.drop (kept.length + 1) := by rw [List.drop_eq_getElem_cons hk, hp]
  have hin : [a, s] ∈ row.take (kept.length + 1) := by
    rw [List.take_add]; apply List.mem_append_right; rw [hdrop]; simp
  refine ⟨⟨kept ++ [[a, s]], ?_, by simp, ?_, ?_⟩, ?_, ?_, ?_⟩
  · rw [hk1, hdrop]; simp
  · simp only [List.map_append, List.map_cons, List.map_nil]
    congr 1
    · rw [← hk3]
      apply List.map_congr_left
      intro q hq
      rcases hk4 q hq with rfl | hqr
      · rfl
      · apply List.map_congr_left
        intro r hr
        rw [hGet_hUpd_ne]
        intro e; subst e
        exact hfresh r (by simp) q hqr hr
    · simp only [deref, List.map_cons, List.map_nil]
      rw [hGet_hUpd_ne _ _ _ _ has, hGet_hUpd_same _ _ _ hs]
  · intro q hq
    rcases List.mem_append.1 hq with hq | hq
    · exact (hk4 q hq).imp id (mem_take_succ _ _ _)
    · simp only [List.mem_cons, List.not_mem_nil, or_false] at hq
      exact Or.inr (hq ▸ hin)
  · simp only [length_hUpd]; exact hlen
  · intro r hr
    have hrs : r ≠ s := fun e => hr [a, s] hin (by rw [e]; rfl)
    simp only
    rw [hGet_hUpd_ne _ _ _ _ hrs]
    exact hun r fun q hq => hr q (mem_take_succ _ _ _ hq)
  · intro r
    simp only
    by_cases hrs : r = s
    · rw [hrs, hGet_hUpd_same _ _ _ hs]; exact (hf _).trans (hty s)
    · rw [hGet_hUpd_ne _ _ _ _ hrs]; exact hty r

/-- the predicate and the projection inside the model's `nextOnset`, as named functions -/
def headIs (note : Int) (p : Pairing) : Bool := match p with | m :: _ => m.note == note | [] => false
def onsetOf (o : Option Pairing) : Option Int := match o with | some (m :: _) => some m.time | _ => Option.none

theorem nextOnset_eq (ps : List Pairing) (i : Nat) (note : Int) :
    nextOnset ps i note = onsetOf ((ps.drop (i + 1)).find? (headIs note)) := rfl

theorem nextOnset_refs (heap h1 : Heap) (row : List (List Nat)) (k : Nat) (n : Int)
    (hpairs : ∀ p ∈ row, ∃ a b, p = [a, b]) (hcell : ∀ p ∈ row, ∀ r ∈ p, hGet heap r = hGet h1 r) :
    nextOnset (row.map (deref h1)) k n = ((row.drop (k + 1)).find? (samePitch heap n)).map (fun q => (hGet h1 (q.headD 0)).time) := by
  rw [nextOnset_eq, ← List.map_drop, List.find?_map]
  have hcongr : (row.drop (k + 1)).find? (headIs n ∘ deref h1) = (row.drop (k + 1)).find? (samePitch heap n) := by
    apply NotesL.find?_congr_mem
    intro q hq
    obtain ⟨a', b', rfl⟩ := hpairs q (List.mem_of_mem_drop hq)
    simp only [Function.comp, deref, List.map_cons, samePitch, headNote, List.headD_cons,
      hcell [a', b'] (List.mem_of_mem_drop hq) a' (by simp), headIs]
  rw [hcongr]
  rcases Option.eq_none_or_eq_some ((row.drop (k + 1)).find? (samePitch heap n)) with hnone | ⟨np, hsome⟩
  · rw [hnone]; rfl
  · rw [hsome]
    obtain ⟨a', b', rfl⟩ := hpairs np (List.mem_of_mem_drop (List.mem_of_find?_eq_some hsome))
    rfl

/-- a finished row: the outer relation after the channel whose pairings are `row`; the references collected before are in no pairing
    of `row` (`hsep`), so they read as before -/
theorem nrel_row {h1 : Heap} {pre : List (List (List Nat))} {heap : Heap} {Q : List Nat} {acc : List Msg} {row : List (List Nat)}
    {heapB : Heap} {mpL : List (List Nat)} {out : List Pairing}
    (hN : NRel h1 pre (heap, Q) acc) (hB : BRel heap row row.length (heapB, mpL) out)
    (hsep : ∀ r, (∃ row' ∈ pre, ∃ p' ∈ row', r ∈ p') → ∀ p ∈ row, r ∉ p) :
    NRel h1 (pre ++ [row]) (heapB, Q ++ mpL.flatten) (acc ++ out.flatten) := by
  obtain ⟨⟨kept, hk1, _, hk3, hk4⟩, hlenB, hunB, htyB⟩ := hB
  simp only [List.drop_length, List.append_nil, List.take_length] at hk1 hk4 hunB hlenB htyB
  subst hk1
  have hQ : deref heapB Q = deref heap Q := by
    apply List.map_congr_left
    intro r hr
    exact hunB r fun p hp he => hsep r (hN.qr r hr) p hp (List.mem_of_getElem? he)
  refine ⟨?_, ?_, ?_, ?_, ?_⟩
  · simp only [deref_append]
    rw [hQ, hN.out]
    congr 1
    rw [← hk3]
    simp only [deref, List.map_flatten]
    rfl
  · simp only; rw [hlenB]; exact hN.len
  · intro r hr
    simp only
    rw [hunB r (fun p hp => hr row (by simp) p hp), hN.un r (fun row' hrow' => hr row' (by simp [hrow']))]
  · intro r hr
    simp only at hr
    rcases List.mem_append.1 hr with hr | hr
    · obtain ⟨row', hrow', p', hp', hr'⟩ := hN.qr r hr
      exact ⟨row', by simp [hrow'], p', hp', hr'⟩
    · obtain ⟨p, hp, hrp⟩ := List.mem_flatten.1 hr
      rcases hk4 p hp with rfl | hpr
      · simp at hrp
      · exact ⟨row, by simp, p, hpr, hrp⟩
  · intro r
    simp only
    rw [htyB r]
    exact hN.ty r

/-- the messages that are not notes: no store reaches them (the stores go to second cells of pairings, which are note-offs), and
    they are selected by the same test before and after -/
theorem others_read {h1 heapF : Heap} {Q : List Nat} {notes : List Msg} {rows : List (List (List Nat))}
    (hN : NRel h1 rows (heapF, Q) notes) (hsec : ∀ row ∈ rows, ∀ p ∈ row, ∀ r, p[1]? = some r → (hGet h1 r).ty = .noteOff) (S : List Nat) :
    deref heapF (S.filter (fun r => (hGet heapF r).ty != MType.noteOn && (hGet heapF r).ty != MType.noteOff))
      = (deref h1 S).filter (fun m => m.ty != MType.noteOn && m.ty != MType.noteOff) := by
  simp only [deref, List.filter_map]
  have hfilt : S.filter (fun r => (hGet heapF r).ty != MType.noteOn && (hGet heapF r).ty != MType.noteOff)
      = S.filter ((fun m : Msg => m.ty != MType.noteOn && m.ty != MType.noteOff) ∘ hGet h1) := by
    apply List.filter_congr
    intro r _
    simp only [Function.comp, hN.ty r]
  rw [hfilt]
  apply List.map_congr_left
  intro r hr
  have hrt := (List.mem_filter.1 hr).2
  simp only [Function.comp, Bool.and_eq_true, bne_iff_ne, ne_eq] at hrt
  exact hN.un r fun row hrow p hp he => hrt.2 (hsec row hrow p hp r he)

/-- what becomes of the note `[on, off]` once the first filter of `validDurations` (against the next onset) has left `v1` -/
def pairOut (values : List Int) (dne : Bool) (on off : Msg) (v1 : List Int) : Pairing :=
  let valid := values.foldl (fun v x => if (decide (x - (off.time - on.time) > 0) && dne) && v.contains x then removeFirst x v else v) v1
  if valid.length == 0 then []
  else match nearest (off.time - on.time) valid with
    | .ok best => [on, { off with time := off.time + (best - (off.time - on.time)) }]
    | .error _ => []

theorem stepOne_pair (values : List Int) (dne : Bool) (ps : List Pairing) (on off : Msg) (i : Nat) :
    NL.stepOne values dne ps ([on, off], i) = pairOut values dne on off
      (match nextOnset ps i on.note with
       | some nt => values.foldl (fun v x => if off.time + (x - (off.time - on.time)) > nt then removeFirst x v else v) values
       | none => values) := by
  unfold NL.stepOne validDurations pairOut
  rfl

/-- the generated `quantise_note_lengths` never raises (on distinct references into a heap without channel `None`), and its result
    reads as the model's, which never fails either (`NL.quantise_eq`) -/
theorem qnl_spec (h0 : Heap) (refs : List Nat) (values : List Int) (std : Int) (dne : Bool)
    (hrefs : RefsOk h0 refs) (hok : HeapChOk h0) (hnd : refs.Nodup) :
    Sat (Gen.Abs2.quantiseNoteLengths h0 refs (some values) std dne) fun r =>
      SCoda.quantiseNoteLengths values std dne (deref h0 refs) = .ok (deref r.1 r.2) := by
  obtain ⟨⟨h1, S', cp⟩, hgmp, hS', hp1, hok1, hrefs1, habs, hG⟩ := (gmp_sat h0 refs notePairTypes std true hrefs hok).run
  simp only at hS' hp1 hok1 hrefs1 habs hG
  subst hS'
  have hshape := pairs_of_model habs hrefs1
  have hnodup : (cp.flatMap (·.2)).flatten.Nodup :=
    (gmp_facts hok (hrefs.sortRefs h0) ((isort_perm _ refs).nodup_iff.2 hnd) hG).1
  unfold Gen.Abs2.quantiseNoteLengths
  simp only [Option.isNone_some, Bool.false_eq_true, if_false]
  rw [gmp_none, hgmp]
  simp only [ok_bind]
  -- the model is the per-pairing function `NL.stepOne` mapped over the table
  rw [NL.quantise_eq, show pairingsSorted notePairTypes std true (sortAbs (deref h0 refs)) = absP h1 cp from habs.symm]
  refine Sat.bind ((Sat.loop' (fun pre (b : Heap × List Nat) =>
      NRel h1 pre b (pre.flatMap fun row => NL.chanOut values dne (0, row.map (deref h1)))) _ (cp.map (·.2)) (h1, [])
    ?hinit ?hstep).mono ?hok)
  case hinit => exact ⟨rfl, rfl, fun _ _ => rfl, by simp, fun _ => rfl⟩
  case hok =>
    rintro ⟨heapF, Q⟩ hN
    simp only
    rw [forIn_spec' _ (fun l st => pure (st ++ l.filter (fun r => (hGet heapF r).ty != MType.noteOn && (hGet heapF r).ty != MType.noteOff)))]
    rotate_left
    · intro b; simp
    · intro a as b
      by_cases hc : ((hGet heapF a).ty != MType.noteOn && (hGet heapF a).ty != MType.noteOff) = true
      · simp [hc]
      · simp [hc]
    simp only [ok_bind, pure_bind, normaliseAbsolute_eq]
    refine congrArg Except.ok (Eq.symm ?_)
    rw [deref_sortRefs, deref_append, hN.out, absP, List.flatMap_map, List.flatMap_map]
    congr 2
    have hS : deref h0 (sortRefs h0 refs) = sortAbs (deref h0 refs) := deref_sortRefs h0 refs
    rw [← hS]
    rw [← deref_mono hp1 (RefsOk.sortRefs h0 hrefs)]
    have hsec : ∀ row ∈ cp.map (·.2), ∀ p ∈ row, ∀ r, p[1]? = some r → (hGet h1 r).ty = .noteOff := by
      intro row hrow p hp r hr
      obtain ⟨c, hc, rfl⟩ := List.mem_map.1 hrow
      obtain ⟨a, b, rfl, _, hoff⟩ := hshape p (List.mem_flatMap.2 ⟨c, hc, hp⟩)
      simp only [List.getElem?_cons_succ, List.getElem?_cons_zero, Option.some.injEq] at hr
      exact hr ▸ hoff
    exact others_read hN hsec _
  case hstep =>
    rintro pre row post ⟨heap, Q⟩ hl hN
    have hrowmem : row ∈ cp.map (·.2) := by rw [hl]; simp
    obtain ⟨c, hc, hcrow⟩ := List.mem_map.1 hrowmem
    have hpairs : ∀ p ∈ row, ∃ a b, p = [a, b] := by
      intro p hp; rw [← hcrow] at hp
      obtain ⟨a, b, e, _⟩ := hshape p (List.mem_flatMap.2 ⟨c, hc, hp⟩)
      exact ⟨a, b, e⟩
    have hflat : (cp.flatMap (·.2)).flatten = pre.flatten.flatten ++ (row.flatten ++ post.flatten.flatten) := by
      rw [List.flatMap_def, hl]; simp
    have hnd3 := hnodup
    rw [hflat, List.nodup_append] at hnd3
    obtain ⟨_, hnd4, hdisj⟩ := hnd3
    rw [List.nodup_append] at hnd4
    have hrowflat : row.flatten.Nodup := hnd4.1
    have hsep : ∀ r, (∃ row' ∈ pre, ∃ p' ∈ row', r ∈ p') → ∀ p ∈ row, r ∉ p := by
      rintro r ⟨row', hrow', p', hp', hr'⟩ p hp hr
      exact hdisj r (List.mem_flatten.2 ⟨p', List.mem_flatten.2 ⟨row', hrow', hp'⟩, hr'⟩)
        r (List.mem_append_left _ (List.mem_flatten.2 ⟨p, hp, hr⟩)) rfl
    have hcell : ∀ p ∈ row, ∀ r ∈ p, hGet heap r = hGet h1 r := fun p hp r hr =>
      hN.un r fun row' hrow' p' hp' he => hsep r ⟨row', hrow', p', hp', List.mem_of_getElem? he⟩ p hp hr
    rw [forIn_spec (fun p : List Nat => ∃ a b, p = [a, b]) _ (fun l st => pure (l.foldl (noStep heap) st)) (fun b => rfl) ?hA row [] hpairs]
    case hA =>
      rintro _ as no ⟨a, b, rfl⟩
      have hg0 : pyGet [a, b] 0 = .ok a := rfl
      simp only [hg0, ok_bind, dictGet_getD _ _ ([] : List (List Nat)) (isSome_setDefault_self no (hGet heap a).note []),
        List.foldl_cons, pure_bind]
      rfl
    simp only [pure_bind]
    rw [pyEnumerate_eq]
    -- the inner loop computes `NL.stepOne` pairing by pairing
    refine Sat.bind ((Sat.loop' (fun pre2 (b : Heap × List (List Nat)) => BRel heap row pre2.length b
        (pre2.map fun x => NL.stepOne values dne (row.map (deref h1)) (deref h1 x.2, x.1.toNat))) _ (enumFrom 0 row) (heap, row)
      ?hinit2 ?hstep2).mono ?hok2)
    case hinit2 =>
      exact ⟨⟨[], by simp, rfl, rfl, by simp⟩, rfl, fun _ _ => rfl, fun _ => rfl⟩
    case hok2 =>
      rintro ⟨heapB, mpL⟩ hB
      rw [length_enumFrom] at hB
      rw [forIn_spec' _ (fun (l : List (List Nat)) (st : List Nat) => pure (st ++ l.flatten))]
      rotate_left
      · intro b; simp
      · intro a as b; simp
      simp only [pure_bind]
      show NRel h1 (pre ++ [row]) _ _
      rw [List.flatMap_append, List.flatMap_cons, List.flatMap_nil, List.append_nil, NL.chanOut, zipIdx_enumFrom h1 row 0, List.map_map]
      exact nrel_row hN hB hsep
    case hstep2 =>
      rintro pre2 ⟨iI, p⟩ post2 ⟨heapB, mpL⟩ hl2 hB
      rw [List.map_append, List.map_cons, List.map_nil]
      generalize pre2.map (fun x => NL.stepOne values dne (row.map (deref h1)) (deref h1 x.2, x.1.toNat)) = out at hB ⊢
      obtain ⟨hiI, hpk⟩ := enumFrom_split row pre2 post2 (iI, p) hl2
      simp only at hiI hpk
      subst hiI
      have hk : pre2.length < row.length := by
        rcases List.getElem?_eq_some_iff.1 hpk with ⟨hh, _⟩; exact hh
      have hpk' : row[pre2.length] = p := by
        rcases List.getElem?_eq_some_iff.1 hpk with ⟨_, hh⟩; exact hh
      have hpmem : p ∈ row := hpk' ▸ List.getElem_mem hk
      obtain ⟨a, b, rfl⟩ := hpairs p hpmem
      rw [List.length_append, List.length_singleton]
      have hunB := hB.un
      simp only at hunB
      have hrownd : row.Nodup := nodup_of_flatten row hrowflat (by
        intro q hq e; obtain ⟨a', b', rfl⟩ := hpairs q hq; simp at e)
      have hfresh : ∀ r ∈ [a, b], ∀ q ∈ row.take pre2.length, r ∉ q := by
        intro r hr q hq hrq
        obtain ⟨j, hj, hje⟩ := List.getElem_of_mem hq
        have hjk : j < pre2.length := by simp at hj; omega
        rw [List.getElem_take] at hje
        exact flatten_disjoint row hrowflat j pre2.length (by omega) hk (by omega) r (hje ▸ hrq) (hpk' ▸ hr)
      have hrdB : ∀ r ∈ [a, b], hGet heapB r = hGet h1 r := by
        intro r hr
        rw [hunB r (fun q hq he => hfresh r hr q hq (List.mem_of_getElem? he)), hcell [a, b] hpmem r hr]
      have hA := hrdB a (by simp)
      have hBb := hrdB b (by simp)
      have hg0 : pyGet [a, b] 0 = .ok a := rfl
      have hg1 : pyGet [a, b] 1 = .ok b := rfl
      simp only [hg0, hg1, ok_bind, optGet, pure_bind, hA, hBb]
      -- note_occurrences[note]
      have hPk : (samePitch heap (hGet h1 a).note) row[pre2.length] = true := by
        rw [hpk']; simp only [samePitch, headNote, List.headD_cons, hcell [a, b] hpmem a (by simp), beq_self_eq_true]
      obtain ⟨hidx, hnext, hFlen⟩ := index_next (samePitch heap (hGet h1 a).note) row hrownd pre2.length hk hPk
      rw [hpk'] at hidx
      have hFne : row.filter (samePitch heap (hGet h1 a).note) ≠ [] := by
        intro e; rw [e] at hFlen; simp only [List.length_nil] at hFlen; omega
      have hno : dictGet (row.foldl (noStep heap) []) (hGet h1 a).note
          = .ok (row.filter (samePitch heap (hGet h1 a).note)) := by
        apply dictGet_some
        rw [noFold_get]
        simp [hFne, Assoc.get?]
      simp only [hno, ok_bind, hidx]
      -- the second filtering loop and the rest, for any result `v1` of the first one
      have htail : ∀ v1 : List Int, ∃ b_1,
            (do
              let s2 ← forIn values v1 (fun (noteValue : Int) (s2 : List Int) =>
                (if (decide (noteValue - ((hGet h1 b).time - (hGet h1 a).time) > 0) && (dne && s2.contains noteValue)) = true then
                  (do let r ← pyRemove s2 noteValue; pure (ForInStep.yield r)) else pure (ForInStep.yield s2) : Except PyErr (ForInStep (List Int))))
              if ((s2.length : Int) == 0) = true then do
                  let r ← pySet mpL (pre2.length : Int) []
                  pure (ForInStep.yield (heapB, r))
                else do
                  let i ← Gen.Abs2.findMinimalDistance ((hGet h1 b).time - (hGet h1 a).time) s2
                  let best ← pyGet s2 i
                  pure (ForInStep.yield (hUpd heapB b (fun o_ => { o_ with time := o_.time + (best - ((hGet h1 b).time - (hGet h1 a).time)) }),
                    mpL)) : Except PyErr (ForInStep (Heap × List (List Nat)))) = .ok (.yield b_1) ∧
            BRel heap row (pre2.length + 1) b_1 (out ++ [pairOut values dne (hGet h1 a) (hGet h1 b) v1]) := by
        intro v1
        simp only [pairOut]
        have hloop := remove_loop_guarded (fun x => decide (x - ((hGet h1 b).time - (hGet h1 a).time) > 0) && dne) values v1
        simp only [← Bool.and_assoc]
        rw [hloop]
        simp only [ok_bind]
        generalize values.foldl (fun v x => if (decide (x - ((hGet h1 b).time - (hGet h1 a).time) > 0) && dne && v.contains x) = true then removeFirst x v else v) v1 = s2
        have hbl : b < heapB.length := by
          rw [hB.len, hN.len]
          exact hrefs1 c hc [a, b] (hcrow ▸ hpmem) b (by simp)
        have hab : a ≠ b := by
          intro e
          have hnd2 : ([a, b] : List Nat).Nodup := (List.pairwise_flatten.1 hrowflat).1 _ hpmem
          simp [e] at hnd2
        by_cases hz : s2.length = 0
        · have h1' : (((s2.length : Nat) : Int) == 0) = true := by simp [hz]
          have h2' : (s2.length == 0) = true := by simp [hz]
          simp only [h1', h2', if_true]
          rw [pySet_nat _ _ _ (by rw [hB.length_eq (Nat.le_of_lt hk)]; exact hk)]
          exact ⟨_, rfl, brel_removed hB hk⟩
        · have h1' : (((s2.length : Nat) : Int) == 0) = false := by
            simp only [beq_eq_false_iff_ne, ne_eq]; omega
          have h2' : (s2.length == 0) = false := by simp [hz]
          simp only [h1', h2', Bool.false_eq_true, if_false]
          obtain ⟨best, hn, _⟩ := NL.nearest_spec ((hGet h1 b).time - (hGet h1 a).time) s2 (fun e => hz (by rw [e]; rfl))
          rw [nearest_bind, nearestR_eq, hn]
          have := brel_stored hB hk hpk' hab hbl hfresh
            (fun o_ => { o_ with time := o_.time + (best - ((hGet h1 b).time - (hGet h1 a).time)) }) (fun _ => rfl)
          simp only [hA, hBb] at this
          exact ⟨_, rfl, this⟩
      have hnextOn := nextOnset_refs heap h1 row pre2.length (hGet h1 a).note hpairs hcell
      rw [show deref h1 [a, b] = [hGet h1 a, hGet h1 b] from rfl, stepOne_pair, Int.toNat_natCast, hnextOn]
      rcases Option.eq_none_or_eq_some ((row.drop (pre2.length + 1)).find? (samePitch heap (hGet h1 a).note)) with hnone | ⟨np, hsome⟩
      · -- last occurrence of this pitch in the channel
        have hfnil : (row.drop (pre2.length + 1)).filter (samePitch heap (hGet h1 a).note) = [] := by
          rw [List.filter_eq_nil_iff]
          intro q hq
          have := List.find?_eq_none.1 hnone q hq
          simpa using this
        rw [hfnil] at hFlen
        simp only [List.length_nil, Nat.add_zero] at hFlen
        have hcond : (((((row.take pre2.length).filter (samePitch heap (hGet h1 a).note)).length : Nat) : Int)
            != (((row.filter (samePitch heap (hGet h1 a).note)).length : Nat) : Int) - 1) = false := by
          rw [hFlen]; simp
        simp only [hcond, Bool.false_eq_true, if_false, hnone, Option.map_none]
        obtain ⟨b_1, hb, hrel⟩ := htail values
        rw [hb]
        exact hrel
      · -- there is a later note of this pitch: `np`
        have hnpdrop : np ∈ row.drop (pre2.length + 1) := List.mem_of_find?_eq_some hsome
        have hnprow : np ∈ row := List.mem_of_mem_drop hnpdrop
        obtain ⟨a', b', rfl⟩ := hpairs np hnprow
        rw [hsome] at hnext
        have hlt : ((row.take pre2.length).filter (samePitch heap (hGet h1 a).note)).length + 1
            < (row.filter (samePitch heap (hGet h1 a).note)).length := by
          rcases List.getElem?_eq_some_iff.1 hnext with ⟨hh, _⟩; exact hh
        have hcond : (((((row.take pre2.length).filter (samePitch heap (hGet h1 a).note)).length : Nat) : Int)
            != (((row.filter (samePitch heap (hGet h1 a).note)).length : Nat) : Int) - 1) = true := by
          simp only [bne_iff_ne, ne_eq]; omega
        have hcast : (((((row.take pre2.length).filter (samePitch heap (hGet h1 a).note)).length : Nat) : Int) + 1)
            = (((((row.take pre2.length).filter (samePitch heap (hGet h1 a).note)).length + 1 : Nat)) : Int) := by omega
        have hgetF : pyGet (row.filter (samePitch heap (hGet h1 a).note))
            (((((row.take pre2.length).filter (samePitch heap (hGet h1 a).note)).length : Nat) : Int) + 1) = .ok [a', b'] := by
          rw [hcast, pyGet_nat _ _ hlt]
          rcases List.getElem?_eq_some_iff.1 hnext with ⟨_, hh⟩
          rw [hh]
        have hg0' : pyGet [a', b'] 0 = .ok a' := rfl
        have hA' : hGet heapB a' = hGet h1 a' := by
          rw [hunB a' ?_, hcell [a', b'] hnprow a' (by simp)]
          intro q hq he
          have hsplit : row.flatten = (row.take pre2.length).flatten ++ (row.drop pre2.length).flatten := by
            rw [← List.flatten_append, List.take_append_drop]
          have hnd5 := hrowflat
          rw [hsplit, List.nodup_append] at hnd5
          have hdd : row.drop (pre2.length + 1) = (row.drop pre2.length).drop 1 := by rw [List.drop_drop]
          refine hnd5.2.2 a' (List.mem_flatten.2 ⟨q, hq, List.mem_of_getElem? he⟩) a'
            (List.mem_flatten.2 ⟨[a', b'], ?_, by simp⟩) rfl
          rw [hdd] at hnpdrop
          exact List.mem_of_mem_drop hnpdrop
        simp only [hcond, if_true, hgetF, ok_bind, hg0', hA', hsome, Option.map_some, List.headD_cons]
        rw [remove_loop (fun nv => decide ((hGet h1 b).time + (nv - ((hGet h1 b).time - (hGet h1 a).time)) > (hGet h1 a').time))
          values values (fun _ => Nat.le_refl _)]
        simp only [ok_bind, decide_eq_true_eq]
        obtain ⟨b_1, hb, hrel⟩ := htail (values.foldl (fun v x => if (hGet h1 b).time + (x - ((hGet h1 b).time - (hGet h1 a).time)) > (hGet h1 a').time
          then removeFirst x v else v) values)
        rw [hb]
        exact hrel

/-- the default `note_values=None` is `get_default_note_values()` (proved like `quantise_none`) -/
theorem qnl_none (h0 : Heap) (refs : List Nat) (std : Int) (dne : Bool) :
    Gen.Abs2.quantiseNoteLengths h0 refs none std dne = Gen.Abs2.quantiseNoteLengths h0 refs (some Gen.defaultNoteValues) std dne := by
  unfold Gen.Abs2.quantiseNoteLengths
  exact (if_pos rfl).trans (ite_self _).symm

end SCoda.AbsTie2L
