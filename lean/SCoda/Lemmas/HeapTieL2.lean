/-
  Helper lemmas for `Props/HeapTie.lean`, continued: the run equations from `Sequence.concatenate` and `Bar.to_sequence` to
  `Track.__init__` and the copies of bars, tracks and compositions (under `BarOk`, `TrkOk` of `Lemmas/HeapStateL.lean`).
-/
import SCoda.Lemmas.HeapTieL
namespace SCoda.HeapTieL
open SCoda SCoda.HeapOps SCoda.HeapLib SCoda.Gen.HeapFns

theorem sequenceRel_of_live (g : GOrc) (tag : Nat) {h : Heap} {s : Nat} (hl : SeqLive h s) :
    sequenceRel g tag s h = (.ok (getRel g.orc h s).2, (getRel g.orc h s).1) := by
  rw [sequenceRel_run]
  rcases hl with ⟨h1, h2⟩ | ⟨h1, h2, h3⟩
  · simp [h1, getRel]
  · obtain ⟨a, ha⟩ := Option.isSome_iff_exists.mp h3
    simp [h1, h2, ha]

theorem mapM_sequenceRel (g : GOrc) (tag : Nat) : ∀ (ss : List Nat) (h : Heap), (∀ s ∈ ss, SeqLive h s) →
    ∃ ls, (getRels g.orc h ss).2 = some ls
      ∧ HM.mapM (fun seq_ => do let t3 ← sequenceRel g tag seq_; pure t3) ss h
          = (.ok (ls.map some), (getRels g.orc h ss).1) := by
  intro ss
  induction ss with
  | nil => intro h _; exact ⟨[], rfl, rfl⟩
  | cons s ss ih =>
    intro h hl
    have hs := hl s (by simp)
    obtain ⟨l, hg, _⟩ := getRel_some_of_seqLive g.orc hs
    have hrest : ∀ s' ∈ ss, SeqLive (getRel g.orc h s).1 s' := fun s' hs' => seqLive_getRel g.orc hs (hl s' (by simp [hs']))
    obtain ⟨ls, hls, hm⟩ := ih _ hrest
    refine ⟨l :: ls, by simp [getRels, hg, hls], ?_⟩
    simp only [HM.mapM, run_bind, sequenceRel_of_live g tag hs, bindRes_ok, run_pure, hm, getRels, hg, List.map_cons]

theorem mapM_deref_some {α : Type} : ∀ (ls : List α) (h : Heap), HM.mapM HM.deref (ls.map some) h = (.ok ls, h) := by
  intro ls
  induction ls with
  | nil => intro h; rfl
  | cons l ls ih => intro h; simp [HM.mapM, ih]

theorem loopSpec_extend (l : Nat) : ∀ (xs : List Nat) (b : PUnit) (h : Heap),
    loopSpec (fun _ b _ => b) (fun a h => h.setLst l (h.lst l ++ h.lst a)) xs b h = (b, extendView h l xs) := by
  intro xs
  induction xs with
  | nil => intro b h; rfl
  | cons a as ih => intro b h; simp [loopSpec, ih, extendView]

theorem relativeSequenceConcatenate_run (g : GOrc) (tag l : Nat) (args : List Nat) (h : Heap) :
    relativeSequenceConcatenate g tag l args h = (.ok (), extendView h l args) := by
  unfold relativeSequenceConcatenate
  simp only [run_bind]
  rw [forIn_run (step := fun _ b _ => b) (upd := fun a h' => h'.setLst l (h'.lst l ++ h'.lst a))]
  · simp [loopSpec_extend]
  · intro a b h'
    rfl

theorem sequenceConcatenate_run (g : GOrc) (tag s : Nat) (args : List Nat) (h : Heap) (hs : SeqLive h s)
    (ha : ∀ a ∈ args, SeqLive h a) :
    sequenceConcatenate g tag s args h = (.ok (), concatenate g.orc h s args) := by
  obtain ⟨l, hg, _⟩ := getRel_some_of_seqLive g.orc hs
  have hrest : ∀ a ∈ args, SeqLive (getRel g.orc h s).1 a := fun a ha' => seqLive_getRel g.orc hs (ha a ha')
  obtain ⟨ls, hls, hm⟩ := mapM_sequenceRel g tag args _ hrest
  unfold sequenceConcatenate concatenate
  simp only [run_bind]
  rw [sequenceRel_deref]
  simp only [hg, run_bind, hm, bindRes_ok, mapM_deref_some, relativeSequenceConcatenate_run, sequenceInvalidateAbs_run, hls]

theorem loopSpec_collect : ∀ (xs b : List Nat) (h : Heap),
    loopSpec (fun a b h => b ++ [(h.bar a).seq]) (fun _ h => h) xs b h = (b ++ xs.map (fun a => (h.bar a).seq), h) := by
  intro xs
  induction xs with
  | nil => intro b h; simp [loopSpec]
  | cons a as ih => intro b h; simp [loopSpec, ih]

theorem barToSequence_run (g : GOrc) (tag : Nat) (bars : List Nat) (h : Heap)
    (hb : ∀ b ∈ bars, (h.bar b).seq < h.nSeq ∧ SeqLive h (h.bar b).seq) :
    barToSequence g tag bars h = (.ok (barsToSequence g.orc h bars).2, (barsToSequence g.orc h bars).1) := by
  unfold barToSequence barsToSequence
  simp only [run_bind, run_newSequence, bindRes_ok, sequenceNew_run, seqInit_snd]
  rw [forIn_run (step := fun a b h => b ++ [(h.bar a).seq]) (upd := fun _ h => h)]
  · simp only [loopSpec_collect, List.nil_append, bindRes_ok, run_bind]
    rw [sequenceConcatenate_run g tag _ _ _ (seqLive_new h) (seqLive_barSeqs hb)]
    simp
  · intro a b h'
    rfl

theorem withRel_trk (o : Orc) (h : Heap) (s : Nat) {f : Heap → Nat → Heap} (hf : ViewLevel f) : (withRel o h s f).trk = h.trk :=
  (withRel_fields o h s hf).2

theorem getRels_seq_other (o : Orc) : ∀ (ss : List Nat) (h : Heap) (s : Nat), s ∉ ss → (getRels o h ss).1.seq s = h.seq s := by
  intro ss
  induction ss with
  | nil => intro h s _; rfl
  | cons a ss ih =>
    intro h s hs
    have h1 : s ≠ a := fun e => hs (by simp [e])
    have h2 : s ∉ ss := fun e => hs (by simp [e])
    simp only [getRels]
    split
    · exact getRel_seq_other o h h1
    · rw [ih _ _ h2, getRel_seq_other o h h1]

theorem firstProgram_map (f : Nat → Msg) (ids : List Nat) :
    firstProgram (ids.map f) = match ids.filter (fun i => (f i).ty == MType.programChange) with
      | i :: _ => (f i).prog
      | [] => pyNone := by
  unfold firstProgram
  rw [List.filter_map]
  cases hf : ids.filter ((fun m => m.ty == MType.programChange) ∘ f) with
  | nil =>
    have : ids.filter (fun i => (f i).ty == MType.programChange) = [] := hf
    simp [this]
  | cons i r =>
    have : ids.filter (fun i => (f i).ty == MType.programChange) = i :: r := hf
    simp [this]

theorem barsToSequence_post (g : GOrc) {h : Heap} {bars : List Nat}
    (hb : ∀ b ∈ bars, (h.bar b).seq < h.nSeq ∧ SeqLive h (h.bar b).seq) :
    ∃ l, Settled ((barsToSequence g.orc h bars).1.seq (barsToSequence g.orc h bars).2) l
      ∧ (barsToSequence g.orc h bars).1.trk = h.trk := by
  obtain ⟨l, hs⟩ := concatenate_settles g.orc (seqLive_new h) (seqLive_barSeqs hb)
  exact ⟨l, by simpa only [barsToSequence, seqInit_snd] using hs, by simp only [barsToSequence, concatenate_trk, seqInit_trk]⟩

@[simp] theorem trk_setTrk (h : Heap) (i : Nat) (c : TrkCell) : (h.setTrk i c).trk i = c := by simp [Heap.setTrk]
@[simp] theorem setTrk_setTrk (h : Heap) (i : Nat) (c c' : TrkCell) : (h.setTrk i c).setTrk i c' = h.setTrk i c' := by
  simp only [Heap.setTrk]; congr 1; funext j; split <;> rfl

theorem getRels_orcOf (g : GOrc) : ∀ (ss : List Nat) (h : Heap), getRels (orcOf g) h ss = getRels g.orc h ss := by
  intro ss
  induction ss with
  | nil => intro h; rfl
  | cons s ss ih => intro h; simp only [getRels, getRel_orcOf, ih]

theorem barsToSequence_orcOf (g : GOrc) (h : Heap) (bs : List Nat) : barsToSequence (orcOf g) h bs = barsToSequence g.orc h bs := by
  simp only [barsToSequence, concatenate, getRel_orcOf, getRels_orcOf]

theorem trackNew_run (g : GOrc) (tag : Nat) (bars : List Nat) (name : Int) (h : Heap)
    (hb : ∀ b ∈ bars, (h.bar b).seq < h.nSeq ∧ SeqLive h (h.bar b).seq) :
    trackInit g tag h.nTrk bars name (h.newTrk {}).1 = (.ok (), (trkInit (orcOf g) tag h bars name).1) := by
  unfold trackInit trkInit
  simp only [run_bind, run_modify, bindRes_ok, setTrk_newTrk, trk_newTrk, barsToSequence_orcOf, newTrk_snd]
  generalize ht : (h.newTrk { bars := bars, name := name, program := pyNone }).1 = t0
  have hb0 : ∀ b ∈ bars, (t0.bar b).seq < t0.nSeq ∧ SeqLive t0 (t0.bar b).seq := by rw [← ht]; exact hb
  have htrk : t0.trk h.nTrk = { bars := bars, name := name, program := pyNone } := by rw [← ht, trk_newTrk]
  obtain ⟨l, hs, hctrk⟩ := barsToSequence_post g hb0
  rw [barToSequence_run g tag bars t0 hb0]
  generalize barsToSequence g.orc t0 bars = r at *
  have hv : optVals r.1 (r.1.seq r.2).rel = (r.1.lst l).map r.1.msg := by rw [hs.rel]; rfl
  simp only [bindRes_ok, run_bind, run_get, sequenceMessagesRel_settled g tag hs, iterRel_settled _ hs, hv, hctrk, htrk]
  rw [show (orcOf g).program tag _ = _ from firstProgram_map r.1.msg (r.1.lst l)]
  cases (r.1.lst l).filter (fun i => (r.1.msg i).ty == MType.programChange) with
  | nil => rw [← htrk, ← hctrk]; simp only [setTrk_self]; rfl
  | cons i is => simp [HM.index, hctrk, htrk]

theorem barCopy_run (g : GOrc) (tag b : Nat) (h : Heap) (hok : SeqCopyOk h (h.bar b).seq)
    (hf : (h.seq (h.bar b).seq).relStale = false) :
    Gen.HeapFns.barCopy g tag b h
      = (.ok (HeapOps.barCopy (orcOf g) tag h b).2, (HeapOps.barCopy (orcOf g) tag h b).1) := by
  rw [barCopy_of_fresh (orcOf g) tag hf]
  unfold Gen.HeapFns.barCopy
  have hlive := seqCopy_live h (h.bar b).seq hok
  obtain ⟨r, hr, _⟩ := hok.2 hf
  have hrel : sequenceRel g tag (h.bar b).seq h = (.ok (some r), h) := by
    rw [sequenceRel_run]; simp [hf, hr, getRel]
  simp only [run_bind, run_get, bindRes_ok, hrel, run_deref_some, sequenceCopy_run g tag _ h hok, newBarObj, run_alloc, newBar_snd,
    seqCopy_bar, barNew_run g tag _ _ _ _ _ hlive, run_pure]
  rfl

/-- `[bar.copy() for bar in bars]` is `barCopies` (the successive copies get the tags `tag`, `mix tag 3`, …) -/
theorem mapTag_barCopy (g : GOrc) : ∀ (bs : List Nat) (tag : Nat) (h : Heap), (∀ b ∈ bs, BarOk h b) →
    HM.mapTag (fun tag bar_ => do let t2 ← Gen.HeapFns.barCopy g tag bar_; pure t2) 3 tag bs h
      = (.ok (barCopies (orcOf g) tag h bs).2, (barCopies (orcOf g) tag h bs).1) := by
  intro bs
  induction bs with
  | nil => intro tag h _; rfl
  | cons b bs ih =>
    intro tag h hok
    obtain ⟨e1, _⟩ := barCopy_post (orcOf g) tag (hok b (by simp))
    have hrest := ih (mix tag 3) _ (fun b' hb' => (hok b' (by simp [hb'])).ext e1)
    simp only [HM.mapTag, run_bind, barCopy_run g tag b h (hok b (by simp)).copyOk (hok b (by simp)).relFresh, bindRes_ok, run_pure, hrest, barCopies]

theorem trackCopy_run (g : GOrc) (tag t : Nat) (h : Heap) (hok : TrkOk h t) :
    trackCopy g tag t h = (.ok (trkCopy (orcOf g) tag h t).2, (trkCopy (orcOf g) tag h t).1) := by
  obtain ⟨_, e, hn⟩ := barCopies_spec_ok (orcOf g) (h.trk t).bars tag h (HeapL.good_fresh h) hok.2
  unfold trackCopy trkCopy
  simp only [run_bind, run_get, bindRes_ok, mapTag_barCopy g _ tag h hok.2, e.trk hok.1, newTrack, run_alloc, newTrk_snd,
    trackNew_run g (mix tag 4) _ _ _ (fun b hb => (hn b hb).2.2), run_pure]
  rfl

/-- `[track.copy() for track in tracks]` is `trkCopies` (tags `tag`, `mix tag 5`, …) -/
theorem mapTag_trackCopy (g : GOrc) : ∀ (ts : List Nat) (tag : Nat) (h : Heap), (∀ t ∈ ts, TrkOk h t) →
    HM.mapTag (fun tag track_ => do let t2 ← trackCopy g tag track_; pure t2) 5 tag ts h
      = (.ok (trkCopies (orcOf g) tag h ts).2, (trkCopies (orcOf g) tag h ts).1) := by
  intro ts
  induction ts with
  | nil => intro tag h _; rfl
  | cons t ts ih =>
    intro tag h hok
    have e1 := trkCopy_ext (orcOf g) tag h t (hok t (by simp))
    have hrest := ih (mix tag 5) _ (fun t' ht' => (hok t' (by simp [ht'])).ext e1)
    simp only [HM.mapTag, run_bind, trackCopy_run g tag t h (hok t (by simp)), bindRes_ok, run_pure, hrest, trkCopies]

@[simp] theorem setCmp_newCmp (h : Heap) (c c' : List Nat) : (h.newCmp c).1.setCmp h.nCmp c' = (h.newCmp c').1 := by
  simp only [Heap.setCmp, Heap.newCmp]; congr 1; funext j; split <;> rfl

end SCoda.HeapTieL
