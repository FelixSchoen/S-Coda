/-
  `modifyAt f i l` (`Model/Pairing.lean`) is `List.modify`: it touches the element at index `i` and nothing else, so whatever
  reads the list through a function that does not see the change (`map_modifyAt_eq`, `filter_modifyAt`) or at another index
  (`getElem?_modifyAt`) is unchanged, and a member of the result is an old one or the image of the element at `i`
  (`mem_modifyAt_get`).
-/
import SCoda.Model.Pairing
namespace SCoda

theorem modifyAt_eq_modify {α} (f : α → α) (i : Nat) (l : List α) : modifyAt f i l = l.modify i f := by
  induction l generalizing i with
  | nil => cases i <;> rfl
  | cons x xs ih => cases i <;> simp [modifyAt, ih]

/-- any default `d` does: outside the list `set` does nothing -/
theorem modifyAt_eq_set_getD {α} (f : α → α) (d : α) : ∀ (i : Nat) (l : List α), modifyAt f i l = l.set i (f (l.getD i d))
  | 0, [] => rfl
  | _ + 1, [] => rfl
  | 0, _ :: _ => rfl
  | i + 1, x :: l => by simp only [modifyAt, List.set_cons_succ, List.getD_cons_succ, modifyAt_eq_set_getD f d i l]

theorem length_modifyAt {α} (f : α → α) (i : Nat) (l : List α) : (modifyAt f i l).length = l.length := by
  rw [modifyAt_eq_modify, List.length_modify]

theorem getElem?_modifyAt {α} (f : α → α) (i j : Nat) (l : List α) :
    (modifyAt f i l)[j]? = if j = i then l[j]?.map f else l[j]? := by
  rw [modifyAt_eq_modify, List.getElem?_modify]
  by_cases h : j = i
  · subst h; simp
  · simp [h, Ne.symm h]

theorem mem_modifyAt_get {α} {f : α → α} {i : Nat} {l : List α} {x : α} (h : x ∈ modifyAt f i l) :
    x ∈ l ∨ ∃ y, l[i]? = some y ∧ x = f y := by
  obtain ⟨j, hj⟩ := List.getElem?_of_mem h
  rw [getElem?_modifyAt] at hj
  split at hj
  · rename_i e
    obtain ⟨y, hy, rfl⟩ := Option.map_eq_some_iff.1 hj
    exact Or.inr ⟨y, e ▸ hy, rfl⟩
  · exact Or.inl (List.mem_of_getElem? hj)

theorem mem_modifyAt {α} {f : α → α} {i : Nat} {l : List α} {x : α} (h : x ∈ modifyAt f i l) :
    x ∈ l ∨ ∃ y ∈ l, x = f y :=
  (mem_modifyAt_get h).imp id fun ⟨y, hy, e⟩ => ⟨y, List.mem_of_getElem? hy, e⟩

theorem modifyAt_map {α β} (f : α → α) (f' : β → β) (h : α → β) (hf : ∀ x, h (f x) = f' (h x))
    (i : Nat) (l : List α) : modifyAt f' i (l.map h) = (modifyAt f i l).map h := by
  induction l generalizing i with
  | nil => cases i <;> rfl
  | cons z zs ih => cases i <;> simp [modifyAt, hf, ih]

theorem modifyAt_append_left {α} (f : α → α) (l1 l2 : List α) : ∀ i, i < l1.length →
    modifyAt f i (l1 ++ l2) = modifyAt f i l1 ++ l2 := by
  induction l1 with
  | nil => intro i h; simp at h
  | cons x xs ih =>
    intro i h
    cases i with
    | zero => rfl
    | succ i =>
      simp only [List.cons_append, modifyAt]
      rw [ih i (by simpa using h)]

theorem modifyAt_append_right {α} (f : α → α) (l1 l2 : List α) : ∀ i, l1.length ≤ i →
    modifyAt f i (l1 ++ l2) = l1 ++ modifyAt f (i - l1.length) l2 := by
  induction l1 with
  | nil => intro i _; rfl
  | cons x xs ih =>
    intro i h
    cases i with
    | zero => simp at h
    | succ i =>
      simp only [List.cons_append, modifyAt, List.length_cons]
      rw [ih i (by simpa using h)]
      simp

theorem filterMap_modifyAt {α β} (g : α → Option β) (f : α → α) (l : List α) : ∀ i,
    (∀ x, l[i]? = some x → g (f x) = g x) → (modifyAt f i l).filterMap g = l.filterMap g := by
  induction l with
  | nil => intro i _; cases i <;> rfl
  | cons y ys ih =>
    intro i h
    cases i with
    | zero => rw [modifyAt, List.filterMap_cons, List.filterMap_cons, h y rfl]
    | succ i => rw [modifyAt, List.filterMap_cons, List.filterMap_cons, ih i fun x hx => h x (by simpa using hx)]

theorem filter_modifyAt {α} (p : α → Bool) (f : α → α) (l : List α) (i : Nat)
    (h : ∀ x, l[i]? = some x → p x = false ∧ p (f x) = false) : (modifyAt f i l).filter p = l.filter p := by
  rw [← List.filterMap_eq_filter, filterMap_modifyAt _ f l i fun x hx => by simp [Option.guard, h x hx]]

theorem map_modifyAt_eq {α β} (g : α → β) (f : α → α) (l : List α) (i : Nat)
    (h : ∀ y, l[i]? = some y → g (f y) = g y) : (modifyAt f i l).map g = l.map g := by
  rw [← List.filterMap_eq_map]
  exact filterMap_modifyAt (some ∘ g) f l i fun y hy => congrArg some (h y hy)

theorem set_eq_modifyAt {α} (v : α) (l : List α) (i : Nat) : l.set i v = modifyAt (fun _ => v) i l :=
  (modifyAt_eq_set_getD (fun _ => v) v i l).symm

theorem modifyAt_get {α} (f : α → α) (l : List α) (i : Nat) (x : α) (h : l[i]? = some x) : modifyAt f i l = l.set i (f x) := by
  rw [modifyAt_eq_set_getD f x, List.getD_eq_getElem?_getD, h]; rfl

end SCoda
