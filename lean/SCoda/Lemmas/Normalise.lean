/-
  `normalise` (the model of `normalise_relative`).  The loop is read as a selection of the input (`keepP`, `scan`); what the
  selection does to a class of events is said in the terms of `Lemmas/Fuse` (a key's note events go through `fuseK`, a kind of
  signature through `E2E.dedupBy`); everything known of the state after the loop is one theorem (`ran`).
-/
import SCoda.Lemmas.Fuse
import SCoda.Lemmas.AssocL
import SCoda.Model.Normalise
set_option linter.unusedSimpArgs false
namespace SCoda

namespace Assoc
variable {κ ν : Type} [DecidableEq κ]

theorem get?_set (d : Assoc κ ν) (k q : κ) (v : ν) :
    get? (set d k v) q = if k = q then some v else get? d q :=
  Q.get?_set d k q v

theorem nodup_set (d : Assoc κ ν) (k : κ) (v : ν) (h : (d.map Prod.fst).Nodup) :
    ((set d k v).map Prod.fst).Nodup :=
  List.pairwise_map.2 (Q.nodupKeys_set (List.pairwise_map.1 h) k v)

theorem get?_of_mem (d : Assoc κ ν) (h : (d.map Prod.fst).Nodup) (k : κ) (v : ν)
    (hm : (k, v) ∈ d) : get? d k = some v :=
  Q.get?_of_mem (List.pairwise_map.1 h) hm

theorem mem_of_get? (d : Assoc κ ν) (k : κ) (v : ν) (h : get? d k = some v) : (k, v) ∈ d :=
  Q.mem_of_get? h

end Assoc

/-- the stack of open note-on indices of key `k` -/
def NormSt.stk (s : NormSt) (k : Int × Int) : List Nat := (s.opens.get? k).getD []
def NormSt.O (s : NormSt) : List (Option Nat × Msg) := s.out.reverse

def keep (s : NormSt) (m : Msg) : Bool :=
  match m.ty with
  | .wait => false
  | .noteOn => (s.stk m.nkey).length == 0
  | .noteOff => (s.stk m.nkey).length == 1
  | .timeSignature => m.num != s.tsNum || m.den != s.tsDen
  | .keySignature => m.key != s.key
  | _ => true

def flushL (s : NormSt) (c : Int) : List (Option Nat × Msg) :=
  if s.wbuf > 0 then [(none, Msg.mkWait c s.wbuf)] else []

theorem dropLast_length_zero (l : List Nat) : (l.dropLast.length = 0) ↔ (l.length = 0 ∨ l.length = 1) := by
  rw [List.length_dropLast]; omega

/-- `normStep` in field-by-field form -/
def normStep' (s : NormSt) (m : Msg) : NormSt :=
  { idx := s.idx + 1
    opens := match m.ty with
      | .noteOn => s.opens.set m.nkey (s.stk m.nkey ++ [s.idx])
      | .noteOff => if (s.stk m.nkey).length = 0 then s.opens else s.opens.set m.nkey (s.stk m.nkey).dropLast
      | _ => s.opens
    wbuf := if m.ty = .wait then s.wbuf + m.time else if keep s m = true ∧ s.wbuf > 0 then 0 else s.wbuf
    tsNum := if m.ty = .timeSignature then m.num else s.tsNum
    tsDen := if m.ty = .timeSignature then m.den else s.tsDen
    key := if m.ty = .keySignature then m.key else s.key
    defCh := match s.defCh with | some c => some c | none => some m.ch
    out := if keep s m = true then
        (some s.idx, m) :: (if s.wbuf > 0 then (none, Msg.mkWait m.ch s.wbuf) :: s.out else s.out)
      else s.out }

theorem normStep_eq (s : NormSt) (m : Msg) : normStep s m = normStep' s m := by
  unfold normStep normStep'
  -- the `defCh` fields are two copies of the same `match`: they agree by `rfl` once the rest is settled
  cases h : m.ty
  case wait => simp [keep, h]; rfl
  case noteOn =>
    simp only [NormSt.emit, keep, h, NormSt.stk, List.length_append, List.length_singleton]
    obtain ⟨L, hL⟩ : ∃ L, (s.opens.get? m.nkey).getD [] = L := ⟨_, rfl⟩
    cases L <;> simp [hL] <;> rfl
  case noteOff =>
    simp only [NormSt.emit, keep, h, NormSt.stk]
    obtain ⟨L, hL⟩ : ∃ L, (s.opens.get? m.nkey).getD [] = L := ⟨_, rfl⟩
    rcases L with _ | ⟨a, _ | ⟨b, l⟩⟩ <;> simp [hL] <;> rfl
  case timeSignature =>
    simp only [NormSt.emit, keep, h]
    by_cases hk : (m.num != s.tsNum || m.den != s.tsDen) = true
    · simp [hk]; rfl
    · simp only [hk]
      simp at hk
      simp [hk]; rfl
  case keySignature =>
    simp only [NormSt.emit, keep, h]
    by_cases hk : m.key = s.key <;> simp [hk] <;> rfl
  all_goals (simp [NormSt.emit, keep, h]; rfl)

theorem step_idx (s : NormSt) (m : Msg) : (normStep s m).idx = s.idx + 1 := by
  rw [normStep_eq]; rfl

theorem step_O (s : NormSt) (m : Msg) :
    (normStep s m).O = s.O ++ (if keep s m = true then flushL s m.ch ++ [(some s.idx, m)] else []) := by
  rw [normStep_eq]
  simp only [normStep', NormSt.O, flushL]
  split
  · split <;> simp
  · simp

theorem step_wbuf (s : NormSt) (m : Msg) :
    (normStep s m).wbuf =
      if m.ty = .wait then s.wbuf + m.time else if keep s m = true ∧ s.wbuf > 0 then 0 else s.wbuf := by
  rw [normStep_eq]; rfl

theorem step_ts (s : NormSt) (m : Msg) :
    ((normStep s m).tsNum, (normStep s m).tsDen) =
      if m.ty = .timeSignature then (m.num, m.den) else (s.tsNum, s.tsDen) := by
  rw [normStep_eq]; simp only [normStep']; split <;> rfl

theorem step_key (s : NormSt) (m : Msg) :
    (normStep s m).key = if m.ty = .keySignature then m.key else s.key := by
  rw [normStep_eq]; rfl

theorem step_defCh (s : NormSt) (m : Msg) :
    (normStep s m).defCh = match s.defCh with | some c => some c | none => some m.ch := by
  rw [normStep_eq]; rfl

theorem step_stk (s : NormSt) (m : Msg) (k : Int × Int) :
    (normStep s m).stk k =
      if m.nkey = k then
        (if m.ty = .noteOn then s.stk k ++ [s.idx]
         else if m.ty = .noteOff then (s.stk k).dropLast else s.stk k)
      else s.stk k := by
  rw [normStep_eq]
  simp only [normStep', NormSt.stk]
  cases h : m.ty <;> simp [Assoc.get?_set]
  · split
    · rename_i hemp
      by_cases hk : m.nkey = k
      · subst hk; rw [if_pos rfl, hemp]; rfl
      · simp [hk]
    · by_cases hk : m.nkey = k <;> simp [hk, Assoc.get?_set]
  · by_cases hk : m.nkey = k <;> simp [hk]

theorem step_nodup (s : NormSt) (m : Msg) (h : (s.opens.map Prod.fst).Nodup) :
    ((normStep s m).opens.map Prod.fst).Nodup := by
  rw [normStep_eq]
  simp only [normStep']
  cases hm : m.ty
  case noteOn => exact Assoc.nodup_set _ _ _ h
  case noteOff =>
    simp only []
    split
    · exact h
    · exact Assoc.nodup_set _ _ _ h
  all_goals exact h

theorem keep_not_wait (s : NormSt) (m : Msg) (h : keep s m = true) : m.ty ≠ .wait := by
  intro hw; simp [keep, hw] at h

theorem fold_inv (Inv : List Msg → List Msg → NormSt → Prop)
    (hstep : ∀ pre m post s, Inv pre (m :: post) s → Inv (pre ++ [m]) post (normStep s m)) :
    ∀ post pre s, Inv pre post s → Inv (pre ++ post) [] (post.foldl normStep s) := by
  intro post
  induction post with
  | nil => intro pre s h; simpa using h
  | cons m post ih =>
    intro pre s h
    have := ih (pre ++ [m]) (normStep s m) (hstep pre m post s h)
    simpa using this

theorem init_O : ({} : NormSt).O = [] := rfl
theorem init_stk (k : Int × Int) : ({} : NormSt).stk k = [] := rfl

/-- the bookkeeping of tags and stacks after the prefix `pre` (the output is tagged: `none` on a wait the loop emitted, `some i`
    on the input message of index `i`) -/
structure InvA (pre : List Msg) (s : NormSt) : Prop where
  ent : ∀ e ∈ s.O, (e.1 = none ∧ ∃ m ∈ pre, ∃ t, 0 < t ∧ e.2 = Msg.mkWait m.ch t) ∨
      (∃ i, e.1 = some i ∧ i < s.idx ∧ e.2.ty ≠ .wait ∧ e.2 ∈ pre)
  nd : (s.opens.map Prod.fst).Nodup
  lt : ∀ k, ∀ i ∈ s.stk k, i < s.idx
  own : ∀ e ∈ s.O, ∀ i k, e.1 = some i → i ∈ s.stk k →
      e.2.nkey = k ∧ e.2.ty = .noteOn ∧ (s.stk k).head? = some i

theorem invA_init : InvA [] {} := by
  refine ⟨?_, ?_, ?_, ?_⟩
  · intro e he; simp [init_O] at he
  · simp
  · intro k i hi; simp [init_stk] at hi
  · intro e he; simp [init_O] at he

theorem mem_dropLast {α} (l : List α) (x : α) (h : x ∈ l.dropLast) : x ∈ l :=
  List.dropLast_subset l h

theorem head?_dropLast {α} (l : List α) (h : l.dropLast ≠ []) : l.dropLast.head? = l.head? := by
  rcases l with _ | ⟨a, _ | ⟨b, l⟩⟩
  · rfl
  · exact absurd rfl h
  · rfl

theorem stk_cases (s : NormSt) (m : Msg) (k : Int × Int) :
    (m.nkey = k ∧ m.ty = .noteOn ∧ (normStep s m).stk k = s.stk k ++ [s.idx]) ∨
    (m.nkey = k ∧ m.ty = .noteOff ∧ (normStep s m).stk k = (s.stk k).dropLast) ∨
    (¬ (m.nkey = k ∧ (m.ty = .noteOn ∨ m.ty = .noteOff)) ∧ (normStep s m).stk k = s.stk k) := by
  rw [step_stk]
  by_cases hk : m.nkey = k
  · by_cases hon : m.ty = .noteOn
    · simp [hk, hon]
    · by_cases hoff : m.ty = .noteOff
      · simp [hk, hoff]
      · simp [hk, hon, hoff]
  · simp [hk]

theorem keep_on {m : Msg} (h : m.ty = .noteOn) (s : NormSt) : keep s m = ((s.stk m.nkey).length == 0) := by
  rw [keep, h]

theorem keep_off {m : Msg} (h : m.ty = .noteOff) (s : NormSt) : keep s m = ((s.stk m.nkey).length == 1) := by
  rw [keep, h]

theorem keep_ts (s : NormSt) (m : Msg) (h : m.ty = .timeSignature) :
    keep s m = true ↔ (s.tsNum, s.tsDen) ≠ (m.num, m.den) := by
  rw [keep, h, ne_eq, Prod.mk.injEq, Bool.or_eq_true, bne_iff_ne, bne_iff_ne]
  constructor
  · exact fun h e => h.elim (fun h => h e.1.symm) (fun h => h e.2.symm)
  · intro h
    by_cases h1 : m.num = s.tsNum
    · exact Or.inr fun h2 => h ⟨h1.symm, h2.symm⟩
    · exact Or.inl h1

theorem keep_ks (s : NormSt) (m : Msg) (h : m.ty = .keySignature) : keep s m = true ↔ s.key ≠ m.key := by
  rw [keep, h, bne_iff_ne]
  exact ⟨fun h e => h e.symm, fun h e => h e.symm⟩

theorem mem_step_O {s : NormSt} {m : Msg} {e : Option Nat × Msg} (he : e ∈ (normStep s m).O) :
    e ∈ s.O ∨ keep s m = true ∧ (e = (none, Msg.mkWait m.ch s.wbuf) ∧ 0 < s.wbuf ∨ e = (some s.idx, m)) := by
  rw [step_O] at he
  rcases List.mem_append.1 he with he | he
  · exact Or.inl he
  · split at he
    · rename_i hk
      refine Or.inr ⟨hk, ?_⟩
      rcases List.mem_append.1 he with he | he
      · rw [flushL] at he
        split at he
        · exact Or.inl ⟨List.mem_singleton.1 he, by assumption⟩
        · cases he
      · exact Or.inr (List.mem_singleton.1 he)
    · cases he

theorem old_lt {pre : List Msg} {s : NormSt}
    (ent : ∀ e ∈ s.O, (e.1 = none ∧ ∃ m ∈ pre, ∃ t, 0 < t ∧ e.2 = Msg.mkWait m.ch t) ∨
      (∃ i, e.1 = some i ∧ i < s.idx ∧ e.2.ty ≠ .wait ∧ e.2 ∈ pre))
    (e : Option Nat × Msg) (he : e ∈ s.O) (i : Nat) (hi : e.1 = some i) : i < s.idx := by
  rcases ent e he with h1 | ⟨j, h1, h2, _⟩
  · rw [h1.1] at hi; cases hi
  · rw [h1] at hi; cases hi; exact h2

theorem invA_step (pre : List Msg) (s : NormSt) (m : Msg) (h : InvA pre s) :
    InvA (pre ++ [m]) (normStep s m) := by
  obtain ⟨ent, nd, lt, own⟩ := h
  refine ⟨?_, step_nodup s m nd, ?_, ?_⟩
  · intro e he
    rw [step_idx]
    rcases mem_step_O he with he | ⟨hk, ⟨rfl, hpos⟩ | rfl⟩
    · rcases ent e he with ⟨h1, x, hx, h2⟩ | ⟨i, h1, h2, h3, h4⟩
      · exact Or.inl ⟨h1, x, List.mem_append_left _ hx, h2⟩
      · exact Or.inr ⟨i, h1, Nat.lt_succ_of_lt h2, h3, List.mem_append_left _ h4⟩
    · exact Or.inl ⟨rfl, m, List.mem_append_right _ (List.mem_singleton.2 rfl), _, hpos, rfl⟩
    · exact Or.inr ⟨s.idx, rfl, Nat.lt_succ_self _, keep_not_wait s m hk,
        List.mem_append_right _ (List.mem_singleton.2 rfl)⟩
  · intro k i hi
    rw [step_idx]
    rcases stk_cases s m k with ⟨_, _, hst⟩ | ⟨_, _, hst⟩ | ⟨_, hst⟩ <;> rw [hst] at hi
    · rcases List.mem_append.1 hi with hi | hi
      · exact Nat.lt_succ_of_lt (lt k i hi)
      · rw [List.mem_singleton.1 hi]; exact Nat.lt_succ_self _
    · exact Nat.lt_succ_of_lt (lt k i (mem_dropLast _ _ hi))
    · exact Nat.lt_succ_of_lt (lt k i hi)
  · intro e he i k hi hik
    rcases mem_step_O he with he | ⟨hk, ⟨rfl, _⟩ | rfl⟩
    · -- an old entry: its index is below `s.idx`
      have hlt := old_lt ent e he i hi
      rcases stk_cases s m k with ⟨_, _, hst⟩ | ⟨_, _, hst⟩ | ⟨_, hst⟩ <;> rw [hst] at hik ⊢
      · rcases List.mem_append.1 hik with hik | hik
        · have := own e he i k hi hik
          exact ⟨this.1, this.2.1, by rw [List.head?_append, this.2.2]; rfl⟩
        · rw [List.mem_singleton.1 hik] at hlt; exact absurd hlt (Nat.lt_irrefl _)
      · have := own e he i k hi (mem_dropLast _ _ hik)
        exact ⟨this.1, this.2.1, by rw [head?_dropLast _ (List.ne_nil_of_mem hik)]; exact this.2.2⟩
      · exact own e he i k hi hik
    · cases hi
    · -- the new entry: its index `s.idx` is on no old stack
      cases hi
      rcases stk_cases s m k with ⟨hmk, hon, hst⟩ | ⟨_, _, hst⟩ | ⟨_, hst⟩ <;> rw [hst] at hik ⊢
      · rw [keep_on hon, hmk] at hk
        rw [List.eq_nil_of_length_eq_zero (beq_iff_eq.1 hk)]
        exact ⟨hmk, hon, rfl⟩
      · exact absurd (lt k _ (mem_dropLast _ _ hik)) (Nat.lt_irrefl _)
      · exact absurd (lt k _ hik) (Nat.lt_irrefl _)

def msgs (L : List (Option Nat × Msg)) : List Msg := L.map Prod.snd

@[simp] theorem msgs_append (a b : List (Option Nat × Msg)) : msgs (a ++ b) = msgs a ++ msgs b := by
  simp [msgs]
@[simp] theorem msgs_nil : msgs [] = [] := rfl
@[simp] theorem msgs_cons (a : Option Nat × Msg) (b : List (Option Nat × Msg)) :
    msgs (a :: b) = a.2 :: msgs b := rfl

/-- the input indices of the note-ons that are still open -/
def unclosed (s : NormSt) : List Nat := s.opens.flatMap (fun kv => kv.2)

/-- an entry survives the clean-up at the end: its tag is on no stack (emitted waits always do) -/
def Q (s : NormSt) (e : Option Nat × Msg) : Bool :=
  match e.1 with | some i => !(unclosed s).contains i | none => true

/-- the entry the end of the loop adds: the buffered wait on the default channel -/
def flushEnd (s : NormSt) : List (Option Nat × Msg) :=
  if s.wbuf > 0 then [(none, Msg.mkWait (s.defCh.getD 0) s.wbuf)] else []

theorem flushEnd_eq (s : NormSt) : flushEnd s = flushL s (s.defCh.getD 0) := rfl

theorem normalise_eq (r : List Msg) :
    normalise r = msgs (((r.foldl normStep {}).O ++ flushEnd (r.foldl normStep {})).filter
      (Q (r.foldl normStep {}))) := by
  have h : ∀ s : NormSt, (((if s.wbuf > 0 then (none, Msg.mkWait (s.defCh.getD 0) s.wbuf) :: s.out else s.out).reverse.filter
      (fun e => match e.1 with | some i => !(s.opens.flatMap (fun kv => kv.2)).contains i | none => true)).map (·.2))
      = msgs ((s.O ++ flushEnd s).filter (Q s)) := by
    intro s
    have hQ : (fun e : Option Nat × Msg => match e.1 with | some i => !(s.opens.flatMap (fun kv => kv.2)).contains i | none => true) = Q s := by
      funext e; simp only [Q, unclosed]
    rw [hQ]
    simp only [msgs, NormSt.O, flushEnd]
    split <;> simp
  exact h _

theorem mem_unclosed (s : NormSt) (nd : (s.opens.map Prod.fst).Nodup) (i : Nat) :
    i ∈ unclosed s ↔ ∃ k, i ∈ s.stk k := by
  simp only [unclosed, List.mem_flatMap, NormSt.stk]
  constructor
  · rintro ⟨⟨k, v⟩, hkv, hi⟩
    exact ⟨k, by rw [Assoc.get?_of_mem _ nd k v hkv]; exact hi⟩
  · rintro ⟨k, hi⟩
    cases hg : s.opens.get? k with
    | none => simp [hg] at hi
    | some v =>
      rw [hg] at hi
      exact ⟨(k, v), Assoc.mem_of_get? _ _ _ hg, hi⟩

theorem Q_false {pre : List Msg} {s : NormSt} (h : InvA pre s) (e : Option Nat × Msg)
    (he : e ∈ s.O ++ flushEnd s) (hq : Q s e = false) :
    e ∈ s.O ∧ e.2.ty = .noteOn ∧ ∃ i, e.1 = some i ∧ (s.stk e.2.nkey).head? = some i := by
  cases h1 : e.1 with
  | none => simp [Q, h1] at hq
  | some i =>
    simp [Q, h1] at hq
    obtain ⟨k, hk⟩ := (mem_unclosed s h.nd i).1 hq
    rcases List.mem_append.1 he with he | he
    · have := h.own e he i k h1 hk
      refine ⟨he, this.2.1, i, rfl, ?_⟩
      rw [this.1]; exact this.2.2
    · simp only [flushEnd] at he
      split at he
      · simp at he; subst he; simp at h1
      · simp at he

theorem Q_true_of_empty {pre : List Msg} {s : NormSt} (h : InvA pre s) (hs : ∀ k, s.stk k = [])
    (e : Option Nat × Msg) : Q s e = true := by
  cases h1 : e.1 with
  | none => simp [Q, h1]
  | some i =>
    simp only [Q, h1]
    have : i ∉ unclosed s := by
      rw [mem_unclosed s h.nd]
      rintro ⟨k, hk⟩
      simp [hs k] at hk
    simp [this]

theorem Q_of_stk {pre : List Msg} {s : NormSt} (h : InvA pre s) (e : Option Nat × Msg)
    (i : Nat) (k : Int × Int) (hi : e.1 = some i) (hk : i ∈ s.stk k) : Q s e = false := by
  simp only [Q, hi]
  have : i ∈ unclosed s := (mem_unclosed s h.nd i).2 ⟨k, hk⟩
  simp [this]

structure InvT (pre : List Msg) (s : NormSt) : Prop where
  nn : 0 ≤ s.wbuf
  clk : totalWait (msgs s.O) + s.wbuf = totalWait pre

theorem invT_init : InvT [] {} := ⟨by decide, by simp [init_O, totalWait]⟩

theorem totalWait_flushL (s : NormSt) (c : Int) (h : 0 ≤ s.wbuf) :
    totalWait (msgs (flushL s c)) = s.wbuf := by
  simp only [flushL]
  split
  · simp [totalWait, Msg.mkWait]
  · simp [totalWait]; omega

theorem eventsRelGo_flushL (s : NormSt) (c c' : Int) : eventsRelGo c' (msgs (flushL s c)) = [] := by
  simp only [flushL]; split <;> simp [eventsRelGo, Msg.mkWait]

theorem invT_step (pre : List Msg) (s : NormSt) (m : Msg) (hm : m.ty = .wait → 0 ≤ m.time)
    (h : InvT pre s) : InvT (pre ++ [m]) (normStep s m) := by
  obtain ⟨nn, clk⟩ := h
  have hfl := totalWait_flushL s m.ch nn
  constructor
  · rw [step_wbuf]
    split
    · rename_i hw; have := hm hw; omega
    · split <;> omega
  · rw [step_wbuf, step_O, totalWait_append, msgs_append, totalWait_append]
    by_cases hw : m.ty = .wait
    · have hk : keep s m = false := by simp [keep, hw]
      simp [hw, hk, totalWait]; omega
    · by_cases hk : keep s m = true
      · simp only [hk, if_true, msgs_append, totalWait_append, hfl, hw, if_false, true_and]
        simp only [msgs_cons, msgs_nil, totalWait, beq_iff_eq, hw, if_false]
        split <;> omega
      · simp [hw, hk, totalWait]; omega

def stamp (m : Msg) (t : Int) : Msg := { m with time := t }

theorem step_events (pre : List Msg) (s : NormSt) (m : Msg) (h : InvT pre s) :
    eventsRelGo 0 (msgs (normStep s m).O) =
      eventsRelGo 0 (msgs s.O) ++ (if keep s m = true then [stamp m (totalWait pre)] else []) := by
  obtain ⟨nn, clk⟩ := h
  have hfl := totalWait_flushL s m.ch nn
  rw [step_O, msgs_append, eventsRelGo_append]
  by_cases hk : keep s m = true
  · have hw := keep_not_wait s m hk
    simp only [hk, if_true, msgs_append, eventsRelGo_append, hfl]
    rw [eventsRelGo_flushL]
    simp [eventsRelGo, hw, stamp]
    omega
  · simp [hk, eventsRelGo]

/-! ### `normalise` as a selection

Which messages the loop keeps depends on the messages before them only (`keepP`); what it has put out is the scan of the input
with that predicate (`scan`), with or without ticks, and every class of events is read off the scan. -/

/-- is `m` kept when it comes after the messages `p`? -/
def keepP (p : List Msg) (m : Msg) : Bool :=
  match m.ty with
  | .wait => false
  | .noteOn => depth m.nkey p 0 == 0
  | .noteOff => depth m.nkey p 0 == 1
  | .timeSignature => decide (lastD (pyNone, pyNone) (tsVals p) ≠ (m.num, m.den))
  | .keySignature => decide (lastD pyNone (ksVals p) ≠ m.key)
  | _ => true

/-- the messages of `l` that `kp` keeps after what precedes them (`p` to start with), stamped by `tm` -/
def scan (kp : List Msg → Msg → Bool) (tm : List Msg → Msg → Int) (p : List Msg) : List Msg → List Msg
  | [] => []
  | m :: ms => (if kp p m = true then [stamp m (tm p m)] else []) ++ scan kp tm (p ++ [m]) ms

theorem scan_snoc (kp : List Msg → Msg → Bool) (tm : List Msg → Msg → Int) (l : List Msg) (m : Msg) : ∀ p,
    scan kp tm p (l ++ [m]) = scan kp tm p l ++ (if kp (p ++ l) m = true then [stamp m (tm (p ++ l) m)] else []) := by
  induction l with
  | nil => intro p; simp [scan]
  | cons x xs ih => intro p; rw [List.cons_append, scan, scan, ih, List.append_assoc, List.append_assoc, List.singleton_append]

def nwP (_ : List Msg) (m : Msg) : Bool := m.ty != .wait
def tickT (p : List Msg) (_ : Msg) : Int := totalWait p

theorem eventsRelGo_eq_scan (l : List Msg) : ∀ p, eventsRelGo (totalWait p) l = scan nwP tickT p l := by
  induction l with
  | nil => intro p; rfl
  | cons m ms ih =>
    intro p
    by_cases hw : m.ty = .wait
    · rw [eventsRelGo_cons_wait _ _ _ hw, scan, if_neg (by simp [nwP, hw]), ← ih, totalWait_append, totalWait_cons_wait _ _ hw]
      simp [totalWait]
    · rw [eventsRelGo_cons_nowait _ _ _ hw, scan, if_pos (by simp [nwP, hw]), ← ih, totalWait_append,
        totalWait_cons_nowait _ _ hw]
      simp [stamp, tickT, totalWait]

/-- the state of the loop after the messages `pre` -/
structure InvC (pre : List Msg) (s : NormSt) : Prop where
  dep : ∀ k, (s.stk k).length = depth k pre 0
  ts : (s.tsNum, s.tsDen) = lastD (pyNone, pyNone) (tsVals pre)
  ks : s.key = lastD pyNone (ksVals pre)
  dch : s.defCh = pre.head?.map (·.ch)

theorem invC_init : InvC [] {} := ⟨fun _ => rfl, rfl, rfl, rfl⟩

theorem invC_step (pre : List Msg) (s : NormSt) (m : Msg) (h : InvC pre s) : InvC (pre ++ [m]) (normStep s m) := by
  obtain ⟨dep, ts, ks, dch⟩ := h
  refine ⟨fun k => ?_, ?_, ?_, by rw [step_defCh, dch]; cases pre <;> rfl⟩
  · rw [depth_append, ← dep k]
    rcases stk_cases s m k with ⟨hmk, hon, hst⟩ | ⟨hmk, hoff, hst⟩ | ⟨hno, hst⟩
    · rw [hst, depth_cons_on ⟨hmk, hon⟩, List.length_append]; rfl
    · rw [hst, depth_cons_off ⟨hmk, hoff⟩, List.length_dropLast]; rfl
    · rw [hst, depth_cons_skip hno]; rfl
  · rw [step_ts, tsVals_snoc]
    split
    · rw [lastD_snoc]
    · rw [List.append_nil]; exact ts
  · rw [step_key, ksVals_snoc]
    split
    · rw [lastD_snoc]
    · rw [List.append_nil]; exact ks

theorem keep_eq {pre : List Msg} {s : NormSt} (h : InvC pre s) (m : Msg) : keep s m = keepP pre m := by
  rw [Bool.eq_iff_iff]
  cases hm : m.ty with
  | noteOn => rw [keep_on hm, keepP, hm, h.dep]
  | noteOff => rw [keep_off hm, keepP, hm, h.dep]
  | timeSignature => rw [keep_ts s m hm, keepP, hm, h.ts, decide_eq_true_iff]
  | keySignature => rw [keep_ks s m hm, keepP, hm, h.ks, decide_eq_true_iff]
  | _ => simp [keep, keepP, hm]

def tickU (_ : List Msg) (m : Msg) : Int := m.time

theorem out_step (pre : List Msg) (s : NormSt) (m : Msg) (hC : InvC pre s)
    (h : (msgs s.O).filter (·.ty != .wait) = scan keepP tickU [] pre) :
    (msgs (normStep s m).O).filter (·.ty != .wait) = scan keepP tickU [] (pre ++ [m]) := by
  rw [step_O, msgs_append, List.filter_append, h, scan_snoc, List.nil_append, ← keep_eq hC]
  congr 1
  split
  · rename_i hk
    have hfl : (msgs (flushL s m.ch)).filter (·.ty != .wait) = [] := by
      rw [flushL]; split <;> rfl
    rw [msgs_append, List.filter_append, hfl, List.nil_append, msgs_cons, msgs_nil,
      List.filter_cons_of_pos (by simpa using keep_not_wait s m hk)]
    rfl
  · rfl

theorem events_step (pre : List Msg) (s : NormSt) (m : Msg) (hT : InvT pre s) (hC : InvC pre s)
    (h : eventsRelGo 0 (msgs s.O) = scan keepP tickT [] pre) :
    eventsRelGo 0 (msgs (normStep s m).O) = scan keepP tickT [] (pre ++ [m]) := by
  rw [step_events pre s m hT, h, scan_snoc, List.nil_append, ← keep_eq hC]
  rfl

section scan
variable (tm : List Msg → Msg → Int)

theorem keepP_nw {p : List Msg} {m : Msg} (h : keepP p m = true) : nwP p m = true := by
  cases hm : m.ty <;> simp [keepP, nwP, hm] at h ⊢

theorem scan_sublist (l : List Msg) : ∀ p, (scan keepP tm p l).Sublist (scan nwP tm p l) := by
  induction l with
  | nil => intro p; exact List.Sublist.slnil
  | cons m ms ih =>
    intro p
    rw [scan, scan]
    refine List.Sublist.append ?_ (ih _)
    split
    · rw [if_pos (keepP_nw (by assumption))]; exact List.Sublist.refl _
    · exact List.nil_sublist _

theorem scan_filter_kept (g : Msg → Bool) (hg : StampInv g) (hk : ∀ p m, nwP p m = true → g m = true → keepP p m = true)
    (l : List Msg) : ∀ p, (scan keepP tm p l).filter g = (scan nwP tm p l).filter g := by
  induction l with
  | nil => intro p; rfl
  | cons m ms ih =>
    intro p
    rw [scan, scan, List.filter_append, List.filter_append, ih]
    congr 1
    by_cases hw : nwP p m = true
    · rw [if_pos hw]
      by_cases hgm : g m = true
      · rw [if_pos (hk p m hw hgm)]
      · split
        · rfl
        · exact (List.filter_cons_of_neg (by rw [stamp, hg]; exact hgm)).symm
    · rw [if_neg hw, if_neg fun h => hw (keepP_nw h)]

theorem scan_fuse (k : Int × Int) (l : List Msg) : ∀ p,
    (scan keepP tm p l).filter (isKN k) = fuseK k (depth k p 0) (scan nwP tm p l) := by
  induction l with
  | nil => intro p; rfl
  | cons m ms ih =>
    intro p
    rw [scan, scan, List.filter_append, ih, depth_append]
    rcases kev_cases k m with h | h | h
    · have hw : nwP p m = true := by simp [nwP, h.2]
      rw [if_pos hw, List.singleton_append, fuseK_kon (m := stamp m (tm p m)) h, depth_cons_on h, keepP, h.2, h.1]
      by_cases hd : depth k p 0 = 0
      · rw [if_pos (beq_iff_eq.2 hd), if_pos hd, hd,
          List.filter_cons_of_pos (isKN_true (m := stamp m (tm p m)) ⟨h.1, Or.inl h.2⟩)]
        rfl
      · rw [if_neg fun e => hd (beq_iff_eq.1 e), if_neg hd]; rfl
    · have hw : nwP p m = true := by simp [nwP, h.2]
      rw [if_pos hw, List.singleton_append, fuseK_koff (m := stamp m (tm p m)) h, depth_cons_off h, keepP, h.2, h.1]
      by_cases hd : depth k p 0 = 1
      · rw [if_pos (beq_iff_eq.2 hd), if_pos hd, hd,
          List.filter_cons_of_pos (isKN_true (m := stamp m (tm p m)) ⟨h.1, Or.inr h.2⟩)]
        rfl
      · rw [if_neg fun e => hd (beq_iff_eq.1 e), if_neg hd]; rfl
    · rw [depth_cons_skip h]
      have hf : ∀ x : List Msg, (∀ y ∈ x, y = stamp m (tm p m)) → x.filter (isKN k) = [] := fun x hx =>
        List.filter_eq_nil_iff.2 fun y hy => hx y hy ▸ isKN_false (m := stamp m (tm p m)) h
      rw [hf _ (by intro y hy; split at hy; exact List.mem_singleton.1 hy; cases hy), List.nil_append]
      split
      · exact (fuseK_kother (m := stamp m (tm p m)) h _ _).symm
      · rfl

end scan

theorem scan_sig {β} [DecidableEq β] (tm : List Msg → Msg → Int) (τ : MType) (hτ : τ ≠ .wait) (v : Msg → β)
    (hv : ∀ (m : Msg) t, v (stamp m t) = v m) (d : β)
    (hk : ∀ p m, m.ty = τ → (keepP p m = true ↔ lastD d ((p.filter (·.ty == τ)).map v) ≠ v m)) (l : List Msg) : ∀ p,
    (scan keepP tm p l).filter (·.ty == τ) =
      E2E.dedupBy v (lastD d ((p.filter (·.ty == τ)).map v)) ((scan nwP tm p l).filter (·.ty == τ)) := by
  induction l with
  | nil => intro p; rfl
  | cons m ms ih =>
    intro p
    rw [scan, scan, List.filter_append, List.filter_append, ih, List.filter_append, List.map_append]
    by_cases hm : m.ty = τ
    · have hw : nwP p m = true := by simp [nwP, hm, hτ]
      have hf : ∀ t, [stamp m t].filter (·.ty == τ) = [stamp m t] := fun t => by simp [stamp, hm]
      rw [if_pos hw, hf, List.filter_cons_of_pos (by simp [hm]), List.filter_nil, List.map_singleton, lastD_snoc,
        List.singleton_append, E2E.dedupBy, hv]
      by_cases hkeep : keepP p m = true
      · rw [if_pos hkeep, if_neg ((hk p m hm).1 hkeep), hf]; rfl
      · rw [if_neg hkeep, if_pos (Decidable.not_not.1 fun h => hkeep ((hk p m hm).2 h))]
        rw [← Decidable.not_not.1 fun h => hkeep ((hk p m hm).2 h)]
        rfl
    · have hf : ∀ (c : Bool), (if c = true then [stamp m (tm p m)] else []).filter (·.ty == τ) = [] := fun c => by
        cases c <;> simp [stamp, hm]
      rw [hf, hf, List.filter_cons_of_neg (by simpa using hm), List.filter_nil, List.map_nil, List.append_nil,
        List.nil_append, List.nil_append]

def kn (k : Int × Int) (L : List (Option Nat × Msg)) : List (Option Nat × Msg) :=
  L.filter (fun e => isKN k e.2)

theorem msgs_kn (k : Int × Int) (L : List (Option Nat × Msg)) : msgs (kn k L) = (msgs L).filter (isKN k) := by
  simp only [msgs, kn, List.filter_map]; rfl

/-- the head of the stack of `k` is the tag of the last entry of `k` in the output, and of none before it -/
def InvW (k : Int × Int) (s : NormSt) : Prop :=
  ∀ i0, (s.stk k).head? = some i0 → ∃ L m, kn k s.O = L ++ [(some i0, m)] ∧ ∀ e ∈ L, e.1 ≠ some i0

theorem invW_init (k : Int × Int) : InvW k {} := fun i0 h => by rw [init_stk] at h; cases h

theorem kn_flushL (k : Int × Int) (s : NormSt) (c : Int) : kn k (flushL s c) = [] := by
  simp only [flushL]; split <;> simp [kn, isKN, Msg.mkWait]

theorem kn_step (k : Int × Int) (s : NormSt) (m : Msg) :
    kn k (normStep s m).O = kn k s.O ++ (if keep s m = true ∧ isKN k m = true then [(some s.idx, m)] else []) := by
  rw [step_O]
  simp only [kn, List.filter_append]
  congr 1
  by_cases hk : keep s m = true
  · simp only [hk, if_true, List.filter_append, true_and]
    have := kn_flushL k s m.ch
    simp only [kn] at this
    rw [this]
    by_cases hi : isKN k m = true <;> simp [hi]
  · simp [hk]

theorem invW_step (pre : List Msg) (k : Int × Int) (s : NormSt) (m : Msg) (hA : InvA pre s)
    (h : InvW k s) : InvW k (normStep s m) := by
  have hkn := kn_step k s m
  -- nothing of the key is put out and the head of its stack stays
  have same : kn k (normStep s m).O = kn k s.O →
      (∀ i0, ((normStep s m).stk k).head? = some i0 → (s.stk k).head? = some i0) → InvW k (normStep s m) :=
    fun e hh i0 hi => by rw [e]; exact h i0 (hh i0 hi)
  rcases stk_cases s m k with ⟨hmk, hon, hst⟩ | ⟨hmk, hoff, hst⟩ | ⟨hno, hst⟩
  · have hkeep : keep s m = ((s.stk k).length == 0) := hmk ▸ keep_on hon s
    cases hs : s.stk k with
    | nil =>
      -- the note-on is put out and its index is the new head; the older tags are smaller
      rw [hs] at hkeep hst
      rw [if_pos ⟨hkeep, isKN_true ⟨hmk, Or.inl hon⟩⟩] at hkn
      intro i0 hi
      rw [hst] at hi
      cases hi
      exact ⟨kn k s.O, m, hkn, fun e he hei => Nat.lt_irrefl _ (old_lt hA.ent e (List.mem_filter.1 he).1 _ hei)⟩
    | cons i0 rest =>
      rw [hs] at hkeep hst
      rw [if_neg fun h => Bool.noConfusion (hkeep.symm.trans h.1), List.append_nil] at hkn
      exact same hkn fun j hj => by rw [hst] at hj; rw [hs]; exact hj
  · have hkeep : keep s m = ((s.stk k).length == 1) := hmk ▸ keep_off hoff s
    rcases hs : s.stk k with _ | ⟨i0, _ | ⟨i1, rest⟩⟩
    · intro j hj; rw [hst, hs] at hj; cases hj
    · intro j hj; rw [hst, hs] at hj; cases hj
    · rw [hs] at hkeep hst
      rw [if_neg fun h => Bool.noConfusion (hkeep.symm.trans h.1), List.append_nil] at hkn
      exact same hkn fun j hj => by rw [hst] at hj; rw [hs]; exact hj
  · rw [if_neg fun h => hno (isKN_iff_kev.1 h.2), List.append_nil] at hkn
    exact same hkn fun j hj => by rwa [hst] at hj

/-- what the analysis knows of the state after the loop has run over `r` -/
structure Ran (r : List Msg) (s : NormSt) : Prop where
  A : InvA r s
  W : ∀ k, InvW k s
  C : InvC r s
  out : (msgs s.O).filter (·.ty != .wait) = scan keepP tickU [] r
  T : NonNegWaits r → InvT r s
  ev : NonNegWaits r → eventsRelGo 0 (msgs s.O) = scan keepP tickT [] r

theorem ran (r : List Msg) : Ran r (r.foldl normStep {}) := by
  have := fold_inv (fun pre post s => InvA pre s ∧ (∀ k, InvW k s) ∧ InvC pre s ∧
      (msgs s.O).filter (·.ty != .wait) = scan keepP tickU [] pre ∧
      (NonNegWaits (pre ++ post) → InvT pre s ∧ eventsRelGo 0 (msgs s.O) = scan keepP tickT [] pre))
    (fun pre m post s ⟨hA, hW, hC, hO, hT⟩ => ⟨invA_step pre s m hA, fun k => invW_step pre k s m hA (hW k), invC_step pre s m hC,
      out_step pre s m hC hO, fun hnn => by
        have hnn' : NonNegWaits (pre ++ m :: post) := by simpa using hnn
        have ⟨hT', hE⟩ := hT hnn'
        exact ⟨invT_step pre s m (hnn' m (by simp)) hT', events_step pre s m hT' hC hE⟩⟩) r [] {}
    ⟨invA_init, invW_init, invC_init, rfl, fun _ => ⟨invT_init, rfl⟩⟩
  simp only [List.nil_append, List.append_nil] at this
  obtain ⟨hA, hW, hC, hO, hT⟩ := this
  exact ⟨hA, hW, hC, hO, fun h => (hT h).1, fun h => (hT h).2⟩

theorem not_wait_of_Q_false {pre : List Msg} {s : NormSt} (h : InvA pre s) :
    ∀ e ∈ s.O ++ flushEnd s, Q s e = false → e.2.ty ≠ .wait := by
  intro e he hq
  have := (Q_false h e he hq).2.1
  rw [this]; simp

theorem normalise_totalWait (r : List Msg) (hr : NonNegWaits r) : totalWait (normalise r) = totalWait r := by
  have hA := (ran r).A
  have hT := (ran r).T hr
  rw [normalise_eq, msgs, totalWait_map_filter _ _ _ (not_wait_of_Q_false hA), ← msgs, msgs_append, totalWait_append,
    flushEnd_eq, totalWait_flushL _ _ hT.nn]
  exact hT.clk

theorem events_full (s : NormSt) : eventsRelGo 0 (msgs (s.O ++ flushEnd s)) = eventsRelGo 0 (msgs s.O) := by
  rw [msgs_append, eventsRelGo_append, flushEnd_eq, eventsRelGo_flushL, List.append_nil]

theorem scan_nw_tickU (l : List Msg) : ∀ p, scan nwP tickU p l = l.filter (·.ty != .wait) := by
  induction l with
  | nil => intro p; rfl
  | cons m ms ih =>
    intro p
    rw [scan, ih]
    by_cases h : nwP p m = true
    · rw [if_pos h, List.filter_cons_of_pos (p := fun x : Msg => x.ty != .wait) h]; rfl
    · rw [if_neg h, List.filter_cons_of_neg (p := fun x : Msg => x.ty != .wait) h]; rfl

theorem eventsRel_eq_scan (r : List Msg) : eventsRel r = scan nwP tickT [] r := eventsRelGo_eq_scan r []

theorem normalise_events_sublist (r : List Msg) (hr : NonNegWaits r) :
    (eventsRel (normalise r)).Sublist (eventsRel r) := by
  have hA := (ran r).A
  rw [normalise_eq]
  refine List.Sublist.trans (eventsRelGo_map_filter_sublist _ _ _ (not_wait_of_Q_false hA) 0) (?_ : (eventsRelGo 0 (msgs _)).Sublist _)
  rw [events_full, (ran r).ev hr, eventsRel_eq_scan]
  exact scan_sublist tickT r []

theorem isKN_stampInv (k : Int × Int) : StampInv (isKN k) := fun _ _ => rfl

/-- the clean-up at the end removes note-ons only, and the wait it adds carries no event: a class of events without
    note-ons does not see it -/
theorem normalise_events_filter (q : Msg → Bool) (hq : StampInv q) (hon : ∀ m : Msg, m.ty = .noteOn → q m = false)
    (r : List Msg) (hr : NonNegWaits r) :
    (eventsRel (normalise r)).filter q = (scan keepP tickT [] r).filter q := by
  have hA := (ran r).A
  rw [normalise_eq]
  simp only [eventsRel]
  rw [msgs, eventsRelGo_map_filter_filter q hq, ← msgs, events_full, (ran r).ev hr]
  intro e he hqe
  have := (Q_false hA e he hqe).2.1
  exact ⟨by simp [this], hon _ this⟩

theorem normalise_events_kept (q : Msg → Bool) (hq : StampInv q) (hon : ∀ m : Msg, m.ty = .noteOn → q m = false)
    (hk : ∀ p m, nwP p m = true → q m = true → keepP p m = true) (r : List Msg) (hr : NonNegWaits r) :
    (eventsRel (normalise r)).filter q = (eventsRel r).filter q := by
  rw [normalise_events_filter q hq hon r hr, eventsRel_eq_scan]
  exact scan_filter_kept tickT q hq hk r []

theorem normalise_sig_events {β} [DecidableEq β] (τ : MType) (hτ : τ ≠ .wait) (hτ' : τ ≠ .noteOn) (v : Msg → β)
    (hv : ∀ (m : Msg) t, v (stamp m t) = v m) (d : β)
    (hk : ∀ p m, m.ty = τ → (keepP p m = true ↔ lastD d ((p.filter (·.ty == τ)).map v) ≠ v m))
    (r : List Msg) (hr : NonNegWaits r) :
    (eventsRel (normalise r)).filter (·.ty == τ) = E2E.dedupBy v d ((eventsRel r).filter (·.ty == τ)) := by
  rw [normalise_events_filter _ (fun _ _ => rfl) (fun m h => by simpa [h] using hτ'.symm) r hr, eventsRel_eq_scan]
  exact scan_sig tickT τ hτ v hv d hk r []

theorem keepP_ts (p : List Msg) (m : Msg) (h : m.ty = .timeSignature) :
    keepP p m = true ↔ lastD (pyNone, pyNone) ((p.filter (·.ty == .timeSignature)).map fun m => (m.num, m.den)) ≠ (m.num, m.den) := by
  rw [keepP, h, decide_eq_true_iff]; rfl

theorem keepP_ks (p : List Msg) (m : Msg) (h : m.ty = .keySignature) :
    keepP p m = true ↔ lastD pyNone ((p.filter (·.ty == .keySignature)).map fun m => m.key) ≠ m.key := by
  rw [keepP, h, decide_eq_true_iff]; rfl

theorem normalise_mem (r : List Msg) : ∀ x ∈ normalise r,
    (x ∈ r ∧ x.ty ≠ .wait) ∨ ∃ m ∈ r, ∃ t, 0 < t ∧ x = Msg.mkWait m.ch t := by
  have hA := (ran r).A
  have hC := (ran r).C
  intro x hx
  rw [normalise_eq] at hx
  simp only [msgs, List.mem_map, List.mem_filter] at hx
  obtain ⟨e, ⟨he, _⟩, rfl⟩ := hx
  rcases List.mem_append.1 he with he | he
  · rcases hA.ent e he with ⟨_, h⟩ | ⟨i, _, _, h3, h4⟩
    · exact Or.inr h
    · exact Or.inl ⟨h4, h3⟩
  · -- the wait at the end is on the channel of the first message
    simp only [flushEnd] at he
    split at he
    · rename_i hpos
      rw [List.mem_singleton.1 he, hC.dch]
      cases r with
      | nil => exact absurd hpos (by decide)
      | cons m ms => exact Or.inr ⟨m, List.mem_cons_self, _, hpos, rfl⟩
    · cases he

theorem normalise_entries (r : List Msg) :
    ∀ m ∈ normalise r, (m.ty = .wait ∧ 0 < m.time) ∨ (m.ty ≠ .wait ∧ m ∈ r) := fun x hx =>
  (normalise_mem r x hx).elim (fun h => Or.inr ⟨h.2, h.1⟩) fun ⟨_, _, _, ht, e⟩ => Or.inl (e ▸ ⟨rfl, ht⟩)

theorem normalise_nonNegWaits (r : List Msg) : NonNegWaits (normalise r) := fun m hm hw =>
  (normalise_entries r m hm).elim (fun h => Int.le_of_lt h.2) fun h => absurd hw h.1

theorem msgs_filter_filter (g : Msg → Bool) (P : Option Nat × Msg → Bool) (L : List (Option Nat × Msg))
    (hP : ∀ e ∈ L, P e = false → g e.2 = false) :
    (msgs (L.filter P)).filter g = (msgs L).filter g := by
  induction L with
  | nil => rfl
  | cons e L ih =>
    have ih' := ih (fun x hx => hP x (List.mem_cons_of_mem _ hx))
    by_cases hpe : P e = true
    · simp only [List.filter_cons, hpe, if_true, msgs_cons, ih']
    · have := hP e (by simp) (by simpa using hpe)
      simp only [List.filter_cons, hpe, msgs_cons, this, ih']
      simp [ih']

theorem normalise_filter (p : Msg → Bool) (hw : ∀ c t, p (Msg.mkWait c t) = false)
    (hon : ∀ m : Msg, m.ty = .noteOn → p m = false) (r : List Msg) :
    (normalise r).filter p = (msgs (r.foldl normStep {}).O).filter p := by
  have hA := (ran r).A
  rw [normalise_eq, msgs_filter_filter p _ _ fun e he hq => hon _ (Q_false hA e he hq).2.1, msgs_append,
    List.filter_append, flushEnd]
  split
  · rw [msgs_cons, msgs_nil, List.filter_cons_of_neg (by rw [hw]; exact Bool.false_ne_true)]
    exact List.append_nil _
  · exact List.append_nil _

theorem filter_nowait_filter (g : Msg → Bool) (hg : ∀ x, g x = true → x.ty ≠ .wait) (l : List Msg) :
    (l.filter (·.ty != .wait)).filter g = l.filter g := by
  rw [List.filter_filter]
  exact List.filter_congr fun x _ => by
    cases hx : g x
    · rfl
    · exact (Bool.true_and _).trans (bne_iff_ne.2 (hg x hx))

theorem normalise_sig_vals {β} [DecidableEq β] (τ : MType) (hτ : τ ≠ .wait) (hτ' : τ ≠ .noteOn) (v : Msg → β)
    (hv : ∀ (m : Msg) t, v (stamp m t) = v m) (d : β)
    (hk : ∀ p m, m.ty = τ → (keepP p m = true ↔ lastD d ((p.filter (·.ty == τ)).map v) ≠ v m)) (r : List Msg) :
    ((normalise r).filter (·.ty == τ)).map v = dedupD d ((r.filter (·.ty == τ)).map v) := by
  have hnw : ∀ l : List Msg, (l.filter (·.ty != .wait)).filter (·.ty == τ) = l.filter (·.ty == τ) := fun l =>
    filter_nowait_filter _ (fun x hx => by rw [beq_iff_eq.1 hx]; exact hτ) l
  rw [normalise_filter _ (fun _ _ => by simpa [Msg.mkWait] using hτ.symm) (fun m h => by simpa [h] using hτ'.symm),
    ← hnw, (ran r).out, scan_sig tickU τ hτ v hv d hk r [], dedupBy_map, scan_nw_tickU, hnw]
  rfl

theorem normalise_tsVals (r : List Msg) : tsVals (normalise r) = dedupD (pyNone, pyNone) (tsVals r) :=
  normalise_sig_vals .timeSignature (by decide) (by decide) _ (fun _ _ => rfl) _ keepP_ts r

theorem normalise_ksVals (r : List Msg) : ksVals (normalise r) = dedupD pyNone (ksVals r) :=
  normalise_sig_vals .keySignature (by decide) (by decide) _ (fun _ _ => rfl) _ keepP_ks r

theorem krun_out (r : List Msg) (k : Int × Int) :
    krun k false (msgs (kn k (r.foldl normStep {}).O)) = some (decide ((r.foldl normStep {}).stk k ≠ [])) := by
  have hC := (ran r).C
  have hS := (ran r).out
  have hkw : ∀ x : Msg, SplitL.Kev k x → (x.ty != .wait) = true := by rintro x ⟨_, h | h⟩ <;> simp [h]
  rw [msgs_kn, ← filter_nowait_filter _ (fun x hx => bne_iff_ne.1 (hkw x (isKN_iff_kev.1 hx))), hS, scan_fuse tickU k r [],
    scan_nw_tickU]
  refine (krun_fuseK k _ 0).trans ?_
  rw [depth_filter k _ hkw r 0, ← hC.dep k]
  cases (r.foldl normStep {}).stk k <;> simp

theorem normalise_wf (r : List Msg) : WF (normalise r) := by
  have hA := (ran r).A
  have hW := (ran r).W
  intro k
  have hrun := krun_out r k
  rw [normalise_eq, ← altFrom_filter_kn, ← msgs_kn]
  generalize r.foldl normStep {} = s at *
  have hcomm : kn k ((s.O ++ flushEnd s).filter (Q s)) = (kn k s.O).filter (Q s) := by
    have h0 : kn k (s.O ++ flushEnd s) = kn k s.O := by
      rw [kn, List.filter_append, flushEnd_eq]
      exact (congrArg _ (kn_flushL k s _)).trans (List.append_nil _)
    rw [← h0]
    simp only [kn, List.filter_filter]
    congr 1
    funext e
    exact Bool.and_comm _ _
  rw [hcomm]
  -- an entry of key `k` that the clean-up removes is the open note-on at the head of the stack of `k`
  have hrem : ∀ e ∈ kn k s.O, Q s e = false → ∃ i, e.1 = some i ∧ (s.stk k).head? = some i := by
    intro e he hq
    obtain ⟨heO, hek⟩ := List.mem_filter.1 he
    obtain ⟨_, _, i, hi, hh⟩ := Q_false hA e (List.mem_append_left _ heO) hq
    rw [(of_decide_eq_true hek).1] at hh
    exact ⟨i, hi, hh⟩
  cases hs : s.stk k with
  | nil =>
    rw [List.filter_eq_self.2 fun e he => by
      cases hq' : Q s e with
      | true => rfl
      | false =>
        obtain ⟨i, _, hh⟩ := hrem e he hq'
        rw [hs] at hh
        cases hh]
    rw [hs] at hrun
    exact (altFrom_iff_run k false _).2 hrun
  | cons i0 rest =>
    obtain ⟨L, m0, hL, hne⟩ := hW k i0 (by rw [hs]; rfl)
    have hi0 : i0 ∈ s.stk k := by rw [hs]; exact List.mem_cons_self
    have hon0 := hA.own _ (List.mem_filter.1 (hL ▸ List.mem_append_right L (List.mem_singleton_self _))).1 i0 k rfl hi0
    have hq0 : Q s (some i0, m0) = false := Q_of_stk hA _ i0 k rfl hi0
    rw [hL, List.filter_append, List.filter_cons_of_neg (by rw [hq0]; exact Bool.false_ne_true), List.filter_nil,
      List.append_nil, List.filter_eq_self.2 fun e he => by
        cases hq' : Q s e with
        | true => rfl
        | false =>
          obtain ⟨i, hi, hh⟩ := hrem e (by rw [hL]; exact List.mem_append_left _ he) hq'
          rw [hs] at hh
          cases hh
          exact absurd hi (hne e he)]
    -- what was put out before the open note-on ends closed, or the note-on could not follow it
    rw [hL, msgs_append] at hrun
    change krun k false (msgs L ++ [m0]) = _ at hrun
    rw [krun_append] at hrun
    cases hb : krun k false (msgs L) with
    | none => rw [hb] at hrun; cases hrun
    | some b' =>
      cases b' with
      | false => exact (altFrom_iff_run k false _).2 hb
      | true => simp [hb, krun_cons_on k true m0 [] ⟨hon0.1, hon0.2.1⟩] at hrun

theorem normalise_events_closed (r : List Msg) (hr : NonNegWaits r) (hd : ∀ k, depth k r 0 = 0) :
    eventsRel (normalise r) = scan keepP tickT [] r := by
  have hA := (ran r).A
  have hemp : ∀ k, (r.foldl normStep {}).stk k = [] := fun k =>
    List.eq_nil_of_length_eq_zero (((ran r).C.dep k).trans (hd k))
  rw [normalise_eq, List.filter_eq_self.2 (fun e _ => Q_true_of_empty hA hemp e), eventsRel, events_full, (ran r).ev hr]

theorem normalise_fuse (r : List Msg) (hr : NonNegWaits r) (hd : ∀ k, depth k r 0 = 0) (k : Int × Int) :
    (eventsRel (normalise r)).filter (isKN k) = fuseK k 0 (eventsRel r) := by
  rw [normalise_events_closed r hr hd, eventsRel_eq_scan]
  exact scan_fuse tickT k r []

theorem scan_congr (kp1 kp2 : List Msg → Msg → Bool) (tm : List Msg → Msg → Int) (l : List Msg) : ∀ p,
    (∀ l1 m l2, l = l1 ++ m :: l2 → kp1 (p ++ l1) m = kp2 (p ++ l1) m) → scan kp1 tm p l = scan kp2 tm p l := by
  induction l with
  | nil => intro p _; rfl
  | cons m ms ih =>
    intro p h
    rw [scan, scan, (by simpa using h [] m ms rfl : kp1 p m = kp2 p m),
      ih (p ++ [m]) fun l1 x l2 e => by simpa using h (m :: l1) x l2 (by rw [e]; rfl)]

theorem normalise_events_id (l : List Msg) (hnn : NonNegWaits l) (hwf : WF l)
    (hts : ChainNe (pyNone, pyNone) (tsVals l)) (hks : ChainNe pyNone (ksVals l)) :
    eventsRel (normalise l) = eventsRel l := by
  rw [normalise_events_closed l hnn fun k => depth_of_run ((altFrom_iff_run k false l).1 (hwf k)) 0, eventsRel_eq_scan]
  refine scan_congr keepP nwP tickT l [] fun l1 m l2 e => ?_
  rw [List.nil_append]
  cases hm : m.ty with
  | noteOn =>
    obtain ⟨b', hrun, h'⟩ := (altFrom_append_iff m.nkey l1 (m :: l2) false).1 (e ▸ hwf m.nkey)
    rw [altFrom_cons_on ⟨rfl, hm⟩] at h'
    have hd : depth m.nkey l1 0 = 0 := by simpa [h'.1] using depth_of_run hrun 0
    simp [keepP, nwP, hm, hd]
  | noteOff =>
    obtain ⟨b', hrun, h'⟩ := (altFrom_append_iff m.nkey l1 (m :: l2) false).1 (e ▸ hwf m.nkey)
    rw [altFrom_cons_off ⟨rfl, hm⟩] at h'
    have hd : depth m.nkey l1 0 = 1 := by simpa [h'.1] using depth_of_run hrun 0
    simp [keepP, nwP, hm, hd]
  | timeSignature =>
    rw [e, ← List.singleton_append, tsVals, List.filter_append, List.filter_append, List.map_append, List.map_append] at hts
    have := chainNe_mid _ _ _ _ (by simpa [hm] using hts)
    rw [keepP, nwP, hm]
    exact decide_eq_true this
  | keySignature =>
    rw [e, ← List.singleton_append, ksVals, List.filter_append, List.filter_append, List.map_append, List.map_append] at hks
    have := chainNe_mid _ _ _ _ (by simpa [hm] using hks)
    rw [keepP, nwP, hm]
    exact decide_eq_true this
  | _ => simp [keepP, nwP, hm]

end SCoda

namespace SCoda.E2E
open SCoda SCoda.C13b

theorem normalise_ts_events (r : List Msg) (hr : NonNegWaits r) :
    (eventsRel (normalise r)).filter isTs = dedupBy tsv (pyNone, pyNone) ((eventsRel r).filter isTs) :=
  normalise_sig_events .timeSignature (by decide) (by decide) tsv (fun _ _ => rfl) _ keepP_ts r hr

theorem normalise_ks_events (r : List Msg) (hr : NonNegWaits r) :
    (eventsRel (normalise r)).filter isKs = dedupBy keyVal pyNone ((eventsRel r).filter isKs) :=
  normalise_sig_events .keySignature (by decide) (by decide) keyVal (fun _ _ => rfl) _ keepP_ks r hr

end SCoda.E2E
