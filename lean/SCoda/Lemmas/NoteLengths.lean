/-
  Note-length quantisation (`Props/C06`): the closed form of `quantiseNoteLengths` (`quantise_eq`), then the result seen from
  one key: on the notes of the key the method is `nlKey` (`key_out`, through the per-key view `SB.fold_view` of the pairing
  tables).
-/
import SCoda.Lemmas.Quantise
import SCoda.Lemmas.ModifyAt
import SCoda.Lemmas.PairStep
namespace SCoda.NL
open SCoda

theorem nearest_spec (t : Int) (valid : List Int) (h : valid ≠ []) :
    ∃ v, nearest t valid = .ok v ∧ v ∈ valid ∧ ∀ w ∈ valid, (v - t).natAbs ≤ (w - t).natAbs :=
  Q.nearest_ok t valid h

theorem removeFirst_eq_erase (x : Int) (v : List Int) : removeFirst x v = v.erase x := by
  induction v with
  | nil => rfl
  | cons y ys ih =>
    simp only [removeFirst, List.erase_cons, ih]

theorem count_foldl_erase (P : Int → Prop) [DecidablePred P] (y : Int) :
    ∀ (l v : List Int),
      (l.foldl (fun v x => if P x then v.erase x else v) v).count y
        = if P y then v.count y - l.count y else v.count y := by
  intro l
  induction l with
  | nil => intro v; simp
  | cons x l ih =>
    intro v
    simp only [List.foldl_cons]
    rw [ih]
    by_cases hxy : x = y
    · subst hxy
      by_cases hp : P x
      · simp only [hp, if_true, List.count_cons_self]
        rw [List.count_erase_self]; omega
      · simp [hp]
    · by_cases hpx : P x
      · simp only [hpx, if_true]
        rw [List.count_erase_of_ne (Ne.symm hxy), List.count_cons_of_ne hxy]
      · simp only [hpx]
        rw [List.count_cons_of_ne hxy]
        simp

theorem foldl_guard_eq (Q : Int → Bool) (l v : List Int) :
    l.foldl (fun v x => if (Q x && v.contains x) = true then removeFirst x v else v) v
      = l.foldl (fun v x => if Q x = true then v.erase x else v) v := by
  congr 1
  funext v x
  rw [removeFirst_eq_erase]
  by_cases hq : Q x = true
  · by_cases hc : v.contains x = true
    · simp only [hq, hc, Bool.and_self, if_true]
    · have : x ∉ v := by simpa using hc
      simp [hq, List.erase_of_not_mem this]
  · simp [hq]

theorem foldl_rf_eq (P : Int → Prop) [DecidablePred P] (l v : List Int) :
    l.foldl (fun v x => if P x then removeFirst x v else v) v
      = l.foldl (fun v x => if P x then v.erase x else v) v := by
  congr 1
  funext v x
  rw [removeFirst_eq_erase]

/-- removing, for every `x` of `l` with `P x`, one occurrence of `x`: when `l` has at least as many `y` as `v`, what is left of
    `v` are its elements without `P` -/
theorem mem_foldl_erase (P : Int → Prop) [DecidablePred P] (y : Int) (l v : List Int) (h : v.count y ≤ l.count y) :
    y ∈ l.foldl (fun v x => if P x then v.erase x else v) v ↔ y ∈ v ∧ ¬ P y := by
  rw [← List.count_pos_iff, count_foldl_erase]
  split
  · rename_i hp
    exact ⟨fun h0 => absurd h0 (by omega), fun h0 => absurd hp h0.2⟩
  · rename_i hp
    rw [List.count_pos_iff]
    exact ⟨fun h0 => ⟨h0, hp⟩, fun h0 => h0.1⟩

theorem mem_validDurations (values : List Int) (dne : Bool) (onT offT : Int) (nextOn : Option Int) (x : Int) :
    x ∈ validDurations values dne onT offT nextOn ↔
      x ∈ values ∧ (∀ nt ∈ nextOn, onT + x ≤ nt) ∧ (dne = true → x ≤ offT - onT) := by
  unfold validDurations
  rw [foldl_guard_eq (fun x => decide (x - (offT - onT) > 0) && dne)]
  have hq : ((decide (x - (offT - onT) > 0) && dne) = true) ↔ ¬ (dne = true → x ≤ offT - onT) := by
    cases dne
    · simp
    · simp
  cases nextOn with
  | none =>
    rw [mem_foldl_erase (fun x => (decide (x - (offT - onT) > 0) && dne) = true) x _ _ (Nat.le_refl _), hq,
      Decidable.not_not]
    exact ⟨fun h => ⟨h.1, fun _ h' => (by cases h'), h.2⟩, fun h => ⟨h.1, h.2.2⟩⟩
  | some nt =>
    simp only []
    rw [foldl_rf_eq (fun x => offT + (x - (offT - onT)) > nt),
      mem_foldl_erase (fun x => (decide (x - (offT - onT) > 0) && dne) = true) x _ _ (by
        rw [count_foldl_erase]; split <;> omega),
      mem_foldl_erase (fun x => offT + (x - (offT - onT)) > nt) x _ _ (Nat.le_refl _), hq, Decidable.not_not]
    exact ⟨fun h => ⟨h.1.1, fun _ h' => (by cases h'; have := h.1.2; omega), h.2⟩,
      fun h => ⟨⟨h.1, by have := h.2.1 nt rfl; omega⟩, h.2.2⟩⟩

/-- the result pairing for one input pairing at position `pi.2` -/
def stepOne (values : List Int) (dne : Bool) (ps : List Pairing) (pi : Pairing × Nat) : Pairing :=
  match pi.1 with
  | [on, off] =>
    let valid := validDurations values dne on.time off.time (nextOnset ps pi.2 on.note)
    if valid.length == 0 then []
    else
      let cur := off.time - on.time
      match nearest cur valid with
      | .ok best => [on, { off with time := off.time + (best - cur) }]
      | .error _ => []
  | _ => []

/-- the new duration of a note from `onT` to `offT` whose key's next note starts at `nx` -/
def chosenAt (values : List Int) (dne : Bool) (nx : Option Int) (onT offT : Int) : Option Int :=
  let valid := validDurations values dne onT offT nx
  if valid.length == 0 then none
  else match nearest (offT - onT) valid with
    | .ok b => some b
    | .error _ => none

theorem chosenAt_spec (values : List Int) (dne : Bool) (nx : Option Int) (onT offT : Int) :
    (chosenAt values dne nx onT offT = none ↔
      ∀ x, ¬ (x ∈ values ∧ (∀ nt ∈ nx, onT + x ≤ nt) ∧ (dne = true → x ≤ offT - onT))) ∧
    ∀ x, chosenAt values dne nx onT offT = some x →
      (x ∈ values ∧ (∀ nt ∈ nx, onT + x ≤ nt) ∧ (dne = true → x ≤ offT - onT)) ∧
      ∀ y, (y ∈ values ∧ (∀ nt ∈ nx, onT + y ≤ nt) ∧ (dne = true → y ≤ offT - onT)) →
        (x - (offT - onT)).natAbs ≤ (y - (offT - onT)).natAbs := by
  have hmem := mem_validDurations values dne onT offT nx
  by_cases hv : validDurations values dne onT offT nx = []
  · have e : chosenAt values dne nx onT offT = none := by simp [chosenAt, hv]
    rw [e]
    refine ⟨⟨fun _ x hx => ?_, fun _ => rfl⟩, fun x h => (by cases h)⟩
    have := (hmem x).2 hx
    rw [hv] at this
    cases this
  · obtain ⟨v, h1, h2, h3⟩ := nearest_spec (offT - onT) _ hv
    have e : chosenAt values dne nx onT offT = some v := by
      have : ((validDurations values dne onT offT nx).length == 0) = false := by simpa using hv
      simp only [chosenAt, this, h1]
      rfl
    rw [e]
    refine ⟨⟨fun h => (by cases h), fun h => absurd ((hmem v).1 h2) (h v)⟩, fun x hx => ?_⟩
    cases hx
    exact ⟨(hmem v).1 h2, fun y hy => h3 y ((hmem y).2 hy)⟩

theorem stepOne_eq (values : List Int) (dne : Bool) (ps : List Pairing) (i : Nat) (on off : Msg) :
    stepOne values dne ps ([on, off], i) =
      match chosenAt values dne (nextOnset ps i on.note) on.time off.time with
      | none => []
      | some x => [on, { off with time := on.time + x }] := by
  simp only [stepOne, chosenAt]
  split
  · rfl
  · cases nearest (off.time - on.time) (validDurations values dne on.time off.time (nextOnset ps i on.note)) with
    | error e => rfl
    | ok b =>
      simp only
      rw [show off.time + (b - (off.time - on.time)) = on.time + b by omega]

theorem foldl_ok_map {α β : Type} (f : Except Err (List β) → α → Except Err (List β)) (g : α → β) :
    ∀ (l : List α) (out0 : List β), (∀ a ∈ l, ∀ out, f (.ok out) a = .ok (out ++ [g a])) →
      l.foldl f (.ok out0) = .ok (out0 ++ l.map g) := by
  intro l
  induction l with
  | nil => intro out0 _; rw [List.map_nil, List.append_nil]; rfl
  | cons a l ih =>
    intro out0 h
    rw [List.foldl_cons, h a List.mem_cons_self, ih _ fun b hb => h b (List.mem_cons_of_mem _ hb), List.map_cons,
      List.append_assoc, List.singleton_append]

theorem qnlChannel_eq (values : List Int) (dne : Bool) (ps : List Pairing)
    (h2 : ∀ p ∈ ps, ∃ on off, p = [on, off]) :
    qnlChannel values dne ps = .ok (ps.zipIdx.map (stepOne values dne ps)) := by
  refine foldl_ok_map _ (stepOne values dne ps) _ [] ?_
  intro pi hpi out
  obtain ⟨p, i⟩ := pi
  obtain ⟨on, off, rfl⟩ := h2 p (by rw [(List.mem_zipIdx hpi).2.2]; exact List.getElem_mem _)
  simp only [bind, Except.bind, stepOne]
  split
  · rfl
  · rename_i hne
    obtain ⟨v, hv, _⟩ := nearest_spec (off.time - on.time)
      (validDurations values dne on.time off.time (nextOnset ps i on.note)) (by
        intro h0; rw [h0] at hne; exact hne rfl)
    simp only [hv]

/-- the messages one channel contributes -/
def chanOut (values : List Int) (dne : Bool) (c : Int × List Pairing) : List Msg :=
  (c.2.zipIdx.map (stepOne values dne c.2)).flatten

theorem foldlM'_qnl (values : List Int) (dne : Bool) :
    ∀ (cp : List (Int × List Pairing)) (acc : List Msg),
      (∀ c ∈ cp, ∀ p ∈ c.2, ∃ on off, p = [on, off]) →
      foldlM' (fun acc (c : Int × List Pairing) => do
        let ps ← qnlChannel values dne c.2
        .ok (acc ++ ps.flatten)) acc cp = .ok (acc ++ cp.flatMap (chanOut values dne)) := by
  simp only [bind, Except.bind]
  intro cp
  induction cp with
  | nil => intro acc _; simp [foldlM']
  | cons c cp ih =>
    intro acc h
    simp only [foldlM']
    rw [qnlChannel_eq values dne c.2 (h c List.mem_cons_self)]
    simp only
    rw [ih _ (fun c' hc' => h c' (List.mem_cons_of_mem _ hc'))]
    simp [chanOut]

theorem quantise_eq (values : List Int) (stdLen : Int) (dne : Bool) (a : List Msg) :
    quantiseNoteLengths values stdLen dne a =
      .ok (sortAbs ((pairingsSorted notePairTypes stdLen true (sortAbs a)).flatMap (chanOut values dne)
        ++ (sortAbs a).filter (fun m => m.ty != .noteOn && m.ty != .noteOff))) := by
  unfold quantiseNoteLengths
  have h := foldlM'_qnl values dne (pairingsSorted notePairTypes stdLen true (sortAbs a)) [] ?_
  · simp only [bind, Except.bind] at h ⊢
    rw [h]
    simp
  · intro c hc p hp
    obtain ⟨on, off, h, _⟩ := pairings_good stdLen (sortAbs a) c hc p hp
    exact ⟨on, off, h⟩

theorem stepOne_cases (values : List Int) (dne : Bool) (ps : List Pairing) (i : Nat) (on off : Msg) :
    stepOne values dne ps ([on, off], i) = [] ∨
      ∃ x ∈ values, stepOne values dne ps ([on, off], i) = [on, { off with time := on.time + x }] := by
  rw [stepOne_eq]
  cases h : chosenAt values dne (nextOnset ps i on.note) on.time off.time with
  | none => exact Or.inl rfl
  | some x => exact Or.inr ⟨x, ((chosenAt_spec values dne _ on.time off.time).2 x h).1.1, rfl⟩

theorem mem_chanOut (values : List Int) (dne : Bool) (src : List Msg) (c : Int × List Pairing)
    (hc : ∀ p ∈ c.2, ClosedNote src p) (m : Msg) (hm : m ∈ chanOut values dne c) :
    ∃ (on off : Msg) (x : Int), x ∈ values ∧ on.ty = .noteOn ∧ off.ty = .noteOff ∧ off.nkey = on.nkey ∧ on ∈ src
      ∧ on ∈ chanOut values dne c ∧ (m = on ∨ m = { off with time := on.time + x }) := by
  simp only [chanOut, List.mem_flatten, List.mem_map] at hm
  obtain ⟨q, ⟨pi, hpi, rfl⟩, hmq⟩ := hm
  obtain ⟨p, i⟩ := pi
  have hp : p ∈ c.2 := by
    have := List.mem_zipIdx hpi
    rw [this.2.2]; exact List.getElem_mem _
  obtain ⟨on, off, rfl, h1, h2, h3, h4⟩ := hc p hp
  rcases stepOne_cases values dne c.2 i on off with h0 | ⟨x, hx, hs⟩
  · rw [h0] at hmq; simp at hmq
  · refine ⟨on, off, x, hx, h1, h2, h3, h4, ?_, ?_⟩
    · simp only [chanOut, List.mem_flatten, List.mem_map]
      exact ⟨_, ⟨_, hpi, rfl⟩, by rw [hs]; simp⟩
    · rw [hs] at hmq
      simpa using hmq


section key
open NotesBL SB

theorem stepOne_nkey (values : List Int) (dne : Bool) (ps : List Pairing) (i : Nat) (on off : Msg) (hk : off.nkey = on.nkey) :
    ∀ m ∈ stepOne values dne ps ([on, off], i), m.nkey = on.nkey := by
  intro m hm
  rw [stepOne_eq] at hm
  split at hm
  · cases hm
  · rcases List.mem_cons.1 hm with rfl | hm
    · rfl
    · rw [List.mem_singleton.1 hm]; exact hk

/-- `quantise_note_lengths` on the notes `(on₁, off₁), (on₂, off₂), …` of one key: every note gets the duration chosen against the
    onset of the next one, or goes -/
def nlKey (values : List Int) (dne : Bool) : List (Msg × Msg) → List (Msg × Msg)
  | [] => []
  | p :: ps =>
    (match chosenAt values dne (ps.head?.map (·.1.time)) p.1.time p.2.time with
      | none => []
      | some x => [(p.1, { p.2 with time := p.1.time + x })]) ++ nlKey values dne ps

theorem nextOnset_key (k : Int × Int) (ps0 : List Pairing) (n : Nat) (rest : List (Msg × Msg))
    (hhead : ∀ p ∈ ps0.drop (n + 1), ∃ m r, p = m :: r ∧ m.ch = k.1 ∧ m.ty = .noteOn)
    (hf : (ps0.drop (n + 1)).filter (headKey k) = rest.map pairOf) :
    nextOnset ps0 n k.2 = rest.head?.map (·.1.time) := by
  -- stated for any `F` that tests the pitch of the head: the `match` inside `nextOnset` is a constant of its own and cannot be written here
  have hc : ∀ F : Pairing → Bool, (∀ m r, F (m :: r) = (m.note == k.2)) →
      (ps0.drop (n + 1)).find? F = (ps0.drop (n + 1)).find? (headKey k) := by
    intro F hF
    generalize ps0.drop (n + 1) = L at hhead
    induction L with
    | nil => rfl
    | cons p L ih =>
      obtain ⟨m, r, rfl, hch, hon⟩ := hhead _ List.mem_cons_self
      have : (m.note == k.2) = headKey k (m :: r) := by
        rw [headKey_cons, Bool.eq_iff_iff, beq_iff_eq, isKN_iff_kev]
        exact ⟨fun h => ⟨Prod.ext hch h, Or.inl hon⟩, fun h => congrArg Prod.snd h.1⟩
      rw [List.find?_cons, List.find?_cons, hF, this, ih fun q hq => hhead q (List.mem_cons_of_mem _ hq)]
  rw [nextOnset, hc _ fun _ _ => rfl, ← List.head?_filter, hf]
  cases rest with
  | nil => rfl
  | cons q _ => rfl

theorem chan_key (values : List Int) (dne : Bool) (k : Int × Int) (src : List Msg) (ps0 : List Pairing)
    (hgood : ∀ p ∈ ps0, ClosedNote src p) (hhead : ∀ p ∈ ps0, ∃ m r, p = m :: r ∧ m.ch = k.1) :
    ∀ (L : List Pairing) (n : Nat) (P : List (Msg × Msg)), ps0.drop n = L → L.filter (headKey k) = P.map pairOf →
      (((L.zipIdx n).map (stepOne values dne ps0)).flatten).filter (isKN k) = unpair (nlKey values dne P) := by
  intro L
  induction L with
  | nil =>
    intro n P _ hf
    cases P with
    | nil => rfl
    | cons p rest => cases hf
  | cons p L ih =>
    intro n P hdrop hf
    have hp : p ∈ ps0 := List.mem_of_mem_drop (hdrop ▸ List.mem_cons_self)
    obtain ⟨on, off, rfl, hon, hoff, hkeys, _⟩ := hgood p hp
    have hdrop' : ps0.drop (n + 1) = L := by rw [← List.drop_drop, hdrop]; rfl
    rw [List.zipIdx_cons, List.map_cons, List.flatten_cons, List.filter_append]
    by_cases hk : on.nkey = k
    · have hh : headKey k [on, off] = true := isKN_true ⟨hk, Or.inl hon⟩
      rw [List.filter_cons_of_pos hh] at hf
      cases P with
      | nil => cases hf
      | cons q rest =>
        obtain ⟨hq, hrest⟩ := List.cons.inj hf
        obtain ⟨rfl, rfl⟩ : on = q.1 ∧ off = q.2 := by
          have := List.cons.inj hq
          exact ⟨this.1, (List.cons.inj this.2).1⟩
        have hnext : nextOnset ps0 n q.1.note = rest.head?.map (·.1.time) := by
          rw [show q.1.note = k.2 from congrArg Prod.snd hk]
          refine nextOnset_key k ps0 n rest (fun p hp => ?_) (hdrop' ▸ hrest)
          have hp0 := List.mem_of_mem_drop hp
          obtain ⟨on', off', rfl, hon', _⟩ := hgood p hp0
          obtain ⟨m, r, he, hch⟩ := hhead _ hp0
          cases he
          exact ⟨_, _, rfl, hch, hon'⟩
        rw [ih (n + 1) rest hdrop' hrest, stepOne_eq, hnext, nlKey, unpair_append]
        congr 1
        cases chosenAt values dne (rest.head?.map (·.1.time)) q.1.time q.2.time with
        | none => rfl
        | some x =>
          exact List.filter_eq_self.2 fun m hm => by
            rcases List.mem_cons.1 hm with rfl | hm
            · exact isKN_true ⟨hk, Or.inl hon⟩
            · rw [List.mem_singleton.1 hm]; exact isKN_true ⟨hkeys.trans hk, Or.inr hoff⟩
    · have hh : ¬ headKey k [on, off] = true := isKN_false fun h => hk h.1
      rw [List.filter_cons_of_neg hh] at hf
      rw [ih (n + 1) P hdrop' hf, List.filter_eq_nil_iff.2 fun m hm hkn =>
        hk ((stepOne_nkey values dne ps0 n on off hkeys m hm).symm.trans (isKN_iff_kev.1 hkn).1), List.nil_append]

theorem nlKey_spec (values : List Int) (hv : ∀ v ∈ values, 0 < v) (dne : Bool) {k : Int × Int} (P : List (Msg × Msg))
    (hg : ∀ p ∈ P, GoodPair k p) (hs : MergeL.Sorted (unpair P)) :
    (∀ q ∈ nlKey values dne P, GoodPair k q ∧ q.1.time < q.2.time ∧ ∃ p ∈ P, q.1 = p.1) ∧
      (nlKey values dne P).Pairwise (fun q q' => q.2.time ≤ q'.1.time) := by
  replace hs := onsets_sorted P hs
  induction P with
  | nil => exact ⟨fun _ hq => (nomatch hq), List.Pairwise.nil⟩
  | cons p P ih =>
    obtain ⟨hp, hs'⟩ := List.pairwise_cons.1 hs
    obtain ⟨ih1, ih2⟩ := ih (fun q hq => hg q (List.mem_cons_of_mem _ hq)) hs'
    have g := hg p List.mem_cons_self
    have ih1' : ∀ q ∈ nlKey values dne P, GoodPair k q ∧ q.1.time < q.2.time ∧ ∃ p' ∈ p :: P, q.1 = p'.1 :=
      fun q hq => let ⟨a, b, p', hp', e⟩ := ih1 q hq; ⟨a, b, p', List.mem_cons_of_mem _ hp', e⟩
    rw [nlKey]
    cases hc : chosenAt values dne (P.head?.map (·.1.time)) p.1.time p.2.time with
    | none => exact ⟨ih1', ih2⟩
    | some x =>
      obtain ⟨hx, hnx, _⟩ := ((chosenAt_spec values dne _ p.1.time p.2.time).2 x hc).1
      have hpos := hv x hx
      refine ⟨fun q hq => ?_, List.pairwise_cons.2 ⟨fun q hq => ?_, ih2⟩⟩
      · rcases List.mem_cons.1 hq with rfl | hq
        · exact ⟨⟨g.on, g.off, g.k1, g.k2⟩, by show p.1.time < p.1.time + x; omega, p, List.mem_cons_self, rfl⟩
        · exact ih1' q hq
      · -- a later note begins no earlier than the next one of the input
        obtain ⟨_, _, p', hp', e⟩ := ih1 q hq
        show p.1.time + x ≤ q.1.time
        cases P with
        | nil => cases hp'
        | cons r P =>
          have h1 := hnx r.1.time rfl
          have h2 : r.1.time ≤ p'.1.time := by
            rcases List.mem_cons.1 hp' with rfl | hp'
            · exact Int.le_refl _
            · exact (List.pairwise_cons.1 hs').1 p' hp'
          rw [e]; omega

theorem chanOut_ch (values : List Int) (dne : Bool) (src : List Msg) (c : Int × List Pairing)
    (hgood : ∀ p ∈ c.2, ClosedNote src p) (hhead : ∀ p ∈ c.2, ∃ m rest, p = m :: rest ∧ m.ch = c.1) :
    ∀ m ∈ chanOut values dne c, m.ch = c.1 := by
  intro m hm
  simp only [chanOut, List.mem_flatten, List.mem_map] at hm
  obtain ⟨q, ⟨⟨p, i⟩, hpi, rfl⟩, hmq⟩ := hm
  have hp : p ∈ c.2 := by rw [(List.mem_zipIdx hpi).2.2]; exact List.getElem_mem _
  obtain ⟨on, off, rfl, _, _, hkeys, _⟩ := hgood p hp
  obtain ⟨m0, rest, he, hm0⟩ := hhead _ hp
  cases he
  exact (congrArg Prod.fst (stepOne_nkey values dne c.2 i on off hkeys m hmq)).trans hm0

theorem key_out (values : List Int) (hv : ∀ v ∈ values, 0 < v) (stdLen : Int) (dne : Bool) (l : List Msg) (k : Int × Int)
    (P : List (Msg × Msg)) (hP : l.filter (isKN k) = unpair P) (hg : ∀ p ∈ P, GoodPair k p)
    (hs : MergeL.Sorted (unpair P)) :
    (sortAbs ((pairingsSorted notePairTypes stdLen true l).flatMap (chanOut values dne)
      ++ l.filter (fun m => m.ty != .noteOn && m.ty != .noteOff))).filter (isKN k) = unpair (nlKey values dne P) := by
  have hgood := pairings_good stdLen l
  have hhead := pairingsSorted_headCh (T := notePairTypes) stdLen l
  have hN : ((pairingsSorted notePairTypes stdLen true l).flatMap (chanOut values dne)).filter (isKN k)
      = unpair (nlKey values dne P) := by
    have hview := pairingsSorted_view (T := notePairTypes) rfl rfl stdLen k l P hP hg
    rw [List.filter_flatMap, Q.flatMap_get _ _ k.1 (pairingsSorted_nodup stdLen l)]
    · cases hget : (pairingsSorted notePairTypes stdLen true l).get? k.1 with
      | none =>
        rw [hget] at hview
        obtain rfl : P = [] := List.map_eq_nil_iff.1 hview.symm
        rfl
      | some L =>
        rw [hget] at hview
        have hmem := Q.mem_of_get? hget
        exact chan_key values dne k l L (hgood _ hmem) (hhead _ hmem) L 0 P rfl hview
    · intro c hc hne
      exact List.filter_eq_nil_iff.2 fun m hm hkn => hne
        ((chanOut_ch values dne l c (hgood c hc) (hhead c hc) m hm).symm.trans (congrArg Prod.fst (isKN_iff_kev.1 hkn).1))
  have hO : (l.filter (fun m => m.ty != .noteOn && m.ty != .noteOff)).filter (isKN k) = [] :=
    List.filter_eq_nil_iff.2 fun m hm hkn => by
      have h1 := (List.mem_filter.1 hm).2
      rcases (isKN_iff_kev.1 hkn).2 with e | e <;> simp [e] at h1
  obtain ⟨h1, h2⟩ := nlKey_spec values hv dne P hg hs
  rw [filter_sortAbs, List.filter_append, hN, hO, List.append_nil]
  exact sortAbs_of_sorted _ (unpair_keyLe _ (fun q hq => ⟨(h1 q hq).1, (h1 q hq).2.1⟩) h2)

end key

end SCoda.NL
