/-
  Helper lemmas for the float sites of `Props/C11d.lean`: the `PyNum` numeric tower (audit A10, C11 layer 3).
  `int(a / d)` on a float quotient of two ints is *truncated* division `Int.tdiv` (toward zero), for every
  sign (`pyint_trunc`, then the three capacity expressions); it is the floor division `a / d` the Lean models use
  only where the quotient is non-negative or exact.
  Closed forms of the other sites of `Model/PyNumSites.lean` and of the loops of `get_note_durations` etc.
-/
import Mathlib.Data.Rat.Floor
import Mathlib.Data.Rat.Lemmas
import Mathlib.Tactic.FieldSimp
import Mathlib.Tactic.Ring
import Mathlib.Tactic.Positivity
import SCoda.Model.PyNumSites
import SCoda.Model.Bar
import SCoda.Model.Token
import SCoda.Model.Midi
namespace SCoda.C11L
open SCoda PyNum

theorem rat_floor_div (a d : Int) (hd : 0 < d) : Rat.floor ((a : Rat) / (d : Rat)) = a / d := by
  have h := Rat.floor_intCast_div_natCast a d.toNat
  have hd' : ((d.toNat : Int)) = d := Int.toNat_of_nonneg hd.le
  have : ((d.toNat : Nat) : Rat) = (d : Rat) := by
    rw [← Int.cast_natCast, hd']
  rw [this, hd'] at h
  exact h

theorem pyint_div (a d : Int) (q : Rat) (ha : 0 ≤ a) (hd : 0 < d) (hq : q = (a : Rat) / (d : Rat)) :
    pyint (.float q) = .int (a / d) := by
  subst hq
  have h0 : (0 : Rat) ≤ (a : Rat) / (d : Rat) := by
    have : (0:Rat) ≤ (a : Rat) := by exact_mod_cast ha
    have : (0:Rat) < (d : Rat) := by exact_mod_cast hd
    positivity
  simp only [pyint, h0, if_true, rat_floor_div a d hd]

theorem pyint_trunc_pos (a d : Int) (hd : 0 < d) :
    pyint (.float ((a : Rat) / (d : Rat))) = .int (a.tdiv d) := by
  have hdq : (0 : Rat) < (d : Rat) := by exact_mod_cast hd
  by_cases ha : 0 ≤ a
  · rw [pyint_div a d _ ha hd rfl, Int.tdiv_eq_ediv_of_nonneg ha]
  · have ha' : a < 0 := by omega
    have hneg : ¬ (0 : Rat) ≤ (a : Rat) / (d : Rat) := by
      have : (a : Rat) < 0 := by exact_mod_cast ha'
      exact not_le.2 (div_neg_of_neg_of_pos this hdq)
    have hq : -((a : Rat) / (d : Rat)) = ((-a : Int) : Rat) / (d : Rat) := by push_cast; ring
    simp only [pyint, hneg, if_false, hq, rat_floor_div (-a) d hd]
    rw [← Int.tdiv_eq_ediv_of_nonneg (by omega : 0 ≤ -a), Int.neg_tdiv, Int.neg_neg]

theorem pyint_trunc (a d : Int) (hd : d ≠ 0) (q : Rat) (hq : q = (a : Rat) / (d : Rat)) :
    pyint (.float q) = .int (a.tdiv d) := by
  subst hq
  rcases Int.lt_or_gt_of_ne hd with h | h
  · have h1 : (a : Rat) / (d : Rat) = ((-a : Int) : Rat) / ((-d : Int) : Rat) := by
      push_cast; rw [neg_div_neg_eq]
    rw [h1, pyint_trunc_pos (-a) (-d) (by omega), Int.neg_tdiv, Int.tdiv_neg, Int.neg_neg]
  · exact pyint_trunc_pos a d h

theorem barCapacityPy_trunc (n ppqn d : Int) (hd : d ≠ 0) :
    barCapacityPy n ppqn d = .int ((n * ppqn * 4).tdiv d) := by
  unfold barCapacityPy
  simp only [PyNum.mul, PyNum.truediv, PyNum.toRat]
  apply pyint_trunc _ _ hd
  have : (d : Rat) ≠ 0 := by exact_mod_cast hd
  push_cast
  field_simp

theorem splitBarLenPy_trunc (n ppqn d : Int) (hd : d ≠ 0) :
    splitBarLenPy n ppqn d = .int ((n * ppqn * 4).tdiv d) := by
  unfold splitBarLenPy
  simp only [PyNum.mul, PyNum.truediv, PyNum.toRat]
  apply pyint_trunc _ _ hd
  have : (d : Rat) ≠ 0 := by exact_mod_cast hd
  push_cast
  field_simp

theorem tokCapacityPy_trunc (n ppqn d : Int) (hd : d ≠ 0) :
    tokCapacityPy n ppqn d = .int ((ppqn * 4 * n).tdiv d) := by
  unfold tokCapacityPy
  simp only [PyNum.mul, PyNum.truediv, PyNum.toRat]
  apply pyint_trunc _ _ hd
  push_cast
  rfl


theorem foldl_add_int (ts : List Int) (a : Int) :
    ts.foldl (fun acc t => PyNum.add acc (.int t)) (.int a) = .int (a + ts.sum) := by
  induction ts generalizing a with
  | nil => simp
  | cons t ts ih =>
    rw [List.foldl_cons]
    show ts.foldl _ (PyNum.int (a + t)) = _
    rw [ih, List.sum_cons, Int.add_assoc]

theorem currentLengthPy_eq (waits : List Int) : currentLengthPy waits = .int waits.sum := by
  unfold currentLengthPy; rw [foldl_add_int]; simp

theorem eighthScaled_toRat (n D d : Int) (hd : d ≠ 0) :
    eighthScaledPy n D d = .float (((n * D : Int) : Rat) / (d : Rat)) := by
  unfold eighthScaledPy
  simp only [PyNum.mul, PyNum.truediv, PyNum.toRat]
  have : (d : Rat) ≠ 0 := by exact_mod_cast hd
  congr 1
  push_cast
  field_simp

theorem isInteger_div (a d : Int) (hd : d ≠ 0) :
    isInteger (.float ((a : Rat) / (d : Rat))) = decide (a % d = 0) := by
  have h := Rat.den_div_intCast_eq_one_iff a d hd
  rw [Int.dvd_iff_emod_eq_zero] at h
  simp only [isInteger]
  by_cases hm : a % d = 0
  · simp only [hm, decide_true, beq_iff_eq]; exact h.2 hm
  · simp only [hm, decide_false, beq_eq_false_iff_ne, ne_eq]; exact fun hh => hm (h.1 hh)

theorem eighthIsIntegerPy_eq (n D d : Int) (hd : d ≠ 0) :
    eighthIsIntegerPy n D d = decide ((n * D) % d = 0) := by
  unfold eighthIsIntegerPy
  rw [eighthScaled_toRat n D d hd]
  exact isInteger_div (n * D) d hd

theorem eighthIntPy_eq (n D d : Int) (hd : d ≠ 0) (hm : (n * D) % d = 0) :
    eighthIntPy n D d = .int ((n * D) / d) := by
  unfold eighthIntPy
  rw [eighthScaled_toRat n D d hd, pyint_trunc (n * D) d hd _ rfl,
    Int.tdiv_eq_ediv_of_dvd (Int.dvd_of_emod_eq_zero hm)]

theorem halfPy_trunc (a : Int) : halfPy a = .int (a.tdiv 2) := by
  unfold halfPy
  simp only [PyNum.truediv, PyNum.toRat]
  exact pyint_trunc a 2 (by decide) _ (by push_cast; rfl)

theorem halfPy_eq (a : Int) (h : a % 2 = 0) : halfPy a = .int (a / 2) := by
  rw [halfPy_trunc, Int.tdiv_eq_ediv_of_dvd (Int.dvd_of_emod_eq_zero h)]

theorem pyround_eq (x : PyNum) : pyround x = .int (roundHalfEven x.toRat) := by
  cases x with
  | float q => rfl
  | int i =>
    simp only [pyround, PyNum.toRat, roundHalfEven, Rat.floor_intCast, sub_self]
    norm_num

theorem loadPoint_toRat (ppqn filePpq : Int) (deltas : List Int) (cur : PyNum) :
    (deltas.foldl (fun cur t => PyNum.add cur (PyNum.mul (.int t) (scalingFactorPy ppqn filePpq))) cur).toRat
      = cur.toRat + (deltas.sum : Rat) * ((ppqn : Rat) / (filePpq : Rat)) := by
  induction deltas generalizing cur with
  | nil => simp
  | cons t ts ih =>
    rw [List.foldl_cons, ih]
    have : (PyNum.add cur (PyNum.mul (.int t) (scalingFactorPy ppqn filePpq))).toRat
        = cur.toRat + (t : Rat) * ((ppqn : Rat) / (filePpq : Rat)) := by
      cases cur <;> simp [PyNum.add, PyNum.mul, scalingFactorPy, PyNum.truediv, PyNum.toRat]
    rw [this, List.sum_cons]
    push_cast
    ring

theorem loadTimePy_eq (ppqn filePpq : Int) (deltas : List Int) :
    loadTimePy ppqn filePpq deltas
      = .int (roundHalfEven ((deltas.sum : Rat) * (ppqn : Rat) / (filePpq : Rat))) := by
  unfold loadTimePy loadPointPy
  rw [pyround_eq, loadPoint_toRat]
  congr 2
  simp only [PyNum.toRat]
  push_cast
  ring

/-- every delta after the first makes the running point in time a float: it is `round` that restores the int -/
theorem loadPointPy_float (ppqn filePpq : Int) (t : Int) (ts : List Int) :
    (loadPointPy ppqn filePpq (t :: ts)).isInt = false := by
  unfold loadPointPy
  have h : ∀ (ts : List Int) (q : Rat),
      (ts.foldl (fun cur t => PyNum.add cur (PyNum.mul (.int t) (scalingFactorPy ppqn filePpq))) (.float q)).isInt
        = false := by
    intro ts
    induction ts with
    | nil => intro q; rfl
    | cons t ts ih => intro q; simp only [List.foldl_cons]; exact ih _
  simp only [List.foldl_cons]
  exact h ts _

/-- `round(a / d)` (half to even) of two ints, `d > 0` -/
def roundDiv (a d : Int) : Int :=
  if 2 * (a % d) < d then a / d else if d < 2 * (a % d) then a / d + 1 else if a / d % 2 = 0 then a / d else a / d + 1

theorem roundHalfEven_div (a d : Int) (hd : 0 < d) : roundHalfEven ((a : Rat) / (d : Rat)) = roundDiv a d := by
  have hdq : (0 : Rat) < (d : Rat) := by exact_mod_cast hd
  -- the fractional part of `a / d` is `(a % d) / d`; comparing it with 1/2 is comparing `2 * (a % d)` with `d`
  have hfrac : (a : Rat) / (d : Rat) - ((a / d : Int) : Rat) = ((a % d : Int) : Rat) / (d : Rat) := by
    rw [eq_div_iff hdq.ne', sub_mul, div_mul_cancel₀ _ hdq.ne']
    exact_mod_cast (by rw [Int.emod_def]; ring : a - a / d * d = a % d)
  have hlt : ((a % d : Int) : Rat) / (d : Rat) < 1 / 2 ↔ 2 * (a % d) < d := by
    rw [div_lt_div_iff₀ hdq two_pos, one_mul, mul_comm]; exact_mod_cast Iff.rfl
  have hgt : ((a % d : Int) : Rat) / (d : Rat) > 1 / 2 ↔ d < 2 * (a % d) := by
    rw [gt_iff_lt, div_lt_div_iff₀ two_pos hdq, one_mul, mul_comm]; exact_mod_cast Iff.rfl
  simp only [roundHalfEven, roundDiv, rat_floor_div a d hd, hfrac, hlt, hgt, beq_iff_eq]

/-- util.py:31-32 in integers: with `b = round(vmax / n)`, bin `i` is `trunc((2i + 3) * b / 2)` capped at `vmax` -/
def velocityBinsZ (vmax : Int) (n : Nat) : List Int :=
  (List.range n).map fun (i : Nat) =>
    if (2 * (i : Int) + 3) * roundDiv vmax n < 2 * vmax then ((2 * (i : Int) + 3) * roundDiv vmax n).tdiv 2 else vmax

/-- `get_velocity_bins` for any `velocity_max` and bin count: every bin is int-typed (the sum `(i + 1) * bin_size +
    bin_size / 2` is a float; `min` keeps the type of the chosen argument; it is `int(…)` that restores the int) -/
theorem getVelocityBinsPy_eq (vmax : Int) (n : Nat) : getVelocityBinsPy vmax n = (velocityBinsZ vmax n).map PyNum.int := by
  unfold getVelocityBinsPy velocityBinsZ
  rw [List.map_map]
  apply List.map_congr_left
  intro i hi
  have hn : (0 : Int) < (n : Int) := by exact_mod_cast Nat.zero_lt_of_lt (List.mem_range.1 hi)
  have hb : pyround (truediv (.int vmax) (.int (n : Int))) = .int (roundDiv vmax n) := by
    rw [pyround_eq]; exact congrArg PyNum.int (roundHalfEven_div vmax n hn)
  rw [hb]
  generalize roundDiv vmax n = b
  have hx : add (mul (add (.int (i : Int)) (.int 1)) (.int b)) (truediv (.int b) (.int 2))
      = .float ((((2 * (i : Int) + 3) * b : Int) : Rat) / ((2 : Int) : Rat)) := by
    simp only [PyNum.add, PyNum.mul, PyNum.truediv, PyNum.toRat]
    congr 1; push_cast; ring
  have hlt : PyNum.lt (.float ((((2 * (i : Int) + 3) * b : Int) : Rat) / ((2 : Int) : Rat))) (.int vmax)
      = decide ((2 * (i : Int) + 3) * b < 2 * vmax) := by
    unfold PyNum.lt
    apply decide_eq_decide.2
    simp only [PyNum.toRat]
    rw [div_lt_iff₀ (by norm_num), mul_comm (vmax : Rat)]
    exact_mod_cast Iff.rfl
  rw [hx, Function.comp, pymin, hlt]
  by_cases h : (2 * (i : Int) + 3) * b < 2 * vmax
  · simp only [h, decide_true, if_true]
    exact pyint_trunc _ 2 (by decide) _ rfl
  · simp only [h, decide_false, if_false, Bool.false_eq_true]
    rfl

/-- the first loop in integers: `trunc(ub * base / 2^k)` while `2^k ≤ ub` -/
def noteDurUp (base ub : Int) : Nat → Nat → Option (List Int)
  | 0, _ => Option.none
  | fuel + 1, k =>
    if (2 : Int) ^ k ≤ ub then (noteDurUp base ub fuel (k + 1)).map ((ub * base).tdiv (2 ^ k) :: ·)
    else some []

/-- the second loop in integers: `trunc(base / 2^k)` while `2^k ≤ lb` (started at `k = 1`) -/
def noteDurDown (base lb : Int) : Nat → Nat → Option (List Int)
  | 0, _ => Option.none
  | fuel + 1, k =>
    if (2 : Int) ^ k ≤ lb then (noteDurDown base lb fuel (k + 1)).map (base.tdiv (2 ^ k) :: ·)
    else some []

def getNoteDurations (fuel : Nat) (ub lb base : Int) : Option (List Int) :=
  match noteDurUp base ub fuel 0, noteDurDown base lb fuel 1 with
  | some a, some b => some (a ++ b)
  | _, _ => Option.none

/-- the common shape of the two loops: emit `g k` and go on to `k + 1` while `2^k ≤ x` -/
def powLoop (g : Nat → Int) (x : Int) : Nat → Nat → Option (List Int)
  | 0, _ => Option.none
  | fuel + 1, k => if (2 : Int) ^ k ≤ x then (powLoop g x fuel (k + 1)).map (g k :: ·) else some []

theorem noteDurUp_eq (base ub : Int) (fuel k : Nat) :
    noteDurUp base ub fuel k = powLoop (fun k => (ub * base).tdiv (2 ^ k)) ub fuel k := by
  induction fuel generalizing k with
  | zero => rfl
  | succ fuel ih => rw [noteDurUp, powLoop, ih]

theorem noteDurDown_eq (base lb : Int) (fuel k : Nat) :
    noteDurDown base lb fuel k = powLoop (fun k => base.tdiv (2 ^ k)) lb fuel k := by
  induction fuel generalizing k with
  | zero => rfl
  | succ fuel ih => rw [noteDurDown, powLoop, ih]

theorem powLoop_isSome (g : Nat → Int) (x : Int) : ∀ (fuel k : Nat), x < 2 ^ (k + fuel) →
    (powLoop g x (fuel + 1) k).isSome = true := by
  intro fuel
  induction fuel with
  | zero =>
    intro k h
    rw [powLoop]
    split
    · exact absurd ‹_› (not_le.2 h)
    · rfl
  | succ fuel ih =>
    intro k h
    rw [powLoop]
    split
    · rw [Option.isSome_map]; exact ih (k + 1) (by rw [Nat.add_right_comm, Nat.add_assoc]; exact h)
    · rfl

theorem mem_powLoop (g : Nat → Int) (x : Int) : ∀ (fuel k : Nat) (l : List Int), powLoop g x fuel k = some l →
    ∀ y, y ∈ l ↔ ∃ j, k ≤ j ∧ (2 : Int) ^ j ≤ x ∧ y = g j := by
  intro fuel
  induction fuel with
  | zero => intro k l h; cases h
  | succ fuel ih =>
    intro k l h y
    rw [powLoop] at h
    split at h
    · rename_i hk
      obtain ⟨l', hr, rfl⟩ := Option.map_eq_some_iff.1 h
      rw [List.mem_cons, ih (k + 1) l' hr y]
      constructor
      · rintro (rfl | ⟨j, hj, h2, rfl⟩)
        · exact ⟨k, Nat.le_refl _, hk, rfl⟩
        · exact ⟨j, Nat.le_of_succ_le hj, h2, rfl⟩
      · rintro ⟨j, hj, h2, rfl⟩
        rcases Nat.eq_or_lt_of_le hj with rfl | hlt
        · exact Or.inl rfl
        · exact Or.inr ⟨j, hlt, h2, rfl⟩
    · rename_i hk
      cases h
      constructor
      · intro hy; cases hy
      · rintro ⟨j, hj, h2, _⟩
        exact absurd (Int.le_trans (pow_le_pow_right₀ (by decide) hj) h2) hk

theorem pow2_cast (k : Nat) : (((2 : Int) ^ k : Int) : Rat) = (2 : Rat) ^ k := by push_cast; rfl

theorem noteDurUpPy_eq (base ub : Int) : ∀ (fuel k : Nat) (i : PyNum),
    i.toRat = (ub : Rat) / (2 : Rat) ^ k → ((k = 0 ∧ i = .int ub) ∨ ∃ q, i = .float q) →
    noteDurUpPy (.int base) fuel i = (noteDurUp base ub fuel k).map (·.map PyNum.int) := by
  intro fuel
  induction fuel with
  | zero => intro k i _ _; rfl
  | succ fuel ih =>
    intro k i hi hty
    have hpos : (0 : Rat) < (2 : Rat) ^ k := by positivity
    have hge : PyNum.ge i (.int 1) = decide ((2 : Int) ^ k ≤ ub) := by
      unfold PyNum.ge
      rw [hi]
      apply decide_eq_decide.2
      simp only [PyNum.toRat, Int.cast_one]
      rw [le_div_iff₀ hpos, one_mul, ← pow2_cast]
      exact_mod_cast Iff.rfl
    have hhead : pyint (PyNum.mul i (.int base)) = .int ((ub * base).tdiv (2 ^ k)) := by
      rcases hty with ⟨rfl, rfl⟩ | ⟨q, rfl⟩
      · simp [PyNum.mul, pyint]
      · simp only [PyNum.mul, PyNum.toRat]
        apply pyint_trunc (ub * base) (2 ^ k) (by positivity)
        simp only [PyNum.toRat] at hi
        rw [hi, pow2_cast]
        push_cast
        ring
    have hnext := ih (k + 1) (PyNum.truediv i (.int 2))
      (by show i.toRat / (((2 : Int) : Rat)) = _
          rw [hi]; push_cast; rw [pow_succ]; field_simp)
      (Or.inr ⟨_, rfl⟩)
    simp only [noteDurUpPy, noteDurUp, hge, hhead, hnext]
    by_cases h : (2 : Int) ^ k ≤ ub
    · simp only [h, decide_true, if_true]
      cases noteDurUp base ub fuel (k + 1) <;> simp
    · simp [h]

theorem noteDurDownPy_eq (base lb : Int) : ∀ (fuel k : Nat),
    noteDurDownPy (.int base) (.int lb) fuel (.int (2 ^ k))
      = (noteDurDown base lb fuel k).map (·.map PyNum.int) := by
  intro fuel
  induction fuel with
  | zero => intro k; rfl
  | succ fuel ih =>
    intro k
    have hle : PyNum.le (.int (2 ^ k)) (.int lb) = decide ((2 : Int) ^ k ≤ lb) := by
      unfold PyNum.le
      apply decide_eq_decide.2
      simp only [PyNum.toRat]
      exact_mod_cast Iff.rfl
    have hhead : pyint (PyNum.truediv (.int base) (.int (2 ^ k))) = .int (base.tdiv (2 ^ k)) := by
      simp only [PyNum.truediv, PyNum.toRat]
      exact pyint_trunc base (2 ^ k) (by positivity) _ rfl
    have hnext : PyNum.mul (.int (2 ^ k)) (.int 2) = .int (2 ^ (k + 1)) := by
      simp [PyNum.mul, pow_succ]
    simp only [noteDurDownPy, noteDurDown, hle, hhead, hnext, ih (k + 1)]
    by_cases h : (2 : Int) ^ k ≤ lb
    · simp only [h, decide_true, if_true]
      cases noteDurDown base lb fuel (k + 1) <;> simp
    · simp [h]

theorem getNoteDurationsPy_eq (fuel : Nat) (ub lb base : Int) :
    getNoteDurationsPy fuel (.int ub) (.int lb) (.int base)
      = (getNoteDurations fuel ub lb base).map (·.map PyNum.int) := by
  unfold getNoteDurationsPy getNoteDurations
  rw [noteDurUpPy_eq base ub fuel 0 (.int ub) (by simp [PyNum.toRat]) (Or.inl ⟨rfl, rfl⟩)]
  have := noteDurDownPy_eq base lb fuel 1
  simp only [pow_one] at this
  rw [this]
  cases noteDurUp base ub fuel 0 <;> cases noteDurDown base lb fuel 1 <;> simp

theorem tupletPy_eq (nd rn rd : Int) (hrn : rn ≠ 0) :
    tupletPy (.int nd) (.int rn) (.int rd) = .int ((nd * rd).tdiv rn) := by
  unfold tupletPy
  simp only [PyNum.mul, PyNum.truediv, PyNum.toRat]
  exact pyint_trunc (nd * rd) rn hrn _ rfl

theorem getTupletDurationsPy_eq (nds : List Int) (rn rd : Int) (hrn : rn ≠ 0) :
    getTupletDurationsPy (nds.map PyNum.int) (.int rn) (.int rd)
      = (nds.map fun nd => (nd * rd).tdiv rn).map PyNum.int := by
  unfold getTupletDurationsPy
  simp only [List.map_map]
  apply List.map_congr_left
  intro nd _
  exact tupletPy_eq nd rn rd hrn

theorem dottedCandidatePy_eq (nd : Int) (it : Nat) :
    dottedCandidatePy (.int nd) (it : Int)
      = .float (((nd * (2 ^ (it + 2) - 1) : Int) : Rat) / (((2 : Int) ^ (it + 1) : Int) : Rat)) := by
  unfold dottedCandidatePy powInt
  have h0 : (0 : Int) ≤ (it : Int) + 1 := by omega
  have h1 : ((it : Int) + 1).toNat = it + 1 := by omega
  simp only [h0, if_true, h1, PyNum.truediv, PyNum.sub, PyNum.add, PyNum.mul, PyNum.toRat]
  congr 1
  have : ((2 : Rat) ^ (it + 1)) ≠ 0 := by positivity
  push_cast
  field_simp
  ring

/-- kept dotted durations in integers: `nd * (2^(it+2) - 1) / 2^(it+1)` where that division is exact -/
def getDottedNoteDurations (nds : List Int) (iterations : Nat) : List Int :=
  (List.range iterations).flatMap fun it =>
    nds.filterMap fun nd =>
      if (nd * (2 ^ (it + 2) - 1)) % 2 ^ (it + 1) = 0 then some ((nd * (2 ^ (it + 2) - 1)) / 2 ^ (it + 1))
      else Option.none

theorem getDottedNoteDurationsPy_eq (nds : List Int) (iterations : Nat) :
    getDottedNoteDurationsPy (nds.map PyNum.int) iterations
      = (getDottedNoteDurations nds iterations).map PyNum.int := by
  unfold getDottedNoteDurationsPy getDottedNoteDurations
  rw [List.map_flatMap]
  apply List.flatMap_congr
  intro it _
  rw [List.filterMap_map, List.map_filterMap]
  apply List.filterMap_congr
  intro nd _
  have hne : ((2 : Int) ^ (it + 1)) ≠ 0 := by positivity
  simp only [Function.comp, dottedCandidatePy_eq, isInteger_div _ _ hne]
  by_cases hm : (nd * (2 ^ (it + 2) - 1)) % 2 ^ (it + 1) = 0
  · rw [pyint_trunc _ _ hne _ rfl, Int.tdiv_eq_ediv_of_dvd (Int.dvd_of_emod_eq_zero hm)]
    simp only [hm, decide_true, if_true, Option.map_some]
  · simp only [hm, decide_false, Bool.false_eq_true, if_false, Option.map_none]

end SCoda.C11L
