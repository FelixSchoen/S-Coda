/-
  Helper lemmas for `Props/HeapTie3.lean`: the `Sat` reading (Lemmas/HeapTie2L.lean) of the primitives of `Model/HeapLib3.lean` and of the
  callees of the four translated view-level methods (`Gen/HeapFns3.lean`), and ONE `Sat` statement per method: what the method keeps on
  both exits — `Conv` (the invariant `Inv` of HeapTie2L with an empty source, and the view being built) for the two conversions, `InvM`
  for the two methods that re-bind / extend the receiver's list — together with the only way it can raise.
  Each proof runs the loop body once, by `simp only` with the rules of the primitives; an invariant comes with one lemma per Python
  statement that changes the heap (`Conv.push`, `NormOk.old`, `NormOk.new`, …), and these lemmas, instantiated at the current state, are
  what closes the leaves of the run.
-/
import SCoda.Gen.HeapFns3
import SCoda.Lemmas.HeapTie2L
import SCoda.Lemmas.SortTieL
namespace SCoda.HeapTie3L
open SCoda SCoda.HeapOps SCoda.HeapLib SCoda.Gen.HeapFns SCoda.Gen.HeapFns3 SCoda.HeapTieL SCoda.HeapTie2L

@[simp] theorem sat_needInt (x : Int) (h : Heap) (Q : Unit → Heap → Prop) (E : Heap → Prop) :
    Sat (HeapLib3.needInt x) h Q E ↔ (x ≠ pyNone → Q () h) ∧ (x = pyNone → E h) := by
  unfold HeapLib3.needInt
  by_cases hx : x = pyNone <;> simp [hx, Sat, HM.fail, pure]

@[simp] theorem sat_liftSort {α : Type} (r : Except SortLib.SortErr α) (h : Heap) (Q : α → Heap → Prop) (E : Heap → Prop) :
    Sat (HeapLib3.liftSort r) h Q E ↔ (∀ a, r = .ok a → Q a h) ∧ ((∃ e, r = .error e) → E h) := by
  cases r with
  | ok a => simp [HeapLib3.liftSort, Sat, pure]
  | error e => simp [HeapLib3.liftSort, Sat, HM.fail]

/-- `xs[i]` as a pure function (`none` = `IndexError`) -/
def pyIndex? {α : Type} (xs : List α) (i : Int) : Option α :=
  let j : Int := if i < 0 then i + xs.length else i
  if j < 0 then none else xs[j.toNat]?

theorem pyIndex_eq {α : Type} (xs : List α) (i : Int) :
    HeapLib3.pyIndex xs i = (match pyIndex? xs i with | some a => pure a | none => HM.fail .index) := by
  unfold HeapLib3.pyIndex pyIndex?
  by_cases hneg : (if i < 0 then i + ↑xs.length else i) < 0
  · simp only [hneg, if_true]
  · simp only [hneg, if_false]; rfl

theorem pyIndex?_mem {α : Type} {xs : List α} {i : Int} {a : α} (h : pyIndex? xs i = some a) : a ∈ xs := by
  unfold pyIndex? at h
  by_cases hneg : (if i < 0 then i + ↑xs.length else i) < 0
  · simp [hneg] at h
  · simp only [hneg, if_false] at h
    exact List.mem_of_getElem? h

@[simp] theorem sat_pyIndex {α : Type} (xs : List α) (i : Int) (h : Heap) (Q : α → Heap → Prop) (E : Heap → Prop) :
    Sat (HeapLib3.pyIndex xs i) h Q E ↔ (∀ a, pyIndex? xs i = some a → Q a h) ∧ (pyIndex? xs i = none → E h) := by
  rw [pyIndex_eq]
  cases pyIndex? xs i <;> simp [Sat, pure]

@[simp] theorem sat_dictGet {κ ν : Type} [DecidableEq κ] (d : List (κ × ν)) (k : κ) (h : Heap) (Q : ν → Heap → Prop) (E : Heap → Prop) :
    Sat (HeapLib3.dictGet d k) h Q E ↔ (∀ v, HeapLib3.dictGet? d k = some v → Q v h) ∧ (HeapLib3.dictGet? d k = none → E h) := by
  unfold HeapLib3.dictGet
  cases HeapLib3.dictGet? d k <;> simp [Sat, HM.fail, pure]

@[simp] theorem sat_dropLastM {α : Type} (xs : List α) (h : Heap) (Q : List α → Heap → Prop) (E : Heap → Prop) :
    Sat (HeapLib3.dropLastM xs) h Q E ↔ (xs ≠ [] → Q xs.dropLast h) ∧ (xs = [] → E h) := by
  cases xs <;> simp [HeapLib3.dropLastM, Sat, HM.fail, pure]

@[simp] theorem sat_messageCopy (g : GOrc) (tag i : Nat) (h : Heap) (Q : Nat → Heap → Prop) (E : Heap → Prop) :
    Sat (messageCopy g tag i) h Q E ↔ Q h.nMsg (h.newMsg (normCh (h.msg i))).1 :=
  sat_of_run (messageCopy_run g tag i h) Q E

@[simp] theorem sat_absoluteSequenceInit_none (g : GOrc) (tag i : Nat) (h : Heap) (Q : Unit → Heap → Prop) (E : Heap → Prop) :
    Sat (absoluteSequenceInit g tag i none) h Q E ↔ Q () (h.setLst i []) :=
  sat_of_run (by unfold absoluteSequenceInit; exact abstractSequenceInit_none g tag i h) Q E

@[simp] theorem sat_addMessageUnsorted (g : GOrc) (tag l i : Nat) (h : Heap) (Q : Unit → Heap → Prop) (E : Heap → Prop) :
    Sat (absoluteSequenceAddMessageUnsorted g tag l i) h Q E ↔ Q () (h.setLst l (h.lst l ++ [i])) := Iff.rfl

@[simp] theorem msg_newMsg_self (h : Heap) (m : Msg) : (h.newMsg m).1.msg h.nMsg = m := by simp [Heap.newMsg]
@[simp] theorem lst_newMsg (h : Heap) (m : Msg) : (h.newMsg m).1.lst = h.lst := rfl
@[simp] theorem nLst_newMsg (h : Heap) (m : Msg) : (h.newMsg m).1.nLst = h.nLst := rfl
@[simp] theorem nMsg_newMsg (h : Heap) (m : Msg) : (h.newMsg m).1.nMsg = h.nMsg + 1 := rfl
@[simp] theorem nMsg_setLst (h : Heap) (l : Nat) (ids : List Nat) : (h.setLst l ids).nMsg = h.nMsg := rfl
@[simp] theorem nLst_setLst (h : Heap) (l : Nat) (ids : List Nat) : (h.setLst l ids).nLst = h.nLst := rfl
@[simp] theorem msg_setLst' (h : Heap) (l : Nat) (ids : List Nat) : (h.setLst l ids).msg = h.msg := rfl

theorem normCh_ch (m : Msg) : (normCh m).ch ≠ pyNone := by
  simp only [normCh]
  split <;> simp_all [pyNone]

theorem _root_.SCoda.HeapTie2L.Ctx.newMsgV {h0 : Heap} {src : List Nat} {h : Heap} {vs ids : List Nat} (hc : Ctx h0 src h vs ids) (m : Msg)
    (hch : m.ch ≠ pyNone) : Ctx h0 src (h.newMsg m).1 vs (h.nMsg :: ids) := by
  refine ⟨hc.1.newMsgV m hch, fun p hp => (hc.2.1 p hp).mono (by simp [Heap.newMsg]), fun i hi => ?_⟩
  rcases List.mem_cons.1 hi with hi | hi
  · subst hi; exact Or.inr ⟨hc.1.nMsg_le, by simp [Heap.newMsg]⟩
  · exact (hc.2.2 i hi).mono (by simp [Heap.newMsg])

theorem _root_.SCoda.HeapTie2L.Ctx.setLstV {h0 : Heap} {src : List Nat} {h : Heap} {vs ids : List Nat} (hc : Ctx h0 src h vs ids) {p : Nat} {is : List Nat}
    (hp : p ∈ vs) (his : ∀ i ∈ is, i ∈ ids ∨ i ∈ h.lst p) : Ctx h0 src (h.setLst p is) vs ids :=
  ⟨hc.1.setLstV (hc.2.1 p hp) (fun i hi => by
      rcases his i hi with h1 | h1
      · exact hc.2.2 i h1
      · exact hc.1.views p (hc.2.1 p hp) i h1), fun q hq => hc.2.1 q hq, fun i hi => hc.2.2 i hi⟩

theorem _root_.SCoda.HeapTie2L.Ctx.inv {h0 : Heap} {src : List Nat} {h : Heap} {vs ids : List Nat} (hc : Ctx h0 src h vs ids) : Inv h0 src h := hc.1

theorem mem_lst_newLst {h : Heap} {l x : Nat} (hx : x ∈ (h.newLst []).1.lst l) : x ∈ h.lst l := by
  simp only [Heap.newLst] at hx
  split at hx
  · simp at hx
  · exact hx

/-- the post-condition of one round of a loop whose invariant `J` does not distinguish `continue` from `break` -/
def StepPost {β : Type} (J : β → Heap → Prop) : ForInStep β → Heap → Prop
  | .yield b, h => J b h
  | .done b, h => J b h

@[simp] theorem stepPost_yield {β : Type} (J : β → Heap → Prop) (b : β) (h : Heap) : StepPost J (.yield b) h = J b h := rfl
@[simp] theorem stepPost_done {β : Type} (J : β → Heap → Prop) (b : β) (h : Heap) : StepPost J (.done b) h = J b h := rfl

/-- `for a in xs` with an invariant `J` that holds at `continue`, at `break` and at the end; the body is run for members of `xs` only -/
theorem sat_forIn_mem {α β : Type} (f : α → β → HM (ForInStep β)) (J Q : β → Heap → Prop) (E : Heap → Prop) (xs : List α)
    (hstep : ∀ a ∈ xs, ∀ b h, J b h → Sat (f a b) h (StepPost J) E) (hend : ∀ b h, J b h → Q b h) (b : β) (h : Heap) (hj : J b h) :
    Sat (forIn xs b f) h Q E :=
  sat_forIn f (fun rest b h => (∀ x ∈ rest, x ∈ xs) ∧ J b h) Q E
    (fun a as b h hi => (hstep a (hi.1 a List.mem_cons_self) b h hi.2).mono
      (fun r _ hr => by
        cases r with
        | yield b' => exact ⟨fun x hx => hi.1 x (List.mem_cons_of_mem _ hx), hr⟩
        | done b' => exact hend b' _ hr)
      (fun _ he => he))
    (fun b h hi => hend b h hi.2) xs b h ⟨fun _ hx => hx, hj⟩

/-- `AbsoluteSequence.sort`: the list cell of the receiver gets a permutation of its references; nothing else happens.
    When the key comparison raises, nothing is written (the model; CPython leaves the list in an unspecified order). -/
theorem sort_spec (g : GOrc) (tag p : Nat) (h : Heap) :
    Sat (absoluteSequenceSort g tag p) h (fun _ h' => ∃ r, r.Perm (h.lst p) ∧ h' = h.setLst p r) (fun h' => h' = h) := by
  unfold absoluteSequenceSort
  simp only [sat_bind, sat_get, sat_liftSort, sat_modify]
  exact ⟨fun r hr => ⟨r, SortTieL.sortOf_perm _ _ _ hr, rfl⟩, fun _ => trivial⟩

theorem mem_pyInsert {α : Type} {x y : α} {i : Int} {l : List α} (h : y ∈ HM.pyInsert x i l) : y = x ∨ y ∈ l := by
  unfold HM.pyInsert at h
  split at h <;> exact HeapL.mem_insertAt h

/-- `binary_insort(view._messages, msg)`: the message reference is inserted somewhere into the view's list; nothing else happens -/
theorem binaryInsort_spec (g : GOrc) (tag p m : Nat) (h : Heap) :
    Sat (binaryInsort g tag p m) h (fun _ h' => ∃ lo, h' = h.setLst p (HM.pyInsert m lo (h.lst p))) (fun h' => h' = h) := by
  unfold binaryInsort
  simp only [sat_bind, sat_get]
  refine sat_forIn_mem _ (fun _ h' => h' = h) _ _ _ ?step ?cont _ _ rfl
  case cont =>
    rintro ⟨a, b, c⟩ h' rfl
    cases c <;> simp only [sat_bind, sat_fail, sat_ite, sat_modify, Bool.not_true, Bool.not_false]
    all_goals first | (simp; done) | exact ⟨_, rfl⟩ | (simp; exact ⟨_, rfl⟩)
  case step =>
    rintro x _ ⟨a, b, c⟩ h' rfl
    simp only [sat_bind, sat_get, sat_needInt, sat_ite, sat_pure, sat_pyIndex, stepPost_yield, stepPost_done, implies_true, and_self]

theorem sat_normaliseAbsolute_of (g : GOrc) (tag p : Nat) (h : Heap) (Q : Unit → Heap → Prop) (E : Heap → Prop)
    (hq : ∀ r, r.Perm (h.lst p) → Q () (h.setLst p r)) (he : E h) : Sat (absoluteSequenceNormaliseAbsolute g tag p) h Q E := by
  unfold absoluteSequenceNormaliseAbsolute
  exact (sort_spec g tag p h).mono (fun _ h' ⟨r, hr, e⟩ => e ▸ hq r hr) (fun h' e => e ▸ he)

theorem sat_absAddMessage_of (g : GOrc) (tag p m : Nat) (h : Heap) (Q : Unit → Heap → Prop) (E : Heap → Prop)
    (hq : ∀ lo, Q () (h.setLst p (HM.pyInsert m lo (h.lst p)))) (he : E h) : Sat (absoluteSequenceAddMessage g tag p m) h Q E := by
  unfold absoluteSequenceAddMessage
  exact (binaryInsort_spec g tag p m h).mono (fun _ h' ⟨lo, e⟩ => e ▸ hq lo) (fun h' e => e ▸ he)

/-- the state of a conversion: no cell that existed when the call began (heap `h0`) was written, and `p`, the view being built, was allocated
    by the call (so all its messages were: `Inv` with an empty source) -/
def Conv (h0 : Heap) (p : Nat) (h : Heap) : Prop := Inv h0 [] h ∧ OkV h0 h p

theorem Conv.init (h0 : Heap) : Conv h0 h0.nLst (h0.newLst []).1 :=
  ⟨(Inv.refl h0 []).newLst, Nat.le_refl _, Nat.lt_succ_self _⟩

theorem Conv.newMsg {h0 h : Heap} {p : Nat} (hc : Conv h0 p h) {w : Msg} (hw : w.ch ≠ pyNone) : Conv h0 p (h.newMsg w).1 :=
  ⟨hc.1.newMsgV w hw, hc.2⟩

theorem Conv.setLst {h0 h : Heap} {p : Nat} (hc : Conv h0 p h) {is : List Nat}
    (his : ∀ i ∈ is, i ∈ h.lst p ∨ (h0.nMsg ≤ i ∧ i < h.nMsg)) : Conv h0 p (h.setLst p is) :=
  ⟨hc.1.setLstApp hc.2 (fun i hi => (his i hi).imp_right Or.inr), hc.2⟩

/-- `view.add_message(Message(…))` / `view.add_message(msg.copy())`: a new message with a channel is appended to the view being built -/
theorem Conv.push {h0 h : Heap} {p : Nat} (hc : Conv h0 p h) {w : Msg} (hw : w.ch ≠ pyNone) :
    Conv h0 p ((h.newMsg w).1.setLst p ((h.newMsg w).1.lst p ++ [h.nMsg])) :=
  (hc.newMsg hw).setLst (fun _ hi => (List.mem_append.1 hi).imp_right
    (fun e => by rw [List.mem_singleton.1 e]; exact ⟨hc.1.nMsg_le, Nat.lt_succ_self _⟩))

/-- the value of `c = msg.copy(); c.time = t` -/
def copyAt (m : Msg) (t : Int) : Msg := { normCh m with time := t }

theorem copyAt_ch (m : Msg) (t : Int) : (copyAt m t).ch ≠ pyNone := normCh_ch m

/-- `c.time = t` on the copy just made (stated for the field-by-field form of the store, so that `simp` folds it before it looks inside) -/
theorem setMsg_copy (h : Heap) (m : Msg) (t : Int) :
    (h.newMsg (normCh m)).1.setMsg h.nMsg { (h.newMsg (normCh m)).1.msg h.nMsg with time := t } = (h.newMsg (copyAt m t)).1 := by
  rw [msg_newMsg_self, setMsg_newMsg]; rfl

/-- `to_relative_sequence` keeps `Conv` and returns the view it built; it raises only at a message whose `time` is `None`
    (`TypeError` at `time > current_point_in_time`) -/
theorem toRel_sat (g : GOrc) (tag l : Nat) (h0 : Heap) :
    Sat (absoluteSequenceToRelativeSequence g tag l) h0 (fun p h => Conv h0 p h)
      (fun h => Inv h0 [] h ∧ ∃ i ∈ h0.lst l, (h.msg i).time = pyNone) := by
  unfold absoluteSequenceToRelativeSequence
  simp only [sat_bind, sat_get, sat_newView, sat_relativeSequenceInit_none, setLst_newLst, sat_pure]
  -- `current_point_in_time` is 0 or a `time` that passed the comparison: never `None`
  refine sat_forIn_mem _ (fun (cur : Int) h => cur ≠ pyNone ∧ Conv h0 h0.nLst h) _ _ _ ?_ (fun _ _ hj => hj.2) _ _ ⟨by decide, Conv.init h0⟩
  intro m hmem cur h ⟨hcur, hc⟩
  by_cases ht : (h.msg m).time = pyNone
  · simp only [sat_bind, sat_get, sat_needInt, ht, ne_eq, not_true_eq_false, false_implies, true_implies, true_and]
    exact ⟨hc.1, m, mem_lst_newLst hmem, ht⟩
  · have hp := @Conv.push h0
    simp only [sat_bind, sat_get, sat_needInt, sat_ite, sat_pure, sat_newMessage, sat_messageInit, setMsg_newMsg, sat_addMessage_none,
      sat_messageCopy, sat_modify, ↓setMsg_copy, stepPost_yield, ne_eq, ht, hcur, hc, hp, initVal_ch, copyAt_ch, not_false_eq_true,
      false_implies, true_implies, implies_true, and_self]

theorem toAbs_sat (g : GOrc) (tag l : Nat) (h0 : Heap) :
    Sat (relativeSequenceToAbsoluteSequence g tag l) h0 (fun p h => Conv h0 p h) (fun h => Inv h0 [] h) := by
  unfold relativeSequenceToAbsoluteSequence
  simp only [sat_bind, sat_get, sat_newView, sat_absoluteSequenceInit_none, setLst_newLst]
  refine sat_forIn_mem _ (fun _ h => Conv h0 h0.nLst h) _ _ _ ?step ?cont _ _ (Conv.init h0)
  case cont =>
    rintro ⟨a, b, c⟩ h hc
    -- the sort permutes the new view's list; the cap message is a new message inserted into it
    refine (sat_bind ..).2 (sat_normaliseAbsolute_of g tag _ _ _ _ (fun r hr => ?_) hc.1)
    have hc2 : Conv h0 h0.nLst (h.setLst h0.nLst r) := hc.setLst (fun i hi => Or.inl (hr.mem_iff.1 hi))
    simp only [sat_ite, sat_bind, sat_newMessage, sat_messageInit, setMsg_newMsg, sat_pure, hc2, implies_true, and_true]
    intro _
    have hc3 := hc2.newMsg (initVal_ch MType.internal a b pyNone pyNone pyNone pyNone pyNone pyNone pyNone)
    refine sat_absAddMessage_of g tag _ _ _ _ _ (fun lo => hc3.setLst (fun i hi => ?_)) hc3.1
    exact (mem_pyInsert hi).symm.imp_right (fun e => by rw [e]; exact ⟨hc2.1.nMsg_le, Nat.lt_succ_self _⟩)
  case step =>
    rintro m _ ⟨a, b, c⟩ h hc
    have hp := @Conv.push h0
    simp only [sat_bind, sat_get, sat_needInt, sat_ite, sat_pure, sat_addMessageUnsorted, sat_messageCopy, sat_modify, ↓setMsg_copy,
      stepPost_yield, hc, hc.1, hp, copyAt_ch, ne_eq, not_false_eq_true, implies_true, and_self]

/-- since the call began only WAIT messages (with a channel) were allocated and no cell was written -/
structure MsgOnly (h0 h : Heap) : Prop where
  ext : Ext h0 h
  kinds : h.nLst = h0.nLst ∧ h.nSeq = h0.nSeq ∧ h.nBar = h0.nBar ∧ h.nTrk = h0.nTrk ∧ h.nCmp = h0.nCmp
  lstf : h.lst = h0.lst
  chan : ∀ i, h0.nMsg ≤ i → i < h.nMsg → (h.msg i).ch ≠ pyNone ∧ (h.msg i).ty = .wait

theorem MsgOnly.refl (h0 : Heap) : MsgOnly h0 h0 :=
  ⟨Ext.refl h0, ⟨rfl, rfl, rfl, rfl, rfl⟩, rfl, fun _ h1 h2 => absurd h2 (Nat.not_lt.2 h1)⟩

theorem MsgOnly.nMsg_le {h0 h : Heap} (hm : MsgOnly h0 h) : h0.nMsg ≤ h.nMsg := hm.ext.1 .msg

theorem MsgOnly.newMsgV {h0 h : Heap} (hm : MsgOnly h0 h) (m : Msg) (hch : m.ch ≠ pyNone ∧ m.ty = .wait) : MsgOnly h0 (h.newMsg m).1 := by
  refine ⟨Ext.newMsg hm.ext m, hm.kinds, hm.lstf, fun i h1 h2 => ?_⟩
  by_cases he : i = h.nMsg
  · subst he; simp only [Heap.newMsg, if_true]; exact hch
  · simp only [Heap.newMsg, he, if_false]; exact hm.chan i h1 (Nat.lt_of_le_of_ne (Nat.le_of_lt_succ h2) he)

theorem initVal_wait (ch time note vel ctl num den key prog : Int) :
    (initVal .wait ch time note vel ctl num den key prog).ch ≠ pyNone ∧ (initVal .wait ch time note vel ctl num den key prog).ty = .wait :=
  ⟨initVal_ch _ _ _ _ _ _ _ _ _ _, rfl⟩

/-- what `pad` / `normalise_relative` may have done to the heap `h0` when called on the view `l`: allocated WAIT messages (with a channel), and
    written the list cell of `l` — with references that were in the list or are new.  NO other cell that existed is written: in particular no
    message of the receiver, and no other view. -/
structure InvM (h0 : Heap) (l : Nat) (h : Heap) : Prop where
  le : ∀ k, h0.next k ≤ h.next k
  same : ∀ c, h0.alloc c → c ≠ (.lst, l) → h.get c = h0.get c
  kinds : h.nLst = h0.nLst ∧ h.nSeq = h0.nSeq ∧ h.nBar = h0.nBar ∧ h.nTrk = h0.nTrk ∧ h.nCmp = h0.nCmp
  lst : ∀ i ∈ h.lst l, i ∈ h0.lst l ∨ (h0.nMsg ≤ i ∧ i < h.nMsg)
  chan : ∀ i, h0.nMsg ≤ i → i < h.nMsg → (h.msg i).ch ≠ pyNone ∧ (h.msg i).ty = .wait

theorem InvM.of_msgOnly {h0 h : Heap} (l : Nat) (hm : MsgOnly h0 h) : InvM h0 l h :=
  ⟨hm.ext.1, fun c hc _ => hm.ext.2 c hc, hm.kinds, fun i hi => Or.inl (by rw [hm.lstf] at hi; exact hi), hm.chan⟩

theorem InvM.of_set {h0 h : Heap} {l : Nat} (hm : MsgOnly h0 h) {ids : List Nat}
    (hids : ∀ i ∈ ids, OkId h0 (h0.lst l) h i) : InvM h0 l (h.setLst l ids) :=
  ⟨hm.ext.1, fun c hc hne => ((HeapL.upd_setLst h l ids).get c hne).trans (hm.ext.2 c hc), hm.kinds,
    fun i hi => hids i (lst_setLst h l ids ▸ hi), hm.chan⟩

theorem InvM.msg {h0 h : Heap} {l : Nat} (hi : InvM h0 l h) {i : Nat} (hlt : i < h0.nMsg) : h.msg i = h0.msg i :=
  Val.msg.inj (hi.same (.msg, i) hlt (by simp))

/-- the heap after `pad`: unchanged, or ONE new WAIT appended to the receiver's list (an existing trailing wait is never lengthened in
    place); it raises — with the heap unchanged — only at a WAIT of the receiver whose `time` is `None` (`TypeError` at
    `current_length += msg.time`) -/
theorem pad_sat (g : GOrc) (tag l : Nat) (n : Int) (h0 : Heap) :
    Sat (relativeSequencePad g tag l n) h0
      (fun _ h => h = h0 ∨ ∃ w : Msg, (w.ch ≠ pyNone ∧ w.ty = .wait) ∧ h = (h0.newMsg w).1.setLst l (h0.lst l ++ [h0.nMsg]))
      (fun h => h = h0 ∧ ∃ i ∈ h0.lst l, (h0.msg i).ty = .wait ∧ (h0.msg i).time = pyNone) := by
  unfold relativeSequencePad
  simp only [sat_bind, sat_get]
  refine sat_forIn_mem _ (fun _ h => h = h0) _ _ _ ?step ?cont _ _ rfl
  case cont =>
    rintro ⟨a, b⟩ h rfl
    simp only [sat_bind, sat_ite, sat_newMessage, sat_messageInit, setMsg_newMsg, sat_modify, sat_pure, lst_newMsg, true_or, implies_true, and_true]
    exact fun _ => Or.inr ⟨_, initVal_wait .., rfl⟩
  case step =>
    rintro m hmem ⟨a, b⟩ h rfl
    have hbad : (h.msg m).ty = .wait → (h.msg m).time = pyNone → ∃ i ∈ h.lst l, (h.msg i).ty = .wait ∧ (h.msg i).time = pyNone :=
      fun h1 h2 => ⟨m, hmem, h1, h2⟩
    simp only [sat_bind, sat_get, sat_needInt, sat_ite, sat_pure, stepPost_yield, stepPost_done, beq_iff_eq, implies_true, and_self, true_and, and_true]
    exact ⟨fun _ => hbad, fun _ => hbad⟩

theorem InvM.pad (h0 : Heap) (l : Nat) {w : Msg} (hw : w.ch ≠ pyNone ∧ w.ty = .wait) :
    InvM h0 l ((h0.newMsg w).1.setLst l (h0.lst l ++ [h0.nMsg])) :=
  InvM.of_set ((MsgOnly.refl h0).newMsgV w hw) (fun _ hi =>
    (List.mem_append.1 hi).imp id (fun e => by rw [List.mem_singleton.1 e]; exact ⟨Nat.le_refl _, Nat.lt_succ_self _⟩))

/-- the state of `normalise_relative` while `messages_normalized` is `ids`: only WAITs were allocated, nothing was written, and `ids` are
    message objects of the receiver's list or messages allocated by the call -/
def NormOk (h0 : Heap) (l : Nat) (h : Heap) (ids : List Nat) : Prop := MsgOnly h0 h ∧ ∀ i ∈ ids, OkId h0 (h0.lst l) h i

theorem NormOk.invM {h0 h : Heap} {l : Nat} {ids : List Nat} (hj : NormOk h0 l h ids) : InvM h0 l h := InvM.of_msgOnly l hj.1

/-- `self._messages = messages_normalized` -/
theorem NormOk.set {h0 h : Heap} {l : Nat} {ids : List Nat} (hj : NormOk h0 l h ids) : InvM h0 l (h.setLst l ids) := InvM.of_set hj.1 hj.2

/-- `messages_normalized.append(msg)` for a message of the receiver -/
theorem NormOk.old {h0 h : Heap} {l : Nat} {ids : List Nat} (hj : NormOk h0 l h ids) {m : Nat} (hm : m ∈ h0.lst l) :
    NormOk h0 l h (ids ++ [m]) :=
  ⟨hj.1, fun i hi => (List.mem_append.1 hi).elim (hj.2 i) (fun e => Or.inl (List.mem_singleton.1 e ▸ hm))⟩

/-- `messages_normalized.append(Message(WAIT, …))` -/
theorem NormOk.new {h0 h : Heap} {l : Nat} {ids : List Nat} (hj : NormOk h0 l h ids) (w : Msg) (hw : w.ch ≠ pyNone ∧ w.ty = .wait) :
    NormOk h0 l (h.newMsg w).1 (ids ++ [h.nMsg]) :=
  ⟨hj.1.newMsgV w hw, fun i hi => (List.mem_append.1 hi).elim
    (fun hi => (hj.2 i hi).mono (Nat.le_succ _))
    (fun e => Or.inr (List.mem_singleton.1 e ▸ ⟨hj.1.nMsg_le, Nat.lt_succ_self _⟩))⟩

/-- `messages_normalized.remove(msg)` -/
theorem NormOk.erase {h0 h : Heap} {l : Nat} {ids : List Nat} (hj : NormOk h0 l h ids) (x : Nat) : NormOk h0 l h (ids.erase x) :=
  ⟨hj.1, fun i hi => hj.2 i (List.mem_of_mem_erase hi)⟩

theorem dictGet?_of_mem_keys {κ ν : Type} [DecidableEq κ] {d : List (κ × ν)} {k : κ} (h : k ∈ HeapLib3.dictKeys d) :
    HeapLib3.dictGet? d k ≠ none := by
  induction d with
  | nil => simp [HeapLib3.dictKeys] at h
  | cons e d ih =>
    simp only [HeapLib3.dictKeys, List.map_cons, List.mem_cons] at h
    simp only [HeapLib3.dictGet?]
    split
    · simp
    · exact ih (h.resolve_left (fun e => ‹¬ _› e.symm))

/-- `d.setdefault(k, v); d[k]` does not raise -/
theorem dictGet?_setDefault_self {κ ν : Type} [DecidableEq κ] (d : List (κ × ν)) (k : κ) (v : ν) :
    HeapLib3.dictGet? (HeapLib3.dictSetDefault d k v) k ≠ none := by
  unfold HeapLib3.dictSetDefault
  cases h : HeapLib3.dictGet? d k with
  | some x => simp [h]
  | none => exact dictGet?_of_mem_keys (by simp [HeapLib3.dictKeys])

/-- the loop state of the translated `normalise_relative`, in the order of the `let mut`s: (`current_ts_numerator`, `current_ts_denominator`,
    `current_key`, `default_channel`, `open_messages`, `messages_normalized`, `wait_buffer`); the invariants speak of the sixth, the list being built -/
abbrev NSt := Int × Int × Int × Int × List (Int × List (Int × List Nat)) × List Nat × Int

/-- `normalise_relative`: only WAITs are allocated, the one store is `self._messages = messages_normalized`, and that list holds message
    objects of the old list and new messages.  It raises only at a WAIT of the receiver whose `time` is `None` (`TypeError` at
    `wait_buffer += msg.time`): every `open_messages[msg.channel]` follows a `setdefault`, `note_list.pop(-1)` is guarded, the keys of the
    clean-up loops are keys of the dicts they index. -/
theorem normalise_sat (g : GOrc) (tag l : Nat) (h0 : Heap) :
    Sat (relativeSequenceNormaliseRelative g tag l) h0 (fun _ h => InvM h0 l h)
      (fun h => InvM h0 l h ∧ ∃ i ∈ h0.lst l, (h.msg i).ty = .wait ∧ (h.msg i).time = pyNone) := by
  unfold relativeSequenceNormaliseRelative
  refine (sat_bind ..).2 ((sat_get ..).2 ((sat_bind ..).2 ?_))
  refine sat_forIn_mem _ (fun (s : NSt) h => NormOk h0 l h s.2.2.2.2.2.1) _ _ _ ?step ?cont _ _ ⟨MsgOnly.refl h0, by simp⟩
  case cont =>
    rintro ⟨a, b, c, d, e, f, k⟩ h hj
    dsimp only at hj
    have hnew := fun ch t => hj.new _ (initVal_wait ch t pyNone pyNone pyNone pyNone pyNone pyNone pyNone)
    -- the pending WAIT is flushed or not, then the clean-up (the join point of the `if`) runs from either list: its three nested loops only
    -- remove from `messages_normalized`, and they index the dicts by their own keys
    extract_lets
    rename_i rest
    have hrest : ∀ ids hh, NormOk h0 l hh ids → Sat (rest () ids) hh (fun _ h => InvM h0 l h)
        (fun h => InvM h0 l h ∧ ∃ i ∈ h0.lst l, (h.msg i).ty = .wait ∧ (h.msg i).time = pyNone) := by
      intro ids hh hn
      simp +zetaDelta only [sat_bind]
      refine sat_forIn_mem _ (fun s hh => NormOk h0 l hh s) _ _ _ ?_ (fun s hh hs => by simp only [sat_modify]; exact hs.set) _ _ hn
      intro ch hch s1 h1 hj1
      have hget := dictGet?_of_mem_keys hch
      simp only [sat_bind, sat_dictGet, sat_pure, stepPost_yield, hget, false_implies, and_true]
      intro t25 _
      refine sat_forIn_mem _ (fun s hh => NormOk h0 l hh s) _ _ _ ?_ (fun _ _ hs => hs) _ _ hj1
      intro key _ s2 h2 hj2
      simp only [sat_bind, sat_dictGet, sat_pure, stepPost_yield, hget, false_implies, and_true]
      intro t26 _
      refine sat_forIn_mem _ (fun s hh => NormOk h0 l hh s) _ _ _ ?_ (fun _ _ hs => hs) _ _ hj2
      intro x _ s3 h3 hj3
      simp only [sat_ite, sat_pure, stepPost_yield, hj3, hj3.erase, implies_true, and_self]
    clear_value rest
    simp +zetaDelta only [sat_ite, sat_bind, sat_newMessage, sat_messageInit, setMsg_newMsg, hrest, hj, hnew, implies_true, and_self]
  case step =>
    rintro m hmem ⟨a, b, c, d, e, f, k⟩ h hj
    dsimp only at hj
    -- the leaves: raise (`hi`, `hbad`), `continue` with the list as it was (`hj`), `msg` kept (`hold`), pending WAIT flushed and `msg` kept (`hnew`)
    have hi := hj.invM
    have hold := hj.old hmem
    have hnew := fun ch t => (hj.new _ (initVal_wait ch t pyNone pyNone pyNone pyNone pyNone pyNone pyNone)).old hmem
    have hsd := dictGet?_setDefault_self e (h.msg m).ch ([] : List (Int × List Nat))
    have hbad : (h.msg m).ty = .wait → (h.msg m).time = pyNone → ∃ i ∈ h0.lst l, (h.msg i).ty = .wait ∧ (h.msg i).time = pyNone :=
      fun h1 h2 => ⟨m, hmem, h1, h2⟩
    -- `default_channel` is set or not, then the rest of the round (the join point of the `if`, taken out of the goal) runs from either value
    extract_lets
    rename_i rest
    have hrest : ∀ dc, Sat (rest () dc) h (StepPost fun (s : NSt) h => NormOk h0 l h s.2.2.2.2.2.1)
        (fun h => InvM h0 l h ∧ ∃ i ∈ h0.lst l, (h.msg i).ty = .wait ∧ (h.msg i).time = pyNone) := by
      intro dc
      simp +zetaDelta only [sat_bind, sat_get, sat_needInt, sat_ite, sat_pure, sat_newMessage, sat_messageInit, setMsg_newMsg, sat_dictGet,
        sat_dropLastM, stepPost_yield, hi, hj, hold, hnew, hsd, beq_iff_eq, List.length_eq_zero_iff, ne_eq, implies_true, and_self, true_and,
        and_true, false_implies]
      -- what is left: the WAIT without a `time`, and `note_list.pop(-1)` behind its guard
      exact ⟨hbad, fun _ _ _ _ _ h1 h2 => absurd h2 h1⟩
    clear_value rest
    simp +zetaDelta only [sat_bind, sat_get, sat_ite, hrest, implies_true, and_self]

end SCoda.HeapTie3L
