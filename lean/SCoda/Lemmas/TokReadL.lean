/-
  The generated `detokenise` (`detokeniseLoop2` per part of a token, `detokeniseLoop1` per token) and `get_info` (`getInfoLoop1` per
  token) against the hand models `dpart` / `dstep` / `detokenise` and `infoStep` / `getInfo` of Model/Token.lean, on ARBITRARY
  strings: the strings of a part are any strings that Python's `int()` (`pyIntOfStr`: surrounding whitespace, optional sign, ASCII
  digits) reads as the numbers of the part (`PartStrs`), in any order of the `-`-separated parts (`TokRep`: after the source's
  `sorted(..., key=sort_order)`).  The strings `render t` are a special case (`tokRep_render`, Lemmas/TokAcceptL.lean).
  The linked `CircleOfFifths.get_position` is `genCof` (Model/BarOps.lean, itself the generated `Gen.getPosition`; total by
  Props/C20.lean `getPosition_spec`).
-/
import SCoda.Lemmas.TokLibL
import SCoda.Lemmas.TokNumL
import SCoda.Lemmas.ModifyAt
import SCoda.Lemmas.Detok
import SCoda.Props.C20
import SCoda.Model.BarOps
set_option linter.unusedSimpArgs false
set_option linter.unusedTactic false
set_option linter.unnecessarySeqFocus false
set_option linter.unreachableTactic false
namespace SCoda.TokTieL
open SCoda SCoda.TokLib SCoda.Gen.Tok SCoda.RenderL

def mainOf : Part → String
  | .pad => prefixOf "PAD" | .sta => prefixOf "START" | .sto => prefixOf "STOP" | .bar => prefixOf "BAR"
  | .rest _ => prefixOf "REST" | .trk _ => prefixOf "TRACK" | .val _ => prefixOf "VALUE" | .vel _ => prefixOf "VELOCITY"
  | .pit _ => prefixOf "PITCH" | .tsig _ _ => prefixOf "TIME_SIGNATURE"

def PartOk (ppqn : Int) : Part → Prop
  | .pad | .sta | .sto | .bar => True
  | .rest v | .trk v | .val v | .vel v | .pit v => 0 ≤ v
  | .tsig a b => 0 ≤ a ∧ 0 < b ∧ 0 ≤ ppqn * 4 * a

/-- side condition on a token for the tie of `detokenise`: natural-number fields (`TokOk`), and a time signature with a
    non-zero denominator and a non-negative bar length -/
def TokOkD (ppqn : Int) (t : Tok) : Prop :=
  TokOk t ∧ ∀ a b, t = .tsig a b → 0 < b ∧ 0 ≤ ppqn * 4 * a

theorem parts_ok (ppqn : Int) (t : Tok) (h : TokOkD ppqn t) : ∀ p ∈ t.parts, PartOk ppqn p := by
  obtain ⟨h1, h2⟩ := h
  cases t with
  | pad | sta | sto | bar => intro p hp; simp [Tok.parts] at hp; subst hp; trivial
  | rest v | trk v | val v | vel v => intro p hp; simp [Tok.parts] at hp; subst hp; exact h1
  | tsig a b =>
    intro p hp; simp [Tok.parts] at hp; subst hp
    exact ⟨h1.1, (h2 a b rfl).1, (h2 a b rfl).2⟩
  | note t p v w =>
    obtain ⟨ht, hp, hv, hw⟩ := h1
    intro q hq
    simp only [Tok.parts, List.mem_append, List.mem_singleton] at hq
    rcases hq with ((hq | hq) | hq) | rfl
    · cases t <;> simp at hq; subst hq; exact ht
    · cases v <;> simp at hq; subst hq; exact hv
    · cases w <;> simp at hq; subst hq; exact hw
    · exact hp

def sortKeyFn : List String → Except PyErr Int := fun part =>
  (do pure (← (if (sortOrder.contains (← pyItem part 0)) then (do pure (← pyIndexOf sortOrder (← pyItem part 0))) else pure (-1))))

/-- the key function as the translator writes it inside `detokenise` and `get_info` -/
theorem sortKeyFn_eq : (fun part : List String => (do pure (← (if (sortOrder.contains (← pyItem part 0)) then
    (do pure (← pyIndexOf sortOrder (← pyItem part 0))) else pure (-1))) : Except PyErr Int)) = sortKeyFn := rfl

theorem splitToken_eq (s : String) : splitToken s = .ok ((s.splitOn "-").map (fun part => part.splitOn "_")) := rfl

theorem forall₂_and_right {α β} {R : α → β → Prop} {P : β → Prop} : ∀ {l₁ l₂}, List.Forall₂ R l₁ l₂ → (∀ b ∈ l₂, P b) →
    List.Forall₂ (fun a b => R a b ∧ P b) l₁ l₂
  | _, _, .nil, _ => .nil
  | _, _, .cons h1 h2, hP => .cons ⟨h1, hP _ (by simp)⟩ (forall₂_and_right h2 fun b hb => hP b (by simp [hb]))

theorem forall₂_single {α β} {R : α → β → Prop} {a : α} {l : List β} (h : List.Forall₂ R [a] l) : ∃ b, l = [b] ∧ R a b := by
  cases h with
  | cons h1 h2 => cases h2; exact ⟨_, rfl, h1⟩

end SCoda.TokTieL

-- `PartStrs` and `TokRep` carry the namespace `DefsL`: the statements of Props/Defs.lean name them so
namespace SCoda.DefsL
open SCoda SCoda.TokLib SCoda.Gen.Tok SCoda.TokTieL

/-- the `_`-separated strings of one part, as the generated code reads them: the prefix, then strings that `int()` reads as the
    numbers of the part -/
def PartStrs : Part → List String → Prop
  | .pad, s => s = [prefixOf "PAD"]
  | .sta, s => s = [prefixOf "START"]
  | .sto, s => s = [prefixOf "STOP"]
  | .bar, s => s = [prefixOf "BAR"]
  | .rest v, s => ∃ a, s = [prefixOf "REST", a] ∧ pyIntOfStr a = .ok v
  | .trk v, s => ∃ a, s = [prefixOf "TRACK", a] ∧ pyIntOfStr a = .ok v
  | .val v, s => ∃ a, s = [prefixOf "VALUE", a] ∧ pyIntOfStr a = .ok v
  | .vel v, s => ∃ a, s = [prefixOf "VELOCITY", a] ∧ pyIntOfStr a = .ok v
  | .pit v, s => ∃ a, s = [prefixOf "PITCH", a] ∧ pyIntOfStr a = .ok v
  | .tsig x y, s => ∃ a b, s = [prefixOf "TIME_SIGNATURE", a, b] ∧ pyIntOfStr a = .ok x ∧ pyIntOfStr b = .ok y

/-- the string `s` is read by the generated `detokenise` as the token `t`: its `-`-separated parts, split on `_` and sorted by
    `sort_order`, are the parts of `t`, each number written as some string that `int()` reads as that number -/
def TokRep (s : String) (t : Tok) : Prop :=
  ∃ Ss, pySortedBy ((s.splitOn "-").map (fun part => part.splitOn "_")) sortKeyFn = .ok Ss ∧ List.Forall₂ PartStrs t.parts Ss

end SCoda.DefsL

namespace SCoda.TokTieL
open SCoda SCoda.TokLib SCoda.Gen.Tok SCoda.RenderL SCoda.DefsL

theorem partStrs_cons (p : Part) (s : List String) (h : PartStrs p s) : ∃ r, s = mainOf p :: r := by
  cases p <;> simp only [PartStrs] at h
  case pad | sta | sto | bar => exact ⟨_, h⟩
  case rest | trk | val | vel | pit => obtain ⟨a, rfl, _⟩ := h; exact ⟨_, rfl⟩
  case tsig => obtain ⟨a, b, rfl, _⟩ := h; exact ⟨_, rfl⟩

theorem partStrs_head (p : Part) (s : List String) (h : PartStrs p s) : pyItem s 0 = .ok (mainOf p) := by
  obtain ⟨r, rfl⟩ := partStrs_cons p s h
  exact pyItem_cons_zero _ _

theorem mainParts_of_forall₂ : ∀ (ps : List Part) (Ss : List (List String)), List.Forall₂ PartStrs ps Ss →
    mapME (fun part => pyItem part 0) Ss = .ok (ps.map mainOf) := by
  intro ps Ss h
  induction h with
  | nil => rfl
  | cons hh _ ih => simp [mapME, partStrs_head _ _ hh, ih]

abbrev DSt := List LSeq × Int × Int × Int × Int × Int × Int × Int × Int × Int

def gD (d : DetokSt) : DSt :=
  (d.seqs.map LSeq.abs, d.curTime, d.curTimeBar, d.tsNum, d.tsDen, d.capTotal, d.capRem, d.prvTrack, d.prvValue, d.prvVel)

theorem pyModifyAt_abs (l : List (List Msg)) (i : Int) (m : Msg) (hi : 0 ≤ i) :
    pyModifyAt (l.map LSeq.abs) i (fun s => s.addAbs m) =
      if i.toNat < l.length then .ok ((addAbs l i.toNat m).map LSeq.abs) else .error .indexError := by
  unfold pyModifyAt
  have h0 : ¬ i < 0 := by omega
  simp only [h0, if_false, List.length_map]
  by_cases h : i.toNat < l.length
  · simp only [h, if_true, modifyNth_eq, addAbs]
    rw [← modifyAt_map (fun a => insort a m) (fun s => s.addAbs m) LSeq.abs (fun x => rfl)]
    rfl
  · simp only [h, if_false]; rfl

theorem dpart_prvTrack (c : Cfg) (ppqn : Int) (d d' : DetokSt) (p : Part) (hp : PartOk ppqn p) (hd : 0 ≤ d.prvTrack)
    (h : dpart c d p = .ok d') : 0 ≤ d'.prvTrack := by
  cases p <;> simp only [dpart] at h
  case pad | sta | sto => cases h; exact hd
  case bar | rest | val | vel => cases h; exact hd
  case trk t => cases h; exact hp
  case pit p => split at h <;> cases h; exact hd
  case tsig a b =>
    split at h
    · cases h; exact hd
    · split at h <;> cases h; exact hd

theorem dstep_prvTrack (c : Cfg) (ppqn : Int) (t : Tok) (d d' : DetokSt) (hok : ∀ p ∈ t.parts, PartOk ppqn p) (hd : 0 ≤ d.prvTrack)
    (h : dstep c d t = .ok d') : 0 ≤ d'.prvTrack :=
  foldlM_inv (fun d => 0 ≤ d.prvTrack) (PartOk ppqn) (dpart c) (fun p d d' hp hd e => dpart_prvTrack c ppqn d d' p hp hd e)
    t.parts d d' hok hd (Detok.dstep_eq c d t ▸ h)

/-- `n // 2, d // 2` of the source's time-signature simplification, on natural numbers -/
theorem halve_eq (c : Bool) (a b : Int) (ha : 0 ≤ a) (hb : 0 ≤ b) :
    (if c = true then (do
        let x ← pyTrueDiv a 2
        let y ← pyTrueDiv b 2
        pure (ratTrunc x, ratTrunc y))
      else pure (a, b) : Except PyErr (Int × Int)) = .ok (if c then a / 2 else a, if c then b / 2 else b) := by
  have h2 : (2 : Int) ≠ 0 := by decide +kernel
  cases c
  · rfl
  · simp only [if_true, pyTrueDiv_ok _ _ h2, ok_bind, ratTrunc_capacity _ _ h2 ha, ratTrunc_capacity _ _ h2 hb]; rfl

theorem detokeniseLoop2_gen (o : TokObj) (tokenParts : List (List String)) (i : Int) (part : Part) (strs : List String)
    (d : DetokSt) (hi : pyItem tokenParts i = .ok strs) (hs : PartStrs part strs) (hok : PartOk o.ppqn part)
    (hd : 0 ≤ d.prvTrack) :
    detokeniseLoop2 o tokenParts (i, mainOf part) (gD d) =
      liftE (fun d' => ForInStep.yield (gD d')) (dpart (cfgOf o) d part) := by
  obtain ⟨m, hm⟩ : ∃ m, m = mainOf part := ⟨_, rfl⟩
  rw [← hm]
  unfold detokeniseLoop2
  dsimp only [gD]
  -- the chain of prefix tests: every test before the part's own fails, by evaluation of the two prefixes
  cases part <;>
    (dsimp only [mainOf] at hm; subst hm; repeat rw [if_neg (by decide)]) <;> rw [if_pos (by decide)]
  case pad | sta | sto => rfl
  case bar =>
    rw [forIn_collect (fun s : LSeq => s.addAbs { ty := MType.internal, ch := 0, time := d.curTime + d.capRem : Msg }) _ _ ?hc]
    case hc => intro x _ s; rfl
    simp only [ok_bind, List.nil_append, List.map_map, dpart, liftE]
    rfl
  case rest v | trk v | val v | vel v =>
    obtain ⟨a, rfl, ha⟩ := hs
    simp only [hi, ok_bind, pyItem_cons_one, ha]
    rfl
  case pit v =>
    obtain ⟨a, rfl, ha⟩ := hs
    simp only [hi, ok_bind, pyItem_cons_one, ha]
    rw [pyModifyAt_abs _ _ _ hd]
    have hneg : (decide (d.prvTrack < 0)) = false := by simp; omega
    by_cases h : d.prvTrack.toNat < d.seqs.length
    · have h2 : (decide (d.prvTrack.toNat ≥ d.seqs.length)) = false := by simp; omega
      simp only [h, if_true, ok_bind]
      rw [pyModifyAt_abs _ _ _ hd]
      simp only [Detok.length_addAbs, h, if_true, ok_bind, dpart, hneg, h2, Bool.or_false, Bool.false_eq_true, if_false]
      rfl
    · have h2 : (decide (d.prvTrack.toNat ≥ d.seqs.length)) = true := by simp; omega
      simp only [h, if_false, error_bind, dpart, hneg, h2, Bool.or_true, if_true]
      rfl
  case tsig a b =>
    obtain ⟨sa, sb, rfl, hsa, hsb⟩ := hs
    obtain ⟨ha, hb, hn⟩ := hok
    have hb0 : b ≠ 0 := by omega
    simp only [hi, ok_bind, pyItem_cons_one, pyItem_cons_two, hsa, hsb, pyTrueDiv_ok _ _ hb0, ratTrunc_capacity _ _ hb0 hn,
      halve_eq _ a b ha (Int.le_of_lt hb), pyModifyAt_abs _ _ _ (Int.le_refl 0)]
    rw [show ∀ x : Bool, (if x = true then true else false) = x by decide]
    by_cases hbar : d.curTimeBar > 0
    · simp only [hbar, decide_true, if_true, dpart]; rfl
    · simp only [hbar, decide_false, Bool.false_eq_true, if_false, dpart, cfgOf, Cfg.capacity]
      rcases Bool.eq_false_or_eq_true (d.tsNum != a || d.tsDen != b || !o.flagRunningValues) with hsw | hsw <;>
        by_cases hl : d.seqs.length = 0 <;>
        simp [hsw, hl, Nat.pos_of_ne_zero, liftE, ofErr, Msg.mkTimeSig, pure, Except.pure, bind, Except.bind]

theorem loop2_fold_gen (o : TokObj) (Ss : List (List String)) : ∀ (suffix : List Part) (k : Nat) (d : DetokSt),
    List.Forall₂ PartStrs suffix (Ss.drop k) → (∀ p ∈ suffix, PartOk o.ppqn p) → 0 ≤ d.prvTrack →
    forIn (pyEnumerateFrom k (suffix.map mainOf)) (gD d) (fun x s => detokeniseLoop2 o Ss x s)
      = liftE gD (suffix.foldlM (dpart (cfgOf o)) d) := by
  intro suffix
  induction suffix with
  | nil => intro k d _ _ _; rfl
  | cons p ps ih =>
    intro k d hf hok hd
    cases hdrop : Ss.drop k with
    | nil => rw [hdrop] at hf; cases hf
    | cons strs rest =>
      rw [hdrop] at hf
      cases hf with
      | cons hps hrest =>
        have hk : Ss[k]? = some strs := by
          have := congrArg List.head? hdrop
          simpa [List.head?_drop] using this
        have hi : pyItem Ss (k : Int) = .ok strs := pyItem_nat _ _ _ hk
        simp only [List.map_cons, pyEnumerateFrom, List.forIn_cons]
        rw [detokeniseLoop2_gen o _ _ p strs d hi hps (hok p (by simp)) hd, List.foldlM_cons]
        cases hdp : dpart (cfgOf o) d p with
        | error e => rfl
        | ok d' =>
          simp only [liftE, ok_bind]
          have hdrop' : Ss.drop (k + 1) = rest := by
            rw [← List.drop_drop, hdrop]; rfl
          exact ih (k + 1) d' (by rw [hdrop']; exact hrest) (fun q hq => hok q (by simp [hq]))
            (dpart_prvTrack _ _ _ _ _ (hok p (by simp)) hd hdp)

theorem detokeniseLoop1_parts (o : TokObj) (s : String) (t : Tok) (st : DSt) (hrep : TokRep s t) :
    ∃ Ss, List.Forall₂ PartStrs t.parts Ss ∧ detokeniseLoop1 o s st =
      forIn (pyEnumerate (t.parts.map mainOf)) st (fun x s => detokeniseLoop2 o Ss x s) >>= fun r => pure (ForInStep.yield r) := by
  obtain ⟨Ss, hsort, hf⟩ := hrep
  refine ⟨Ss, hf, ?_⟩
  unfold detokeniseLoop1
  simp only [splitToken_eq, ok_bind]
  rw [sortKeyFn_eq, hsort]
  simp only [ok_bind]
  rw [mainParts_of_forall₂ _ _ hf]
  rfl

theorem detokeniseLoop1_gen (o : TokObj) (s : String) (t : Tok) (d : DetokSt) (hrep : TokRep s t)
    (hok : ∀ p ∈ t.parts, PartOk o.ppqn p) (hd : 0 ≤ d.prvTrack) :
    detokeniseLoop1 o s (gD d) = liftE (fun d' => ForInStep.yield (gD d')) (dstep (cfgOf o) d t) := by
  obtain ⟨Ss, hf, e⟩ := detokeniseLoop1_parts o s t (gD d) hrep
  rw [e, pyEnumerate, loop2_fold_gen o Ss t.parts 0 d (by simpa using hf) hok hd, Detok.dstep_eq]
  cases t.parts.foldlM (dpart (cfgOf o)) d <;> rfl

theorem loop1_fold_gen (o : TokObj) (ss : List String) (ts : List Tok) (d : DetokSt) (h : List.Forall₂ TokRep ss ts)
    (hok : ∀ t ∈ ts, ∀ p ∈ t.parts, PartOk o.ppqn p) (hd : 0 ≤ d.prvTrack) :
    forIn ss (gD d) (fun x s => detokeniseLoop1 o x s) = liftE gD (ts.foldlM (dstep (cfgOf o)) d) :=
  (forIn_foldlM₂ ofErr gD _ (fun d => 0 ≤ d.prvTrack) (dstep (cfgOf o)) _
    (fun s t d hq hd => (detokeniseLoop1_gen o s t d hq.1 hq.2 hd).trans (liftE_eq _ _))
    (fun _ t d d' hq hd e => dstep_prvTrack _ o.ppqn t d d' hq.2 hd e) (forall₂_and_right h hok) d hd).trans (liftE_eq _ _).symm

theorem detokenise_init (o : TokObj) (ss : List String) (hp : 0 ≤ o.ppqn) :
    Gen.Tok.detokenise o ss =
      (forIn ss (gD (DetokSt.init (cfgOf o))) (fun x s => detokeniseLoop1 o x s)) >>= fun s => pure s.1 := by
  unfold Gen.Tok.detokenise
  have h8 : Gen.defaultTimeSignatureDenominator ≠ 0 := by decide +kernel
  have hn := defaultBar_nonneg hp
  simp only [pyTrueDiv_ok _ _ h8, ok_bind, ratTrunc_capacity _ _ h8 hn]
  -- `prv_track = 0`, `prv_value = 24`, `prv_velocity = 127` (notelike_tokenisation.py:260-262) are the defaults of `DetokSt`
  have hinit : ((pyRange 0 o.numTracks).map (fun _ => LSeq.new), (0 : Int), (0 : Int), Gen.defaultTimeSignatureNumerator,
      Gen.defaultTimeSignatureDenominator, o.ppqn * 4 * Gen.defaultTimeSignatureNumerator / Gen.defaultTimeSignatureDenominator,
      o.ppqn * 4 * Gen.defaultTimeSignatureNumerator / Gen.defaultTimeSignatureDenominator, (0 : Int), (24 : Int), (127 : Int))
      = gD (DetokSt.init (cfgOf o)) := by
    simp [gD, DetokSt.init, cfgOf, Cfg.capacity, pyRange, LSeq.new, Function.comp_def]
  rw [hinit]

theorem detokenise_gen (o : TokObj) (ss : List String) (ts : List Tok) (hp : 0 ≤ o.ppqn) (hrep : List.Forall₂ TokRep ss ts)
    (hts : ∀ t ∈ ts, ∀ p ∈ t.parts, PartOk o.ppqn p) :
    Gen.Tok.detokenise o ss = liftE (fun seqs => seqs.map LSeq.abs) (SCoda.detokenise (cfgOf o) ts) := by
  rw [detokenise_init o ss hp, loop1_fold_gen o ss ts _ hrep hts (show (0 : Int) ≤ 0 by decide), Detok.detokenise_foldlM]
  cases ts.foldlM (dstep (cfgOf o)) (DetokSt.init (cfgOf o)) <;> rfl

theorem detokenise_tsig_zero (o : TokObj) (s : String) (a : Int) (hp : 0 ≤ o.ppqn) (hrep : TokRep s (.tsig a 0)) :
    Gen.Tok.detokenise o [s] = .error .zeroDivisionError := by
  obtain ⟨Ss, hf, e⟩ := detokeniseLoop1_parts o s _ (gD (DetokSt.init (cfgOf o))) hrep
  obtain ⟨_, rfl, sa, sb, rfl, hsa, hsb⟩ := forall₂_single hf
  rw [detokenise_init o [s] hp, List.forIn_cons, e]
  simp only [pyEnumerate, Tok.parts, List.map_cons, List.map_nil, pyEnumerateFrom, List.forIn_cons, mainOf]
  unfold detokeniseLoop2
  dsimp only [gD]
  repeat rw [if_neg (by decide)]
  rw [if_pos (by decide)]
  have hi : pyItem [[prefixOf "TIME_SIGNATURE", sa, sb]] ((0 : Nat) : Int) = .ok [prefixOf "TIME_SIGNATURE", sa, sb] :=
    pyItem_cons_zero _ _
  simp only [hi, ok_bind, pyItem_cons_one, pyItem_cons_two, hsa, hsb]
  rfl

abbrev ISt := List Int × List Int × List Int × List (Option Int) × List (Option Int) × Int × Int × Int × Int × Int × Int × Int

abbrev Row := Int × Int × Int × Option Int × Option Int

/-- the loop state of the generated `get_info` for a hand state `s` and a current time signature `n/d` (which the hand
    model does not keep: it only feeds the bar capacity) -/
def gI (s : InfoSt) (n d : Int) : ISt :=
  (s.out.reverse.map (·.1), s.out.reverse.map (·.2.1), s.out.reverse.map (·.2.2.1), s.out.reverse.map (·.2.2.2.1),
    s.out.reverse.map (·.2.2.2.2), s.pos, s.curTime, s.curTimeBar, n, d, s.capTotal, s.capRem)

/-- the five lists `get_info` returns, from the rows of the hand model -/
def unzipInfo (rows : List Row) : List Int × List Int × List Int × List (Option Int) × List (Option Int) :=
  (rows.map (·.1), rows.map (·.2.1), rows.map (·.2.2.1), rows.map (·.2.2.2.1), rows.map (·.2.2.2.2))

/-- the time signature the generated code carries after a token -/
def tsAfter (t : Tok) (bar n d : Int) : Int × Int :=
  match t with
  | .tsig a b => if bar > 0 then (n, d) else (a, b)
  | _ => (n, d)

theorem linkCof_eq (p : Int) : linkCof p = .ok (genCof p) := by
  obtain ⟨q, h, _⟩ := C20.getPosition_spec p
  rw [linkCof, genCof, h]
  rfl

theorem infoStep_prvPitch (c : Cfg) (cof : Int → Int) (impute : Bool) (s : InfoSt) (t : Tok) :
    (infoStep c cof impute s t).prvPitch = s.prvPitch := by
  cases t <;> simp only [infoStep] <;> (try split) <;> rfl

theorem note_main (tr : Option Int) (p : Int) (v w : Option Int) : ∃ m r ps, (Tok.note tr p v w).parts.map mainOf = m :: r ∧
    (m == prefixOf "BAR") = false ∧ (m == prefixOf "REST") = false ∧ (m :: r).contains (prefixOf "PITCH") = true ∧
    (Tok.note tr p v w).parts = ps ++ [.pit p] ∧ (ps.all fun q => !(mainOf q == prefixOf "PITCH")) = true := by
  cases tr <;> cases v <;> cases w <;> exact ⟨_, _, _, rfl, rfl, rfl, rfl, rfl, rfl⟩

/-- `next(part for part in token_parts if part[0] == "pit")` finds the pitch part behind parts of other kinds -/
theorem pyNextM_pitch (p : Int) (ps : List Part) : ∀ (Ss : List (List String)), List.Forall₂ PartStrs (ps ++ [.pit p]) Ss →
    (ps.all fun q => !(mainOf q == prefixOf "PITCH")) = true →
    ∃ a, pyNextM (fun part => (do pure ((← pyItem part 0) == prefixOf "PITCH") : Except PyErr Bool)) Ss = .ok [prefixOf "PITCH", a] ∧
      pyIntOfStr a = .ok p := by
  induction ps with
  | nil =>
    intro Ss hf _
    obtain ⟨_, rfl, a, rfl, ha⟩ := forall₂_single hf
    exact ⟨a, rfl, ha⟩
  | cons q ps ih =>
    intro Ss hf hq
    rw [List.all_cons, Bool.and_eq_true, Bool.not_eq_true'] at hq
    cases hf with
    | cons h hr =>
      obtain ⟨a, e, ha⟩ := ih _ hr hq.2
      refine ⟨a, ?_, ha⟩
      rw [pyNextM, partStrs_head q _ h]
      dsimp only [ok_bind]
      rw [hq.1]
      exact e

theorem getInfoLoop1_gen (o : TokObj) (impute : Bool) (str : String) (t : Tok) (s : InfoSt) (n d : Int) (hrep : TokRep str t)
    (hok : ∀ p ∈ t.parts, PartOk o.ppqn p) :
    getInfoLoop1 impute o s.prvPitch str (gI s n d) =
      .ok (ForInStep.yield (gI (infoStep (cfgOf o) genCof impute s t) (tsAfter t s.curTimeBar n d).1 (tsAfter t s.curTimeBar n d).2)) := by
  obtain ⟨Ss, hsort, hf⟩ := hrep
  unfold getInfoLoop1
  dsimp only [gI]
  rw [splitToken_eq]
  dsimp only [ok_bind]
  rw [sortKeyFn_eq, hsort]
  dsimp only [ok_bind]
  rw [mainParts_of_forall₂ _ _ hf]
  -- the main parts are computed (`dsimp`) before they are substituted into the body, so that the tests of the `if` chain
  -- and their `Decidable` instances show the same closed strings and `if_neg` / `if_pos` find them
  cases t with
  | bar =>
    dsimp only [Tok.parts, List.map, mainOf, ok_bind]
    rw [pyItem_cons_zero]
    dsimp only [ok_bind]
    rw [if_pos (by decide)]
    cases impute <;> simp [linkCof_eq, infoStep, tsAfter, pure, Except.pure, bind, Except.bind]
  | pad | sta | sto | trk v | val v | vel v =>
    dsimp only [Tok.parts, List.map, mainOf, ok_bind]
    rw [pyItem_cons_zero]
    dsimp only [ok_bind]
    repeat rw [if_neg (by decide)]
    cases impute <;> simp [linkCof_eq, infoStep, tsAfter, pure, Except.pure, bind, Except.bind]
  | rest v =>
    obtain ⟨_, rfl, a, rfl, ha⟩ := forall₂_single hf
    dsimp only [Tok.parts, List.map, mainOf, ok_bind]
    rw [pyItem_cons_zero]
    dsimp only [ok_bind]
    rw [if_neg (by decide), if_pos (by decide)]
    simp only [pyItem_cons_zero, pyItem_cons_one, ok_bind, ha]
    cases impute <;> simp [linkCof_eq, infoStep, tsAfter, pure, Except.pure, bind, Except.bind]
  | tsig a b =>
    obtain ⟨_, rfl, sa, sb, rfl, hsa, hsb⟩ := forall₂_single hf
    obtain ⟨ha, hb, hn⟩ := hok (.tsig a b) (by simp [Tok.parts])
    have hb0 : b ≠ 0 := by omega
    dsimp only [Tok.parts, List.map, mainOf, ok_bind]
    rw [pyItem_cons_zero]
    dsimp only [ok_bind]
    rw [if_neg (by decide), if_neg (by decide), if_neg (by decide), if_pos (by decide)]
    simp only [pyItem_cons_zero, pyItem_cons_one, pyItem_cons_two, ok_bind, hsa, hsb, pyTrueDiv_ok _ _ hb0,
      ratTrunc_capacity _ _ hb0 hn]
    by_cases hbar : s.curTimeBar > 0 <;> cases impute <;>
      simp [linkCof_eq, infoStep, tsAfter, hbar, cfgOf, Cfg.capacity, pure, Except.pure, bind, Except.bind]
  | note tr p v w =>
    obtain ⟨m, r, ps, hm, h1, h2, h3, hps, hall⟩ := note_main tr p v w
    rw [hps] at hf
    obtain ⟨a, hnext, ha⟩ := pyNextM_pitch p ps Ss hf hall
    rw [hm]
    dsimp only [ok_bind]
    rw [pyItem_cons_zero]
    dsimp only [ok_bind]
    rw [if_neg (by rw [h1]; decide), if_neg (by rw [h2]; decide), if_pos h3]
    simp only [hnext, ok_bind, pyItem_cons_one, ha, linkCof_eq]
    simp [infoStep, tsAfter, pure, Except.pure, bind, Except.bind]

theorem getInfo_fold (o : TokObj) (impute : Bool) (pp : Int) : ∀ (ss : List String) (ts : List Tok) (s : InfoSt) (n d : Int),
    List.Forall₂ TokRep ss ts → (∀ t ∈ ts, ∀ p ∈ t.parts, PartOk o.ppqn p) → s.prvPitch = pp →
    ∃ n' d', forIn ss (gI s n d) (fun x st => getInfoLoop1 impute o pp x st) =
      .ok (gI (ts.foldl (infoStep (cfgOf o) genCof impute) s) n' d')
  | _, _, s, n, d, .nil, _, _ => ⟨n, d, rfl⟩
  | _, t :: ts, s, n, d, .cons h hr, hok, hpp => by
    subst hpp
    simp only [List.forIn_cons, List.foldl_cons]
    rw [getInfoLoop1_gen o impute _ t s n d h (hok t (by simp))]
    exact getInfo_fold o impute _ _ ts _ _ _ hr (fun q hq => hok q (by simp [hq])) (infoStep_prvPitch _ _ _ _ _)

theorem getInfo_gen (o : TokObj) (ss : List String) (ts : List Tok) (impute : Bool) (hp : 0 ≤ o.ppqn)
    (hrep : List.Forall₂ TokRep ss ts) (hts : ∀ t ∈ ts, ∀ p ∈ t.parts, PartOk o.ppqn p) :
    Gen.Tok.getInfo o ss impute = .ok (unzipInfo (SCoda.getInfo (cfgOf o) genCof impute ts)) := by
  unfold Gen.Tok.getInfo
  have h8 : Gen.defaultTimeSignatureDenominator ≠ 0 := by decide +kernel
  have hn := defaultBar_nonneg hp
  simp only [pyTrueDiv_ok _ _ h8, ok_bind, ratTrunc_capacity _ _ h8 hn]
  -- `prv_pitch = 69` (notelike_tokenisation.py:367), the default of `InfoSt.prvPitch`
  obtain ⟨n', d', h⟩ := getInfo_fold o impute 69 ss ts
    { capTotal := (cfgOf o).capacity (cfgOf o).defNum (cfgOf o).defDen, capRem := (cfgOf o).capacity (cfgOf o).defNum (cfgOf o).defDen }
    Gen.defaultTimeSignatureNumerator Gen.defaultTimeSignatureDenominator hrep hts rfl
  exact (congrArg (· >>= _) h).trans rfl

end SCoda.TokTieL
