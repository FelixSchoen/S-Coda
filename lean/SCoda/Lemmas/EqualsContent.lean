/-
  What `equals` compares, said without the pairing code: the content of a sequence under the flags `f` is its notes
  (`notesC`, from `notesOf (sortAbs ·)`) and its time and key signatures in canonical order (`tsC`, `ksC`), each flag
  erasing its attribute.  What `equals` sees of a well-formed sequence (`EQ.seen`) is this content (`seen_content`: each
  reading of a finished pairing is read off its digest), so `equals = true` gives equal contents (`sound_content`).  Equal
  contents give `equals = true` through a normal form of the compared messages (`normM`, with the channel erased `normC`):
  the sorted normal forms are determined by the content (`normal_form_eq`), and `equals` sees only them (`seen_normM`,
  `seen_normC`, `complete_content`).  Last, for the statements with `=` in place of `Perm` and for other representations of one
  sequence: signatures that are a function of (channel, tick) (`TsFun`, `KsFun`) are equal lists once they are permutations
  (`tsC_eq_of_perm`); `equals` sees the compared messages only (`seen_congr`, with `toAbs_filter`, `eventsAbs_filter`); and
  a permutation of a sequence whose ties in the sort key agree on all that is compared (`TieAgree`) has the same sorted
  normal forms (`normal_form_of_perm`).
-/
import SCoda.Lemmas.Equals
import SCoda.Lemmas.RollNotes
namespace SCoda.NotesBL
open SCoda SCoda.NotesL

/-- a note as `equals` sees it under the flags: the channel flag erases the channel, the velocity flag
    the velocity -/
def eraseN (f : EqFlags) (n : Note) : Note :=
  { n with ch := if f.ignoreCh then 0 else n.ch, vel := if f.ignoreVel then 0 else n.vel }

def tsAttr (f : EqFlags) (m : Msg) : Int × Int × Int × Int := (if f.ignoreCh then 0 else m.ch, m.time, m.num, m.den)
def ksAttr (f : EqFlags) (m : Msg) : Int × Int × Int := (if f.ignoreCh then 0 else m.ch, m.time, m.key)

/-- the notes `equals` compares: the notes of the sorted list with the flagged attributes erased -/
def notesC (f : EqFlags) (a : List Msg) : List Note := (notesOf (sortAbs a)).map (eraseN f)
/-- the time signatures `equals` compares, (channel, tick, numerator, denominator) in canonical order -/
def tsC (f : EqFlags) (a : List Msg) : List (Int × Int × Int × Int) :=
  if f.ignoreTs then [] else ((sortAbs a).filter (fun m => m.ty == .timeSignature)).map (tsAttr f)
/-- the key signatures `equals` compares, (channel, tick, key) in canonical order -/
def ksC (f : EqFlags) (a : List Msg) : List (Int × Int × Int) :=
  if f.ignoreKs then [] else ((sortAbs a).filter (fun m => m.ty == .keySignature)).map (ksAttr f)

def tsValF (f : EqFlags) (m : Msg) : Option (Int × Int × Int × Int) :=
  if m.ty = .timeSignature then some (tsAttr f m) else none
def ksValF (f : EqFlags) (m : Msg) : Option (Int × Int × Int) :=
  if m.ty = .keySignature then some (ksAttr f m) else none

def noteRF (f : EqFlags) (p : Pairing) : Option Note := (toPair p).map (fun q => eraseN f (mkNote q))
def tsRF (f : EqFlags) (p : Pairing) : Option (Int × Int × Int × Int) := (toSingle p).bind (tsValF f)
def ksRF (f : EqFlags) (p : Pairing) : Option (Int × Int × Int) := (toSingle p).bind (ksValF f)

/-- the three readings of a finished pairing, taken off its digest -/
def readD : Int × MType × Int × Int × Int × Int →
    Option Note × Option (Int × Int × Int × Int) × Option (Int × Int × Int)
  | (c, .noteOn, t, n, dur, v) => (some { ch := c, pitch := n, on := t, off := t + dur, vel := v }, none, none)
  | (c, .timeSignature, t, num, den, _) => (none, some (c, t, num, den), none)
  | (c, .keySignature, t, k, _, _) => (none, none, some (c, t, k))
  | _ => (none, none, none)

theorem closed_digest (f : EqFlags) (la : List Msg) (x : Int × Pairing) (h : Closed la x.1 x.2) :
    (EQ.digest f x).map readD = some (noteRF f x.2, tsRF f x.2, ksRF f x.2) := by
  obtain ⟨c, p⟩ := x
  rcases h with ⟨on, off, rfl, a1, _, _, a4, _, _⟩ | ⟨m, rfl, a1, a2, a3, _⟩
  · simp only [EQ.digest, EQ.payload, a1, readD, noteRF, tsRF, ksRF, toPair, toSingle, mkNote, eraseN, a4, Option.map_some,
      Option.bind_none]
    rw [show on.time + (off.time - on.time) = off.time by omega]
  · simp only at a3
    cases hs : m.ty
    case noteOn => exact absurd hs a1
    case noteOff => exact absurd hs a2
    all_goals
      simp [EQ.digest, EQ.payload, readD, noteRF, tsRF, ksRF, toPair, toSingle, tsValF, ksValF, tsAttr, ksAttr, hs, a3]

theorem others_tsF (f : EqFlags) (l : List Msg) :
    (others (EQ.typesOf f) l).filterMap (tsValF f)
      = if f.ignoreTs then [] else (l.filter (·.ty == .timeSignature)).map (tsAttr f) :=
  (others_type (EQ.typesOf f) .timeSignature (by decide) (by decide) (tsAttr f) l).trans (by
    rw [EQ.typesOf_ts]; cases f.ignoreTs <;> rfl)

theorem others_ksF (f : EqFlags) (l : List Msg) :
    (others (EQ.typesOf f) l).filterMap (ksValF f)
      = if f.ignoreKs then [] else (l.filter (·.ty == .keySignature)).map (ksAttr f) :=
  (others_type (EQ.typesOf f) .keySignature (by decide) (by decide) (ksAttr f) l).trans (by
    rw [EQ.typesOf_ks]; cases f.ignoreKs <;> rfl)

theorem notesC_eq (f : EqFlags) (a : List Msg) :
    notesC f a = (pairsGo (sortAbs a) []).map (fun q => eraseN f (mkNote q)) := by
  simp [notesC, notesOf, notesGo_eq, List.map_map, Function.comp_def]

theorem seen_content (ppqn : Int) (f : EqFlags) (c : List Msg) (hc : WF (sortAbs c)) :
    ((EQ.seen ppqn f c).filterMap fun od => (od.map readD).bind (·.1)).Perm (notesC f c)
    ∧ ((EQ.seen ppqn f c).filterMap fun od => (od.map readD).bind (·.2.1)).Perm (tsC f c)
    ∧ ((EQ.seen ppqn f c).filterMap fun od => (od.map readD).bind (·.2.2)).Perm (ksC f c) := by
  obtain ⟨cc, nc, oc⟩ := interleaved_sim _ (EQ.typesOf_on f) (EQ.typesOf_off f) ppqn c hc
  have read : ∀ {β : Type} (π : Option Note × Option (Int × Int × Int × Int) × Option (Int × Int × Int) → Option β),
      (EQ.seen ppqn f c).filterMap (fun od => (od.map readD).bind π)
        = (interleaved (EQ.typesOf f) ppqn true c).filterMap (fun x => π (noteRF f x.2, tsRF f x.2, ksRF f x.2)) :=
    fun π => (EQ.filterMap_seen ppqn f c _ _ fun x hx => by rw [closed_digest f _ x (cc x hx)]; rfl).symm
  refine ⟨?_, ?_, ?_⟩
  · rw [read, notesC_eq]
    exact nc _
  · have := oc (tsValF f)
    rw [others_tsF] at this
    rw [read]
    exact this
  · have := oc (ksValF f)
    rw [others_ksF] at this
    rw [read]
    exact this

theorem sound_content (ppqn : Int) (f : EqFlags) (a b : List Msg) (ha : WF (sortAbs a)) (hb : WF (sortAbs b))
    (h : equalsAbs ppqn f a b = true) :
    (notesC f a).Perm (notesC f b) ∧ (tsC f a).Perm (tsC f b) ∧ (ksC f a).Perm (ksC f b) := by
  obtain ⟨a1, a2, a3⟩ := seen_content ppqn f a ha
  obtain ⟨b1, b2, b3⟩ := seen_content ppqn f b hb
  rw [(EQ.equalsAbs_iff ppqn f a b).1 h] at a1 a2 a3
  exact ⟨a1.symm.trans b1, a2.symm.trans b2, a3.symm.trans b3⟩

/-- a compared message with everything `equals` does not look at erased -/
def normM (f : EqFlags) (m : Msg) : Msg :=
  match m.ty with
  | .noteOn => { ty := .noteOn, ch := m.ch, time := m.time, note := m.note, vel := if f.ignoreVel then 0 else m.vel }
  | .noteOff => { ty := .noteOff, ch := m.ch, time := m.time, note := m.note }
  | .timeSignature => { ty := .timeSignature, ch := m.ch, time := m.time, note := m.note, num := m.num, den := m.den }
  | .keySignature => { ty := .keySignature, ch := m.ch, time := m.time, note := m.note, key := m.key }
  | _ => m

theorem normM_ty (f : EqFlags) (m : Msg) : (normM f m).ty = m.ty := by unfold normM; split <;> simp_all
theorem normM_ch (f : EqFlags) (m : Msg) : (normM f m).ch = m.ch := by unfold normM; split <;> rfl
theorem normM_time (f : EqFlags) (m : Msg) : (normM f m).time = m.time := by unfold normM; split <;> rfl
theorem normM_note (f : EqFlags) (m : Msg) : (normM f m).note = m.note := by unfold normM; split <;> rfl
theorem normM_vel (f : EqFlags) (m : Msg) (h : m.ty = .noteOn) (hv : f.ignoreVel = false) :
    (normM f m).vel = m.vel := by simp [normM, h, hv]
theorem normM_num (f : EqFlags) (m : Msg) (h : m.ty = .timeSignature) : (normM f m).num = m.num := by simp [normM, h]
theorem normM_den (f : EqFlags) (m : Msg) (h : m.ty = .timeSignature) : (normM f m).den = m.den := by simp [normM, h]
theorem normM_key (f : EqFlags) (m : Msg) (h : m.ty = .keySignature) : (normM f m).key = m.key := by simp [normM, h]

theorem relab_normM (f : EqFlags) : EQ.Relab (normM f) id where
  ty := normM_ty f
  ch := normM_ch f
  time := normM_time f
  note := normM_note f
  off := by intro c n t; rfl
  inj := fun _ _ h => h

theorem keyLe_normM (f : EqFlags) (x y : Msg) : keyLe (normM f x) (normM f y) = keyLe x y := by
  apply EQ.keyLe_congr <;> simp only [normM_time, normM_ch, normM_ty, normM_note]

theorem sortAbs_normM (f : EqFlags) (a : List Msg) : sortAbs (a.map (normM f)) = (sortAbs a).map (normM f) := by
  apply EQ.isort_map
  intro x _ y _
  exact keyLe_normM f x y

theorem digest_normM (f : EqFlags) (x : Int × Pairing) :
    EQ.digest f (EQ.mapOut (normM f) id x) = EQ.digest f x :=
  EQ.digest_map (relab_normM f) f f (fun _ => rfl)
    (fun m hm => by
      cases hv : f.ignoreVel
      · rw [normM_vel f m hm hv]
      · rfl)
    (fun m hm => ⟨normM_num f m hm, normM_den f m hm⟩) (fun m hm => normM_key f m hm) x

/-- signature messages carry no pitch (true of every `Message` built by the library) -/
def SigPlain (a : List Msg) : Prop :=
  ∀ m ∈ a, (m.ty = .timeSignature ∨ m.ty = .keySignature) → m.note = pyNone

instance (a : List Msg) : Decidable (SigPlain a) := by unfold SigPlain; infer_instance

def onMsgN (n : Note) : Msg := { ty := .noteOn, ch := n.ch, time := n.on, note := n.pitch, vel := n.vel }
def offMsgN (n : Note) : Msg := { ty := .noteOff, ch := n.ch, time := n.off, note := n.pitch }
def tsMsgA (x : Int × Int × Int × Int) : Msg := { ty := .timeSignature, ch := x.1, time := x.2.1, num := x.2.2.1, den := x.2.2.2 }
def ksMsgA (x : Int × Int × Int) : Msg := { ty := .keySignature, ch := x.1, time := x.2.1, key := x.2.2 }

def normC (f : EqFlags) (m : Msg) : Msg := if f.ignoreCh then { normM f m with ch := 0 } else normM f m

theorem normC_ty (f : EqFlags) (m : Msg) : (normC f m).ty = m.ty := by
  unfold normC; split <;> simp [normM_ty]

theorem normC_of_false (f : EqFlags) (hf : f.ignoreCh = false) : normC f = normM f := by
  funext m; simp [normC, hf]

/-- the compared messages of `a` (those `equals` looks at under the flags) -/
def cmpOf (f : EqFlags) (m : Msg) : Bool := (EQ.typesOf f).contains m.ty

theorem sorted_map (f : EqFlags) (g : Msg → Msg) (c : List Msg)
    (h : ∀ x ∈ (sortAbs c).filter (cmpOf f), ∀ y ∈ (sortAbs c).filter (cmpOf f), keyLe (g x) (g y) = keyLe x y) :
    (((sortAbs c).filter (cmpOf f)).map g).Pairwise EQ.KLe := by
  rw [List.pairwise_map]
  refine ((sortAbs_sorted c).filter _).imp_of_mem fun hx hy hxy => ?_
  simp only [EQ.KLe, h _ hx _ hy]
  exact hxy

/-- erasing does not disturb the canonical order of the list -/
def KeyPres (f : EqFlags) (l : List Msg) : Prop :=
  ∀ x ∈ l, ∀ y ∈ l, keyLe (normC f x) (normC f y) = keyLe x y

/-- under the channel flag the compared messages of `c` sit on one channel -/
def OneCh (f : EqFlags) (c : List Msg) : Prop := f.ignoreCh = true → ∃ d, ∀ m ∈ c, cmpOf f m = true → m.ch = d

theorem keyPres_of (f : EqFlags) (c : List Msg) (h : OneCh f c) :
    KeyPres f (c.filter (cmpOf f)) := by
  intro x hx y hy
  unfold normC
  split
  · rename_i hf
    obtain ⟨d, hd⟩ := h hf
    have ex := hd x (List.mem_filter.1 hx).1 (List.mem_filter.1 hx).2
    have ey := hd y (List.mem_filter.1 hy).1 (List.mem_filter.1 hy).2
    apply EQ.keyLe_congr <;> simp [normM_time, normM_ty, normM_note, ex, ey]
  · exact keyLe_normM f x y

/-- the normal forms of the messages of type `σ` are the `g`-images of the compared notes, when the notes are read off
    those messages by `attrN = attrM` (`notes_ons`, `notes_offs`) and `g` rebuilds the normal form from a note -/
theorem mem_note_events {α} {σ : MType} (f : EqFlags) (attrN : Note → α) (attrM : Msg → α) (g : Note → Msg)
    (read : ∀ x, WF x → ∀ v, v ∈ (notesOf x).map attrN ↔ ∃ m ∈ x, m.ty = σ ∧ attrM m = v)
    (hg : ∀ m n, m.ty = σ → attrN n = attrM m → g (eraseN f n) = normC f m)
    (a : List Msg) (ha : WF (sortAbs a)) (z : Msg) :
    z ∈ ((sortAbs a).filter (fun m => m.ty == σ)).map (normC f) ↔ ∃ n ∈ notesC f a, g n = z := by
  constructor
  · intro h
    obtain ⟨m, hm, rfl⟩ := List.mem_map.1 h
    obtain ⟨hm1, hm2⟩ := List.mem_filter.1 hm
    have hty : m.ty = σ := by simpa using hm2
    obtain ⟨n, hn, he⟩ := List.mem_map.1 ((read _ ha _).2 ⟨m, hm1, hty, rfl⟩)
    exact ⟨eraseN f n, List.mem_map.2 ⟨n, hn, rfl⟩, hg m n hty he⟩
  · rintro ⟨n', hn', rfl⟩
    obtain ⟨n, hn, rfl⟩ := List.mem_map.1 hn'
    obtain ⟨m, hm, hty, he⟩ := (read _ ha _).1 (List.mem_map.2 ⟨n, hn, rfl⟩)
    exact List.mem_map.2 ⟨m, List.mem_filter.2 ⟨hm, by simp [hty]⟩, (hg m n hty he.symm).symm⟩

theorem onMsgN_eraseN (f : EqFlags) (m : Msg) (n : Note) (hty : m.ty = .noteOn)
    (he : onAttr n = (m.ch, m.note, m.time, m.vel)) : onMsgN (eraseN f n) = normC f m := by
  simp only [onAttr, Prod.mk.injEq] at he
  cases hf : f.ignoreCh <;> simp [normC, onMsgN, eraseN, normM, hty, hf, he.1, he.2.1, he.2.2.1, he.2.2.2]

theorem offMsgN_eraseN (f : EqFlags) (m : Msg) (n : Note) (hty : m.ty = .noteOff)
    (he : offAttr n = (m.ch, m.note, m.time)) : offMsgN (eraseN f n) = normC f m := by
  simp only [offAttr, Prod.mk.injEq] at he
  cases hf : f.ignoreCh <;> simp [normC, offMsgN, eraseN, normM, hty, hf, he.1, he.2.1, he.2.2]

theorem strict_map_normC (f : EqFlags) {l : List Msg} (kp : KeyPres f l)
    (h : l.Pairwise (fun x y => EQ.KLe x y ∧ ¬ EQ.KLe y x)) :
    (l.map (normC f)).Pairwise (fun x y => EQ.KLe x y ∧ ¬ EQ.KLe y x) := by
  rw [List.pairwise_map]
  refine h.imp_of_mem ?_
  intro x y hx hy hxy
  simp only [EQ.KLe, kp x hx y hy, kp y hy x hx]
  exact hxy

theorem keyPres_sub (f : EqFlags) {l l' : List Msg} (h : ∀ m ∈ l', m ∈ l) (kp : KeyPres f l) : KeyPres f l' :=
  fun x hx y hy => kp x (h x hx) y (h y hy)

theorem note_events_eq {σ : MType} (f : EqFlags) (a b : List Msg) (ha : WF (sortAbs a)) (hb : WF (sortAbs b))
    (ka : KeyPres f ((sortAbs a).filter (fun m => m.ty == σ))) (kb : KeyPres f ((sortAbs b).filter (fun m => m.ty == σ)))
    (hn : (notesC f a).Perm (notesC f b)) (hσ : σ = .noteOn ∨ σ = .noteOff) (g : Note → Msg)
    (mem : ∀ c, WF (sortAbs c) → ∀ z,
      z ∈ ((sortAbs c).filter (fun m => m.ty == σ)).map (normC f) ↔ ∃ n ∈ notesC f c, g n = z) :
    ((sortAbs a).filter (fun m => m.ty == σ)).map (normC f)
      = ((sortAbs b).filter (fun m => m.ty == σ)).map (normC f) := by
  apply EQ.eq_of_strict_sorted
  · exact strict_map_normC f ka (notes_strict _ ha (sortAbs_sorted a) _ hσ)
  · exact strict_map_normC f kb (notes_strict _ hb (sortAbs_sorted b) _ hσ)
  · intro z
    rw [mem a ha, mem b hb]
    exact ⟨fun ⟨n, hn', e⟩ => ⟨n, hn.mem_iff.1 hn', e⟩, fun ⟨n, hn', e⟩ => ⟨n, hn.mem_iff.2 hn', e⟩⟩

theorem tsC_normC (f : EqFlags) (hi : f.ignoreTs = false) (c : List Msg) (pc : SigPlain c) :
    ((sortAbs c).filter (fun m => m.ty == .timeSignature)).map (normC f) = (tsC f c).map tsMsgA := by
  simp only [tsC, hi, Bool.false_eq_true, if_false, List.map_map]
  apply List.map_congr_left
  intro m hm
  obtain ⟨hm1, hm2⟩ := List.mem_filter.1 hm
  have hty : m.ty = .timeSignature := by simpa using hm2
  have hnote := pc m ((mem_sortAbs c m).1 hm1) (Or.inl hty)
  simp only [Function.comp, normC, normM, tsMsgA, tsAttr]
  rw [hty, hnote]
  cases f.ignoreCh <;> rfl

theorem ksC_normC (f : EqFlags) (hi : f.ignoreKs = false) (c : List Msg) (pc : SigPlain c) :
    ((sortAbs c).filter (fun m => m.ty == .keySignature)).map (normC f) = (ksC f c).map ksMsgA := by
  simp only [ksC, hi, Bool.false_eq_true, if_false, List.map_map]
  apply List.map_congr_left
  intro m hm
  obtain ⟨hm1, hm2⟩ := List.mem_filter.1 hm
  have hty : m.ty = .keySignature := by simpa using hm2
  have hnote := pc m ((mem_sortAbs c m).1 hm1) (Or.inr hty)
  simp only [Function.comp, normC, normM, ksMsgA, ksAttr]
  rw [hty, hnote]
  cases f.ignoreCh <;> rfl

theorem normal_form_eq (f : EqFlags) (a b : List Msg)
    (ha : WF (sortAbs a)) (hb : WF (sortAbs b)) (pa : SigPlain a) (pb : SigPlain b)
    (ka : KeyPres f ((sortAbs a).filter (cmpOf f))) (kb : KeyPres f ((sortAbs b).filter (cmpOf f)))
    (hn : (notesC f a).Perm (notesC f b)) (hts : tsC f a = tsC f b) (hks : ksC f a = ksC f b) :
    ((sortAbs a).filter (cmpOf f)).map (normC f) = ((sortAbs b).filter (cmpOf f)).map (normC f) := by
  apply EQ.eq_of_sorted_types _ _ (sorted_map f _ a ka) (sorted_map f _ b kb)
  intro τ
  have e : ∀ c : List Msg, (((sortAbs c).filter (cmpOf f)).map (normC f)).filter (fun m => m.ty == τ)
      = if (EQ.typesOf f).contains τ then ((sortAbs c).filter (fun m => m.ty == τ)).map (normC f) else [] := by
    intro c
    rw [List.filter_map]
    have : ((fun m : Msg => m.ty == τ) ∘ normC f) = (fun m : Msg => m.ty == τ) := by
      funext m; simp [normC_ty]
    rw [this]
    rw [filter_type_of (cmpOf f) τ ((EQ.typesOf f).contains τ) fun m hm => by rw [cmpOf, hm]]
    split <;> rfl
  rw [e a, e b]
  split
  · rename_i hτ
    have sub : ∀ c : List Msg, ∀ m ∈ (sortAbs c).filter (fun m => m.ty == τ), m ∈ (sortAbs c).filter (cmpOf f) := by
      intro c m hm
      obtain ⟨h1, h2⟩ := List.mem_filter.1 hm
      have : m.ty = τ := by simpa using h2
      exact List.mem_filter.2 ⟨h1, by simp only [cmpOf, this, hτ]⟩
    have hmem := EQ.typesOf_subset f τ (List.contains_iff_mem.1 hτ)
    simp only [List.mem_cons, List.not_mem_nil, or_false] at hmem
    rcases hmem with rfl | rfl | rfl | rfl
    · exact note_events_eq f a b ha hb (keyPres_sub f (sub a) ka) (keyPres_sub f (sub b) kb) hn (Or.inl rfl)
        onMsgN (mem_note_events f onAttr _ onMsgN notes_ons (onMsgN_eraseN f))
    · exact note_events_eq f a b ha hb (keyPres_sub f (sub a) ka) (keyPres_sub f (sub b) kb) hn (Or.inr rfl)
        offMsgN (mem_note_events f offAttr _ offMsgN notes_offs (offMsgN_eraseN f))
    · have hi : f.ignoreTs = false := by rw [EQ.typesOf_ts] at hτ; simpa using hτ
      rw [tsC_normC f hi a pa, tsC_normC f hi b pb, hts]
    · have hi : f.ignoreKs = false := by rw [EQ.typesOf_ks] at hτ; simpa using hτ
      rw [ksC_normC f hi a pa, ksC_normC f hi b pb, hks]
  · rfl

theorem seen_normM (ppqn : Int) (f : EqFlags) (c : List Msg) :
    EQ.seen ppqn f c = EQ.seen ppqn f ((c.filter (cmpOf f)).map (normM f)) :=
  (EQ.seen_restrict ppqn f c).trans (EQ.seen_map (relab_normM f) ppqn f f rfl (digest_normM f) _ (sortAbs_normM f _)).symm

theorem equals_of_normal_form (ppqn : Int) (f : EqFlags) (a b : List Msg)
    (key : ((sortAbs a).filter (cmpOf f)).map (normM f) = ((sortAbs b).filter (cmpOf f)).map (normM f)) :
    equalsAbs ppqn f a b = true := by
  rw [EQ.equalsAbs_iff, seen_normM ppqn f a, seen_normM ppqn f b]
  apply EQ.seen_of_sort_eq
  rw [sortAbs_normM, sortAbs_normM, ← filter_sortAbs, ← filter_sortAbs]
  exact key

theorem seen_normC (ppqn : Int) (f : EqFlags) (c : List Msg) (h : OneCh f c) :
    EQ.seen ppqn f c = EQ.seen ppqn f ((c.filter (cmpOf f)).map (normC f)) := by
  rw [seen_normM ppqn f c]
  cases hf : f.ignoreCh
  · rw [normC_of_false f hf]
  · obtain ⟨d, hd⟩ := h hf
    have h1 : ∀ m ∈ (c.filter (cmpOf f)).map (normM f), m.ch = d := by
      intro m hm
      obtain ⟨m0, hm0, rfl⟩ := List.mem_map.1 hm
      rw [normM_ch]
      exact hd m0 (List.mem_filter.1 hm0).1 (List.mem_filter.1 hm0).2
    rw [← EQ.seen_gCh ppqn f hf d 0 _ h1, List.map_map]
    refine congrArg _ (List.map_congr_left fun m hm => ?_)
    simp only [Function.comp, normC, hf, if_true]
    exact EQ.gCh_eq d 0 _ (h1 _ (List.mem_map_of_mem hm))

theorem complete_content (ppqn : Int) (f : EqFlags) (a b : List Msg)
    (ha : WF (sortAbs a)) (hb : WF (sortAbs b)) (pa : SigPlain a) (pb : SigPlain b)
    (oa : OneCh f a) (ob : OneCh f b)
    (hn : (notesC f a).Perm (notesC f b)) (hts : tsC f a = tsC f b) (hks : ksC f a = ksC f b) :
    equalsAbs ppqn f a b = true := by
  have ka := keyPres_of f a oa
  have kb := keyPres_of f b ob
  have sub : ∀ c : List Msg, ∀ m ∈ (sortAbs c).filter (cmpOf f), m ∈ c.filter (cmpOf f) := fun c m hm =>
    List.mem_filter.2 ⟨(mem_sortAbs c m).1 (List.mem_filter.1 hm).1, (List.mem_filter.1 hm).2⟩
  rw [EQ.equalsAbs_iff, seen_normC ppqn f a oa, seen_normC ppqn f b ob]
  apply EQ.seen_of_sort_eq
  rw [show sortAbs ((a.filter (cmpOf f)).map (normC f)) = _ from EQ.isort_map keyLe (normC f) _ ka,
    show sortAbs ((b.filter (cmpOf f)).map (normC f)) = _ from EQ.isort_map keyLe (normC f) _ kb]
  show (sortAbs _).map _ = (sortAbs _).map _
  rw [← filter_sortAbs, ← filter_sortAbs]
  exact normal_form_eq f a b ha hb pa pb (keyPres_sub f (sub a) ka) (keyPres_sub f (sub b) kb) hn hts hks

/-- no two different time signatures share (channel, tick) — with the channel erased under the channel flag -/
def TsFun (f : EqFlags) (a : List Msg) : Prop :=
  ∀ x ∈ tsC f a, ∀ y ∈ tsC f a, x.1 = y.1 → x.2.1 = y.2.1 → x = y
/-- no two different key signatures share (channel, tick) -/
def KsFun (f : EqFlags) (a : List Msg) : Prop :=
  ∀ x ∈ ksC f a, ∀ y ∈ ksC f a, x.1 = y.1 → x.2.1 = y.2.1 → x = y

instance (f : EqFlags) (a : List Msg) : Decidable (TsFun f a) := by unfold TsFun; infer_instance
instance (f : EqFlags) (a : List Msg) : Decidable (KsFun f a) := by unfold KsFun; infer_instance

theorem sig_sorted {γ} (f : EqFlags) (val : Msg → γ) (p : Msg → Bool) (a : List Msg) :
    (((sortAbs a).filter p).map (fun m => (if f.ignoreCh then 0 else m.ch, m.time, val m))).Pairwise
      (fun x y => x.2.1 < y.2.1 ∨ (x.2.1 = y.2.1 ∧ x.1 ≤ y.1)) := by
  rw [List.pairwise_map]
  refine ((sortAbs_sorted a).filter _).imp ?_
  intro x y hxy
  have := (EQ.keyLe_iff x y).1 hxy
  simp only
  split <;> omega

theorem sig_eq_of_perm {γ} {l l' : List (Int × Int × γ)}
    (hs : l.Pairwise (fun x y => x.2.1 < y.2.1 ∨ (x.2.1 = y.2.1 ∧ x.1 ≤ y.1)))
    (hs' : l'.Pairwise (fun x y => x.2.1 < y.2.1 ∨ (x.2.1 = y.2.1 ∧ x.1 ≤ y.1)))
    (hf : ∀ x ∈ l, ∀ y ∈ l, x.1 = y.1 → x.2.1 = y.2.1 → x = y) (h : l.Perm l') : l = l' := by
  apply List.Perm.eq_of_pairwise _ hs hs' h
  intro x y hx hy h1 h2
  exact hf x hx y (h.mem_iff.2 hy) (by omega) (by omega)

theorem tsC_sorted (f : EqFlags) (a : List Msg) :
    (tsC f a).Pairwise (fun x y => x.2.1 < y.2.1 ∨ (x.2.1 = y.2.1 ∧ x.1 ≤ y.1)) := by
  unfold tsC
  split
  · exact List.Pairwise.nil
  · exact sig_sorted f (fun m => (m.num, m.den)) _ a

theorem ksC_sorted (f : EqFlags) (a : List Msg) :
    (ksC f a).Pairwise (fun x y => x.2.1 < y.2.1 ∨ (x.2.1 = y.2.1 ∧ x.1 ≤ y.1)) := by
  unfold ksC
  split
  · exact List.Pairwise.nil
  · exact sig_sorted f (·.key) _ a

theorem tsC_eq_of_perm (f : EqFlags) (a b : List Msg) (ha : TsFun f a) (h : (tsC f a).Perm (tsC f b)) :
    tsC f a = tsC f b :=
  sig_eq_of_perm (tsC_sorted f a) (tsC_sorted f b) ha h

theorem ksC_eq_of_perm (f : EqFlags) (a b : List Msg) (ha : KsFun f a) (h : (ksC f a).Perm (ksC f b)) :
    ksC f a = ksC f b :=
  sig_eq_of_perm (ksC_sorted f a) (ksC_sorted f b) ha h

theorem cmpOf_internal (f : EqFlags) (m : Msg) (h : m.ty = .internal) : cmpOf f m = false := by
  simp only [cmpOf, EQ.contains_typesOf, h]
  simp

theorem seen_congr (ppqn : Int) (f : EqFlags) {x y : List Msg}
    (h : sortAbs (x.filter (cmpOf f)) = sortAbs (y.filter (cmpOf f))) : EQ.seen ppqn f x = EQ.seen ppqn f y :=
  (EQ.seen_restrict ppqn f x).trans ((EQ.seen_of_sort_eq ppqn f h).trans (EQ.seen_restrict ppqn f y).symm)

theorem toAbs_filter (f : EqFlags) (r : List Msg) :
    sortAbs ((toAbs r).filter (cmpOf f)) = sortAbs ((eventsRel r).filter (cmpOf f)) := by
  have h : (toAbs r).filter (cmpOf f) = (sortAbs (eventsRel r)).filter (cmpOf f) := by
    rw [toAbs_eq]
    split
    · rfl
    · exact filter_insort _ _ _ (cmpOf_internal f _ rfl)
  rw [h, filter_sortAbs, sortAbs_idem]

theorem eventsAbs_filter (f : EqFlags) (a : List Msg) : (eventsAbs a).filter (cmpOf f) = a.filter (cmpOf f) := by
  simp only [eventsAbs, List.filter_filter]
  congr 1; funext m
  by_cases h : m.ty = .internal
  · simp [cmpOf_internal f m h]
  · simp [h]

/-- compared messages that tie in the sort key agree on everything `equals` looks at -/
def TieAgree (f : EqFlags) (a : List Msg) : Prop :=
  ∀ m ∈ a, ∀ m' ∈ a, cmpOf f m = true → cmpOf f m' = true → EQ.key4 m = EQ.key4 m' → normM f m = normM f m'

instance (f : EqFlags) (a : List Msg) : Decidable (TieAgree f a) := by unfold TieAgree; infer_instance

theorem key4_normM (f : EqFlags) (m : Msg) : EQ.key4 (normM f m) = EQ.key4 m := by
  simp [EQ.key4, normM_time, normM_ch, normM_ty, normM_note]

theorem normal_form_of_perm (f : EqFlags) (a a' : List Msg) (hp : a.Perm a') (ht : TieAgree f a) :
    ((sortAbs a).filter (cmpOf f)).map (normM f) = ((sortAbs a').filter (cmpOf f)).map (normM f) := by
  have srt : ∀ c : List Msg, (((sortAbs c).filter (cmpOf f)).map (normM f)).Pairwise EQ.KLe := fun c =>
    sorted_map f _ c fun x _ y _ => keyLe_normM f x y
  have hperm : (((sortAbs a).filter (cmpOf f)).map (normM f)).Perm (((sortAbs a').filter (cmpOf f)).map (normM f)) :=
    ((((sortAbs_perm a).trans hp).trans (sortAbs_perm a').symm).filter _).map _
  apply List.Perm.eq_of_pairwise _ (srt a) (srt a') hperm
  intro x y hx hy h1 h2
  have hy' := hperm.mem_iff.2 hy
  obtain ⟨m, hm, rfl⟩ := List.mem_map.1 hx
  obtain ⟨m', hm', rfl⟩ := List.mem_map.1 hy'
  obtain ⟨g1, g2⟩ := List.mem_filter.1 hm
  obtain ⟨g1', g2'⟩ := List.mem_filter.1 hm'
  have hk := keyLe_antisymm h1 h2
  have hk4 : EQ.key4 m = EQ.key4 m' := by
    rw [← key4_normM f m, ← key4_normM f m']
    simp [EQ.key4, hk.1, hk.2.1, hk.2.2.1, hk.2.2.2]
  exact ht m ((mem_sortAbs a m).1 g1) m' ((mem_sortAbs a m').1 g1') g2 g2' hk4

end SCoda.NotesBL
