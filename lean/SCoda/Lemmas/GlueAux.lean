/-
  Stage-by-stage facts about the glue `extract`: where the messages of `toAbs`, `toRel`,
  `normalise` come from (channel and time-signature provenance) and that `toAbs ∘ normalise`
  only produces non-negative ticks.
-/
import SCoda.Lemmas.Normalise
import SCoda.Model.Extract
namespace SCoda.GlueAux
open SCoda

/-- `x` is a copy of `m` as far as time signatures are concerned -/
def TsFrom (m x : Msg) : Prop :=
  x.ty = .timeSignature → m.ty = .timeSignature ∧ m.num = x.num ∧ m.den = x.den

/-- `x` stems from a message of `l`: same channel, and a time signature is a copied one -/
def Src (l : List Msg) (x : Msg) : Prop := ∃ m ∈ l, x.ch = m.ch ∧ TsFrom m x

theorem TsFrom.refl (m : Msg) : TsFrom m m := fun h => ⟨h, rfl, rfl⟩

theorem TsFrom.trans {a b c : Msg} (h1 : TsFrom a b) (h2 : TsFrom b c) : TsFrom a c := by
  intro h
  obtain ⟨hb, hn, hd⟩ := h2 h
  obtain ⟨ha, hn', hd'⟩ := h1 hb
  exact ⟨ha, hn'.trans hn, hd'.trans hd⟩

theorem Src.of_mem {l : List Msg} {x : Msg} (h : x ∈ l) : Src l x := ⟨x, h, rfl, TsFrom.refl x⟩

theorem Src.trans {l1 l2 : List Msg} {y : Msg} (h : ∀ x ∈ l2, Src l1 x) (hy : Src l2 y) :
    Src l1 y := by
  obtain ⟨x, hx, hc, ht⟩ := hy
  obtain ⟨m, hm, hc', ht'⟩ := h x hx
  exact ⟨m, hm, hc.trans hc', ht'.trans ht⟩

theorem foldl_toAbsStep_defCh (r : List Msg) : ∀ (s : ToAbsSt),
    (r.foldl toAbsStep s).defCh =
      match s.defCh with | some c => some c | none => r.head?.map (·.ch) := by
  induction r with
  | nil => intro s; cases h : s.defCh <;> simp [h]
  | cons m ms ih =>
    intro s
    rw [List.foldl_cons, ih]
    by_cases hw : m.ty = .wait <;> cases h : s.defCh <;> simp [toAbsStep, hw, h]

theorem toAbs_mem (r : List Msg) : ∀ x ∈ toAbs r,
    (∃ m ∈ r, m.ty ≠ .wait ∧ ∃ t, x = { m with time := t }) ∨
    (∃ m ∈ r, ∃ t, x = Msg.mkInternal m.ch t) := by
  intro x hx
  rcases mem_toAbs.1 hx with h | ⟨hcap, rfl⟩
  · exact Or.inl (eventsRelGo_src r 0 x h)
  · right
    cases r with
    | nil => simp at hcap
    | cons a t =>
      refine ⟨a, by simp, totalWait (a :: t), ?_⟩
      rw [foldl_toAbsStep_defCh]
      simp

theorem toAbs_src (r : List Msg) : ∀ x ∈ toAbs r, Src r x := by
  intro x hx
  rcases toAbs_mem r x hx with ⟨m, hm, _, t, rfl⟩ | ⟨m, hm, t, rfl⟩
  · exact ⟨m, hm, rfl, fun h => ⟨h, rfl, rfl⟩⟩
  · exact ⟨m, hm, rfl, fun h => by simp [Msg.mkInternal] at h⟩

theorem toRelGo_src (l : List Msg) (cur : Int) : ∀ x ∈ toRelGo cur l, Src l x := by
  intro x hx
  rcases mem_toRelGo l cur x hx with ⟨m, hm, t, rfl⟩ | ⟨m, hm, rfl⟩
  · exact ⟨m, hm, rfl, fun h => by simp [Msg.mkWait] at h⟩
  · exact ⟨m, hm, rfl, fun h => ⟨h, rfl, rfl⟩⟩

theorem toRel_src (a : List Msg) : ∀ x ∈ toRel a, Src a x := toRelGo_src a 0

theorem normalise_src (r : List Msg) : ∀ x ∈ normalise r, Src r x := by
  intro x hx
  rcases normalise_mem r x hx with ⟨h, _⟩ | ⟨m, hm, t, _, rfl⟩
  · exact Src.of_mem h
  · exact ⟨m, hm, rfl, fun h => by simp [Msg.mkWait] at h⟩

/-- the absolute list `extract` reads its pairings from -/
def final (tracks : List (List Msg)) : List Msg :=
  toAbs (normalise (toRel (mergeAbs []
    (tracks.zipIdx.map (fun (r, i) => toAbs (setChannel (i : Int) r))))))

theorem extract_eq (ppqn : Int) (tracks : List (List Msg)) :
    extract ppqn tracks = interleaved extractTypes ppqn true (final tracks) := rfl

theorem final_nonneg (tracks : List (List Msg)) : ∀ x ∈ final tracks, 0 ≤ x.time :=
  fun x hx => (toAbs_bounds _ (normalise_nonNegWaits _) x hx).1

theorem final_src (tracks : List (List Msg)) : ∀ x ∈ final tracks,
    ∃ (i : Nat), i < tracks.length ∧ x.ch = (i : Int) ∧
      ∃ t ∈ tracks, ∃ m ∈ t, TsFrom m x := by
  intro x hx
  have h1 : Src _ x := Src.trans (toRel_src _) (Src.trans (normalise_src _) (toAbs_src _ x hx))
  obtain ⟨y, hy, hc, ht⟩ := h1
  simp only [mergeAbs, List.nil_append] at hy
  rw [mem_sortAbs] at hy
  simp only [List.mem_flatten, List.mem_map] at hy
  obtain ⟨l, ⟨⟨r, i⟩, hri, rfl⟩, hyl⟩ := hy
  obtain ⟨z, hz, hc', ht'⟩ := toAbs_src _ y hyl
  simp only [setChannel, List.mem_map] at hz
  obtain ⟨m, hm, rfl⟩ := hz
  have hi := List.mem_zipIdx_iff_getElem?.1 hri
  have hlt : i < tracks.length := by
    rcases Nat.lt_or_ge i tracks.length with h | h
    · exact h
    · simp [List.getElem?_eq_none h] at hi
  refine ⟨i, hlt, by rw [hc, hc'], r, List.mem_of_getElem? hi, m, hm, ?_⟩
  exact TsFrom.trans (fun h => ⟨h, rfl, rfl⟩) (ht'.trans ht)

end SCoda.GlueAux
