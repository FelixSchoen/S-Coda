/-
  The dictionary of `MultiTrackLargeVocabularyNotelikeTokeniser`: the generated `_construct_dictionary`, `__init__`, `encode` and
  `decode` (Gen/TokFns.lean, by tools/py2lean_tok.py) against the construction sequence `vocabSeq` and the id maps `encodeTok` /
  `decodeId` of Model/Token.lean, rendered (Model/Render.lean).

  In `_construct_dictionary` every loop "pushes" a key (`dictionary[key] = dictionary_size; size += 1`), so the method has a closed
  form for every object (`constructDictionary_struct`) whose keys are the rendered tokens (`tailStrings_eq`).
  The stores are `d[key_i] = i` in sequence (`setAll`); a later duplicate overwrites the id of an earlier one, so the dictionary
  holds, for each key, its LAST index (`get?_setAll`; `lastIdxGo` of Model/Token.lean, through `render`, injective on all tokens),
  and the inverse dictionary `{v: k for k, v in d.items()}` holds exactly the ids that survived: `inverse[i] = k` iff `i` is the
  last index of `k` (`inverse_setAll`; both for any list of keys).  On the rendered construction sequence that is `encodeTok` /
  `decodeId` of the hand model (`dict_get`, `inverse_get`), WITHOUT the hypothesis that the sequence is duplicate free.
-/
import SCoda.Lemmas.TokLibL
import SCoda.Lemmas.AssocL
import SCoda.Lemmas.RenderInjL
set_option linter.unusedSimpArgs false
namespace SCoda.TokTieL
open SCoda SCoda.TokLib SCoda.Gen.Tok SCoda.RenderL

/-- `self.dictionary[k] = self.dictionary_size; self._dictionary_size += 1` -/
def push (o : TokObj) (k : String) : TokObj :=
  { o with dictionary := pyDictSet o.dictionary k o.dictionarySize_, dictionarySize_ := o.dictionarySize_ + 1 }

def pushAll (o : TokObj) (ks : List String) : TokObj := ks.foldl push o

theorem pushAll_nil (o : TokObj) : pushAll o [] = o := rfl

theorem pushAll_cons (o : TokObj) (k : String) (ks : List String) : pushAll o (k :: ks) = pushAll (push o k) ks := rfl

theorem pushAll_append (o : TokObj) (a b : List String) : pushAll (pushAll o a) b = pushAll o (a ++ b) := by
  simp [pushAll, List.foldl_append]

/-- `d[k₀] = n; d[k₁] = n + 1; …` -/
def setAll (d : List (String × Int)) (n : Int) : List String → List (String × Int)
  | [] => d
  | k :: ks => setAll (pyDictSet d k n) (n + 1) ks

theorem pushAll_eq (o : TokObj) (ks : List String) :
    pushAll o ks = { o with dictionary := setAll o.dictionary o.dictionarySize_ ks, dictionarySize_ := o.dictionarySize_ + ks.length } := by
  induction ks generalizing o with
  | nil => simp [pushAll, setAll]
  | cons k ks ih => rw [pushAll_cons, ih]; simp [push, setAll]; omega

/-- what `pushAll` leaves alone -/
structure SameCfg (a b : TokObj) : Prop where
  ppqn : a.ppqn = b.ppqn
  stepSizes : a.stepSizes = b.stepSizes
  noteValues : a.noteValues = b.noteValues
  numTracks : a.numTracks = b.numTracks
  pitchRange : a.pitchRange = b.pitchRange
  timeSignatureRange : a.timeSignatureRange = b.timeSignatureRange
  flagRunningValues : a.flagRunningValues = b.flagRunningValues
  flagFuseTrack : a.flagFuseTrack = b.flagFuseTrack
  flagFuseValue : a.flagFuseValue = b.flagFuseValue
  flagFuseVelocity : a.flagFuseVelocity = b.flagFuseVelocity
  flagSimplifyTimeSignature : a.flagSimplifyTimeSignature = b.flagSimplifyTimeSignature
  velocityBins : a.velocityBins = b.velocityBins
  inverseDictionary : a.inverseDictionary = b.inverseDictionary
  curTime : a.curTime = b.curTime
  curRestBuffer : a.curRestBuffer = b.curRestBuffer

theorem sameCfg_pushAll (o : TokObj) (ks : List String) : SameCfg (pushAll o ks) o :=
  pushAll_eq o ks ▸ ⟨rfl, rfl, rfl, rfl, rfl, rfl, rfl, rfl, rfl, rfl, rfl, rfl, rfl, rfl, rfl⟩

theorem pushAll_dictionary (o : TokObj) (ks : List String) :
    (pushAll o ks).dictionary = setAll o.dictionary o.dictionarySize_ ks := by rw [pushAll_eq]

theorem pushAll_size (o : TokObj) (ks : List String) :
    (pushAll o ks).dictionarySize_ = o.dictionarySize_ + ks.length := by rw [pushAll_eq]

theorem cfgOf_pushAll (o : TokObj) (ks : List String) : cfgOf (pushAll o ks) = cfgOf o := by rw [pushAll_eq]; rfl

@[simp] theorem pushAll_noteValues (o ks) : (pushAll o ks).noteValues = o.noteValues := (sameCfg_pushAll o ks).noteValues

@[simp] theorem pushAll_numTracks (o ks) : (pushAll o ks).numTracks = o.numTracks := (sameCfg_pushAll o ks).numTracks

@[simp] theorem pushAll_pitchRange (o ks) : (pushAll o ks).pitchRange = o.pitchRange := (sameCfg_pushAll o ks).pitchRange

@[simp] theorem pushAll_timeSignatureRange (o ks) : (pushAll o ks).timeSignatureRange = o.timeSignatureRange :=
  (sameCfg_pushAll o ks).timeSignatureRange

@[simp] theorem pushAll_flagFuseTrack (o ks) : (pushAll o ks).flagFuseTrack = o.flagFuseTrack := (sameCfg_pushAll o ks).flagFuseTrack

@[simp] theorem pushAll_flagFuseValue (o ks) : (pushAll o ks).flagFuseValue = o.flagFuseValue := (sameCfg_pushAll o ks).flagFuseValue

@[simp] theorem pushAll_flagFuseVelocity (o ks) : (pushAll o ks).flagFuseVelocity = o.flagFuseVelocity :=
  (sameCfg_pushAll o ks).flagFuseVelocity

@[simp] theorem pushAll_velocityBins (o ks) : (pushAll o ks).velocityBins = o.velocityBins := (sameCfg_pushAll o ks).velocityBins

theorem forIn_push_inv {α : Type} (P : TokObj → Prop) (hP : ∀ b k, P b → P (push b k)) (key : α → String)
    (f : α → TokObj → Except PyErr (ForInStep TokObj)) (xs : List α)
    (hf : ∀ x ∈ xs, ∀ b, P b → f x b = .ok (.yield (push b (key x)))) (b : TokObj) (hb : P b) :
    forIn xs b f = .ok (pushAll b (xs.map key)) := by
  rw [forIn_fold P (fun b x => push b (key x)) f xs (fun b x _ h => hP b (key x) h) hf b hb]
  simp [pushAll, List.foldl_map]

theorem length_of_mem_pyProduct {α} : ∀ (ls : List (List α)) (x : List α), x ∈ pyProduct ls → x.length = ls.length
  | [], x, h => by simp [pyProduct] at h; simp [h]
  | l :: ls, x, h => by
    simp only [pyProduct, List.mem_flatMap, List.mem_map] at h
    obtain ⟨a, _, r, hr, rfl⟩ := h
    simp [length_of_mem_pyProduct ls r hr]

/-- the key built by the body of the product loop from one combination (mirror of notelike_tokenisation.py:485-499) -/
def noteStr (fT fV fW : Bool) (x : List Int) : String :=
  let s1 := if fT then "" ++ (prefixOf "TRACK" ++ "_" ++ zpad 2 (x.headD 0) ++ "-") else ""
  let x1 := if fT then x.tail else x
  let s2 := s1 ++ (prefixOf "PITCH" ++ "_" ++ zpad 3 (x1.headD 0) ++ "-")
  let x2 := x1.tail
  let s3 := if fV then s2 ++ (prefixOf "VALUE" ++ "_" ++ zpad 2 (x2.headD 0) ++ "-") else s2
  let x3 := if fV then x2.tail else x2
  let s4 := if fW then s3 ++ (prefixOf "VELOCITY" ++ "_" ++ zpad 3 (x3.headD 0) ++ "-") else s3
  strDropRight s4 1

/-- the popped values of a combination as the structured token -/
def noteTok (fT fV fW : Bool) (x : List Int) : Tok :=
  let x1 := if fT then x.tail else x
  let x2 := x1.tail
  let x3 := if fV then x2.tail else x2
  Tok.note (if fT then some (x.headD 0) else none) (x1.headD 0) (if fV then some (x2.headD 0) else none)
    (if fW then some (x3.headD 0) else none)

theorem ite_append (c : Bool) (s a : String) : (if c = true then s ++ a else s) = s ++ if c = true then a else "" := by
  cases c <;> simp

theorem noteStr_eq (fT fV fW : Bool) (x : List Int) : noteStr fT fV fW x = render (noteTok fT fV fW x) := by
  simp only [noteStr, ite_append]
  exact render_note fT fV fW _ _ _ _

theorem pyRange_succ (lo hi : Int) : pyRange lo (hi + 1) = rangeInt lo hi := rfl

theorem product_notes (fT fV fW : Bool) (T P V W : List Int) :
    (pyProduct ([] ++ (if fT then [T] else []) ++ [P] ++ (if fV then [V] else []) ++ (if fW then [W] else []))).map
      (noteTok fT fV fW) =
    (if fT then T.map some else [none]).flatMap fun t => P.flatMap fun p =>
      (if fV then V.map some else [none]).flatMap fun v => (if fW then W.map some else [none]).map fun w => Tok.note t p v w := by
  cases fT <;> cases fV <;> cases fW <;>
    simp [pyProduct, noteTok, List.map_flatMap, List.flatMap_map, Function.comp_def, ← List.map_eq_flatMap]

def FlagsAre (fT fV fW : Bool) (b : TokObj) : Prop :=
  b.flagFuseTrack = fT ∧ b.flagFuseValue = fV ∧ b.flagFuseVelocity = fW

/-- the four literal stores at the head of `_construct_dictionary` (ids 0..3 are literals in the source) -/
def first4 (o : TokObj) : TokObj :=
  { o with
    dictionary := pyDictSet (pyDictSet (pyDictSet (pyDictSet o.dictionary (prefixOf "PAD") 0) (prefixOf "START") 1)
      (prefixOf "STOP") 2) (prefixOf "BAR") 3,
    dictionarySize_ := o.dictionarySize_ + 1 + 1 + 1 + 1 }

/-- the last statement: the inverse dictionary -/
def finish (o : TokObj) : TokObj :=
  { o with inverseDictionary := pyDictOfList (o.dictionary.map (fun p => (p.2, p.1))) }

theorem finish_dictionary (o : TokObj) : (finish o).dictionary = o.dictionary := rfl

theorem finish_dictionarySize (o : TokObj) : (finish o).dictionarySize_ = o.dictionarySize_ := rfl

theorem finish_inverseDictionary (o : TokObj) :
    (finish o).inverseDictionary = pyDictOfList ((finish o).dictionary.map (fun p => (p.2, p.1))) := rfl

theorem cfgOf_finish (o : TokObj) : cfgOf (finish o) = cfgOf o := rfl

@[simp] theorem first4_flagFuseTrack (o : TokObj) : (first4 o).flagFuseTrack = o.flagFuseTrack := rfl

@[simp] theorem first4_flagFuseValue (o : TokObj) : (first4 o).flagFuseValue = o.flagFuseValue := rfl

@[simp] theorem first4_flagFuseVelocity (o : TokObj) : (first4 o).flagFuseVelocity = o.flagFuseVelocity := rfl

@[simp] theorem first4_numTracks (o : TokObj) : (first4 o).numTracks = o.numTracks := rfl

@[simp] theorem first4_pitchRange (o : TokObj) : (first4 o).pitchRange = o.pitchRange := rfl

@[simp] theorem first4_timeSignatureRange (o : TokObj) : (first4 o).timeSignatureRange = o.timeSignatureRange := rfl

@[simp] theorem first4_stepSizes (o : TokObj) : (first4 o).stepSizes = o.stepSizes := rfl

@[simp] theorem first4_noteValues (o : TokObj) : (first4 o).noteValues = o.noteValues := rfl

@[simp] theorem first4_velocityBins (o : TokObj) : (first4 o).velocityBins = o.velocityBins := rfl

/-- the lists handed to `itertools.product` -/
def combos (o : TokObj) : List (List Int) :=
  [] ++ (if o.flagFuseTrack then [pyRange 0 o.numTracks] else []) ++ [pyRange o.pitchRange.1 (o.pitchRange.2 + 1)]
    ++ (if o.flagFuseValue then [o.noteValues] else []) ++ (if o.flagFuseVelocity then [o.velocityBins] else [])

/-- the keys stored after the first four, in order -/
def tailStrings (o : TokObj) : List String :=
  o.stepSizes.map (fun x => prefixOf "REST" ++ "_" ++ zpad 2 x)
  ++ (if o.flagFuseTrack then [] else (pyRange 0 o.numTracks).map (fun x => prefixOf "TRACK" ++ "_" ++ zpad 2 x))
  ++ (if o.flagFuseValue then [] else o.noteValues.map (fun x => prefixOf "VALUE" ++ "_" ++ zpad 2 x))
  ++ (if o.flagFuseVelocity then [] else o.velocityBins.map (fun x => prefixOf "VELOCITY" ++ "_" ++ zpad 3 x))
  ++ (pyProduct (combos o)).map (noteStr o.flagFuseTrack o.flagFuseValue o.flagFuseVelocity)
  ++ (pyRange o.timeSignatureRange.1 (o.timeSignatureRange.2 + 1)).map
      (fun x => prefixOf "TIME_SIGNATURE" ++ "_" ++ zpad 2 x ++ "_" ++ zpad 2 Gen.defaultTimeSignatureDenominator)

/-- the loops of `_construct_dictionary` that store one key per element, in the form the translator writes them -/
theorem push_loop {α : Type} (key : α → String) (xs : List α) (b : TokObj) :
    forIn xs b (fun x s => do
        let n ← Gen.Tok.dictionarySize s
        pure (ForInStep.yield { s with dictionary := pyDictSet s.dictionary (key x) n, dictionarySize_ := s.dictionarySize_ + 1 }))
      = .ok (pushAll b (xs.map key)) :=
  forIn_push_inv (fun _ => True) (fun _ _ _ => trivial) key _ xs (fun _ _ _ _ => rfl) b trivial

theorem constructDictionary_struct (o : TokObj) :
    constructDictionary o = .ok (finish (pushAll (first4 o) (tailStrings o))) := by
  obtain ⟨fT, hT⟩ : ∃ fT, o.flagFuseTrack = fT := ⟨_, rfl⟩
  obtain ⟨fV, hV⟩ : ∃ fV, o.flagFuseValue = fV := ⟨_, rfl⟩
  obtain ⟨fW, hW⟩ : ∃ fW, o.flagFuseVelocity = fW := ⟨_, rfl⟩
  unfold constructDictionary
  simp only [← first4.eq_1, ← finish.eq_1, push_loop]
  simp only [bind, Except.bind, pushAll_flagFuseTrack, pushAll_flagFuseValue, pushAll_flagFuseVelocity, first4_flagFuseTrack,
    first4_flagFuseValue, first4_flagFuseVelocity, pushAll_numTracks, pushAll_pitchRange, pushAll_noteValues, pushAll_velocityBins,
    pushAll_timeSignatureRange, first4_numTracks, first4_pitchRange, first4_noteValues, first4_velocityBins,
    first4_timeSignatureRange, hT, hV, hW]
  rcases Bool.eq_false_or_eq_true fT with eT | eT <;> rcases Bool.eq_false_or_eq_true fV with eV | eV <;>
    rcases Bool.eq_false_or_eq_true fW with eW | eW <;>
    simp only [eT, eV, eW, if_true, if_false, Bool.false_eq_true]
  all_goals
    rw [forIn_push_inv (FlagsAre fT fV fW) (fun _ _ h => h) (noteStr fT fV fW)]
    rotate_left
    · intro x hx b hb
      have hl := length_of_mem_pyProduct _ _ hx
      obtain ⟨h1, h2, h3⟩ := hb
      have c1 : (b.flagFuseTrack = true) = (fT = true) := by rw [h1]
      have c2 : (b.flagFuseValue = true) = (fV = true) := by rw [h2]
      have c3 : (b.flagFuseVelocity = true) = (fW = true) := by rw [h3]
      simp only [c1, c2, c3, eT, eV, eW, if_true, if_false, Bool.false_eq_true]
      rcases x with _ | ⟨a, _ | ⟨b', _ | ⟨c, _ | ⟨e, _ | _⟩⟩⟩⟩ <;> simp at hl <;>
        (simp only [pyPop_cons_zero, Gen.Tok.dictionarySize, bind, Except.bind, pure, Except.pure]; rfl)
    · exact ⟨by simp [hT], by simp [hV], by simp [hW]⟩
    simp only [pushAll_append, pushAll_timeSignatureRange, first4_timeSignatureRange, pure, Except.pure, tailStrings, combos,
      hT, hV, hW, eT, eV, eW, if_true, if_false, Bool.false_eq_true, List.append_nil, List.nil_append, List.append_assoc]

theorem tailStrings_eq (o : TokObj) : tailStrings o = ((vocabSeq (cfgOf o)).drop 4).map render := by
  obtain ⟨d, inv, n, ppqn, steps, vals, nt, pr, tsr, fr, fT, fV, fW, fs, bins, ct, crb⟩ := o
  have hp := product_notes fT fV fW (pyRange 0 nt) (pyRange pr.1 (pr.2 + 1)) vals bins
  rw [Vocab.vocabSeq_eq]
  simp only [List.append_assoc, List.cons_append, List.nil_append, List.drop_succ_cons, List.drop_zero, List.map_append]
  simp only [tailStrings, combos]
  rw [show noteStr fT fV fW = render ∘ noteTok fT fV fW from funext (noteStr_eq _ _ _), ← List.map_map, hp]
  simp only [List.append_assoc, Vocab.notes, Vocab.trkOpts, Vocab.valOpts, Vocab.velOpts, Vocab.trkSingles,
    Vocab.valSingles, Vocab.velSingles, Vocab.sigs, Vocab.tracks, cfgOf, pyRange_zero, pyRange_succ, List.map_map]
  cases fT <;> cases fV <;> cases fW <;> simp [render, Function.comp_def]

theorem first4_fresh (o : TokObj) (h0 : o.dictionarySize_ = 0) :
    first4 o = pushAll o ([Tok.pad, .sta, .sto, .bar].map render) := by
  simp [pushAll, push, first4, render, h0]

/-- the object `__init__` has built when it calls `_construct_dictionary`: defaults filled in, step sizes and note values
    sorted WITHOUT DUPLICATES (`sorted(set(…))`, the repair of finding D31; before it: `.sort()`, `pySortInt`) -/
def initObj (ppqn : Option Int) (numTracks : Int) (pitchRange : Int × Int) (stepSizes noteValues : Option (List Int))
    (bins : List Int) (tsRange : Int × Int) (running fuseTrk fuseVal fuseVel simplify : Bool) : TokObj :=
  { dictionary := [], inverseDictionary := [], dictionarySize_ := 0, ppqn := ppqn.getD Gen.ppqn,
    stepSizes := pySortedInt (pySetInt (stepSizes.getD Gen.defaultStepSizesShift1)),
    noteValues := pySortedInt (pySetInt (noteValues.getD Gen.defaultNoteValues)), numTracks := numTracks, pitchRange := pitchRange,
    timeSignatureRange := tsRange, flagRunningValues := running, flagFuseTrack := fuseTrk, flagFuseValue := fuseVal,
    flagFuseVelocity := fuseVel, flagSimplifyTimeSignature := simplify, velocityBins := bins, curTime := none,
    curRestBuffer := none }

/-- model `encode` as the generated code returns it -/
def encodeSpec (c : Cfg) (ts : List Tok) : Except PyErr (List Int) :=
  match SCoda.encode c ts with
  | some ids => .ok (ids.map Int.ofNat)
  | none => .error .keyError

/-- model `decode` as the generated code returns it -/
def decodeSpec (c : Cfg) (ids : List Nat) : Except PyErr (List String) :=
  match SCoda.decode c ids with
  | some ts => .ok (ts.map render)
  | none => .error .keyError

/-- the model's `lastIdxGo` (Model/Token.lean) on strings: the last index of `k`, counted from `i`, or `best` -/
def lastIdxS (k : String) : List String → Nat → Option Nat → Option Nat
  | [], _, best => best
  | x :: xs, i, best => lastIdxS k xs (i + 1) (if x = k then some i else best)

theorem lastIdxS_shift (k : String) : ∀ (ks : List String) (i : Nat) (best : Option Nat),
    lastIdxS k ks i best = match lastIdxS k ks 0 none with | some j => some (i + j) | none => best := by
  intro ks
  induction ks with
  | nil => intro i best; rfl
  | cons x xs ih =>
    intro i best
    simp only [lastIdxS]
    rw [ih (i + 1), ih (0 + 1)]
    cases lastIdxS k xs 0 none with
    | some j => simp; omega
    | none => by_cases h : x = k <;> simp [h]

theorem get?_setAll (k : String) : ∀ (ks : List String) (d : List (String × Int)) (n : Int),
    Assoc.get? (setAll d n ks) k = match lastIdxS k ks 0 none with | some i => some (n + (i : Int)) | none => Assoc.get? d k := by
  intro ks
  induction ks with
  | nil => intro d n; rfl
  | cons x xs ih =>
    intro d n
    simp only [setAll, lastIdxS, pyDictSet]
    rw [ih, lastIdxS_shift k xs (0 + 1)]
    cases lastIdxS k xs 0 none with
    | some j => simp; omega
    | none =>
      rw [Q.get?_set]
      by_cases h : x = k <;> simp [h]

theorem nodupKeys_setAll : ∀ (ks : List String) (d : List (String × Int)) (n : Int), Q.NodupKeys d → Q.NodupKeys (setAll d n ks)
  | [], _, _, h => h
  | k :: ks, _, n, h => nodupKeys_setAll ks _ _ (Q.nodupKeys_set h k n)

theorem lastIdxS_getElem (k : String) : ∀ (ks : List String) (j : Nat), lastIdxS k ks 0 none = some j → ks[j]? = some k := by
  intro ks
  induction ks with
  | nil => intro j h; cases h
  | cons x xs ih =>
    intro j h
    simp only [lastIdxS] at h
    rw [lastIdxS_shift k xs (0 + 1)] at h
    cases hl : lastIdxS k xs 0 none with
    | some j' =>
      rw [hl] at h
      simp only [Option.some.injEq] at h
      subst h
      rw [show 0 + 1 + j' = j' + 1 by omega, List.getElem?_cons_succ]
      exact ih j' hl
    | none =>
      rw [hl] at h
      by_cases hx : x = k
      · simp only [hx, if_true, Option.some.injEq] at h
        subst h; simp [hx]
      · simp [hx] at h

/-- `render` is injective, so the last index of a rendered token among rendered tokens is its last index among the tokens -/
theorem lastIdxS_render_all (t : Tok) : ∀ (toks : List Tok) (i : Nat) (best : Option Nat),
    lastIdxS (render t) (toks.map render) i best = lastIdxGo t toks i best
  | [], _, _ => rfl
  | x :: xs, i, best => by
    have : (if render x = render t then some i else best) = (if x = t then some i else best) :=
      ite_cond_congr (propext ⟨render_inj x t, congrArg render⟩)
    simp only [List.map_cons, lastIdxS, lastIdxGo, this]
    exact lastIdxS_render_all t xs (i + 1) _

theorem get?_setAll0 (k : String) (ks : List String) :
    Assoc.get? (setAll [] 0 ks) k = (lastIdxS k ks 0 none).map Int.ofNat := by
  rw [get?_setAll]; cases lastIdxS k ks 0 none <;> simp [Assoc.get?]

theorem dict_get (c : Cfg) (t : Tok) :
    Assoc.get? (setAll [] 0 ((vocabSeq c).map render)) (render t) = (encodeTok c t).map Int.ofNat := by
  rw [get?_setAll0, lastIdxS_render_all]; rfl

/-- its inverse `{v: k for k, v in d.items()}`: `inverse[i] = k` iff `i` is the last index of `k` -/
theorem inverse_setAll (ks : List String) (i : Nat) (k : String) :
    Assoc.get? (pyDictOfList ((setAll [] 0 ks).map (fun p => (p.2, p.1)))) (i : Int) = some k ↔ lastIdxS k ks 0 none = some i := by
  have hd := nodupKeys_setAll ks [] 0 Q.nodupKeys_nil
  -- an id is the last index of its key, so the ids are distinct and `dict(pairs)` is the list of swapped pairs
  have hn : Q.NodupKeys ((setAll [] 0 ks).map (fun p => (p.2, p.1))) := by
    refine List.pairwise_map.2 (hd.imp_of_mem fun {a b} ha hb hab e => hab ?_)
    have h1 := Q.get?_of_mem hd ha
    have h2 := Q.get?_of_mem hd hb
    rw [get?_setAll0, Option.map_eq_some_iff] at h1 h2
    obtain ⟨x, hx, ex⟩ := h1
    obtain ⟨y, hy, ey⟩ := h2
    cases Int.ofNat_inj.1 (ex.trans (e.trans ey.symm))
    exact Option.some.inj ((lastIdxS_getElem _ ks x hx).symm.trans (lastIdxS_getElem _ ks x hy))
  rw [pyDictOfList, Q.ofList_nodupKeys _ [] hn, List.nil_append]
  constructor
  · intro h
    obtain ⟨⟨k', v⟩, hp, e⟩ := List.mem_map.1 (Q.mem_of_get? h)
    cases e
    have h1 := Q.get?_of_mem hd hp
    rw [get?_setAll0, Option.map_eq_some_iff] at h1
    obtain ⟨x, hx, ex⟩ := h1
    rw [hx, Int.ofNat_inj.1 ex]
  · intro h
    exact Q.get?_of_mem hn (List.mem_map.2 ⟨(k, i), Q.mem_of_get? (by rw [get?_setAll0, h]; rfl), rfl⟩)

theorem decodeId_eq_some (c : Cfg) (i : Nat) (t : Tok) :
    decodeId c i = some t ↔ (vocabSeq c)[i]? = some t ∧ encodeTok c t = some i := by
  unfold decodeId
  cases (vocabSeq c)[i]? with
  | none => simp
  | some t' =>
    simp only [Option.some.injEq]
    constructor
    · intro h; split at h
      · cases h; exact ⟨rfl, ‹_›⟩
      · cases h
    · rintro ⟨rfl, h⟩; rw [if_pos h]

theorem inverse_get (c : Cfg) (i : Nat) :
    Assoc.get? (pyDictOfList ((setAll [] 0 ((vocabSeq c).map render)).map (fun p => (p.2, p.1)))) (i : Int)
      = (decodeId c i).map render := by
  ext k
  rw [inverse_setAll, Option.map_eq_some_iff]
  constructor
  · intro h
    have hk := lastIdxS_getElem k _ i h
    rw [List.getElem?_map, Option.map_eq_some_iff] at hk
    obtain ⟨t, ht, rfl⟩ := hk
    rw [lastIdxS_render_all] at h
    exact ⟨t, (decodeId_eq_some c i t).2 ⟨ht, h⟩, rfl⟩
  · rintro ⟨t, ht, rfl⟩
    rw [lastIdxS_render_all]
    exact ((decodeId_eq_some c i t).1 ht).2
/-- the result of a dictionary look-up: a missing key is a KeyError -/
def orKeyError {γ β : Type} (r : γ → β) : Option γ → Except PyErr β
  | some c => .ok (r c)
  | none => .error .keyError

theorem mapME_lookup {α α' β γ : Type} (f : α → Except PyErr β) (k : α' → α) (g : α' → Option γ) (r : γ → β)
    (h : ∀ a, f (k a) = orKeyError r (g a)) :
    ∀ l : List α', mapME f (l.map k) = orKeyError (List.map r) (l.mapM g)
  | [] => rfl
  | a :: l => by
    rw [List.map_cons, mapME, h a, mapME_lookup f k g r h l, List.mapM_cons]
    cases g a with
    | none => rfl
    | some c => cases l.mapM g <;> rfl

theorem dict_lookup (c : Cfg) (t : Tok) :
    pyDictGet (setAll [] 0 ((vocabSeq c).map render)) (render t) = orKeyError Int.ofNat (encodeTok c t) := by
  unfold pyDictGet
  rw [dict_get]
  cases encodeTok c t <;> rfl

theorem inverse_lookup (c : Cfg) (i : Nat) :
    pyDictGet (pyDictOfList ((setAll [] 0 ((vocabSeq c).map render)).map (fun p => (p.2, p.1)))) (Int.ofNat i) =
      orKeyError render (decodeId c i) := by
  unfold pyDictGet
  rw [show Int.ofNat i = (i : Int) from rfl, inverse_get]
  cases decodeId c i <;> rfl

theorem encode_of_dict (o' : TokObj) (c : Cfg) (ts : List Tok) (hdict : o'.dictionary = setAll [] 0 ((vocabSeq c).map render)) :
    Gen.Tok.encode o' (ts.map render) = encodeSpec c ts := by
  unfold Gen.Tok.encode encodeSpec SCoda.encode
  rw [hdict, mapME_lookup _ render _ Int.ofNat (dict_lookup c)]
  cases ts.mapM (encodeTok c) <;> rfl

theorem decode_of_dict (o' : TokObj) (c : Cfg) (ids : List Nat) (hdict : o'.dictionary = setAll [] 0 ((vocabSeq c).map render))
    (hinv : o'.inverseDictionary = pyDictOfList (o'.dictionary.map (fun p => (p.2, p.1)))) :
    Gen.Tok.decode o' (ids.map Int.ofNat) = decodeSpec c ids := by
  unfold Gen.Tok.decode decodeSpec SCoda.decode
  rw [hinv, hdict, mapME_lookup _ Int.ofNat _ render (inverse_lookup c)]
  cases ids.mapM (decodeId c) <;> rfl

theorem drop4_kind (c : Cfg) : ∀ x ∈ (vocabSeq c).drop 4, Vocab.kind x ≠ 0 := by
  intro x hx
  have h : (vocabSeq c).drop 4 = c.steps.map Tok.rest ++ Vocab.trkSingles c ++ Vocab.valSingles c ++ Vocab.velSingles c
      ++ Vocab.notes c ++ Vocab.sigs c := rfl
  rw [h] at hx
  simp only [List.mem_append] at hx
  rcases hx with ((((hx | hx) | hx) | hx) | hx) | hx
  · rw [Vocab.kind_rests hx]; decide
  · rw [Vocab.kind_trkSingles hx]; decide
  · rw [Vocab.kind_valSingles hx]; decide
  · rw [Vocab.kind_velSingles hx]; decide
  · rw [Vocab.kind_notes hx]; decide
  · rw [Vocab.kind_sigs hx]; decide

theorem vocabSeq_split (c : Cfg) : vocabSeq c = [Tok.pad, .sta, .sto, .bar] ++ (vocabSeq c).drop 4 := rfl

/-- the generated code on ANY object: `pad` receives the literal id 0.  With `pad_id_closed`: why the closed form describes the
    method only on objects with `_dictionary_size = 0` (`Defs.constructDictionary_anyObject_iff`, `→`) -/
theorem pad_id_generated (o : TokObj) :
    Assoc.get? (pushAll (first4 o) (((vocabSeq (cfgOf o)).drop 4).map render)).dictionary (render .pad) = some 0 := by
  rw [pushAll_dictionary, get?_setAll, lastIdxS_render_all,
    Vocab.lastIdxGo_not_mem (fun h => drop4_kind _ _ h rfl)]
  show Assoc.get? (first4 o).dictionary (prefixOf "PAD") = some 0
  simp only [first4, pyDictSet, Q.get?_set]
  have h1 : ¬ prefixOf "BAR" = prefixOf "PAD" := by decide +kernel
  have h2 : ¬ prefixOf "STOP" = prefixOf "PAD" := by decide +kernel
  have h3 : ¬ prefixOf "START" = prefixOf "PAD" := by decide +kernel
  simp [h1, h2, h3]

/-- the closed form of a fresh object, on ANY object: `pad` receives the old `_dictionary_size` -/
theorem pad_id_closed (o : TokObj) :
    Assoc.get? (pushAll o ((vocabSeq (cfgOf o)).map render)).dictionary (render .pad) = some o.dictionarySize_ := by
  rw [pushAll_dictionary, get?_setAll, lastIdxS_render_all, vocabSeq_split]
  have hnm : Tok.pad ∉ (vocabSeq (cfgOf o)).drop 4 := fun h => drop4_kind _ _ h rfl
  show (match lastIdxGo Tok.pad (Tok.pad :: (Tok.sta :: Tok.sto :: Tok.bar :: (vocabSeq (cfgOf o)).drop 4)) 0 none with
    | some i => some (o.dictionarySize_ + (i : Int)) | none => _) = _
  simp only [lastIdxGo, if_true]
  rw [Vocab.lastIdxGo_not_mem hnm]
  simp

end SCoda.TokTieL
