/-
  Save then load at the file's resolution (`C13.saveLoad`: `sequences_save` ∘ `sequences_load`, one group per saved
  sequence, every track a meta track; defined here with `C13.Saved`, `C13.GoodTrack`): rescaling is the identity
  (`L2.stamp_same`), so a loaded track holds `(eventsRel r).filterMap noteOf` and the file's signature events are the
  saved ones without their channel.
  So the signature in force is the saved one (`inforce_saved_sig`), and per key the note events of loaded sequence
  `i` are those of saved sequence `i` with the channel forgotten (`saved_proj`), off which notes, note-ons and the
  sounding set are read.
-/
import SCoda.Lemmas.MidiSigs
import SCoda.Lemmas.C12NarrowL
namespace SCoda.C13
open SCoda

def GoodTrack (ppqn filePpq : Int) (evs : List MidiEv) : Prop :=
  WF (trackMsgs ppqn filePpq 0 evs) ∧ C15.PosDur (trackMsgs ppqn filePpq 0 evs)

/-- what `Sequence.sequences_save` then `sequences_load` computes (codec assumed faithful): every saved
    relative view becomes a MIDI track, loaded with one group per track, every track a meta track -/
def saveLoad (ppqn : Int) (rels : List (List Msg)) : Except Err (List Seq) :=
  convert ppqn ppqn (rels.map toMido) ((List.range rels.length).map (fun i => [i])) (List.range rels.length) 0

structure Saved (r : List Msg) : Prop where
  ok : OkRel r
  noTime : ∀ m ∈ r, m.ty ≠ .wait → m.time = pyNone
  wf : WF r
  pos : C15.PosDur (eventsRel r)
  vel : ∀ m ∈ r, m.ty = .noteOn → m.vel ≠ pyNone ∧ 0 < m.vel
  oneCh : ∃ c, ∀ m ∈ r, (m.ty = .noteOn ∨ m.ty = .noteOff) → m.ch = c

/-- `Saved` from the conditions on single messages (all decidable on a concrete list) and the two on notes -/
theorem Saved.of_pointwise (r : List Msg) (c : Int)
    (h : ∀ m ∈ r, (m.ty = .wait → 0 ≤ m.time) ∧ m.ty ≠ .internal ∧ (m.ty ≠ .wait → m.time = pyNone)
      ∧ (m.ty = .noteOn → m.vel ≠ pyNone ∧ 0 < m.vel) ∧ ((m.ty = .noteOn ∨ m.ty = .noteOff) → m.ch = c))
    (hwf : WF r) (hpos : C15.PosDur (eventsRel r)) : Saved r :=
  ⟨⟨fun m hm => (h m hm).1, fun m hm => (h m hm).2.1⟩, fun m hm => (h m hm).2.2.1, hwf, hpos,
    fun m hm => (h m hm).2.2.2.1, c, fun m hm => (h m hm).2.2.2.2⟩

end SCoda.C13

namespace SCoda.MidiSave
open SCoda SCoda.MidiL SCoda.MergeL SCoda.C13 SCoda.C13b SCoda.EQ SCoda.E2E SCoda.L2 SCoda.C12NarrowL

/-- what the loader needs of a saved sequence: waits non-negative, no other time -/
def Timed (r : List Msg) : Prop := NonNegWaits r ∧ ∀ m ∈ r, m.ty ≠ .wait → m.time = pyNone

theorem toMidoGo_nonneg (r : List Msg) (h : Timed r) : ∀ buf, 0 ≤ buf → ∀ e ∈ toMidoGo buf r, 0 ≤ e.time := by
  induction r with
  | nil => intro buf _ e he; simp [toMidoGo] at he
  | cons m ms ih =>
    intro buf hb e he
    have ih' := ih ⟨fun x hx => h.1 x (List.mem_cons_of_mem _ hx), fun x hx => h.2 x (List.mem_cons_of_mem _ hx)⟩
    have hbuf : 0 ≤ bufAfter buf m := by
      by_cases ht : m.time = pyNone
      · rw [bufAfter_none ht]; exact hb
      · rw [bufAfter_time ht]
        -- only a wait carries a time
        have := h.1 m List.mem_cons_self (Classical.byContradiction fun hty => ht (h.2 m List.mem_cons_self hty))
        omega
    rw [toMidoGo_cons] at he
    split at he
    · rcases List.mem_cons.1 he with rfl | he
      · exact hbuf
      · exact ih' 0 (Int.le_refl _) e he
    · exact ih' _ hbuf e he

theorem trackMsgs_toMido (pp : Int) (hp : 0 < pp) (r : List Msg) (h : Timed r) :
    trackMsgs pp pp 0 (toMido r) = (eventsRel r).filterMap noteOf := by
  rw [trackMsgs_eq, stamp_same pp hp, toMido_ticks_nonneg r h.2 h.1, List.filterMap_map, List.filterMap_filter]
  congr 1
  funext m
  cases hty : m.ty <;>
    simp [emitted, midiShape, MidiL.toSlot, convEvent, noteOf, hty, Msg.mkOn, Msg.mkOff, Msg.mkTimeSig, pyNone]

theorem groups_range_get (n i : Nat) (hi : i < n) : ((List.range n).map (fun i => [i]))[i]? = some [i] := by
  simp [hi]

theorem events_nonneg (rels : List (List Msg)) (h : ∀ r ∈ rels, NonNegWaits r) :
    ∀ m ∈ rels.flatMap eventsRel, 0 ≤ m.time := by
  intro m hm
  obtain ⟨r, hr, hmr⟩ := List.mem_flatMap.1 hm
  exact (eventsRelGo_bounds r 0 (h r hr) m hmr).1

/-- a signature carries the fields of its own kind, and no others (the hypothesis `hfields` of
    `C13.save_load_signatures_partial`) -/
def SigFieldsOk (m : Msg) : Prop :=
  (m.ty = .timeSignature → m.key = pyNone ∧ (m.num, m.den) ≠ (pyNone, pyNone))
  ∧ (m.ty = .keySignature → m.num = pyNone ∧ m.den = pyNone ∧ m.key ≠ pyNone)

theorem events_fields (rels : List (List Msg)) (hF : ∀ r ∈ rels, ∀ m ∈ r, SigFieldsOk m) :
    ∀ m ∈ rels.flatMap eventsRel, SigFieldsOk m := by
  intro m hm
  obtain ⟨r, hr, hmr⟩ := List.mem_flatMap.1 hm
  obtain ⟨m0, hm0, -, t, rfl⟩ := eventsRelGo_src r 0 m hmr
  exact hF r hr m0 hm0

theorem firstGroupOf_singles (n i : Nat) (hi : i < n) :
    firstGroupOf ((List.range n).map (fun i => [i])) i = some (i, 0) := by
  apply (firstGroupOf_iff _ i i 0).2
  refine ⟨[i], groups_range_get n i hi, List.mem_singleton.2 rfl, by simp, ?_⟩
  intro j g' hj hg'
  rw [groups_range_get n j (by omega)] at hg'
  cases hg'
  simp; omega

theorem toMidoGo_sig (r : List Msg) (buf : Int) : ∀ e ∈ toMidoGo buf r,
    (e.ty = .timeSignature ∨ e.ty = .keySignature) →
      e.ch = pyNone ∧ ∃ m ∈ r, m.ty = e.ty ∧ m.num = e.num ∧ m.den = e.den ∧ m.key = e.key := by
  intro e he hty
  obtain ⟨m, hm, -, t, rfl⟩ := mem_toMidoGo r buf e he
  have hmt : m.ty = .timeSignature ∨ m.ty = .keySignature := by
    cases h : m.ty <;> simp [midiShape, h] at hty ⊢
  rcases hmt with h | h <;> exact ⟨by simp [midiShape, h], m, hm, by simp [midiShape, h]⟩

/-- a meta message has no channel -/
def noCh (m : Msg) : Msg := { m with ch := pyNone }

theorem sigEvents_toMido (pp : Int) (hp : 0 < pp) (r : List Msg) (h : Timed r) :
    sigEvents pp pp 0 (toMido r) = ((eventsRel r).filter isSigB).map noCh := by
  rw [sigEvents_eq, stamp_same pp hp, toMido_ticks_nonneg r h.2 h.1]
  generalize eventsRel r = E
  induction E with
  | nil => rfl
  | cons m ms ih =>
    cases hty : m.ty <;>
      simp [emitted, isSigB, midiShape, noCh, hty, ih]

theorem fileSigs_saved (pp : Int) (hp : 0 < pp) (rels : List (List Msg))
    (hS : ∀ r ∈ rels, Timed r) :
    fileSigs pp pp (rels.map toMido) ((List.range rels.length).map (fun i => [i])) (List.range rels.length)
      = ((rels.flatMap eventsRel).filter isSigB).map noCh := by
  unfold fileSigs
  rw [List.filter_eq_self.2 (fun p hp' => by
      have := (List.mem_zipIdx hp').2.1
      simp only [List.length_map, Nat.zero_add] at this
      simp [considered, this]),
    ← List.flatMap_map (f := Prod.fst) (g := sigEvents pp pp 0), List.zipIdx_map_fst, List.flatMap_map]
  induction rels with
  | nil => rfl
  | cons r rs ih =>
    simp only [List.flatMap_cons, List.filter_append, List.map_append]
    rw [sigEvents_toMido pp hp r (hS r List.mem_cons_self), ih (fun x hx => hS x (List.mem_cons_of_mem _ hx))]

theorem latest_saved (ty : MType) (hty : ty = .timeSignature ∨ ty = .keySignature) (t : Int) (X : List Msg) :
    latest ty ((X.filter isSigB).map noCh) t = (latest ty X t).map noCh := by
  rw [latest_map ty t noCh _ (fun m _ => ⟨rfl, rfl⟩), latest_filter ty t (X.filter isSigB), List.filter_filter,
    latest_filter ty t X]
  congr 2
  apply List.filter_congr
  intro m _
  by_cases h : m.ty = ty
  · rcases hty with rfl | rfl <;> simp [isSigB, h]
  · simp [h]

theorem timed_tracks (rels : List (List Msg)) (hS : ∀ r ∈ rels, Timed r) :
    ∀ evs ∈ rels.map toMido, ∀ e ∈ evs, 0 ≤ e.time := by
  intro evs hevs
  obtain ⟨r, hr, rfl⟩ := List.mem_map.1 hevs
  exact toMidoGo_nonneg r (hS r hr) 0 (Int.le_refl _)

/-- **signature in force after save and load** (either kind): at every tick it is the one in force among all
    saved signatures of that kind (later sequence wins on equal ticks), after the default -/
theorem inforce_saved_sig {β : Type} [DecidableEq β] (K : SigKind β) (pp : Int) (hp : 0 < pp) (rels : List (List Msg))
    (hS : ∀ r ∈ rels, Timed r) (hpresent : ∀ r ∈ rels, ∀ m ∈ r, m.ty = K.ty → K.v m ≠ K.p0)
    (out : List Seq)
    (h : saveLoad pp rels = .ok out)
    (s s' : Seq) (a : List Msg) (ho : out[0]? = some s) (ha : s.readAbs = Except.ok (s', a)) (t : Int)
    (ht : K.ty = .timeSignature → 0 ≤ t) :
    (latest K.ty (eventsAbs a) t).map K.v = (latest K.ty (dfltSig K.ty ++ rels.flatMap eventsRel) t).map K.v := by
  have hdom : ∀ evs ∈ rels.map toMido, ∀ e ∈ evs, e.ty = K.ty → e.ch = pyNone ∧ K.v e ≠ K.p0 := by
    intro evs hevs e he hty
    obtain ⟨r, hr, rfl⟩ := List.mem_map.1 hevs
    obtain ⟨hc, m, hm, h1, h2, h3, h4⟩ := toMidoGo_sig r 0 e he (by rw [hty]; exact K.hty)
    exact ⟨hc, by rw [← K.v_fields m e h2 h3 h4]; exact hpresent r hr m hm (h1.trans hty)⟩
  rw [inforce_load_sig K pp pp hp hp _ _ _ 0 out h (timed_tracks rels hS) hdom s s' a ho ha t ht,
    fileSigs_saved pp hp rels hS]
  apply latest_dflt_congr K.ty t _ _ K.v (fun m hm => by
      obtain ⟨x, hx, rfl⟩ := List.mem_map.1 hm
      exact events_nonneg rels (fun r hr => (hS r hr).1) x (List.mem_filter.1 hx).1)
    (events_nonneg rels (fun r hr => (hS r hr).1)) ht
  rw [latest_saved _ K.hty]
  cases latest K.ty (rels.flatMap eventsRel) t with
  | none => rfl
  | some m => exact congrArg some (K.v_fields _ m rfl rfl rfl)

/-- a signature that carries the fields of its own kind only (the hypothesis `hf` of `C13.signatures_to_meta_partial`,
    the first half of `SigFieldsOk`) -/
def OwnFields (m : Msg) : Prop :=
  (m.ty = .timeSignature → m.key = pyNone) ∧ (m.ty = .keySignature → m.num = pyNone ∧ m.den = pyNone)

theorem metaMsgs_fields (ppqn filePpq : Int) (b : Bool) (evs : List MidiEv) (ticks : Int) :
    ∀ m ∈ metaMsgs ppqn filePpq b ticks evs, OwnFields m := by
  intro m hm
  rw [metaMsgs_eq] at hm
  obtain ⟨e, _, hem⟩ := List.mem_filterMap.1 hm
  unfold toMeta at hem
  split at hem
  · rename_i m' hc
    cases hem
    obtain ⟨c1, c2, _⟩ := convEvent_sig b e e.time
    have hty := (convEvent_spec b e e.time true m hc).2.1
    constructor
    · intro h
      rw [c1 (hty ▸ h)] at hc
      cases hc
      rfl
    · intro h
      rw [c2 (hty ▸ h)] at hc
      cases hc
      exact ⟨rfl, rfl⟩
  · cases hem

/-- **signatures in force after save and load**, all three fields, for saved signatures that carry the fields
    of their own kind only: then so do the loaded ones, `sigFields` is a function of the value of the kind on both
    sides, and `inforce_saved_sig` lifts -/
theorem inforce_saved_fields (pp : Int) (hp : 0 < pp) (rels : List (List Msg)) (hS : ∀ r ∈ rels, Timed r)
    (hF : ∀ r ∈ rels, ∀ m ∈ r, SigFieldsOk m)
    (ty : MType) (hty : ty = .timeSignature ∨ ty = .keySignature) (out : List Seq)
    (h : saveLoad pp rels = .ok out)
    (s s' : Seq) (a : List Msg) (ho : out[0]? = some s) (ha : s.readAbs = Except.ok (s', a)) (t : Int) (ht : 0 ≤ t) :
    (latest ty (eventsAbs a) t).map sigFields = (latest ty (dfltSig ty ++ rels.flatMap eventsRel) t).map sigFields := by
  have hA : ∀ m ∈ eventsAbs a, m.ty = ty → OwnFields m := by
    intro m hm hm'
    rcases sig_core pp pp hp hp _ _ _ 0 out h (timed_tracks rels hS) s s' a ho ha m (List.mem_filter.1 hm).1
        (by rw [isSig, hm']; exact hty) with ⟨c, rfl⟩ | ⟨i, evs, _, _, hmem⟩
    · exact ⟨fun _ => rfl, fun h => nomatch h⟩
    · exact metaMsgs_fields pp pp _ evs 0 m hmem
  have hD : ∀ m ∈ dfltSig ty ++ rels.flatMap eventsRel, m.ty = ty → OwnFields m := by
    intro m hm _
    rcases List.mem_append.1 hm with hm | hm
    · cases ty <;> simp only [dfltSig, List.mem_singleton, List.not_mem_nil] at hm
      subst hm
      exact ⟨fun _ => rfl, fun h => nomatch h⟩
    · have hFe := events_fields rels hF m hm
      exact ⟨fun h => (hFe.1 h).1, fun h => ⟨(hFe.2 h).1, (hFe.2 h).2.1⟩⟩
  rcases hty with rfl | rfl
  · exact latest_map_lift _ t _ _ tsv sigFields (fun p => (p.1, p.2, pyNone))
      (fun m hm hm' => by simp [sigFields, tsv, (hA m hm hm').1 hm'])
      (fun m hm hm' => by simp [sigFields, tsv, (hD m hm hm').1 hm'])
      (inforce_saved_sig tsKind pp hp rels hS (fun r hr m hm hm' => ((hF r hr m hm).1 hm').2) out h s s' a ho ha t
        (fun _ => ht))
  · exact latest_map_lift _ t _ _ keyVal sigFields (fun k => (pyNone, pyNone, k))
      (fun m hm hm' => by simp [sigFields, keyVal, (hA m hm hm').2 hm'])
      (fun m hm hm' => by simp [sigFields, keyVal, (hD m hm hm').2 hm'])
      (inforce_saved_sig ksKind pp hp rels hS (fun r hr m hm hm' => ((hF r hr m hm).2 hm').2.2) out h s s' a ho ha t
        (fun h => nomatch h))

theorem track_ga (pp : Int) (hp : 0 < pp) (r : List Msg) (ht : Timed r)
    (hg : ∀ k, goodFrom k none ((eventsRel r).filterMap noteOf)) :
    trackMsgs pp pp 0 (toMido r) = (eventsRel r).filterMap noteOf
      ∧ GA (trackMsgs pp pp 0 (toMido r)) ∧ KeyOK (trackMsgs pp pp 0 (toMido r)) := by
  have heq := trackMsgs_toMido pp hp r ht
  have hga : GA (trackMsgs pp pp 0 (toMido r)) :=
    ⟨(trackMsgs_okAbs pp pp hp hp 0 (Int.le_refl _) _ (toMidoGo_nonneg r ht 0 (Int.le_refl _))).1,
      by rw [heq]; exact fun k => cg_of_good k _ (hg k)⟩
  exact ⟨heq, hga, keyOK_of_good _ (ga_sorted hga) (by rw [heq]; exact hg)⟩

theorem saved_proj (pp : Int) (hp : 0 < pp) (rels : List (List Msg))
    (hS : ∀ r ∈ rels, Timed r ∧ ∀ k, goodFrom k none ((eventsRel r).filterMap noteOf))
    (out : List Seq) (h : saveLoad pp rels = .ok out)
    (i : Nat) (r : List Msg) (s s' : Seq) (a : List Msg) (hr : rels[i]? = some r) (ho : out[i]? = some s)
    (ha : s.readAbs = Except.ok (s', a)) :
    ∀ k, P k a = P k ((eventsRel r).filterMap noteOf) := by
  have hd := timed_tracks rels (fun r hr => (hS r hr).1)
  obtain ⟨_, d, row, hrow, hcase⟩ := convert_read pp pp _ _ _ 0 out h i s s' a ho ha
  have hM := metaF_ok pp pp hp hp (rels.map toMido) ((List.range rels.length).map (fun i => [i])) (List.range rels.length) hd
  have hi : i < rels.length := (List.getElem?_eq_some_iff.1 hr).1
  obtain ⟨h1, h2⟩ := hS r (List.mem_of_getElem? hr)
  -- the one slot of group `i` holds the messages of track `i`
  have hrowi : row = [trackMsgs pp pp 0 (toMido r)] := by
    rw [rowsOf_get, groups_range_get _ i hi] at hrow
    cases hrow
    simp [rowOf, slotF_eq pp pp _ _ i 0 i [i] (groups_range_get _ i hi) rfl, firstGroupOf_singles _ i hi,
      slotL_eq pp pp hp hp _ hd, slotA, hr]
  subst hrowi
  obtain ⟨heq, hga, hY⟩ := track_ga pp hp r h1 h2
  obtain ⟨q1, q2⟩ := single_proj _ _ hga hY hM d
  intro k
  rw [← heq]
  rcases hcase with ⟨_, e⟩ | ⟨_, e⟩
  · rw [e, gmergeL_rel]; exact q1 k
  · rw [e, gmergeL_rel]; exact q2 k

/-- what the notes theorems need of a saved sequence: its timed events are well-formed per key with notes of
    positive length, and stay so when the channels are forgotten -/
structure NoteGood (r : List Msg) : Prop where
  timed : Timed r
  good : ∀ k, goodFrom k none (eventsRel r)
  monoGood : ∀ k, goodFrom k none (mono (eventsRel r))
  vel : ∀ m ∈ r, m.ty = .noteOn → m.vel ≠ pyNone

theorem NoteGood.loaded {r : List Msg} (h : NoteGood r) :
    Timed r ∧ ∀ k, goodFrom k none ((eventsRel r).filterMap noteOf) :=
  ⟨h.timed, fun k => (good_noteOf k _ none).2 (h.monoGood k)⟩

theorem NoteGood.evVel {r : List Msg} (h : NoteGood r) : ∀ m ∈ eventsRel r, m.ty = .noteOn → m.vel ≠ pyNone := by
  intro e he hty
  obtain ⟨m, hm, -, t0, rfl⟩ := eventsRelGo_src r 0 e he
  exact h.vel m hm hty

theorem noteGood_of_sep (r : List Msg) (hok : OkRel r) (hn : ∀ m ∈ r, m.ty ≠ .wait → m.time = pyNone) (hwf : WF r)
    (hpos : C15.PosDur (eventsRel r)) (hvel : ∀ m ∈ r, m.ty = .noteOn → m.vel ≠ pyNone)
    (hsep : C12n.NoCrossChannelClash (notesOf (eventsRel r))) : NoteGood r :=
  have hK : ∀ k, goodFrom k none (eventsRel r) := good_of_wf _ (wf_events r hwf) hpos
  ⟨⟨hok.1, hn⟩, hK, mono_good (eventsRel r) (events_sorted r 0 hok.1) hK hsep, hvel⟩

/-- **notes**: the notes of loaded sequence `i` are those of saved sequence `i`, relabelled to channel 0 -/
theorem notes_core (pp : Int) (hp : 0 < pp) (rels : List (List Msg)) (hS : ∀ r ∈ rels, NoteGood r) (out : List Seq)
    (h : saveLoad pp rels = .ok out)
    (i : Nat) (r : List Msg) (s s' : Seq) (a : List Msg) (hr : rels[i]? = some r) (ho : out[i]? = some s)
    (ha : s.readAbs = Except.ok (s', a)) :
    (notesOf (eventsAbs a)).Perm ((notesOf (eventsRel r)).map (fun n => { n with ch := 0 })) := by
  have hproj := saved_proj pp hp rels (fun r hr => (hS r hr).loaded) out h i r s s' a hr ho ha
  have h1 := notesOf_perm_of_proj (eventsAbs a) ((eventsRel r).filterMap noteOf)
    (fun k => by rw [P_eventsAbs]; exact hproj k)
  have hG := hS r (List.mem_of_getElem? hr)
  rw [notesOf_noteOf _ hG.good hG.monoGood hG.evVel] at h1
  exact h1

theorem noteOn_iff_note (x : List Msg) (hwf : WF x) (p t v : Int) :
    (∃ m ∈ x, m.ty = .noteOn ∧ m.note = p ∧ m.time = t ∧ m.vel = v) ↔
      ∃ n ∈ notesOf x, n.pitch = p ∧ n.on = t ∧ n.vel = v := by
  constructor
  · rintro ⟨m, hm, hon, rfl, rfl, rfl⟩
    obtain ⟨n, hn, he⟩ := List.mem_map.1 ((NotesBL.notes_ons x hwf _).2 ⟨m, hm, hon, rfl⟩)
    simp only [NotesBL.onAttr, Prod.mk.injEq] at he
    exact ⟨n, hn, he.2.1, he.2.2.1, he.2.2.2⟩
  · rintro ⟨n, hn, rfl, rfl, rfl⟩
    obtain ⟨m, hm, hon, he⟩ := (NotesBL.notes_ons x hwf (NotesBL.onAttr n)).1 (List.mem_map_of_mem hn)
    simp only [NotesBL.onAttr, Prod.mk.injEq] at he
    exact ⟨m, hm, hon, he.2.1, he.2.2.1, he.2.2.2⟩

/-- **velocities**: the note-ons of loaded sequence `i` are those of saved sequence `i` (pitch, tick, velocity): on both
    sides they are the onsets of the notes -/
theorem note_ons_core (pp : Int) (hp : 0 < pp) (rels : List (List Msg)) (hS : ∀ r ∈ rels, NoteGood r) (out : List Seq)
    (h : saveLoad pp rels = .ok out)
    (i : Nat) (r : List Msg) (s s' : Seq) (a : List Msg) (hr : rels[i]? = some r) (ho : out[i]? = some s)
    (ha : s.readAbs = Except.ok (s', a)) (p t v : Int) :
    (∃ m ∈ eventsAbs a, m.ty = .noteOn ∧ m.note = p ∧ m.time = t ∧ m.vel = v) ↔
    (∃ m ∈ eventsRel r, m.ty = .noteOn ∧ m.note = p ∧ m.time = t ∧ m.vel = v) := by
  have hG := hS r (List.mem_of_getElem? hr)
  have hproj := saved_proj pp hp rels (fun r hr => (hS r hr).loaded) out h i r s s' a hr ho ha
  -- per key the loaded list is the loaded track, which is well-formed
  have hwf : WF (eventsAbs a) := fun k => by
    rw [← altFrom_filter_kn]
    show altFrom k false (P k (eventsAbs a))
    rw [P_eventsAbs, hproj k]
    exact (altFrom_filter_kn k _ false).2 (alt_of_good k _ none (hG.loaded.2 k))
  have hperm := notes_core pp hp rels hS out h i r s s' a hr ho ha
  rw [noteOn_iff_note _ hwf, noteOn_iff_note _ (wf_of_good _ hG.good)]
  constructor
  · rintro ⟨n, hn, hn'⟩
    obtain ⟨n0, hn0, rfl⟩ := List.mem_map.1 (hperm.mem_iff.1 hn)
    exact ⟨n0, hn0, hn'⟩
  · rintro ⟨n0, hn0, hn'⟩
    exact ⟨_, hperm.mem_iff.2 (List.mem_map_of_mem hn0), hn'⟩

/-- **sounding set**: loaded sequence `i` sounds pitch `p` (on channel 0) exactly when saved sequence `i`
    sounded it on some channel -/
theorem sounding_core (pp : Int) (hp : 0 < pp) (rels : List (List Msg)) (hS : ∀ r ∈ rels, NoteGood r) (out : List Seq)
    (h : saveLoad pp rels = .ok out)
    (i : Nat) (r : List Msg) (s s' : Seq) (a : List Msg) (hr : rels[i]? = some r) (ho : out[i]? = some s)
    (ha : s.readAbs = Except.ok (s', a)) (p t : Int) :
    SoundingAt (eventsAbs a) (0, p) t ↔ ∃ c, SoundingAt (eventsRel r) (c, p) t := by
  have hG := hS r (List.mem_of_getElem? hr)
  have hproj := saved_proj pp hp rels (fun r hr => (hS r hr).loaded) out h i r s s' a hr ho ha
  rw [sounding_proj (eventsAbs a) ((eventsRel r).filterMap noteOf) (0, p) t (by rw [P_eventsAbs]; exact hproj _)]
  exact sounding_noteOf _ (events_sorted r 0 hG.timed.1) hG.good hG.monoGood hG.evVel p t

end SCoda.MidiSave

namespace SCoda.C13
open SCoda

theorem Saved.noteGood {r : List Msg} (h : Saved r) : MidiSave.NoteGood r := by
  obtain ⟨c0, hc0⟩ := h.oneCh
  exact MidiSave.noteGood_of_sep r h.ok h.noTime h.wf h.pos (fun m hm hon => (h.vel m hm hon).1)
    (C12NarrowL.noClash_rel_oneCh r c0 hc0)

end SCoda.C13
