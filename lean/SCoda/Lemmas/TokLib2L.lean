/-
  Facts about the Python built-ins of Model/TokLib2.lean (`set(l)` ↦ `pySetInt`, `sorted(s)` ↦ `pySortedInt`) and of
  `list.sort()` ↦ `pySortInt` (Model/TokLib.lean), used by Props/TokTie.lean (`tokInit_nodup`): the specification of
  `sorted(set(l))` on ints, written independently of the two functions:

      the result is strictly ascending (so duplicate free), and it has exactly the elements of `l`.

  `l.sort()` (`pySortInt`) is the stable insertion sort of Model/Sort.lean by `<`, run from the right (`pySortInt_eq`); that it sorts
  and permutes is read off Lemmas/Sort.lean.
-/
import SCoda.Model.TokLib2
import SCoda.Lemmas.Sort
namespace SCoda.TokLib2L
open SCoda SCoda.TokLib

theorem mem_pySetInt (l : List Int) (a : Int) : a ∈ pySetInt l ↔ a ∈ l := by
  induction l generalizing a with
  | nil => simp [pySetInt]
  | cons x xs ih =>
    unfold pySetInt
    split
    · rename_i h
      have hx : x ∈ xs := (ih x).1 (List.contains_iff_mem.1 h)
      rw [ih, List.mem_cons]
      exact ⟨Or.inr, fun h => h.elim (· ▸ hx) id⟩
    · simp only [List.mem_cons, ih]

theorem pySetInt_nodup (l : List Int) : (pySetInt l).Nodup := by
  induction l with
  | nil => simp [pySetInt]
  | cons x xs ih =>
    unfold pySetInt
    by_cases h : (pySetInt xs).contains x = true
    · rw [if_pos h]; exact ih
    · rw [if_neg h]
      exact List.nodup_cons.2 ⟨fun hm => h (List.contains_iff_mem.2 hm), ih⟩

/-- on a duplicate-free list `set` keeps everything, in order (the representation; a Python set has no order) -/
theorem pySetInt_of_nodup (l : List Int) (h : l.Nodup) : pySetInt l = l := by
  induction l with
  | nil => rfl
  | cons x xs ih =>
    have hx := List.nodup_cons.1 h
    unfold pySetInt
    rw [ih hx.2, if_neg (fun hc => hx.1 (List.contains_iff_mem.1 hc))]

theorem insertInt_eq (x : Int) : ∀ l, insertInt x l = ins (fun a b => decide (a < b)) x l
  | [] => rfl
  | y :: ys => by simp only [insertInt, ins, insertInt_eq x ys, decide_eq_true_eq]

theorem pySortInt_eq (l : List Int) : pySortInt l = isort (fun a b => decide (a < b)) l.reverse := by
  have h : ∀ l : List Int, isort (fun a b => decide (a < b)) l = pySortInt l.reverse := by
    intro l
    induction l with
    | nil => rfl
    | cons x xs ih => rw [isort, ih, ← insertInt_eq, List.reverse_cons]; simp [pySortInt]
  rw [h, List.reverse_reverse]

theorem pySortInt_perm (l : List Int) : (pySortInt l).Perm l :=
  pySortInt_eq l ▸ (isort_perm _ _).trans l.reverse_perm

theorem pySortInt_sorted (l : List Int) : (pySortInt l).Pairwise (· ≤ ·) :=
  pySortInt_eq l ▸ isort_pairwise _ (· ≤ ·) (fun a b h => by simp at h; omega) (fun a b h => by simp at h; omega)
    (fun h1 h2 => Int.le_trans h1 h2) _
theorem pySortInt_nodup (l : List Int) (h : l.Nodup) : (pySortInt l).Nodup :=
  (pySortInt_perm l).nodup_iff.2 h

theorem pySortInt_strict (l : List Int) (h : l.Nodup) : (pySortInt l).Pairwise (· < ·) :=
  ((pySortInt_sorted l).and (pySortInt_nodup l h)).imp fun h => by omega

theorem mem_sorted_set (l : List Int) (a : Int) : a ∈ pySortedInt (pySetInt l) ↔ a ∈ l := by
  unfold pySortedInt
  rw [(pySortInt_perm _).mem_iff, mem_pySetInt]

theorem sorted_set_strict (l : List Int) : (pySortedInt (pySetInt l)).Pairwise (· < ·) :=
  pySortInt_strict _ (pySetInt_nodup l)

theorem sorted_set_nodup (l : List Int) : (pySortedInt (pySetInt l)).Nodup :=
  pySortInt_nodup _ (pySetInt_nodup l)

/-- two strictly ascending lists with the same elements are equal: the two facts above determine `sorted(set(l))`, and in
    particular the result does not depend on the order in which the set hands its elements to `sorted` -/
theorem strict_ext (l₁ l₂ : List Int) (h₁ : l₁.Pairwise (· < ·)) (h₂ : l₂.Pairwise (· < ·))
    (hm : ∀ a, a ∈ l₁ ↔ a ∈ l₂) : l₁ = l₂ :=
  List.Perm.eq_of_pairwise (le := (· < ·)) (fun a b _ _ hab hba => by omega) h₁ h₂
    ((List.perm_ext_iff_of_nodup (h₁.imp Int.ne_of_lt) (h₂.imp Int.ne_of_lt)).2 hm)

/-- the order of the set's elements is irrelevant to `sorted`: any arrangement of the same distinct elements sorts to the same list -/
theorem pySortedInt_perm (s₁ s₂ : List Int) (h : s₁.Perm s₂) (hn : s₁.Nodup) : pySortedInt s₁ = pySortedInt s₂ := by
  unfold pySortedInt
  refine strict_ext _ _ (pySortInt_strict _ hn) (pySortInt_strict _ (h.nodup_iff.1 hn)) ?_
  intro a
  rw [(pySortInt_perm _).mem_iff, (pySortInt_perm _).mem_iff, h.mem_iff]

/-- on input that is already duplicate free the repaired constructor stores what the old one (`l.sort()`) stored -/
theorem sorted_set_of_nodup (l : List Int) (h : l.Nodup) : pySortedInt (pySetInt l) = pySortInt l := by
  rw [pySetInt_of_nodup l h]; rfl

end SCoda.TokLib2L
