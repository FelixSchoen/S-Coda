/-
  `convert` (the MIDI loader) in closed form, for every file, grouping, meta selection and target: the first loop
  leaves in slot `(gi, pos)` the time-ordered note messages of track `groups[gi][pos]` when that slot is the track's
  first occurrence in the grouping, and in the meta sequence the time-ordered meta messages of all considered
  tracks; the group loop and `finish` are then equations (`loadSpec`, `convert_eq_spec`).  Nothing is assumed of the
  delta times: slot and meta contents are `foldl insort []` of what was sent.
-/
import SCoda.Model.Midi
import SCoda.Lemmas.ModifyAt
import SCoda.Lemmas.Sort
import SCoda.Lemmas.PyLoop
namespace SCoda.MidiL
open SCoda

theorem readAbs_fresh (s : Seq) (h : s.absStale = false) : s.readAbs = .ok (s, s.abs) := by
  simp [Seq.readAbs, h]

theorem addAbsMsg_fresh (s : Seq) (m : Msg) (h : s.absStale = false) :
    s.addAbsMsg m = .ok { s with abs := insort s.abs m, relStale := true } := by
  simp [Seq.addAbsMsg, Seq.onAbs, readAbs_fresh s h, bind, Except.bind]

/-- one group: normalise every member, merge the rest into the first -/
def groupStep (acc : List Seq) (g : List Seq) : Except Err (List Seq) := do
  let g ← foldlM' (fun (a : List Seq) q => do let q' ← q.normaliseSeq; .ok (a ++ [q'])) [] g
  match g with
  | [] => .error .indexError
  | t :: rest =>
    let restAbs ← foldlM' (fun (a : List (List Msg)) q => do let (_, x) ← q.readAbs; .ok (a ++ [x])) [] rest
    let t' ← t.mergeSeq restAbs
    .ok (acc ++ [t'])

/-- one group of `convert`: every sequence normalised, the rest merged into the first; the group as it is left, and the merged head -/
def groupSlot (g : List Seq) : Except Err (List Seq × Seq) := do
  let g' ← g.mapM Seq.normaliseSeq
  match g' with
  | [] => .error .indexError
  | t :: rest => do
    let abss ← rest.mapM fun q => (·.2) <$> q.readAbs
    let t' ← t.mergeSeq abss
    pure (t' :: rest, t')

theorem groupStep_slot (acc : List Seq) (g : List Seq) :
    groupStep acc g = (do let t ← (·.2) <$> groupSlot g; .ok (acc ++ [t])) := by
  unfold groupStep
  simp only [foldlM'_collect, groupSlot]
  cases g.mapM Seq.normaliseSeq with
  | error x => rfl
  | ok g' =>
    simp only [Except.map, List.nil_append, ok_bind]
    cases g' with
    | nil => rfl
    | cons t rest =>
      have h := foldlM'_collect (fun q : Seq => (·.2) <$> q.readAbs) rest []
      simp only [bind_map_left] at h
      simp only [h]
      cases rest.mapM (fun q : Seq => (·.2) <$> q.readAbs) with
      | error x => rfl
      | ok abss => simp only [Except.map, List.nil_append, ok_bind]; cases t.mergeSeq abss <;> rfl

theorem groups_fold (acc : List Seq) (S : List (List Seq)) :
    foldlM' groupStep acc S = (S.mapM fun g => (·.2) <$> groupSlot g).map (acc ++ ·) := by
  rw [show groupStep = _ from funext fun acc => funext fun g => groupStep_slot acc g, foldlM'_collect]

/-- the part of `convert` after the groups are merged -/
def finish (s : ConvSt) (merged : List Seq) (target : Int) : Except Err (List Seq) := do
  if target < 0 || target >= merged.length then throw .valueError
  let ti := target.toNat
  match merged[ti]? with
  | Option.none => .error .valueError
  | some mt =>
    let (_, ma) ← s.metaSeq.readAbs
    let mt ← mt.mergeSeq [ma]
    let (mt, a) ← mt.readAbs
    let hasTs0 := (timesOfType .timeSignature a).any (fun m => m.time == 0)
    let mt ← if hasTs0 then .ok mt else mt.addAbsMsg (Msg.mkTimeSig (s.defCh.getD 0) 4 4 0)
    .ok (modifyAt (fun _ => mt) ti merged)

theorem convert_eq (ppqn filePpq : Int) (tracks : List (List MidiEv)) (groups : List (List Nat))
    (metaIdx : List Nat) (target : Int) :
    convert ppqn filePpq tracks groups metaIdx target =
      (do let s ← foldlM' (convTrack ppqn filePpq groups metaIdx)
                    { seqs := groups.map (fun g => g.map (fun _ => Seq.new)) } tracks.zipIdx
          let merged ← foldlM' groupStep [] s.seqs
          finish s merged target) := rfl

theorem convEvent_spec (b : Bool) (e : MidiEv) (rt : Int) (d : Bool) (m : Msg) (h : convEvent b e rt = some (d, m)) :
    m.time = rt ∧ m.ty = e.ty ∧
    (d = true → e.ty = .timeSignature ∨ e.ty = .keySignature ∨ e.ty = .controlChange) ∧
    (d = false → ((e.ty = .noteOn ∨ e.ty = .noteOff) ∧ b = true) ∨ e.ty = .programChange) := by
  unfold convEvent at h
  cases hty : e.ty <;> simp only [hty] at h <;> (try cases b) <;>
    simp [Msg.mkOn, Msg.mkOff, Msg.mkTimeSig] at h <;> (obtain ⟨rfl, rfl⟩ := h; simp)

theorem convMsg_snd (ppqn filePpq : Int) (loc : Option (Nat × Nat)) (acc : ConvSt × Int) (m : MidiEv)
    (r : ConvSt × Int) (h : convMsg ppqn filePpq loc acc m = .ok r) :
    r.2 = acc.2 + m.time := by
  unfold convMsg at h
  simp only at h
  split at h
  · split at h <;> simp at h; rw [← h]
  · split at h <;> simp at h; rw [← h]
  · simp at h; rw [← h]
theorem foldlM'_idx {α β} (f : β → α → Except Err β) (l : List α) : ∀ (Inv : Nat → β → Prop)
    (_ : ∀ n (hn : n < l.length) b, Inv n b → ∃ b', f b l[n] = .ok b' ∧ Inv (n + 1) b') (b0 : β) (_ : Inv 0 b0),
    ∃ r, foldlM' f b0 l = .ok r ∧ Inv l.length r := by
  induction l with
  | nil => intro Inv _ b0 h0; exact ⟨b0, rfl, h0⟩
  | cons x xs ih =>
    intro Inv hstep b0 h0
    obtain ⟨b', hb', hi'⟩ := hstep 0 (by simp) b0 h0
    obtain ⟨r, hr, hir⟩ := ih (fun n b => Inv (n + 1) b)
      (fun n hn b hb => hstep (n + 1) (by simpa using hn) b hb) b' hi'
    refine ⟨r, ?_, hir⟩
    simp only [List.getElem_cons_zero] at hb'
    simp only [foldlM', hb', hr]

/-- a sequence whose relative view is the normalised conversion of `a` (absolute view stale) -/
def nz (a : List Msg) : Seq := { abs := a, rel := normalise (toRel a), absStale := true, relStale := false }

theorem addAbsMsg_ofAbs (a : List Msg) (m : Msg) : (Seq.ofAbs a).addAbsMsg m = .ok (Seq.ofAbs (insort a m)) := by
  rw [addAbsMsg_fresh _ _ rfl]; rfl

theorem normaliseSeq_ofAbs (a : List Msg) : (Seq.ofAbs a).normaliseSeq = .ok (nz a) := by
  simp [Seq.normaliseSeq, Seq.onRel, Seq.readRel, Seq.ofAbs, nz, bind, Except.bind]

theorem readAbs_regen (s : Seq) (h1 : s.absStale = true) (h2 : s.relStale = false) :
    s.readAbs = .ok ({ s with abs := toAbs s.rel, absStale := false }, toAbs s.rel) := by
  simp [Seq.readAbs, h1, h2]

theorem mergeSeq_stale (s : Seq) (o : List (List Msg)) (h1 : s.absStale = true) (h2 : s.relStale = false) :
    s.mergeSeq o = .ok (nz (mergeAbs (toAbs s.rel) o)) := by
  simp [Seq.mergeSeq, Seq.onAbs, readAbs_regen s h1 h2, Seq.normaliseSeq, Seq.onRel, Seq.readRel, nz,
    bind, Except.bind]

/-- what `normalise` then `abs` makes of an absolute view -/
def V (a : List Msg) : List Msg := toAbs (normalise (toRel a))

theorem find_zipIdx (i : Nat) : ∀ (groups : List (List Nat)) (k : Nat),
    (groups.zipIdx k).find? (fun g => g.1.contains i) =
      (groups.find? (fun g => g.contains i)).map (fun g => (g, k + groups.idxOf g)) := by
  intro groups
  induction groups with
  | nil => intro k; rfl
  | cons g gs ih =>
    intro k
    rw [List.zipIdx_cons, List.find?_cons, List.find?_cons]
    by_cases hg : g.contains i = true
    · simp only [hg, Option.map_some, List.idxOf_cons_self, Nat.add_zero]
    · simp only [hg, ih (k + 1)]
      cases hf : gs.find? (fun g => g.contains i) with
      | none => rfl
      | some g' =>
        have hg' : g'.contains i = true := by
          have := List.find?_some hf
          simpa using this
        have hne : (g == g') = false := by
          cases h : g == g' with
          | false => rfl
          | true => have : g = g' := by simpa using h
                    subst this; exact absurd hg' hg
        simp only [Option.map_some, List.idxOf_cons, hne, cond_false, Option.some.injEq, Prod.mk.injEq, true_and]
        omega

theorem firstGroupOf_eq (groups : List (List Nat)) (i : Nat) :
    firstGroupOf groups i = (groups.find? (fun g => g.contains i)).map (fun g => (groups.idxOf g, g.idxOf i)) := by
  unfold firstGroupOf
  rw [find_zipIdx i groups 0]
  cases groups.find? (fun g => g.contains i) <;> simp

theorem firstGroupOf_iff (groups : List (List Nat)) (i gi pos : Nat) :
    firstGroupOf groups i = some (gi, pos) ↔
      ∃ g, groups[gi]? = some g ∧ i ∈ g ∧ pos = g.idxOf i ∧
        ∀ j g', j < gi → groups[j]? = some g' → i ∉ g' := by
  -- the first group containing `i` sits at its own first index: no earlier group equals it
  have hidx : ∀ k (hk : k < groups.length), groups[k].contains i = true →
      (∀ j (hj : j < k), (!groups[j].contains i) = true) → groups.idxOf groups[k] = k := by
    intro k hk hc hmin
    refine (List.findIdx_eq hk).2 ⟨by simp, fun j hj => ?_⟩
    have hne : groups[j] ≠ groups[k] := fun e => by have := hmin j hj; rw [e, hc] at this; cases this
    simpa using hne
  rw [firstGroupOf_eq, Option.map_eq_some_iff]
  constructor
  · rintro ⟨g, hf, heq⟩
    obtain ⟨hp, k, hk, rfl, hmin⟩ := List.find?_eq_some_iff_getElem.1 hf
    rw [hidx k hk hp hmin] at heq
    cases heq
    refine ⟨_, List.getElem?_eq_getElem hk, by simpa using hp, rfl, fun j g' hj hg' => ?_⟩
    obtain ⟨hj', rfl⟩ := List.getElem?_eq_some_iff.1 hg'
    simpa using hmin j hj
  · rintro ⟨g, h1, h2, rfl, h4⟩
    obtain ⟨hlt, rfl⟩ := List.getElem?_eq_some_iff.1 h1
    have hc : groups[gi].contains i = true := by simpa using h2
    have hmin : ∀ j (hj : j < gi), (!groups[j].contains i) = true := fun j hj => by
      simpa using h4 j _ hj (List.getElem?_eq_getElem (by omega))
    exact ⟨_, List.find?_eq_some_iff_getElem.2 ⟨hc, gi, hlt, rfl, hmin⟩, by rw [hidx gi hlt hc hmin]⟩
theorem firstGroupOf_some (groups : List (List Nat)) (i gi pos : Nat) (h : firstGroupOf groups i = some (gi, pos)) :
    ∃ g, groups[gi]? = some g ∧ g[pos]? = some i := by
  obtain ⟨g, h1, h2, rfl, _⟩ := (firstGroupOf_iff groups i gi pos).1 h
  have hlt : g.idxOf i < g.length := List.idxOf_lt_length_of_mem h2
  exact ⟨g, h1, by rw [List.getElem?_eq_getElem hlt, List.getElem_idxOf hlt]⟩

theorem firstGroupOf_isSome (groups : List (List Nat)) (i : Nat) :
    (firstGroupOf groups i).isSome = groups.flatten.contains i := by
  rw [firstGroupOf_eq, Option.isSome_map, Bool.eq_iff_iff]
  simp [List.find?_isSome]

theorem nodup_group (groups : List (List Nat)) (hnd : groups.flatten.Nodup) :
    ∀ (a b : Nat) (g g' : List Nat) (i : Nat), groups[a]? = some g → groups[b]? = some g' → i ∈ g → i ∈ g' → a = b := by
  intro a b g g' i h1 h2 h3 h4
  -- distinct groups of a duplicate-free grouping share no index
  have hdis := List.pairwise_iff_getElem.1 (List.pairwise_flatten.1 hnd).2
  obtain ⟨ha, rfl⟩ := List.getElem?_eq_some_iff.1 h1
  obtain ⟨hb, rfl⟩ := List.getElem?_eq_some_iff.1 h2
  rcases Nat.lt_trichotomy a b with hlt | heq | hgt
  · exact absurd rfl (hdis a b ha hb hlt i h3 i h4)
  · exact heq
  · exact absurd rfl (hdis b a hb ha hgt i h4 i h3)

theorem addMeta_ofAbs (s : ConvSt) (M : List Msg) (hm : s.metaSeq = Seq.ofAbs M) (m : Msg) :
    s.addMeta m = .ok { s with metaSeq := Seq.ofAbs (insort M m) } := by
  simp [ConvSt.addMeta, hm, addAbsMsg_ofAbs, bind, Except.bind]

/-- the default-channel bookkeeping of `convMsg` -/
def withDefCh (s : ConvSt) (m : MidiEv) : ConvSt :=
  { s with defCh := match s.defCh with
                    | some c => some c
                    | Option.none => if m.ch != pyNone then some m.ch else Option.none }

/-- a sequence with views `R` / `A`, given the default 4/4 when `A` has no time signature at tick 0 -/
def withSig0 (c : Int) (R A : List Msg) : Seq :=
  if (timesOfType .timeSignature A).any (fun m => m.time == 0) then
    { abs := A, rel := R, absStale := false, relStale := false }
  else { abs := insort A (Msg.mkTimeSig c 4 4 0), rel := R, absStale := false, relStale := true }

theorem withSig0_read (c : Int) (R A : List Msg) :
    (withSig0 c R A).readAbs = .ok (withSig0 c R A, (withSig0 c R A).abs) :=
  readAbs_fresh _ (by unfold withSig0; split <;> rfl)

theorem withSig0_abs (c : Int) (R A : List Msg) :
    (withSig0 c R A).abs = if (timesOfType .timeSignature A).any (fun m => m.time == 0) then A
      else insort A (Msg.mkTimeSig c 4 4 0) := by
  unfold withSig0; split <;> rfl

theorem convMsg_eq (ppqn filePpq : Int) (loc : Option (Nat × Nat)) (s : ConvSt) (ticks : Int) (m : MidiEv) :
    convMsg ppqn filePpq loc (s, ticks) m =
      (match convEvent loc.isSome m (roundHalfEven (((ticks + m.time : Int) : Rat) * (ppqn : Rat) / (filePpq : Rat))) with
       | some (true, msg) =>
         match (withDefCh s m).addMeta msg with | .ok s => .ok (s, ticks + m.time) | .error e => .error e
       | some (false, msg) =>
         match (withDefCh s m).addCur loc msg with | .ok s => .ok (s, ticks + m.time) | .error e => .error e
       | Option.none => .ok (withDefCh s m, ticks + m.time)) := rfl

/-- the sequence at the meta target after `finish` -/
def finSeq (defCh : Option Int) (R1 M : List Msg) : Seq :=
  withSig0 (defCh.getD 0) (normalise (toRel (sortAbs [toAbs R1, M].flatten)))
    (toAbs (normalise (toRel (sortAbs [toAbs R1, M].flatten))))

/-- the lists held by the slots of group `gi` -/
def rowOf (S : Nat → Nat → List Msg) (gi : Nat) (g : List Nat) : List (List Msg) :=
  (List.range g.length).map (S gi)

def rowsOf (groups : List (List Nat)) (S : Nat → Nat → List Msg) : List (List (List Msg)) :=
  groups.zipIdx.map (fun p => rowOf S p.2 p.1)

theorem rowsOf_get (groups : List (List Nat)) (S : Nat → Nat → List Msg) (gi : Nat) :
    (rowsOf groups S)[gi]? = groups[gi]?.map (rowOf S gi) := by
  simp only [rowsOf, List.getElem?_map, List.getElem?_zipIdx]
  cases groups[gi]? <;> simp

/-- the slots of the conversion state when slot `(gi, pos)` holds the list `S gi pos` -/
def grid (groups : List (List Nat)) (S : Nat → Nat → List Msg) : List (List Seq) :=
  (rowsOf groups S).map (fun r => r.map Seq.ofAbs)

theorem grid_get (groups : List (List Nat)) (S : Nat → Nat → List Msg) (gi : Nat) :
    (grid groups S)[gi]? = groups[gi]?.map (fun g => (List.range g.length).map (fun pos => Seq.ofAbs (S gi pos))) := by
  rw [grid, List.getElem?_map, rowsOf_get]
  cases groups[gi]? <;> simp [rowOf]

theorem grid_init (groups : List (List Nat)) :
    groups.map (fun g => g.map (fun _ => Seq.new)) = grid groups (fun _ _ => []) := by
  apply List.ext_getElem?
  intro gi
  rw [grid_get, List.getElem?_map]
  cases groups[gi]? with
  | none => rfl
  | some g => simp only [Option.map_some, List.map_const', List.length_range]; rfl

theorem grid_update (groups : List (List Nat)) (S : Nat → Nat → List Msg) (gi pos : Nat) (g : List Nat)
    (hg : groups[gi]? = some g) (x : List Msg) :
    modifyAt (fun r => modifyAt (fun _ => Seq.ofAbs x) pos r) gi (grid groups S)
      = grid groups (fun a b => if a = gi ∧ b = pos then x else S a b) := by
  apply List.ext_getElem?
  intro a
  rw [getElem?_modifyAt, grid_get, grid_get]
  by_cases hag : a = gi
  · subst hag
    rw [if_pos rfl, hg]
    simp only [Option.map_some, Option.some.injEq]
    apply List.ext_getElem?
    intro b
    rw [getElem?_modifyAt, List.getElem?_map, List.getElem?_map]
    rcases Nat.lt_or_ge b g.length with hb | hb
    · rw [List.getElem?_range hb]
      by_cases hbp : b = pos <;> simp [hbp]
    · rw [List.getElem?_eq_none (by simpa using hb)]
      simp
  · rw [if_neg hag]
    simp only [hag, false_and, if_false]


theorem addCur_grid (groups : List (List Nat)) (s : ConvSt) (S : Nat → Nat → List Msg)
    (hs : s.seqs = grid groups S) (gi pos : Nat) (g : List Nat) (hg : groups[gi]? = some g)
    (hpos : pos < g.length) (m : Msg) :
    s.addCur (some (gi, pos)) m
      = .ok { s with seqs := grid groups (fun a b => if a = gi ∧ b = pos then insort (S gi pos) m else S a b) } := by
  have hl : (s.seqs[gi]?.bind (·[pos]?)) = some (Seq.ofAbs (S gi pos)) := by
    simp [hs, grid_get, hg, hpos]
  unfold ConvSt.addCur
  simp only [hl, addAbsMsg_ofAbs, bind, Except.bind]
  rw [hs, grid_update groups S gi pos g hg]

theorem rowsOf_length (groups : List (List Nat)) (S : Nat → Nat → List Msg) :
    (rowsOf groups S).length = groups.length := by simp [rowsOf]

theorem nil_mem_rowsOf (groups : List (List Nat)) (S : Nat → Nat → List Msg) :
    [] ∈ rowsOf groups S ↔ [] ∈ groups := by
  simp [List.mem_iff_getElem?, rowsOf_get, rowOf, List.length_eq_zero_iff]

/-- the merged sequence of one group, from the lists in its slots -/
def gmergeL (xs : List (List Msg)) : Seq := nz (sortAbs ((xs.map V).flatten))

theorem groupSlot_ofAbs (r : List (List Msg)) :
    (·.2) <$> groupSlot (r.map Seq.ofAbs) = if r = [] then .error .indexError else .ok (gmergeL r) := by
  unfold groupSlot
  rw [List.mapM_map, mapM_eq_map _ nz r fun a _ => by simp only [Function.comp, normaliseSeq_ofAbs]]
  cases r with
  | nil => rfl
  | cons x0 rest =>
    simp only [ok_bind, List.map_cons, List.mapM_map]
    rw [mapM_eq_map _ V rest fun a _ => by simp only [Function.comp, readAbs_regen (nz a) rfl rfl]; rfl]
    simp only [ok_bind, mergeSeq_stale (nz x0) _ rfl rfl]
    simp [gmergeL, mergeAbs, nz, V]
    rfl

theorem groups_foldG (rows : List (List (List Msg))) :
    foldlM' groupStep [] (rows.map (fun r => r.map Seq.ofAbs)) =
      if [] ∈ rows then .error .indexError else .ok (rows.map gmergeL) := by
  -- one group is merged or raises this error (`groupSlot_ofAbs`), so the first failure is this error
  have hm : rows.mapM (fun r => (·.2) <$> groupSlot (r.map Seq.ofAbs)) =
      if [] ∈ rows then .error .indexError else .ok (rows.map gmergeL) := by
    induction rows with
    | nil => rfl
    | cons r rs ih =>
      rw [List.mapM_cons, ih, groupSlot_ofAbs]
      by_cases hr : r = []
      · subst hr; rw [if_pos rfl, if_pos List.mem_cons_self]; rfl
      · by_cases hrs : [] ∈ rs <;> simp [hr, Ne.symm hr, hrs] <;> rfl
  rw [groups_fold, List.mapM_map, Function.comp_def, hm]
  split <;> rfl

theorem finish_rows (s : ConvSt) (rows : List (List (List Msg))) (target : Int) (M : List Msg)
    (hm : s.metaSeq = Seq.ofAbs M) :
    finish s (rows.map gmergeL) target =
      if target < 0 ∨ (rows.length : Int) ≤ target then .error .valueError
      else .ok (modifyAt (fun _ => finSeq s.defCh (gmergeL (rows[target.toNat]?.getD [])).rel M) target.toNat
        (rows.map gmergeL)) := by
  have hc : (decide (target < 0) || decide (target ≥ ((rows.map gmergeL).length : Int)))
      = decide (target < 0 ∨ (rows.length : Int) ≤ target) := by simp
  unfold finish
  rw [hc]
  by_cases hbad : target < 0 ∨ (rows.length : Int) ≤ target
  · rw [if_pos hbad]; simp [hbad]; rfl
  · have hlt : target.toNat < rows.length := by omega
    have hmt : (rows.map gmergeL)[target.toNat]? = some (gmergeL (rows[target.toNat]?.getD [])) := by
      rw [List.getElem?_map, List.getElem?_eq_getElem hlt]; rfl
    generalize rows[target.toNat]?.getD [] = rt at hmt ⊢
    have hr1 : s.metaSeq.readAbs = .ok (Seq.ofAbs M, M) := by rw [hm]; exact readAbs_fresh _ rfl
    have hr2 := mergeSeq_stale (gmergeL rt) [M] rfl rfl
    have hr3 := readAbs_regen (nz (mergeAbs (toAbs (gmergeL rt).rel) [M])) rfl rfl
    rw [if_neg hbad]
    simp only [bind, Except.bind, hbad, decide_false, Bool.false_eq_true, if_false, hmt, hr1, hr2, hr3]
    unfold finSeq withSig0
    simp only [nz, mergeAbs, List.flatten_cons, List.flatten_nil, List.append_nil]
    split
    · rfl
    · rw [addAbsMsg_fresh _ _ rfl]

/-- the events of a track, each at its rounded position (`ticks` = file tick before the first event) -/
def stamp (ppqn filePpq : Int) : Int → List MidiEv → List MidiEv
  | _, [] => []
  | ticks, e :: es =>
    { e with time := roundHalfEven (((ticks + e.time : Int) : Rat) * (ppqn : Rat) / (filePpq : Rat)) }
      :: stamp ppqn filePpq (ticks + e.time) es

/-- what a stamped event of a track that is (`b`) / is not in a group adds to the track's own slot … -/
def toSlot (b : Bool) (e : MidiEv) : Option Msg :=
  match convEvent b e e.time with
  | some (false, m) => if b then some m else none
  | _ => none

/-- … and to the meta sequence (a track outside every group has the meta sequence as its current one) -/
def toMetaSeq (b : Bool) (e : MidiEv) : Option Msg :=
  match convEvent b e e.time with
  | some (true, m) => some m
  | some (false, m) => if b then none else some m
  | none => none

/-- a time or key signature (`E2E.isSig` is the same as a proposition) -/
def isSigB (m : Msg) : Bool := m.ty == .timeSignature || m.ty == .keySignature

/-- the signature / control message a stamped event sends to the meta sequence whatever its track -/
def toMeta (b : Bool) (e : MidiEv) : Option Msg :=
  match convEvent b e e.time with
  | some (true, m) => some m
  | _ => none

theorem toSlot_spec (b : Bool) (e : MidiEv) (m : Msg) (h : toSlot b e = some m) :
    m.time = e.time ∧ (m.ty = .noteOn ∨ m.ty = .noteOff ∨ m.ty = .programChange) := by
  unfold toSlot at h
  split at h
  · rename_i m' hm
    obtain ⟨h1, h2, _, h4⟩ := convEvent_spec _ _ _ _ _ hm
    split at h
    · cases h
      rw [h2]
      rcases h4 rfl with ⟨h | h, _⟩ | h <;> simp [h1, h]
    · cases h
  · cases h

theorem toMetaSeq_spec (b : Bool) (e : MidiEv) (m : Msg) (h : toMetaSeq b e = some m) :
    m.time = e.time ∧ m.ty ≠ .wait ∧ m.ty ≠ .noteOn ∧ m.ty ≠ .noteOff := by
  unfold toMetaSeq at h
  split at h
  · rename_i m' hm
    cases h
    obtain ⟨h1, h2, h3, _⟩ := convEvent_spec _ _ _ _ _ hm
    rw [h2]
    rcases h3 rfl with h | h | h <;> simp [h1, h]
  · rename_i m' hm
    obtain ⟨h1, h2, _, h4⟩ := convEvent_spec _ _ _ _ _ hm
    cases b
    · cases h
      rw [h2]
      rcases h4 rfl with ⟨_, hb⟩ | h
      · cases hb
      · simp [h1, h]
    · cases h
  · cases h

theorem toMetaSeq_sig (b : Bool) (e : MidiEv) (m : Msg) (h : toMetaSeq b e = some m)
    (hs : m.ty = .timeSignature ∨ m.ty = .keySignature) : toMeta b e = some m := by
  unfold toMetaSeq at h
  unfold toMeta
  split at h
  · rename_i m' hm; rw [hm]; exact h
  · rename_i m' hm
    obtain ⟨_, h2, _, h4⟩ := convEvent_spec _ _ _ _ _ hm
    cases b
    · cases h
      rw [h2] at hs
      rcases h4 rfl with ⟨_, hb⟩ | h4
      · cases hb
      · rw [h4] at hs; simp at hs
    · cases h
  · cases h

theorem innerL (ppqn filePpq : Int) (groups : List (List Nat)) (loc : Option (Nat × Nat))
    (hloc : ∀ gi pos, loc = some (gi, pos) → ∃ g, groups[gi]? = some g ∧ pos < g.length) (evs : List MidiEv) :
    ∀ (ticks : Int) (s : ConvSt) (S : Nat → Nat → List Msg) (M : List Msg),
      s.seqs = grid groups S → s.metaSeq = Seq.ofAbs M →
      ∃ s' t', foldlM' (convMsg ppqn filePpq loc) (s, ticks) evs = .ok (s', t')
        ∧ s'.seqs = grid groups (fun a b => if loc = some (a, b)
              then ((stamp ppqn filePpq ticks evs).filterMap (toSlot loc.isSome)).foldl insort (S a b) else S a b)
        ∧ s'.metaSeq = Seq.ofAbs (((stamp ppqn filePpq ticks evs).filterMap (toMetaSeq loc.isSome)).foldl insort M) := by
  induction evs with
  | nil =>
    intro ticks s S M hs hm
    exact ⟨s, ticks, rfl, by simpa [stamp] using hs, hm⟩
  | cons e es ih =>
    intro ticks s S M hs hm
    generalize hrt : roundHalfEven (((ticks + e.time : Int) : Rat) * (ppqn : Rat) / (filePpq : Rat)) = rt
    generalize hs1 : withDefCh s e = s1
    have hs1s : s1.seqs = grid groups S := by subst hs1; exact hs
    have hs1m : s1.metaSeq = Seq.ofAbs M := by subst hs1; exact hm
    have e1 : toSlot loc.isSome { e with time := rt }
        = match convEvent loc.isSome e rt with
          | some (false, m) => if loc.isSome then some m else none
          | _ => none := rfl
    have e2 : toMetaSeq loc.isSome { e with time := rt }
        = match convEvent loc.isSome e rt with
          | some (true, m) => some m
          | some (false, m) => if loc.isSome then none else some m
          | none => none := rfl
    simp only [stamp, hrt, List.filterMap_cons, e1, e2]
    rw [foldlM', convMsg_eq, hrt, hs1]
    -- the three things one event can do: nothing, a message for the meta sequence, a message for the slot
    have toM : ∀ msg, _ := fun msg =>
      ih (ticks + e.time) { s1 with metaSeq := Seq.ofAbs (insort M msg) } S (insort M msg) hs1s rfl
    cases hce : convEvent loc.isSome e rt with
    | none => simpa using ih (ticks + e.time) s1 S M hs1s hs1m
    | some dm =>
      obtain ⟨d, msg⟩ := dm
      cases d with
      | true => simpa [addMeta_ofAbs s1 M hs1m msg] using toM msg
      | false =>
        cases loc with
        | none => simpa [ConvSt.addCur, addMeta_ofAbs s1 M hs1m msg] using toM msg
        | some gp =>
          obtain ⟨gi, pos⟩ := gp
          obtain ⟨g, hg, hpos⟩ := hloc gi pos rfl
          obtain ⟨s', t', h1, h2, h3⟩ := ih (ticks + e.time) _ _ M
            (show ({ s1 with seqs := grid groups _ } : ConvSt).seqs = _ from rfl) hs1m
          refine ⟨s', t', by simpa [addCur_grid groups s1 S hs1s gi pos g hg hpos msg] using h1, ?_, by simpa using h3⟩
          rw [h2]
          congr 1
          funext a b
          by_cases hab : a = gi ∧ b = pos
          · obtain ⟨rfl, rfl⟩ := hab; simp
          · have : ¬ (some (gi, pos) = some (a, b)) := fun h => hab (by cases h; exact ⟨rfl, rfl⟩)
            simp [this, hab]

/-- what track `i` (events `evs`) sends to the meta sequence -/
def metaOf (ppqn filePpq : Int) (groups : List (List Nat)) (metaIdx : List Nat) (i : Nat) (evs : List MidiEv) :
    List Msg :=
  if (firstGroupOf groups i).isNone && !metaIdx.contains i then []
  else (stamp ppqn filePpq 0 evs).filterMap (toMetaSeq (firstGroupOf groups i).isSome)

/-- all messages sent to the meta sequence, in the order they are sent -/
def metaAll (ppqn filePpq : Int) (groups : List (List Nat)) (metaIdx : List Nat) (tz : List (List MidiEv × Nat)) :
    List Msg :=
  tz.flatMap (fun p => metaOf ppqn filePpq groups metaIdx p.2 p.1)

/-- what track `i` leaves in its slot: its note and program-change messages, inserted one by one -/
def slotL (ppqn filePpq : Int) (tracks : List (List MidiEv)) (i : Nat) : List Msg :=
  ((stamp ppqn filePpq 0 (tracks[i]?.getD [])).filterMap (toSlot true)).foldl insort []

/-- the content of slot `(gi, pos)` after the first `n` tracks: `L i` for the track `i = groups[gi][pos]`,
    if that track has been read and `(gi, pos)` is its first occurrence in the grouping -/
def slotN (L : Nat → List Msg) (groups : List (List Nat)) (n gi pos : Nat) : List Msg :=
  match groups[gi]?.bind (·[pos]?) with
  | some i => if i < n ∧ firstGroupOf groups i = some (gi, pos) then L i else []
  | Option.none => []

theorem slotN_succ (L : Nat → List Msg) (groups : List (List Nat)) (n gi pos : Nat) :
    slotN L groups (n + 1) gi pos = if firstGroupOf groups n = some (gi, pos) then L n else slotN L groups n gi pos := by
  have hidx : firstGroupOf groups n = some (gi, pos) → groups[gi]?.bind (·[pos]?) = some n := by
    intro hfg
    obtain ⟨g, hg, hp⟩ := firstGroupOf_some groups n gi pos hfg
    simp [hg, hp]
  unfold slotN
  by_cases hfg : firstGroupOf groups n = some (gi, pos)
  · simp [hidx hfg, hfg]
  · rw [if_neg hfg]
    cases hi : groups[gi]?.bind (·[pos]?) with
    | none => rfl
    | some i =>
      by_cases hin : i = n
      · subst hin; simp [hfg]
      · have : i < n + 1 ↔ i < n := by omega
        simp only [this]

/-- the final content of slot `(gi, pos)` -/
abbrev slotF (ppqn filePpq : Int) (tracks : List (List MidiEv)) (groups : List (List Nat)) : Nat → Nat → List Msg :=
  slotN (slotL ppqn filePpq tracks) groups tracks.length

theorem slotF_eq (ppqn filePpq : Int) (tracks : List (List MidiEv)) (groups : List (List Nat)) (gi pos i : Nat)
    (g : List Nat) (hg : groups[gi]? = some g) (hgp : g[pos]? = some i) :
    slotF ppqn filePpq tracks groups gi pos =
      if firstGroupOf groups i = some (gi, pos) then slotL ppqn filePpq tracks i else [] := by
  have hb : groups[gi]?.bind (·[pos]?) = some i := by simp [hg, hgp]
  simp only [slotF, slotN, hb]
  by_cases hlt : i < tracks.length
  · simp [hlt]
  · have : slotL ppqn filePpq tracks i = [] := by
      simp [slotL, List.getElem?_eq_none (Nat.le_of_not_lt hlt), stamp]
    simp [hlt, this]

/-- the lists the groups are merged from -/
abbrev rowsF (ppqn filePpq : Int) (tracks : List (List MidiEv)) (groups : List (List Nat)) : List (List (List Msg)) :=
  rowsOf groups (slotF ppqn filePpq tracks groups)

theorem mem_rowsF (ppqn filePpq : Int) (tracks : List (List MidiEv)) (groups : List (List Nat)) (gi : Nat)
    (r : List (List Msg)) (hr : (rowsF ppqn filePpq tracks groups)[gi]? = some r) (x : List Msg) (hx : x ∈ r) :
    x = [] ∨ ∃ i pos, firstGroupOf groups i = some (gi, pos) ∧ x = slotL ppqn filePpq tracks i := by
  rw [rowsOf_get] at hr
  obtain ⟨g, hg, rfl⟩ := Option.map_eq_some_iff.1 hr
  obtain ⟨pos, hpos, rfl⟩ := List.mem_map.1 hx
  have hpos : pos < g.length := List.mem_range.1 hpos
  rw [slotF_eq ppqn filePpq tracks groups gi pos g[pos] g hg (List.getElem?_eq_getElem hpos)]
  split
  · rename_i hfg; exact Or.inr ⟨_, pos, hfg, rfl⟩
  · exact Or.inl rfl

theorem slotL_mem_rowsF (ppqn filePpq : Int) (tracks : List (List MidiEv)) (groups : List (List Nat)) (i gi pos : Nat)
    (h : firstGroupOf groups i = some (gi, pos)) :
    ∃ r, (rowsF ppqn filePpq tracks groups)[gi]? = some r ∧ slotL ppqn filePpq tracks i ∈ r := by
  obtain ⟨g, hg, hgp⟩ := firstGroupOf_some groups i gi pos h
  refine ⟨_, by rw [rowsOf_get, hg]; rfl, List.mem_map.2 ⟨pos, List.mem_range.2 (List.getElem?_eq_some_iff.1 hgp).1, ?_⟩⟩
  rw [slotF_eq ppqn filePpq tracks groups gi pos i g hg hgp, if_pos h]

/-- the meta sequence's list -/
abbrev metaF (ppqn filePpq : Int) (tracks : List (List MidiEv)) (groups : List (List Nat)) (metaIdx : List Nat) :
    List Msg :=
  (metaAll ppqn filePpq groups metaIdx tracks.zipIdx).foldl insort []

theorem mem_metaAll (ppqn filePpq : Int) (tracks : List (List MidiEv)) (groups : List (List Nat)) (metaIdx : List Nat)
    (m : Msg) (hm : m ∈ metaAll ppqn filePpq groups metaIdx tracks.zipIdx) :
    ∃ i evs, tracks[i]? = some evs ∧ ((firstGroupOf groups i).isNone && !metaIdx.contains i) = false
      ∧ ∃ e ∈ stamp ppqn filePpq 0 evs, toMetaSeq (firstGroupOf groups i).isSome e = some m := by
  simp only [metaAll, List.mem_flatMap] at hm
  obtain ⟨⟨evs, i⟩, hp', hm⟩ := hm
  refine ⟨i, evs, List.mem_zipIdx_iff_getElem?.1 hp', ?_⟩
  simp only [metaOf] at hm
  split at hm
  · cases hm
  · rename_i hcons
    exact ⟨by simpa using hcons, List.mem_filterMap.1 hm⟩

theorem tracksAll (ppqn filePpq : Int) (tracks : List (List MidiEv)) (groups : List (List Nat)) (metaIdx : List Nat) :
    ∃ s, foldlM' (convTrack ppqn filePpq groups metaIdx)
        { seqs := groups.map (fun g => g.map (fun _ => Seq.new)) } tracks.zipIdx = .ok s
      ∧ s.seqs = (rowsF ppqn filePpq tracks groups).map (fun r => r.map Seq.ofAbs)
      ∧ s.metaSeq = Seq.ofAbs (metaF ppqn filePpq tracks groups metaIdx) := by
  have := foldlM'_idx (convTrack ppqn filePpq groups metaIdx) tracks.zipIdx
    (fun n s => s.seqs = grid groups (slotN (slotL ppqn filePpq tracks) groups n)
      ∧ s.metaSeq = Seq.ofAbs ((metaAll ppqn filePpq groups metaIdx (tracks.zipIdx.take n)).foldl insort []))
    (by
      intro n hn s ⟨hs, hm⟩
      have hn' : n < tracks.length := by simpa using hn
      have hx : tracks.zipIdx[n] = (tracks[n], n) := by simp
      have htake : metaAll ppqn filePpq groups metaIdx (tracks.zipIdx.take (n + 1))
          = metaAll ppqn filePpq groups metaIdx (tracks.zipIdx.take n)
            ++ metaOf ppqn filePpq groups metaIdx n tracks[n] := by
        unfold metaAll
        rw [List.take_add_one, List.getElem?_eq_getElem hn, hx]
        simp
      rw [hx, htake, List.foldl_append]
      unfold convTrack metaOf
      simp only
      split
      · rename_i hskip
        have hnone : firstGroupOf groups n = Option.none := by
          cases h : firstGroupOf groups n <;> simp [h] at hskip ⊢
        refine ⟨s, rfl, ?_, hm⟩
        rw [hs]
        congr 1
        funext gi pos
        rw [slotN_succ, hnone]; simp
      · obtain ⟨s', t', h1, h2, h4⟩ := innerL ppqn filePpq groups (firstGroupOf groups n)
          (fun gi pos h => by
            obtain ⟨g, hg, hp⟩ := firstGroupOf_some groups n gi pos h
            refine ⟨g, hg, ?_⟩
            rcases Nat.lt_or_ge pos g.length with h | h
            · exact h
            · rw [List.getElem?_eq_none h] at hp; simp at hp) tracks[n] 0 s _ _ hs hm
        refine ⟨s', by simp [h1], ?_, h4⟩
        rw [h2]
        congr 1
        funext gi pos
        rw [slotN_succ]
        split
        · rename_i hloc
          have e1 : slotN (slotL ppqn filePpq tracks) groups n gi pos = [] := by
            obtain ⟨g, hg, hp⟩ := firstGroupOf_some groups n gi pos hloc
            simp [slotN, hg, hp]
          simp [hloc, e1, slotL, hn']
        · rfl)
    { seqs := groups.map (fun g => g.map (fun _ => Seq.new)) }
    ⟨(grid_init groups).trans (congrArg (grid groups) (funext fun gi => funext fun pos => by
        cases hi : groups[gi]?.bind (·[pos]?) <;> simp [slotN, hi])), by simp [metaAll]; rfl⟩
  obtain ⟨r, hr, hs, hm⟩ := this
  simp only [List.length_zipIdx] at hs hm
  exact ⟨r, hr, hs, by rw [hm, List.take_of_length_le (by simp)]⟩
/-- what `convert` computes from the slot lists `rows` and the meta list `M`; `d` is the first channel met -/
def loadSpec (d : Option Int) (groups : List (List Nat)) (rows : List (List (List Msg))) (M : List Msg) (target : Int) :
    Except Err (List Seq) :=
  if [] ∈ groups then .error .indexError
  else if target < 0 ∨ (groups.length : Int) ≤ target then .error .valueError
  else .ok (modifyAt (fun _ => finSeq d (gmergeL (rows[target.toNat]?.getD [])).rel M) target.toNat (rows.map gmergeL))

theorem convert_eq_spec (ppqn filePpq : Int) (tracks : List (List MidiEv)) (groups : List (List Nat))
    (metaIdx : List Nat) (target : Int) :
    ∃ d, convert ppqn filePpq tracks groups metaIdx target
      = loadSpec d groups (rowsF ppqn filePpq tracks groups) (metaF ppqn filePpq tracks groups metaIdx) target := by
  obtain ⟨s, hfold, hseqs, hm⟩ := tracksAll ppqn filePpq tracks groups metaIdx
  refine ⟨s.defCh, ?_⟩
  rw [convert_eq, hfold, ok_bind, hseqs, groups_foldG, loadSpec]
  simp only [nil_mem_rowsOf]
  split
  · rfl
  · rw [ok_bind, finish_rows s _ target _ hm, rowsOf_length]

theorem convert_outcome (ppqn filePpq : Int) (tracks : List (List MidiEv)) (groups : List (List Nat))
    (metaIdx : List Nat) (target : Int) :
    ((∃ g ∈ groups, g = []) → convert ppqn filePpq tracks groups metaIdx target = .error .indexError)
    ∧ ((∀ g ∈ groups, g ≠ []) → (target < 0 ∨ (groups.length : Int) ≤ target) →
        convert ppqn filePpq tracks groups metaIdx target = .error .valueError)
    ∧ ((∀ g ∈ groups, g ≠ []) → 0 ≤ target → target < (groups.length : Int) →
        ∃ out, convert ppqn filePpq tracks groups metaIdx target = .ok out ∧ out.length = groups.length) := by
  obtain ⟨d, h⟩ := convert_eq_spec ppqn filePpq tracks groups metaIdx target
  rw [h, loadSpec]
  refine ⟨fun ⟨g, hg, e⟩ => if_pos (e ▸ hg), fun hne hbad => ?_, fun hne h0 h1 => ?_⟩
  · rw [if_neg (fun h => hne [] h rfl), if_pos hbad]
  · rw [if_neg (fun h => hne [] h rfl), if_neg (by omega)]
    exact ⟨_, rfl, by rw [length_modifyAt, List.length_map, rowsOf_length]⟩

theorem convert_ok_spec (ppqn filePpq : Int) (tracks : List (List MidiEv)) (groups : List (List Nat))
    (metaIdx : List Nat) (target : Int) (out : List Seq)
    (h : convert ppqn filePpq tracks groups metaIdx target = .ok out) :
    ∃ d rt, 0 ≤ target ∧ (rowsF ppqn filePpq tracks groups)[target.toNat]? = some rt ∧
      out = modifyAt (fun _ => finSeq d (gmergeL rt).rel (metaF ppqn filePpq tracks groups metaIdx)) target.toNat
              ((rowsF ppqn filePpq tracks groups).map gmergeL) := by
  obtain ⟨d, hc⟩ := convert_eq_spec ppqn filePpq tracks groups metaIdx target
  rw [hc, loadSpec] at h
  split at h
  · cases h
  split at h
  · cases h
  rename_i hr
  have hlt : target.toNat < (rowsF ppqn filePpq tracks groups).length := by rw [rowsOf_length]; omega
  cases h
  exact ⟨d, _, by omega, List.getElem?_eq_getElem hlt, by rw [List.getElem?_eq_getElem hlt]; rfl⟩

theorem convert_read (ppqn filePpq : Int) (tracks : List (List MidiEv)) (groups : List (List Nat))
    (metaIdx : List Nat) (target : Int) (out : List Seq)
    (h : convert ppqn filePpq tracks groups metaIdx target = .ok out)
    (gi : Nat) (s s' : Seq) (a : List Msg) (hs : out[gi]? = some s) (ha : s.readAbs = .ok (s', a)) :
    0 ≤ target ∧ ∃ d r, (rowsF ppqn filePpq tracks groups)[gi]? = some r ∧
      ((gi ≠ target.toNat ∧ a = toAbs (gmergeL r).rel)
      ∨ (gi = target.toNat ∧ a = (finSeq d (gmergeL r).rel (metaF ppqn filePpq tracks groups metaIdx)).abs)) := by
  obtain ⟨d, rt, ht0, hrt, rfl⟩ := convert_ok_spec ppqn filePpq tracks groups metaIdx target out h
  rw [getElem?_modifyAt, List.getElem?_map] at hs
  by_cases hgi : gi = target.toNat
  · -- the target's entry is fresh
    subst hgi
    rw [if_pos rfl, hrt] at hs
    obtain rfl := Option.some.inj hs
    rw [finSeq, withSig0_read] at ha
    exact ⟨ht0, d, rt, hrt, Or.inr ⟨rfl, (Prod.mk.inj (Except.ok.inj ha)).2.symm⟩⟩
  · -- any other entry is a merged group, read from its relative view
    rw [if_neg hgi] at hs
    obtain ⟨r, hr, rfl⟩ := Option.map_eq_some_iff.1 hs
    rw [readAbs_regen _ rfl rfl] at ha
    exact ⟨ht0, d, r, hr, Or.inl ⟨hgi, (Prod.mk.inj (Except.ok.inj ha)).2.symm⟩⟩

theorem convert_closed (ppqn filePpq : Int) (tracks : List (List MidiEv))
    (groups : List (List Nat)) (metaIdx : List Nat) (target : Int)
    (hne : ∀ g ∈ groups, g ≠ []) (ht0 : 0 ≤ target) (ht1 : target < (groups.length : Int)) :
    ∃ out, convert ppqn filePpq tracks groups metaIdx target = .ok out ∧ out.length = groups.length
      ∧ ∀ gi, gi < groups.length → ∃ s s' a, out[gi]? = some s ∧ s.readAbs = .ok (s', a) := by
  obtain ⟨out, hout, hlen⟩ := (convert_outcome ppqn filePpq tracks groups metaIdx target).2.2 hne ht0 ht1
  obtain ⟨d, rt, _, hrt, rfl⟩ := convert_ok_spec ppqn filePpq tracks groups metaIdx target out hout
  refine ⟨_, hout, hlen, fun gi hgi => ?_⟩
  have hr := List.getElem?_eq_getElem (l := rowsF ppqn filePpq tracks groups) (i := gi) (by rwa [rowsOf_length])
  rw [getElem?_modifyAt, List.getElem?_map, hr]
  by_cases hg : gi = target.toNat
  · exact ⟨_, _, _, by rw [if_pos hg]; rfl, withSig0_read _ _ _⟩
  · exact ⟨_, _, _, by rw [if_neg hg]; rfl, readAbs_regen _ rfl rfl⟩

end SCoda.MidiL
