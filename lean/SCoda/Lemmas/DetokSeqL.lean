/-
  The output sequences of the detokeniser, key by key, for `Props/C01c.lean`: sequence `i` is the binary insertion, in log
  order, of the messages the emissions put there (`emitTo`, `seq_eq`); the note events of one key among them come in time
  order (`emitTo_key_sorted`), so the insertions keep them in log order (`seqs_inv`); hence the notes of a sequence
  (`seq_notes`) and its messages (`seq_mem`).  The file continues namespace `SCoda.ExtractL`.
-/
import SCoda.Lemmas.SpecLogL
import SCoda.Lemmas.DetokLog
namespace SCoda.ExtractL
open SCoda SCoda.E2E SCoda.MergeL SCoda.EQ SCoda.GlueAux

theorem P_insort_le (k : Int × Int) (s : List Msg) (m : Msg) (hs : Sorted s)
    (hle : ∀ x ∈ P k s, x.time ≤ m.time) : P k (insort s m) = P k s ++ P k [m] := by
  obtain ⟨p, hins, _, h3⟩ := insort_split s m hs
  have hdrop : P k (s.drop p) = [] := by
    rw [P, List.filter_eq_nil_iff]
    intro x hx hk
    have h1 := h3 x hx
    have h2 := hle x (List.mem_filter.2 ⟨List.mem_of_mem_drop hx, hk⟩)
    omega
  have hsplit : P k s = P k (s.take p) := by
    conv => lhs; rw [← List.take_append_drop p s, P_append, hdrop, List.append_nil]
  rw [hins, P_append]
  show _ ++ P k ([m] ++ _) = _
  rw [P_append, hdrop, List.append_nil, ← hsplit]

/-- the messages an emission inserts into output sequence `i`, in order -/
def emitTo (i : Nat) : C01.Emit → List Msg
  | .barEnd t => [Msg.mkInternal 0 t]
  | .note trk p v on off => if trk.toNat = i then [Msg.mkOn 0 p v on, Msg.mkOff 0 p off] else []
  | .tsig t n d => if 0 = i then [Msg.mkTimeSig 0 n d t] else []

/-- the notes that the emissions of `log` put on output sequence `i` (channel 0, as `detokenise` writes them) -/
def trkNotes (i : Nat) (log : List C01.Emit) : List Note :=
  log.filterMap (fun e => match e with
    | .note trk p v on off => if trk.toNat = i then some { ch := 0, pitch := p, on := on, off := off, vel := v } else Option.none
    | _ => Option.none)

/-- "no re-strike": later notes of the same output sequence and pitch start when the earlier ones have ended -/
def NR (a b : Note) : Prop := a.ch.toNat = b.ch.toNat → a.pitch = b.pitch → a.off ≤ b.on

/-- the condition on a log under which the binary insertions keep the note events of every key in log order
    (`emitTo_key_sorted`, `seqs_inv`) -/
def LogOk (log : List C01.Emit) : Prop :=
  (logNotes log).Pairwise NR ∧ ∀ n ∈ logNotes log, n.on ≤ n.off

theorem emitTo_key_src (i : Nat) (k : Int × Int) (log : List C01.Emit) : ∀ x ∈ P k (log.flatMap (emitTo i)),
    ∃ n ∈ logNotes log, n.ch.toNat = i ∧ k = (0, n.pitch) ∧ (x.time = n.on ∨ x.time = n.off) := by
  intro x hx
  obtain ⟨hx, hk⟩ := List.mem_filter.1 hx
  obtain ⟨hk, hty⟩ : x.nkey = k ∧ (x.ty = .noteOn ∨ x.ty = .noteOff) := by simpa [isKN] using hk
  obtain ⟨e, he, hxe⟩ := List.mem_flatMap.1 hx
  cases e with
  | barEnd t =>
    rw [List.mem_singleton.1 hxe] at hty
    simp [Msg.mkInternal] at hty
  | tsig t n d =>
    simp only [emitTo] at hxe
    split at hxe
    · rw [List.mem_singleton.1 hxe] at hty
      simp [Msg.mkTimeSig] at hty
    · cases hxe
  | note trk p v on off =>
    simp only [emitTo] at hxe
    split at hxe
    · rename_i htrk
      refine ⟨{ ch := trk, pitch := p, on := on, off := off, vel := v }, List.mem_filterMap.2 ⟨_, he, rfl⟩, htrk, ?_⟩
      simp only [List.mem_cons, List.not_mem_nil, or_false] at hxe
      rcases hxe with rfl | rfl
      · exact ⟨hk.symm, Or.inl rfl⟩
      · exact ⟨hk.symm, Or.inr rfl⟩
    · cases hxe

theorem getElem?_addAbs (seqs : List (List Msg)) (j i : Nat) (m : Msg) :
    (addAbs seqs j m)[i]? = if j = i then (seqs[i]?).map (fun l => insort l m) else seqs[i]? := by
  unfold addAbs
  exact GluePair.getElem?_modifyAt _ seqs j i

theorem getElem?_applyEmit (seqs : List (List Msg)) (e : C01.Emit) (i : Nat) :
    (C01.applyEmit seqs e)[i]? = (seqs[i]?).map (fun l => (emitTo i e).foldl insort l) := by
  cases e with
  | barEnd t => simp [C01.applyEmit, emitTo]
  | tsig t a b => simp only [C01.applyEmit, getElem?_addAbs, emitTo]; split <;> simp
  | note trk p v on off =>
    simp only [C01.applyEmit, getElem?_addAbs, emitTo]
    split
    · simp [Function.comp_def]
    · simp

/-- **output sequence `i` is the binary insertion, in log order, of what the emissions put there** -/
theorem getElem?_foldl_applyEmit (i : Nat) : ∀ (log : List C01.Emit) (seqs : List (List Msg)),
    (log.foldl C01.applyEmit seqs)[i]? = (seqs[i]?).map (fun l => (log.flatMap (emitTo i)).foldl insort l) := by
  intro log
  induction log with
  | nil => intro seqs; simp
  | cons e log ih =>
    intro seqs
    rw [List.foldl_cons, ih, getElem?_applyEmit, Option.map_map, List.flatMap_cons]
    simp only [Function.comp_def, List.foldl_append]

theorem seq_eq (n : Nat) (log : List C01.Emit) (i : Nat) (s : List Msg)
    (hs : (log.foldl C01.applyEmit (List.replicate n []))[i]? = some s) : s = (log.flatMap (emitTo i)).foldl insort [] := by
  rw [getElem?_foldl_applyEmit, Option.map_eq_some_iff] at hs
  obtain ⟨l, hl, rfl⟩ := hs
  rw [List.getElem?_replicate] at hl
  split at hl <;> cases hl; rfl

theorem P_foldl_insort (k : Int × Int) : ∀ (ms l : List Msg), Sorted l →
    (P k l ++ P k ms).Pairwise (fun a b => a.time ≤ b.time) → P k (ms.foldl insort l) = P k l ++ P k ms := by
  intro ms
  induction ms with
  | nil => intro l _ _; simp [P]
  | cons m ms ih =>
    intro l hs hp
    have hstep : P k (insort l m) = P k l ++ P k [m] := by
      by_cases hm : isKN k m = true
      · refine P_insort_le k l m hs (fun x hx => ?_)
        have : m ∈ P k (m :: ms) := List.mem_filter.2 ⟨List.mem_cons_self, hm⟩
        exact (List.pairwise_append.1 hp).2.2 x hx m this
      · have hm' : isKN k m = false := by simpa using hm
        rw [show P k (insort l m) = P k l from filter_insort _ l m hm']
        simp [P, hm']
    rw [List.foldl_cons, ih _ (insort_pairwise l m hs), hstep, List.append_assoc, ← P_append]
    · rfl
    · rw [hstep, List.append_assoc, ← P_append]; exact hp

/-- the log order is safe for the insertions: on one output sequence the note events of one key come in time order -/
theorem emitTo_key_sorted (i : Nat) (k : Int × Int) : ∀ (log : List C01.Emit), LogOk log →
    (P k (log.flatMap (emitTo i))).Pairwise (fun a b => a.time ≤ b.time) := by
  intro log
  induction log with
  | nil => intro _; exact List.Pairwise.nil
  | cons e log ih =>
    intro hok
    rw [List.flatMap_cons, P_append]
    cases e with
    | barEnd t =>
      rw [show P k (emitTo i (.barEnd t)) = [] by simp [emitTo, P, isKN, Msg.mkInternal]]
      exact ih ⟨hok.1, hok.2⟩
    | tsig t a b =>
      rw [show P k (emitTo i (.tsig t a b)) = [] by simp only [emitTo]; split <;> simp [P, isKN, Msg.mkTimeSig]]
      exact ih ⟨hok.1, hok.2⟩
    | note trk p v on off =>
      obtain ⟨hpw, hself⟩ := hok
      have hl : logNotes (C01.Emit.note trk p v on off :: log)
          = { ch := trk, pitch := p, on := on, off := off, vel := v } :: logNotes log := rfl
      rw [hl] at hpw hself
      have hpw' := List.pairwise_cons.1 hpw
      have honoff : on ≤ off := hself _ List.mem_cons_self
      rw [List.pairwise_append]
      refine ⟨?_, ih ⟨hpw'.2, fun n hn => hself n (List.mem_cons_of_mem _ hn)⟩, ?_⟩
      · simp only [emitTo]
        split
        · refine (List.Pairwise.sublist (List.filter_sublist) ?_)
          exact List.pairwise_cons.2 ⟨fun y hy => by simp at hy; subst hy; exact honoff, List.pairwise_singleton _ _⟩
        · exact List.Pairwise.nil
      · intro x hx y hy
        -- `x` is an end of the head note (the one-emission log), `y` of a later note of the same sequence and pitch
        obtain ⟨n0, hn0, g1, g2, g3⟩ := emitTo_key_src i k [.note trk p v on off] x (by rw [List.flatMap_singleton]; exact hx)
        obtain rfl := List.mem_singleton.1 hn0
        obtain ⟨nn, hnn, h1, h2, h3⟩ := emitTo_key_src i k log y hy
        have := hpw'.1 nn hnn (g1.trans h1.symm) (Prod.mk.inj (g2.symm.trans h2)).2
        have := hself nn (List.mem_cons_of_mem _ hnn)
        simp only at *
        omega

theorem length_foldl_applyEmit : ∀ (log : List C01.Emit) (seqs : List (List Msg)),
    (log.foldl C01.applyEmit seqs).length = seqs.length
  | [], _ => rfl
  | e :: log, seqs => by
    rw [List.foldl_cons, length_foldl_applyEmit log]
    cases e <;> simp [C01.applyEmit, addAbs, length_modifyAt]

/-- **the output sequences, key by key**: after the emissions of `log`, output sequence `i` is
    time-sorted and its note events of key `k` are those the log put there, in log order -/
theorem seqs_inv (n : Nat) (log : List C01.Emit) (hok : LogOk log) :
    (log.foldl C01.applyEmit (List.replicate n [])).length = n ∧
    ∀ i s, (log.foldl C01.applyEmit (List.replicate n []))[i]? = some s →
      Sorted s ∧ ∀ k, P k s = P k (log.flatMap (emitTo i)) := by
  refine ⟨by rw [length_foldl_applyEmit, List.length_replicate], fun i s hs => ?_⟩
  obtain rfl := seq_eq n log i s hs
  exact ⟨foldl_insort_sorted _ _ List.Pairwise.nil,
    fun k => P_foldl_insort k _ [] List.Pairwise.nil (emitTo_key_sorted i k log hok)⟩

theorem notesGo_emitTo (i : Nat) (log : List C01.Emit) : ∀ os, notesGo (log.flatMap (emitTo i)) os = trkNotes i log := by
  induction log with
  | nil => intro os; rfl
  | cons e log ih =>
    intro os
    rw [List.flatMap_cons]
    cases e with
    | barEnd t =>
      rw [show emitTo i (.barEnd t) = [Msg.mkInternal 0 t] from rfl, List.singleton_append,
        notesGo_cons_other (by simp [Msg.mkInternal]) (by simp [Msg.mkInternal]), ih]
      rfl
    | tsig t a b =>
      simp only [emitTo]
      split
      · rw [List.singleton_append, notesGo_cons_other (by simp [Msg.mkTimeSig]) (by simp [Msg.mkTimeSig]), ih]
        rfl
      · rw [List.nil_append, ih]
        rfl
    | note trk p v on off =>
      by_cases hj : trk.toNat = i
      · simp only [emitTo, hj, if_true, List.cons_append, List.nil_append]
        rw [notesGo_cons_on (by rfl)]
        rw [notesGo_cons_off_some (o := Msg.mkOn 0 p v on) (by rfl) _ _ (by simp [Msg.mkOn, Msg.mkOff, Msg.nkey])]
        rw [ih]
        simp [trkNotes, hj, Msg.mkOn, Msg.mkOff]
      · simpa [emitTo, trkNotes, hj] using ih os

theorem seq_notes (n : Nat) (log : List C01.Emit) (hok : LogOk log) (i : Nat) (s : List Msg)
    (hs : (log.foldl C01.applyEmit (List.replicate n []))[i]? = some s) :
    (notesOf (eventsAbs s)).Perm (trkNotes i log) := by
  rw [← notesGo_emitTo i log [], notesOf, NotesL.notesGo_eq, NotesL.notesGo_eq]
  exact (pairs_perm_of_keys _ _ (fun k => (P_eventsAbs k s).trans (((seqs_inv n log hok).2 i s hs).2 k))).map _

theorem trkNotes_eq (i : Nat) (log : List C01.Emit) :
    trkNotes i log = ((logNotes log).filter (fun n => n.ch.toNat == i)).map (fun n => { n with ch := 0 }) := by
  induction log with
  | nil => rfl
  | cons e log ih =>
    cases e with
    | barEnd t => simpa [trkNotes, logNotes] using ih
    | tsig t a b => simpa [trkNotes, logNotes] using ih
    | note trk p v on off =>
      simp only [trkNotes, logNotes, List.filterMap_cons] at ih ⊢
      by_cases hj : trk.toNat = i
      · simp [hj, ih]
      · simp [hj, ih]

/-- the messages an emission writes -/
def emitAll : C01.Emit → List Msg
  | .barEnd t => [Msg.mkInternal 0 t]
  | .note _ p v on off => [Msg.mkOn 0 p v on, Msg.mkOff 0 p off]
  | .tsig t n d => [Msg.mkTimeSig 0 n d t]

theorem seq_mem (n : Nat) (log : List C01.Emit) (i : Nat) (s : List Msg)
    (hs : (log.foldl C01.applyEmit (List.replicate n []))[i]? = some s) :
    (∀ m ∈ s, ∃ e ∈ log, m ∈ emitAll e) ∧ ∀ t, C01.Emit.barEnd t ∈ log → Msg.mkInternal 0 t ∈ s := by
  obtain rfl := seq_eq n log i s hs
  have hmem : ∀ x, x ∈ (log.flatMap (emitTo i)).foldl insort [] ↔ ∃ e ∈ log, x ∈ emitTo i e := by
    intro x
    rw [(foldl_insort_perm _ _).mem_iff, List.nil_append, List.mem_flatMap]
  refine ⟨fun m hm => ?_, fun t ht => (hmem _).2 ⟨_, ht, List.mem_cons_self⟩⟩
  obtain ⟨e, he, hme⟩ := (hmem m).1 hm
  refine ⟨e, he, ?_⟩
  cases e with
  | barEnd t => exact hme
  | tsig t a b =>
    simp only [emitTo] at hme
    split at hme
    · exact hme
    · cases hme
  | note trk p v on off =>
    simp only [emitTo] at hme
    split at hme
    · exact hme
    · cases hme

theorem durAbs_bounds (s : List Msg) (C : Int) (hs : Sorted s) (hle : ∀ m ∈ s, 0 ≤ m.time ∧ m.time ≤ C)
    (hex : C = 0 ∨ ∃ m ∈ s, m.time = C) : durAbs s = C :=
  durAbs_eq s C hs (fun m hm => (hle m hm).1) (fun m hm => (hle m hm).2) hex

theorem durAbs_le (s : List Msg) (C : Int) (h0 : 0 ≤ C) (hle : ∀ m ∈ s, m.time ≤ C) : durAbs s ≤ C := by
  cases hl : s.getLast? with
  | none => simp [durAbs, hl]; exact h0
  | some m =>
    have := hle m (List.mem_of_getLast? hl)
    simp only [durAbs, hl]; exact this

end SCoda.ExtractL
