/-
  What the ties of all functions GENERATED by tools/py2lean_abs2.py (Gen/AbsFns2.lean, namespace `SCoda.Gen.Abs2`: heap of
  messages, references = positions) share.
  A method's specification is a `Sat` postcondition, or an `Agrees` statement where the model may fail (both Lemmas/PyLoop.lean), so
  callers compose by `Sat.bind` / `Agrees.bind`.
-/
import SCoda.Gen.AbsFns2
import SCoda.Model.Quantise
import SCoda.Lemmas.PyLoop
import SCoda.Lemmas.AssocL
import SCoda.Lemmas.ModifyAt
import SCoda.Lemmas.Sort
namespace SCoda.AbsTie2
open SCoda SCoda.Gen.Abs2

def RefsOk (h : Heap) (refs : List Nat) : Prop := ∀ r ∈ refs, r < h.length
/-- no message object has channel `None` (what `Message.__init__` guarantees; the side condition of Props/ViewTie.lean) -/
def HeapChOk (h : Heap) : Prop := ∀ m ∈ h, m.ch ≠ pyNone

end SCoda.AbsTie2
namespace SCoda.AbsTie2L
open SCoda SCoda.Gen.Abs2 SCoda.AbsTie2

theorem pyRange_self (a : Int) : pyRange a a = [] := by simp [pyRange]

theorem pyRange_succ (a : Int) (n : Nat) : pyRange a (a + ((n + 1 : Nat) : Int)) = a :: pyRange (a + 1) (a + 1 + (n : Int)) := by
  unfold pyRange
  have h1 : (a + ((n + 1 : Nat) : Int) - a).toNat = n + 1 := by omega
  have h2 : (a + 1 + (n : Int) - (a + 1)).toNat = n := by omega
  rw [h1, h2, List.range_succ_eq_map]
  simp only [List.map_cons, List.map_map, List.cons.injEq]
  refine ⟨by simp, ?_⟩
  apply List.map_congr_left
  intro k _
  simp only [Function.comp]
  omega

/-- `enumerate` from an offset -/
def enumFrom (k : Int) {α} (l : List α) : List (Int × α) := (pyRange k (k + (l.length : Int))).zip l

theorem pyEnumerate_eq {α} (l : List α) : pyEnumerate l = enumFrom 0 l := by simp [pyEnumerate, enumFrom]

theorem enumFrom_nil {α} (k : Int) : enumFrom k ([] : List α) = [] := by simp [enumFrom, pyRange_self]

theorem enumFrom_cons {α} (k : Int) (x : α) (xs : List α) : enumFrom k (x :: xs) = (k, x) :: enumFrom (k + 1) xs := by
  simp only [enumFrom, List.length_cons]
  rw [pyRange_succ]
  simp

theorem getElem?_enumFrom {α : Type} : ∀ (l : List α) (k : Int) (n : Nat), (enumFrom k l)[n]? = (l[n]?).map (fun x => (k + (n : Int), x)) := by
  intro l
  induction l with
  | nil => intro k n; simp [enumFrom_nil]
  | cons x xs ih =>
    intro k n
    rw [enumFrom_cons]
    cases n with
    | zero => simp
    | succ n =>
      simp only [List.getElem?_cons_succ, ih]
      cases xs[n]? <;> simp
      omega

theorem enumFrom_split {α : Type} (q : List α) (pre post : List (Int × α)) (a : Int × α) (h : enumFrom 0 q = pre ++ a :: post) :
    a.1 = (pre.length : Int) ∧ q[pre.length]? = some a.2 := by
  have h1 : (enumFrom 0 q)[pre.length]? = some a := by rw [h]; simp
  rw [getElem?_enumFrom] at h1
  cases hq : q[pre.length]? with
  | none => rw [hq] at h1; simp at h1
  | some x =>
    rw [hq] at h1
    simp only [Option.map_some, Option.some.injEq] at h1
    subst h1
    simp

theorem map_snd_enumFrom {α : Type} : ∀ (l : List α) (k : Int), (enumFrom k l).map (·.2) = l := by
  intro l
  induction l with
  | nil => intro k; simp [enumFrom_nil]
  | cons x xs ih => intro k; rw [enumFrom_cons]; simp [ih]

theorem length_enumFrom {α : Type} (l : List α) (k : Int) : (enumFrom k l).length = l.length := by
  rw [← List.length_map (·.2), map_snd_enumFrom]

theorem pyGet_nat {α : Type} (l : List α) (i : Nat) (h : i < l.length) : pyGet l (i : Int) = .ok l[i] := by
  unfold pyGet
  have h0 : ¬ ((i : Int) < 0) := by omega
  simp only [h0, if_false, Int.toNat_natCast, List.getElem?_eq_getElem h]
  rfl

theorem pySet_nat {α : Type} (l : List α) (i : Nat) (x : α) (h : i < l.length) : pySet l (i : Int) x = .ok (l.set i x) := by
  unfold pySet
  have h0 : ¬ ((i : Int) < 0) := by omega
  simp only [h0, if_false, Int.toNat_natCast, h, if_true]
  rfl

theorem pyRange_zero (n : Nat) : pyRange 0 (n : Int) = (List.range n).map (fun (k : Nat) => (k : Int)) := by
  simp [pyRange]

theorem mapM_pyRange {β : Type} (f : Int → Except PyErr β) (g : Nat → β) (n : Nat) (h : ∀ i, i < n → f (i : Int) = .ok (g i)) :
    (pyRange 0 (n : Int)).mapM f = .ok ((List.range n).map g) := by
  rw [pyRange_zero, mapM_eq_map f (fun (x : Int) => g x.toNat)]
  · simp [Function.comp]
  · intro x hx
    simp only [List.mem_map, List.mem_range] at hx
    obtain ⟨k, hk, rfl⟩ := hx
    simp [h k hk]

theorem anyM_ok {α : Type} (f : α → Except PyErr Bool) (g : α → Bool) (l : List α) (h : ∀ x ∈ l, f x = .ok (g x)) :
    l.anyM f = .ok (l.any g) := by
  induction l with
  | nil => rfl
  | cons x xs ih =>
    rw [List.anyM_cons, h x (by simp)]
    simp only [List.any_cons]
    cases hg : g x
    · simp only [Bool.false_or]
      rw [← ih (fun y hy => h y (by simp [hy]))]
      rfl
    · rfl

theorem anyM_pyRange (f : Int → Except PyErr Bool) (g : Nat → Bool) (n : Nat) (h : ∀ i, i < n → f (i : Int) = .ok (g i)) :
    (pyRange 0 (n : Int)).anyM f = .ok ((List.range n).any g) := by
  rw [pyRange_zero, anyM_ok f (fun (x : Int) => g x.toNat)]
  · simp only [List.any_map]
    congr 1
  · intro x hx
    simp only [List.mem_map, List.mem_range] at hx
    obtain ⟨k, hk, rfl⟩ := hx
    simp [h k hk]

theorem pyGet_getD {α : Type} (l : List α) (i : Nat) (d : α) (h : i < l.length) : pyGet l (i : Int) = .ok (l.getD i d) := by
  rw [pyGet_nat l i h]; simp [List.getD, List.getElem?_eq_getElem h]

theorem pyGet_range_map {β : Type} (g : Nat → β) (n i : Nat) (h : i < n) : pyGet ((List.range n).map g) (i : Int) = .ok (g i) := by
  rw [pyGet_nat _ i (by simpa using h)]
  simp

theorem chanOfInt_ok {c : Int} (h : c ≠ pyNone) : chanOfInt c = c := by simp [chanOfInt, h]

theorem chanOfInt_ne (c : Int) : chanOfInt c ≠ pyNone := by
  unfold chanOfInt
  split
  · decide
  · rename_i h; simpa using h

theorem normaliseAbsolute_eq (h : Heap) (l : List Nat) : normaliseAbsolute h l = .ok (sortRefs h l) := rfl

theorem foldl_pre {α β : Type} (I : List α → β → Prop) (f : β → α → β) (l : List α)
    (hstep : ∀ pre a post b, l = pre ++ a :: post → I pre b → I (pre ++ [a]) (f b a)) (b : β) (h0 : I [] b) : I l (l.foldl f b) := by
  suffices H : ∀ (post pre : List α) (b : β), l = pre ++ post → I pre b → I l (post.foldl f b) from H l [] b rfl h0
  intro post
  induction post with
  | nil => intro pre b hl h; rwa [hl, List.append_nil]
  | cons a post ih => intro pre b hl h; exact ih (pre ++ [a]) _ (by rw [hl, List.append_assoc]; rfl) (hstep pre a post b hl h)

theorem foldl_inv {α β : Type} (P : β → Prop) (f : β → α → β) (hf : ∀ b a, P b → P (f b a)) (l : List α) (b : β) (h : P b) :
    P (l.foldl f b) :=
  foldl_pre (fun _ => P) f l (fun _ a _ b _ => hf b a) b h

theorem not_mem_pre {α : Type} {l pre post : List α} {a : α} (hnd : l.Nodup) (hl : l = pre ++ a :: post) : a ∉ pre :=
  fun hm => (List.nodup_append.1 (hl ▸ hnd)).2.2 a hm a (by simp) rfl

section prelude

variable {κ ν : Type} [DecidableEq κ]

theorem dictGet_some {d : Assoc κ ν} {k : κ} {v : ν} (h : d.get? k = some v) : dictGet d k = .ok v := by
  simp [dictGet, h]; rfl

theorem dictGet_none {d : Assoc κ ν} {k : κ} (h : d.get? k = none) : dictGet d k = .error .keyError := by
  simp [dictGet, h]; rfl

theorem get?_setDefault (d : Assoc κ ν) (k k' : κ) (v : ν) :
    (dictSetDefault d k v).get? k' = if k = k' then some ((d.get? k).getD v) else d.get? k' :=
  Q.get?_setDefault d k k' v

theorem mem_row {ν : Type} {d : Assoc κ (List ν)} {k : κ} {x : ν} (h : x ∈ (d.get? k).getD []) : ∃ v, (k, v) ∈ d ∧ x ∈ v := by
  cases hg : d.get? k with
  | none => simp [hg] at h
  | some v => exact ⟨v, Q.mem_of_get? hg, by simpa [hg] using h⟩

theorem getD_setDefault {ν : Type} (d : Assoc κ (List ν)) (k k' : κ) :
    ((dictSetDefault d k []).get? k').getD [] = (d.get? k').getD [] := by
  rw [get?_setDefault]
  split
  · rename_i h; subst h; cases d.get? k <;> rfl
  · rfl

end prelude

theorem mem_setDefault {κ ν : Type} [DecidableEq κ] (d : Assoc κ ν) (k : κ) (v : ν) (x : κ × ν)
    (hx : x ∈ dictSetDefault d k v) : x ∈ d ∨ x = (k, v) := by
  unfold dictSetDefault at hx
  split at hx
  · exact Or.inl hx
  · exact Q.mem_set hx

section

variable {κ ν : Type} [DecidableEq κ]

theorem dictGet_getD (d : Assoc κ ν) (k : κ) (dflt : ν) (hc : (d.get? k).isSome = true) :
    dictGet d k = .ok ((d.get? k).getD dflt) := by
  cases hg : d.get? k with
  | none => simp [hg] at hc
  | some v => simp [dictGet_some hg]

theorem isSome_setDefault_self (d : Assoc κ ν) (k : κ) (v : ν) : ((dictSetDefault d k v).get? k).isSome = true := by
  simp [get?_setDefault]

theorem isSome_set_of (d : Assoc κ ν) (k k' : κ) (v : ν) (h : (d.get? k').isSome = true) : ((d.set k v).get? k').isSome = true := by
  rw [Q.get?_set]; split <;> simp [h]

end

theorem contains_inner (c : Assoc Int Int) (k : Int) : Assoc.contains c k = (c.get? k).isSome := rfl

def amapV {κ ν ν' : Type} (f : ν → ν') (d : Assoc κ ν) : Assoc κ ν' := d.map (fun kv => (kv.1, f kv.2))

section

variable {κ ν ν' : Type} [DecidableEq κ]

theorem get?_amapV (f : ν → ν') (d : Assoc κ ν) (k : κ) : (amapV f d).get? k = (d.get? k).map f :=
  Q.get?_map id (fun _ _ e => e) (fun _ => f) d k

theorem set_amapV (f : ν → ν') (d : Assoc κ ν) (k : κ) (v : ν) : (amapV f d).set k (f v) = amapV f (d.set k v) :=
  Q.set_map id (fun _ _ e => e) (fun _ => f) d k v

theorem erase_amapV (f : ν → ν') (d : Assoc κ ν) (k : κ) : (amapV f d).erase k = amapV f (d.erase k) :=
  Q.erase_map id (fun _ _ e => e) (fun _ => f) d k

end

/-- the messages a list of references stands for -/
def deref (h : Heap) (l : List Nat) : List Msg := l.map (hGet h)

/-- initial state: every message of the sequence is its own object -/
def refsOf (a : List Msg) : List Nat := List.range a.length

theorem deref_refsOf (a : List Msg) : deref a (refsOf a) = a := by
  apply List.ext_getElem
  · simp [deref, refsOf]
  · intro i h1 h2
    simp only [deref, refsOf, List.getElem_map, List.getElem_range, hGet]
    simp only [List.length_map, List.length_range, deref, refsOf] at h1
    simp [List.getD, h1]

theorem deref_append (h : Heap) (l1 l2 : List Nat) : deref h (l1 ++ l2) = deref h l1 ++ deref h l2 := by simp [deref]

theorem deref_sortRefs (h : Heap) (l : List Nat) : deref h (sortRefs h l) = sortAbs (deref h l) := by
  simp only [deref, sortRefs, sortAbs]
  exact map_isort (hGet h) keyLe l

theorem hGet_append_lt (h : Heap) (x : List Msg) (r : Nat) (hr : r < h.length) : hGet (h ++ x) r = hGet h r := by
  simp [hGet, List.getD, List.getElem?_append_left hr]

theorem hGet_append_new (h : Heap) (m : Msg) : hGet (h ++ [m]) h.length = m := by
  simp [hGet, List.getD]

theorem hGet_mem (h : Heap) (r : Nat) (hr : r < h.length) : hGet h r ∈ h := by
  simp only [hGet, List.getD, List.getElem?_eq_getElem hr, Option.getD_some]
  exact List.getElem_mem hr

theorem length_hUpd (h : Heap) (r : Nat) (f : Msg → Msg) : (hUpd h r f).length = h.length := by simp [hUpd]

theorem hGet_hUpd (h : Heap) (r : Nat) (f : Msg → Msg) (x : Nat) :
    hGet (hUpd h r f) x = if x = r ∧ r < h.length then f (hGet h r) else hGet h x := by
  simp only [hGet, hUpd, List.getD, List.getElem?_set]
  by_cases hx : r = x
  · subst hx
    by_cases hr : r < h.length
    · simp [hr]
    · simp [hr]
  · have : ¬ x = r := fun e => hx e.symm
    simp [hx, this]

theorem hGet_hUpd_ne (h : Heap) (r : Nat) (f : Msg → Msg) (x : Nat) (hne : x ≠ r) : hGet (hUpd h r f) x = hGet h x := by
  rw [hGet_hUpd]; simp [hne]

theorem hGet_hUpd_same (h : Heap) (r : Nat) (f : Msg → Msg) (hr : r < h.length) : hGet (hUpd h r f) r = f (hGet h r) := by
  rw [hGet_hUpd]; simp [hr]


/-! The heap only grows: the order is `List.IsPrefix`.  What is read through references into `h` reads the same through every
    extension of `h`, so a fact about a callee's result is carried past later calls by `mono`. -/


section order

variable {h h' : Heap}

theorem _root_.SCoda.AbsTie2.RefsOk.mono {l : List Nat} (hp : h <+: h') (hl : RefsOk h l) : RefsOk h' l :=
  fun r hr => Nat.lt_of_lt_of_le (hl r hr) hp.length_le

theorem hGet_mono {r : Nat} (hp : h <+: h') (hr : r < h.length) : hGet h' r = hGet h r := by
  obtain ⟨x, rfl⟩ := hp; exact hGet_append_lt h x r hr

theorem deref_mono {l : List Nat} (hp : h <+: h') (hl : RefsOk h l) : deref h' l = deref h l :=
  List.map_congr_left fun r hr => hGet_mono hp (hl r hr)

theorem sortRefs_mono {l : List Nat} (hp : h <+: h') (hl : RefsOk h l) : sortRefs h' l = sortRefs h l :=
  isort_congr _ _ _ fun a ha b hb => by rw [hGet_mono hp (hl a ha), hGet_mono hp (hl b hb)]

theorem _root_.SCoda.AbsTie2.RefsOk.sortRefs {l : List Nat} (h0 : Heap) (hl : RefsOk h l) : RefsOk h (sortRefs h0 l) :=
  fun r hr => hl r ((mem_isort _ _ _).1 hr)

theorem _root_.SCoda.AbsTie2.HeapChOk.push (hc : HeapChOk h) (m : Msg) (hm : m.ch ≠ pyNone) : HeapChOk (h ++ [m]) :=
  List.forall_mem_append.2 ⟨hc, List.forall_mem_singleton.2 hm⟩

theorem _root_.SCoda.AbsTie2.RefsOk.push {p : List Nat} (hp : RefsOk h p) (m : Msg) : RefsOk (h ++ [m]) (p ++ [h.length]) := by
  intro r hr
  simp only [List.length_append, List.length_cons, List.length_nil]
  rcases List.mem_append.1 hr with hr | hr
  · have := hp r hr; omega
  · simp only [List.mem_singleton] at hr; omega

end order

/-- model errors as errors of the generated code -/
def errMapL : Err → PyErr
  | .indexError => .indexError | .keyError => .keyError | .valueError => .valueError | .fuel => .fuel
  | _ => .typeError

/-- `valid[find_minimal_distance(t, valid)]` -/
def nearestR (t : Int) (valid : List Int) : Except PyErr Int := do
  let i ← Gen.Abs2.findMinimalDistance t valid
  pyGet valid i

/-- loop state standing for the model's `best` -/
def fmdD : Option (Nat × Int) → IntInf
  | none => .inf
  | some (_, d) => .fin d

def fmdI : Option (Nat × Int) → Int
  | none => 0
  | some (i, _) => (i : Int)

theorem fmdGo_cons (e c : Int) (cs : List Int) (i : Nat) (best : Option (Nat × Int)) :
    fmdGo e (c :: cs) i best =
      if IntInf.lt (.fin (Int.ofNat (c - e).natAbs)) (fmdD best) = true then
        (if (c - e).natAbs = 0 then i else fmdGo e cs (i + 1) (some (i, ((c - e).natAbs : Int))))
      else fmdGo e cs (i + 1) best := by
  cases best with
  | none => simp [fmdGo, fmdD, IntInf.lt]
  | some b => simp [fmdGo, fmdD, IntInf.lt]

theorem fmd_gen (e : Int) (c : List Int) :
    Gen.Abs2.findMinimalDistance e c = .ok ((SCoda.findMinimalDistance e c : Nat) : Int) := by
  unfold Gen.Abs2.findMinimalDistance
  simp only []
  rw [pyEnumerate_eq]
  -- the loop state (returned index, distance, index) stands for the model's `best`, the rest of the list for the model's position
  refine Sat.eq_ok (Sat.bind (Sat.mono (forIn_inv
    (fun rest (b : Option Int × IntInf × Int) => ∃ (cs : List Int) (k : Nat) (best : Option (Nat × Int)),
      rest = enumFrom (k : Int) cs ∧ b = (none, fmdD best, fmdI best) ∧ fmdGo e cs k best = SCoda.findMinimalDistance e c)
    (fun r => Sat r fun s => (match s.1 with | some x => x | none => s.2.2) = ((SCoda.findMinimalDistance e c : Nat) : Int))
    _ ?_ ?_ _ _ ⟨c, 0, none, rfl, rfl, rfl⟩) ?_))
  · rintro b ⟨cs, k, best, hcs, rfl, h⟩
    cases cs with
    | cons x xs => rw [enumFrom_cons] at hcs; cases hcs
    | nil => show _ = _; rw [← h]; cases best <;> rfl
  · rintro ⟨i, x⟩ as b ⟨cs, k, best, hcs, rfl, h⟩
    cases cs with
    | nil => rw [enumFrom_nil] at hcs; cases hcs
    | cons x' xs =>
      rw [enumFrom_cons, List.cons.injEq, Prod.mk.injEq] at hcs
      obtain ⟨⟨rfl, rfl⟩, rfl⟩ := hcs
      rw [fmdGo_cons] at h
      simp only []
      by_cases hlt : IntInf.lt (.fin (Int.ofNat (x - e).natAbs)) (fmdD best) = true
      · rw [if_pos hlt] at h ⊢
        by_cases h0 : (x - e).natAbs = 0
        · rw [if_pos h0] at h
          rw [if_pos (by simp [h0])]
          exact h ▸ rfl
        · rw [if_neg h0] at h
          rw [if_neg (by simpa using h0)]
          exact ⟨xs, k + 1, some (k, ((x - e).natAbs : Int)), by push_cast; rfl, rfl, h⟩
      · rw [if_neg hlt] at h ⊢
        exact ⟨xs, k + 1, best, by push_cast; rfl, rfl, h⟩
  · rintro ⟨r, d, i⟩ h
    cases r <;> exact h

theorem nearestR_eq (t : Int) (valid : List Int) :
    nearestR t valid = (match nearest t valid with | .ok v => .ok v | .error e => .error (errMapL e)) := by
  unfold nearestR nearest
  rw [fmd_gen]
  simp only [ok_bind]
  unfold pyGet
  have h0 : ¬ (((SCoda.findMinimalDistance t valid : Nat) : Int) < 0) := by omega
  simp only [h0, if_false, Int.toNat_natCast]
  cases valid[SCoda.findMinimalDistance t valid]? <;> rfl

theorem nearest_bind {β : Type} (t : Int) (v : List Int) (k : Int → Except PyErr β) :
    (do let i ← Gen.Abs2.findMinimalDistance t v; let x ← pyGet v i; k x) = (nearestR t v >>= k) := by
  unfold nearestR
  simp only [bind_assoc]

end SCoda.AbsTie2L
