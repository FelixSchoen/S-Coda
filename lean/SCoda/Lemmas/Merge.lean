/-
  Lemmas for C15 (merge = union of the inputs' music): per-key counting of note-ons / note-offs,
  the saturating depth as a difference of counts, the "every note-off comes after its note-on"
  reading of `WF` with notes of positive length (`goodFrom`, read off the pair form of one key), its order-free form `E2E.CG`
  (invariant under permutation, filters and concatenation; sounding by counting is `E2E.CS`), what
  `normalise` does to it, and the stage facts about `sortAbs` / `toRel` used by the merge.
-/
import SCoda.Lemmas.Normalise
import SCoda.Lemmas.RollNotes
namespace SCoda.MergeL
open SCoda

def isOnK (k : Int × Int) (m : Msg) : Bool := decide (m.nkey = k ∧ m.ty = .noteOn)
def isOffK (k : Int × Int) (m : Msg) : Bool := decide (m.nkey = k ∧ m.ty = .noteOff)

def ons (k : Int × Int) (l : List Msg) : Nat := l.countP (isOnK k)
def offs (k : Int × Int) (l : List Msg) : Nat := l.countP (isOffK k)

/-- the filters of `SoundingAt` (`≤ t`) and its strict companion -/
def upTo (t : Int) (l : List Msg) : List Msg := l.filter (fun m => decide (m.time ≤ t))
def before (t : Int) (l : List Msg) : List Msg := l.filter (fun m => decide (m.time < t))

theorem ons_nil (k : Int × Int) : ons k [] = 0 := rfl
theorem offs_nil (k : Int × Int) : offs k [] = 0 := rfl

theorem ons_cons_on {k : Int × Int} {m : Msg} (h : m.nkey = k ∧ m.ty = .noteOn) (l : List Msg) :
    ons k (m :: l) = ons k l + 1 := by
  simp [ons, isOnK, h]

theorem offs_cons_on {k : Int × Int} {m : Msg} (h : m.nkey = k ∧ m.ty = .noteOn) (l : List Msg) :
    offs k (m :: l) = offs k l := by
  simp [offs, isOffK, h]

theorem ons_cons_off {k : Int × Int} {m : Msg} (h : m.nkey = k ∧ m.ty = .noteOff) (l : List Msg) :
    ons k (m :: l) = ons k l := by
  simp [ons, isOnK, h]

theorem offs_cons_off {k : Int × Int} {m : Msg} (h : m.nkey = k ∧ m.ty = .noteOff) (l : List Msg) :
    offs k (m :: l) = offs k l + 1 := by
  simp [offs, isOffK, h]

theorem ons_cons_other {k : Int × Int} {m : Msg} (h : ¬(m.nkey = k ∧ m.ty = .noteOn)) (l : List Msg) :
    ons k (m :: l) = ons k l := by
  simp [ons, isOnK, h]

theorem offs_cons_other {k : Int × Int} {m : Msg} (h : ¬(m.nkey = k ∧ m.ty = .noteOff)) (l : List Msg) :
    offs k (m :: l) = offs k l := by
  simp [offs, isOffK, h]

theorem ons_append (k : Int × Int) (a b : List Msg) : ons k (a ++ b) = ons k a + ons k b := by
  simp [ons, List.countP_append]

theorem offs_append (k : Int × Int) (a b : List Msg) : offs k (a ++ b) = offs k a + offs k b := by
  simp [offs, List.countP_append]

theorem ons_perm (k : Int × Int) {a b : List Msg} (h : a.Perm b) : ons k a = ons k b :=
  h.countP_eq _

theorem offs_perm (k : Int × Int) {a b : List Msg} (h : a.Perm b) : offs k a = offs k b :=
  h.countP_eq _

theorem ons_sublist (k : Int × Int) {a b : List Msg} (h : a.Sublist b) : ons k a ≤ ons k b :=
  h.countP_le

theorem offs_sublist (k : Int × Int) {a b : List Msg} (h : a.Sublist b) : offs k a ≤ offs k b :=
  h.countP_le

theorem depth_ge (k : Int × Int) (l : List Msg) : ∀ d, d + ons k l ≤ depth k l d + offs k l := by
  induction l with
  | nil => intro d; simp [depth, ons, offs]
  | cons m ms ih =>
    intro d
    rcases kev_cases k m with h | h | h3
    · rw [depth_cons_on h, ons_cons_on h, offs_cons_on h]
      have := ih (d + 1); omega
    · rw [depth_cons_off h, ons_cons_off h, offs_cons_off h]
      have := ih (d - 1); omega
    · obtain ⟨h1, h2⟩ := not_kev_iff.1 h3
      rw [depth_cons_skip h3, ons_cons_other h1, offs_cons_other h2]
      exact ih d

theorem depth_exact (k : Int × Int) (l : List Msg) : ∀ d,
    (∀ p, p <+: l → offs k p ≤ d + ons k p) → depth k l d + offs k l = d + ons k l := by
  induction l with
  | nil => intro d _; simp [depth, ons, offs]
  | cons m ms ih =>
    intro d hp
    rcases kev_cases k m with h | h | h3
    · rw [depth_cons_on h, ons_cons_on h, offs_cons_on h]
      have := ih (d + 1) (by
        intro p hpp
        have := hp (m :: p) ((List.prefix_cons_inj m).2 hpp)
        rw [ons_cons_on h, offs_cons_on h] at this
        omega)
      omega
    · rw [depth_cons_off h, ons_cons_off h, offs_cons_off h]
      have h0 := hp [m] (by simp)
      rw [ons_cons_off h, offs_cons_off h] at h0
      simp only [ons_nil, offs_nil] at h0
      have := ih (d - 1) (by
        intro p hpp
        have := hp (m :: p) ((List.prefix_cons_inj m).2 hpp)
        rw [ons_cons_off h, offs_cons_off h] at this
        omega)
      omega
    · obtain ⟨h1, h2⟩ := not_kev_iff.1 h3
      rw [depth_cons_skip h3, ons_cons_other h1, offs_cons_other h2]
      exact ih d (by
        intro p hpp
        have := hp (m :: p) ((List.prefix_cons_inj m).2 hpp)
        rw [ons_cons_other h1, offs_cons_other h2] at this
        exact this)

/-- per key: note-ons and note-offs alternate (starting and ending closed) and every note-off is
    strictly later than the note-on it closes; the state is the tick of the open note-on -/
def goodFrom (k : Int × Int) : Option Int → List Msg → Prop
  | o, [] => o = none
  | o, m :: ms =>
    if m.nkey = k ∧ m.ty = .noteOn then o = none ∧ goodFrom k (some m.time) ms
    else if m.nkey = k ∧ m.ty = .noteOff then (∃ t0, o = some t0 ∧ t0 < m.time) ∧ goodFrom k none ms
    else goodFrom k o ms

theorem goodFrom_cons_on {k : Int × Int} {m : Msg} (h : m.nkey = k ∧ m.ty = .noteOn) (ms : List Msg) (o : Option Int) :
    goodFrom k o (m :: ms) ↔ o = none ∧ goodFrom k (some m.time) ms := by
  simp only [goodFrom, h, and_self, if_true]

theorem goodFrom_cons_off {k : Int × Int} {m : Msg} (h : m.nkey = k ∧ m.ty = .noteOff) (ms : List Msg) (o : Option Int) :
    goodFrom k o (m :: ms) ↔ (∃ t0, o = some t0 ∧ t0 < m.time) ∧ goodFrom k none ms := by
  simp only [goodFrom, h, and_self, if_true, reduceCtorEq, and_false, if_false]

theorem goodFrom_cons_other {k : Int × Int} {m : Msg} (h1 : ¬(m.nkey = k ∧ m.ty = .noteOn))
    (h2 : ¬(m.nkey = k ∧ m.ty = .noteOff)) (ms : List Msg) (o : Option Int) : goodFrom k o (m :: ms) ↔ goodFrom k o ms := by
  simp only [goodFrom, h1, h2, if_false]

/-- the depth at which a key stands: 1 while a note of it is open (since the tick given), 0 otherwise -/
def openN : Option Int → Nat
  | some _ => 1
  | none => 0

theorem upTo_append (t : Int) (a b : List Msg) : upTo t (a ++ b) = upTo t a ++ upTo t b := by
  simp [upTo]

theorem before_append (t : Int) (a b : List Msg) : before t (a ++ b) = before t a ++ before t b := by
  simp [before]

theorem upTo_all (s : Int) (L : List Msg) (h : ∀ a ∈ L, a.time ≤ s) : upTo s L = L := filter_le_eq_self L s h

theorem upTo_none (s : Int) (L : List Msg) (h : ∀ a ∈ L, s < a.time) : upTo s L = [] := filter_le_eq_nil L s h

theorem before_all (s : Int) (L : List Msg) (h : ∀ a ∈ L, a.time < s) : before s L = L := by
  rw [before, List.filter_eq_self]; simpa using h

theorem before_none (s : Int) (L : List Msg) (h : ∀ a ∈ L, s ≤ a.time) : before s L = [] := by
  rw [before, List.filter_eq_nil_iff]; intro a ha; have := h a ha; simp; omega

theorem upTo_split (t : Int) (l : List Msg) (hs : Sorted l) : ∃ A2, l = upTo t l ++ A2 := by
  obtain ⟨A1, A2, h1, h2, h3⟩ := split_sorted l t hs
  refine ⟨A2, ?_⟩
  have : upTo t l = A1 := by rw [h1, upTo_append, upTo_all t A1 h2, upTo_none t A2 h3, List.append_nil]
  rw [this]; exact h1

theorem prefix_between (k : Int × Int) (q' r : List Msg) (x : Msg) (hs : Sorted ((q' ++ [x]) ++ r)) :
    offs k (q' ++ [x]) ≤ offs k (upTo x.time ((q' ++ [x]) ++ r))
    ∧ ons k (before x.time ((q' ++ [x]) ++ r)) ≤ ons k (q' ++ [x]) := by
  obtain ⟨hq, _, hqr⟩ := List.pairwise_append.1 hs
  obtain ⟨_, _, hqx⟩ := List.pairwise_append.1 hq
  have hle : ∀ a ∈ q' ++ [x], a.time ≤ x.time := by
    intro a ha
    rcases List.mem_append.1 ha with ha | ha
    · exact hqx a ha x (by simp)
    · simp at ha; subst ha; exact Int.le_refl _
  constructor
  · rw [upTo_append, upTo_all _ _ hle, offs_append k (q' ++ [x])]; omega
  · rw [before_append, before_none _ r (fun a ha => hqr x (by simp) a ha), List.append_nil]
    exact ons_sublist k List.filter_sublist

theorem sounding_abs (a : List Msg) (k : Int × Int) (t : Int) : SoundingAt (eventsAbs a) k t ↔ SoundingAt a k t :=
  soundingAt_filter k _ a t fun m _ h => by rcases h.2 with e | e <;> simp [e]

theorem durAbs_spec (a : List Msg) (hs : Sorted a) (hn : NonNegTimes a) :
    0 ≤ durAbs a ∧ (∀ e ∈ a, e.time ≤ durAbs a) ∧ (durAbs a = 0 ∨ ∃ e ∈ a, e.time = durAbs a) := by
  rcases durAbs_last a hs with ⟨rfl, h⟩ | ⟨x, hx, hd, hle⟩
  · exact ⟨by rw [h]; exact Int.le_refl 0, by simp, Or.inl h⟩
  · rw [hd]
    exact ⟨hn x hx, hle, Or.inr ⟨x, hx, rfl⟩⟩

theorem toRelGo_timeSigs (l : List Msg) : ∀ cur : Int, tsVals (toRelGo cur l) = tsVals l := by
  unfold tsVals
  induction l with
  | nil => intro cur; rfl
  | cons m ms ih =>
    intro cur
    simp only [toRelGo, List.filter_append, List.map_append, ih]
    by_cases hts : m.ty = .timeSignature
    · by_cases hgt : m.time > cur <;> simp [hts, hgt, Msg.mkWait]
    · by_cases hgt : m.time > cur <;> by_cases hint : m.ty = .internal <;>
        simp [hts, hgt, hint, Msg.mkWait]

theorem toRel_okAbs {a : List Msg} (h : OkAbs a) : NonNegWaits (toRel a) ∧ eventsRel (toRel a) = eventsAbs a :=
  ⟨fun m hm => (toRelGo_ok _ 0 h.2.2 m hm).1, eventsRelGo_toRelGo _ 0 ((timeSorted_iff_pairwise _).1 h.1) h.2.1 h.2.2⟩

theorem countP_filter_of_imp {α} (p q : α → Bool) (l : List α) (h : ∀ x ∈ l, p x = true → q x = true) :
    (l.filter q).countP p = l.countP p := by
  rw [List.countP_filter]
  exact List.countP_congr fun x hx => by simpa using h x hx

theorem ons_filter (k : Int × Int) (q : Msg → Bool)
    (hq : ∀ m : Msg, m.nkey = k → m.ty = .noteOn ∨ m.ty = .noteOff → q m = true)
    (l : List Msg) : ons k (l.filter q) = ons k l :=
  countP_filter_of_imp _ q l fun m _ h => hq m (of_decide_eq_true h).1 (Or.inl (of_decide_eq_true h).2)

theorem offs_filter (k : Int × Int) (q : Msg → Bool)
    (hq : ∀ m : Msg, m.nkey = k → m.ty = .noteOn ∨ m.ty = .noteOff → q m = true)
    (l : List Msg) : offs k (l.filter q) = offs k l :=
  countP_filter_of_imp _ q l fun m _ h => hq m (of_decide_eq_true h).1 (Or.inr (of_decide_eq_true h).2)

theorem upTo_filter (t : Int) (q : Msg → Bool) (l : List Msg) : upTo t (l.filter q) = (upTo t l).filter q :=
  filter_comm' q _ l

theorem before_filter (t : Int) (q : Msg → Bool) (l : List Msg) : before t (l.filter q) = (before t l).filter q :=
  filter_comm' q _ l

open SCoda.NotesL SCoda.NotesBL SplitL

theorem ons_filter_kn (k : Int × Int) (l : List Msg) : ons k (l.filter (isKN k)) = ons k l :=
  ons_filter k _ (fun _ hk ht => isKN_true ⟨hk, ht⟩) l

theorem offs_filter_kn (k : Int × Int) (l : List Msg) : offs k (l.filter (isKN k)) = offs k l :=
  offs_filter k _ (fun _ hk ht => isKN_true ⟨hk, ht⟩) l

theorem countP_split {α} (p q : α → Bool) : ∀ l : List α, (∀ x ∈ l, q x = true → p x = true) →
    l.countP p = l.countP q + l.countP (fun x => p x && !q x) := by
  intro l
  induction l with
  | nil => intro _; rfl
  | cons x xs ih =>
    intro h
    have ih' := ih (fun y hy => h y (List.mem_cons_of_mem _ hy))
    have hx := h x List.mem_cons_self
    rw [List.countP_cons, List.countP_cons, List.countP_cons, ih']
    cases hq : q x
    · cases p x <;> simp only [Bool.not_false, Bool.and_true, Bool.false_eq_true, if_false, if_true] <;> omega
    · simp only [hx hq, hq, Bool.not_true, Bool.and_false, Bool.false_eq_true, if_false, if_true]; omega

theorem counts_unpair (k : Int × Int) (c : Msg → Bool) : ∀ P : List (Msg × Msg), (∀ p ∈ P, GoodPair k p) →
    ons k ((unpair P).filter c) = P.countP (fun p => c p.1) ∧ offs k ((unpair P).filter c) = P.countP (fun p => c p.2) := by
  intro P
  induction P with
  | nil => intro _; exact ⟨rfl, rfl⟩
  | cons p P ih =>
    intro hg
    have g := hg p (by simp)
    obtain ⟨i1, i2⟩ := ih (fun q hq => hg q (List.mem_cons_of_mem _ hq))
    have hon : ¬ (p.1.nkey = k ∧ p.1.ty = .noteOff) := by rw [g.on]; simp
    have hoff : ¬ (p.2.nkey = k ∧ p.2.ty = .noteOn) := by rw [g.off]; simp
    rw [unpair_cons, List.filter_cons, List.filter_cons, List.countP_cons, List.countP_cons]
    cases c p.1 <;> cases c p.2 <;>
      simp only [Bool.false_eq_true, if_false, if_true, ons_cons_on ⟨g.k1, g.on⟩, offs_cons_other hon, ons_cons_other hoff,
        offs_cons_off ⟨g.k2, g.off⟩, i1, i2, Nat.add_zero, and_self]

theorem counts_view (a : List Msg) (k : Int × Int) (P : List (Msg × Msg)) (h1 : a.filter (isKN k) = unpair P)
    (h2 : ∀ p ∈ P, GoodPair k p) (s : Int) :
    ons k (before s a) = P.countP (fun p => decide (p.1.time < s))
      ∧ offs k (upTo s a) = P.countP (fun p => decide (p.2.time ≤ s)) :=
  ⟨by rw [← ons_filter_kn, before, filter_comm', h1]; exact (counts_unpair k _ P h2).1,
   by rw [← offs_filter_kn, upTo, filter_comm', h1]; exact (counts_unpair k _ P h2).2⟩

/-- **the excess of one key, read off its pairs**: of the notes begun before `s`, those not ended by `s` have `s`
    strictly inside -/
theorem excess_view (a : List Msg) (k : Int × Int) (P : List (Msg × Msg)) (h1 : a.filter (isKN k) = unpair P)
    (h2 : ∀ p ∈ P, GoodPair k p) (hpos : ∀ p ∈ P, p.1.time < p.2.time) (s : Int) :
    ons k (before s a) = offs k (upTo s a) + P.countP (fun p => decide (p.1.time < s ∧ s < p.2.time)) := by
  obtain ⟨e1, e2⟩ := counts_view a k P h1 h2 s
  rw [e1, e2, countP_split _ (fun p => decide (p.2.time ≤ s)) P fun p hp hq => by
    have := hpos p hp
    simp only [decide_eq_true_eq] at hq ⊢
    omega]
  refine congrArg _ (List.countP_congr fun p _ => ?_)
  simp only [Bool.and_eq_true, Bool.not_eq_true', decide_eq_true_eq, decide_eq_false_iff_not]
  omega

theorem goodFrom_filter_kn (k : Int × Int) (l : List Msg) : ∀ o, goodFrom k o (l.filter (isKN k)) ↔ goodFrom k o l := by
  induction l with
  | nil => intro o; exact Iff.rfl
  | cons m l ih =>
    intro o
    by_cases hm : isKN k m = true
    · simp only [List.filter_cons_of_pos hm, goodFrom, ih]
    · have hk := not_kev_iff.1 fun e => hm (isKN_true e)
      rw [List.filter_cons_of_neg hm, goodFrom_cons_other hk.1 hk.2, ih]

theorem goodFrom_unpair (k : Int × Int) : ∀ P : List (Msg × Msg), (∀ p ∈ P, GoodPair k p) →
    (goodFrom k none (unpair P) ↔ ∀ p ∈ P, p.1.time < p.2.time) := by
  intro P
  induction P with
  | nil => intro _; simp [unpair, goodFrom]
  | cons p P ih =>
    intro hg
    have g := hg p (by simp)
    rw [unpair_cons]
    simp only [goodFrom, g.k1, g.on, g.k2, g.off, and_self, if_true, if_false, true_and, reduceCtorEq, and_false,
      Option.some.injEq, exists_eq_left', List.mem_cons, forall_eq_or_imp,
      ih (fun q hq => hg q (List.mem_cons_of_mem _ hq))]

theorem good_of_wf (a : List Msg) (hwf : WF a) (hpos : ∀ n ∈ notesOf a, n.on < n.off) (k : Int × Int) :
    goodFrom k none a := by
  obtain ⟨P, h1, h2, h3⟩ := key_view a hwf k
  rw [← goodFrom_filter_kn, h1, goodFrom_unpair k P h2]
  intro p hp
  exact hpos _ ((mem_key_notes h3).1 (List.mem_map_of_mem hp)).1

theorem alt_of_good (k : Int × Int) : ∀ (l : List Msg) (o : Option Int), goodFrom k o l → altFrom k o.isSome l := by
  intro l
  induction l with
  | nil => intro o h; simp only [goodFrom] at h; subst h; simp [altFrom]
  | cons m ms ih =>
    intro o hg
    rcases kev_cases k m with h | h | h
    · rw [altFrom_cons_on h]
      rw [goodFrom_cons_on h] at hg
      exact ⟨by rw [hg.1]; rfl, ih _ hg.2⟩
    · rw [altFrom_cons_off h]
      obtain ⟨⟨t0, e, _⟩, hg⟩ := (goodFrom_cons_off h ms o).1 hg
      exact ⟨by rw [e]; rfl, ih _ hg⟩
    · rw [altFrom_cons_skip h]
      exact ih _ ((goodFrom_cons_other (not_kev_iff.1 h).1 (not_kev_iff.1 h).2 ms o).1 hg)

theorem good_normal_form (k : Int × Int) (l : List Msg) (h : goodFrom k none l) :
    ∃ P : List (Msg × Msg), l.filter (isKN k) = unpair P ∧ (∀ p ∈ P, GoodPair k p) ∧ ∀ p ∈ P, p.1.time < p.2.time := by
  obtain ⟨P, hP, hg⟩ := key_form k l (alt_of_good k l none h)
  refine ⟨P, hP, hg, (goodFrom_unpair k P hg).1 ?_⟩
  rw [← hP, goodFrom_filter_kn]; exact h

end SCoda.MergeL

namespace SCoda.E2E
open SCoda SCoda.MergeL SCoda.NotesBL

/-- per key: up to every tick there are at most as many note-offs as note-ons strictly before it,
    and the totals agree.  Invariant under permutation and under removing non-note messages. -/
def CG (k : Int × Int) (E : List Msg) : Prop :=
  (∀ s, offs k (upTo s E) ≤ ons k (before s E)) ∧ ons k E = offs k E

/-- sounding, by counting -/
def CS (k : Int × Int) (t : Int) (E : List Msg) : Prop := offs k (upTo t E) < ons k (upTo t E)

theorem cg_perm {k : Int × Int} {E E' : List Msg} (hp : E.Perm E') (h : CG k E) : CG k E' := by
  refine ⟨fun s => ?_, ?_⟩
  · have e1 : offs k (upTo s E) = offs k (upTo s E') := offs_perm k (hp.filter _)
    have e2 : ons k (before s E) = ons k (before s E') := ons_perm k (hp.filter _)
    rw [← e1, ← e2]; exact h.1 s
  · rw [← offs_perm k hp, ← ons_perm k hp]; exact h.2

theorem cs_perm {k : Int × Int} {t : Int} {E E' : List Msg} (hp : E.Perm E') : CS k t E ↔ CS k t E' := by
  have e1 : offs k (upTo t E) = offs k (upTo t E') := offs_perm k (hp.filter _)
  have e2 : ons k (upTo t E) = ons k (upTo t E') := ons_perm k (hp.filter _)
  unfold CS
  rw [e1, e2]

theorem cg_filter (k : Int × Int) (q : Msg → Bool)
    (hq : ∀ m : Msg, m.nkey = k → m.ty = .noteOn ∨ m.ty = .noteOff → q m = true)
    (l : List Msg) : CG k (l.filter q) ↔ CG k l := by
  unfold CG
  simp only [upTo_filter, before_filter, ons_filter k q hq, offs_filter k q hq]

theorem cs_filter (k : Int × Int) (t : Int) (q : Msg → Bool)
    (hq : ∀ m : Msg, m.nkey = k → m.ty = .noteOn ∨ m.ty = .noteOff → q m = true) (l : List Msg) :
    CS k t (l.filter q) ↔ CS k t l := by
  unfold CS
  simp only [upTo_filter, ons_filter k q hq, offs_filter k q hq]

theorem notInternal_notes (m : Msg) (h : m.ty = .noteOn ∨ m.ty = .noteOff) : (m.ty != .internal) = true := by
  rcases h with h | h <;> simp [h]

theorem cg_eventsAbs (k : Int × Int) (l : List Msg) : CG k (eventsAbs l) ↔ CG k l :=
  cg_filter k _ (fun m _ => notInternal_notes m) l

theorem cs_eventsAbs (k : Int × Int) (t : Int) (l : List Msg) : CS k t (eventsAbs l) ↔ CS k t l :=
  cs_filter k t _ (fun m _ => notInternal_notes m) l

theorem cg_of_good (k : Int × Int) (E : List Msg) (h : goodFrom k none E) : CG k E := by
  obtain ⟨P, h1, h2, h3⟩ := good_normal_form k E h
  refine ⟨fun s => ?_, ?_⟩
  · rw [excess_view E k P h1 h2 h3 s]
    exact Nat.le_add_right _ _
  · have := counts_unpair k (fun _ => true) P h2
    rw [List.filter_eq_self.2 fun _ _ => rfl] at this
    rw [← ons_filter_kn, ← offs_filter_kn, h1, this.1, this.2]

theorem ons_before_le (k : Int × Int) (s : Int) (E : List Msg) : ons k (before s E) ≤ ons k (upTo s E) := by
  have : before s E = (upTo s E).filter (fun m => decide (m.time < s)) := by
    rw [upTo, before, List.filter_filter]
    exact List.filter_congr fun m _ => by
      by_cases h : m.time < s
      · have : m.time ≤ s := by omega
        simp [h, this]
      · simp [h]
  rw [this]
  exact ons_sublist k List.filter_sublist

theorem cg_le (k : Int × Int) (E : List Msg) (h : CG k E) (s : Int) : offs k (upTo s E) ≤ ons k (upTo s E) :=
  Nat.le_trans (h.1 s) (ons_before_le k s E)

theorem cg_flatten (k : Int × Int) (as : List (List Msg)) (h : ∀ a ∈ as, CG k a) : CG k as.flatten := by
  induction as with
  | nil => exact ⟨fun s => by simp [upTo, before, ons, offs], rfl⟩
  | cons a as ih =>
    have h1 := h a (by simp)
    have h2 := ih (fun b hb => h b (List.mem_cons_of_mem _ hb))
    refine ⟨fun s => ?_, ?_⟩
    · rw [List.flatten_cons, upTo_append, before_append, ons_append, offs_append]
      have := h1.1 s; have := h2.1 s; omega
    · rw [List.flatten_cons, ons_append, offs_append]
      have := h1.2; have := h2.2; omega

theorem cs_flatten (k : Int × Int) (t : Int) (as : List (List Msg)) (h : ∀ a ∈ as, CG k a) :
    CS k t as.flatten ↔ ∃ a ∈ as, CS k t a := by
  induction as with
  | nil => simp [CS, upTo, ons, offs]
  | cons a as ih =>
    have h1 := cg_le k a (h a (by simp)) t
    have h2 := cg_le k _ (cg_flatten k as (fun b hb => h b (List.mem_cons_of_mem _ hb))) t
    have ih' := ih (fun b hb => h b (List.mem_cons_of_mem _ hb))
    simp only [List.mem_cons, exists_eq_or_imp]
    rw [← ih']
    unfold CS
    rw [List.flatten_cons, upTo_append, ons_append, offs_append]
    omega

theorem no_underflow_cg (k : Int × Int) (U : List Msg) (hs : Sorted U) (h : CG k U) :
    ∀ q, q <+: U → offs k q ≤ 0 + ons k q := by
  intro q hq
  obtain ⟨r, hr⟩ := hq
  rcases List.eq_nil_or_concat q with hnil | ⟨q', x, hx⟩
  · subst hnil; simp [ons, offs]
  · rw [List.concat_eq_append] at hx
    subst hx
    subst hr
    obtain ⟨h1, h2⟩ := prefix_between k q' r x hs
    have h3 := h.1 x.time
    omega

theorem depth_zero_cg (k : Int × Int) (U : List Msg) (hs : Sorted U) (h : CG k U) : depth k U 0 = 0 := by
  have h1 := depth_exact k U 0 (no_underflow_cg k U hs h)
  have := h.2
  omega

theorem depth_upTo_cg (k : Int × Int) (t : Int) (U : List Msg) (hs : Sorted U) (h : CG k U) :
    depth k (upTo t U) 0 + offs k (upTo t U) = ons k (upTo t U) := by
  obtain ⟨A2, hA⟩ := upTo_split t U hs
  have hpre : upTo t U <+: U := ⟨A2, hA.symm⟩
  have h1 := depth_exact k (upTo t U) 0 (fun q hq => no_underflow_cg k U hs h q (hq.trans hpre))
  omega

theorem sounding_cs (k : Int × Int) (t : Int) (U : List Msg) (hs : Sorted U) (h : CG k U) :
    SoundingAt U k t ↔ CS k t U := by
  have := depth_upTo_cg k t U hs h
  unfold SoundingAt CS
  unfold upTo at this ⊢
  omega

theorem run_count {k : Int × Int} {b' : Bool} : ∀ (l : List Msg) (b : Bool), krun k b l = some b' →
    ons k l + b.toNat = offs k l + b'.toNat := by
  intro l
  induction l with
  | nil => intro b h; cases h; rfl
  | cons m ms ih =>
    intro b h
    rcases kev_cases k m with hm | hm | hm
    · rw [krun_cons_on k b m ms hm] at h
      cases b with
      | true => cases h
      | false =>
        have := ih true h
        rw [ons_cons_on hm, offs_cons_on hm]
        simp only [Bool.toNat_true, Bool.toNat_false, Nat.add_zero] at this ⊢
        omega
    · rw [krun_cons_off k b m ms hm] at h
      cases b with
      | false => cases h
      | true =>
        have := ih false h
        rw [ons_cons_off hm, offs_cons_off hm]
        simp only [Bool.toNat_true, Bool.toNat_false, Nat.add_zero] at this ⊢
        omega
    · rw [krun_cons_skip k b m ms hm] at h
      rw [ons_cons_other (not_kev_iff.1 hm).1, offs_cons_other (not_kev_iff.1 hm).2]
      exact ih b h

/-- what the depth counter lets through is a run (`krun_fuseK`): counted -/
theorem fuse_count (k : Int × Int) (l : List Msg) (d : Nat) :
    ons k (fuseK k d l) + min d 1 = offs k (fuseK k d l) + min (depth k l d) 1 := by
  have e : ∀ n : Nat, (decide (0 < n)).toNat = min n 1 := fun n => by
    by_cases hn : 0 < n
    · rw [decide_eq_true hn, Nat.min_eq_right hn]; rfl
    · rw [decide_eq_false hn, Nat.min_eq_left (by omega)]; simp at hn; rw [hn]; rfl
  have := run_count _ _ (krun_fuseK k l d)
  rwa [e, e] at this

theorem fuse_offs_bound (k : Int × Int) (C : List Msg) : ∀ d r, r ≤ d → (∀ C', C' <+: C → offs k C' ≤ r) →
    offs k (fuseK k d C) ≤ min r 1 := by
  induction C with
  | nil => intro d r _ _; simp [fuseK, offs]
  | cons m ms ih =>
    intro d r hrd hp
    rcases kev_cases k m with h | h | h3
    · have hp' : ∀ C', C' <+: ms → offs k C' ≤ r := by
        intro p hpp
        have := hp (m :: p) ((List.prefix_cons_inj m).2 hpp)
        rw [offs_cons_on h] at this; exact this
      by_cases hd : d = 0
      · subst hd
        rw [fuseK_kon h, if_pos rfl, offs_cons_on h]
        exact ih 1 r (by omega) hp'
      · rw [fuseK_kon h, if_neg hd]
        exact ih (d + 1) r (by omega) hp'
    · have h0 := hp [m] (by simp)
      rw [offs_cons_off h] at h0
      simp only [offs_nil] at h0
      have hp' : ∀ C', C' <+: ms → offs k C' ≤ r - 1 := by
        intro p hpp
        have := hp (m :: p) ((List.prefix_cons_inj m).2 hpp)
        rw [offs_cons_off h] at this; omega
      by_cases hd : d = 1
      · subst hd
        rw [fuseK_koff h, if_pos rfl, offs_cons_off h]
        have := ih 0 (r - 1) (by omega) hp'; omega
      · rw [fuseK_koff h, if_neg hd]
        have := ih (d - 1) (r - 1) (by omega) hp'; omega
    · obtain ⟨h1, h2⟩ := not_kev_iff.1 h3
      have hp' : ∀ C', C' <+: ms → offs k C' ≤ r := by
        intro p hpp
        have := hp (m :: p) ((List.prefix_cons_inj m).2 hpp)
        rw [offs_cons_other h2] at this; exact this
      rw [fuseK_kother h3]
      exact ih d r hrd hp'

theorem split3 (E : List Msg) (s : Int) (hs : Sorted E) :
    ∃ B C A, E = B ++ (C ++ A) ∧ (∀ a ∈ B, a.time < s) ∧ (∀ a ∈ C, a.time = s) ∧ (∀ a ∈ A, s < a.time) := by
  obtain ⟨B, R, h1, h2, h3⟩ := split_sorted E (s - 1) hs
  have hR : Sorted R := by rw [h1] at hs; exact (List.pairwise_append.1 hs).2.1
  obtain ⟨C, A, h4, h5, h6⟩ := split_sorted R s hR
  refine ⟨B, C, A, by rw [h1, h4], fun a ha => by have := h2 a ha; omega, ?_, h6⟩
  intro a ha
  have := h5 a ha
  have := h3 a (by rw [h4]; exact List.mem_append_left _ ha)
  omega

theorem sliced (s : Int) (B C A : List Msg) (hB : ∀ a ∈ B, a.time < s) (hC : ∀ a ∈ C, a.time = s)
    (hA : ∀ a ∈ A, s < a.time) : upTo s (B ++ (C ++ A)) = B ++ C ∧ before s (B ++ (C ++ A)) = B :=
  ⟨by rw [upTo_append, upTo_append, upTo_all s _ (fun a ha => by have := hB a ha; omega),
      upTo_all s _ (fun a ha => by have := hC a ha; omega), upTo_none s _ hA, List.append_nil],
   by rw [before_append, before_append, before_all s _ hB, before_none s _ (fun a ha => by have := hC a ha; omega),
      before_none s _ (fun a ha => by have := hA a ha; omega), List.append_nil, List.append_nil]⟩

/-- the depth counter keeps `CG`.  Before a tick `s` it has let through one note-on more than note-offs exactly when a note is open
    there (`fuse_count`, the depth being the plain difference, `depth_exact`), and of the note-offs at `s` itself it lets through
    at most that one (`fuse_offs_bound`: `CG` leaves them no more room than the depth before `s`) -/
theorem cg_fuse (k : Int × Int) (E : List Msg) (hs : Sorted E) (h : CG k E) : CG k (fuseK k 0 E) := by
  have hnu := no_underflow_cg k E hs h
  refine ⟨fun s => ?_, ?_⟩
  · obtain ⟨B, C, A, hE, hB, hC, hA⟩ := split3 E s hs
    have hF : fuseK k 0 E = fuseK k 0 B ++ (fuseK k (depth k B 0) C ++ fuseK k (depth k C (depth k B 0)) A) := by
      rw [hE, fuseK_append, fuseK_append]
    obtain ⟨e1, e2⟩ := sliced s _ _ _ (fun a ha => hB a ((fuseK_sublist k B 0).subset ha))
      (fun a ha => hC a ((fuseK_sublist k C (depth k B 0)).subset ha))
      (fun a ha => hA a ((fuseK_sublist k A (depth k C (depth k B 0))).subset ha))
    obtain ⟨e3, e4⟩ := sliced s B C A hB hC hA
    have hpB : B <+: E := ⟨C ++ A, hE.symm⟩
    have i1 := depth_exact k B 0 (fun q hq => hnu q (hq.trans hpB))
    have i2 := fuse_count k B 0
    have hcg := h.1 s
    rw [hE, e3, e4] at hcg
    have i3 := fuse_offs_bound k C (depth k B 0) (depth k B 0) (Nat.le_refl _) (by
      intro C' hC'
      have hsub : (B ++ C').Sublist (B ++ C) := (List.Sublist.refl B).append hC'.sublist
      have := offs_sublist k hsub
      rw [offs_append] at this
      omega)
    rw [hF, e1, e2, offs_append]
    omega
  · have i2 := fuse_count k E 0
    rw [depth_zero_cg k E hs h] at i2
    omega

theorem norm_cg (r : List Msg) (hr : NonNegWaits r) (hcg : ∀ k, CG k (eventsRel r)) :
    (∀ k, CG k (eventsRel (normalise r))) ∧
    ∀ k t, SoundingAt (eventsRel (normalise r)) k t ↔ SoundingAt (eventsRel r) k t := by
  have hs : Sorted (eventsRel r) := events_sorted r 0 hr
  have hd : ∀ k, depth k r 0 = 0 := by
    intro k
    rw [← depth_events k r 0 0]
    exact depth_zero_cg k _ hs (hcg k)
  refine ⟨fun k => ?_, fun k t => sounding_fuse _ _ k t hs (normalise_fuse r hr hd k)⟩
  rw [← cg_filter k (isKN k) (fun _ hk ht => isKN_true ⟨hk, ht⟩), normalise_fuse r hr hd k]
  exact cg_fuse k _ hs (hcg k)

/-- a good absolute view: legal, and `CG` for every key -/
def GA (a : List Msg) : Prop := OkAbs a ∧ ∀ k, CG k a

theorem ga_sorted {a : List Msg} (h : GA a) : Sorted a := (timeSorted_iff_pairwise a).1 h.1.1

theorem ga_sounding {a : List Msg} (h : GA a) (k : Int × Int) (t : Int) :
    SoundingAt (eventsAbs a) k t ↔ CS k t a :=
  (sounding_abs a k t).trans (sounding_cs k t a (ga_sorted h) (h.2 k))

theorem toRel_union_depth (as : List (List Msg)) (k : Int × Int)
    (hcg : ∀ a ∈ as, CG k a) : depth k (toRel (sortAbs as.flatten)) 0 = 0 := by
  rw [depth_toRel]
  exact depth_zero_cg k _ (sortAbs_pairwise _) (cg_perm (sortAbs_perm _).symm (cg_flatten k as hcg))

end SCoda.E2E
