/-
  The fold of `get_message_pairings`.
  * `PairStep`: one step (`pairStep`) as `setdefault` on the channel, then what a note-on, a note-off and any
    other compared message do; what `interleaveGo` hands out: pairings of the tables
    (`mem_interleaveGo`, `interleaved_forall`).
  * `NL.Good`: the tables of the fold with imputation (`impute_note_offs = true`, the only value any caller
    passes; without it a re-triggered note-on would stay in the table unrecorded), for any compared types and
    any list: every pairing is a closed note, a
    single compared message, or the single note-on that `opens` records at its index; read at the output of
    `get_message_pairings` in `pairingsSorted_cases`.
  * `SB.View`: the tables seen from one key.  Whatever the message and whatever the other keys do, the view of
    key `k` follows the one-key pairing machine `kstep` (`View_step`, `View_fold`); on a list whose `k`-events
    are `on₁, off₁, on₂, off₂, …` the fold pairs them (`fold_view`).
-/
import SCoda.Model.Pairing
import SCoda.Lemmas.ModifyAt
import SCoda.Lemmas.AssocL
import SCoda.Lemmas.RollKey
namespace SCoda.PairStep
open SCoda

/-- `message_pairings.setdefault(ch, [])` -/
def setDefault (s : PairSt) (ch : Int) : PairSt :=
  if s.pairs.contains ch then s else { s with pairs := s.pairs.set ch [] }

/-- a re-triggered note gets an imputed note-off at the time of the new note-on -/
def closeOpen (imp : Bool) (s : PairSt) (m : Msg) : PairSt :=
  match s.opens.get? m.nkey with
    | some i => if imp then
        { (s.appendAt m.ch i (Msg.mkOff m.ch m.note m.time)) with opens := s.opens.erase m.nkey }
      else s
    | none => s

/-- the new note-on opens a pairing of its own and is registered under its key -/
def openNew (s : PairSt) (m : Msg) : PairSt :=
  let s := s.append m.ch [m]
  { s with opens := s.opens.set m.nkey (((s.pairs.get? m.ch).getD []).length - 1) }

def stepOn (imp : Bool) (s : PairSt) (m : Msg) : PairSt := openNew (closeOpen imp s m) m

def stepOff (s : PairSt) (m : Msg) : PairSt :=
  match s.opens.get? m.nkey with
  | none => s
  | some i => { (s.appendAt m.ch i m) with opens := s.opens.erase m.nkey }

theorem pairStep_eq (types : List MType) (imp : Bool) (s : PairSt) (m : Msg) :
    pairStep types imp s m = if !types.contains m.ty then s else
      match m.ty with
      | .noteOn => stepOn imp (setDefault s m.ch) m
      | .noteOff => stepOff (setDefault s m.ch) m
      | _ => (setDefault s m.ch).append m.ch [m] := rfl

section cases
variable {types : List MType} {m : Msg}

theorem pairStep_skip (imp : Bool) (s : PairSt) (hc : ¬ types.contains m.ty = true) : pairStep types imp s m = s := by
  rw [pairStep_eq, if_pos (by simpa using hc)]

theorem pairStep_on (imp : Bool) (s : PairSt) (hc : types.contains m.ty = true) (hon : m.ty = .noteOn) :
    pairStep types imp s m = stepOn imp (setDefault s m.ch) m := by
  rw [pairStep_eq, if_neg (by rw [hc]; simp), hon]

theorem pairStep_off (imp : Bool) (s : PairSt) (hc : types.contains m.ty = true) (hoff : m.ty = .noteOff) :
    pairStep types imp s m = stepOff (setDefault s m.ch) m := by
  rw [pairStep_eq, if_neg (by rw [hc]; simp), hoff]

theorem pairStep_other (imp : Bool) (s : PairSt) (hc : types.contains m.ty = true) (hon : m.ty ≠ .noteOn)
    (hoff : m.ty ≠ .noteOff) : pairStep types imp s m = (setDefault s m.ch).append m.ch [m] := by
  rw [pairStep_eq, if_neg (by rw [hc]; simp)]
  cases hty : m.ty <;> first | rfl | exact absurd hty hon | exact absurd hty hoff

end cases

theorem mem_interleaveGo {fuel : Nat} {chans : List (Int × List Pairing)} {acc : List (Int × Pairing)}
    {x : Int × Pairing} (h : x ∈ interleaveGo fuel chans acc) :
    x ∈ acc ∨ ∃ ps, (x.1, ps) ∈ chans ∧ x.2 ∈ ps := by
  induction fuel generalizing chans acc with
  | zero => simp only [interleaveGo, List.mem_reverse] at h; exact Or.inl h
  | succ fuel ih =>
    simp only [interleaveGo] at h
    split at h
    · exact Or.inl (List.mem_reverse.1 h)
    · rename_i i _ _
      split at h
      · rename_i ch p rest hget
        have hmem : (ch, p :: rest) ∈ chans := List.mem_of_getElem? hget
        rcases ih h with h | ⟨ps, h1, h2⟩
        · rcases List.mem_cons.1 h with h | h
          · subst h
            exact Or.inr ⟨p :: rest, hmem, by simp⟩
          · exact Or.inl h
        · rcases mem_modifyAt h1 with h1 | ⟨c, hc, h1⟩
          · exact Or.inr ⟨ps, h1, h2⟩
          · obtain ⟨c1, c2⟩ := c
            simp only [Prod.mk.injEq] at h1
            obtain ⟨h1a, rfl⟩ := h1
            exact Or.inr ⟨c2, h1a ▸ hc, List.mem_of_mem_drop h2⟩
      · exact Or.inl (List.mem_reverse.1 h)

theorem interleaved_forall {Q : Int → Pairing → Prop} {T : List MType} {std : Int} {imp : Bool} {a : List Msg}
    (h : ∀ c ∈ pairingsSorted T std imp (sortAbs a), ∀ p ∈ c.2, Q c.1 p) : ∀ x ∈ interleaved T std imp a, Q x.1 x.2 := by
  intro x hx
  rcases mem_interleaveGo hx with hx | ⟨ps, h1, h2⟩
  · cases hx
  · exact h (x.1, ps) h1 x.2 h2

theorem closeUnclosed_cons (std : Int) (imp : Bool) (m : Msg) (r : List Msg) :
    ∃ r', closeUnclosed std imp (m :: r) = m :: r' := by
  unfold closeUnclosed
  split
  · rename_i m1 heq
    cases heq
    split
    · exact ⟨_, rfl⟩
    · exact ⟨_, rfl⟩
  · exact ⟨_, rfl⟩

theorem closeUnclosed_head (std : Int) (imp : Bool) (p : Pairing) : (closeUnclosed std imp p).head? = p.head? := by
  cases p with
  | nil => rfl
  | cons m r =>
    obtain ⟨r', e⟩ := closeUnclosed_cons std imp m r
    rw [e]
    rfl

end SCoda.PairStep

namespace SCoda.NL
open SCoda

/-- a closed, well-formed note pairing whose note-on comes from `src` -/
def ClosedNote (src : List Msg) (p : Pairing) : Prop :=
  ∃ on off, p = [on, off] ∧ on.ty = .noteOn ∧ off.ty = .noteOff ∧ off.nkey = on.nkey ∧ on ∈ src

/-- a finished pairing of channel `ch`: a closed note, or a single compared message that is not a note event -/
def Done (T : List MType) (src : List Msg) (ch : Int) (p : Pairing) : Prop :=
  (∃ on off, p = [on, off] ∧ on.ty = .noteOn ∧ off.ty = .noteOff ∧ off.nkey = on.nkey ∧ on.ch = ch ∧ on ∈ src)
  ∨ ∃ m, p = [m] ∧ m.ty ∈ T ∧ m.ty ≠ .noteOn ∧ m.ty ≠ .noteOff ∧ m.ch = ch ∧ m ∈ src

/-- the tables of the pairing fold over compared types `T`: every pairing is finished or is the single note-on
    that `opens` records at its index, and `opens` records nothing else -/
structure Good (T : List MType) (src : List Msg) (s : PairSt) : Prop where
  knp : Q.NodupKeys s.pairs
  kno : Q.NodupKeys s.opens
  A : ∀ ch l, s.pairs.get? ch = some l → ∀ i p, l[i]? = some p →
      (∃ on, p = [on] ∧ on.ty = .noteOn ∧ on.ch = ch ∧ on ∈ src ∧ s.opens.get? on.nkey = some i)
        ∨ Done T src ch p
  B : ∀ k i, s.opens.get? k = some i →
      ∃ l on, s.pairs.get? k.1 = some l ∧ l[i]? = some [on] ∧ on.nkey = k ∧ on.ty = .noteOn

def closeOp (s : PairSt) (k : Int × Int) (i : Nat) (off : Msg) : PairSt :=
  { pairs := s.pairs.set k.1 (modifyAt (· ++ [off]) i ((s.pairs.get? k.1).getD [])),
    opens := s.opens.erase k }

def openOp (s : PairSt) (m : Msg) : PairSt :=
  { pairs := s.pairs.set m.ch (((s.pairs.get? m.ch).getD []) ++ [[m]]),
    opens := s.opens.set m.nkey ((s.pairs.get? m.ch).getD []).length }

open SCoda.PairStep

theorem stepOn_eq (s : PairSt) (m : Msg) :
    stepOn true s m = openOp (match s.opens.get? m.nkey with
      | some i => closeOp s m.nkey i (Msg.mkOff m.ch m.note m.time)
      | none => s) m := by
  unfold stepOn closeOpen openNew
  cases hk : s.opens.get? m.nkey with
  | none => simp [PairSt.append, openOp, Q.get?_set]
  | some i => simp [PairSt.append, PairSt.appendAt, openOp, closeOp, Q.get?_set, Msg.nkey]

theorem stepOff_eq (s : PairSt) (m : Msg) :
    stepOff s m = match s.opens.get? m.nkey with
      | none => s
      | some i => closeOp s m.nkey i m := rfl

variable {T : List MType}

theorem ensure_good (src : List Msg) (s : PairSt) (ch : Int) (h : Good T src s) :
    Good T src (setDefault s ch) ∧ ∃ l, (setDefault s ch).pairs.get? ch = some l := by
  unfold setDefault
  by_cases hc : s.pairs.contains ch = true
  · rw [if_pos hc]
    refine ⟨h, ?_⟩
    simp only [Assoc.contains] at hc
    exact Option.isSome_iff_exists.1 hc
  · rw [if_neg hc]
    have hn : s.pairs.get? ch = none := by
      simp only [Assoc.contains] at hc
      simpa using hc
    refine ⟨⟨Q.nodupKeys_set h.knp _ _, h.kno, ?_, ?_⟩, ?_⟩
    · intro ch' l hl i p hp
      simp only [Q.get?_set] at hl
      split at hl
      · simp only [Option.some.injEq] at hl; subst hl; simp at hp
      · exact h.A ch' l hl i p hp
    · intro k i hk
      obtain ⟨l, on, h1, h2, h3⟩ := h.B k i hk
      refine ⟨l, on, ?_, h2, h3⟩
      simp only [Q.get?_set]
      split
      · rename_i he; rw [← he, hn] at h1; cases h1
      · exact h1
    · simp [Q.get?_set]

theorem close_good (src : List Msg) (s : PairSt) (k : Int × Int) (i : Nat) (off : Msg)
    (h : Good T src s) (hk : s.opens.get? k = some i) (hty : off.ty = .noteOff) (hkey : off.nkey = k) :
    Good T src (closeOp s k i off) ∧ (closeOp s k i off).opens.get? k = none
      ∧ ∀ ch, (s.pairs.get? ch).isSome → ((closeOp s k i off).pairs.get? ch).isSome := by
  obtain ⟨L, on, hL, hLi, hon, hont⟩ := h.B k i hk
  have hsrc : on.ch = k.1 ∧ on ∈ src := by
    rcases h.A k.1 L hL i [on] hLi with ⟨on', h1, _, h3, h4, _⟩ | ⟨a, b, h1, _⟩ | ⟨m, h1, _, _, _, h5, h6⟩
    · simp only [List.cons.injEq, and_true] at h1; subst h1; exact ⟨h3, h4⟩
    · simp at h1
    · simp only [List.cons.injEq, and_true] at h1; subst h1; exact ⟨h5, h6⟩
  have hself : (Assoc.erase s.opens k).get? k = none := Q.get?_erase_self h.kno _
  refine ⟨⟨Q.nodupKeys_set h.knp _ _, Q.nodupKeys_erase h.kno _, ?_, ?_⟩, hself, ?_⟩
  · intro ch' l hl j p hp
    simp only [closeOp, Q.get?_set] at hl
    -- an old singleton elsewhere keeps its record
    have hold : ∀ ch' L' , s.pairs.get? ch' = some L' → L'[j]? = some p → (ch' = k.1 → j ≠ i) →
        (∃ on, p = [on] ∧ on.ty = .noteOn ∧ on.ch = ch' ∧ on ∈ src ∧
          (closeOp s k i off).opens.get? on.nkey = some j) ∨ Done T src ch' p := by
      intro ch' L' hL' hp' hne
      rcases h.A ch' L' hL' j p hp' with ⟨on', h1, h2, h3, h4, h5⟩ | hg
      · left
        refine ⟨on', h1, h2, h3, h4, ?_⟩
        simp only [closeOp]
        rw [Q.get?_erase_ne _ ?_]
        · exact h5
        · intro he
          rw [← he, hk] at h5
          have hij : i = j := by simpa using h5
          have : ch' = k.1 := by rw [← h3, he]; rfl
          exact hne this hij.symm
      · right; exact hg
    split at hl
    · rename_i hch
      simp only [Option.some.injEq] at hl
      subst hl
      rw [hL] at hp
      simp only [Option.getD_some, getElem?_modifyAt] at hp
      split at hp
      · rename_i hji
        subst hji
        rw [hLi] at hp
        simp only [Option.map_some, Option.some.injEq] at hp
        exact Or.inr (Or.inl ⟨on, off, hp.symm, hont, hty, by rw [hkey, hon], hch ▸ hsrc.1, hsrc.2⟩)
      · rename_i hji
        exact hold ch' L (hch ▸ hL) hp (fun _ => hji)
    · rename_i hch
      exact hold ch' l hl hp (fun he => absurd he.symm hch)
  · intro k' i' hk'
    simp only [closeOp] at hk'
    have hne : k ≠ k' := by
      intro he; rw [← he, hself] at hk'; cases hk'
    rw [Q.get?_erase_ne _ hne] at hk'
    obtain ⟨L', on', h1, h2, h3⟩ := h.B k' i' hk'
    simp only [closeOp, Q.get?_set]
    split
    · rename_i hch
      rw [← hch, hL] at h1
      simp only [Option.some.injEq] at h1
      subst h1
      refine ⟨_, on', rfl, ?_, h3⟩
      rw [hL]
      simp only [Option.getD_some, getElem?_modifyAt]
      split
      · rename_i hii
        subst hii
        rw [hLi] at h2
        simp only [Option.some.injEq, List.cons.injEq, and_true] at h2
        subst h2
        exact absurd (hon.symm.trans h3.1) hne
      · exact h2
    · exact ⟨L', on', h1, h2, h3⟩
  · intro ch hch
    simp only [closeOp, Q.get?_set]
    split <;> simp [hch]

theorem getElem?_snoc_cases {L : List Pairing} {x p : Pairing} {j : Nat} (hp : (L ++ [x])[j]? = some p) :
    L[j]? = some p ∨ (p = x ∧ j = L.length) := by
  by_cases hj : j < L.length
  · rw [List.getElem?_append_left hj] at hp; exact Or.inl hp
  · rw [List.getElem?_append_right (by omega)] at hp
    cases hjj : j - L.length with
    | zero => rw [hjj] at hp; exact Or.inr ⟨by simpa using hp.symm, by omega⟩
    | succ n => rw [hjj] at hp; simp at hp

theorem open_good (src : List Msg) (s : PairSt) (m : Msg)
    (h : Good T src s) (hk : s.opens.get? m.nkey = none) (hty : m.ty = .noteOn) (hsrc : m ∈ src)
    (L : List Pairing) (hL : s.pairs.get? m.ch = some L) :
    Good T src (openOp s m) := by
  refine ⟨Q.nodupKeys_set h.knp _ _, Q.nodupKeys_set h.kno _ _, ?_, ?_⟩
  · intro ch' l hl j p hp
    simp only [openOp, Q.get?_set, hL, Option.getD_some] at hl ⊢
    have hold : ∀ ch' L', s.pairs.get? ch' = some L' → L'[j]? = some p →
        (∃ on, p = [on] ∧ on.ty = .noteOn ∧ on.ch = ch' ∧ on ∈ src ∧
          (if m.nkey = on.nkey then some L.length else s.opens.get? on.nkey) = some j) ∨ Done T src ch' p := by
      intro ch' L' hL' hp'
      rcases h.A ch' L' hL' j p hp' with ⟨on', h1, h2, h3, h4, h5⟩ | hg
      · left
        refine ⟨on', h1, h2, h3, h4, ?_⟩
        rw [if_neg ?_]
        · exact h5
        · intro he; rw [← he, hk] at h5; cases h5
      · right; exact hg
    split at hl
    · rename_i hch
      simp only [Option.some.injEq] at hl
      subst hl
      rcases getElem?_snoc_cases hp with hp | ⟨rfl, rfl⟩
      · exact hold ch' L (hch ▸ hL) hp
      · exact Or.inl ⟨m, rfl, hty, hch, hsrc, by rw [if_pos rfl]⟩
    · exact hold ch' l hl hp
  · intro k' i' hk'
    simp only [openOp, Q.get?_set, hL, Option.getD_some] at hk' ⊢
    split at hk'
    · rename_i hkk
      simp only [Option.some.injEq] at hk'
      subst hk'
      rw [if_pos (by rw [← hkk]; rfl)]
      exact ⟨_, m, rfl, by simp, hkk, hty⟩
    · rename_i hkk
      obtain ⟨L', on', h1, h2, h3⟩ := h.B k' i' hk'
      split
      · rename_i hch
        rw [← hch, hL] at h1
        simp only [Option.some.injEq] at h1
        subst h1
        refine ⟨_, on', rfl, ?_, h3⟩
        rw [List.getElem?_append_left]
        · exact h2
        · exact (List.getElem?_eq_some_iff.1 h2).1
      · exact ⟨L', on', h1, h2, h3⟩

theorem push_good (src : List Msg) (s : PairSt) (m : Msg) (h : Good T src s) (hT : m.ty ∈ T)
    (h1 : m.ty ≠ .noteOn) (h2 : m.ty ≠ .noteOff) (hsrc : m ∈ src)
    (L : List Pairing) (hL : s.pairs.get? m.ch = some L) : Good T src (s.append m.ch [m]) := by
  refine ⟨Q.nodupKeys_set h.knp _ _, h.kno, ?_, ?_⟩
  · intro ch' l hl j p hp
    simp only [PairSt.append, Q.get?_set, hL, Option.getD_some] at hl
    split at hl
    · rename_i hch
      simp only [Option.some.injEq] at hl
      subst hl
      rcases getElem?_snoc_cases hp with hp | ⟨rfl, _⟩
      · exact h.A ch' L (hch ▸ hL) j p hp
      · exact Or.inr (Or.inr ⟨m, rfl, hT, h1, h2, hch, hsrc⟩)
    · exact h.A ch' l hl j p hp
  · intro k' i' hk'
    obtain ⟨L', on', g1, g2, g3⟩ := h.B k' i' hk'
    simp only [PairSt.append, Q.get?_set, hL, Option.getD_some]
    split
    · rename_i hch
      rw [← hch, hL] at g1
      simp only [Option.some.injEq] at g1
      subst g1
      exact ⟨_, on', rfl, by rw [List.getElem?_append_left (List.getElem?_eq_some_iff.1 g2).1]; exact g2, g3⟩
    · exact ⟨L', on', g1, g2, g3⟩

theorem pairStep_good (src : List Msg) (s : PairSt) (m : Msg) (h : Good T src s) (hm : m ∈ src) :
    Good T src (pairStep T true s m) := by
  by_cases hc : T.contains m.ty = true
  · obtain ⟨h1, L, hL⟩ := ensure_good src s m.ch h
    by_cases hty : m.ty = .noteOn
    · rw [pairStep_on true s hc hty, stepOn_eq]
      cases hk : (setDefault s m.ch).opens.get? m.nkey with
      | none =>
        exact open_good src _ m h1 hk hty hm L hL
      | some i =>
        simp only
        obtain ⟨h2, h3, h4⟩ := close_good src _ m.nkey i (Msg.mkOff m.ch m.note m.time) h1 hk rfl rfl
        have := h4 m.ch (by rw [hL]; rfl)
        obtain ⟨L', hL'⟩ := Option.isSome_iff_exists.1 this
        exact open_good src _ m h2 h3 hty hm L' hL'
    · by_cases hty' : m.ty = .noteOff
      · rw [pairStep_off true s hc hty', stepOff_eq]
        cases hk : (setDefault s m.ch).opens.get? m.nkey with
        | none => exact h1
        | some i => exact (close_good src _ m.nkey i m h1 hk hty' rfl).1
      · rw [pairStep_other true s hc hty hty']
        exact push_good src _ m h1 (by simpa using hc) hty hty' hm L hL
  · rw [pairStep_skip true s hc]
    exact h

theorem good_init (src : List Msg) : Good T src {} :=
  ⟨List.Pairwise.nil, List.Pairwise.nil, (by intro ch l hl; cases hl), (by intro k i hk; cases hk)⟩

theorem fold_good (l : List Msg) : Good T l (l.foldl (pairStep T true) {}) := by
  have go : ∀ (r : List Msg) (s : PairSt), Good T l s → (∀ m ∈ r, m ∈ l) → Good T l (r.foldl (pairStep T true) s) := by
    intro r
    induction r with
    | nil => intro s h _; exact h
    | cons m r ih =>
      intro s h hm
      exact ih _ (pairStep_good l s m h (hm m List.mem_cons_self)) (fun x hx => hm x (List.mem_cons_of_mem _ hx))
  exact go l {} (good_init l) fun _ h => h

/-- every pairing `get_message_pairings` hands out is `closeUnclosed` of a pairing of the folded tables: the single note-on
    that was still open, or a finished pairing -/
theorem pairingsSorted_cases (std : Int) (a : List Msg) : ∀ c ∈ pairingsSorted T std true a, ∀ p ∈ c.2,
    ∃ p0, p = closeUnclosed std true p0 ∧
      ((∃ on, p0 = [on] ∧ on.ty = .noteOn ∧ on.ch = c.1 ∧ on ∈ a) ∨ Done T a c.1 p0) := by
  have hg := fold_good (T := T) a
  intro c hc p hp
  simp only [pairingsSorted, List.mem_map] at hc
  obtain ⟨kv, hkv, rfl⟩ := hc
  obtain ⟨p0, hp0, rfl⟩ := List.mem_map.1 hp
  obtain ⟨j, hj⟩ := List.getElem?_of_mem hp0
  exact ⟨p0, rfl, (hg.A kv.1 kv.2 (Q.get?_of_mem hg.knp hkv) j p0 hj).imp (fun ⟨on, h1, h2, h3, h4, _⟩ => ⟨on, h1, h2, h3, h4⟩) id⟩

theorem pairings_good (stdLen : Int) (a : List Msg) :
    ∀ c ∈ pairingsSorted notePairTypes stdLen true a, ∀ p ∈ c.2, ClosedNote a p := by
  intro c hc p hp
  obtain ⟨p0, rfl, ⟨on, rfl, h2, _, h4⟩ | ⟨on, off, rfl, g1, g2, g3, _, g5⟩ | ⟨m, _, hT, g1, g2, _⟩⟩ :=
    pairingsSorted_cases stdLen a c hc p hp
  · exact ⟨on, Msg.mkOff on.ch on.note (on.time + stdLen), by simp [closeUnclosed, h2], h2, rfl, rfl, h4⟩
  · exact ⟨on, off, rfl, g1, g2, g3, g5⟩
  · simp only [notePairTypes, List.mem_cons, List.not_mem_nil, or_false] at hT
    exact (hT.elim g1 g2).elim

end SCoda.NL

namespace SCoda.SB
open SCoda SCoda.SplitL

def pairOf (p : Msg × Msg) : Pairing := [p.1, p.2]

/-- the pairing starts with a note event of key `k` -/
def headKey (k : Int × Int) (p : Pairing) : Bool :=
  match p with
  | m :: _ => isKN k m
  | [] => false

theorem headKey_cons (k : Int × Int) (m : Msg) (r : Pairing) : headKey k (m :: r) = isKN k m := rfl

/-- the view of key `k` in the pairing list `L` of its channel: the finished notes `done`, and, if a note of
    `k` is open, its single-element pairing at index `io` behind which no other pairing of `k` follows -/
def ViewL (k : Int × Int) (L : List Pairing) (done : List (Msg × Msg)) : Option Msg → Option Nat → Prop
  | Option.none, io => io = Option.none ∧ L.filter (headKey k) = done.map pairOf
  | some on, io => ∃ l1 l2, L = l1 ++ [on] :: l2 ∧ io = some l1.length ∧ (on.nkey = k ∧ on.ty = .noteOn) ∧
      l1.filter (headKey k) = done.map pairOf ∧ l2.filter (headKey k) = []

theorem ViewL_modify (k : Int × Int) (L : List Pairing) (done : List (Msg × Msg)) (o : Option Msg) (io : Option Nat)
    (f : Pairing → Pairing) (i : Nat) (h : ViewL k L done o io)
    (hx : ∀ x, L[i]? = some x → headKey k x = false ∧ headKey k (f x) = false) : ViewL k (modifyAt f i L) done o io := by
  cases o with
  | none =>
    obtain ⟨h1, h2⟩ := h
    exact ⟨h1, by rw [filter_modifyAt _ _ _ _ hx]; exact h2⟩
  | some on =>
    obtain ⟨l1, l2, hL, hio, hon, h1, h2⟩ := h
    subst hL
    by_cases hi : i < l1.length
    · refine ⟨modifyAt f i l1, l2, modifyAt_append_left f l1 _ i hi, ?_, hon, ?_, h2⟩
      · rw [hio, length_modifyAt]
      · rw [filter_modifyAt _ _ _ _ ?_]
        · exact h1
        · intro x hxx
          apply hx x
          rw [List.getElem?_append_left hi]
          exact hxx
    · have hne : i ≠ l1.length := by
        intro he
        have := (hx [on] (by rw [he]; simp)).1
        rw [headKey_cons, isKN_true ⟨hon.1, Or.inl hon.2⟩] at this
        cases this
      have hgt : l1.length < i := by omega
      refine ⟨l1, modifyAt f (i - l1.length - 1) l2, ?_, hio, hon, h1, ?_⟩
      · rw [modifyAt_append_right f l1 _ i (by omega)]
        have : i - l1.length = (i - l1.length - 1) + 1 := by omega
        rw [this]
        rfl
      · rw [filter_modifyAt _ _ _ _ ?_]
        · exact h2
        · intro x hxx
          apply hx x
          rw [List.getElem?_append_right (by omega)]
          have : i - l1.length = (i - l1.length - 1) + 1 := by omega
          rw [this, List.getElem?_cons_succ]
          exact hxx

theorem ViewL_snoc (k : Int × Int) (L : List Pairing) (done : List (Msg × Msg)) (o : Option Msg) (io : Option Nat)
    (x : Pairing) (h : ViewL k L done o io) (hx : headKey k x = false) : ViewL k (L ++ [x]) done o io := by
  cases o with
  | none =>
    obtain ⟨h1, h2⟩ := h
    exact ⟨h1, by rw [List.filter_append, h2]; simp [hx]⟩
  | some on =>
    obtain ⟨l1, l2, hL, hio, hon, h1, h2⟩ := h
    subst hL
    exact ⟨l1, l2 ++ [x], by simp, hio, hon, h1, by rw [List.filter_append, h2]; simp [hx]⟩

theorem ViewL_close (k : Int × Int) (L : List Pairing) (done : List (Msg × Msg)) (on off : Msg) (i : Nat)
    (h : ViewL k L done (some on) (some i)) :
    ViewL k (modifyAt (· ++ [off]) i L) (done ++ [(on, off)]) Option.none Option.none := by
  obtain ⟨l1, l2, hL, hio, hon, h1, h2⟩ := h
  subst hL
  simp only [Option.some.injEq] at hio
  subst hio
  refine ⟨rfl, ?_⟩
  rw [modifyAt_append_right _ l1 _ _ (Nat.le_refl _), Nat.sub_self]
  simp only [modifyAt, List.filter_append, List.filter_cons, h1, h2]
  simp [headKey, isKN_true ⟨hon.1, Or.inl hon.2⟩, pairOf]

/-- the view of key `k` in a state of the pairing fold -/
def View (k : Int × Int) (s : PairSt) (done : List (Msg × Msg)) (o : Option Msg) : Prop :=
  ViewL k ((s.pairs.get? k.1).getD []) done o (s.opens.get? k)

theorem View_init (k : Int × Int) : View k {} [] Option.none := ⟨rfl, rfl⟩

/-- the view of a key without an open note: nothing is recorded under the key, and its pairings in the list of its channel are the
    finished notes -/
theorem view_closed {k : Int × Int} {s : PairSt} {done : List (Msg × Msg)} (h : View k s done Option.none) :
    s.opens.get? k = Option.none ∧ ((s.pairs.get? k.1).getD []).filter (headKey k) = done.map pairOf := h

/-- … with an open note: `opens` records its index under the key -/
theorem view_open {k : Int × Int} {s : PairSt} {done : List (Msg × Msg)} {on : Msg} (h : View k s done (some on)) :
    ∃ i, s.opens.get? k = some i :=
  let ⟨l1, _, _, hio, _⟩ := h; ⟨l1.length, hio⟩

open SCoda.PairStep

theorem View_ensure (k : Int × Int) (s : PairSt) (ch : Int) (done : List (Msg × Msg)) (o : Option Msg)
    (h : View k s done o) : View k (setDefault s ch) done o := by
  unfold setDefault
  split
  · exact h
  · rename_i hc
    have hn : s.pairs.get? ch = none := by
      simp only [Assoc.contains] at hc
      simpa using hc
    unfold View at h ⊢
    simp only [Q.get?_set]
    split
    · rename_i he
      rw [← he, hn] at h
      exact h
    · exact h

theorem View_close_other (k k' : Int × Int) (s : PairSt) (i : Nat) (off on' : Msg) (Lk : List Pairing)
    (done : List (Msg × Msg)) (o : Option Msg) (hL : s.pairs.get? k'.1 = some Lk) (hi : Lk[i]? = some [on'])
    (hon : on'.nkey = k') (hne : k' ≠ k) (h : View k s done o) : View k (NL.closeOp s k' i off) done o := by
  unfold View at h ⊢
  simp only [NL.closeOp, Q.get?_set]
  rw [Q.get?_erase_ne _ hne]
  split
  · rename_i he
    rw [← he, hL] at h
    rw [hL]
    simp only [Option.getD_some] at h ⊢
    apply ViewL_modify k Lk done o _ _ i h
    intro x hx
    rw [hi] at hx
    cases hx
    have : ¬ isKN k on' = true := isKN_false fun e => hne (hon.symm.trans e.1)
    simpa [headKey] using this
  · exact h

theorem View_push (k : Int × Int) (s : PairSt) (m : Msg) (done : List (Msg × Msg)) (o : Option Msg)
    (hm : ¬ Kev k m) (h : View k s done o) : View k (s.append m.ch [m]) done o := by
  unfold View at h ⊢
  simp only [PairSt.append, Q.get?_set]
  split
  · rename_i he
    rw [← he] at h
    simp only [Option.getD_some]
    exact ViewL_snoc k _ done o _ [m] h (by simpa [headKey] using isKN_false hm)
  · exact h

theorem View_open_other (k : Int × Int) (s : PairSt) (m : Msg) (done : List (Msg × Msg)) (o : Option Msg)
    (hne : m.nkey ≠ k) (h : View k s done o) : View k (NL.openOp s m) done o := by
  have := View_push k s m done o (fun e => hne e.1) h
  unfold View at this ⊢
  simp only [PairSt.append, Q.get?_set] at this
  simp only [NL.openOp, Q.get?_set, if_neg hne]
  exact this

theorem View_open_k (k : Int × Int) (s : PairSt) (m : Msg) (done : List (Msg × Msg))
    (hk : m.nkey = k ∧ m.ty = .noteOn) (h : View k s done Option.none) : View k (NL.openOp s m) done (some m) := by
  have hch : m.ch = k.1 := by rw [← hk.1]; rfl
  unfold View at h ⊢
  simp only [NL.openOp, Q.get?_set]
  rw [if_pos hk.1, if_pos hch, hch]
  simp only [Option.getD_some]
  exact ⟨_, [], rfl, rfl, hk, h.2, rfl⟩

theorem View_close_k (k : Int × Int) (s : PairSt) (i : Nat) (on off : Msg) (done : List (Msg × Msg))
    (hkn : Q.NodupKeys s.opens) (hi : s.opens.get? k = some i) (h : View k s done (some on)) :
    View k (NL.closeOp s k i off) (done ++ [(on, off)]) Option.none := by
  unfold View at h ⊢
  simp only [NL.closeOp, Q.get?_set, if_true, Option.getD_some]
  rw [Q.get?_erase_self hkn _]
  rw [hi] at h
  exact ViewL_close k _ done on off i h

/-- the pairing machine of one key: finished notes, waiting note-on.  A re-trigger closes the waiting note at
    the new onset (the imputed note-off), a stray note-off is dropped. -/
def kstep (k : Int × Int) (v : List (Msg × Msg) × Option Msg) (m : Msg) : List (Msg × Msg) × Option Msg :=
  if m.nkey = k ∧ m.ty = .noteOn then
    ((match v.2 with | some on => v.1 ++ [(on, Msg.mkOff m.ch m.note m.time)] | none => v.1), some m)
  else if m.nkey = k ∧ m.ty = .noteOff then
    (match v.2 with | some on => (v.1 ++ [(on, m)], none) | none => v)
  else v

variable {T : List MType}

/-- **one step**: the view of key `k` follows the one-key machine, whatever the message and whatever the other
    keys do -/
theorem View_step (hon : T.contains .noteOn = true) (hoff : T.contains .noteOff = true) (src : List Msg)
    (k : Int × Int) (s : PairSt) (m : Msg) (v : List (Msg × Msg) × Option Msg)
    (hg : NL.Good T src s) (h : View k s v.1 v.2) :
    View k (pairStep T true s m) (kstep k v m).1 (kstep k v m).2 := by
  obtain ⟨done, o⟩ := v
  simp only at h
  obtain ⟨h1, _, _⟩ := NL.ensure_good src s m.ch hg
  have hE := View_ensure k s m.ch done o h
  -- what another key does at its own index leaves the view of `k` alone
  have other : ∀ (off : Msg), m.nkey ≠ k → View k (match (setDefault s m.ch).opens.get? m.nkey with
      | none => setDefault s m.ch
      | some i => NL.closeOp (setDefault s m.ch) m.nkey i off) done o := by
    intro off hne
    cases hk' : (setDefault s m.ch).opens.get? m.nkey with
    | none => exact hE
    | some i =>
      obtain ⟨l, on', hl, hli, hon', _⟩ := h1.B m.nkey i hk'
      exact View_close_other k m.nkey _ i _ on' l done o hl hli hon' hne hE
  rcases kev_cases k m with hk | hk | hk
  · rw [kstep, if_pos hk, pairStep_on true s (by rw [hk.2]; exact hon) hk.2, NL.stepOn_eq, hk.1]
    cases o with
    | none => rw [(view_closed hE).1]; exact View_open_k k _ m done hk hE
    | some on =>
      obtain ⟨i, hio⟩ := view_open hE
      rw [hio]
      exact View_open_k k _ m _ hk (View_close_k k _ i on _ done h1.kno hio hE)
  · have hn : ¬ (m.nkey = k ∧ m.ty = .noteOn) := by rw [hk.2]; simp
    rw [kstep, if_neg hn, if_pos hk, pairStep_off true s (by rw [hk.2]; exact hoff) hk.2, NL.stepOff_eq, hk.1]
    cases o with
    | none => rw [(view_closed hE).1]; exact hE
    | some on =>
      obtain ⟨i, hio⟩ := view_open hE
      rw [hio]
      exact View_close_k k _ i on m done h1.kno hio hE
  · rw [kstep, if_neg (not_kev_iff.1 hk).1, if_neg (not_kev_iff.1 hk).2]
    by_cases hc : T.contains m.ty = true
    · by_cases hty : m.ty = .noteOn
      · have hne : m.nkey ≠ k := fun e => hk ⟨e, Or.inl hty⟩
        rw [pairStep_on true s hc hty, NL.stepOn_eq]
        have := other (Msg.mkOff m.ch m.note m.time) hne
        cases hk' : (setDefault s m.ch).opens.get? m.nkey with
        | none => rw [hk'] at this; exact View_open_other k _ m done o hne this
        | some i => rw [hk'] at this; exact View_open_other k _ m done o hne this
      · by_cases hty' : m.ty = .noteOff
        · rw [pairStep_off true s hc hty', NL.stepOff_eq]
          exact other m fun e => hk ⟨e, Or.inr hty'⟩
        · rw [pairStep_other true s hc hty hty']
          exact View_push k _ m done o hk hE
    · rw [pairStep_skip true s hc]
      exact h

theorem View_fold (hon : T.contains .noteOn = true) (hoff : T.contains .noteOff = true) (src : List Msg)
    (k : Int × Int) : ∀ (l : List Msg) (s : PairSt) (v : List (Msg × Msg) × Option Msg),
    NL.Good T src s → (∀ m ∈ l, m ∈ src) → View k s v.1 v.2 →
    View k (l.foldl (pairStep T true) s) (l.foldl (kstep k) v).1 (l.foldl (kstep k) v).2 := by
  intro l
  induction l with
  | nil => intro s v _ _ h; exact h
  | cons m l ih =>
    intro s v hg hsrc h
    exact ih _ _ (NL.pairStep_good src s m hg (hsrc m List.mem_cons_self))
      (fun x hx => hsrc x (List.mem_cons_of_mem _ hx)) (View_step hon hoff src k s m v hg h)

theorem kfold_filter (k : Int × Int) : ∀ (l : List Msg) (v : List (Msg × Msg) × Option Msg),
    (l.filter (isKN k)).foldl (kstep k) v = l.foldl (kstep k) v := by
  intro l
  induction l with
  | nil => intro v; rfl
  | cons m l ih =>
    intro v
    by_cases hm : isKN k m = true
    · rw [List.filter_cons_of_pos hm, List.foldl_cons, List.foldl_cons, ih]
    · have hk := not_kev_iff.1 fun e => hm (isKN_true e)
      rw [List.filter_cons_of_neg hm, ih, List.foldl_cons, kstep, if_neg hk.1, if_neg hk.2]

open SCoda.NotesBL in
theorem kfold_unpair (k : Int × Int) : ∀ (P done : List (Msg × Msg)), (∀ p ∈ P, GoodPair k p) →
    (unpair P).foldl (kstep k) (done, none) = (done ++ P, none) := by
  intro P
  induction P with
  | nil => intro done _; simp [unpair]
  | cons p P ih =>
    intro done hg
    have g := hg p (by simp)
    have hoff : ¬ (p.2.nkey = k ∧ p.2.ty = .noteOn) := by rw [g.off]; simp
    have e1 : kstep k (done, none) p.1 = (done, some p.1) := by rw [kstep, if_pos ⟨g.k1, g.on⟩]
    have e2 : kstep k (done, some p.1) p.2 = (done ++ [p], none) := by rw [kstep, if_neg hoff, if_pos ⟨g.k2, g.off⟩]
    rw [unpair_cons, List.foldl_cons, List.foldl_cons, e1, e2, ih _ (fun q hq => hg q (List.mem_cons_of_mem _ hq)),
      List.append_assoc, List.singleton_append]

open SCoda.NotesBL in
/-- **the pairing fold on a list whose `k`-events are `on₁, off₁, …`**: it pairs every note-on of `k` with the
    note-off that follows it, whatever the other keys look like -/
theorem fold_view (hon : T.contains .noteOn = true) (hoff : T.contains .noteOff = true) (k : Int × Int) (l : List Msg)
    (P : List (Msg × Msg)) (hP : l.filter (isKN k) = unpair P) (hg : ∀ p ∈ P, GoodPair k p) :
    View k (l.foldl (pairStep T true) {}) P none := by
  have := View_fold hon hoff l k l {} ([], none) (NL.good_init l) (fun _ h => h) (View_init k)
  rwa [← kfold_filter, hP, kfold_unpair k P [] hg, List.nil_append] at this

def HeadCh (s : PairSt) : Prop :=
  ∀ ch L, s.pairs.get? ch = some L → ∀ p ∈ L, ∃ m rest, p = m :: rest ∧ m.ch = ch

theorem headCh_of_good {src : List Msg} {s : PairSt} (hg : NL.Good T src s) : HeadCh s := by
  intro ch L hL p hp
  obtain ⟨j, hj⟩ := List.getElem?_of_mem hp
  rcases hg.A ch L hL j p hj with ⟨on, rfl, _, h3, _⟩ | ⟨on, off, rfl, _, _, _, h5, _⟩ | ⟨m, rfl, _, _, _, h5, _⟩
  · exact ⟨on, [], rfl, h3⟩
  · exact ⟨on, [off], rfl, h5⟩
  · exact ⟨m, [], rfl, h5⟩

theorem headKey_closeUnclosed (k : Int × Int) (std : Int) (imp : Bool) (p : Pairing) :
    headKey k (closeUnclosed std imp p) = headKey k p := by
  cases p with
  | nil => rfl
  | cons m r =>
    obtain ⟨r', e⟩ := closeUnclosed_cons std imp m r
    rw [e]
    rfl

theorem pairingsSorted_get (std : Int) (l : List Msg) (c : Int) :
    (pairingsSorted T std true l).get? c =
      ((l.foldl (pairStep T true) {}).pairs.get? c).map (fun L : List Pairing => L.map (closeUnclosed std true)) :=
  Q.get?_map id (fun _ _ e => e) (fun (_ : Int) (L : List Pairing) => L.map (closeUnclosed std true)) _ c

theorem pairingsSorted_nodup (std : Int) (l : List Msg) : Q.NodupKeys (pairingsSorted T std true l) :=
  List.pairwise_map.2 (NL.fold_good l).knp

theorem pairingsSorted_headCh (std : Int) (l : List Msg) :
    ∀ c ∈ pairingsSorted T std true l, ∀ p ∈ c.2, ∃ m rest, p = m :: rest ∧ m.ch = c.1 := by
  intro c hc p hp
  have hG := NL.fold_good (T := T) l
  simp only [pairingsSorted, List.mem_map] at hc
  obtain ⟨kv, hkv, rfl⟩ := hc
  obtain ⟨p0, hp0, rfl⟩ := List.mem_map.1 hp
  obtain ⟨m, rest, rfl, hm⟩ := headCh_of_good hG kv.1 kv.2 (Q.get?_of_mem hG.knp hkv) p0 hp0
  obtain ⟨r', e⟩ := closeUnclosed_cons std true m rest
  exact ⟨m, r', e, hm⟩

open SCoda.NotesBL in
/-- **the pairings handed out, seen from one key**: on a list whose `k`-events are `on₁, off₁, …` the pairings of `k` in the list of
    its channel are these notes, in order -/
theorem pairingsSorted_view (hon : T.contains .noteOn = true) (hoff : T.contains .noteOff = true) (std : Int) (k : Int × Int)
    (l : List Msg) (P : List (Msg × Msg)) (hP : l.filter (isKN k) = unpair P) (hg : ∀ p ∈ P, GoodPair k p) :
    (((pairingsSorted T std true l).get? k.1).getD []).filter (headKey k) = P.map pairOf := by
  have hv := (view_closed (fold_view hon hoff k l P hP hg)).2
  rw [pairingsSorted_get]
  cases hget : (l.foldl (pairStep T true) {}).pairs.get? k.1 with
  | none => rw [hget] at hv; exact hv
  | some L =>
    rw [hget] at hv
    show (L.map (closeUnclosed std true)).filter (headKey k) = _
    rw [List.filter_map, show headKey k ∘ closeUnclosed std true = headKey k from funext (headKey_closeUnclosed k std true),
      show L.filter (headKey k) = P.map pairOf from hv, List.map_map]
    exact List.map_congr_left fun q _ => rfl

end SCoda.SB
