/-
  The second phase of `quantise`: `collapsedGo` finds the indices of the notes of no positive length and `removeIndices` takes
  them out; on the note events of a key that alternates the removal is `kDrop` (`collapsed_key`).  At the end, in namespace
  `SCoda`: the same walk as a fold of one step (`cstep`), the form in which the tie of the translated code meets it.
-/
import SCoda.Model.Quantise
import SCoda.Lemmas.Roll
import SCoda.Lemmas.AssocL
namespace SCoda.Q
open SCoda SplitL


/-- the entries of `l` (numbered from `i`) whose number is not in `idx` -/
def remFrom (l : List Msg) (i : Nat) (idx : List Nat) : List Msg :=
  ((l.zipIdx i).filter (fun p => !idx.contains p.2)).map (·.1)

theorem removeIndices_eq (l : List Msg) (idx : List Nat) : removeIndices l idx = remFrom l 0 idx := rfl

theorem remFrom_cons (m : Msg) (ms : List Msg) (i : Nat) (idx : List Nat) :
    remFrom (m :: ms) i idx = if i ∈ idx then remFrom ms (i + 1) idx else m :: remFrom ms (i + 1) idx := by
  simp only [remFrom, List.zipIdx_cons, List.filter_cons]
  by_cases h : i ∈ idx <;> simp [h]

theorem remFrom_sublist (l : List Msg) (i : Nat) (idx : List Nat) : (remFrom l i idx).Sublist l := by
  induction l generalizing i with
  | nil => exact List.Sublist.slnil
  | cons m ms ih =>
    rw [remFrom_cons]
    split
    · exact (ih _).trans (List.sublist_cons_self _ _)
    · exact (ih _).cons_cons _

theorem mem_removeIndices {l : List Msg} {idx : List Nat} {x : Msg} (h : x ∈ removeIndices l idx) : x ∈ l :=
  (remFrom_sublist l 0 idx).subset h


def IsNoteTy (m : Msg) : Prop := m.ty = .noteOn ∨ m.ty = .noteOff

theorem collapsedGo_cons {m : Msg} {ms : List Msg} {i : Nat} {tbl : Assoc (Int × Int) (Nat × Int)} {acc idx : List Nat}
    (h : collapsedGo (m :: ms) i tbl acc = .ok idx) :
    (m.ty = .noteOn ∧ collapsedGo ms (i + 1) (tbl.set m.nkey (i, m.time)) acc = .ok idx) ∨
    (m.ty = .noteOff ∧ ∃ j t, tbl.get? m.nkey = some (j, t) ∧
        collapsedGo ms (i + 1) (tbl.erase m.nkey) (if m.time - t ≤ 0 then acc ++ [j, i] else acc) = .ok idx) ∨
    (m.ty ≠ .noteOn ∧ m.ty ≠ .noteOff ∧ collapsedGo ms (i + 1) tbl acc = .ok idx) := by
  rw [collapsedGo] at h
  split at h
  · rename_i hty; exact Or.inl ⟨hty, h⟩
  · rename_i hty
    split at h
    · cases h
    · rename_i j t hget; exact Or.inr (Or.inl ⟨hty, j, t, hget, h⟩)
  · rename_i h1 h2; exact Or.inr (Or.inr ⟨h1, h2, h⟩)

theorem collapsedGo_idx (l : List Msg) : ∀ (i : Nat) (tbl : Assoc (Int × Int) (Nat × Int)) (acc idx : List Nat),
    collapsedGo l i tbl acc = .ok idx →
    (∀ x ∈ acc, x ∈ idx) ∧
    ∀ x ∈ idx, x ∈ acc ∨ (∃ kv ∈ tbl, kv.2.1 = x) ∨ (i ≤ x ∧ ∃ m, l[x - i]? = some m ∧ IsNoteTy m) := by
  induction l with
  | nil =>
    intro i tbl acc idx h
    cases h
    exact ⟨fun x hx => hx, fun x hx => Or.inl hx⟩
  | cons m ms ih =>
    intro i tbl acc idx h
    have later : ∀ x, (i + 1 ≤ x ∧ ∃ m', ms[x - (i + 1)]? = some m' ∧ IsNoteTy m') →
        i ≤ x ∧ ∃ m', (m :: ms)[x - i]? = some m' ∧ IsNoteTy m' := by
      rintro x ⟨hle, m', hm', hn⟩
      refine ⟨by omega, m', ?_, hn⟩
      rw [show x - i = (x - (i + 1)) + 1 by omega, List.getElem?_cons_succ]
      exact hm'
    have here : ∀ hn : IsNoteTy m, i ≤ i ∧ ∃ m', (m :: ms)[i - i]? = some m' ∧ IsNoteTy m' :=
      fun hn => ⟨Nat.le_refl _, m, by rw [Nat.sub_self]; rfl, hn⟩
    rcases collapsedGo_cons h with ⟨hty, h⟩ | ⟨hty, j, t, hget, h⟩ | ⟨_, _, h⟩
    · obtain ⟨h1, h2⟩ := ih _ _ _ _ h
      refine ⟨h1, fun x hx => ?_⟩
      rcases h2 x hx with hx | ⟨kv, hkv, rfl⟩ | hx
      · exact Or.inl hx
      · rcases mem_set hkv with hkv | rfl
        · exact Or.inr (Or.inl ⟨kv, hkv, rfl⟩)
        · exact Or.inr (Or.inr (here (Or.inl hty)))
      · exact Or.inr (Or.inr (later x hx))
    · obtain ⟨h1, h2⟩ := ih _ _ _ _ h
      refine ⟨fun x hx => h1 x (by split; exact List.mem_append_left _ hx; exact hx), fun x hx => ?_⟩
      rcases h2 x hx with hx | ⟨kv, hkv, rfl⟩ | hx
      · have : x ∈ acc ∨ x = j ∨ x = i := by
          split at hx
          · simpa using hx
          · exact Or.inl hx
        rcases this with hx | rfl | rfl
        · exact Or.inl hx
        · exact Or.inr (Or.inl ⟨_, mem_of_get? hget, rfl⟩)
        · exact Or.inr (Or.inr (here (Or.inr hty)))
      · exact Or.inr (Or.inl ⟨kv, mem_erase hkv, rfl⟩)
      · exact Or.inr (Or.inr (later x hx))
    · obtain ⟨h1, h2⟩ := ih _ _ _ _ h
      refine ⟨h1, fun x hx => ?_⟩
      rcases h2 x hx with hx | hx | hx
      · exact Or.inl hx
      · exact Or.inr (Or.inl hx)
      · exact Or.inr (Or.inr (later x hx))

theorem nonNotes_remFrom (l : List Msg) : ∀ (i : Nat) (idx : List Nat),
    (∀ x ∈ idx, i ≤ x → ∀ m, l[x - i]? = some m → IsNoteTy m) →
    nonNotes (remFrom l i idx) = nonNotes l := by
  induction l with
  | nil => intro i idx _; rfl
  | cons m ms ih =>
    intro i idx h
    have ih' := ih (i + 1) idx (by
      intro x hx hle m' hm'
      apply h x hx (by omega) m'
      have : x - i = (x - (i + 1)) + 1 := by omega
      rw [this, List.getElem?_cons_succ]; exact hm')
    rw [remFrom_cons]
    split
    · rename_i hi
      have := h i hi (Nat.le_refl _) m (by simp)
      rw [ih', nonNotes_cons, if_pos (show m.ty = .noteOn ∨ m.ty = .noteOff from this)]
    · rw [nonNotes_cons, nonNotes_cons, ih']

theorem nonNotes_removeIndices {q : List Msg} {idx : List Nat} (h : collapsedGo q 0 [] [] = .ok idx) :
    nonNotes (removeIndices q idx) = nonNotes q := by
  rw [removeIndices_eq]
  apply nonNotes_remFrom
  intro x hx _ m hm
  rcases (collapsedGo_idx q 0 [] [] idx h).2 x hx with hx | ⟨kv, hkv, _⟩ | ⟨_, m', hm', hn⟩
  · cases hx
  · cases hkv
  · rw [hm] at hm'; cases hm'; exact hn

/-- the bookkeeping of the walk at position `i`: table, accumulator and position stay apart -/
structure TInv (i : Nat) (tbl : Assoc (Int × Int) (Nat × Int)) (acc : List Nat) : Prop where
  nodup : NodupKeys tbl
  accLt : ∀ x ∈ acc, x < i
  tblLt : ∀ kv ∈ tbl, kv.2.1 < i ∧ kv.2.1 ∉ acc
  inj : ∀ kv ∈ tbl, ∀ kv' ∈ tbl, kv.2.1 = kv'.2.1 → kv.1 = kv'.1

theorem tInv_init : TInv 0 [] [] := by
  refine ⟨nodupKeys_nil, ?_, ?_, ?_⟩
  · intro x hx; cases hx
  · intro kv hkv; cases hkv
  · intro kv hkv; cases hkv

theorem tInv_on {i : Nat} {tbl : Assoc (Int × Int) (Nat × Int)} {acc : List Nat} (h : TInv i tbl acc)
    (k : Int × Int) (t : Int) : TInv (i + 1) (tbl.set k (i, t)) acc := by
  refine ⟨nodupKeys_set h.nodup _ _, fun x hx => Nat.lt_succ_of_lt (h.accLt x hx), ?_, ?_⟩
  · intro kv hkv
    rcases mem_set hkv with hkv | rfl
    · exact ⟨Nat.lt_succ_of_lt (h.tblLt kv hkv).1, (h.tblLt kv hkv).2⟩
    · exact ⟨Nat.lt_succ_self _, fun hi => Nat.lt_irrefl _ (h.accLt _ hi)⟩
  · intro kv hkv kv' hkv' he
    rcases mem_set hkv with hkv | rfl <;> rcases mem_set hkv' with hkv' | rfl
    · exact h.inj kv hkv kv' hkv' he
    · have := (h.tblLt kv hkv).1; simp at he; omega
    · have := (h.tblLt kv' hkv').1; simp at he; omega
    · rfl

theorem tInv_off {i : Nat} {tbl : Assoc (Int × Int) (Nat × Int)} {acc : List Nat} (h : TInv i tbl acc)
    {k : Int × Int} {j : Nat} {t : Int} (hget : tbl.get? k = some (j, t)) (c : Prop) [Decidable c] :
    TInv (i + 1) (tbl.erase k) (if c then acc ++ [j, i] else acc) := by
  have hj := h.tblLt _ (mem_of_get? hget)
  refine ⟨nodupKeys_erase h.nodup _, ?_, ?_, ?_⟩
  · intro x hx
    split at hx
    · simp at hx
      rcases hx with hx | rfl | rfl
      · exact Nat.lt_succ_of_lt (h.accLt x hx)
      · exact Nat.lt_succ_of_lt hj.1
      · exact Nat.lt_succ_self _
    · exact Nat.lt_succ_of_lt (h.accLt x hx)
  · intro kv hkv
    have hkv' := mem_erase hkv
    have h1 := h.tblLt kv hkv'
    refine ⟨Nat.lt_succ_of_lt h1.1, ?_⟩
    split
    · intro hx
      simp at hx
      rcases hx with hx | hx | hx
      · exact h1.2 hx
      · exact mem_erase_key h.nodup hkv (h.inj kv hkv' _ (mem_of_get? hget) hx)
      · omega
    · exact h1.2
  · intro kv hkv kv' hkv' he
    exact h.inj kv (mem_erase hkv) kv' (mem_erase hkv') he

theorem tInv_skip {i : Nat} {tbl : Assoc (Int × Int) (Nat × Int)} {acc : List Nat} (h : TInv i tbl acc) :
    TInv (i + 1) tbl acc :=
  ⟨h.nodup, fun x hx => Nat.lt_succ_of_lt (h.accLt x hx),
    fun kv hkv => ⟨Nat.lt_succ_of_lt (h.tblLt kv hkv).1, (h.tblLt kv hkv).2⟩, h.inj⟩

theorem idx_off {i : Nat} {tbl : Assoc (Int × Int) (Nat × Int)} {acc : List Nat} (h : TInv i tbl acc)
    {k : Int × Int} {j : Nat} {t : Int} (hget : tbl.get? k = some (j, t)) (c : Prop) [Decidable c]
    {ms : List Msg} {idx : List Nat}
    (hgo : collapsedGo ms (i + 1) (tbl.erase k) (if c then acc ++ [j, i] else acc) = .ok idx) :
    (i ∈ idx ↔ c) ∧ (j ∈ idx ↔ c) := by
  obtain ⟨h1, h2⟩ := collapsedGo_idx _ _ _ _ _ hgo
  have hj := h.tblLt _ (mem_of_get? hget)
  by_cases hc : c
  · simp only [if_pos hc] at h1
    exact ⟨⟨fun _ => hc, fun _ => h1 i (by simp)⟩, ⟨fun _ => hc, fun _ => h1 j (by simp)⟩⟩
  · simp only [if_neg hc] at h2
    refine ⟨⟨fun hi => ?_, fun h => absurd h hc⟩, ⟨fun hi => ?_, fun h => absurd h hc⟩⟩
    · exfalso
      rcases h2 i hi with hx | ⟨kv, hkv, he⟩ | ⟨hle, _⟩
      · exact Nat.lt_irrefl _ (h.accLt _ hx)
      · have := (h.tblLt kv (mem_erase hkv)).1; omega
      · omega
    · exfalso
      rcases h2 j hi with hx | ⟨kv, hkv, he⟩ | ⟨hle, _⟩
      · exact hj.2 hx
      · exact mem_erase_key h.nodup hkv (h.inj kv (mem_erase hkv) _ (mem_of_get? hget) he)
      · have hj1 : j < i := hj.1
        omega

theorem collapsedGo_any (l : List Msg) : ∀ (i : Nat) (tbl : Assoc (Int × Int) (Nat × Int))
    (acc : List Nat), NodupKeys tbl → (∀ k, ∃ b, krun k (tbl.contains k) l = some b) →
    ∃ idx, collapsedGo l i tbl acc = .ok idx := by
  induction l with
  | nil => intro i tbl acc _ _; exact ⟨acc, rfl⟩
  | cons m ms ih =>
    intro i tbl acc hnd h
    have other : ∀ k, ¬ Kev k m → ∃ b, krun k (tbl.contains k) ms = some b := fun k hk => by
      obtain ⟨b, hb⟩ := h k
      exact ⟨b, (krun_cons_skip k _ m ms hk).symm.trans hb⟩
    by_cases hon : m.ty = .noteOn
    · simp only [collapsedGo, hon]
      refine ih _ _ _ (nodupKeys_set hnd _ _) fun k => ?_
      by_cases hk : m.nkey = k
      · obtain ⟨b, hb⟩ := h k
        rw [show krun k (tbl.contains k) (m :: ms) = _ from krun_cons_on k _ m ms ⟨hk, hon⟩] at hb
        split at hb
        · cases hb
        · exact ⟨b, by rw [contains_eq, get?_set, if_pos hk]; exact hb⟩
      · rw [contains_eq, get?_set, if_neg hk, ← contains_eq]
        exact other k fun e => hk e.1
    · by_cases hoff : m.ty = .noteOff
      · simp only [collapsedGo, hoff]
        obtain ⟨b, hb⟩ := h m.nkey
        rw [show krun m.nkey (tbl.contains m.nkey) (m :: ms) = _ from krun_cons_off _ _ m ms ⟨rfl, hoff⟩] at hb
        cases hget : tbl.get? m.nkey with
        | none => rw [contains_eq, hget] at hb; cases hb
        | some jt =>
          refine ih _ _ _ (nodupKeys_erase hnd _) fun k => ?_
          by_cases hk : m.nkey = k
          · subst hk
            rw [contains_eq, hget] at hb
            exact ⟨b, by rw [contains_eq, get?_erase_self hnd]; exact hb⟩
          · rw [contains_eq, get?_erase_ne tbl hk, ← contains_eq]
            exact other k fun e => hk e.1
      · rw [show collapsedGo (m :: ms) i tbl acc = collapsedGo ms (i + 1) tbl acc by simp only [collapsedGo]]
        exact ih _ _ _ hnd fun k => other k (not_kev_of_ty hon hoff)

/-- the removal of the collapsed notes, on the note events of one key; the first argument is the onset of the note that is open
    at the head of the list (its note-on lies before the list) -/
def kDrop : Option Int → List Msg → List Msg
  | _, [] => []
  | some t, m :: l => (if m.time - t ≤ 0 then [] else [m]) ++ kDrop none l
  | none, m :: l =>
    (match l with
      | off :: _ => if off.time - m.time ≤ 0 then [] else [m]
      | [] => [m]) ++ kDrop (some m.time) l

/-- **the removal seen from one key**: of the note events of `k` exactly the pairs of no positive length go (the table holds the
    onset of the note of `k` that is open); and the note-on waiting at index `j` for its note-off is removed exactly when the next
    note event of its key, the note-off, comes no later than it -/
theorem collapsed_key {k : Int × Int} (l : List Msg) : ∀ (i : Nat) (tbl : Assoc (Int × Int) (Nat × Int))
    (acc idx : List Nat), TInv i tbl acc → collapsedGo l i tbl acc = .ok idx → altFrom k (tbl.get? k).isSome l →
    (remFrom l i idx).filter (isKN k) = kDrop ((tbl.get? k).map Prod.snd) (l.filter (isKN k)) ∧
    ∀ j t, tbl.get? k = some (j, t) → (j ∈ idx ↔ ∃ off rest, l.filter (isKN k) = off :: rest ∧ off.time - t ≤ 0) := by
  induction l with
  | nil =>
    intro i tbl acc idx _ _ hst
    exact ⟨by cases tbl.get? k <;> rfl, fun j t hj => by rw [hj] at hst; cases hst⟩
  | cons m ms ih =>
    intro i tbl acc idx hinv hgo hst
    have skip : ∀ tbl' acc', TInv (i + 1) tbl' acc' → collapsedGo ms (i + 1) tbl' acc' = .ok idx → tbl'.get? k = tbl.get? k →
        ¬ Kev k m →
        (remFrom (m :: ms) i idx).filter (isKN k) = kDrop ((tbl.get? k).map Prod.snd) ((m :: ms).filter (isKN k)) ∧
        ∀ j t, tbl.get? k = some (j, t) →
          (j ∈ idx ↔ ∃ off rest, (m :: ms).filter (isKN k) = off :: rest ∧ off.time - t ≤ 0) := by
      intro tbl' acc' hinv' hgo' hc' hk
      rw [altFrom_cons_skip hk, ← hc'] at hst
      obtain ⟨h1, h2⟩ := ih _ _ _ _ hinv' hgo' hst
      rw [List.filter_cons_of_neg (isKN_false hk), ← hc']
      refine ⟨?_, h2⟩
      rw [← h1, remFrom_cons]
      split
      · rfl
      · rw [List.filter_cons_of_neg (isKN_false hk)]
    rcases collapsedGo_cons hgo with ⟨hon, hgo⟩ | ⟨hoff, j, t, hget, hgo⟩ | ⟨hon, hoff, hgo⟩
    · by_cases hk : m.nkey = k
      · subst hk
        rw [altFrom_cons_on ⟨rfl, hon⟩] at hst
        have hnone : tbl.get? m.nkey = none := by
          cases h : tbl.get? m.nkey with
          | none => rfl
          | some _ => rw [h] at hst; cases hst.1
        have hset : (tbl.set m.nkey (i, m.time)).get? m.nkey = some (i, m.time) := by rw [get?_set, if_pos rfl]
        obtain ⟨this, hrem⟩ := ih _ (tbl.set m.nkey (i, m.time)) _ _ (tInv_on hinv m.nkey m.time) hgo (by rw [hset]; exact hst.2)
        replace hrem := hrem i m.time hset
        rw [hset] at this
        replace this : (remFrom ms (i + 1) idx).filter (isKN m.nkey) = kDrop (some m.time) (ms.filter (isKN m.nkey)) := this
        refine ⟨?_, fun j t hj => by rw [hnone] at hj; cases hj⟩
        rw [hnone, List.filter_cons_of_pos (isKN_true ⟨rfl, Or.inl hon⟩), remFrom_cons]
        show _ = (match ms.filter (isKN m.nkey) with
          | off :: _ => if off.time - m.time ≤ 0 then [] else [m]
          | [] => [m]) ++ kDrop (some m.time) (ms.filter (isKN m.nkey))
        rw [← this]
        rcases hkl : ms.filter (isKN m.nkey) with _ | ⟨off, rest⟩
        · rw [hkl] at hrem
          rw [if_neg fun hi => (by obtain ⟨_, _, he, _⟩ := hrem.1 hi; cases he),
            List.filter_cons_of_pos (isKN_true ⟨rfl, Or.inl hon⟩)]
          rfl
        · rw [hkl] at hrem
          by_cases hz : off.time - m.time ≤ 0
          · rw [if_pos (hrem.2 ⟨off, rest, rfl, hz⟩)]
            simp only [hz, if_true, List.nil_append]
          · rw [if_neg fun hi => (by obtain ⟨_, _, he, h⟩ := hrem.1 hi; cases he; exact hz h),
              List.filter_cons_of_pos (isKN_true ⟨rfl, Or.inl hon⟩)]
            simp only [hz, if_false, List.singleton_append]
      · exact skip _ _ (tInv_on hinv m.nkey m.time) hgo (by rw [get?_set, if_neg hk]) fun e => hk e.1
    · by_cases hk : m.nkey = k
      · subst hk
        rw [hget, altFrom_cons_off ⟨rfl, hoff⟩] at hst
        have hi := idx_off hinv hget (m.time - t ≤ 0) hgo
        have herase : (tbl.erase m.nkey).get? m.nkey = none := get?_erase_self hinv.nodup _
        obtain ⟨this, _⟩ := ih _ (tbl.erase m.nkey) _ _ (tInv_off hinv hget (m.time - t ≤ 0)) hgo (by rw [herase]; exact hst.2)
        rw [herase] at this
        replace this : (remFrom ms (i + 1) idx).filter (isKN m.nkey) = kDrop none (ms.filter (isKN m.nkey)) := this
        rw [hget, List.filter_cons_of_pos (isKN_true ⟨rfl, Or.inr hoff⟩)]
        refine ⟨?_, fun j' t' hj => ?_⟩
        · rw [remFrom_cons]
          show _ = (if m.time - t ≤ 0 then [] else [m]) ++ kDrop none (ms.filter (isKN m.nkey))
          rw [← this]
          by_cases hz : m.time - t ≤ 0
          · rw [if_pos (hi.1.2 hz), if_pos hz]; rfl
          · rw [if_neg fun h => hz (hi.1.1 h), if_neg hz, List.filter_cons_of_pos (isKN_true ⟨rfl, Or.inr hoff⟩)]; rfl
        · cases hj
          exact hi.2.trans ⟨fun h => ⟨m, _, rfl, h⟩, fun ⟨_, _, he, h⟩ => by cases he; exact h⟩
      · exact skip _ _ (tInv_off hinv hget (m.time - t ≤ 0)) hgo (get?_erase_ne tbl hk) fun e => hk e.1
    · exact skip _ _ (tInv_skip hinv) hgo rfl (not_kev_of_ty hon hoff)

end SCoda.Q

namespace SCoda

/-- the state of the model's `collapsedGo`: position, open notes (key ↦ position, time), indices found -/
abbrev CSt := Nat × Assoc (Int × Int) (Nat × Int) × List Nat

def cstep (st : CSt) (m : Msg) : Except Err CSt :=
  match m.ty with
  | .noteOn => .ok (st.1 + 1, st.2.1.set m.nkey (st.1, m.time), st.2.2)
  | .noteOff =>
    match st.2.1.get? m.nkey with
    | none => .error .keyError
    | some jt => .ok (st.1 + 1, st.2.1.erase m.nkey, if m.time - jt.2 ≤ 0 then st.2.2 ++ [jt.1, st.1] else st.2.2)
  | _ => .ok (st.1 + 1, st.2.1, st.2.2)

theorem collapsedGo_fold : ∀ (ms : List Msg) (i : Nat) (tbl : Assoc (Int × Int) (Nat × Int)) (acc : List Nat),
    collapsedGo ms i tbl acc = ms.foldlM cstep (i, tbl, acc) >>= fun st => .ok st.2.2 := by
  intro ms
  induction ms with
  | nil => intro i tbl acc; rfl
  | cons m ms ih =>
    intro i tbl acc
    simp only [collapsedGo, List.foldlM_cons, cstep]
    cases hty : m.ty <;> simp only [] <;> try exact ih _ _ _
    cases hg : tbl.get? m.nkey with
    | none => rfl
    | some jt =>
      obtain ⟨j, t⟩ := jt
      simp only []
      exact ih _ _ _

theorem cstep_inv (st : CSt) (m : Msg) (h : Q.TInv st.1 st.2.1 st.2.2 ∧ st.2.2.Nodup) (st' : CSt) (hs : cstep st m = .ok st') :
    Q.TInv st'.1 st'.2.1 st'.2.2 ∧ st'.2.2.Nodup := by
  obtain ⟨i, tbl, acc⟩ := st
  obtain ⟨hT, hnd⟩ := h
  unfold cstep at hs
  simp only at hs hT hnd
  cases hty : m.ty <;> simp only [hty] at hs
  case noteOn => cases hs; exact ⟨Q.tInv_on hT _ _, hnd⟩
  case noteOff =>
    cases hg : tbl.get? m.nkey with
    | none => simp [hg] at hs
    | some jt =>
      obtain ⟨j, t⟩ := jt
      simp only [hg] at hs
      cases hs
      refine ⟨Q.tInv_off hT hg _, ?_⟩
      have hj := hT.tblLt _ (Q.mem_of_get? hg)
      split
      · rw [List.nodup_append]
        refine ⟨hnd, by simpa using Nat.ne_of_lt hj.1, fun a ha b hb e => ?_⟩
        subst e
        simp only [List.mem_cons, List.not_mem_nil, or_false] at hb
        rcases hb with rfl | rfl
        · exact hj.2 ha
        · exact Nat.lt_irrefl _ (hT.accLt _ ha)
      · exact hnd
  all_goals
    cases hs
    exact ⟨Q.tInv_skip hT, hnd⟩

end SCoda
