/-
  The link `TokLib.linkVelocityBinsFn` (Model/TokLib3.lean; audit round 4, item C2) is the translated `get_velocity_bins` read as
  ints: through `UtilTie.getVelocityBins_int` it is the hand transcription `getVelocityBinsPy Gen.velocityMax n` (Model/PyNumSites.lean,
  the object of the C11 theorems) for every `n ≠ 0`, and on 1..64 the table link `TokLib.linkVelocityBins` it replaced.
-/
import SCoda.Model.TokLib3
import SCoda.Props.UtilTie
namespace SCoda.TokLib3L
open SCoda SCoda.TokLib SCoda.PyNum

def pyintVal : PyNum → Int
  | .int i => i
  | .float q => if 0 ≤ q then q.floor else -((-q).floor)

theorem pyint_eq (x : PyNum) : PyNum.pyint x = .int (pyintVal x) := by cases x <;> rfl

/-- `get_velocity_bins(velocity_max, n)` as ints: `int(min(vmax, (i + 1) * bin_size + bin_size / 2))`, `i = 0 … n-1`,
    `bin_size = round(vmax / n)` — the expression of `getVelocityBinsPy` under `pyintVal` instead of `pyint` -/
def velocityBinsIntOf (vmax : Int) (n : Nat) : List Int :=
  let binSize := pyround (truediv (.int vmax) (.int (n : Int)))
  (List.range n).map fun (i : Nat) =>
    pyintVal (pymin (.int vmax) (add (mul (add (.int (i : Int)) (.int 1)) binSize) (truediv binSize (.int 2))))

/-- `get_velocity_bins(velocity_bins=n)` as ints -/
def velocityBinsInt (n : Int) : List Int := velocityBinsIntOf Gen.velocityMax n.toNat

theorem getVelocityBinsPy_int (vmax : Int) (n : Nat) : getVelocityBinsPy vmax n = (velocityBinsIntOf vmax n).map PyNum.int := by
  unfold getVelocityBinsPy velocityBinsIntOf
  simp only [List.map_map]
  apply List.map_congr_left
  intro i _
  exact pyint_eq _

theorem mapM_pyNumInt (l : List Int) : (l.map PyNum.int).mapM pyNumInt? = some l := by
  induction l with
  | nil => rfl
  | cons a l ih => simp [List.mapM_cons, pyNumInt?, ih]

theorem velocityBinsInt_length (n : Int) : (velocityBinsInt n).length = n.toNat := by
  simp [velocityBinsInt, velocityBinsIntOf]

theorem not_nodup_of_getElem? {α} {l : List α} {i j : Nat} {a : α} (hij : i < j) (hi : l[i]? = some a) (hj : l[j]? = some a) :
    ¬ l.Nodup := by
  intro h
  obtain ⟨hi', ei⟩ := List.getElem?_eq_some_iff.1 hi
  obtain ⟨hj', ej⟩ := List.getElem?_eq_some_iff.1 hj
  exact List.pairwise_iff_getElem.1 h i j hi' hj' hij (ei.trans ej.symm)

/-- **every `n ≠ 0`**: the link succeeds with the bins of the hand transcription -/
theorem linkVelocityBinsFn_eq (n : Int) (hn : n ≠ 0) : linkVelocityBinsFn n = .ok (velocityBinsInt n) := by
  have h : Gen.Util.getVelocityBins none (some (.int n)) = .ok (getVelocityBinsPy Gen.velocityMax n.toNat) :=
    UtilTie.getVelocityBins_int Gen.velocityMax n hn
  unfold linkVelocityBinsFn
  rw [h]
  simp only [getVelocityBinsPy_int, mapM_pyNumInt]
  rfl

/-- `velocity_bins = 0`: ZeroDivisionError, as in the source (replayed on /repo: `Tokeniser(velocity_bins=0)` →
    `ZeroDivisionError: division by zero`) -/
theorem linkVelocityBinsFn_zero : linkVelocityBinsFn 0 = .error .zeroDivisionError := rfl

/-- a negative count gives no bins (`range(0, n)` is empty; replayed on /repo: `get_velocity_bins(velocity_bins=-3) == []`) -/
theorem linkVelocityBinsFn_neg (n : Int) (hn : n < 0) : linkVelocityBinsFn n = .ok [] := by
  rw [linkVelocityBinsFn_eq n (by omega)]
  have : n.toNat = 0 := by omega
  simp [velocityBinsInt, velocityBinsIntOf, this]

theorem table_keys : Gen.velocityBinsTable.map (·.1) = List.range' 1 64 := by decide +kernel

theorem table_find (n : Nat) (h1 : 1 ≤ n) (h64 : n ≤ 64) :
    ∃ e ∈ Gen.velocityBinsTable, e.1 = n ∧ Gen.velocityBinsTable.find? (·.1 == n) = some e := by
  have hm : n ∈ Gen.velocityBinsTable.map (·.1) := by rw [table_keys]; simp; omega
  obtain ⟨e, he, hn⟩ := List.mem_map.1 hm
  cases hf : Gen.velocityBinsTable.find? (·.1 == n) with
  | none => exact absurd (List.find?_eq_none.1 hf e he) (by simp [hn])
  | some e' => exact ⟨e', List.mem_of_find?_eq_some hf, by simpa using List.find?_some hf, rfl⟩

/-- **on 1..64 the function link agrees with the table link**: the rows of the table are what the translated function returns
    (`UtilTie.default_tables_from_source`) -/
theorem linkVelocityBinsFn_table (n : Int) (h1 : 1 ≤ n) (h64 : n ≤ 64) : linkVelocityBinsFn n = linkVelocityBins n := by
  obtain ⟨e, he, hn, hf⟩ := table_find n.toNat (by omega) (by omega)
  have hrow := List.all_eq_true.1 UtilTie.default_tables_from_source.2.2.2 e he
  have hn' : ((e.1 : Nat) : Int) = n := by omega
  rw [hn'] at hrow
  unfold linkVelocityBinsFn linkVelocityBins
  rw [eq_of_beq hrow, hf, if_neg (by omega)]
  simp only [mapM_pyNumInt]
  rfl

/-- outside 1..64 the table link is undefined, the function link is not: the counts named in audit round 4, item C2 -/
example : linkVelocityBins 65 = .error .outOfSubset ∧ linkVelocityBins 100 = .error .outOfSubset ∧ linkVelocityBins (-1) = .error .outOfSubset
    ∧ (linkVelocityBinsFn 65).map List.length = .ok 65 ∧ (linkVelocityBinsFn 100).map List.length = .ok 100
    ∧ (linkVelocityBinsFn 128).map List.length = .ok 128 ∧ linkVelocityBinsFn (-1) = .ok [] := by
  have h : ∀ n : Int, n ≠ 0 → (linkVelocityBinsFn n).map List.length = .ok n.toNat := fun n hn => by
    rw [linkVelocityBinsFn_eq n hn]; exact congrArg Except.ok (velocityBinsInt_length n)
  exact ⟨by decide, by decide, by decide, h 65 (by decide), h 100 (by decide), h 128 (by decide),
    linkVelocityBinsFn_neg (-1) (by decide)⟩

end SCoda.TokLib3L
