/-
  `quantise` seen from one key: on well-formed input the note events of key `k` in the result are a function of the
  note events of `k` in the input (`kStream`, then `kDrop` of `Lemmas/Collapsed`), and its notes of `k` are a function `qKey`
  of the notes of `k` (`quantise_key`).  With what `qKey` keeps (`qKey_spec`) that is the view of the result key by key
  (`quantise_view`), which `Props/C05` reads.
-/
import SCoda.Lemmas.Quantise
namespace SCoda.Q
open SCoda SplitL

/-- the position `nearest` returns (0 where it raises) -/
def nearD (t : Int) (vs : List Int) : Int := (vs[findMinimalDistance t vs]?).getD 0

theorem nearD_of_ok {t : Int} {vs : List Int} {v : Int} (h : nearest t vs = .ok v) : nearD t vs = v := by
  unfold nearest at h
  unfold nearD
  split at h
  · rename_i w hw; cases h; rw [hw]; rfl
  · cases h

def bleB : Option Int → Int → Bool
  | Option.none, _ => true
  | some b, x => decide (b ≤ x)

/-- **the fold seen from one key**, on the note events of the key: a note-on is put out at its position unless that lies
    before the end of the last note, a note-off at its position if its note-on was put out -/
def kStream (steps : List Int) : KS → List Msg → List Msg
  | _, [] => []
  | .cl b, m :: ms =>
    if m.ty = .noteOn ∧ bleB b (nearD m.time (possiblePositions steps m.time)) = true then
      { m with time := nearD m.time (possiblePositions steps m.time) } ::
        kStream steps (.op (nearD m.time (possiblePositions steps m.time))) ms
    else kStream steps (.cl b) ms
  | .op o, m :: ms =>
    if m.ty = .noteOff then
      { m with time := nearD m.time (validOf steps m o) } :: kStream steps (.cl (some (nearD m.time (validOf steps m o)))) ms
    else kStream steps (.op o) ms

theorem kStream_nil (steps : List Int) (st : KS) : kStream steps st [] = [] := by cases st <;> rfl

theorem kstream_step {steps : List Int} {s s' : QSt} {m : Msg} (hs : SInv s) (h : StepInfo steps s m s') :
    ∃ x, s'.out.reverse = s.out.reverse ++ x ∧ (∀ y ∈ x, ¬ IsNoteTy y → Cand steps [m] y) ∧ ∀ k rest,
      x.filter (isKN k) ++ kStream steps (ksOf s' k) rest = kStream steps (ksOf s k) ([m].filter (isKN k) ++ rest) := by
  have other : ∀ (t : Int) (k : Int × Int) (rest : List Msg) (st : KS), ¬ Kev k m →
      [{ m with time := t }].filter (isKN k) ++ kStream steps st rest = kStream steps st ([m].filter (isKN k) ++ rest) := by
    intro t k rest st hk
    rw [List.filter_cons_of_neg (isKN_false (m := { m with time := t }) hk), List.filter_cons_of_neg (isKN_false hk)]
    rfl
  rcases h with ⟨t, hty, hnone, ht, hb⟩ | ⟨t, t0, t1, hty, hnone, ht, htm, hlt⟩ | ⟨openT, t, hty, hopen, ht⟩ | ⟨hty, hopen⟩ |
    ⟨t, h1, h2, ht⟩
  case onPush =>
    refine ⟨[{ m with time := t }], List.reverse_cons ..,
      fun y hy hn => absurd (List.mem_singleton.1 hy ▸ Or.inl hty) hn, fun k rest => ?_⟩
    rw [ksOf_pushOn]
    by_cases hk : m.nkey = k
    · subst hk
      rw [if_pos rfl, List.filter_cons_of_pos (isKN_true (k := m.nkey) (m := { m with time := t }) ⟨rfl, Or.inl hty⟩),
        List.filter_cons_of_pos (isKN_true ⟨rfl, Or.inl hty⟩)]
      obtain ⟨b, hb, hble⟩ : ∃ b, ksOf s m.nkey = .cl b ∧ bleB b t = true := by
        rcases hb with hb | ⟨t0, t1, hb, hle⟩
        · exact ⟨Option.none, by simp [ksOf, hnone, hb], rfl⟩
        · exact ⟨some t1, by simp [ksOf, hnone, hb], decide_eq_true hle⟩
      rw [hb]
      show _ = kStream steps (.cl b) (m :: rest)
      rw [kStream, nearD_of_ok ht, if_pos ⟨hty, hble⟩]
      rfl
    · rw [if_neg hk]; exact other t k rest _ fun e => hk e.1
  case onSkip =>
    refine ⟨[], (List.append_nil _).symm, fun _ hy => (nomatch hy), fun k rest => ?_⟩
    by_cases hk : m.nkey = k
    · subst hk
      rw [List.filter_cons_of_pos (isKN_true ⟨rfl, Or.inl hty⟩), show ksOf s m.nkey = .cl (some t1) by simp [ksOf, hnone, htm]]
      show _ = kStream steps (.cl (some t1)) (m :: rest)
      rw [kStream, nearD_of_ok ht, if_neg fun e => by have := of_decide_eq_true e.2; omega]
      rfl
    · rw [List.filter_cons_of_neg (isKN_false fun e => hk e.1)]; rfl
  case offClose =>
    refine ⟨[{ m with time := t }], List.reverse_cons ..,
      fun y hy hn => absurd (List.mem_singleton.1 hy ▸ Or.inr hty) hn, fun k rest => ?_⟩
    rw [ksOf_pushOff hs m t openT hopen]
    by_cases hk : m.nkey = k
    · subst hk
      rw [if_pos rfl, List.filter_cons_of_pos (isKN_true (k := m.nkey) (m := { m with time := t }) ⟨rfl, Or.inr hty⟩),
        List.filter_cons_of_pos (isKN_true ⟨rfl, Or.inr hty⟩), show ksOf s m.nkey = .op openT by simp [ksOf, hopen]]
      show _ = kStream steps (.op openT) (m :: rest)
      rw [kStream, nearD_of_ok ht, if_pos hty]
      rfl
    · rw [if_neg hk]; exact other t k rest _ fun e => hk e.1
  case offStray =>
    refine ⟨[], (List.append_nil _).symm, fun _ hy => (nomatch hy), fun k rest => ?_⟩
    by_cases hk : m.nkey = k
    · subst hk
      rw [List.filter_cons_of_pos (isKN_true ⟨rfl, Or.inr hty⟩), show ksOf s m.nkey = .cl ((s.timings.get? m.nkey).bind fun tm => tm[1]?) by simp only [ksOf, hopen]]
      show _ = kStream steps (.cl _) (m :: rest)
      rw [kStream, if_neg fun e => MType.noConfusion (hty.symm.trans e.1)]
      rfl
    · rw [List.filter_cons_of_neg (isKN_false fun e => hk e.1)]; rfl
  case other =>
    exact ⟨[{ m with time := t }], List.reverse_cons ..,
      fun y hy _ => List.mem_singleton.1 hy ▸ ⟨m, List.mem_singleton_self m, rfl, nearest_mem ht⟩,
      fun k rest => other t k rest _ (not_kev_of_ty h1 h2)⟩

theorem fold_key {steps : List Int} (hne : steps ≠ []) (a : List Msg) (hwf : WF a) :
    ∃ s, foldlM' (qStep steps) {} a = .ok s ∧ (∀ k, altFrom k false s.out.reverse) ∧
      (∀ y ∈ s.out.reverse, ¬ IsNoteTy y → Cand steps a y) ∧
      ∀ k, s.out.reverse.filter (isKN k) = kStream steps (.cl Option.none) (a.filter (isKN k)) := by
  obtain ⟨s, hf, _, hin, halt, hc, hk⟩ := fold_inv hne
    (fun pre post s => InAlt s post ∧ OutAlt s ∧ (∀ y ∈ s.out.reverse, ¬ IsNoteTy y → Cand steps pre y) ∧
      ∀ k, s.out.reverse.filter (isKN k) ++ kStream steps (ksOf s k) (post.filter (isKN k)) =
        kStream steps (.cl Option.none) ((pre ++ post).filter (isKN k)))
    (fun pre m post s s' hs ⟨hin, halt, hc, hk⟩ hany => by
      obtain ⟨hinfo, hin'⟩ := stepAny_inAlt hs hany hin
      obtain ⟨x, hout, hxc, hx⟩ := kstream_step hs hinfo
      refine ⟨hin', outAlt_step hs halt hany, fun y hy hn => ?_, fun k => ?_⟩
      · rcases List.mem_append.1 (hout ▸ hy) with hy | hy
        · obtain ⟨m', hm', h⟩ := hc y hy hn
          exact ⟨m', List.mem_append_left _ hm', h⟩
        · obtain ⟨m', hm', h⟩ := hxc y hy hn
          exact ⟨m', List.mem_append_right _ hm', h⟩
      · rw [hout, List.filter_append, List.append_assoc, hx k, ← List.filter_append, List.singleton_append, hk k,
          List.append_assoc, List.singleton_append])
    a [] {} sInv_init ⟨inAlt_init hwf, outAlt_init, fun _ hy => (nomatch hy), fun _ => rfl⟩
  refine ⟨s, hf, fun k => (altFrom_iff_run k false _).2 ((halt k).trans ?_), hc, fun k => ?_⟩
  · -- no key is open after a well-formed input
    obtain ⟨b, hb, hbo⟩ := hin k
    cases hcon : s.opens.contains k with
    | false => rfl
    | true => exact absurd ((hbo hcon).symm.trans hb) Bool.noConfusion
  · simpa only [List.nil_append, List.append_nil, List.filter_nil, kStream_nil] using hk k

section closed
open NotesBL

/-- where the note-on of a note goes -/
def qOnT (steps : List Int) (p : Msg × Msg) : Int := nearD p.1.time (possiblePositions steps p.1.time)
/-- where its note-off goes -/
def qOffT (steps : List Int) (p : Msg × Msg) : Int := nearD p.2.time (validOf steps p.2 (qOnT steps p))

/-- `quantise` on the notes `(on₁, off₁), (on₂, off₂), …` of one key; `b` is the end of the last note put out.  A note whose
    onset would lie before `b` is dropped, one that ends no later than it starts is removed -/
def qKey (steps : List Int) : Option Int → List (Msg × Msg) → List (Msg × Msg)
  | _, [] => []
  | b, p :: ps =>
    if bleB b (qOnT steps p) = true then
      (if qOffT steps p - qOnT steps p ≤ 0 then []
        else [({ p.1 with time := qOnT steps p }, { p.2 with time := qOffT steps p })]) ++ qKey steps (some (qOffT steps p)) ps
    else qKey steps b ps

variable {steps : List Int} {k : Int × Int}

theorem kDrop_kStream (P : List (Msg × Msg)) (hg : ∀ p ∈ P, GoodPair k p) : ∀ b,
    kDrop none (kStream steps (.cl b) (unpair P)) = unpair (qKey steps b P) := by
  induction P with
  | nil => intro b; rfl
  | cons p P ih =>
    intro b
    have g := hg p List.mem_cons_self
    have ih' := ih fun q hq => hg q (List.mem_cons_of_mem _ hq)
    rw [unpair_cons, kStream, qKey]
    by_cases hb : bleB b (qOnT steps p) = true
    · rw [if_pos ⟨g.on, hb⟩, if_pos hb, kStream, if_pos g.off, kDrop, kDrop, ih', unpair_append]
      show (if qOffT steps p - qOnT steps p ≤ 0 then [] else [{ p.1 with time := qOnT steps p }]) ++
        ((if qOffT steps p - qOnT steps p ≤ 0 then [] else [{ p.2 with time := qOffT steps p }]) ++
          unpair (qKey steps (some (qOffT steps p)) P)) = _
      split <;> rfl
    · rw [if_neg fun e => hb e.2, if_neg hb, kStream, if_neg fun e => MType.noConfusion (g.off.symm.trans e.1), ih']

/-- a note of key `k` as the quantiser puts it out for the input `a` -/
structure QNote (steps : List Int) (k : Int × Int) (a : List Msg) (q : Msg × Msg) : Prop where
  good : GoodPair k q
  on : Cand steps a q.1
  off : Cand steps a q.2
  pos : q.1.time < q.2.time

theorem qKey_spec (hne : steps ≠ []) {a : List Msg} (P : List (Msg × Msg)) (hg : ∀ p ∈ P, GoodPair k p ∧ p.1 ∈ a ∧ p.2 ∈ a) :
    ∀ b, (∀ q ∈ qKey steps b P, QNote steps k a q ∧ bleB b q.1.time = true) ∧
      (qKey steps b P).Pairwise (fun q q' => q.2.time ≤ q'.1.time) := by
  induction P with
  | nil => intro b; exact ⟨fun _ hq => (nomatch hq), List.Pairwise.nil⟩
  | cons p P ih =>
    intro b
    obtain ⟨g, h1, h2⟩ := hg p List.mem_cons_self
    have ih' := ih fun q hq => hg q (List.mem_cons_of_mem _ hq)
    obtain ⟨t, ht, htm, _⟩ := nearest_ok p.1.time _ (possiblePositions_ne_nil hne p.1.time)
    obtain ⟨u, hu, hum, _⟩ := nearest_ok p.2.time _ (validOf_ne_nil steps p.2 t)
    rw [qKey, show qOffT steps p = u by rw [qOffT, qOnT, nearD_of_ok ht, nearD_of_ok hu], show qOnT steps p = t from nearD_of_ok ht]
    split
    · rename_i hb
      have hbt : ∀ x, t ≤ x → bleB b x = true := fun x hx => by
        cases b with | none => rfl | some b => exact decide_eq_true (Int.le_trans (of_decide_eq_true hb : b ≤ t) hx)
      have htu : t ≤ u ∧ (t < u → u ∈ possiblePositions steps p.2.time) := by
        rcases mem_validOf hum with ⟨rfl, _⟩ | ⟨hp, hlt⟩
        · exact ⟨Int.le_refl _, fun h => absurd h (Int.lt_irrefl _)⟩
        · exact ⟨Int.le_of_lt hlt, fun _ => hp⟩
      -- the later notes begin at `u` or later, so after `t`
      obtain ⟨hq, hch⟩ := ih' (some u)
      have hq' : ∀ q ∈ qKey steps (some u) P, QNote steps k a q ∧ bleB b q.1.time = true :=
        fun q hq0 => ⟨(hq q hq0).1, hbt _ (Int.le_trans htu.1 (of_decide_eq_true (hq q hq0).2))⟩
      split
      · exact ⟨hq', hch⟩
      · rename_i hz
        have hlt : t < u := by omega
        refine ⟨fun q hq0 => ?_, List.pairwise_cons.2 ⟨fun q hq0 => of_decide_eq_true (hq q hq0).2, hch⟩⟩
        rcases List.mem_cons.1 hq0 with rfl | hq0
        · exact ⟨⟨⟨g.on, g.off, g.k1, g.k2⟩, ⟨p.1, h1, rfl, htm⟩, ⟨p.2, h2, rfl, htu.2 hlt⟩, hlt⟩, hbt t (Int.le_refl _)⟩
        · exact hq' q hq0
    · exact ih' b

theorem quantise_key (hne : steps ≠ []) {a out : List Msg} (hwf : WF a) (h : quantise steps a = .ok out)
    {P : List (Msg × Msg)} (hP : a.filter (isKN k) = unpair P) (hg : ∀ p ∈ P, GoodPair k p) :
    out.filter (isKN k) = unpair (qKey steps none P) := by
  obtain ⟨s, idx, hf, hidx, rfl⟩ := quantise_ok h
  obtain ⟨s', hf', halt, _, hnw⟩ := fold_key hne a hwf
  rw [hf] at hf'
  cases hf'
  have hq : s.out.reverse.filter (isKN k) = kStream steps (.cl Option.none) (unpair P) := by rw [hnw k, hP]
  have hrem : (remFrom s.out.reverse 0 idx).filter (isKN k) = kDrop none (s.out.reverse.filter (isKN k)) :=
    (collapsed_key (k := k) s.out.reverse 0 [] [] idx tInv_init hidx (halt k)).1
  rw [← removeIndices_eq, hq, kDrop_kStream P hg] at hrem
  obtain ⟨hq, hch⟩ := qKey_spec hne P (fun p hp => ⟨hg p hp, mem_of_unpair hP hp⟩) none
  rw [filter_sortAbs, hrem, sortAbs_of_sorted _ (unpair_keyLe _ (fun q h => ⟨(hq q h).1.good, (hq q h).1.pos⟩) hch)]

theorem quantise_view (hne : steps ≠ []) {a out : List Msg} (hwf : WF a) (h : quantise steps a = .ok out) (k : Int × Int) :
    ∃ Q, out.filter (isKN k) = unpair Q ∧ (notesOf out).filter (fun n => decide ((n.ch, n.pitch) = k)) = Q.map NotesL.mkNote ∧
      (∀ q ∈ Q, QNote steps k a q) ∧
      Q.Pairwise (fun q q' => q.2.time ≤ q'.1.time) := by
  obtain ⟨P, hP, hg, _⟩ := key_view a hwf k
  obtain ⟨hq, hch⟩ := qKey_spec hne P (fun p hp => ⟨hg p hp, mem_of_unpair hP hp⟩) none
  have hout := quantise_key hne hwf h hP hg
  exact ⟨_, hout, notes_of_form hout fun q hq0 => (hq q hq0).1.good, fun q hq0 => (hq q hq0).1, hch⟩

theorem quantise_cand (hne : steps ≠ []) {a out : List Msg} (hwf : WF a) (h : quantise steps a = .ok out) :
    ∀ y ∈ out, Cand steps a y := by
  intro y hy
  by_cases hn : IsNoteTy y
  · obtain ⟨Q, hQ, _, hq, _⟩ := quantise_view hne hwf h y.nkey
    obtain ⟨q, hq0, e | e⟩ := mem_unpair.1 (hQ ▸ List.mem_filter.2 ⟨hy, isKN_true ⟨rfl, hn⟩⟩)
    · exact e ▸ (hq q hq0).on
    · exact e ▸ (hq q hq0).off
  · obtain ⟨s, idx, hf, _, rfl⟩ := quantise_ok h
    obtain ⟨s', hf', _, hnc, _⟩ := fold_key hne a hwf
    rw [hf] at hf'
    cases hf'
    exact hnc y (mem_removeIndices ((mem_sortAbs _ _).1 hy)) hn

theorem quantise_no_overlap (hne : steps ≠ []) {a out : List Msg} (hwf : WF a) (h : quantise steps a = .ok out) :
    (notesOf out).Pairwise (fun n1 n2 => n1.ch = n2.ch → n1.pitch = n2.pitch → n1.off ≤ n2.on) := by
  refine (NotesL.pairwise_of_filters (fun n : Note => (n.ch, n.pitch)) _ _ fun k => ?_).imp fun h h1 h2 => h (Prod.ext h1 h2)
  obtain ⟨Q, _, hn, _, hch⟩ := quantise_view hne hwf h k
  rw [hn]
  exact List.pairwise_map.2 hch

end closed

end SCoda.Q
