/-
  `quantise` only re-times (for `Props/Strong589Q`: audit item A14, property C05): on a well-formed input it produces, up
  to order, a sub-list of the input with only the `time` field changed (no message is duplicated); no overlap of the
  notes of one key in the result; removal of an isolated note without the `a.Nodup` hypothesis.
-/
import SCoda.Props.C05b
namespace SCoda.Strong589LQ
open SCoda SCoda.Q SCoda.QB SCoda.C05

/-- pointwise: the second list is the first with only the `time` fields changed, each by at most `S` -/
def Retimed (S : Int) : List Msg → List Msg → Prop
  | [], [] => True
  | m :: ms, m' :: ms' =>
    m' = { m with time := m'.time } ∧ (m'.time - m.time).natAbs ≤ S.toNat ∧ Retimed S ms ms'
  | [], _ :: _ => False
  | _ :: _, [] => False

instance Retimed.dec (S : Int) : (k q : List Msg) → Decidable (Retimed S k q)
  | [], [] => isTrue trivial
  | [], _ :: _ => isFalse (fun h => h)
  | _ :: _, [] => isFalse (fun h => h)
  | m :: ms, m' :: ms' =>
    have := Retimed.dec S ms ms'
    by unfold Retimed; exact inferInstance

theorem retimed_append {S : Int} : ∀ {k1 q1 k2 q2 : List Msg}, Retimed S k1 q1 → Retimed S k2 q2 →
    Retimed S (k1 ++ k2) (q1 ++ q2)
  | [], [], _, _, _, h2 => h2
  | [], _ :: _, _, _, h1, _ => h1.elim
  | _ :: _, [], _, _, h1, _ => h1.elim
  | _ :: _, _ :: _, _, _, h1, h2 => ⟨h1.1, h1.2.1, retimed_append h1.2.2 h2⟩

theorem retimed_length {S : Int} : ∀ {k q : List Msg}, Retimed S k q → q.length = k.length
  | [], [], _ => rfl
  | [], _ :: _, h => h.elim
  | _ :: _, [], h => h.elim
  | _ :: _, _ :: _, h => by simp [retimed_length h.2.2]

theorem retimed_map_zt {S : Int} : ∀ {k q : List Msg}, Retimed S k q → q.map zt = k.map zt
  | [], [], _ => rfl
  | [], _ :: _, h => h.elim
  | _ :: _, [], h => h.elim
  | m :: _, m' :: _, h => by
    have h1 : zt m' = zt m := by rw [h.1]; rfl
    simp [retimed_map_zt h.2.2, h1]

theorem retimed_filter {S : Int} (p : Msg → Bool) (hp : ∀ m t, p { m with time := t } = p m) :
    ∀ {k q : List Msg}, Retimed S k q → Retimed S (k.filter p) (q.filter p)
  | [], [], _ => trivial
  | [], _ :: _, h => h.elim
  | _ :: _, [], h => h.elim
  | m :: ms, m' :: ms', h => by
    have h1 : p m' = p m := by rw [h.1]; exact hp m _
    have ih := retimed_filter p hp h.2.2
    rw [List.filter_cons, List.filter_cons, h1]
    split
    · exact ⟨h.1, h.2.1, ih⟩
    · exact ih

theorem isNote_retime (m : Msg) (t : Int) : Msg.isNote { m with time := t } = Msg.isNote m := rfl

/-- every message of the retimed list comes from a message of the original list (so `Retimed` up to order and
    sub-list implies `C05.displacement`) -/
theorem retimed_mem {S : Int} : ∀ {k q : List Msg}, Retimed S k q → ∀ m' ∈ q,
    ∃ m ∈ k, m' = { m with time := m'.time } ∧ (m'.time - m.time).natAbs ≤ S.toNat
  | [], [], _, _, hm => by cases hm
  | [], _ :: _, h, _, _ => h.elim
  | _ :: _, [], h, _, _ => h.elim
  | m :: _, _ :: _, h, x, hx => by
    rcases List.mem_cons.1 hx with rfl | hx
    · exact ⟨m, List.mem_cons_self, h.1, h.2.1⟩
    · obtain ⟨m0, h1, h2⟩ := retimed_mem h.2.2 x hx
      exact ⟨m0, List.mem_cons_of_mem _ h1, h2⟩

theorem retimed_sublist {S : Int} : ∀ {k q q' : List Msg}, Retimed S k q → q'.Sublist q →
    ∃ k', k'.Sublist k ∧ Retimed S k' q'
  | [], [], q', _, hs => by
    have : q' = [] := by simpa using hs
    subst this
    exact ⟨[], List.Sublist.refl _, trivial⟩
  | [], _ :: _, _, h, _ => h.elim
  | _ :: _, [], _, h, _ => h.elim
  | m :: ms, m' :: ms', q', h, hs => by
    rcases List.sublist_cons_iff.1 hs with hs' | ⟨r, rfl, hs'⟩
    · obtain ⟨k', h1, h2⟩ := retimed_sublist h.2.2 hs'
      exact ⟨k', h1.cons _, h2⟩
    · obtain ⟨k', h1, h2⟩ := retimed_sublist h.2.2 hs'
      exact ⟨m :: k', h1.cons_cons _, h.1, h.2.1, h2⟩


theorem exists_right {steps : List Int} (hs : StepsOk steps) (t : Int) :
    ∃ p ∈ possiblePositions steps t, t < p := by
  obtain ⟨hne, hpos⟩ := hs
  cases steps with
  | nil => exact absurd rfl hne
  | cons s ss =>
    have hs0 := hpos s (by simp)
    refine ⟨t / s * s + s, by simp [possiblePositions], ?_⟩
    have h2 := Int.emod_lt_of_pos t hs0
    have h3 : t / s * s + t % s = t := Int.ediv_mul_add_emod t s
    omega

/-- the invariant the re-timing bound needs: a note-off with no position after the stored onset of its note-on is put at
    that onset, and this says the onset is within `S` of it -/
def OpenBd (S : Int) (s : QSt) (l : List Msg) : Prop := ∀ kv ∈ s.opens, ∀ m ∈ l, kv.2 ≤ m.time + S

theorem step_ret {steps : List Int} (hs : StepsOk steps) {s s1 : QSt} {m : Msg} {ms : List Msg}
    (hinfo : StepInfo steps s m s1) (hb : OpenBd (maxStep steps) s (m :: ms))
    (hsorted : ∀ m' ∈ ms, m.time ≤ m'.time) :
    OpenBd (maxStep steps) s1 ms ∧
      (s1.out = s.out ∨ ∃ t, s1.out = { m with time := t } :: s.out ∧
        (t - m.time).natAbs ≤ (maxStep steps).toNat) := by
  have hb' : OpenBd (maxStep steps) s ms := fun kv hkv m' hm' => hb kv hkv m' (List.mem_cons_of_mem _ hm')
  have hS := maxStep_pos hs
  rcases hinfo with ⟨t, _, _, ht, _⟩ | ⟨t, _, _, _, _, ht, _, _⟩ | ⟨openT, t, _, hopen, ht⟩ | ⟨_, _⟩ |
    ⟨t, _, _, ht⟩
  · have hc := candidates_spec steps hs m.time t (nearest_mem ht)
    refine ⟨?_, Or.inr ⟨t, rfl, hc.2⟩⟩
    intro kv hkv m' hm'
    rcases mem_set (d := s.opens) hkv with hkv | rfl
    · exact hb' kv hkv m' hm'
    · have := hsorted m' hm'
      have := hc.2
      show t ≤ _
      omega
  · exact ⟨hb', Or.inl rfl⟩
  · refine ⟨fun kv hkv m' hm' => hb' kv (mem_erase (d := s.opens) hkv) m' hm', Or.inr ⟨t, rfl, ?_⟩⟩
    rcases mem_validOf (nearest_mem ht) with ⟨rfl, hno⟩ | ⟨hp, _⟩
    · obtain ⟨p, hp, hlt⟩ := exists_right hs m.time
      have h1 : p ≤ t := by
        by_cases h : t < p
        · exact absurd ⟨p, hp, h⟩ hno
        · omega
      have h2 := hb _ (mem_of_get? hopen) m List.mem_cons_self
      have h2' : t ≤ m.time + maxStep steps := h2
      omega
    · exact (candidates_spec steps hs m.time t hp).2
  · exact ⟨hb', Or.inl rfl⟩
  · exact ⟨hb', Or.inr ⟨t, rfl, (candidates_spec steps hs m.time t (nearest_mem ht)).2⟩⟩

theorem fold_ret {steps : List Int} (hs : StepsOk steps) : ∀ (l : List Msg) (s s' : QSt),
    SInv s → InAlt s l → l.Pairwise (fun a b => a.time ≤ b.time) → OpenBd (maxStep steps) s l →
    foldlM' (qStep steps) s l = .ok s' →
    ∃ kept nw, s'.out.reverse = s.out.reverse ++ nw ∧ kept.Sublist l ∧ Retimed (maxStep steps) kept nw := by
  intro l
  induction l with
  | nil =>
    intro s s' _ _ _ _ h
    simp only [foldlM'] at h
    cases h
    exact ⟨[], [], by simp, List.Sublist.refl _, trivial⟩
  | cons m ms ih =>
    intro s s' hsi hin hp hb h
    rw [List.pairwise_cons] at hp
    obtain ⟨s1, hq, hinfo, hsi1, hin1⟩ := qStep_spec hs.1 hsi hin
    rw [foldlM'_cons_ok _ hq] at h
    obtain ⟨hb1, hout⟩ := step_ret hs hinfo hb hp.1
    obtain ⟨kept, nw, h1, h2, h3⟩ := ih s1 s' hsi1 hin1 hp.2 hb1 h
    rcases hout with ho | ⟨t, ho, hd⟩
    · exact ⟨kept, nw, by rw [h1, ho], h2.cons _, h3⟩
    · refine ⟨m :: kept, { m with time := t } :: nw, by rw [h1, ho]; simp, h2.cons_cons _, rfl, hd, h3⟩

theorem quantise_retimed {steps : List Int} (hs : StepsOk steps) {a out : List Msg} (hsorted : TimeSorted a)
    (hwf : WF a) (h : quantise steps a = .ok out) :
    ∃ kept q, kept.Sublist a ∧ out.Perm q ∧ Retimed (maxStep steps) kept q := by
  obtain ⟨s, idx, hf, _, rfl⟩ := quantise_ok h
  obtain ⟨kept, nw, h1, h2, h3⟩ := fold_ret hs a {} s sInv_init (inAlt_init hwf)
    ((timeSorted_iff_pairwise a).1 hsorted) (fun kv hkv => by cases hkv) hf
  have hnw : s.out.reverse = nw := by simpa using h1
  rw [hnw]
  have hsub : (removeIndices nw idx).Sublist nw := by
    rw [removeIndices_eq]; exact remFrom_sublist _ _ _
  obtain ⟨kept', h4, h5⟩ := retimed_sublist h3 hsub
  exact ⟨kept', _, h4.trans h2, sortAbs_perm _, h5⟩


theorem post_far {k : Int × Int} {T : Int} : ∀ (post : List Msg), altFrom k false post →
    post.Pairwise (fun a b => a.time ≤ b.time) →
    (∀ m ∈ post, m.nkey = k → m.ty = .noteOn → T ≤ m.time) →
    ∀ m ∈ post, m.nkey = k → IsNoteTy m → T ≤ m.time := by
  intro post
  induction post with
  | nil => intro _ _ _ m hm; cases hm
  | cons x xs ih =>
    intro halt hp hon m hm hk hn
    rw [List.pairwise_cons] at hp
    by_cases hxon : x.nkey = k ∧ x.ty = .noteOn
    · have h1 := hon x List.mem_cons_self hxon.1 hxon.2
      rcases List.mem_cons.1 hm with rfl | hm
      · exact h1
      · have := hp.1 m hm; omega
    · by_cases hxoff : x.nkey = k ∧ x.ty = .noteOff
      · rw [altFrom, if_neg hxon, if_pos hxoff] at halt
        cases halt.1
      · rw [altFrom_cons_skip (not_kev_of hxon hxoff)] at halt
        rcases List.mem_cons.1 hm with rfl | hm
        · rcases hn with hn | hn
          · exact absurd ⟨hk, hn⟩ hxon
          · exact absurd ⟨hk, hn⟩ hxoff
        · exact ih halt hp.2 (fun y hy => hon y (List.mem_cons_of_mem _ hy)) m hm hk hn

/-- `QB.core_dropped`, without asking the input to be free of duplicates -/
theorem dropped_isolated {steps : List Int} (hs : StepsOk steps) {a out : List Msg} (hok : OkAbs a) (hwf : WF a)
    (h : quantise steps a = .ok out) {on off : Msg} (hi : Isolated steps a on off)
    (hlt : on.time < off.time)
    (hnoroom : ∀ p ∈ possiblePositions steps off.time, p ≤ qOn steps on) :
    ∀ m ∈ out, m.nkey = on.nkey → (m.ty = .noteOn ∨ m.ty = .noteOff) →
      m.time + maxStep steps ≤ on.time ∨ off.time + maxStep steps ≤ m.time := by
  obtain ⟨pre, mid, post, rfl, c, hpost⟩ := hi.cut hs hok hwf (OnFirst.of_lt hok hi hlt)
  have hS := maxStep_pos hs
  have hsorted : TimeSorted ((pre ++ on :: mid) ++ off :: post) := by
    rw [List.append_assoc, List.cons_append]; exact hok.1
  have hsp := timeSorted_mid hsorted
  have hpw : post.Pairwise (fun a b => a.time ≤ b.time) := by
    have := (timeSorted_iff_pairwise _).1 hsorted
    rw [List.pairwise_append, List.pairwise_cons] at this
    exact this.2.1.2
  have halt : altFrom on.nkey false post := by
    have hw : altFrom on.nkey false ((pre ++ on :: mid) ++ off :: post) := by
      rw [List.append_assoc, List.cons_append]; exact hwf on.nkey
    obtain ⟨b, hb⟩ := altFrom_drop on.nkey _ _ false hw
    rw [altFrom, if_neg (by simp [hi.offTy]), if_pos ⟨hi.key, hi.offTy⟩] at hb
    exact hb.2
  have hpost' : ∀ m ∈ post, m.nkey = on.nkey → IsNoteTy m → off.time + 2 * maxStep steps ≤ m.time := by
    apply post_far post halt hpw
    intro m hm hk hty
    have ht := hsp.2 m hm
    exact hpost m hm (fun e => by rw [e] at ht; omega) (fun e => by rw [e, hi.offTy] at hty; cases hty) hk
      (Or.inl hty)
  exact core_dropped hs c hpost' (nearest_qOn hs.1 on) hnoroom h

theorem qStep_nil_err (m : Msg) (hm : m.ty ≠ .noteOff) : qStep [] {} m = .error .indexError := by
  unfold qStep
  simp only [bind, Except.bind, possiblePositions, List.map_nil, List.append_nil, nearest, findMinimalDistance, fmdGo]
  split
  · rfl
  · rename_i h; exact absurd h hm
  · rfl

/-- with no step size at all a well-formed input is either empty or rejected (`IndexError`) -/
theorem quantise_nil_steps {a out : List Msg} (hwf : WF a) (h : quantise [] a = .ok out) : out = [] := by
  cases a with
  | nil => cases h; rfl
  | cons m ms =>
    exfalso
    have hm : m.ty ≠ .noteOff := by
      intro hoff
      have := hwf m.nkey
      rw [altFrom, if_neg (by simp [hoff]), if_pos ⟨rfl, hoff⟩] at this
      cases this.1
    obtain ⟨s, _, hf, _, _⟩ := quantise_ok h
    simp only [foldlM', qStep_nil_err m hm] at hf
    cases hf

def NoOverlap (n1 n2 : Note) : Prop := n1.ch = n2.ch → n1.pitch = n2.pitch → n1.off ≤ n2.on

theorem no_overlap_any {steps : List Int} {a out : List Msg} (hwf : WF a) (h : quantise steps a = .ok out) :
    (notesOf out).Pairwise NoOverlap := by
  by_cases hne : steps = []
  · subst hne
    rw [quantise_nil_steps hwf h]
    exact List.Pairwise.nil
  · exact quantise_no_overlap hne hwf h

end SCoda.Strong589LQ
