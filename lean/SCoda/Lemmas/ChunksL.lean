/-
  Helper definitions and lemmas for Props/C03c (audit item A1).
  * whole-bar chunks as an *input-level* notion: bars with their signatures and bar-relative events (`BarEv`,
    `BarOk`, `BarsOk`), laid end to end at cumulative bar lengths (`layBars`, `joinChunks`), the D19 class `Stalls`,
    the closed form `gridLog` of a piece (notes at bar start + tick, bar ends at cumulative bar lengths);
    none of these definitions mentions `tokeniseCore`, `specLog` or a state they return;
  * the specification on whole bars: where the clock stands, and what the log is, after one bar, after a sequence of
    bars, after a call;
  * `run_single`: the threaded calls on whole-bar chunks and the single call on the joined events return the same
    tokens and state (by `Tokenise.core_append`).
-/
import SCoda.Props.C01
import SCoda.Props.C01b
import SCoda.Props.C03b
namespace SCoda.ChunksL
open SCoda SCoda.C01

/-- a bar as the caller hands it over: its time signature and its events (pairings headed by the
    message whose `time` is the onset) at *bar-relative* ticks -/
structure BarEv where
  num : Int
  den : Int
  evs : List (Int × Pairing)
  deriving DecidableEq, Repr

def barLen (c : Cfg) (b : BarEv) : Int := c.capacity b.num b.den

def chunkLen (c : Cfg) : List BarEv → Int
  | [] => 0
  | b :: bs => barLen c b + chunkLen c bs

/-- the events of a sequence of bars laid end to end: bar `i` is shifted by the summed lengths of the bars before it -/
def layBars (c : Cfg) : List BarEv → List (Int × Pairing)
  | [] => []
  | b :: bs => b.evs ++ shiftEvs (barLen c b) (layBars c bs)

/-- the chunks of a piece laid end to end: chunk `i` is shifted by the summed lengths of the chunks before it -/
def joinChunks (c : Cfg) : List (List BarEv) → List (Int × Pairing)
  | [] => []
  | ch :: rest => layBars c ch ++ shiftEvs (chunkLen c ch) (joinChunks c rest)

/-- the bar length in force after the bars (`C` before them) -/
def lastCap (c : Cfg) (C : Int) : List BarEv → Int
  | [] => C
  | b :: bs => lastCap c (barLen c b) bs

/-- a bar is well formed after a bar of length `prevCap`: positive signature and length, non-empty pairings on
    existing tracks with onsets inside the bar (its end included: the cap message of a trailing rest) in time
    order, time signatures only on the bar line and equal to the bar's own, notes starting before the bar's end,
    and the bar announces its signature unless its length is the running one -/
structure BarOk (c : Cfg) (prevCap : Int) (b : BarEv) : Prop where
  numPos : 0 < b.num
  denPos : 0 < b.den
  lenPos : 0 < barLen c b
  nonempty : ∀ ev ∈ b.evs, ev.2 ≠ []
  chans : ∀ ev ∈ b.evs, ∀ m ∈ ev.2.head?, 0 ≤ m.ch ∧ m.ch < (c.numTracks : Int)
  range : ∀ ev ∈ b.evs, ∀ m ∈ ev.2.head?, 0 ≤ m.time ∧ m.time ≤ barLen c b
  ordered : List.Pairwise (fun a b => ∀ x ∈ a.2.head?, ∀ y ∈ b.2.head?, x.time ≤ y.time) b.evs
  sigs : ∀ ev ∈ b.evs, ∀ m ∈ ev.2.head?, m.ty = .timeSignature → m.time = 0 ∧ m.num = b.num ∧ m.den = b.den
  notesInside : ∀ ev ∈ b.evs, ∀ m ∈ ev.2.head?, m.ty = .noteOn → m.time < barLen c b
  announced : barLen c b = prevCap ∨ ∃ ev ∈ b.evs, ∃ m ∈ ev.2.head?, m.ty = .timeSignature

instance (c : Cfg) (prevCap : Int) (b : BarEv) : Decidable (BarOk c prevCap b) :=
  decidable_of_iff
    (0 < b.num ∧ 0 < b.den ∧ 0 < barLen c b ∧ (∀ ev ∈ b.evs, ev.2 ≠ [])
      ∧ (∀ ev ∈ b.evs, ∀ m ∈ ev.2.head?, 0 ≤ m.ch ∧ m.ch < (c.numTracks : Int))
      ∧ (∀ ev ∈ b.evs, ∀ m ∈ ev.2.head?, 0 ≤ m.time ∧ m.time ≤ barLen c b)
      ∧ List.Pairwise (fun a b => ∀ x ∈ a.2.head?, ∀ y ∈ b.2.head?, x.time ≤ y.time) b.evs
      ∧ (∀ ev ∈ b.evs, ∀ m ∈ ev.2.head?, m.ty = .timeSignature → m.time = 0 ∧ m.num = b.num ∧ m.den = b.den)
      ∧ (∀ ev ∈ b.evs, ∀ m ∈ ev.2.head?, m.ty = .noteOn → m.time < barLen c b)
      ∧ (barLen c b = prevCap ∨ ∃ ev ∈ b.evs, ∃ m ∈ ev.2.head?, m.ty = .timeSignature))
    ⟨fun ⟨a, b, c, d, e, f, g, h, i, j⟩ => ⟨a, b, c, d, e, f, g, h, i, j⟩,
     fun h => ⟨h.numPos, h.denPos, h.lenPos, h.nonempty, h.chans, h.range, h.ordered, h.sigs, h.notesInside, h.announced⟩⟩

/-- a sequence of whole bars, well formed after a bar of length `prevCap` -/
def BarsOk (c : Cfg) : Int → List BarEv → Prop
  | _, [] => True
  | C, b :: bs => BarOk c C b ∧ BarsOk c (barLen c b) bs

instance (c : Cfg) : ∀ (C : Int) (bs : List BarEv), Decidable (BarsOk c C bs)
  | _, [] => isTrue trivial
  | C, b :: bs =>
    have := instDecidableBarsOk c (barLen c b) bs
    inferInstanceAs (Decidable (BarOk c C b ∧ BarsOk c (barLen c b) bs))

/-- onset of an event (0 for the impossible empty pairing) -/
def onsetOf (ev : Int × Pairing) : Int :=
  match ev.2 with
  | m :: _ => m.time
  | [] => 0

/-- onset of the last event of a list (0 if there is none) -/
def lastOnset (evs : List (Int × Pairing)) : Int :=
  match evs.getLast? with
  | some ev => onsetOf ev
  | none => 0

/-- **the D19 class**, on the input: the chunk has a last bar, and nothing in the chunk moves the clock past
    the bar line on which that last bar starts — no onset strictly inside the last bar and no message (cap of
    a trailing rest) at its end -/
def Stalls (c : Cfg) (bars : List BarEv) : Prop :=
  bars ≠ [] ∧ lastOnset (layBars c bars) ≤ chunkLen c bars.dropLast

instance (c : Cfg) (bars : List BarEv) : Decidable (Stalls c bars) := by
  unfold Stalls; infer_instance

theorem specTail_step (c : Cfg) (m : Msg) (restP : List Msg) (k : Clock) (ℓ : Int) (hg : Good k)
    (hsig : m.ty = .timeSignature → c.capacity m.num m.den = ℓ) :
    ((specTail c m restP k).1 = k ∧ (m.ty = .timeSignature → 0 < k.bar))
      ∨ (m.ty = .timeSignature ∧ k.bar = 0 ∧ (specTail c m restP k).1 = lineClock k.cur ℓ) := by
  rw [specTail_clock]
  by_cases h : m.ty = .timeSignature ∧ ¬ k.bar > 0
  · rw [if_pos h]
    right
    have hb : k.bar = 0 := by have := hg.1.2.1; omega
    refine ⟨h.1, hb, ?_⟩
    rw [hsig h.1]
    unfold lineClock
    rw [← hb]
  · rw [if_neg h]
    left
    refine ⟨rfl, fun hty => ?_⟩
    refine Decidable.byContradiction fun hn => h ⟨hty, by omega⟩

/-- what a note event emits when the tick 0 of its times is the absolute tick `A`: the note on its track with its binned
    velocity, from its onset to its end -/
def noteEmit (c : Cfg) (A : Int) (ev : Int × Pairing) : List Emit :=
  match ev.2 with
  | m :: off :: _ =>
    if m.ty = .noteOn then
      [Emit.note m.ch m.note ((c.bins[binIndex c.bins m.vel]?).getD 0) (A + m.time) (A + m.time + (off.time - m.time))]
    else []
  | _ => []

theorem specTail_log (c : Cfg) (a e1 : Int) (m : Msg) (restP : List Msg) (k : Clock) (hk : k.cur = a + m.time) :
    (specTail c m restP k).2 = noteEmit c a (e1, m :: restP) := by
  rw [specTail_emits, hk]
  cases restP <;> rfl

theorem noteEmit_other (c : Cfg) (A : Int) (ev : Int × Pairing) (h : ∀ m ∈ ev.2.head?, m.ty ≠ .noteOn) :
    noteEmit c A ev = [] := by
  unfold noteEmit
  split
  · rename_i m off r hev
    rw [if_neg (h m (by simp [hev]))]
  · rfl

/-- **one bar.**  The clock `k` either lags behind the bar line `a` on which the bar starts (it would reach
    it as the line clock of the previous bar length, and the bar still has its signature to announce) or it
    is already on the way to the bar's end.  After the events of the bar it is on the way to the bar's end:
    moved to `a + ℓ` (`upTo`) it is the line clock of the bar's own length, and the log has grown by the bar's notes and the
    bar's end. -/
theorem bar_fold (c : Cfg) (a ℓ Cprev : Int) (hℓ : 0 < ℓ) (evs : List (Int × Pairing)) (hne : ∀ ev ∈ evs, ev.2 ≠ [])
    (hrange : ∀ ev ∈ evs, ∀ m ∈ ev.2.head?, 0 ≤ m.time ∧ m.time ≤ ℓ)
    (hord : List.Pairwise (fun a b => ∀ x ∈ a.2.head?, ∀ y ∈ b.2.head?, x.time ≤ y.time) evs)
    (hsig : ∀ ev ∈ evs, ∀ m ∈ ev.2.head?, m.ty = .timeSignature → m.time = 0 ∧ c.capacity m.num m.den = ℓ)
    (hnote : ∀ ev ∈ evs, ∀ m ∈ ev.2.head?, m.ty = .noteOn → m.time < ℓ)
    (k : Clock) (Lg G : List Emit) (hg : Good k)
    (htime : ∀ ev ∈ evs, ∀ m ∈ ev.2.head?, k.cur ≤ m.time + a)
    (hle : k.cur ≤ a + ℓ)
    (hW : upTo (a + ℓ) (k, Lg) = (lineClock (a + ℓ) ℓ, G ++ [Emit.barEnd (a + ℓ)])
        ∨ (k.cur ≤ a ∧ upTo a (k, Lg) = (lineClock a Cprev, G) ∧ ∃ ev ∈ evs, ∃ m ∈ ev.2.head?, m.ty = .timeSignature)) :
    let r := evs.foldl (specEvent c a) (k, Lg)
    Good r.1 ∧ r.1.cur ≤ a + ℓ
      ∧ upTo (a + ℓ) r = (lineClock (a + ℓ) ℓ, G ++ evs.flatMap (noteEmit c a) ++ [Emit.barEnd (a + ℓ)]) := by
  dsimp only
  induction evs generalizing k Lg G with
  | nil =>
    rcases hW with h | ⟨_, _, ev, hev, _⟩
    · exact ⟨hg, hle, by simpa using h⟩
    · simp at hev
  | cons ev evs ih =>
    rw [List.pairwise_cons] at hord
    replace ih := @ih (fun e he => hne e (List.mem_cons_of_mem _ he)) (fun e he => hrange e (List.mem_cons_of_mem _ he)) hord.2
      (fun e he => hsig e (List.mem_cons_of_mem _ he)) (fun e he => hnote e (List.mem_cons_of_mem _ he))
    obtain ⟨e1, e2⟩ := ev
    cases e2 with
    | nil => exact absurd rfl (hne (e1, []) List.mem_cons_self)
    | cons m restP =>
      have ht := hrange (e1, m :: restP) (by simp) m (by simp)
      have hk := htime (e1, m :: restP) (by simp) m (by simp)
      have hs := hsig (e1, m :: restP) (by simp) m (by simp)
      have hn := hnote (e1, m :: restP) (by simp) m (by simp)
      obtain ⟨g1, g2, g3⟩ := upTo_good (m.time + a) (k, Lg) hg hk
      rw [List.foldl_cons, specEvent_cons, List.flatMap_cons]
      generalize hr1 : upTo (m.time + a) (k, Lg) = r1 at g1 g2 g3
      obtain ⟨k1, L1⟩ := r1
      simp only at g1 g2 g3 ⊢
      have hcur1 : k1.cur = a + m.time := by omega
      rw [specTail_log c a e1 m restP k1 hcur1]
      -- the hypothesis `hW` carried to the clock moved to the onset
      have hW1 : upTo (a + ℓ) (k1, L1) = (lineClock (a + ℓ) ℓ, G ++ [Emit.barEnd (a + ℓ)])
          ∨ (m.time = 0 ∧ (k1, L1) = (lineClock a Cprev, G)
              ∧ ∃ ev ∈ (e1, m :: restP) :: evs, ∃ m ∈ ev.2.head?, m.ty = .timeSignature) := by
        rcases hW with h | ⟨h1, h2, ev, hev, m', hm', hty'⟩
        · exact Or.inl (by rw [← hr1, upTo_upTo _ hg.1 hk (by omega)]; exact h)
        · right
          have hm0 : m.time = 0 := by
            have h0 := (hsig ev hev m' hm' hty').1
            rcases List.mem_cons.1 hev with rfl | hin
            · simp only [List.head?_cons, Option.mem_def, Option.some.injEq] at hm'
              subst hm'; exact h0
            · have := hord.1 ev hin m (by simp) m' hm'
              omega
          rw [hm0, Int.zero_add, h2] at hr1
          exact ⟨hm0, hr1.symm, ev, hev, m', hm', hty'⟩
      -- before the bar's end nothing but the bar's end is pending
      have hGleft : upTo (a + ℓ) (k1, L1) = (lineClock (a + ℓ) ℓ, G ++ [Emit.barEnd (a + ℓ)]) → m.time < ℓ → L1 = G := by
        intro h hlt
        have hct : k1.capTotal = ℓ := by
          have := (upTo_good (a + ℓ) (k1, L1) g1 (by simp only; omega)).2.1
          rw [h] at this; exact this.symm
        have := upTo_line_log (k1, L1) g1 (a + ℓ) (by simp only; omega) (by simp only; omega) (by rw [h]; rfl)
        rw [h] at this
        exact (List.append_cancel_right this).symm
      rcases specTail_step c m restP k1 ℓ g1 (fun h => (hs h).2) with ⟨t1, t2⟩ | ⟨t1, t2, t3⟩
      · -- the clock is left alone
        simp only [t1]
        obtain ⟨i1, i2, i3⟩ := ih k1 (L1 ++ noteEmit c a (e1, m :: restP)) (G ++ noteEmit c a (e1, m :: restP)) g1
          (fun e he m' hm' => by
            have := hord.1 e he m (by simp) m' hm'
            omega) (by omega)
          (by
            rcases hW1 with h | ⟨h1, h2, ev, hev, m', hm', hty'⟩
            · left
              by_cases hlt : m.time < ℓ
              · have hL := hGleft h hlt
                subst hL
                exact upTo_congr_log h
              · have hno : noteEmit c a (e1, m :: restP) = [] :=
                  noteEmit_other c a _ (fun m' hm' hty' => by
                    simp only [List.head?_cons, Option.mem_def, Option.some.injEq] at hm'
                    subst hm'
                    exact hlt (hn hty'))
                rw [hno, List.append_nil, List.append_nil]
                exact h
            · cases h2
              refine Or.inr ⟨by simp only [lineClock]; omega, ?_, ev, ?_, m', hm', hty'⟩
              · rw [upTo_stay _ (by simp only [lineClock]; omega)]
              · rcases List.mem_cons.1 hev with rfl | hin
                · simp only [List.head?_cons, Option.mem_def, Option.some.injEq] at hm'
                  subst hm'
                  have := t2 hty'
                  simp [lineClock] at this
                · exact hin)
        refine ⟨i1, i2, ?_⟩
        rw [i3]
        simp [List.append_assoc]
      · -- a time signature on the bar line re-sizes the bar
        simp only [t3]
        have hm0 : m.time = 0 := (hs t1).1
        have hno : noteEmit c a (e1, m :: restP) = [] :=
          noteEmit_other c a _ (fun m' hm' hty' => by
            simp only [List.head?_cons, Option.mem_def, Option.some.injEq] at hm'
            subst hm'
            rw [t1] at hty'
            cases hty')
        rw [hno, List.append_nil, List.nil_append]
        have hG : L1 = G := by
          rcases hW1 with h | ⟨_, h3, _⟩
          · exact hGleft h (by omega)
          · exact (Prod.mk.inj h3).2
        refine ih (lineClock k1.cur ℓ) _ G (lineClock_good _ _ hℓ) ?_
          (by simp only [lineClock]; omega) ?_
        · intro e he m' hm'
          have := hord.1 e he m (by simp) m' hm'
          simp only [lineClock]; omega
        · left
          rw [hcur1, hm0, Int.add_zero, hG]
          exact upTo_line a ℓ hℓ G

theorem BarOk.sigCap {c : Cfg} {C : Int} {b : BarEv} (h : BarOk c C b) :
    ∀ ev ∈ b.evs, ∀ m ∈ ev.2.head?, m.ty = .timeSignature → m.time = 0 ∧ c.capacity m.num m.den = barLen c b := by
  intro ev hev m hm hty
  obtain ⟨h1, h2, h3⟩ := h.sigs ev hev m hm hty
  exact ⟨h1, by unfold barLen; rw [h2, h3]⟩

theorem chunkLen_nonneg (c : Cfg) (C : Int) (bars : List BarEv) (h : BarsOk c C bars) : 0 ≤ chunkLen c bars := by
  induction bars generalizing C with
  | nil => exact Int.le_refl 0
  | cons b bs ih =>
    have := ih _ h.2
    have := h.1.lenPos
    simp only [chunkLen]; omega

/-- the piece as the bars say it: every note of every bar at the bar's start plus its tick, and after the notes of
    each bar the bar's end, at the summed bar lengths (`A` is the absolute tick of the first bar line).  Independent of
    `specLog`, of tokens, and of every event that is not a note. -/
def gridLog (c : Cfg) (A : Int) : List BarEv → List Emit
  | [] => []
  | b :: bs => b.evs.flatMap (noteEmit c A) ++ [Emit.barEnd (A + barLen c b)] ++ gridLog c (A + barLen c b) bs

/-- **a sequence of whole bars.**  From a clock that reaches the bar line `a` as the line clock of bars of length `C`,
    the events of the bars laid end to end leave a clock that reaches the end `a + Σ barLen` of the last bar as
    the line clock of the last bar's length; and the log, moved there, has grown by exactly `gridLog`. -/
theorem bars_fold (c : Cfg) (bars : List BarEv) (C : Int) (hok : BarsOk c C bars) (a : Int)
    (k : Clock) (Lg G : List Emit) (hg : Good k) (hle : k.cur ≤ a) (hlag : upTo a (k, Lg) = (lineClock a C, G)) :
    let r := (layBars c bars).foldl (specEvent c a) (k, Lg)
    Good r.1
      ∧ r.1.cur ≤ a + chunkLen c bars
      ∧ upTo (a + chunkLen c bars) r = (lineClock (a + chunkLen c bars) (lastCap c C bars), G ++ gridLog c a bars) := by
  dsimp only
  induction bars generalizing C a k Lg G with
  | nil =>
    simp only [layBars, List.foldl_nil, chunkLen, Int.add_zero, lastCap, gridLog, List.append_nil]
    exact ⟨hg, hle, hlag⟩
  | cons b bs ih =>
    obtain ⟨hb, hbs⟩ := hok
    have hℓ := hb.lenPos
    simp only [layBars, List.foldl_append, fold_shift, chunkLen, lastCap, gridLog]
    have hW : upTo (a + barLen c b) (k, Lg) = (lineClock (a + barLen c b) (barLen c b), G ++ [Emit.barEnd (a + barLen c b)])
        ∨ (k.cur ≤ a ∧ upTo a (k, Lg) = (lineClock a C, G) ∧ ∃ ev ∈ b.evs, ∃ m ∈ ev.2.head?, m.ty = .timeSignature) := by
      rcases hb.announced with h | h
      · left
        rw [← upTo_upTo _ hg.1 hle (by omega), hlag, ← h]
        exact upTo_line a _ (h ▸ hℓ) G
      · exact Or.inr ⟨hle, hlag, h⟩
    obtain ⟨r1, r2, r3⟩ := bar_fold c a (barLen c b) C hℓ b.evs hb.nonempty hb.range hb.ordered hb.sigCap hb.notesInside k Lg
      G hg (fun e he m hm => by have := (hb.range e he m hm).1; omega) (by omega) hW
    generalize b.evs.foldl (specEvent c a) (k, Lg) = kl1 at r1 r2 r3
    obtain ⟨k1, L1⟩ := kl1
    obtain ⟨i1, i2, i3⟩ := ih (barLen c b) hbs (a + barLen c b) k1 L1 _ r1 r2 r3
    rw [show a + (barLen c b + chunkLen c bs) = a + barLen c b + chunkLen c bs by omega]
    refine ⟨i1, i2, ?_⟩
    rw [i3]
    simp [List.append_assoc]

/-- what `BarsOk` leaves of the bars once they are laid out as one event list of length `L` (`layBars_ok`); it is what the
    specification fold needs (`fold_pos`) and gives `EvsOk` for a call starting anywhere (`LaidOk.evsOk`) -/
structure LaidOk (c : Cfg) (L : Int) (evs : List (Int × Pairing)) : Prop where
  nonempty : ∀ ev ∈ evs, ev.2 ≠ []
  chans : ∀ ev ∈ evs, ∀ m ∈ ev.2.head?, 0 ≤ m.ch ∧ m.ch < (c.numTracks : Int)
  range : ∀ ev ∈ evs, ∀ m ∈ ev.2.head?, 0 ≤ m.time ∧ m.time ≤ L
  ordered : List.Pairwise (fun a b => ∀ x ∈ a.2.head?, ∀ y ∈ b.2.head?, x.time ≤ y.time) evs
  sigPos : ∀ ev ∈ evs, ∀ m ∈ ev.2.head?, m.ty = .timeSignature → 0 < m.den ∧ 0 < m.num ∧ 0 < c.capacity m.num m.den

theorem layBars_ok (c : Cfg) (C : Int) (bars : List BarEv) (hok : BarsOk c C bars) :
    LaidOk c (chunkLen c bars) (layBars c bars) := by
  induction bars generalizing C with
  | nil => constructor <;> simp [layBars]
  | cons b bs ih =>
    obtain ⟨hb, hbs⟩ := hok
    have h2 := ih _ hbs
    have hL := chunkLen_nonneg c _ bs hbs
    have hℓ := hb.lenPos
    simp only [layBars, chunkLen]
    refine ⟨?_, heads_append _ hb.chans h2.chans,
      heads_append (fun m => 0 ≤ m.time ∧ m.time ≤ barLen c b + chunkLen c bs) ?_ ?_, ordered_append hb.ordered h2.ordered ?_,
      heads_append _ ?_ h2.sigPos⟩
    · intro ev hev
      rcases List.mem_append.1 hev with h | h
      · exact hb.nonempty ev h
      · exact shift_nonempty _ _ h2.nonempty ev h
    · intro ev h m hm; have := hb.range ev h m hm; omega
    · intro e he m hm; have := h2.range e he m hm; simp only; omega
    · intro x hx mx hmx e he m hm
      have := (hb.range x hx mx hmx).2; have := (h2.range e he m hm).1; omega
    · intro ev h m hm hty
      obtain ⟨_, e2, e3⟩ := hb.sigs ev h m hm hty
      refine ⟨by rw [e3]; exact hb.denPos, by rw [e2]; exact hb.numPos, ?_⟩
      rw [e2, e3]; exact hℓ

theorem LaidOk.evsOk {c : Cfg} {L : Int} {evs : List (Int × Pairing)} (h : LaidOk c L evs) (s : Int) :
    EvsOk c s s evs :=
  ⟨h.chans, h.ordered, fun ev hev m hm => by have := (h.range ev hev m hm).1; omega,
    fun ev hev m hm hty => by have := h.sigPos ev hev m hm hty; exact ⟨this.1, this.2.1⟩⟩


theorem lastCap_pos (c : Cfg) (C : Int) (bars : List BarEv) (hC : 0 < C) (hok : BarsOk c C bars) :
    0 < lastCap c C bars := by
  induction bars generalizing C with
  | nil => exact hC
  | cons b bs ih => exact ih _ hok.1.lenPos hok.2

theorem chunkLen_dropLast (c : Cfg) (C : Int) (bars : List BarEv) (hne : bars ≠ []) :
    chunkLen c bars = chunkLen c bars.dropLast + lastCap c C bars := by
  induction bars generalizing C with
  | nil => exact absurd rfl hne
  | cons b bs ih =>
    cases bs with
    | nil => simp [chunkLen, lastCap]
    | cons b2 bs2 =>
      have := ih (barLen c b) (by simp)
      simp only [List.dropLast_cons_cons, chunkLen, lastCap] at this ⊢
      omega

theorem lastHead_zero (evs : List (Int × Pairing)) (hne : ∀ ev ∈ evs, ev.2 ≠ []) : lastHead evs 0 = lastOnset evs := by
  unfold lastOnset
  cases hl : evs.getLast? with
  | none =>
    rw [List.getLast?_eq_none_iff] at hl
    subst hl
    rfl
  | some last =>
    rcases h2 : last.2 with _ | ⟨m, restP⟩
    · exact absurd h2 (hne last (List.mem_of_getLast? hl))
    · rw [lastHead_getLast _ hl (by rw [h2]; rfl)]
      simp only [onsetOf, h2]

theorem fold_pos (c : Cfg) (a : Int) (evs : List (Int × Pairing)) (L : Int) (h : LaidOk c L evs)
    (k : Clock) (Lg : List Emit) (hI : FoldInv a (k, Lg)) (hk : k.cur = a) :
    (evs.foldl (specEvent c a) (k, Lg)).1.cur = a + lastOnset evs := by
  rw [fold_last c a a evs _ hI (fun e he m hm => by have := (h.range e he m hm).1; simp only; omega) h.ordered
    (fun e he m hm hty => (h.sigPos e he m hm hty).2.2) h.nonempty, ← lastHead_zero evs h.nonempty,
    show (k, Lg).1.cur - a = 0 by simp only; omega]
  omega

/-- **closing the bar in progress.**  A clock `D` ticks before a bar line of bars of length `ℓ` (advancing it by `D`
    gives the line clock): closing its bar moves it to that line if the line is less than a bar away, and not as far
    as the line otherwise; a clock a whole bar before the line is on a bar line itself and stays. -/
theorem closeBar_cur (k : Clock) (Lg : List Emit) (ℓ D : Int) (hg : Good k) (hD : 0 ≤ D)
    (hlag : (upTo (k.cur + D) (k, Lg)).1 = lineClock (k.cur + D) ℓ) :
    let r := (closeBar (k, Lg)).1
    r.bar = 0 ∧ r.capRem = ℓ ∧ r.capTotal = ℓ
      ∧ (D < ℓ → r.cur = k.cur + D)
      ∧ (ℓ ≤ D → r.cur < k.cur + D)
      ∧ (D = ℓ → r.cur = k.cur) := by
  dsimp only
  have hT : k.capTotal = ℓ := by
    have := (upTo_good (k.cur + D) (k, Lg) hg (by simp only; omega)).2.1
    rw [hlag] at this
    exact this.symm
  have hline : 0 < D → D ≤ ℓ → k.capRem = D := fun h0 h1 => by
    have := upTo_line_inv (k, Lg) hg (k.cur + D) (by simp only; omega) (by simp only; omega) (by rw [hlag]; rfl)
    simp only at this; omega
  have hzero : D = 0 → k.bar = 0 := by
    intro h
    rw [h, Int.add_zero, upTo_stay (k, Lg) (Int.le_refl _)] at hlag
    simp only at hlag
    rw [hlag]; rfl
  obtain ⟨⟨s1, s2, s3⟩, hfull⟩ := hg
  by_cases hfire : k.bar > 0
  · rw [closeBar_fire _ hfire s1, upTo_full _ s1]
    have h0 : 0 < D := by have := mt hzero (by omega); omega
    refine ⟨rfl, hT, hT, fun h => ?_, fun h => ?_, fun h => ?_⟩
    · have := hline h0 (by omega)
      simp only; omega
    · simp only; omega
    · have := hline (by omega) (by omega)
      omega
  · rw [closeBar_idle (k, Lg) (fun h => hfire h.1)]
    refine ⟨by simp only; omega, by simp only; omega, hT, fun h => ?_, fun h => ?_, fun h => ?_⟩
    · by_cases h0 : D = 0
      · simp only; omega
      · have := hline (by omega) (by omega)
        omega
    · simp only; omega
    · rfl

/-- **the end of a call on whole bars, on the specification clock**: from a bar line of bars of length `C`,
    the clock ends on a bar line of the last bar's length; it ends at `start + Σ barLen` exactly when the chunk
    is not in the D19 class; and in the D19 class proper (last onset on the last bar's line) it ends on that line.
    The log, moved to `start + Σ barLen`, is `gridLog`. -/
theorem chunk_specLog (c : Cfg) (st : TokSt) (bars : List BarEv)
    (hbar : st.curTimeBar = 0) (hrem : st.capRem = c.capacity st.tsNum st.tsDen) (hC : 0 < c.capacity st.tsNum st.tsDen)
    (hok : BarsOk c (c.capacity st.tsNum st.tsDen) bars) :
    let r := specLog c st (layBars c bars)
    r.1.bar = 0
      ∧ r.1.capRem = lastCap c (c.capacity st.tsNum st.tsDen) bars
      ∧ r.1.capTotal = lastCap c (c.capacity st.tsNum st.tsDen) bars
      ∧ (¬ Stalls c bars → r.1.cur = st.curTime + chunkLen c bars)
      ∧ (Stalls c bars → r.1.cur < st.curTime + chunkLen c bars)
      ∧ (bars ≠ [] → lastOnset (layBars c bars) = chunkLen c bars.dropLast →
          r.1.cur = st.curTime + chunkLen c bars.dropLast)
      ∧ (upTo (st.curTime + chunkLen c bars) r).2 = gridLog c st.curTime bars := by
  dsimp only
  have hk0 : clockOf st (c.capacity st.tsNum st.tsDen) = lineClock st.curTime (c.capacity st.tsNum st.tsDen) := by
    simp only [clockOf, lineClock, hbar, hrem]
  have hlaid := layBars_ok c _ bars hok
  have hg0 := lineClock_good st.curTime _ hC
  obtain ⟨f1, f2, f3⟩ := bars_fold c bars _ hok st.curTime (lineClock st.curTime _) [] [] hg0 (Int.le_refl _)
    (upTo_stay _ (Int.le_refl _))
  have f4 := fold_pos c st.curTime (layBars c bars) _ hlaid (lineClock st.curTime (c.capacity st.tsNum st.tsDen)) []
    ⟨hg0.1, Int.le_refl _, by simp, fun _ => Or.inl rfl, List.Pairwise.nil⟩ rfl
  have hℓ := lastCap_pos c _ bars hC hok
  rw [specLog_eq, hk0]
  generalize (layBars c bars).foldl (specEvent c st.curTime) (lineClock st.curTime (c.capacity st.tsNum st.tsDen), []) = kl
    at f1 f2 f3 f4
  obtain ⟨k, Lg⟩ := kl
  simp only at f1 f2 f4
  generalize hℓdef : lastCap c (c.capacity st.tsNum st.tsDen) bars = ℓ at f3 hℓ ⊢
  generalize hq : lastOnset (layBars c bars) = q at *
  have e1 : chunkLen c bars - q = st.curTime + chunkLen c bars - k.cur := by omega
  have e2 : k.cur + (st.curTime + chunkLen c bars - k.cur) = st.curTime + chunkLen c bars := by omega
  obtain ⟨F1, F2, F3, F4, F5, F6⟩ := closeBar_cur k Lg ℓ (chunkLen c bars - q) f1 (by omega)
    (by rw [show k.cur + (chunkLen c bars - q) = st.curTime + chunkLen c bars by omega, f3])
  have hnil : bars = [] → chunkLen c bars = 0 ∧ q = 0 := by
    intro h; subst h; exact ⟨rfl, by rw [← hq]; rfl⟩
  refine ⟨F1, F2, F3, ?_, ?_, ?_, ?_⟩
  · intro hns
    by_cases hne : bars = []
    · obtain ⟨hL0, hq0⟩ := hnil hne
      rw [F4 (by omega)]; omega
    · have hS := chunkLen_dropLast c (c.capacity st.tsNum st.tsDen) bars hne
      have hq2 : chunkLen c bars.dropLast < q := by
        refine Decidable.byContradiction fun hn => hns ⟨hne, by omega⟩
      rw [F4 (by omega)]; omega
  · intro hst
    have hS := chunkLen_dropLast c (c.capacity st.tsNum st.tsDen) bars hst.1
    have := F5 (by have := hst.2; omega)
    omega
  · intro hne hS0
    have hS := chunkLen_dropLast c (c.capacity st.tsNum st.tsDen) bars hne
    rw [F6 (by omega)]; omega
  · rw [upTo_closeBar (k, Lg) f1.1 _ ?_, f3, List.nil_append]
    by_cases h : chunkLen c bars - q < ℓ
    · rw [F4 h]; omega
    · have := F5 (by omega); omega

def isNoteEv (ev : Int × Pairing) : Bool :=
  match ev.2.head? with
  | some m => m.ty == .noteOn
  | none => false

theorem flatMap_noteEmit_filter (c : Cfg) (A : Int) (evs : List (Int × Pairing)) :
    evs.flatMap (noteEmit c A) = (evs.filter isNoteEv).flatMap (noteEmit c A) := by
  induction evs with
  | nil => rfl
  | cons ev evs ih =>
    by_cases h : isNoteEv ev = true
    · rw [List.filter_cons_of_pos h, List.flatMap_cons, List.flatMap_cons, ih]
    · rw [List.filter_cons_of_neg h, List.flatMap_cons, ih]
      have : noteEmit c A ev = [] := by
        apply noteEmit_other
        intro m hm hty
        apply h
        simp only [Option.mem_def] at hm
        simp [isNoteEv, hm, hty]
      rw [this, List.nil_append]

/-- two sequences of bars with the same bar lengths and, bar by bar, the same note events up to their order (the
    merge orders simultaneous events of different tracks by the order in which the tracks first speak, which
    depends on the run of bars merged); they may differ in time signatures that repeat the running one, cap
    messages, and any other event that is not a note -/
def SameNotes (c : Cfg) : List BarEv → List BarEv → Prop
  | [], [] => True
  | b :: bs, b' :: bs' =>
    barLen c b = barLen c b' ∧ (b.evs.filter isNoteEv).Perm (b'.evs.filter isNoteEv) ∧ SameNotes c bs bs'
  | _, _ => False

instance (c : Cfg) : ∀ (x y : List BarEv), Decidable (SameNotes c x y)
  | [], [] => isTrue trivial
  | [], _ :: _ => isFalse (fun h => h)
  | _ :: _, [] => isFalse (fun h => h)
  | b :: bs, b' :: bs' =>
    have := instDecidableSameNotes c bs bs'
    inferInstanceAs (Decidable (barLen c b = barLen c b' ∧ (b.evs.filter isNoteEv).Perm (b'.evs.filter isNoteEv)
      ∧ SameNotes c bs bs'))

theorem gridLog_perm (c : Cfg) (A : Int) (x y : List BarEv) (h : SameNotes c x y) : (gridLog c A x).Perm (gridLog c A y) := by
  induction x generalizing A y with
  | nil =>
    cases y with
    | nil => exact List.Perm.refl _
    | cons _ _ => exact absurd h (fun h => h)
  | cons b bs ih =>
    cases y with
    | nil => exact absurd h (fun h => h)
    | cons b' bs' =>
      obtain ⟨h1, h2, h3⟩ := h
      simp only [gridLog]
      rw [flatMap_noteEmit_filter c A b.evs, flatMap_noteEmit_filter c A b'.evs, h1]
      exact ((h2.flatMap_right _).append (List.Perm.refl _)).append (ih _ _ h3)

/-- a state on a bar line: nothing of the bar is used, and the bar has a positive length -/
structure OnLine (c : Cfg) (st : TokSt) : Prop where
  bar : st.curTimeBar = 0
  rem : st.capRem = c.capacity st.tsNum st.tsDen
  cap : 0 < c.capacity st.tsNum st.tsDen

instance (c : Cfg) (st : TokSt) : Decidable (OnLine c st) :=
  decidable_of_iff (st.curTimeBar = 0 ∧ st.capRem = c.capacity st.tsNum st.tsDen ∧ 0 < c.capacity st.tsNum st.tsDen)
    ⟨fun ⟨a, b, c⟩ => ⟨a, b, c⟩, fun h => ⟨h.bar, h.rem, h.cap⟩⟩

/-- **where a call on whole bars ends**, read on the tokeniser's state.  (`C01.call_end`, Props/C03b, is a different
    statement: the closed form of the specification clock after any call.) -/
theorem call_end (c : Cfg) (hc : CfgOk c) (st st' : TokSt) (bars : List BarEv) (toks : List Tok)
    (hst : OnLine c st) (hok : BarsOk c (c.capacity st.tsNum st.tsDen) bars)
    (h : tokeniseCore c st (layBars c bars) = .ok (toks, st')) :
    OnLine c st' ∧ c.capacity st'.tsNum st'.tsDen = lastCap c (c.capacity st.tsNum st.tsDen) bars
      ∧ (¬ Stalls c bars → st'.curTime = st.curTime + chunkLen c bars)
      ∧ (Stalls c bars → st'.curTime < st.curTime + chunkLen c bars)
      ∧ (bars ≠ [] → lastOnset (layBars c bars) = chunkLen c bars.dropLast →
          st'.curTime = st.curTime + chunkLen c bars.dropLast) := by
  have hlaid := layBars_ok c _ bars hok
  obtain ⟨E, a1, _, _, _⟩ := core_sim_mono c hc st st' (layBars c bars) toks (by rw [hst.bar]; exact Int.le_refl 0)
    (Or.inr ⟨hst.bar, hst.rem⟩) (hlaid.evsOk st.curTime) h
  obtain ⟨s1, s2, s3, s4, s5, s6, _⟩ := chunk_specLog c st bars hst.bar hst.rem hst.cap hok
  rw [a1] at s1 s2 s3 s4 s5 s6
  simp only [clockOf] at s1 s2 s3 s4 s5 s6
  have hℓ := lastCap_pos c _ bars hst.cap hok
  exact ⟨⟨s1, by omega, by omega⟩, s3, s4, s5, s6⟩

theorem shiftEvs_nil (s : Int) : shiftEvs s [] = [] := rfl

theorem layBars_append (c : Cfg) (x y : List BarEv) :
    layBars c (x ++ y) = layBars c x ++ shiftEvs (chunkLen c x) (layBars c y) := by
  induction x with
  | nil => simp [layBars, chunkLen, shiftEvs_zero]
  | cons b xs ih =>
    simp only [List.cons_append, layBars, chunkLen, ih, shiftEvs_append, shiftEvs_shiftEvs, List.append_assoc]
    rw [Int.add_comm]

theorem joinChunks_flatten (c : Cfg) (chunks : List (List BarEv)) :
    joinChunks c chunks = layBars c chunks.flatten := by
  induction chunks with
  | nil => rfl
  | cons ch rest ih => simp only [joinChunks, List.flatten_cons, layBars_append, ih]

theorem barsOk_append (c : Cfg) (C : Int) (x y : List BarEv) (h : BarsOk c C (x ++ y)) :
    BarsOk c C x ∧ BarsOk c (lastCap c C x) y := by
  induction x generalizing C with
  | nil => exact ⟨trivial, h⟩
  | cons b xs ih =>
    obtain ⟨h1, h2⟩ := h
    obtain ⟨i1, i2⟩ := ih _ h2
    exact ⟨⟨h1, i1⟩, i2⟩

/-- **threading the state through whole-bar chunks.**  If no chunk but the last is in the D19 class, the events
    `runChunks` lays out with the implementation's clock are the chunks laid at their cumulative lengths, and the
    single call on them is accepted and returns the concatenated tokens and the last call's state. -/
theorem run_single (c : Cfg) (hc : CfgOk c) (st0 : TokSt) (chunks : List (List BarEv)) :
    ∀ (st st' : TokSt) (toks : List Tok) (whole : List (Int × Pairing)),
      OnLine c st → BarsOk c (c.capacity st.tsNum st.tsDen) chunks.flatten →
      (∀ ch ∈ chunks.dropLast, ¬ Stalls c ch) →
      runChunks c st0 st (chunks.map (layBars c)) = .ok (toks, st', whole) →
      whole = shiftEvs (st.curTime - st0.curTime) (joinChunks c chunks)
        ∧ tokeniseCore c st (joinChunks c chunks) = .ok (toks, st') ∧ OnLine c st' := by
  induction chunks with
  | nil =>
    intro st st' toks whole hst _ _ hrun
    simp only [List.map_nil, runChunks, Except.ok.injEq, Prod.mk.injEq] at hrun
    obtain ⟨rfl, rfl, rfl⟩ := hrun
    exact ⟨rfl, Tokenise.tokeniseCore_nil hc.steps_pos _ hst.bar, hst⟩
  | cons ch rest ih =>
    intro st st' toks whole hst hok hns hrun
    simp only [List.map_cons, runChunks] at hrun
    split at hrun
    · cases hrun
    · rename_i toks1 st1 h1
      split at hrun
      · cases hrun
      · rename_i toks' st2 evs' h2
        simp only [Except.ok.injEq, Prod.mk.injEq] at hrun
        obtain ⟨rfl, rfl, rfl⟩ := hrun
        rw [List.flatten_cons] at hok
        obtain ⟨hok1, hok2⟩ := barsOk_append c _ ch rest.flatten hok
        obtain ⟨e1, e2, e3, _, _⟩ := call_end c hc st st1 ch toks1 hst hok1 h1
        rw [← e2] at hok2
        have hns' : ∀ ch' ∈ rest.dropLast, ¬ Stalls c ch' := by
          intro ch' hch'
          cases rest with
          | nil => simp at hch'
          | cons r rs => exact hns ch' (by rw [List.dropLast_cons_cons]; exact List.mem_cons_of_mem _ hch')
        obtain ⟨i1, i2, i3⟩ := ih st1 st2 toks' evs' e1 hok2 hns' h2
        have hlaid := layBars_ok c _ rest.flatten hok2
        rw [← joinChunks_flatten] at hlaid
        have happ := Tokenise.core_append c hc.steps_pos st st1 st2 (layBars c ch) (joinChunks c rest) toks1 toks' h1 e1.bar
          (fun ev hev m hm => (hlaid.range ev hev m hm).1) i2
        -- the shift by the implementation's clock is the shift by the chunk's length
        have hshift : shiftEvs (st1.curTime - st.curTime) (joinChunks c rest) = shiftEvs (chunkLen c ch) (joinChunks c rest) := by
          cases rest with
          | nil => rfl
          | cons r rs =>
            have := e3 (hns ch (by rw [List.dropLast_cons_cons]; exact List.mem_cons_self))
            rw [this]
            have : st.curTime + chunkLen c ch - st.curTime = chunkLen c ch := by omega
            rw [this]
        rw [hshift] at happ
        refine ⟨?_, happ, i3⟩
        rw [i1]
        simp only [joinChunks, shiftEvs_append]
        rw [← hshift, shiftEvs_shiftEvs]
        have : st1.curTime - st.curTime + (st.curTime - st0.curTime) = st1.curTime - st0.curTime := by omega
        rw [this]

end SCoda.ChunksL
