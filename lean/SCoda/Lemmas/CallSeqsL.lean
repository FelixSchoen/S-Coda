/-
  One call of the tokeniser core from the initial state, read from the *events* it is given: what `detokenise` makes
  of the emitted tokens (`call_seqs`: the returned sequences are time-sorted, bounded by the final clock and the note
  ends, and hold the note events channel by channel with binned velocities).  Nothing here knows where the events come
  from; `Props/C01c` puts in what `extract` makes of valid tracks.
-/
import SCoda.Props.C01
import SCoda.Lemmas.DetokSeqL
namespace SCoda.CallSeqsL
open SCoda SCoda.C01 SCoda.ExtractL

theorem note_nonneg {c : Cfg} {evs : List (Int × Pairing)} (hev : EvsOk c 0 0 evs) :
    ∀ n ∈ evs.filterMap evNote, 0 ≤ n.on ∧ 0 ≤ n.ch := by
  intro n hn
  obtain ⟨ev, he, hen⟩ := List.mem_filterMap.1 hn
  obtain ⟨on, off, h1, rfl⟩ := evNote_some hen
  have := hev.notBefore ev he on (by rw [h1]; rfl)
  exact ⟨by simp only; omega, (hev.chans ev he on (by rw [h1]; rfl)).1⟩

/-- an event list whose tokens the detokeniser turns back into it; `notePos` and `chain` are what its binary insertions need -/
structure CallOk (c : Cfg) (evs : List (Int × Pairing)) : Prop where
  ok : EvsOk c 0 0 evs
  caps : ∀ ev ∈ evs, ∀ m ∈ ev.2.head?, m.ty = .timeSignature → 0 < c.capacity m.num m.den
  shape : Shape evs
  notePos : ∀ n ∈ evs.filterMap evNote, n.on < n.off
  chain : (evs.filterMap evNote).Pairwise (fun a b => (a.ch, a.pitch) = (b.ch, b.pitch) → a.off ≤ b.on)

section
variable (c : Cfg) (hc : CfgOk c) (evs : List (Int × Pairing)) (hok : CallOk c evs)
  (toks : List Tok) (st' : TokSt) (h : tokeniseCore c (TokSt.init c) evs = .ok (toks, st'))
include hc hok h

theorem call_log :
    ∃ d log, dfold c (DetokSt.init c) toks = .ok (d, log) ∧ detokenise c toks = .ok d.seqs
      ∧ d.seqs = log.foldl applyEmit (List.replicate c.numTracks [])
      ∧ log.filter notTsig = (specLog c (TokSt.init c) evs).2
      ∧ logNotes log = (evs.filterMap evNote).map (binShift c 0)
      ∧ LogOk log
      ∧ d.curTime = (specLog c (TokSt.init c) evs).1.cur
      ∧ InBar.Mono c (DetokSt.init c) toks := by
  obtain ⟨E, a1, _, _, a5⟩ := core_sim_mono c hc (TokSt.init c) st' _ toks (Int.le_refl 0) (Or.inr ⟨rfl, rfl⟩) hok.ok h
  obtain ⟨d, log, hdf, hrel, hlogE, hmono⟩ := a5 (DetokSt.init c) (relD_init c)
  have hlog : log.filter notTsig = (specLog c (TokSt.init c) evs).2 := by rw [a1]; exact hlogE
  obtain ⟨hdet, hseqs⟩ := dfold_detokenise c toks d log hdf
  have hNL : logNotes log = (evs.filterMap evNote).map (binShift c 0) := by
    rw [← logNotes_filter, hlog]
    exact specLog_notes c hc _ hok.ok hok.caps hok.shape
  refine ⟨d, log, hdf, hdet, hseqs, hlog, hNL, ⟨?_, ?_⟩, by rw [a1, hrel.cur]; rfl, hmono⟩
  · rw [hNL, List.pairwise_map]
    refine hok.chain.imp_of_mem ?_
    intro a b ha hb hab h1 h2
    have ha0 := (note_nonneg hok.ok a ha).2
    have hb0 := (note_nonneg hok.ok b hb).2
    simp only [binShift] at h1 h2 ⊢
    have := hab (by rw [Prod.mk.injEq]; exact ⟨by omega, h2⟩)
    omega
  · intro n hn'
    rw [hNL, List.mem_map] at hn'
    obtain ⟨a, ha, rfl⟩ := hn'
    have := hok.notePos a ha
    simp only [binShift]; omega

theorem call_seqs :
    ∃ seqs, detokenise c toks = .ok seqs ∧ seqs.length = c.numTracks ∧
      ∀ (i : Nat) (s : List Msg), seqs[i]? = some s →
        MergeL.Sorted s
        ∧ (∀ m ∈ s, 0 ≤ m.time ∧
            (m.time ≤ (specLog c (TokSt.init c) evs).1.cur ∨ ∃ n ∈ evs.filterMap evNote, m.time ≤ n.off))
        ∧ (0 < (specLog c (TokSt.init c) evs).1.cur → ∃ m ∈ s, m.time = (specLog c (TokSt.init c) evs).1.cur)
        ∧ (notesOf (eventsAbs s)).Perm
            (((evs.filterMap evNote).filter (fun n => n.ch == (i : Int))).map
              ((fun n : Note => { n with ch := 0 }) ∘ binShift c 0)) := by
  obtain ⟨d, log, hdf, hdet, hseqs, hlog, hNL, hlok, hcur, hmono⟩ := call_log c hc evs hok toks st' h
  have hcap0 := hc.defCap_pos
  obtain ⟨_, hbe, hlast, _⟩ := specLog_inv c (TokSt.init c) evs hcap0 (Int.le_refl 0) hcap0 hok.caps
  obtain ⟨_, htsig⟩ := InBar.mono_tsig c toks (DetokSt.init c) d log hmono hdf
  rw [hcur] at htsig
  have h0 : (TokSt.init c).curTime = 0 := rfl
  have h0' : (DetokSt.init c).curTime = 0 := rfl
  rw [h0] at hbe hlast
  rw [h0'] at htsig
  -- the clock reading is only compared with ticks from here on
  generalize (specLog c (TokSt.init c) evs).1.cur = K at hbe hlast htsig ⊢
  have hon := note_nonneg hok.ok
  obtain ⟨hlen, hinv⟩ := seqs_inv c.numTracks log hlok
  refine ⟨d.seqs, hdet, by rw [hseqs]; exact hlen, ?_⟩
  intro i s hs
  rw [hseqs] at hs
  obtain ⟨hsrc, hbar⟩ := seq_mem c.numTracks log i s hs
  refine ⟨(hinv i s hs).1, ?_, ?_, ?_⟩
  · intro m hm
    obtain ⟨e, he, hme⟩ := hsrc m hm
    cases e with
    | barEnd t =>
      have hb := hbe t (by rw [← hlog]; exact List.mem_filter.2 ⟨he, rfl⟩)
      simp only [emitAll, List.mem_cons, List.not_mem_nil, or_false] at hme
      subst hme
      simp only [Msg.mkInternal]; omega
    | tsig t a b =>
      have hb := htsig t a b he
      simp only [emitAll, List.mem_cons, List.not_mem_nil, or_false] at hme
      subst hme
      simp only [Msg.mkTimeSig]; omega
    | note trk p v on off =>
      have hn' : ({ ch := trk, pitch := p, on := on, off := off, vel := v } : Note) ∈ logNotes log := by
        simp only [logNotes, List.mem_filterMap]
        exact ⟨_, he, rfl⟩
      rw [hNL, List.mem_map] at hn'
      obtain ⟨a, ha, hab⟩ := hn'
      have hb1 := (hon a ha).1
      have hdur := hok.notePos a ha
      simp only [binShift, Note.mk.injEq] at hab
      obtain ⟨_, _, e3, e4, _⟩ := hab
      simp only [emitAll, List.mem_cons, List.not_mem_nil, or_false] at hme
      rcases hme with rfl | rfl
      · exact ⟨by simp only [Msg.mkOn]; omega, Or.inr ⟨a, ha, by simp only [Msg.mkOn]; omega⟩⟩
      · exact ⟨by simp only [Msg.mkOff]; omega, Or.inr ⟨a, ha, by simp only [Msg.mkOff]; omega⟩⟩
  · intro hpos'
    have hin := hlast hpos'
    rw [← hlog] at hin
    exact ⟨_, hbar _ (List.mem_filter.1 hin).1, rfl⟩
  · refine (seq_notes c.numTracks log hlok i s hs).trans ?_
    rw [trkNotes_eq, hNL, List.filter_map, List.map_map]
    have hfil : (evs.filterMap evNote).filter ((fun n => n.ch.toNat == i) ∘ binShift c 0)
        = (evs.filterMap evNote).filter (fun n => n.ch == (i : Int)) := by
      apply List.filter_congr
      intro n hn'
      have h0 := (hon n hn').2
      show ((binShift c 0 n).ch.toNat == i) = (n.ch == (i : Int))
      have hch : (binShift c 0 n).ch = n.ch := rfl
      rw [hch, Bool.eq_iff_iff, beq_iff_eq, beq_iff_eq]
      omega
    rw [hfil]

end

end SCoda.CallSeqsL
