/-
  The input-level bar grid and the change queues (for `Props/Strong589B.lean`: audit item A6, parts (b) and (d),
  property C09): the control side of `sequences_split_bars` (the track side is `Lemmas/SplitBarsTotal.lean`).
  The change queues are followed against any monotone grid of round starts: one look-up delivers the `lagCount`-th event,
  with no hypothesis; an aligned queue with pairwise distinct ticks has no lag, so the value is the one in force.  The
  schedule of the loop (`SB.ctl`) is then read along any grid on which the signature events lie (`ctl_on`), in particular
  the input-level one.  Last, what the evaluated witnesses of the `Props` files read a result with (`outOf`, `isOk` …).
-/
import SCoda.Props.C09Spec
import SCoda.Lemmas.SplitBarsQ
namespace SCoda.Strong589LB
open SCoda SCoda.SplitL SCoda.SB SCoda.BarL

/-! ### spec definitions (independent of the loop: they read the signature events only) -/

def gridStep (ppqn : Int) (sigs : List Msg) (s : Int) : Int :=
  s + barCapacity ppqn (C09.sigInForce sigs s).1 (C09.sigInForce sigs s).2

/-- start tick of bar `k` of the grid induced by the (timed) signature events `sigs` alone; 4/4 before any signature -/
def gridStart (ppqn : Int) (sigs : List Msg) : Nat → Int
  | 0 => 0
  | k + 1 => gridStep ppqn sigs (gridStart ppqn sigs k)

def OnGrid (ppqn : Int) (sigs : List Msg) (t : Int) : Prop := ∃ k, t = gridStart ppqn sigs k

/-- **input-level alignment**: every signature tick and every key tick is a bar start of the grid induced by the
    signatures.  No bound on the bar index (a change on the final boundary or beyond is allowed) and no
    distinctness (two changes on one bar start are not excluded). -/
def AlignedIn (ppqn : Int) (sigs keys : List Msg) : Prop :=
  (∀ m ∈ sigs, OnGrid ppqn sigs m.time) ∧ (∀ m ∈ keys, OnGrid ppqn sigs m.time)

/-- the ticks of the events are pairwise distinct (the events are time-ordered, so: strictly increasing) -/
def DistinctTicks (q : List Msg) : Prop := q.Pairwise (fun a b => a.time < b.time)

instance (q : List Msg) : Decidable (DistinctTicks q) := by unfold DistinctTicks; infer_instance

def NonNegBars (ppqn : Int) (sigs : List Msg) : Prop :=
  0 ≤ barCapacity ppqn 4 4 ∧ ∀ m ∈ sigs, 0 ≤ barCapacity ppqn m.num m.den

instance (ppqn : Int) (sigs : List Msg) : Decidable (NonNegBars ppqn sigs) := by unfold NonNegBars; infer_instance

def PosBars (ppqn : Int) (sigs : List Msg) : Prop :=
  0 < barCapacity ppqn 4 4 ∧ ∀ m ∈ sigs, 0 < barCapacity ppqn m.num m.den

instance (ppqn : Int) (sigs : List Msg) : Decidable (PosBars ppqn sigs) := by unfold PosBars; infer_instance

/-- bounded search along the grid: is `t` one of the next `fuel` bar starts from `s` on?  (stops as soon as the
    grid has passed `t`) -/
def onGridB (ppqn : Int) (sigs : List Msg) : Nat → Int → Int → Bool
  | 0, _, _ => false
  | fuel + 1, s, t => if s = t then true else if t < s then false else onGridB ppqn sigs fuel (gridStep ppqn sigs s) t

/-- decidable variant of `AlignedIn`: the search for the bar index of a change at tick `t` is bounded by `t + 1` steps
    (enough whenever all bar lengths are positive) -/
def AlignedInB (ppqn : Int) (sigs keys : List Msg) : Bool :=
  (sigs ++ keys).all (fun m => onGridB ppqn sigs (m.time.toNat + 1) 0 m.time)

theorem gridStart_succ (ppqn : Int) (sigs : List Msg) (k : Nat) :
    gridStart ppqn sigs (k + 1) = gridStart ppqn sigs k
      + barCapacity ppqn (C09.sigInForce sigs (gridStart ppqn sigs k)).1 (C09.sigInForce sigs (gridStart ppqn sigs k)).2 := rfl

theorem onGridB_sound (ppqn : Int) (sigs : List Msg) : ∀ (fuel k : Nat) (t : Int),
    onGridB ppqn sigs fuel (gridStart ppqn sigs k) t = true → OnGrid ppqn sigs t := by
  intro fuel
  induction fuel with
  | zero => intro k t h; simp [onGridB] at h
  | succ fuel ih =>
    intro k t h
    simp only [onGridB] at h
    split at h
    · rename_i he; exact ⟨k, he.symm⟩
    · split at h
      · cases h
      · exact ih (k + 1) t h

theorem alignedIn_of_B (ppqn : Int) (sigs keys : List Msg) (h : AlignedInB ppqn sigs keys = true) :
    AlignedIn ppqn sigs keys := by
  unfold AlignedInB at h
  rw [List.all_eq_true] at h
  exact ⟨fun m hm => onGridB_sound ppqn sigs _ 0 _ (h m (List.mem_append_left _ hm)),
    fun m hm => onGridB_sound ppqn sigs _ 0 _ (h m (List.mem_append_right _ hm))⟩

theorem sigInForce_of (P : Int × Int → Prop) (sigs : List Msg) (h0 : P (4, 4)) (h : ∀ m ∈ sigs, P (m.num, m.den))
    (t : Int) : P (C09.sigInForce sigs t) := by
  unfold C09.sigInForce
  cases hl : (sigs.filter (fun m => decide (m.time ≤ t))).getLast? with
  | none => exact h0
  | some m => exact h m (List.mem_filter.1 (List.mem_of_getLast? hl)).1

theorem sigInForce_cap_nonneg (ppqn : Int) (sigs : List Msg) (h : NonNegBars ppqn sigs) (t : Int) :
    0 ≤ barCapacity ppqn (C09.sigInForce sigs t).1 (C09.sigInForce sigs t).2 :=
  sigInForce_of (fun x => 0 ≤ barCapacity ppqn x.1 x.2) sigs h.1 h.2 t

theorem sigInForce_cap_pos (ppqn : Int) (sigs : List Msg) (h : PosBars ppqn sigs) (t : Int) :
    0 < barCapacity ppqn (C09.sigInForce sigs t).1 (C09.sigInForce sigs t).2 :=
  sigInForce_of (fun x => 0 < barCapacity ppqn x.1 x.2) sigs h.1 h.2 t

theorem PosBars.nonneg {ppqn : Int} {sigs : List Msg} (h : PosBars ppqn sigs) : NonNegBars ppqn sigs :=
  ⟨Int.le_of_lt h.1, fun m hm => Int.le_of_lt (h.2 m hm)⟩

theorem gridStart_step_le (ppqn : Int) (sigs : List Msg) (h : NonNegBars ppqn sigs) (k : Nat) :
    gridStart ppqn sigs k ≤ gridStart ppqn sigs (k + 1) := by
  rw [gridStart_succ]
  have := sigInForce_cap_nonneg ppqn sigs h (gridStart ppqn sigs k)
  omega

theorem mono_of_step (G : Nat → Int) (h : ∀ k, G k ≤ G (k + 1)) : ∀ i j, i ≤ j → G i ≤ G j := by
  intro i j hij
  induction j with
  | zero =>
    have : i = 0 := by omega
    subst this; exact Int.le_refl _
  | succ j ih =>
    rcases Nat.lt_or_ge i (j + 1) with h1 | h1
    · have := ih (by omega)
      have := h j
      omega
    · have : i = j + 1 := by omega
      subst this; exact Int.le_refl _

theorem grid_next (G : Nat → Int) (h : ∀ k, G k ≤ G (k + 1)) (k j : Nat) (hlt : G k < G j) : G (k + 1) ≤ G j := by
  rcases Nat.lt_or_ge k j with h1 | h1
  · exact mono_of_step G h (k + 1) j h1
  · have := mono_of_step G h j k h1
    omega

theorem gridStart_mono (ppqn : Int) (sigs : List Msg) (h : NonNegBars ppqn sigs) (i j : Nat) (hij : i ≤ j) :
    gridStart ppqn sigs i ≤ gridStart ppqn sigs j :=
  mono_of_step _ (gridStart_step_le ppqn sigs h) i j hij

/-- with positive bar lengths the bounded search is complete: a grid point `t = gridStart j` at or after the current
    bar `k` is found within `t - gridStart k + 1` steps -/
theorem onGridB_complete (ppqn : Int) (sigs : List Msg) (hpos : PosBars ppqn sigs) : ∀ (fuel k j : Nat),
    k ≤ j → (gridStart ppqn sigs j - gridStart ppqn sigs k).toNat < fuel →
    onGridB ppqn sigs fuel (gridStart ppqn sigs k) (gridStart ppqn sigs j) = true := by
  intro fuel
  induction fuel with
  | zero => intro k j _ h; omega
  | succ fuel ih =>
    intro k j hkj hf
    simp only [onGridB]
    split
    · rfl
    · rename_i hne
      have hkj' : k + 1 ≤ j := by
        rcases Nat.lt_or_ge k j with h | h
        · exact h
        · have : k = j := by omega
          subst this; exact absurd rfl hne
      have hm := gridStart_mono ppqn sigs hpos.nonneg (k + 1) j hkj'
      have hs : gridStart ppqn sigs k < gridStart ppqn sigs (k + 1) := by
        rw [gridStart_succ]
        have := sigInForce_cap_pos ppqn sigs hpos (gridStart ppqn sigs k)
        omega
      rw [if_neg (by omega)]
      exact ih (k + 1) j hkj' (by omega)

theorem alignedInB_iff (ppqn : Int) (sigs keys : List Msg) (hpos : PosBars ppqn sigs) :
    AlignedInB ppqn sigs keys = true ↔ AlignedIn ppqn sigs keys := by
  refine ⟨alignedIn_of_B ppqn sigs keys, ?_⟩
  rintro ⟨h1, h2⟩
  unfold AlignedInB
  rw [List.all_eq_true]
  intro m hm
  obtain ⟨j, hj⟩ : OnGrid ppqn sigs m.time := by
    rcases List.mem_append.1 hm with hm | hm
    · exact h1 m hm
    · exact h2 m hm
  rw [hj]
  exact onGridB_complete ppqn sigs hpos _ 0 j (Nat.zero_le _) (by simp [gridStart])

/-- the value in force at tick `t` according to the change events `q`, `cur0` before any -/
def inForce {α} (val : Msg → α) (cur0 : α) (q : List Msg) (t : Int) : α :=
  match (q.filter (fun m => decide (m.time ≤ t))).getLast? with
  | some m => val m
  | Option.none => cur0

/-! ## What the key queue does *without* any hypothesis on the key events (audit item A6(d), "two changes on one bar
    start").
    The queue is popped at most once per bar, so the key carried by bar `k` is the `lagCount k`-th key event, where
    `lagCount k = min (lagCount (k-1) + 1) (number of key events at or before gridStart k)`.
-/

/-- how many of the change events `q` have happened at or before tick `t` -/
def dueCount (q : List Msg) (t : Int) : Nat := (q.filter (fun m => decide (m.time ≤ t))).length

/-- how many change events have been delivered once bar `k` has had its turn, when at most one is delivered per bar -/
def lagCount (q : List Msg) (G : Nat → Int) : Nat → Nat
  | 0 => min 1 (dueCount q (G 0))
  | k + 1 => min (lagCount q G k + 1) (dueCount q (G (k + 1)))

/-- how many have been delivered *before* bar `k` -/
def lagBefore (q : List Msg) (G : Nat → Int) : Nat → Nat
  | 0 => 0
  | k + 1 => lagCount q G k

/-- the value after `c` deliveries: that of the `c`-th event, `cur0` before any -/
def valAt {α} (val : Msg → α) (cur0 : α) (q : List Msg) : Nat → α
  | 0 => cur0
  | c + 1 => match q[c]? with | some m => val m | Option.none => cur0

theorem lagCount_eq (q : List Msg) (G : Nat → Int) (k : Nat) :
    lagCount q G k = min (lagBefore q G k + 1) (dueCount q (G k)) := by
  cases k <;> rfl

theorem dueCount_cons (x : Msg) (xs : List Msg) (t : Int) :
    dueCount (x :: xs) t = (if x.time ≤ t then 1 else 0) + dueCount xs t := by
  unfold dueCount
  rw [List.filter_cons]
  by_cases h : x.time ≤ t
  · simp [h]; omega
  · simp [h]

theorem dueCount_mono (q : List Msg) (t t' : Int) (h : t ≤ t') : dueCount q t ≤ dueCount q t' := by
  induction q with
  | nil => simp [dueCount]
  | cons x xs ih =>
    rw [dueCount_cons, dueCount_cons]
    by_cases h1 : x.time ≤ t
    · have : x.time ≤ t' := by omega
      simp [h1, this]; exact ih
    · simp only [h1, if_false]
      split <;> omega

theorem dueCount_le_length (q : List Msg) (t : Int) : dueCount q t ≤ q.length := List.length_filter_le _ _

theorem filter_le_eq_take (l : List Msg) (hs : MergeL.Sorted l) (t : Int) :
    l.filter (fun m => decide (m.time ≤ t)) = l.take (dueCount l t) := by
  induction l with
  | nil => rfl
  | cons x xs ih =>
    have hx : ∀ y ∈ xs, x.time ≤ y.time := (List.pairwise_cons.1 hs).1
    have hs' : MergeL.Sorted xs := (List.pairwise_cons.1 hs).2
    rw [dueCount_cons]
    by_cases h1 : x.time ≤ t
    · rw [List.filter_cons, if_pos (by simpa using h1), if_pos h1, Nat.add_comm, List.take_succ_cons, ih hs']
    · have hnil : xs.filter (fun m => decide (m.time ≤ t)) = [] :=
        filter_le_eq_nil xs t (fun y hy => by have := hx y hy; omega)
      have h0 : dueCount xs t = 0 := by unfold dueCount; rw [hnil]; rfl
      rw [List.filter_cons, if_neg (by simpa using h1), if_neg h1, hnil, h0]
      rfl

theorem due_iff (l : List Msg) (hs : MergeL.Sorted l) (t : Int) (c : Nat) (m : Msg) (hc : l[c]? = some m) :
    m.time ≤ t ↔ c < dueCount l t := by
  have hf := filter_le_eq_take l hs t
  have hin : ∀ x ∈ l.take (dueCount l t), x.time ≤ t := by
    intro x hx
    rw [← hf] at hx
    exact of_decide_eq_true (List.mem_filter.1 hx).2
  constructor
  · intro hm
    rcases Nat.lt_or_ge c (dueCount l t) with h | h
    · exact h
    · -- the events after the first `dueCount` ones are not due
      have h2 : l.filter (fun m => decide (m.time ≤ t))
          = (l.take (dueCount l t)).filter (fun m => decide (m.time ≤ t))
            ++ (l.drop (dueCount l t)).filter (fun m => decide (m.time ≤ t)) := by
        rw [← List.filter_append, List.take_append_drop]
      rw [hf, List.filter_eq_self.2 (fun x hx => decide_eq_true (hin x hx))] at h2
      have hmd : m ∈ l.drop (dueCount l t) := List.mem_of_getElem? (i := c - dueCount l t) (by
        rw [List.getElem?_drop, show dueCount l t + (c - dueCount l t) = c by omega]; exact hc)
      have := List.filter_eq_nil_iff.1 (List.self_eq_append_right.1 h2) m hmd
      exact absurd (decide_eq_true hm) this
  · intro h
    exact hin m (List.mem_of_getElem? (i := c) (by rw [List.getElem?_take_of_lt h]; exact hc))

/-- state of a change queue before round `k`, with no hypothesis on distinctness or alignment -/
structure LInv {α} (val : Msg → α) (cur0 : α) (G : Nat → Int) (q0 : List Msg) (k : Nat) (cur : α) (q : List Msg) : Prop where
  parts : ∃ done, q0 = done ++ q ∧ done.length = lagBefore q0 G k
  cur_eq : cur = valAt val cur0 q0 (lagBefore q0 G k)

theorem lagBefore_le_due (q0 : List Msg) (G : Nat → Int) (hG : ∀ k, G k ≤ G (k + 1)) (k : Nat) :
    lagBefore q0 G k ≤ dueCount q0 (G k) := by
  cases k with
  | zero => exact Nat.zero_le _
  | succ k =>
    show lagCount q0 G k ≤ _
    rw [lagCount_eq]
    have := dueCount_mono q0 (G k) (G (k + 1)) (hG k)
    omega

/-- **one look-up**: round `k` delivers the `lagCount k`-th event (the field `cur_eq` of the new state:
    `lagBefore (k + 1)` is `lagCount k`) -/
theorem lstep {α} (val : Msg → α) (cur0 : α) (G : Nat → Int) (hG : ∀ k, G k ≤ G (k + 1)) (q0 : List Msg)
    (hs : MergeL.Sorted q0) (k : Nat) (cur : α) (q : List Msg) (h : LInv val cur0 G q0 k cur q) :
    LInv val cur0 G q0 (k + 1) (nextQ val (G k) cur q).1 (nextQ val (G k) cur q).2 := by
  obtain ⟨⟨done, hsplit, hlen⟩, hcur⟩ := h
  have hle := lagBefore_le_due q0 G hG k
  have hlag := lagCount_eq q0 G k
  have mk : ∀ (done' : List Msg) (cur' : α) (q' : List Msg), q0 = done' ++ q' → done'.length = lagCount q0 G k →
      cur' = valAt val cur0 q0 (lagCount q0 G k) → LInv val cur0 G q0 (k + 1) cur' q' :=
    fun d _ _ h1 h2 h3 => ⟨⟨d, h1, h2⟩, h3⟩
  cases q with
  | nil =>
    simp only [List.append_nil] at hsplit
    subst hsplit
    have hdl := dueCount_le_length q0 (G k)
    have hc : lagCount q0 G k = lagBefore q0 G k := by omega
    exact mk q0 cur [] (by simp) (by omega) (by rw [hc]; exact hcur)
  | cons m rest =>
    have hm : q0[lagBefore q0 G k]? = some m := by
      have : q0[done.length]? = some m := by
        rw [hsplit, List.getElem?_append_right (Nat.le_refl _)]
        simp
      rw [hlen] at this
      exact this
    have hdue := due_iff q0 hs (G k) _ m hm
    by_cases hd : m.time ≤ G k
    · have hq : nextQ val (G k) cur (m :: rest) = (val m, rest) := by simp [nextQ, hd]
      have hc : lagCount q0 G k = lagBefore q0 G k + 1 := by
        have := hdue.1 hd
        omega
      rw [hq]
      exact mk (done ++ [m]) (val m) rest (by simp [hsplit]) (by simp [hlen, hc]) (by rw [hc]; simp only [valAt, hm])
    · have hq : nextQ val (G k) cur (m :: rest) = (cur, m :: rest) := by simp [nextQ, hd]
      have hc : lagCount q0 G k = lagBefore q0 G k := by
        have : ¬ lagBefore q0 G k < dueCount q0 (G k) := fun h' => hd (hdue.2 h')
        omega
      rw [hq]
      exact mk done cur (m :: rest) hsplit (by omega) (by rw [hc]; exact hcur)

theorem linv_init {α} (val : Msg → α) (cur0 : α) (G : Nat → Int) (q0 : List Msg) : LInv val cur0 G q0 0 cur0 q0 :=
  ⟨⟨[], by simp, rfl⟩, rfl⟩

theorem valAt_due (val : Msg → α) (cur0 : α) (q : List Msg) (hs : MergeL.Sorted q) (t : Int) :
    valAt val cur0 q (dueCount q t) = inForce val cur0 q t := by
  unfold inForce
  rw [filter_le_eq_take q hs t]
  have hle := dueCount_le_length q t
  cases hc : dueCount q t with
  | zero => simp [valAt]
  | succ c =>
    rw [hc] at hle
    simp only [valAt]
    rw [List.getLast?_eq_getElem?, List.length_take, Nat.min_eq_left hle, Nat.add_sub_cancel,
      List.getElem?_take_of_lt (Nat.lt_succ_self c)]
    all_goals (cases q[c]? <;> rfl)

theorem dueCount_aligned_step (G : Nat → Int) (hG : ∀ k, G k ≤ G (k + 1)) (q0 : List Msg) (hd : DistinctTicks q0)
    (hal : ∀ m ∈ q0, ∃ j, m.time = G j) :
    dueCount q0 (G 0) ≤ 1 ∧ ∀ k, dueCount q0 (G (k + 1)) ≤ dueCount q0 (G k) + 1 := by
  have hs : MergeL.Sorted q0 := hd.imp Int.le_of_lt
  -- two neighbours that are due at `hi` but were not due at any `lo` before it would both sit on `hi`
  have key : ∀ (c : Nat) (hi : Int),
      (∀ m, q0[c]? = some m → m.time ≤ hi → m.time = hi) → (∀ m, q0[c + 1]? = some m → m.time ≤ hi → m.time = hi) →
      ¬ c + 1 < dueCount q0 hi := by
    intro c hi h1 h2 hlt
    have hlen := dueCount_le_length q0 hi
    have hc : c < q0.length := by omega
    have hc1 : c + 1 < q0.length := by omega
    have e1 := h1 _ (List.getElem?_eq_getElem hc) ((due_iff q0 hs hi c _ (List.getElem?_eq_getElem hc)).2 (by omega))
    have e2 := h2 _ (List.getElem?_eq_getElem hc1) ((due_iff q0 hs hi (c + 1) _ (List.getElem?_eq_getElem hc1)).2 hlt)
    have := List.pairwise_iff_getElem.1 hd c (c + 1) hc hc1 (by omega)
    omega
  refine ⟨?_, fun k => ?_⟩
  · have := key 0 (G 0)
      (fun m hm hle => by
        obtain ⟨j, hj⟩ := hal m (List.mem_of_getElem? hm)
        have := mono_of_step G hG 0 j (Nat.zero_le _); omega)
      (fun m hm hle => by
        obtain ⟨j, hj⟩ := hal m (List.mem_of_getElem? hm)
        have := mono_of_step G hG 0 j (Nat.zero_le _); omega)
    omega
  · have hon : ∀ (c : Nat) (m : Msg), dueCount q0 (G k) ≤ c → q0[c]? = some m → m.time ≤ G (k + 1) → m.time = G (k + 1) := by
      intro c m hc hm hle
      have hgt : G k < m.time := by
        have := (due_iff q0 hs (G k) c m hm).1
        omega
      obtain ⟨j, hj⟩ := hal m (List.mem_of_getElem? hm)
      have := grid_next G hG k j (by omega)
      omega
    have := key (dueCount q0 (G k)) (G (k + 1))
      (fun m hm => hon _ m (Nat.le_refl _) hm) (fun m hm => hon _ m (Nat.le_succ _) hm)
    omega

theorem lagCount_aligned (G : Nat → Int) (hG : ∀ k, G k ≤ G (k + 1)) (q0 : List Msg) (hd : DistinctTicks q0)
    (hal : ∀ m ∈ q0, ∃ j, m.time = G j) : ∀ k, lagCount q0 G k = dueCount q0 (G k) := by
  obtain ⟨h0, hstep⟩ := dueCount_aligned_step G hG q0 hd hal
  intro k
  induction k with
  | zero => simp only [lagCount]; omega
  | succ k ih => have := hstep k; simp only [lagCount, ih]; omega

theorem qstep {α} (val : Msg → α) (cur0 : α) (G : Nat → Int) (hG : ∀ k, G k ≤ G (k + 1)) (q0 : List Msg)
    (hd : DistinctTicks q0) (hal : ∀ m ∈ q0, ∃ j, m.time = G j) (k : Nat) (cur : α) (q : List Msg)
    (h : LInv val cur0 G q0 k cur q) :
    (nextQ val (G k) cur q).1 = inForce val cur0 q0 (G k) ∧
      LInv val cur0 G q0 (k + 1) (nextQ val (G k) cur q).1 (nextQ val (G k) cur q).2 := by
  have hn := lstep val cur0 G hG q0 (hd.imp Int.le_of_lt) k cur q h
  refine ⟨?_, hn⟩
  rw [hn.cur_eq]
  show valAt val cur0 q0 (lagCount q0 G k) = _
  rw [lagCount_aligned G hG q0 hd hal, valAt_due val cur0 q0 (hd.imp Int.le_of_lt)]

theorem sigInForce_eq (sigs : List Msg) (t : Int) :
    C09.sigInForce sigs t = inForce (fun m => (m.num, m.den)) (4, 4) sigs t := rfl

theorem keyInForce_eq (keys : List Msg) (t : Int) :
    C09.keyInForce keys t = inForce (fun m => m.key) pyNone keys t := rfl

/-- the time-signature events of a track, timed (read through the absolute view, as the implementation does) -/
abbrev sigsOf (metaTrack : List Msg) : List Msg := timesOfType .timeSignature (toAbs metaTrack)

abbrev keysOf (metaTrack : List Msg) : List Msg := timesOfType .keySignature (toAbs metaTrack)

/-- **the schedule along a grid** `G` of round starts: started before round `k` on `G k` with the signature queue in
    order (its events on grid points, at distinct ticks), the loop's control picks in its `i`-th round the signature in
    force at `G (k + i)` — provided each round that does so ends on the next grid point.  For the keys: whatever
    invariant `KI` of the key queue one look-up preserves, yielding a key with property `kv k`, the key of round `i`
    has property `kv (k + i)`. -/
theorem ctl_on (ppqn : Int) (G : Nat → Int) (hG : ∀ k, G k ≤ G (k + 1)) (sigs : List Msg) (hd : DistinctTicks sigs)
    (hal : ∀ m ∈ sigs, ∃ j, m.time = G j) (KI : Nat → Int → List Msg → Prop) (kv : Nat → Int → Prop)
    (hK : ∀ k key ksQ, KI k key ksQ → kv k (nextQ (fun m : Msg => m.key) (G k) key ksQ).1 ∧
      KI (k + 1) (nextQ (fun m : Msg => m.key) (G k) key ksQ).1 (nextQ (fun m : Msg => m.key) (G k) key ksQ).2) :
    ∀ (r k : Nat) (num den key : Int) (tsQ ksQ : List Msg),
    LInv (fun m : Msg => (m.num, m.den)) (4, 4) G sigs k (num, den) tsQ → KI k key ksQ →
    (∀ (j : Nat) (g : Sg), (ctl ppqn r (G k) num den key tsQ ksQ)[j]? = some g →
      (g.1, g.2.1) = C09.sigInForce sigs (G (k + j)) → G (k + j + 1) = G (k + j) + sgLen ppqn g) →
    ∀ (i : Nat) (g : Sg), (ctl ppqn r (G k) num den key tsQ ksQ)[i]? = some g →
      (g.1, g.2.1) = C09.sigInForce sigs (G (k + i)) ∧ kv (k + i) g.2.2 := by
  intro r
  induction r with
  | zero => intro k num den key tsQ ksQ _ _ _ i g h; simp [ctl] at h
  | succ r ih =>
    intro k num den key tsQ ksQ hinv hki hstep i g h
    obtain ⟨hv, hinv'⟩ := qstep (fun m : Msg => (m.num, m.den)) (4, 4) G hG sigs hd hal k (num, den) tsQ hinv
    obtain ⟨hvk, hki'⟩ := hK k key ksQ hki
    rw [← sigInForce_eq] at hv
    have hnow : G (k + 1) = G k + sgLen ppqn _ := hstep 0 _ rfl (by simp only [nextSig_eq]; exact hv)
    simp only [ctl, nextSig_eq, nextKey_eq] at h hstep hnow
    cases i with
    | zero =>
      simp only [List.getElem?_cons_zero, Option.some.injEq] at h
      subst h
      exact ⟨hv, hvk⟩
    | succ i =>
      simp only [List.getElem?_cons_succ] at h
      rw [← hnow] at h hstep
      have := ih (k + 1) _ _ _ _ _ hinv' hki' (fun j g' hg' hs' => by
        have := hstep (j + 1) g' (by simpa using hg') (by rwa [show k + (j + 1) = k + 1 + j by omega])
        rwa [show k + (j + 1) = k + 1 + j by omega] at this) i g h
      rwa [show k + 1 + i = k + (i + 1) by omega] at this


theorem sigInForce_default (t : Int) : C09.sigInForce [Msg.mkTimeSig 0 4 4 0] t = (4, 4) := by
  unfold C09.sigInForce
  rw [List.filter_cons, List.filter_nil]
  generalize decide ((Msg.mkTimeSig 0 4 4 0).time ≤ t) = c
  cases c <;> rfl

theorem sigInForce_initTs (metaTrack : List Msg) (t : Int) :
    C09.sigInForce (initTs metaTrack) t = C09.sigInForce (timesOfType .timeSignature (toAbs metaTrack)) t :=
  initTs_ind metaTrack (fun q => C09.sigInForce q t = C09.sigInForce (timesOfType .timeSignature (toAbs metaTrack)) t)
    (fun h => by rw [h, sigInForce_default]; rfl) rfl

/-- `ctl_on` from the initial state: the queue the loop starts with is the meta track's signature list or `[4/4 @ 0]`,
    which puts the same signatures in force -/
theorem sched_on (ppqn : Int) (metaTrack : List Msg) (G : Nat → Int) (h0 : G 0 = 0) (hG : ∀ k, G k ≤ G (k + 1))
    (hd : DistinctTicks (sigsOf metaTrack)) (hal : ∀ m ∈ sigsOf metaTrack, ∃ j, m.time = G j)
    (KI : Nat → Int → List Msg → Prop) (kv : Nat → Int → Prop)
    (hK : ∀ k key ksQ, KI k key ksQ → kv k (nextQ (fun m : Msg => m.key) (G k) key ksQ).1 ∧
      KI (k + 1) (nextQ (fun m : Msg => m.key) (G k) key ksQ).1 (nextQ (fun m : Msg => m.key) (G k) key ksQ).2)
    (hk0 : KI 0 pyNone (keysOf metaTrack)) (r : Nat)
    (hstep : ∀ (j : Nat) (g : Sg), (sched ppqn metaTrack r)[j]? = some g →
      (g.1, g.2.1) = C09.sigInForce (sigsOf metaTrack) (G j) → G (j + 1) = G j + sgLen ppqn g)
    (k : Nat) (g : Sg) (hg : (sched ppqn metaTrack r)[k]? = some g) :
    (g.1, g.2.1) = C09.sigInForce (sigsOf metaTrack) (G k) ∧ kv k g.2.2 := by
  obtain ⟨h2, h3⟩ : DistinctTicks (initTs metaTrack) ∧ ∀ m ∈ initTs metaTrack, ∃ j, m.time = G j :=
    initTs_ind metaTrack (fun q => DistinctTicks q ∧ ∀ m ∈ q, ∃ j, m.time = G j)
      (fun _ => ⟨by simp [DistinctTicks], List.forall_mem_singleton.2 ⟨0, h0.symm⟩⟩) ⟨hd, hal⟩
  unfold sched at hg hstep
  rw [← h0] at hg hstep
  have := ctl_on ppqn G hG (initTs metaTrack) h2 h3 KI kv hK r 0 4 4 pyNone (initTs metaTrack) (keysOf metaTrack)
    (linv_init _ (4, 4) G _) hk0 (fun j g' hg' hs' => by
      rw [Nat.zero_add] at hs' ⊢
      exact hstep j g' hg' (by rw [← sigInForce_initTs]; exact hs')) k g hg
  rwa [Nat.zero_add, sigInForce_initTs] at this

theorem sched_grid (ppqn : Int) (metaTrack : List Msg) (hnn : NonNegBars ppqn (sigsOf metaTrack))
    (hd : DistinctTicks (sigsOf metaTrack)) (hal : ∀ m ∈ sigsOf metaTrack, OnGrid ppqn (sigsOf metaTrack) m.time)
    (KI : Nat → Int → List Msg → Prop) (kv : Nat → Int → Prop)
    (hK : ∀ k key ksQ, KI k key ksQ →
      kv k (nextQ (fun m : Msg => m.key) (gridStart ppqn (sigsOf metaTrack) k) key ksQ).1 ∧
      KI (k + 1) (nextQ (fun m : Msg => m.key) (gridStart ppqn (sigsOf metaTrack) k) key ksQ).1
        (nextQ (fun m : Msg => m.key) (gridStart ppqn (sigsOf metaTrack) k) key ksQ).2)
    (h0 : KI 0 pyNone (keysOf metaTrack)) (r k : Nat) (g : Sg) (hg : (sched ppqn metaTrack r)[k]? = some g) :
    (g.1, g.2.1) = C09.sigInForce (sigsOf metaTrack) (gridStart ppqn (sigsOf metaTrack) k) ∧ kv k g.2.2 :=
  sched_on ppqn metaTrack (gridStart ppqn (sigsOf metaTrack)) rfl (gridStart_step_le ppqn _ hnn) hd hal KI kv hK h0 r
    (fun j g' _ hs => by rw [gridStart_succ, ← hs]; rfl) k g hg

theorem sched_sig (ppqn : Int) (metaTrack : List Msg) (hnn : NonNegBars ppqn (sigsOf metaTrack))
    (hd : DistinctTicks (sigsOf metaTrack)) (hal : ∀ m ∈ sigsOf metaTrack, OnGrid ppqn (sigsOf metaTrack) m.time)
    (r k : Nat) (g : Sg) (hg : (sched ppqn metaTrack r)[k]? = some g) :
    (g.1, g.2.1) = C09.sigInForce (sigsOf metaTrack) (gridStart ppqn (sigsOf metaTrack) k) :=
  (sched_grid ppqn metaTrack hnn hd hal (fun _ _ _ => True) (fun _ _ => True) (fun _ _ _ _ => ⟨trivial, trivial⟩)
    trivial r k g hg).1

theorem sched_key (ppqn : Int) (metaTrack : List Msg) (hnn : NonNegBars ppqn (sigsOf metaTrack))
    (hd : DistinctTicks (sigsOf metaTrack)) (hal : ∀ m ∈ sigsOf metaTrack, OnGrid ppqn (sigsOf metaTrack) m.time)
    (hdk : DistinctTicks (keysOf metaTrack)) (halk : ∀ m ∈ keysOf metaTrack, OnGrid ppqn (sigsOf metaTrack) m.time)
    (r k : Nat) (g : Sg) (hg : (sched ppqn metaTrack r)[k]? = some g) :
    g.2.2 = C09.keyInForce (keysOf metaTrack) (gridStart ppqn (sigsOf metaTrack) k) :=
  (sched_grid ppqn metaTrack hnn hd hal
    (LInv (fun m : Msg => m.key) pyNone (gridStart ppqn (sigsOf metaTrack)) (keysOf metaTrack))
    (fun k v => v = C09.keyInForce (keysOf metaTrack) (gridStart ppqn (sigsOf metaTrack) k))
    (fun k key ksQ h => qstep _ pyNone _ (gridStart_step_le ppqn _ hnn) _ hdk halk k key ksQ h)
    (linv_init _ pyNone _ _) r k g hg).2

theorem barAt_some {tb : List (List Bar)} {i k : Nat} {b : Bar} :
    C09.barAt tb i k = some b ↔ ∃ bs, tb[i]? = some bs ∧ bs[k]? = some b := by
  unfold C09.barAt
  cases tb[i]? <;> simp

theorem bar_in_sched (ppqn : Int) (values : List Int) (tracks : List (List Msg)) (metaIdx : Nat) (requant : Bool)
    (tb : List (List Bar)) (h : splitBars ppqn values tracks metaIdx requant = .ok tb)
    (metaTrack : List Msg) (hm : tracks[metaIdx]? = some metaTrack) (i k : Nat) (b : Bar)
    (hb : C09.barAt tb i k = some b) :
    ∃ r, (sched ppqn metaTrack (r + 1))[k]? = some (b.num, b.den, b.key) := by
  obtain ⟨mT, r, hm', _, hall⟩ := splitBars_track ppqn values tracks metaIdx requant tb h
  rw [hm] at hm'
  cases hm'
  obtain ⟨bs, hbs, hb⟩ := barAt_some.1 hb
  obtain ⟨_, _, _, _, hs⟩ := hall i bs hbs
  exact ⟨r, by rw [← hs, List.getElem?_map, hb]; rfl⟩

theorem keysOf_ordered (metaTrack : List Msg) : MergeL.Sorted (keysOf metaTrack) :=
  toAbs_filter_pairwise _ (fun _ _ => rfl) metaTrack

theorem sched_key_lag (ppqn : Int) (metaTrack : List Msg)
    (hnn : NonNegBars ppqn (sigsOf metaTrack)) (hd : DistinctTicks (sigsOf metaTrack))
    (hal : ∀ m ∈ sigsOf metaTrack, OnGrid ppqn (sigsOf metaTrack) m.time)
    (r k : Nat) (g : Sg) (hg : (sched ppqn metaTrack r)[k]? = some g) :
    g.2.2 = valAt (fun m : Msg => m.key) pyNone (keysOf metaTrack)
      (lagCount (keysOf metaTrack) (gridStart ppqn (sigsOf metaTrack)) k) :=
  (sched_grid ppqn metaTrack hnn hd hal
    (LInv (fun m : Msg => m.key) pyNone (gridStart ppqn (sigsOf metaTrack)) (keysOf metaTrack))
    (fun k v => v = valAt (fun m : Msg => m.key) pyNone (keysOf metaTrack)
      (lagCount (keysOf metaTrack) (gridStart ppqn (sigsOf metaTrack)) k))
    (fun k key ksQ h =>
      have hn := lstep _ pyNone _ (gridStart_step_le ppqn _ hnn) _ (keysOf_ordered metaTrack) k key ksQ h
      ⟨hn.cur_eq, hn⟩)
    (linv_init _ pyNone _ _) r k g hg).2

theorem timesOfType_roll (ty : MType) (hty : ty ≠ .internal) (r : List Msg)
    (hd : DistinctTicks ((eventsRel r).filter (·.ty == ty))) :
    timesOfType ty (toAbs r) = (eventsRel r).filter (·.ty == ty) := by
  have hks : ((eventsRel r).filter (·.ty == ty)).Pairwise (fun a b => keyLe a b = true) :=
    List.Pairwise.imp (fun h => keyLe_of_time_lt h) hd
  unfold timesOfType
  rw [toAbs_eq]
  split
  · rw [filter_sortAbs, sortAbs_of_sorted _ hks]
  · rw [filter_insort _ _ _ (by
      simp only [Msg.mkInternal, beq_eq_false_iff_ne, ne_eq]
      exact fun h => hty h.symm),
      filter_sortAbs, sortAbs_of_sorted _ hks]

theorem sched_pos (ppqn : Int) (metaTrack : List Msg) (hpos : PosBars ppqn (sigsOf metaTrack))
    (hd : DistinctTicks (sigsOf metaTrack)) (hal : ∀ m ∈ sigsOf metaTrack, OnGrid ppqn (sigsOf metaTrack) m.time)
    (r : Nat) : ∀ g ∈ sched ppqn metaTrack r, 0 < sgLen ppqn g := by
  intro g hg
  obtain ⟨k, hk, rfl⟩ := List.getElem_of_mem hg
  have := sched_sig ppqn metaTrack hpos.nonneg hd hal r k _ (List.getElem?_eq_getElem hk)
  have hc := sigInForce_cap_pos ppqn _ hpos (gridStart ppqn (sigsOf metaTrack) k)
  rw [← this] at hc
  exact hc

theorem psum_grid (ppqn : Int) (metaTrack : List Msg) (hnn : NonNegBars ppqn (sigsOf metaTrack))
    (hd : DistinctTicks (sigsOf metaTrack)) (hal : ∀ m ∈ sigsOf metaTrack, OnGrid ppqn (sigsOf metaTrack) m.time)
    (n : Nat) : ∀ k, k ≤ n → psum ppqn (sched ppqn metaTrack n) k = gridStart ppqn (sigsOf metaTrack) k := by
  intro k
  induction k with
  | zero => intro _; rw [psum_zero]; rfl
  | succ k ih =>
    intro hk
    have hlt : k < (sched ppqn metaTrack n).length := by rw [sched_length]; omega
    have hg := List.getElem?_eq_getElem hlt
    rw [psum_succ ppqn _ k _ hg, ih (by omega), gridStart_succ]
    have := sched_sig ppqn metaTrack hnn hd hal n k _ hg
    rw [← this]
    rfl

theorem one_round_of_empty (ppqn : Int) (values : List Int) (tracks : List (List Msg)) (metaIdx : Nat) (requant : Bool)
    (tb : List (List Bar)) (h : splitBars ppqn values tracks metaIdx requant = .ok tb)
    (metaTrack : List Msg) (hm : tracks[metaIdx]? = some metaTrack) (hpos : PosBars ppqn (sigsOf metaTrack))
    (hd : DistinctTicks (sigsOf metaTrack)) (hal : ∀ m ∈ sigsOf metaTrack, OnGrid ppqn (sigsOf metaTrack) m.time)
    (hw : ∀ t ∈ tracks, NonNegWaits t) (h0 : ∀ t ∈ tracks, durRel t = 0) :
    tb.length = tracks.length ∧ ∀ bs ∈ tb, bs.length = 1 := by
  obtain ⟨mT, r, hm', hl, hall, hex⟩ := splitBars_run ppqn values tracks metaIdx requant tb h
  rw [hm] at hm'
  cases hm'
  have hgpos := sched_pos ppqn metaTrack hpos hd hal (r + 1)
  have hr : r = 0 := by
    rcases Nat.eq_zero_or_pos r with h1 | h1
    · exact h1
    · exfalso
      obtain ⟨t, ht, tw, t', nb, hrun, hflag⟩ := hex 0 h1
      have := (trackRun_flags ppqn values requant _ _ _ _ _ hrun hgpos (hw t ht) 0 true hflag).1 rfl
      have hk : 0 < (sched ppqn metaTrack (r + 1)).length := by rw [sched_length]; omega
      have hp : psum ppqn (sched ppqn metaTrack (r + 1)) (0 + 1)
          = psum ppqn (sched ppqn metaTrack (r + 1)) 0 + sgLen ppqn (sched ppqn metaTrack (r + 1))[0] :=
        psum_succ ppqn _ 0 _ (List.getElem?_eq_getElem hk)
      rw [hp, psum_zero, h0 t ht] at this
      have := hgpos _ (List.getElem_mem hk)
      omega
  subst hr
  refine ⟨hl, ?_⟩
  intro bs hbs
  obtain ⟨i, hi, rfl⟩ := List.getElem_of_mem hbs
  have hi' : i < tracks.length := by omega
  obtain ⟨tw, t', nb, hrun, htb, _⟩ := hall i _ (List.getElem?_eq_getElem hi')
  rw [List.getElem?_eq_getElem hi] at htb
  cases htb
  have := (trackRun_shape ppqn values requant _ _ _ _ _ hrun).2.1
  rw [sched_length] at this
  exact this

/-! ### evaluation helpers for the kernel-checked witnesses (generic over `Except`; nothing above uses them) -/

def outOf (e : Except Err (List (List Bar))) : List (List Bar) := match e with | .ok tb => tb | .error _ => []
def isOk (e : Except Err (List (List Bar))) : Bool := match e with | .ok _ => true | .error _ => false
def errOf (e : Except Err (List (List Bar))) : Option Err := match e with | .ok _ => none | .error x => some x
def barOr (o : Option Bar) : Bar := match o with | some b => b | Option.none => ⟨[], 0, 0, 0⟩

theorem eq_ok_outOf (e : Except Err (List (List Bar))) (h : isOk e = true) : e = .ok (outOf e) := by
  cases e with
  | ok tb => rfl
  | error x => simp [isOk] at h

theorem ok_of_toOption {α : Type} {x : Except Err α} {a : α} (h : x.toOption = some a) : x = .ok a := by
  cases x with
  | error e => cases h
  | ok b => cases h; rfl

theorem eq_error_of (e : Except Err (List (List Bar))) (x : Err) (h : errOf e = some x) : e = .error x := by
  cases e with
  | ok tb => simp [errOf] at h
  | error y => simp only [errOf, Option.some.injEq] at h; rw [h]

end SCoda.Strong589LB
