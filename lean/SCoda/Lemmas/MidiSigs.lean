/-
  The signature in force on the loaded meta target, for either kind of signature (`SigKind`): the signatures of one
  kind the meta target holds are the meta list's without the repeats, behind the default 4/4 when no time signature
  stands on tick 0 (`target_sigs`); the meta list's are the conversions of the file's (`metaAll_sig`); so at every tick
  the one in force is the one in force among the signature events of the considered tracks, after the default
  (`inforce_sig`, `inforce_load_sig`).
-/
import SCoda.Lemmas.MidiL2
import SCoda.Lemmas.Latest
namespace SCoda.L2
open SCoda SCoda.MidiL SCoda.MergeL SCoda.C13 SCoda.C13b SCoda.EQ SCoda.E2E

/-- same type, channel and note: time order is key order -/
theorem kle_same (L : List Msg) (hs : Sorted L) (r : Nat) (c n : Int)
    (h : ∀ x ∈ L, x.ty.rank = r ∧ x.ch = c ∧ x.note = n) : L.Pairwise KLe := by
  refine hs.imp_of_mem (fun {a b} ha hb hab => ?_)
  have h1 := h a ha
  have h2 := h b hb
  show keyLe a b = true
  rw [keyLe_iff]
  omega

theorem sorted_filter_meta (M : List Msg) (hM : MetaOk M) (ty : MType) : Sorted (M.filter (fun m => m.ty == ty)) :=
  List.Pairwise.sublist List.filter_sublist ((timeSorted_iff_pairwise M).1 hM.1.1)

theorem meta_kle (M : List Msg) (hM : MetaOk M) (ty : MType) (h : ∀ x ∈ M, x.ty = ty → x.ch = 0 ∧ x.note = pyNone) :
    (M.filter (fun m => m.ty == ty)).Pairwise KLe := by
  apply kle_same _ (sorted_filter_meta M hM ty) ty.rank 0 pyNone
  intro x hx
  obtain ⟨hx1, hx2⟩ := List.mem_filter.1 hx
  have hty : x.ty = ty := by simpa using hx2
  exact ⟨by rw [hty], h x hx1 hty⟩

def chOf (e : Msg) : Int := if e.ch == pyNone then 0 else e.ch

/-- the internal time-signature message made from a (stamped) time-signature event -/
def convTs (e : Msg) : Msg := Msg.mkTimeSig (chOf e) e.num e.den e.time

/-- the internal key-signature message made from a (stamped) key-signature event -/
def convKs (e : Msg) : Msg := { ty := .keySignature, ch := chOf e, key := e.key, time := e.time }

theorem convEvent_sig (b : Bool) (e : MidiEv) (rt : Int) :
    (e.ty = .timeSignature → convEvent b e rt = some (true, convTs { e with time := rt }))
    ∧ (e.ty = .keySignature → convEvent b e rt = some (true, convKs { e with time := rt }))
    ∧ (e.ty ≠ .timeSignature → e.ty ≠ .keySignature → ∀ d m, convEvent b e rt = some (d, m) →
        m.ty ≠ .timeSignature ∧ m.ty ≠ .keySignature) := by
  refine ⟨fun h => by simp [convEvent, h, convTs, chOf], fun h => by simp [convEvent, h, convKs, chOf], ?_⟩
  intro h1 h2 d m hc
  rw [(convEvent_spec b e rt d m hc).2.1]
  exact ⟨h1, h2⟩

theorem toMetaSeq_kind (b : Bool) (e : MidiEv) :
    (toMetaSeq b e).filter (fun m => m.ty == MType.timeSignature)
      = (if e.ty = .timeSignature then some (convTs e) else none)
    ∧ (toMetaSeq b e).filter (fun m => m.ty == MType.keySignature)
      = (if e.ty = .keySignature then some (convKs e) else none) := by
  obtain ⟨c1, c2, c3⟩ := convEvent_sig b e e.time
  unfold toMetaSeq
  by_cases hts : e.ty = .timeSignature
  · simp [c1 hts, hts, convTs, Msg.mkTimeSig, chOf]
  · by_cases hks : e.ty = .keySignature
    · simp [c2 hks, hks, convKs, chOf]
    · rw [if_neg hts, if_neg hks]
      split
      · rename_i m hm
        simp [(c3 hts hks true m hm).1, (c3 hts hks true m hm).2]
      · rename_i m hm
        split <;> simp [(c3 hts hks false m hm).1, (c3 hts hks false m hm).2]
      · simp

/-- one kind of signature (time or key): what it says (`v`), the value `normalise` starts from (`p0`), how the
    loader builds the internal message from a stamped event (`conv`), and what the proofs use of them -/
structure SigKind (β : Type) [DecidableEq β] where
  ty : MType
  v : Msg → β
  p0 : β
  conv : Msg → Msg
  hty : ty = .timeSignature ∨ ty = .keySignature
  norm : ∀ r, NonNegWaits r → (eventsRel (normalise r)).filter (fun m => m.ty == ty)
    = dedupBy v p0 ((eventsRel r).filter (fun m => m.ty == ty))
  toMeta : ∀ b e, (toMetaSeq b e).filter (fun m => m.ty == ty) = if e.ty = ty then some (conv e) else none
  conv_ty : ∀ e, (conv e).ty = ty
  conv_time : ∀ e, (conv e).time = e.time
  conv_key : ∀ e, e.ch = pyNone → (conv e).ch = 0 ∧ (conv e).note = pyNone
  conv_v : ∀ e, v (conv e) = v e
  v_fields : ∀ m m' : Msg, m.num = m'.num → m.den = m'.den → m.key = m'.key → v m = v m'

def tsKind : SigKind (Int × Int) where
  ty := .timeSignature
  v := tsv
  p0 := (pyNone, pyNone)
  conv := convTs
  hty := Or.inl rfl
  norm := normalise_ts_events
  toMeta := fun b e => (toMetaSeq_kind b e).1
  conv_ty := fun _ => rfl
  conv_time := fun _ => rfl
  conv_key := fun e h => by simp [convTs, chOf, Msg.mkTimeSig, h]
  conv_v := fun _ => rfl
  v_fields := fun m m' h1 h2 _ => by simp [tsv, h1, h2]

def ksKind : SigKind Int where
  ty := .keySignature
  v := keyVal
  p0 := pyNone
  conv := convKs
  hty := Or.inr rfl
  norm := normalise_ks_events
  toMeta := fun b e => (toMetaSeq_kind b e).2
  conv_ty := fun _ => rfl
  conv_time := fun _ => rfl
  conv_key := fun e h => by simp [convKs, chOf, h]
  conv_v := fun _ => rfl
  v_fields := fun m m' _ _ h3 => by simp [keyVal, h3]

theorem sigKind_notInternal {β : Type} [DecidableEq β] (K : SigKind β) (m : Msg) (hm : (m.ty == K.ty) = true) :
    m.ty ≠ .internal := by
  have : m.ty = K.ty := by simpa using hm
  rcases K.hty with h | h <;> simp [this, h]

theorem target_sigs {β : Type} [DecidableEq β] (K : SigKind β) (R1 M : List Msg) (hR1 : RelI R1) (hM : MetaOk M)
    (hT : (M.filter (fun m => m.ty == K.ty)).Pairwise KLe) (d : Option Int) :
    (finSeq d R1 M).abs.filter (fun m => m.ty == K.ty) =
      (if K.ty = .timeSignature ∧
          (dedupBy K.v K.p0 (M.filter (fun m => m.ty == K.ty))).any (fun m => m.time == 0) = false
        then [Msg.mkTimeSig (d.getD 0) 4 4 0] else [])
      ++ dedupBy K.v K.p0 (M.filter (fun m => m.ty == K.ty)) := by
  have hA1ok : OkAbs (toAbs R1) := C04.toAbs_ok _ hR1.1
  have hA1q : (toAbs R1).filter (fun m => m.ty == K.ty) = [] := by
    rw [List.filter_eq_nil_iff]
    intro m hm hmt
    have hmt' : m.ty = K.ty := by simpa using hmt
    exact (toAbs_absI _ hR1 m hm).1 (by rw [isSig, hmt']; exact K.hty)
  have hpipe := sig_pipeline (fun m => m.ty == K.ty) (sigKind_notInternal K) K.v K.p0 K.norm (toAbs R1) M hA1ok hM.1 hA1q hT
  have hA2 : OkAbs (toAbs (C15.mergeRel [toAbs R1, M])) :=
    C04.toAbs_ok _ (C07.ok_out _ (C04.toRel_ok _ (okAbs_sortAbs_flatten _ (forall_mem_pair hA1ok hM.1)))).1
  rw [finSeq_abs]
  generalize toAbs (C15.mergeRel [toAbs R1, M]) = A2 at hpipe hA2 ⊢
  generalize dedupBy K.v K.p0 (M.filter (fun m => m.ty == K.ty)) = D at hpipe ⊢
  by_cases hts : K.ty = .timeSignature
  · have hD : timesOfType .timeSignature A2 = D := by rw [← hpipe, hts]; rfl
    rw [hD]
    cases h0 : D.any (fun m => m.time == 0) with
    | true => rw [if_pos rfl, if_neg (by simp), List.nil_append, hpipe]
    | false =>
      have hno : ∀ x ∈ A2.filter (fun m => m.ty == K.ty), x.time ≠ 0 := by
        rw [hpipe]
        intro x hx hx0
        have := List.any_eq_false.1 h0 x hx
        simp [hx0] at this
      rw [if_neg (by simp), if_pos ⟨hts, rfl⟩, insort_front _ A2 _ hA2 rfl (by simp [hts, Msg.mkTimeSig]) hno, hpipe]
      rfl
  · simp only [hts, false_and, if_false, List.nil_append]
    split
    · exact hpipe
    · rw [filter_insort _ _ _ (by simpa [Msg.mkTimeSig] using fun h => hts h.symm), hpipe]

/-- **signature in force** on the meta target, in terms of the meta list `M`: the one in force in `M`, after the
    default 4/4 at tick 0 for time signatures -/
theorem inforce_sig {β : Type} [DecidableEq β] (K : SigKind β) (R1 M : List Msg) (hR1 : RelI R1) (hM : MetaOk M)
    (hT : (M.filter (fun m => m.ty == K.ty)).Pairwise KLe) (hne : ∀ x ∈ M, x.ty = K.ty → K.v x ≠ K.p0)
    (d : Option Int) (t : Int) (ht : K.ty = .timeSignature → 0 ≤ t) :
    (latest K.ty (eventsAbs (finSeq d R1 M).abs) t).map K.v = (latest K.ty (dfltSig K.ty ++ M) t).map K.v := by
  rw [latest_filter, filt_eventsAbs _ (sigKind_notInternal K), target_sigs K R1 M hR1 hM hT d,
    latest_dflt K.ty t M hM.nonneg ht]
  have hdl : (latest K.ty (dedupBy K.v K.p0 (M.filter (fun m => m.ty == K.ty))) t).map K.v = (latest K.ty M t).map K.v := by
    rw [dedup_latest K.ty t K.v K.p0 _ (sorted_filter_meta M hM K.ty)
      (fun x hx => by simpa using (List.mem_filter.1 hx).2)
      (fun x hx => hne x (List.mem_filter.1 hx).1 (by simpa using (List.mem_filter.1 hx).2)), ← latest_filter]
  have hD : ∀ x ∈ dedupBy K.v K.p0 (M.filter (fun m => m.ty == K.ty)), 0 ≤ x.time ∧ x.ty = K.ty := fun x hx =>
    have := List.mem_filter.1 ((dedupBy_sublist K.v _ _).subset hx)
    ⟨hM.nonneg x this.1, by simpa using this.2⟩
  generalize dedupBy K.v K.p0 (M.filter (fun m => m.ty == K.ty)) = D at hdl hD ⊢
  split
  · rename_i h
    rw [show (dfltSig K.ty).head? = some (Msg.mkTimeSig 0 4 4 0) by rw [h.1]; rfl, List.singleton_append,
      latest_cons K.ty t _ D (by simp [cand, Msg.mkTimeSig, h.1, ht h.1]) (fun m hm _ => (hD m hm).1),
      map_or_some, map_or_some, hdl,
      K.v_fields (Msg.mkTimeSig (d.getD 0) 4 4 0) (Msg.mkTimeSig 0 4 4 0) rfl rfl rfl]
  · rename_i h
    rw [List.nil_append, hdl]
    by_cases hts : K.ty = .timeSignature
    · -- a time signature stands on tick 0, so one is in force from there on
      have h0 : D.any (fun m => m.time == 0) = true := by simpa [hts] using h
      obtain ⟨x, hx, hx0⟩ := List.any_eq_true.1 h0
      have hcx : cand K.ty t x = true := by
        simp only [cand, (hD x hx).2, beq_self_eq_true, Bool.true_and, decide_eq_true_eq]
        rw [show x.time = 0 by simpa using hx0]
        exact ht hts
      obtain ⟨y, hy⟩ := latest_isSome hx hcx
      rw [hy] at hdl
      cases hl : latest K.ty M t with
      | none => rw [hl] at hdl; cases hdl
      | some z => rfl
    · have hks : K.ty = .keySignature := K.hty.resolve_left hts
      rw [hks]
      simp [dfltSig]

theorem metaOf_sig {β : Type} [DecidableEq β] (K : SigKind β) (ppqn filePpq : Int) (groups : List (List Nat))
    (metaIdx : List Nat) (i : Nat) (evs : List MidiEv) :
    (metaOf ppqn filePpq groups metaIdx i evs).filter (fun m => m.ty == K.ty)
      = ((if considered groups metaIdx i then sigEvents ppqn filePpq 0 evs else []).filter
          (fun m => m.ty == K.ty)).map K.conv := by
  rw [considered_eq]
  unfold metaOf
  split
  · rename_i hc
    have : ((firstGroupOf groups i).isSome || metaIdx.contains i) = false := by
      cases h : firstGroupOf groups i <;> simp_all
    simp only [this, Bool.false_eq_true, if_false, List.filter_nil, List.map_nil]
  · rename_i hc
    have : ((firstGroupOf groups i).isSome || metaIdx.contains i) = true := by
      cases h : firstGroupOf groups i <;> simp_all
    simp only [this, if_true, sigEvents_eq, List.filter_filterMap, List.filter_filter, ← List.filterMap_eq_map,
      List.filterMap_filter]
    congr 1
    funext e
    rw [K.toMeta]
    by_cases h : e.ty = K.ty
    · rcases K.hty with h' | h' <;> simp [h, h', isSigB]
    · simp [h]

theorem metaAll_sig {β : Type} [DecidableEq β] (K : SigKind β) (ppqn filePpq : Int) (tracks : List (List MidiEv))
    (groups : List (List Nat)) (metaIdx : List Nat) :
    (metaAll ppqn filePpq groups metaIdx tracks.zipIdx).filter (fun m => m.ty == K.ty)
      = ((fileSigs ppqn filePpq tracks groups metaIdx).filter (fun m => m.ty == K.ty)).map K.conv := by
  unfold fileSigs metaAll
  generalize tracks.zipIdx = tz
  induction tz with
  | nil => rfl
  | cons p ps ih =>
    simp only [List.flatMap_cons, List.filter_append, ih, metaOf_sig K, List.filter_cons]
    split <;> simp

theorem sigEvents_src (ppqn filePpq : Int) (hp : 0 < ppqn) (hf : 0 < filePpq) (evs : List MidiEv)
    (ticks : Int) (ht : 0 ≤ ticks) (hd : ∀ e ∈ evs, 0 ≤ e.time) :
    ∀ x ∈ sigEvents ppqn filePpq ticks evs, 0 ≤ x.time ∧ ∃ e ∈ evs, ∃ rt, x = { e with time := rt } := by
  intro x hx
  rw [sigEvents_eq] at hx
  exact stamp_src ppqn filePpq hp hf evs ticks ht hd x (List.mem_filter.1 hx).1

theorem fileSigs_src (ppqn filePpq : Int) (hp : 0 < ppqn) (hf : 0 < filePpq) (tracks : List (List MidiEv))
    (groups : List (List Nat)) (metaIdx : List Nat) (hd : ∀ evs ∈ tracks, ∀ e ∈ evs, 0 ≤ e.time) :
    ∀ x ∈ fileSigs ppqn filePpq tracks groups metaIdx,
      0 ≤ x.time ∧ ∃ evs ∈ tracks, ∃ e ∈ evs, ∃ rt, x = { e with time := rt } := by
  intro x hx
  obtain ⟨p, hp', hxp⟩ := List.mem_flatMap.1 hx
  have hmem : p.1 ∈ tracks := by
    have := (List.mem_zipIdx (List.mem_filter.1 hp').1).2.2
    rw [this]; exact List.getElem_mem _
  obtain ⟨h1, e, he, rt, h2⟩ := sigEvents_src ppqn filePpq hp hf p.1 0 (Int.le_refl _) (hd _ hmem) x hxp
  exact ⟨h1, p.1, hmem, e, he, rt, h2⟩

theorem metaF_dom {β : Type} [DecidableEq β] (K : SigKind β) (ppqn filePpq : Int) (hp : 0 < ppqn) (hf : 0 < filePpq)
    (tracks : List (List MidiEv)) (groups : List (List Nat)) (metaIdx : List Nat)
    (hd : ∀ evs ∈ tracks, ∀ e ∈ evs, 0 ≤ e.time)
    (hdom : ∀ evs ∈ tracks, ∀ e ∈ evs, e.ty = K.ty → e.ch = pyNone ∧ K.v e ≠ K.p0) :
    ∀ x ∈ metaF ppqn filePpq tracks groups metaIdx, x.ty = K.ty → x.ch = 0 ∧ x.note = pyNone ∧ K.v x ≠ K.p0 := by
  intro x hx hty
  have hxm : x ∈ (metaAll ppqn filePpq groups metaIdx tracks.zipIdx).filter (fun m => m.ty == K.ty) :=
    List.mem_filter.2 ⟨by simpa [mem_foldl_insort] using hx, by simp [hty]⟩
  rw [metaAll_sig K] at hxm
  obtain ⟨e, he, rfl⟩ := List.mem_map.1 hxm
  obtain ⟨he1, he2⟩ := List.mem_filter.1 he
  obtain ⟨_, evs, hevs, e0, he0, rt, rfl⟩ := fileSigs_src ppqn filePpq hp hf tracks groups metaIdx hd e he1
  obtain ⟨hc, hv⟩ := hdom evs hevs e0 he0 (by simpa using he2)
  obtain ⟨k1, k2⟩ := K.conv_key { e0 with time := rt } hc
  exact ⟨k1, k2, by rw [K.conv_v, K.v_fields { e0 with time := rt } e0 rfl rfl rfl]; exact hv⟩

/-- **signature in force after loading** (arbitrary ppq, grouping, meta tracks, target; either kind): at every
    tick it is the one in force among the signature events of the considered tracks, after the default -/
theorem inforce_load_sig {β : Type} [DecidableEq β] (K : SigKind β) (ppqn filePpq : Int) (hp : 0 < ppqn) (hf : 0 < filePpq)
    (tracks : List (List MidiEv)) (groups : List (List Nat)) (metaIdx : List Nat) (target : Int) (out : List Seq)
    (h : convert ppqn filePpq tracks groups metaIdx target = .ok out)
    (hd : ∀ evs ∈ tracks, ∀ e ∈ evs, 0 ≤ e.time)
    (hdom : ∀ evs ∈ tracks, ∀ e ∈ evs, e.ty = K.ty → e.ch = pyNone ∧ K.v e ≠ K.p0)
    (s s' : Seq) (a : List Msg) (hs : out[target.toNat]? = some s) (ha : s.readAbs = .ok (s', a))
    (t : Int) (ht : K.ty = .timeSignature → 0 ≤ t) :
    (latest K.ty (eventsAbs a) t).map K.v
      = (latest K.ty (dfltSig K.ty ++ fileSigs ppqn filePpq tracks groups metaIdx) t).map K.v := by
  obtain ⟨R1, d, hR1, rfl⟩ := target_view ppqn filePpq tracks groups metaIdx target out h s s' a hs ha
  have hM := metaF_ok ppqn filePpq hp hf tracks groups metaIdx hd
  have g1 := metaF_dom K ppqn filePpq hp hf tracks groups metaIdx hd hdom
  have hT := meta_kle _ hM K.ty (fun x hx hty => ⟨(g1 x hx hty).1, (g1 x hx hty).2.1⟩)
  rw [inforce_sig K R1 _ hR1 hM hT (fun x hx hty => (g1 x hx hty).2.2) d t ht]
  apply latest_dflt_congr K.ty t _ _ K.v hM.nonneg
    (fun m hm => (fileSigs_src ppqn filePpq hp hf tracks groups metaIdx hd m hm).1) ht
  rw [latest_insorted, latest_filter,
    metaAll_sig K ppqn filePpq tracks groups metaIdx,
    latest_map _ t K.conv _ (fun m hm =>
      ⟨by rw [K.conv_ty]; exact (by simpa using (List.mem_filter.1 hm).2 : m.ty = K.ty).symm, K.conv_time m⟩),
    ← latest_filter]
  cases latest K.ty (fileSigs ppqn filePpq tracks groups metaIdx) t <;> simp [K.conv_v]

end SCoda.L2
