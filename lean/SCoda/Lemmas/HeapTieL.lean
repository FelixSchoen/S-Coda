/-
  Helper lemmas for `Props/HeapTie.lean`: how the monad `HeapLib.HM` of the generated identity translation
  (`Gen/HeapFns.lean`) runs, and the run equations of the translated functions that the route theorems use,
  from `Message.__init__` to `Bar.__init__`, each under a condition of `Lemmas/HeapStateL.lean` on the heap it starts from.
  A wrapper method of `Sequence` is its view-level function once the sequence is `Settled`: `barNew_run` runs the translated
  `Bar.__init__` against `barBody_eq`, the body of the model's constructor in that form.
-/
import SCoda.Gen.HeapFns
import SCoda.Lemmas.HeapStateL
namespace SCoda.HeapTieL
open SCoda SCoda.HeapOps SCoda.HeapLib SCoda.Gen.HeapFns

@[simp] theorem run_pure {α : Type} (a : α) (h : Heap) : (pure a : HM α) h = (.ok a, h) := rfl
@[simp] theorem run_bind {α β : Type} (m : HM α) (f : α → HM β) (h : Heap) : (m >>= f) h = HM.bindRes (m h) f := rfl
@[simp] theorem bindRes_ok {α β : Type} (a : α) (h : Heap) (f : α → HM β) : HM.bindRes (.ok a, h) f = f a h := rfl
@[simp] theorem bindRes_error {α β : Type} (e : HErr) (h : Heap) (f : α → HM β) :
    HM.bindRes (.error e, h) f = (.error e, h) := rfl
@[simp] theorem run_modify (f : Heap → Heap) (h : Heap) : HM.modify f h = (.ok (), f h) := rfl
@[simp] theorem run_get (h : Heap) : HM.get h = (.ok h, h) := rfl
@[simp] theorem run_fail {α : Type} (e : HErr) (h : Heap) : (HM.fail e : HM α) h = (.error e, h) := rfl
@[simp] theorem run_alloc {α : Type} (f : Heap → Heap × α) (h : Heap) : HM.alloc f h = (.ok (f h).2, (f h).1) := rfl
@[simp] theorem run_ite {α : Type} (c : Prop) [Decidable c] (a b : HM α) (h : Heap) :
    (if c then a else b) h = if c then a h else b h := by split <;> rfl
@[simp] theorem run_deref_some {α : Type} (a : α) (h : Heap) : HM.deref (some a) h = (.ok a, h) := rfl
@[simp] theorem run_deref_none {α : Type} (h : Heap) : (HM.deref (none : Option α)) h = (.error .noneAttr, h) := rfl

/-- one attribute assignment `self.f = v` on a message whose content is known -/
theorem modifyMsg_run {α : Type} (i : Nat) (F : Heap → Msg) (k : Unit → HM α) (h : Heap) (m : Msg) {m' : Msg}
    (hF : F (h.setMsg i m) = m') :
    (HM.modify (fun h => h.setMsg i (F h)) >>= k) (h.setMsg i m) = k () (h.setMsg i m') := by
  rw [← hF]; simp only [run_bind, run_modify, bindRes_ok, setMsg_setMsg]

/-- the value `Message.__init__` stores: the ten fields, a `None` channel replaced by 0 -/
def initVal (ty : MType) (ch time note vel ctl num den key prog : Int) : Msg :=
  { ty := ty, ch := if ch = pyNone then 0 else ch, time := time, note := note, vel := vel, ctl := ctl, prog := prog, num := num,
    den := den, key := key }

theorem messageInit_run (g : GOrc) (tag i : Nat) (ty : MType) (ch time note vel ctl num den key prog : Int) (h : Heap) :
    messageInit g tag i ty ch time note vel ctl num den key prog h
      = (.ok (), h.setMsg i (initVal ty ch time note vel ctl num den key prog)) := by
  -- the content of the cell is carried along explicitly, so that each assignment is one small step
  -- (one `simp` over the ten assignments re-reads the growing record at every field)
  suffices ∀ m, messageInit g tag i ty ch time note vel ctl num den key prog (h.setMsg i m)
      = (.ok (), h.setMsg i (initVal ty ch time note vel ctl num den key prog)) by
    have := this (h.msg i); rwa [setMsg_self] at this
  intro m
  unfold messageInit
  iterate 10 (rw [modifyMsg_run (hF := by rw [msg_setMsg])]; dsimp only)
  simp only [run_bind, run_get, bindRes_ok, msg_setMsg, initVal]
  by_cases hc : ch = pyNone
  · rw [if_pos (beq_iff_eq.2 hc), if_pos hc, modifyMsg_run (hF := by rw [msg_setMsg])]; rfl
  · rw [if_neg (mt beq_iff_eq.1 hc), if_neg hc]; rfl

/-- the value `Message.copy` gives the new message: the source's fields, a `None` channel replaced by 0 -/
def normCh (m : Msg) : Msg := { m with ch := if m.ch = pyNone then 0 else m.ch }

theorem normCh_of_ok {m : Msg} (hm : m.ch ≠ pyNone) : normCh m = m := by
  simp [normCh, hm]

theorem messageCopy_run (g : GOrc) (tag i : Nat) (h : Heap) :
    messageCopy g tag i h = (.ok h.nMsg, (h.newMsg (normCh (h.msg i))).1) := by
  unfold messageCopy newMessage
  simp [messageInit_run, initVal, normCh]

theorem abstractSequenceInit_some (g : GOrc) (tag i : Nat) (ids : List Nat) (h : Heap) :
    abstractSequenceInit g tag i (some ids) h = (.ok (), h.setLst i ids) := by
  unfold abstractSequenceInit
  simp

theorem abstractSequenceInit_none (g : GOrc) (tag i : Nat) (h : Heap) :
    abstractSequenceInit g tag i none h = (.ok (), h.setLst i []) := by
  unfold abstractSequenceInit
  simp

theorem mapM_messageCopy (g : GOrc) (tag : Nat) : ∀ (ids : List Nat) (h : Heap), IdsOk h ids →
    HM.mapM (fun x => do let t ← messageCopy g tag x; pure t) ids h
      = (.ok (newMsgs h (ids.map h.msg)).2, (newMsgs h (ids.map h.msg)).1) := by
  intro ids
  induction ids with
  | nil => intro h _; rfl
  | cons x xs ih =>
    intro h hok
    have hx := hok x (by simp)
    have hrest : IdsOk (h.newMsg (h.msg x)).1 xs := by
      intro y hy
      have := hok y (by simp [hy])
      have hne : y ≠ h.nMsg := by omega
      simp only [Heap.newMsg, hne, if_false]
      exact ⟨by omega, this.2⟩
    have hmap : xs.map (h.newMsg (h.msg x)).1.msg = xs.map h.msg := by
      apply List.map_congr_left
      intro y hy
      have := hok y (by simp [hy])
      have hne : y ≠ h.nMsg := by omega
      simp [Heap.newMsg, hne]
    simp only [HM.mapM, run_bind, messageCopy_run, bindRes_ok, run_pure, normCh_of_ok hx.2, ih _ hrest, hmap,
      List.map_cons, newMsgs, newMsg_snd]

theorem abstractSequenceCopy_run (g : GOrc) (tag l : Nat) (h : Heap) (hok : IdsOk h (h.lst l)) :
    abstractSequenceCopy g tag l h = (.ok (copyView h l).2, (copyView h l).1) := by
  unfold abstractSequenceCopy viewClassInit absoluteSequenceInit newView
  simp [mapM_messageCopy g tag _ h hok, abstractSequenceInit_some, copyView, convView, Heap.viewVals, Heap.vals]

@[simp] theorem newSeq_snd (h : Heap) (c : SeqCell) : (h.newSeq c).2 = h.nSeq := rfl

/-- `Sequence.abs`: exactly `getAbs`, where `none` of the model is an exception of the code (both views stale:
    "Sequence references stale"; stale with `_rel` missing: `AttributeError`) or the value `None` -/
theorem sequenceAbs_run (g : GOrc) (tag s : Nat) (h : Heap) :
    sequenceAbs g tag s h =
      (if (h.seq s).absStale then
        if (h.seq s).relStale then .error .stale
        else match (h.seq s).rel with
          | none => .error .noneAttr
          | some _ => .ok (getAbs g.orc h s).2
      else .ok (h.seq s).abs, (getAbs g.orc h s).1) := by
  unfold sequenceAbs getAbs relToAbsoluteSequence
  cases ha : (h.seq s).absStale <;> cases hr : (h.seq s).relStale <;> simp [ha, hr]
  cases hv : (h.seq s).rel <;> simp [hv, hr]

theorem sequenceRel_run (g : GOrc) (tag s : Nat) (h : Heap) :
    sequenceRel g tag s h =
      (if (h.seq s).relStale then
        if (h.seq s).absStale then .error .stale
        else match (h.seq s).abs with
          | none => .error .noneAttr
          | some _ => .ok (getRel g.orc h s).2
      else .ok (h.seq s).rel, (getRel g.orc h s).1) := by
  unfold sequenceRel getRel absToRelativeSequence
  cases ha : (h.seq s).absStale <;> cases hr : (h.seq s).relStale <;> simp [ha, hr]
  cases hv : (h.seq s).abs <;> simp [hv, ha]

/-- why `self.abs` followed by a method call fails, when it does: both views stale, or the other view missing -/
def absErr (h : Heap) (s : Nat) : HErr :=
  if (h.seq s).relStale && (h.seq s).absStale then .stale else .noneAttr

/-- the same for `self.rel`: the test is symmetric in the two views -/
abbrev relErr (h : Heap) (s : Nat) : HErr := absErr h s

theorem sequenceRel_deref (g : GOrc) (tag s : Nat) (h : Heap) {α : Type} (k : Nat → HM α) :
    HM.bindRes (sequenceRel g tag s h) (fun t => HM.deref t >>= k)
      = match (getRel g.orc h s).2 with
        | some l => k l (getRel g.orc h s).1
        | none => (.error (relErr h s), (getRel g.orc h s).1) := by
  rw [sequenceRel_run]
  unfold getRel relErr absErr
  cases ha : (h.seq s).absStale <;> cases hr : (h.seq s).relStale <;> simp [ha, hr]
  · cases (h.seq s).rel <;> simp
  · cases (h.seq s).abs <;> simp
  · cases (h.seq s).rel <;> simp

theorem sequenceAbs_deref (g : GOrc) (tag s : Nat) (h : Heap) {α : Type} (k : Nat → HM α) :
    HM.bindRes (sequenceAbs g tag s h) (fun t => HM.deref t >>= k)
      = match (getAbs g.orc h s).2 with
        | some l => k l (getAbs g.orc h s).1
        | none => (.error (absErr h s), (getAbs g.orc h s).1) := by
  rw [sequenceAbs_run]
  unfold getAbs absErr
  cases ha : (h.seq s).absStale <;> cases hr : (h.seq s).relStale <;> simp [ha, hr]
  · cases (h.seq s).abs <;> simp
  · cases (h.seq s).abs <;> simp
  · cases (h.seq s).rel <;> simp

theorem sequenceInvalidateAbs_run (g : GOrc) (tag s : Nat) (h : Heap) :
    sequenceInvalidateAbs g tag s h = (.ok (), invalidateAbs h s) := rfl
theorem sequenceInvalidateRel_run (g : GOrc) (tag s : Nat) (h : Heap) :
    sequenceInvalidateRel g tag s h = (.ok (), invalidateRel h s) := rfl

theorem modifySeq_run {α : Type} (F : Heap → SeqCell) (k : Unit → HM α) (h : Heap) (c : SeqCell) {c' : SeqCell}
    (hF : F (h.newSeq c).1 = c') :
    (HM.modify (fun h' => h'.setSeq h.nSeq (F h')) >>= k) (h.newSeq c).1 = k () (h.newSeq c').1 := by
  rw [← hF]; simp only [run_bind, run_modify, bindRes_ok, setSeq_newSeq]

/-- `Sequence(a, r)`: the blank cell allocated for the object, then `__init__`, is `seqInit` (in the case of no
    argument the `Sequence` cell is allocated before the `AbsoluteSequence()` cell, in `HeapOps` after it: the kinds differ,
    the heaps are equal) -/
theorem sequenceNew_run (g : GOrc) (tag : Nat) (a r : Option Nat) (h : Heap) :
    sequenceInit g tag h.nSeq a r (h.newSeq {}).1 = (.ok (), (seqInit h a r).1) := by
  unfold sequenceInit sequenceInvalidateAbs sequenceInvalidateRel seqInit
  iterate 2 (rw [modifySeq_run (hF := by rw [seq_newSeq])]; dsimp only)
  cases a <;> cases r <;>
    simp only [Option.isNone_none, Option.isSome_none, Option.isNone_some, Option.isSome_some, Bool.and_true,
      Bool.and_false, Bool.and_self, Bool.false_eq_true, if_false, if_true]
  · rw [run_bind, newView, run_alloc, bindRes_ok, run_bind, absoluteSequenceInit, abstractSequenceInit_none, bindRes_ok]
    -- the two allocations commute by unfolding: both heaps are written as `Sequence` cell on top of view cell
    show _ = (Except.ok (), (((h.newLst []).1.newSeq _).1))
    change (_ : HM Unit) (((h.newLst []).1.setLst h.nLst []).newSeq _).1 = _
    rw [setLst_newLst, show h.nSeq = (h.newLst []).1.nSeq from rfl]
    iterate 4 (rw [modifySeq_run (h := (h.newLst []).1) (hF := by rw [seq_newSeq])]; dsimp only)
    rfl
  · iterate 3 (rw [modifySeq_run (hF := by rw [seq_newSeq])]; dsimp only)
    rfl
  · iterate 3 (rw [modifySeq_run (hF := by rw [seq_newSeq])]; dsimp only)
    rfl
  · iterate 4 (rw [modifySeq_run (hF := by rw [seq_newSeq])]; dsimp only)
    rfl

theorem sequenceCopy_run (g : GOrc) (tag s : Nat) (h : Heap) (hok : SeqCopyOk h s) :
    sequenceCopy g tag s h = (.ok (seqCopy h s).2, (seqCopy h s).1) := by
  unfold sequenceCopy seqCopy copyOpt newSequence
  obtain ⟨ha, hr⟩ := hok
  cases hfa : (h.seq s).absStale <;> cases hfr : (h.seq s).relStale
  · obtain ⟨a, hva, oka⟩ := ha hfa
    obtain ⟨r, hvr, okr⟩ := hr hfr
    have okr' := okr.ext (copyView_ext h a)
    simp [hfa, hfr, hva, hvr, sequenceAbs_run, sequenceRel_run, getAbs, getRel, abstractSequenceCopy_run g tag a h oka.2,
      abstractSequenceCopy_run g tag r _ okr'.2, sequenceNew_run, seqInit_snd]
  · obtain ⟨a, hva, oka⟩ := ha hfa
    simp [hfa, hfr, hva, sequenceAbs_run, getAbs, abstractSequenceCopy_run g tag a h oka.2, sequenceNew_run, seqInit_snd]
  · obtain ⟨r, hvr, okr⟩ := hr hfr
    simp [hfa, hfr, hvr, sequenceRel_run, getRel, abstractSequenceCopy_run g tag r h okr.2, sequenceNew_run, seqInit_snd]
  · simp [hfa, hfr, sequenceNew_run, seqInit_snd]

/-- a `for` loop whose body always continues: the loop-carried value and the heap after the loop -/
def loopSpec {α β : Type} (step : α → β → Heap → β) (upd : α → Heap → Heap) : List α → β → Heap → β × Heap
  | [], b, h => (b, h)
  | a :: as, b, h => loopSpec step upd as (step a b h) (upd a h)

theorem forIn_run {α β : Type} (f : α → β → HM (ForInStep β)) (step : α → β → Heap → β) (upd : α → Heap → Heap)
    (hf : ∀ a b h, f a b h = (.ok (.yield (step a b h)), upd a h)) :
    ∀ (xs : List α) (b : β) (h : Heap), (forIn xs b f) h = (.ok (loopSpec step upd xs b h).1, (loopSpec step upd xs b h).2) := by
  intro xs
  induction xs with
  | nil => intro b h; rfl
  | cons a as ih =>
    intro b h
    rw [List.forIn_cons]
    simp only [run_bind, hf, bindRes_ok, ih, loopSpec]

@[simp] theorem run_tryFinally_ok {α : Type} (body : HM α) (fin : HM Unit) (h h' : Heap) (a : α)
    (hb : body h = (.ok a, h')) : HM.tryFinally body fin h = HM.bindRes (fin h') (fun _ => pure a) := by
  simp [HM.tryFinally, hb]

theorem run_tryFinally_error {α : Type} (body : HM α) (fin : HM Unit) (h h' : Heap) (e : HErr)
    (hb : body h = (.error e, h')) : HM.tryFinally body fin h = (.error e, (fin h').2) := by
  simp [HM.tryFinally, hb]

@[simp] theorem invalidateAbs_bar (h : Heap) (s : Nat) : (invalidateAbs h s).bar = h.bar := rfl

/-- the generic shape of a wrapper method `self.rel.<link>(…); self.invalidate_abs()` -/
theorem withRel_run (g : GOrc) (tag s : Nat) (h : Heap) (f : Heap → Nat → Heap) (m : Nat → HM Unit)
    (hm : ∀ l h', m l h' = (.ok (), f h' l)) :
    HM.bindRes (sequenceRel g tag s h) (fun t => HM.deref t >>= fun l => m l >>= fun _ => sequenceInvalidateAbs g tag s)
      = (match (getRel g.orc h s).2 with | some _ => .ok () | none => .error (relErr h s), withRel g.orc h s f) := by
  rw [sequenceRel_deref]
  unfold withRel
  cases hv : (getRel g.orc h s).2 <;> simp [hv, hm, sequenceInvalidateAbs_run]

theorem sequenceNormalise_run (g : GOrc) (tag s : Nat) (h : Heap) :
    sequenceNormalise g tag s h
      = (match (getRel g.orc h s).2 with | some _ => .ok () | none => .error (relErr h s), normalise g.orc tag h s) := by
  unfold sequenceNormalise normalise
  simp only [run_bind]
  exact withRel_run g tag s h _ _ (fun _ _ => rfl)

theorem sequencePad_run (g : GOrc) (tag s : Nat) (h : Heap) :
    sequencePad g tag s h
      = (match (getRel g.orc h s).2 with | some _ => .ok () | none => .error (relErr h s), pad g.orc tag h s) := by
  unfold sequencePad pad
  simp only [run_bind]
  exact withRel_run g tag s h _ _ (fun _ _ => rfl)

theorem relativeSequenceAddMessage_run (g : GOrc) (tag l i : Nat) (idx : Option Nat) (h : Heap) :
    relativeSequenceAddMessage g tag l i (idx.map Int.ofNat) h = (.ok (), insertView h l i idx) := by
  unfold relativeSequenceAddMessage insertView
  cases idx with
  | none => simp
  | some k => simp [HM.pyInsert]

theorem sequenceAddRelativeMessage_run (g : GOrc) (tag s i : Nat) (idx : Option Nat) (h : Heap) :
    sequenceAddRelativeMessage g tag s i (idx.map Int.ofNat) h
      = (match (getRel g.orc h s).2 with | some _ => .ok () | none => .error (relErr h s), addRel g.orc h s i idx) := by
  unfold sequenceAddRelativeMessage addRel
  simp only [run_bind]
  exact withRel_run g tag s h _ _ (fun l h' => relativeSequenceAddMessage_run g tag l i idx h')

theorem relativeSequenceAddMessage_none (g : GOrc) (tag l i : Nat) (h : Heap) :
    relativeSequenceAddMessage g tag l i none h = (.ok (), h.setLst l (h.lst l ++ [i])) :=
  relativeSequenceAddMessage_run g tag l i none h

theorem loopSpec_yield (s : Nat) : ∀ (xs b : List Nat) (h : Heap),
    loopSpec (fun a b _ => b ++ [a]) (fun _ h => invalidateAbs h s) xs b h
      = (b ++ xs, if xs = [] then h else invalidateAbs h s) := by
  intro xs
  induction xs with
  | nil => intro b h; simp [loopSpec]
  | cons a as ih =>
    intro b h
    simp only [loopSpec, ih]
    by_cases hn : as = [] <;> simp [hn, invalidateAbs_idem]

theorem sequenceMessagesRel_run (g : GOrc) (tag s l : Nat) (h : Heap) (hl : (getRel g.orc h s).2 = some l) :
    sequenceMessagesRel g tag s h = (.ok ((getRel g.orc h s).1.lst l), iterRel g.orc h s) := by
  unfold sequenceMessagesRel iterRel withRel
  rw [run_tryFinally_ok (h' := if (getRel g.orc h s).1.lst l = [] then (getRel g.orc h s).1 else invalidateAbs (getRel g.orc h s).1 s)
      (a := (getRel g.orc h s).1.lst l)]
  · simp only [hl, run_bind, sequenceInvalidateAbs_run, bindRes_ok, run_pure]
    split <;> simp [invalidateAbs_idem]
  · simp only [run_bind]
    rw [sequenceRel_deref]
    simp only [hl, run_bind, run_get, bindRes_ok]
    rw [forIn_run (step := fun a b _ => b ++ [a]) (upd := fun _ h => invalidateAbs h s)]
    · simp [loopSpec_yield]
    · intro a b h'
      rfl

theorem loopSpec_append (t : Nat) : ∀ (xs : List Nat) (b : PUnit) (h : Heap),
    loopSpec (fun _ b _ => b) (fun a h => h.setLst t (h.lst t ++ [a])) xs b h = (b, h.setLst t (h.lst t ++ xs)) := by
  intro xs
  induction xs with
  | nil =>
    intro b h
    simp only [loopSpec, List.append_nil, Heap.setLst]
    cases h
    simp only [Prod.mk.injEq, true_and]
    congr 1
    funext j
    split <;> simp_all
  | cons a as ih => intro b h; simp [loopSpec, ih]

theorem sequenceOverwriteRelativeMessages_run (g : GOrc) (tag s : Nat) (ids : List Nat) (h : Heap) :
    sequenceOverwriteRelativeMessages g tag s ids h = (.ok (), overwriteRel h s ids) := by
  unfold sequenceOverwriteRelativeMessages overwriteRel relativeSequenceInit newView
  simp only [run_bind, run_alloc, bindRes_ok, abstractSequenceInit_none, setLst_newLst, newLst_snd]
  rw [forIn_run (step := fun _ b _ => b) (upd := fun a h' => h'.setLst h.nLst (h'.lst h.nLst ++ [a]))]
  · simp [loopSpec_append, sequenceInvalidateAbs_run, invalidateAbs]
  · intro a b h'
    simp [relativeSequenceAddMessage_none]

theorem positions_filterMap (p : Msg → Bool) (f : Nat → Msg) : ∀ (ids pre : List Nat),
    (positions p pre.length (ids.map f)).filterMap (fun k => (pre ++ ids)[k]?) = ids.filter (fun i => p (f i)) := by
  intro ids
  induction ids with
  | nil => intro pre; simp [positions]
  | cons i ids ih =>
    intro pre
    have h1 := ih (pre ++ [i])
    simp only [List.length_append, List.length_cons, List.length_nil, List.append_assoc, List.cons_append, List.nil_append] at h1
    simp only [List.map_cons, positions, List.filter_cons]
    by_cases hp : p (f i) = true
    · simp [hp, h1]
    · simp [hp, h1]

@[simp] theorem bar_setBar (h : Heap) (i : Nat) (c : BarCell) : (h.setBar i c).bar i = c := by simp [Heap.setBar]
@[simp] theorem setBar_setBar (h : Heap) (i : Nat) (c c' : BarCell) : (h.setBar i c).setBar i c' = h.setBar i c' := by
  simp only [Heap.setBar]; congr 1; funext j; split <;> rfl
@[simp] theorem newBar_seq (h : Heap) (c : BarCell) : (h.newBar c).1.seq = h.seq := rfl

@[simp] theorem getRel_orcOf (g : GOrc) (h : Heap) (s : Nat) : getRel (orcOf g) h s = getRel g.orc h s := rfl
@[simp] theorem normalise_orcOf (g : GOrc) (tag : Nat) (h : Heap) (s : Nat) : normalise (orcOf g) tag h s = normalise g.orc tag h s := rfl
@[simp] theorem iterRel_orcOf (g : GOrc) (h : Heap) (s : Nat) : iterRel (orcOf g) h s = iterRel g.orc h s := rfl
@[simp] theorem addRel_orcOf (g : GOrc) (h : Heap) (s i : Nat) (idx : Option Nat) : addRel (orcOf g) h s i idx = addRel g.orc h s i idx := rfl

theorem kept_eq (g : GOrc) (t : Nat) (h : Heap) (l : Nat) :
    ((orcOf g).perm t (h.viewVals l)).filterMap (fun k => (h.lst l)[k]?)
      = (h.lst l).filter (fun i => (h.msg i).ty != MType.timeSignature) := by
  have := positions_filterMap (fun m => m.ty != MType.timeSignature) h.msg (h.lst l) []
  simpa [orcOf, Heap.viewVals, Heap.vals] using this

section settled
variable {h : Heap} {s l : Nat}

variable (g : GOrc) (tag : Nat)

theorem sequenceMessagesRel_settled (hs : Settled (h.seq s) l) : sequenceMessagesRel g tag s h = (.ok (h.lst l), h) := by
  have hg := getRel_settled g.orc hs
  rw [sequenceMessagesRel_run g tag s l h (by rw [hg]), hg, iterRel_settled g.orc hs]

theorem sequencePad_settled (hs : Settled (h.seq s) l) : sequencePad g tag s h = (.ok (), padView (g.orc.padMsg tag) h l) := by
  rw [sequencePad_run, getRel_settled g.orc hs, pad, withRel_settled g.orc hs _ ((viewLevel_pad _).seq h l)]

theorem sequenceAddRelativeMessage_settled (i : Nat) (hs : Settled (h.seq s) l) :
    sequenceAddRelativeMessage g tag s i (some 0) h = (.ok (), addRel g.orc h s i (some 0)) :=
  (sequenceAddRelativeMessage_run g tag s i (some 0) h).trans (by rw [getRel_settled g.orc hs])

end settled

/-- the translator's shape of `if c: self.m(…)` followed by the rest of the body -/
theorem ite_call_bind {β : Type} (c : Prop) [Decidable c] (a : Heap → HM Unit) (K : HM β) :
    (if c then (do let h ← HM.get; a h; K) else K) = (do let h ← HM.get; (if c then a h else pure ()); K) := by
  split <;> rfl

theorem barPad_run (g : GOrc) (t : Nat) {h : Heap} {s l : Nat} (hs : Settled (h.seq s) l) :
    (if g.barPadDec t (h.viewVals l) = true then sequencePad g t s else pure ()) h
      = (.ok (), padView ((orcOf g).barPadMsg t) h l) := by
  unfold padView
  by_cases hd : g.barPadDec t (h.viewVals l) = true <;> simp [orcOf, hd, sequencePad_settled g t hs, padView]

theorem barNew_run (g : GOrc) (tag s : Nat) (num den key : Int) (h : Heap) (hl : SeqLive h s) :
    Gen.HeapFns.barInit g tag h.nBar s num den key (h.newBar {}).1
      = (.ok (), (HeapOps.barInit (orcOf g) tag h s num den key).1) := by
  unfold Gen.HeapFns.barInit HeapOps.barInit
  simp only [ite_call_bind, run_bind, run_modify, bindRes_ok, run_get, setBar_newBar, bar_newBar]
  generalize hb : (h.newBar { seq := s, num := num, den := den, key := key }).1 = b
  have hbar : b.bar h.nBar = { seq := s, num := num, den := den, key := key } := by rw [← hb, bar_newBar]
  obtain ⟨l, hg, hs, e⟩ := barBody_eq (orcOf g) tag num den (show SeqLive b s by rw [← hb]; exact hl)
  have bar1 := normalise_bar g.orc tag b s
  simp only [getRel_orcOf, normalise_orcOf] at hg hs e
  simp only [e, sequenceNormalise_run, hg, bindRes_ok]
  generalize normalise g.orc tag b s = h1 at *
  have hv : optVals h1 (h1.seq s).rel = h1.viewVals l := by rw [hs.rel]; rfl
  have hp := viewLevel_pad ((orcOf g).barPadMsg (mix tag 1)) h1 l
  have hs3 : Settled ((padView ((orcOf g).barPadMsg (mix tag 1)) h1 l).seq s) l := by rw [hp.1]; exact hs
  have bar3 : (padView ((orcOf g).barPadMsg (mix tag 1)) h1 l).bar = b.bar := by rw [hp.2.1]; exact bar1
  simp only [run_bind, run_get, bindRes_ok, bar1, hbar, sequenceMessagesRel_settled g tag hs, hv, barPad_run g _ hs]
  generalize padView ((orcOf g).barPadMsg (mix tag 1)) h1 l = h3 at *
  simp only [run_bind, run_get, bindRes_ok, bar3, hbar, sequenceMessagesRel_settled g tag hs3,
    sequenceOverwriteRelativeMessages_run, overwriteRel_bar, run_alloc, newMsg_snd,
    barFinish, kept_eq, invalidateAbs_settled hs3, addRel_orcOf]
  -- `by exact`: the heap of the hypothesis is fixed by the rewrite, not by unifying `(_.newMsg _).1.seq` (which reduces)
  rw [sequenceAddRelativeMessage_settled g tag (l := h3.nLst) _ (by exact settled_overwriteRel _ _ _)]
  simp only [bindRes_ok, run_bind, run_get, run_modify, addRel_bar, newMsg_bar, overwriteRel_bar, bar3, hbar]
  rfl

theorem run_newSequence (h : Heap) : newSequence h = (.ok h.nSeq, (h.newSeq {}).1) := rfl

/-- `[Sequence(relative_sequence=seq.copy()) for seq in relative_sequences]` (sequence.py:264) is `wrapCopies` -/
theorem mapM_wrapCopies (g : GOrc) (tag : Nat) : ∀ (ps : List Nat) (h : Heap), (∀ p ∈ ps, ViewOk h p) →
    HM.mapM (fun seq_ => do
        let t4 ← abstractSequenceCopy g tag seq_
        let t5 ← newSequence
        sequenceInit g tag t5 none (some t4)
        pure t5) ps h = (.ok (wrapCopies h ps).2, (wrapCopies h ps).1) := by
  intro ps
  induction ps with
  | nil => intro h _; rfl
  | cons p ps ih =>
    intro h hok
    have hp := hok p (by simp)
    have hrest : ∀ q ∈ ps, ViewOk (seqInit (copyView h p).1 none (some (copyView h p).2)).1 q :=
      fun q hq => (hok q (by simp [hq])).ext (wrapStep_ext h p)
    simp only [HM.mapM, run_bind, abstractSequenceCopy_run g tag p h hp.2, bindRes_ok, run_newSequence,
      sequenceNew_run, run_pure, ih _ hrest, wrapCopies, seqInit_snd]

end SCoda.HeapTieL
