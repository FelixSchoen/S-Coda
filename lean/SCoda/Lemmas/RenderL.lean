/-
  Lemmas about the string layer of the tokeniser model (`Model/Render.lean`): `render`, `parseTok`.

  * the legacy `String.splitOn` with a one-character separator is `List.splitOn` on the
    character list (core only has this for the new `String.split`; Batteries leaves
    `splitOn` as a TODO).  Proof modelled on Batteries' `String.splitAux_of_valid`.
  * `zpad` of a natural number is a non-empty string of digits that `pyInt?` reads back; a string without separators that
    `pyInt?` reads is a non-empty string of digits (`pyInt_digits`).
  * four facts evaluated over the generated prefix table (`Gen.tokenPrefixes`) and what follows from them.
  * a token as its items, prefix and numbers (`Nm`, `items`, `strs`): `render` joins them (`render_eq`) and `_split_token` gives
    them back when no field contains a separator (`split_join`); `parseTok` restated on the split text with prefixes
    named by enum member (`parseParts`).
  * natural-number fields (`TokOk`): `parseTok (render t) = .ok t` (`split_render`, `parse_render_ok`); every token of the
    construction sequence `vocabSeq` has them (`vocab_tokOk`).
-/
import SCoda.Model.Render
import SCoda.Lemmas.Vocab
import SCoda.Lemmas.PyLoop
import Batteries.Data.String.Lemmas
import Std.Data.String.ToInt
set_option linter.deprecated false

namespace SCoda.RenderL
open SCoda String String.Pos.Raw

theorem get_singleton_zero (c : Char) : Pos.Raw.get (singleton c) 0 = c := by
  simpa using get_of_valid [] [c]

theorem next_singleton_zero (c : Char) : Pos.Raw.next (singleton c) 0 = ⟨c.utf8Size⟩ := by
  simpa using next_of_valid [] c []

theorem rawEndPos_singleton (c : Char) : (singleton c).rawEndPos = ⟨c.utf8Size⟩ := by
  have := rawEndPos_ofList (cs := [c])
  simpa using this

theorem splitOnAux_char_of_valid (c : Char) (l m r : List Char) (acc : List String) :
    splitOnAux (ofList (l ++ m ++ r)) (String.singleton c) ⟨utf8Len l⟩ ⟨utf8Len l + utf8Len m⟩ 0 acc =
      acc.reverse ++ (List.splitOnPPrepend (· == c) r m.reverse).map ofList := by
  unfold splitOnAux
  simp only [List.append_assoc, atEnd_iff, rawEndPos_ofList, utf8Len_append, Pos.Raw.mk_le_mk,
    Nat.add_le_add_iff_left, (by omega : utf8Len m + utf8Len r ≤ utf8Len m ↔ utf8Len r = 0),
    utf8Len_eq_zero, List.reverse_cons]
  split
  · subst r
    simpa using extract_of_valid l m []
  · obtain ⟨d, r, rfl⟩ := r.exists_cons_of_ne_nil ‹_›
    simp only [by
      simpa [-ofList_append] using
        (⟨get_of_valid (l ++ m) (d :: r), next_of_valid (l ++ m) d r,
            extract_of_valid l m (d :: r)⟩ :
          _ ∧ _ ∧ _)]
    simp only [get_singleton_zero, next_singleton_zero, rawEndPos_singleton, Pos.Raw.le_iff,
      Nat.le_refl, if_true]
    split <;> rename_i h
    · have hd : d = c := by simpa using h
      subst hd
      have e1 : ({ byteIdx := utf8Len l + utf8Len m + d.utf8Size } : Pos.Raw).unoffsetBy ⟨d.utf8Size⟩
          = ⟨utf8Len l + utf8Len m⟩ := by
        ext; simp
      rw [e1]
      have e2 := extract_of_valid l m (d :: r)
      simp only [List.append_assoc] at e2
      rw [e2]
      have := splitOnAux_char_of_valid d (l ++ m ++ [d]) [] r (ofList m :: acc)
      simpa [Nat.add_assoc, List.splitOnPPrepend_cons_eq_if] using this
    · have e1 : ({ byteIdx := utf8Len l + utf8Len m } : Pos.Raw).unoffsetBy 0 = ⟨utf8Len l + utf8Len m⟩ := by
        ext; simp
      rw [e1]
      have e2 := next_of_valid (l ++ m) d r
      simp only [List.append_assoc, utf8Len_append] at e2
      rw [e2]
      have := splitOnAux_char_of_valid c l (m ++ [d]) r acc
      simpa [List.splitOnPPrepend_cons_eq_if, h, Nat.add_assoc] using this
termination_by r.length

theorem splitOn_singleton (s : String) (c : Char) :
    s.splitOn (singleton c) = (s.toList.splitOn c).map ofList := by
  have := splitOnAux_char_of_valid c [] [] s.toList []
  have hne : (singleton c == "") = false := by
    rw [beq_eq_false_iff_ne]; intro h
    have := congrArg String.length h
    simp at this
  simp only [splitOn, hne, List.splitOn_eq_splitOnP]
  simpa using this

/-- Python `sep.join(parts).split(sep)` gives the parts back when no part contains `sep` -/
theorem splitOn_intercalate (c : Char) (l : List String) (hne : l ≠ [])
    (hl : ∀ s ∈ l, c ∉ s.toList) :
    (String.intercalate (singleton c) l).splitOn (singleton c) = l := by
  rw [splitOn_singleton, toList_intercalate, toList_singleton, List.splitOn_intercalate]
  · simp [List.map_map]
  · simpa using hl
  · simpa using hne

theorem dash_eq : "-" = singleton '-' := by decide +kernel
theorem us_eq : "_" = singleton '_' := by decide +kernel

example : "ab-c_d".splitOn "-" = ["ab", "c_d"] := by
  rw [dash_eq, splitOn_singleton]; decide

theorem splitOnPPrepend_mem {α} (p : α → Bool) : ∀ (l acc : List α), ∀ piece ∈ List.splitOnPPrepend p l acc, ∀ x ∈ piece,
    (x ∈ l ∧ p x = false) ∨ x ∈ acc := by
  intro l
  induction l with
  | nil => intro acc piece hp x hx; simp at hp; subst hp; right; simpa using hx
  | cons a l ih =>
    intro acc piece hp x hx
    rw [List.splitOnPPrepend_cons_eq_if] at hp
    by_cases ha : p a = true
    · simp only [ha, if_true, List.mem_cons] at hp
      rcases hp with rfl | hp
      · right; simpa using hx
      · rcases ih [] piece hp x hx with h | h
        · left; exact ⟨by simp [h.1], h.2⟩
        · cases h
    · simp only [ha, Bool.false_eq_true, if_false] at hp
      rcases ih (a :: acc) piece hp x hx with h | h
      · left; exact ⟨by simp [h.1], h.2⟩
      · simp only [List.mem_cons] at h
        rcases h with rfl | h
        · left; exact ⟨by simp, by simpa using ha⟩
        · right; exact h

theorem mem_splitOn_char (s : String) (c : Char) (piece : String) (h : piece ∈ s.splitOn (String.singleton c)) :
    ∀ x ∈ piece.toList, x ∈ s.toList ∧ x ≠ c := by
  rw [splitOn_singleton] at h
  obtain ⟨l, hl, rfl⟩ := List.mem_map.1 h
  intro x hx
  rw [String.toList_ofList] at hx
  rw [List.splitOn_eq_splitOnP, List.splitOnP_eq_splitOnPPrepend] at hl
  rcases splitOnPPrepend_mem _ _ _ l hl x hx with h | h
  · exact ⟨h.1, by simpa using h.2⟩
  · cases h

theorem field_clean (s : String) (part : List String) (hp : part ∈ (s.splitOn "-").map (fun p => p.splitOn "_"))
    (a : String) (ha : a ∈ part) : '-' ∉ a.toList ∧ '_' ∉ a.toList := by
  obtain ⟨piece, hpiece, rfl⟩ := List.mem_map.1 hp
  rw [dash_eq] at hpiece
  rw [us_eq] at ha
  have h1 := mem_splitOn_char _ _ _ hpiece
  have h2 := mem_splitOn_char _ _ _ ha
  exact ⟨fun h => (h1 _ (h2 _ h).1).2 rfl, fun h => (h2 _ h).2 rfl⟩

def zpadC (k n : Nat) : List Char := List.replicate k '0' ++ Nat.toDigits 10 n

def numC (k : Nat) (v : Int) : List Char := (if v < 0 then ['-'] else []) ++ zpadC k v.natAbs

theorem zpad_toList (w : Nat) (v : Int) : ∃ k, (zpad w v).toList = numC k v := by
  by_cases h : v < 0
  · exact ⟨w - (toString v.natAbs).length - 1, by
      simp [zpad, h, numC, zpadC, Nat.toString_eq_repr, Nat.toList_repr]⟩
  · exact ⟨w - (toString v.natAbs).length - 0, by
      simp [zpad, h, numC, zpadC, Nat.toString_eq_repr, Nat.toList_repr]⟩

theorem zpad_nat (w n : Nat) : ∃ k, (zpad w (n : Int)).toList = zpadC k n := by
  obtain ⟨k, e⟩ := zpad_toList w n
  exact ⟨k, by simpa [numC, show ¬ ((n : Int) < 0) by omega] using e⟩

theorem zpadC_isDigit (k n : Nat) : ∀ c ∈ zpadC k n, c.isDigit = true := by
  intro c hc
  simp only [zpadC, List.mem_append, List.mem_replicate] at hc
  rcases hc with ⟨_, rfl⟩ | hc
  · decide
  · exact Nat.isDigit_of_mem_toDigits (by omega) (by omega) hc

theorem zpadC_ne_nil (k n : Nat) : zpadC k n ≠ [] := by
  simp [zpadC, Nat.toDigits_ne_nil]

theorem not_mem_zpad (w n : Nat) {c : Char} (hc : c.isDigit = false) : c ∉ (zpad w (n : Int)).toList := by
  obtain ⟨k, e⟩ := zpad_nat w n
  rw [e]; intro h
  rw [zpadC_isDigit _ _ _ h] at hc
  cases hc

theorem zpad_nat_digits (w n : Nat) : zpad w (n : Int) ≠ "" ∧ ∀ c ∈ (zpad w (n : Int)).toList, c.isDigit = true := by
  obtain ⟨k, e⟩ := zpad_nat w n
  exact ⟨fun h => zpadC_ne_nil k n (by rw [← e, h]; rfl), by rw [e]; exact zpadC_isDigit k n⟩

theorem toNat_zpad (w n : Nat) : (zpad w (n : Int)).toNat? = some n := by
  obtain ⟨k, e⟩ := zpad_nat w n
  rw [String.toNat?_eq_some_ofDigitChars (String.isNat_of_isDigit (zpad_nat_digits w n).1 (zpad_nat_digits w n).2), e,
    List.filter_eq_self.2]
  · simp [zpadC, Nat.ofDigitChars_append]
  · intro c hc
    have := zpadC_isDigit _ _ c hc
    simp only [bne_iff_ne, ne_eq]
    rintro rfl
    simp at this

/-- Python `int(f"{n:0w}") == n` -/
theorem pyInt_zpad (w n : Nat) : pyInt? (zpad w (n : Int)) = some (n : Int) := by
  have hem : (zpad w (n : Int)).isEmpty = false :=
    Bool.eq_false_iff.2 fun he => (zpad_nat_digits w n).1 (String.isEmpty_iff.1 he)
  simp only [pyInt?, hem, Bool.false_eq_true, if_false]
  exact String.toInt?_eq_some_of_toNat?_eq_some (toNat_zpad w n)

theorem pyInt_digits (a : String) (v : Int) (hd : '-' ∉ a.toList) (hu : '_' ∉ a.toList) (h : pyInt? a = some v) :
    a ≠ "" ∧ (∀ c ∈ a.toList, c.isDigit = true) ∧ 0 ≤ v := by
  unfold pyInt? at h
  split at h
  · cases h
  · rcases String.toInt?_eq_some_iff.1 h with ⟨b, hb, rfl⟩ | ⟨t, rfl, _⟩
    · have hn := String.isNat_of_toNat?_eq_some hb
      obtain ⟨hne, hall, _⟩ := String.isNat_iff.1 hn
      refine ⟨hne, ?_, by omega⟩
      intro c hc
      rcases hall c hc with h | h
      · exact h
      · subst h; exact absurd hc hu
    · exfalso; apply hd; simp

theorem pyInt_none_of_nondigit (a : String) (c : Char) (hd : '-' ∉ a.toList) (hu : '_' ∉ a.toList) (hc : c ∈ a.toList)
    (hn : c.isDigit = false) : pyInt? a = Option.none := by
  cases h : pyInt? a with
  | none => rfl
  | some v => rw [(pyInt_digits a v hd hu h).2.1 c hc] at hn; cases hn

/-! Four facts are evaluated over `Gen.tokenPrefixes` (regenerated from
  `scoda/enumerations/tokenisation_prefixes.py` on every run); what the lemmas on the token text need of the prefixes
  follows from them (`Nm.pfx_clean`, `Nm.pfx_inj` below).  A prefix edited in the source so that it is empty, contains a
  separator or a digit, or collides with another prefix, breaks these proofs. -/

/-- the enum members `render` / `parseTok` use -/
def usedNames : List String :=
  ["PAD", "START", "STOP", "BAR", "REST", "TRACK", "PITCH", "VALUE", "VELOCITY", "TIME_SIGNATURE"]

theorem table_prefixes_nodup : (Gen.tokenPrefixes.map (·.2)).Nodup := by decide +kernel

theorem table_prefixes_clean :
    ∀ p ∈ Gen.tokenPrefixes, ∀ c ∈ p.2.toList, c ≠ '-' ∧ c ≠ '_' ∧ c.isDigit = false := by decide +kernel

theorem table_prefixes_ne_nil : ∀ p ∈ Gen.tokenPrefixes, p.2.toList ≠ [] := by decide

/-- every member the model uses is in the table (so `prefixOf` never falls back to `"?NAME"`) -/
theorem used_in_table : ∀ n ∈ usedNames, (Gen.tokenPrefixes.find? (·.1 == n)).isSome = true := by decide +kernel

theorem prefixOf_entry (n : String) (hn : n ∈ usedNames) : (n, prefixOf n) ∈ Gen.tokenPrefixes := by
  have h := used_in_table n hn
  unfold prefixOf
  cases hf : Gen.tokenPrefixes.find? (·.1 == n) with
  | none => rw [hf] at h; cases h
  | some p =>
    have := List.find?_some hf
    rw [← eq_of_beq this]
    exact List.mem_of_find?_eq_some hf

/-- two entries with the same prefix string are the same entry, since the prefix column has no duplicates -/
theorem prefixOf_inj : ∀ a ∈ usedNames, ∀ b ∈ usedNames, prefixOf a = prefixOf b → a = b := by
  intro a ha b hb h
  have := Vocab.inj_of_nodup_map table_prefixes_nodup (prefixOf_entry a ha) (prefixOf_entry b hb) h
  exact (Prod.mk.inj this).1

/-- the ten enum members `render` uses -/
inductive Nm | pad | sta | sto | bar | rest | trk | val | vel | pit | tsg
  deriving DecidableEq, Repr

def Nm.str : Nm → String
  | .pad => "PAD" | .sta => "START" | .sto => "STOP" | .bar => "BAR" | .rest => "REST" | .trk => "TRACK"
  | .val => "VALUE" | .vel => "VELOCITY" | .pit => "PITCH" | .tsg => "TIME_SIGNATURE"

def Nm.pfx (n : Nm) : String := prefixOf n.str

def Nm.all : List Nm := [.pad, .sta, .sto, .bar, .rest, .trk, .pit, .val, .vel, .tsg]

theorem Nm.mem_all (n : Nm) : n ∈ Nm.all := by cases n <;> decide

theorem Nm.str_mem (n : Nm) : n.str ∈ usedNames :=
  List.mem_map_of_mem (f := Nm.str) n.mem_all

theorem Nm.str_inj {a b : Nm} (h : a.str = b.str) : a = b :=
  Vocab.inj_of_nodup_map (l := Nm.all) (f := Nm.str) (show usedNames.Nodup by simp [usedNames]) a.mem_all b.mem_all h

theorem Nm.pfx_clean (n : Nm) : ∀ c ∈ n.pfx.toList, c ≠ '-' ∧ c ≠ '_' ∧ c.isDigit = false :=
  table_prefixes_clean (n.str, n.pfx) (prefixOf_entry n.str n.str_mem)

theorem Nm.pfx_inj {a b : Nm} (h : a.pfx = b.pfx) : a = b :=
  Nm.str_inj (prefixOf_inj _ a.str_mem _ b.str_mem h)

/-- prefixes are compared by comparing enum members -/
theorem Nm.pfx_beq (a b : Nm) : (a.pfx == b.pfx) = decide (a = b) := by
  by_cases h : a = b
  · subst h; simp
  · simpa [h] using fun e => h (Nm.pfx_inj e)

/-- the `:0w` width `render` uses for the numbers of an item -/
def Nm.width : Nm → Nat
  | .vel | .pit => 3
  | _ => 2

def optItem (n : Nm) : Option Int → List (Nm × List Int)
  | some v => [(n, [v])]
  | Option.none => []

/-- the items of a token, in the order `render` writes them: prefix and numbers -/
def items : Tok → List (Nm × List Int)
  | .pad => [(.pad, [])] | .sta => [(.sta, [])] | .sto => [(.sto, [])] | .bar => [(.bar, [])]
  | .rest v => [(.rest, [v])] | .trk v => [(.trk, [v])] | .val v => [(.val, [v])] | .vel v => [(.vel, [v])]
  | .note t p v w => optItem .trk t ++ [(Nm.pit, [p])] ++ optItem .val v ++ optItem .vel w
  | .tsig n d => [(.tsg, [n, d])]

/-- the `_`-separated strings of an item -/
def strs (it : Nm × List Int) : List String := it.1.pfx :: it.2.map (zpad it.1.width)

theorem render_eq (t : Tok) : render t = "-".intercalate ((items t).map fun it => "_".intercalate (strs it)) := by
  apply String.toList_injective
  rcases t with _ | _ | _ | _ | v | v | v | v | ⟨(_ | a), b, (_ | c), (_ | d)⟩ | ⟨n, d⟩ <;>
    simp [render, items, optItem, strs, Nm.pfx, Nm.str, Nm.width, String.toList_append]

theorem not_mem_intercalate {c : Char} {sep : List Char} (hs : c ∉ sep) : ∀ l : List (List Char), (∀ s ∈ l, c ∉ s) →
    c ∉ sep.intercalate l
  | [], _ => by simp [List.intercalate]
  | [a], h => by simpa [List.intercalate] using h a (by simp)
  | a :: b :: l, h => by
    have ih := not_mem_intercalate hs (b :: l) (fun s hs' => h s (by simp [hs']))
    have ha := h a (by simp)
    simp only [List.intercalate, List.intersperse_cons₂, List.flatten_cons, List.mem_append, not_or] at ih ⊢
    exact ⟨ha, hs, ih⟩

def ItemOk (it : Nm × List Int) : Prop := ∀ v ∈ it.2, 0 ≤ v

theorem strs_clean {c : Char} (hd : c.isDigit = false) (hp : ∀ n : Nm, c ∉ n.pfx.toList) (it : Nm × List Int) (h : ItemOk it) :
    ∀ s ∈ strs it, c ∉ s.toList := by
  intro s hs
  simp only [strs, List.mem_cons, List.mem_map] at hs
  rcases hs with rfl | ⟨v, hv, rfl⟩
  · exact hp _
  · obtain ⟨n, rfl⟩ := Int.eq_ofNat_of_zero_le (h v hv)
    exact not_mem_zpad _ n hd

/-- `_split_token` gives back the parts of a joined text, if no field contains a separator -/
theorem split_join (P : List (List String)) (hP : P ≠ []) (hne : ∀ part ∈ P, part ≠ [])
    (h : ∀ part ∈ P, ∀ a ∈ part, '-' ∉ a.toList ∧ '_' ∉ a.toList) :
    (("-".intercalate (P.map fun part => "_".intercalate part)).splitOn "-").map (fun p => p.splitOn "_") = P := by
  rw [dash_eq, splitOn_intercalate _ _ (by simpa using hP), List.map_map]
  · refine (List.map_congr_left fun part hp => ?_).trans (List.map_id P)
    rw [Function.comp, us_eq, splitOn_intercalate _ _ (hne part hp) fun a ha => (h part hp a ha).2]; rfl
  · intro s hs
    obtain ⟨part, hp, rfl⟩ := List.mem_map.1 hs
    rw [toList_intercalate]
    refine not_mem_intercalate (by decide) _ fun x hx => ?_
    obtain ⟨a, ha, rfl⟩ := List.mem_map.1 hx
    exact (h part hp a ha).1

/-- `parseTok`'s reading of a number -/
def num (x : String) : Except ParseErr Int :=
  match pyInt? x with | some v => .ok v | Option.none => .error .valueError

theorem num_zpad (w : Nat) {v : Int} (hv : 0 ≤ v) : num (zpad w v) = .ok v := by
  obtain ⟨n, rfl⟩ := Int.eq_ofNat_of_zero_le hv
  rw [num, pyInt_zpad]

/-- the function `parseTok` folds over the parts of a fused note token -/
def noteStep (acc : Except ParseErr Tok) (part : List String) : Except ParseErr Tok := do
  let t ← acc
  match t, part with
  | .note tr pi va ve, [p, a] => do
    let v ← num a
    if p == Nm.trk.pfx && tr.isNone then .ok (.note (some v) pi va ve)
    else if p == Nm.pit.pfx && pi == -1 then .ok (.note tr v va ve)
    else if p == Nm.val.pfx && va.isNone then .ok (.note tr pi (some v) ve)
    else if p == Nm.vel.pfx && ve.isNone then .ok (.note tr pi va (some v))
    else .error .invalidToken
  | _, _ => .error .invalidToken

/-- `parseTok` on the split text, prefixes named by enum member (`parseTok_eq`) -/
def parseParts : List (List String) → Except ParseErr Tok
  | [[p]] =>
    if p == Nm.pad.pfx then .ok .pad else if p == Nm.sta.pfx then .ok .sta
    else if p == Nm.sto.pfx then .ok .sto else if p == Nm.bar.pfx then .ok .bar
    else .error .invalidToken
  | [[p, a]] =>
    if p == Nm.rest.pfx then do let v ← num a; .ok (.rest v)
    else if p == Nm.trk.pfx then do let v ← num a; .ok (.trk v)
    else if p == Nm.val.pfx then do let v ← num a; .ok (.val v)
    else if p == Nm.vel.pfx then do let v ← num a; .ok (.vel v)
    else if p == Nm.pit.pfx then do let v ← num a; .ok (.note Option.none v Option.none Option.none)
    else .error .invalidToken
  | [[p, a, b]] =>
    if p == Nm.tsg.pfx then do let x ← num a; let y ← num b; .ok (.tsig x y)
    else .error .invalidToken
  | multi =>
    multi.foldl noteStep (.ok (.note Option.none (-1) Option.none Option.none))
    >>= fun t => match t with
      | .note _ (-1) _ _ => .error .invalidToken
      | t => .ok t

theorem parseTok_eq (s : String) :
    parseTok s = parseParts ((s.splitOn "-").map (fun p => p.splitOn "_")) := rfl


theorem noteStep_trk (pi : Int) (va ve : Option Int) (a : String) :
    noteStep (.ok (.note Option.none pi va ve)) [Nm.trk.pfx, a] = num a >>= fun v => .ok (.note (some v) pi va ve) := by
  cases h : num a <;> simp [noteStep, h, bind, Except.bind]

theorem noteStep_pit (tr va ve : Option Int) (a : String) :
    noteStep (.ok (.note tr (-1) va ve)) [Nm.pit.pfx, a] = num a >>= fun v => .ok (.note tr v va ve) := by
  cases h : num a <;> simp [noteStep, h, Nm.pfx_beq, bind, Except.bind]

theorem noteStep_val (tr : Option Int) (pi : Int) (ve : Option Int) (a : String) :
    noteStep (.ok (.note tr pi Option.none ve)) [Nm.val.pfx, a] = num a >>= fun v => .ok (.note tr pi (some v) ve) := by
  cases h : num a <;> simp [noteStep, h, Nm.pfx_beq, bind, Except.bind]

theorem noteStep_vel (tr : Option Int) (pi : Int) (va : Option Int) (a : String) :
    noteStep (.ok (.note tr pi va Option.none)) [Nm.vel.pfx, a] = num a >>= fun v => .ok (.note tr pi va (some v)) := by
  cases h : num a <;> simp [noteStep, h, Nm.pfx_beq, bind, Except.bind]

def OptNonneg : Option Int → Prop
  | Option.none => True
  | some x => 0 ≤ x

instance : DecidablePred OptNonneg := fun o => by
  cases o <;> simp only [OptNonneg] <;> infer_instance

/-- all numeric fields are natural numbers (Python's `:02` / `:03` then produce plain digit
    strings, without a sign that would collide with the part separator `-`) -/
def TokOk : Tok → Prop
  | .pad | .sta | .sto | .bar => True
  | .rest v | .trk v | .val v | .vel v => 0 ≤ v
  | .note t p v w => OptNonneg t ∧ 0 ≤ p ∧ OptNonneg v ∧ OptNonneg w
  | .tsig n d => 0 ≤ n ∧ 0 ≤ d

instance : DecidablePred TokOk := fun t => by
  cases t <;> simp only [TokOk] <;> infer_instance

theorem items_ok (t : Tok) (h : TokOk t) : ∀ it ∈ items t, ItemOk it := by
  rcases t with _ | _ | _ | _ | v | v | v | v | ⟨(_ | a), b, (_ | c), (_ | d)⟩ | ⟨n, d⟩ <;>
    simp_all [TokOk, OptNonneg, items, optItem, ItemOk]

theorem items_ne_nil (t : Tok) : items t ≠ [] := by
  rcases t with _ | _ | _ | _ | v | v | v | v | ⟨(_ | a), b, c, d⟩ | ⟨n, d⟩ <;> simp [items, optItem]

theorem split_render (t : Tok) (h : TokOk t) :
    ((render t).splitOn "-").map (fun p => p.splitOn "_") = (items t).map strs := by
  have := split_join ((items t).map strs) (by simpa using items_ne_nil t)
      (fun part hp => by obtain ⟨it, -, rfl⟩ := List.mem_map.1 hp; simp [strs]) fun part hp a ha => by
    obtain ⟨it, hit, rfl⟩ := List.mem_map.1 hp
    exact ⟨strs_clean rfl (fun n hc => (n.pfx_clean _ hc).1 rfl) it (items_ok t h it hit) a ha,
      strs_clean rfl (fun n hc => (n.pfx_clean _ hc).2.1 rfl) it (items_ok t h it hit) a ha⟩
  rw [render_eq]; rwa [List.map_map] at this

theorem parse_render_ok (t : Tok) (h : TokOk t) : parseTok (render t) = .ok t := by
  rw [parseTok_eq, split_render t h]
  cases t with
  | pad | sta | sto | bar => simp [items, strs, parseParts, Nm.pfx_beq]
  | rest v | trk v | val v | vel v =>
    simp [items, strs, parseParts, Nm.pfx_beq, num_zpad _ (show 0 ≤ v from h), bind, Except.bind]
  | tsig a b => simp [items, strs, parseParts, num_zpad _ h.1, num_zpad _ h.2, bind, Except.bind]
  | note t p v w =>
    obtain ⟨h1, h2, h3, h4⟩ := h
    -- the fold reads the items in the order `render` wrote them; the pitch read is not the `-1` the fold starts from
    have hp : ∀ tr va ve, (match Tok.note tr p va ve with
        | .note _ (-1) _ _ => Except.error ParseErr.invalidToken | t => Except.ok t) = .ok (.note tr p va ve) := by
      intro tr va ve
      split
      · rename_i heq
        injection heq with _ hp
        omega
      · rfl
    cases t <;> cases v <;> cases w <;> simp only [OptNonneg] at h1 h3 h4 <;>
      simp only [items, optItem, strs, Nm.width, List.map_cons, List.map_nil, List.nil_append, List.cons_append, parseParts,
        List.foldl_cons, List.foldl_nil, noteStep_trk, noteStep_pit, noteStep_val, noteStep_vel, num_zpad, ok_bind, hp, *]
    simp [Nm.pfx_beq, num_zpad _ h2, bind, Except.bind]

/-- the constructor arguments are natural numbers (MIDI pitches, tick counts, velocities and
    signature numerators are; the constructor itself does not check) -/
structure CfgNonneg (c : Cfg) : Prop where
  steps : ∀ x ∈ c.steps, 0 ≤ x
  values : ∀ x ∈ c.values, 0 ≤ x
  bins : ∀ x ∈ c.bins, 0 ≤ x
  pitchLo : 0 ≤ c.pitchLo
  tsLo : 0 ≤ c.tsLo
  defDen : 0 ≤ c.defDen

instance (c : Cfg) : Decidable (CfgNonneg c) :=
  decidable_of_iff ((∀ x ∈ c.steps, 0 ≤ x) ∧ (∀ x ∈ c.values, 0 ≤ x) ∧ (∀ x ∈ c.bins, 0 ≤ x)
      ∧ 0 ≤ c.pitchLo ∧ 0 ≤ c.tsLo ∧ 0 ≤ c.defDen)
    ⟨fun ⟨a, b, c, d, e, f⟩ => ⟨a, b, c, d, e, f⟩, fun ⟨a, b, c, d, e, f⟩ => ⟨a, b, c, d, e, f⟩⟩

theorem optNonneg_of_mem_opts {l : List Int} {b : Bool} {o : Option Int}
    (hl : ∀ x ∈ l, 0 ≤ x) (h : o ∈ (if b then l.map some else [Option.none])) : OptNonneg o := by
  cases b
  · simp only [Bool.false_eq_true, if_false, List.mem_singleton] at h; subst h; trivial
  · simp only [if_true, List.mem_map] at h
    obtain ⟨x, hx, rfl⟩ := h
    exact hl x hx

theorem vocab_tokOk (c : Cfg) (h : CfgNonneg c) (t : Tok) (ht : t ∈ vocabSeq c) : TokOk t := by
  cases t with
  | pad | sta | sto | bar => trivial
  | rest v => exact h.steps v (Vocab.rest_mem.1 ht)
  | trk v => exact (Vocab.mem_tracks.1 (Vocab.trk_mem.1 ht).2).1
  | val v => exact h.values v (Vocab.val_mem.1 ht).2
  | vel v => exact h.bins v (Vocab.vel_mem.1 ht).2
  | note t p v w =>
    obtain ⟨h1, h2, h3, h4⟩ := Vocab.note_mem.1 ht
    refine ⟨?_, ?_, optNonneg_of_mem_opts h.values h3, optNonneg_of_mem_opts h.bins h4⟩
    · exact optNonneg_of_mem_opts (fun x hx => (Vocab.mem_tracks.1 hx).1) h1
    · have := h.pitchLo; omega
  | tsig a b =>
    obtain ⟨h1, rfl⟩ := Vocab.tsig_mem.1 ht
    exact ⟨by have := h.tsLo; omega, h.defDen⟩

end SCoda.RenderL
