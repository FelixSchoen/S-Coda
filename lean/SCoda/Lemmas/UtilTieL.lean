/-
  For Props/UtilTie.lean (generated util functions of Gen/UtilFns.lean = hand models): the loop state of
  `find_minimal_distance` that stands for the hand model's `best` (`distOf`, `idxOf`); the two `while` loops of
  `get_note_durations` as instances of one loop (`whilePy`: the hand transcriptions `noteDurUpPy` / `noteDurDownPy`;
  `whileStep`: one round of the generated run), and the adequacy of the stated fuel.
-/
import Mathlib.Data.Rat.Lemmas
import Mathlib.Data.Rat.Floor
import Mathlib.Tactic.Linarith
import SCoda.Lemmas.PyLoop
import SCoda.Gen.UtilFns
import SCoda.Model.Quantise
import SCoda.Model.Token
namespace SCoda.UtilTieL
open SCoda SCoda.Util SCoda.PyNum

instance {ε α : Type} [DecidableEq ε] [DecidableEq α] : DecidableEq (Except ε α)
  | .ok a, .ok b => if h : a = b then isTrue (h ▸ rfl) else isFalse (fun h' => h (by cases h'; rfl))
  | .error a, .error b => if h : a = b then isTrue (h ▸ rfl) else isFalse (fun h' => h (by cases h'; rfl))
  | .ok _, .error _ => isFalse (by intro h; cases h)
  | .error _, .ok _ => isFalse (by intro h; cases h)

theorem ok_bind {α β ε : Type} (x : α) (f : α → Except ε β) : (Except.ok x >>= f) = f x := SCoda.ok_bind x f
theorem error_bind {α β ε : Type} (e : ε) (f : α → Except ε β) : (Except.error e >>= f) = Except.error e := SCoda.error_bind e f
theorem pure_eq_ok {α ε : Type} (x : α) : (pure x : Except ε α) = Except.ok x := SCoda.pure_eq_ok x

/-- `enumerate` with an explicit start -/
def enumFrom {α : Type} : Nat → List α → List (PyNum × α)
  | _, [] => []
  | k, x :: xs => (PyNum.int (k : Int), x) :: enumFrom (k + 1) xs

theorem enum_aux {α : Type} (l : List α) : ∀ k : Nat,
    ((List.range' k l.length).zip l).map (fun (p : Nat × α) => (PyNum.int (p.1 : Int), p.2)) = enumFrom k l := by
  induction l with
  | nil => intro k; rfl
  | cons x xs ih =>
    intro k
    simp only [List.length_cons, List.range'_succ, List.zip_cons_cons, List.map_cons, enumFrom, ih (k + 1)]

theorem pyEnumerate_eq {α : Type} (l : List α) : pyEnumerate l = enumFrom 0 l := by
  unfold pyEnumerate
  rw [List.range_eq_range']
  exact enum_aux l 0

theorem pyRange_int (a b : Int) :
    pyRange (.int a) (.int b) = .ok ((List.range (b - a).toNat).map fun (k : Nat) => PyNum.int (a + (k : Int))) := rfl

/-- the loop state (`distance`, `index`) of the generated code that stands for the `best` of the hand model -/
def distOf : Option (Nat × Int) → PyNumInf
  | none => .inf
  | some (_, bd) => .fin (.int bd)

def idxOf : Option (Nat × Int) → PyNum
  | none => .int 0
  | some (i, _) => .int (i : Int)

theorem lt_int (a b : Int) : PyNum.lt (.int a) (.int b) = decide (a < b) := by
  simp [PyNum.lt, PyNum.toRat]

theorem eq_zero_int (n : Nat) : (PyNumInf.fin (.int (n : Int))).eq (.fin (.int 0)) = (n == 0) := by
  simp [PyNumInf.eq, PyNum.toRat, beq_eq_decide]

theorem lt_distOf (n : Nat) : ∀ best : Option (Nat × Int),
    (PyNumInf.fin (.int (n : Int))).lt (distOf best) = match best with | none => true | some (_, bd) => decide ((n : Int) < bd)
  | none => rfl
  | some (_, bd) => lt_int _ bd

theorem toRat_mul (a b : PyNum) : (PyNum.mul a b).toRat = a.toRat * b.toRat := by
  cases a <;> cases b <;> simp [PyNum.mul, PyNum.toRat]

theorem toRat_truediv (a b : PyNum) : (PyNum.truediv a b).toRat = a.toRat / b.toRat := rfl

theorem pyTruediv_two (a : PyNum) : pyTruediv a (.int 2) = .ok (PyNum.truediv a (.int 2)) := by
  simp [pyTruediv, PyNum.toRat]

theorem pyTruediv_ne (a b : PyNum) (h : b.toRat ≠ 0) : pyTruediv a b = .ok (PyNum.truediv a b) := by
  simp [pyTruediv, h]

/-- `while test x: out.append(emit x); x = next x`, the shape of both loops of `get_note_durations`, as the hand
    transcriptions write it (`none` when the fuel runs out) … -/
def whilePy (test : PyNum → Bool) (emit next : PyNum → PyNum) : Nat → PyNum → Option (List PyNum)
  | 0, _ => none
  | fuel + 1, x => if test x then (whilePy test emit next fuel (next x)).map (emit x :: ·) else some []

/-- … and one round of it as the generated code runs it, on the state (durations, loop variable) -/
def whileStep (test : PyNum → Bool) (emit next : PyNum → PyNum) (st : List PyNum × PyNum) : ForInStep (List PyNum × PyNum) :=
  if test st.2 then .yield (st.1 ++ [emit st.2], next st.2) else .done st

theorem noteDurUpPy_eq_while (base : PyNum) (fuel : Nat) (i : PyNum) :
    noteDurUpPy base fuel i
      = whilePy (PyNum.ge · (.int 1)) (fun i => pyint (PyNum.mul i base)) (PyNum.truediv · (.int 2)) fuel i := by
  induction fuel generalizing i with
  | zero => rfl
  | succ fuel ih => rw [noteDurUpPy, whilePy, ih]

theorem noteDurDownPy_eq_while (base lb : PyNum) (fuel : Nat) (j : PyNum) :
    noteDurDownPy base lb fuel j
      = whilePy (PyNum.le · lb) (fun j => pyint (PyNum.truediv base j)) (PyNum.mul · (.int 2)) fuel j := by
  induction fuel generalizing j with
  | zero => rfl
  | succ fuel ih => rw [noteDurDownPy, whilePy, ih]

section
variable {test : PyNum → Bool} {emit next : PyNum → PyNum}

/-- the generated loop against the hand transcription (fuel `n + 1` there = `n` iterations + the final test here) -/
theorem while_rel : ∀ (n : Nat) (ds : List PyNum) (x : PyNum),
    match whilePy test emit next (n + 1) x with
    | some r => (runN (whileStep test emit next) n (ds, x)).1 = ds ++ r ∧ test (runN (whileStep test emit next) n (ds, x)).2 = false
    | Option.none => test (runN (whileStep test emit next) n (ds, x)).2 = true := by
  intro n
  induction n with
  | zero =>
    intro ds x
    rw [whilePy, whilePy, runN]
    by_cases h : test x = true
    · simp only [h, if_true]; exact trivial
    · simp only [h]; exact ⟨(List.append_nil ds).symm, trivial⟩
  | succ n ih =>
    intro ds x
    rw [whilePy, runN, whileStep]
    by_cases h : test x = true
    · have := ih (ds ++ [emit x]) (next x)
      simp only [h, if_true]
      cases hr : whilePy test emit next (n + 1) (next x) with
      | none => rw [hr] at this; exact this
      | some r => rw [hr] at this; simpa using this
    · simp only [h]; exact ⟨(List.append_nil ds).symm, (Bool.not_eq_true _).mp h⟩

theorem whilePy_mono : ∀ (f : Nat) (x : PyNum) (r : List PyNum), whilePy test emit next f x = some r →
    ∀ f', f ≤ f' → whilePy test emit next f' x = some r := by
  intro f
  induction f with
  | zero => intro x r h; cases h
  | succ f ih =>
    intro x r h f' hf
    obtain ⟨g, rfl⟩ : ∃ g, f' = g + 1 := ⟨f' - 1, by omega⟩
    rw [whilePy] at h ⊢
    cases hc : test x
    · rw [hc] at h; exact h
    · rw [hc] at h
      obtain ⟨r', hr, rfl⟩ := Option.map_eq_some_iff.1 h
      simp only [if_true, ih _ _ hr g (by omega), Option.map_some]

theorem whilePy_unique {f f' : Nat} {x : PyNum} {r r' : List PyNum}
    (h : whilePy test emit next f x = some r) (h' : whilePy test emit next f' x = some r') : r = r' := by
  have a := whilePy_mono f x r h (max f f') (Nat.le_max_left _ _)
  have b := whilePy_mono f' x r' h' (max f f') (Nat.le_max_right _ _)
  rw [a] at b; exact Option.some.inj b

theorem whilePy_isSome (Q : Nat → PyNum → Prop) (h0 : ∀ x, Q 0 x → test x = false)
    (hs : ∀ n x, Q (n + 1) x → test x = true → Q n (next x)) :
    ∀ (n : Nat) (x : PyNum), Q n x → (whilePy test emit next (n + 1) x).isSome = true := by
  intro n
  induction n with
  | zero => intro x h; rw [whilePy, h0 x h]; rfl
  | succ n ih =>
    intro x h
    rw [whilePy]
    cases ht : test x with
    | false => rfl
    | true => rw [if_pos rfl, Option.isSome_map]; exact ih _ (hs n x h ht)

end

theorem noteDurUpPy_mono (base : PyNum) (f : Nat) (i : PyNum) (r : List PyNum) (h : noteDurUpPy base f i = some r)
    (f' : Nat) (hf : f ≤ f') : noteDurUpPy base f' i = some r := by
  rw [noteDurUpPy_eq_while] at h ⊢; exact whilePy_mono f i r h f' hf

theorem noteDurDownPy_mono (base lb : PyNum) (f : Nat) (j : PyNum) (r : List PyNum)
    (h : noteDurDownPy base lb f j = some r) (f' : Nat) (hf : f ≤ f') : noteDurDownPy base lb f' j = some r := by
  rw [noteDurDownPy_eq_while] at h ⊢; exact whilePy_mono f j r h f' hf

theorem noteDurUpPy_unique (base : PyNum) {f f' : Nat} {i : PyNum} {r r' : List PyNum}
    (h : noteDurUpPy base f i = some r) (h' : noteDurUpPy base f' i = some r') : r = r' := by
  rw [noteDurUpPy_eq_while] at h h'; exact whilePy_unique h h'

theorem noteDurDownPy_unique (base lb : PyNum) {f f' : Nat} {j : PyNum} {r r' : List PyNum}
    (h : noteDurDownPy base lb f j = some r) (h' : noteDurDownPy base lb f' j = some r') : r = r' := by
  rw [noteDurDownPy_eq_while] at h h'; exact whilePy_unique h h'

theorem getNoteDurations_loops (ub lb base : PyNum) :
    Gen.Util.getNoteDurations ub lb base =
      match noteDurUpPy base (whileFuel ub (.int 1) + 1) ub, noteDurDownPy base lb (whileFuel (.int 2) lb + 1) (.int 2) with
      | some a, some b => .ok (a ++ b)
      | _, _ => .error .fuel := by
  unfold Gen.Util.getNoteDurations
  simp only []
  rw [forIn_replicate (fun s => s) (fun _ => True)
        (whileStep (PyNum.ge · (.int 1)) (fun i => pyint (PyNum.mul i base)) (PyNum.truediv · (.int 2))) _ (fun _ _ _ _ => trivial)
        (fun s _ => by cases h : s.2.ge (int 1) <;> simp [whileStep, h, pyTruediv_two, pure_eq_ok, ok_bind]) _ _ trivial _ rfl]
  simp only [ok_bind]
  have hu := while_rel (test := (PyNum.ge · (.int 1))) (emit := fun i => pyint (PyNum.mul i base))
    (next := (PyNum.truediv · (.int 2))) (whileFuel ub (.int 1)) [] ub
  rw [← noteDurUpPy_eq_while] at hu
  cases h1 : noteDurUpPy base (whileFuel ub (.int 1) + 1) ub with
  | none =>
    rw [h1] at hu
    simp only [hu, if_true]
    rfl
  | some a =>
    rw [h1] at hu
    simp only [List.nil_append] at hu
    obtain ⟨hu1, hu2⟩ := hu
    simp only [hu2, Bool.false_eq_true, if_false]
    have h2pos : (0 : Rat) < (PyNum.int 2).toRat := by simp [PyNum.toRat]
    rw [forIn_replicate (fun s => s) (fun s => 0 < s.2.toRat)
          (whileStep (PyNum.le · lb) (fun j => pyint (PyNum.truediv base j)) (PyNum.mul · (.int 2))) _
          (fun s s' hs h => by unfold whileStep at h; split at h <;> cases h; rw [toRat_mul]; exact mul_pos hs h2pos)
          (fun s hs => by cases h : s.2.le lb <;> simp [whileStep, h, pyTruediv_ne _ _ (ne_of_gt hs), pure_eq_ok, ok_bind])
          _ _ h2pos _ rfl]
    simp only [ok_bind, hu1]
    have hd := while_rel (test := (PyNum.le · lb)) (emit := fun j => pyint (PyNum.truediv base j))
      (next := (PyNum.mul · (.int 2))) (whileFuel (.int 2) lb) a (.int 2)
    rw [← noteDurDownPy_eq_while] at hd
    cases h2 : noteDurDownPy base lb (whileFuel (.int 2) lb + 1) (.int 2) with
    | none =>
      rw [h2] at hd
      simp only [hd, if_true]
      rfl
    | some b =>
      rw [h2] at hd
      simp only at hd
      simp only [hd.2, Bool.false_eq_true, if_false, hd.1]
      rfl

theorem le_ratAbs (q : Rat) : q ≤ ratAbs q := by
  unfold ratAbs; split <;> linarith

theorem ratAbs_nonneg (q : Rat) : 0 ≤ ratAbs q := by
  unfold ratAbs; split <;> linarith

theorem lt_whileFuel (a b : PyNum) : ratAbs (a.toRat - b.toRat) + 1 < ((whileFuel a b : Nat) : Rat) := by
  unfold whileFuel
  have hd := ratAbs_nonneg (a.toRat - b.toRat)
  generalize ratAbs (a.toRat - b.toRat) = d at *
  have h0 : 0 ≤ d.floor := Rat.le_floor_iff.mpr (by simpa using hd)
  have h1 := Rat.lt_floor_add_one d
  have h2 : ((d.floor.toNat : Nat) : Int) = d.floor := Int.toNat_of_nonneg h0
  have h3 : (((d.floor.toNat + 2 : Nat)) : Rat) = ((d.floor : Int) : Rat) + 2 := by
    have : ((d.floor.toNat : Nat) : Rat) = ((d.floor : Int) : Rat) := by exact_mod_cast congrArg (fun z : Int => (z : Rat)) h2
    push_cast; rw [this]
  rw [h3]
  push_cast at h1
  linarith

theorem lt_two_pow (n : Nat) : ((n : Nat) : Rat) < (2 : Rat) ^ n := by
  have := Nat.lt_two_pow_self (n := n)
  exact_mod_cast this

theorem noteDurUpPy_isSome (base : PyNum) (n : Nat) (i : PyNum) (h : i.toRat < (2 : Rat) ^ n) :
    (noteDurUpPy base (n + 1) i).isSome = true := by
  rw [noteDurUpPy_eq_while]
  refine whilePy_isSome (fun n i => i.toRat < (2 : Rat) ^ n) (fun x h => ?_) (fun n x h _ => ?_) n i h
  · have e1 : (PyNum.int 1).toRat = 1 := by simp [PyNum.toRat]
    show PyNum.ge x (.int 1) = false
    unfold PyNum.ge
    rw [e1, decide_eq_false_iff_not, not_le]
    simpa using h
  · show (PyNum.truediv x (.int 2)).toRat < _
    rw [toRat_truediv]
    simp only [PyNum.toRat]
    rw [pow_succ] at h
    rw [show ((2 : Int) : Rat) = 2 by norm_num, div_lt_iff₀ (by norm_num)]
    exact h

theorem noteDurDownPy_isSome (base lb : PyNum) (n : Nat) (j : PyNum) (hj : 0 < j.toRat)
    (h : lb.toRat < j.toRat * (2 : Rat) ^ n) : (noteDurDownPy base lb (n + 1) j).isSome = true := by
  rw [noteDurDownPy_eq_while]
  refine whilePy_isSome (fun n j => 0 < j.toRat ∧ lb.toRat < j.toRat * (2 : Rat) ^ n) (fun x h => ?_)
    (fun n x h _ => ?_) n j ⟨hj, h⟩
  · show PyNum.le x lb = false
    simp only [PyNum.le, decide_eq_false_iff_not, not_le]
    simpa using h.2
  · show 0 < (PyNum.mul x (.int 2)).toRat ∧ lb.toRat < (PyNum.mul x (.int 2)).toRat * _
    have h2 : (PyNum.int 2).toRat = 2 := by simp [PyNum.toRat]
    have := h.1
    have := h.2
    rw [toRat_mul, h2]
    rw [pow_succ] at this
    constructor <;> linarith

/-- the stated fuel always suffices: the generated `get_note_durations` never answers `fuel` -/
theorem up_fuel_ok (base ub : PyNum) : ∃ a, noteDurUpPy base (whileFuel ub (.int 1) + 1) ub = some a := by
  apply Option.isSome_iff_exists.1
  apply noteDurUpPy_isSome
  have h1 := lt_whileFuel ub (.int 1)
  have h2 := le_ratAbs (ub.toRat - (PyNum.int 1).toRat)
  have h3 := lt_two_pow (whileFuel ub (.int 1))
  have e1 : (PyNum.int 1).toRat = 1 := by simp [PyNum.toRat]
  rw [e1] at h1 h2
  linarith

theorem down_fuel_ok (base lb : PyNum) : ∃ b, noteDurDownPy base lb (whileFuel (.int 2) lb + 1) (.int 2) = some b := by
  apply Option.isSome_iff_exists.1
  apply noteDurDownPy_isSome
  · simp [PyNum.toRat]
  have h1 := lt_whileFuel (.int 2) lb
  have h2 := le_ratAbs (-((PyNum.int 2).toRat - lb.toRat))
  have h4 : ratAbs (-((PyNum.int 2).toRat - lb.toRat)) = ratAbs ((PyNum.int 2).toRat - lb.toRat) := by
    unfold ratAbs; split <;> split <;> linarith
  have h3 := lt_two_pow (whileFuel (.int 2) lb)
  rw [h4] at h2
  have e2 : (PyNum.int 2).toRat = 2 := by simp [PyNum.toRat]
  rw [e2] at h1 h2 ⊢
  have h5 : (1 : Rat) ≤ (2 : Rat) ^ whileFuel (int 2) lb := one_le_pow₀ (by norm_num)
  linarith

theorem pyPow_two (k : Nat) : pyPow (int 2) ((PyNum.int (k : Int)).add (int 1)) = .ok (powInt 2 ((k : Int) + 1)) := by
  simp [pyPow, PyNum.add]

theorem powInt_two_ne (k : Nat) : (powInt 2 ((k : Int) + 1)).toRat ≠ 0 := by
  have h : (0 : Int) ≤ (k : Int) + 1 := by omega
  simp only [powInt, h, if_true, PyNum.toRat]
  have : ((2 : Int) ^ ((k : Int) + 1).toNat) ≠ 0 := pow_ne_zero _ (by decide)
  exact_mod_cast this

/-- the value filter of one pass of `get_dotted_note_durations` -/
def dottedPass (nds : List PyNum) (it : Int) : List PyNum :=
  nds.filterMap fun nd =>
    let cand := dottedCandidatePy nd it
    if isInteger cand then some (pyint cand) else none

theorem int_toRat_ne (n : Int) (h : n ≠ 0) : (PyNum.int n).toRat ≠ 0 := by
  simp only [PyNum.toRat]; exact_mod_cast h

theorem mapM_ok {α β ε : Type} (f : α → β) (l : List α) :
    List.mapM (fun a => (Except.ok (f a) : Except ε β)) l = .ok (l.map f) :=
  mapM_eq_map _ f l fun _ _ => rfl

theorem le_int (a b : Int) : PyNum.le (.int a) (.int b) = decide (a ≤ b) := by
  simp [PyNum.le, PyNum.toRat]

theorem mono_sorted : ∀ (l : List Int), l.Pairwise (· ≤ ·) →
    ((l.map PyNum.int).zip (l.map PyNum.int).tail).all (fun p => PyNum.le p.1 p.2) = true := by
  intro l
  induction l with
  | nil => intro _; rfl
  | cons a as ih =>
    intro h
    cases as with
    | nil => rfl
    | cons b rest =>
      have hab : a ≤ b := (List.pairwise_cons.mp h).1 b (by simp)
      have := ih (List.pairwise_cons.mp h).2
      simp only [List.map_cons, List.tail_cons, List.zip_cons_cons, List.all_cons, le_int, hab, decide_true, Bool.true_and] at this ⊢
      exact this

theorem npMonotonicity_sorted (l : List Int) (h : l.Pairwise (· ≤ ·)) : npMonotonicity (l.map PyNum.int) = 1 := by
  unfold npMonotonicity
  simp only [mono_sorted l h, if_true]

theorem filter_lt_int (l : List Int) (v : Int) :
    ((l.map PyNum.int).filter fun b => PyNum.lt b (.int v)).length = (l.filter (fun b => b < v)).length := by
  induction l with
  | nil => rfl
  | cons a as ih =>
    simp only [List.map_cons, List.filter_cons, lt_int]
    by_cases h : a < v <;> simp [h, ih]

theorem toRat_add (a b : PyNum) : (PyNum.add a b).toRat = a.toRat + b.toRat := by
  cases a <;> cases b <;> simp [PyNum.add, PyNum.toRat]

theorem toRat_sub (a b : PyNum) : (PyNum.sub a b).toRat = a.toRat - b.toRat := by
  cases a <;> cases b <;> simp [PyNum.sub, PyNum.toRat]

theorem msgDictValues_all (a b : Msg) :
    ((Gen.Util.msgDictValues a).zip (Gen.Util.msgDictValues b)).all (fun x => x.1 == x.2) = decide (a = b) := by
  cases a; cases b
  rw [Bool.eq_iff_iff]
  simp [Gen.Util.msgDictValues]

end SCoda.UtilTieL
