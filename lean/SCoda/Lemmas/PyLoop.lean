/-
  What every tie of a translated function to its model rests on, for any error type `ε`: the equations of `Except ε`
  (simp set `pysimp`); two ways of saying what a computation delivers, `Sat` (read from the code's result) and `Agrees`
  (read from the result of a model computation that may fail); and the rules for a `for` loop over a list.  There is one
  general rule, `forIn_inv` (an invariant of the elements still to come and the loop state); the rules named after a
  shape of loop are its readings, except where the right side is a recursion of its own (the closed form, a `while`
  with fuel, a model fold over another list, slots updated in place).
-/
import SCoda.Lemmas.PyAttr
import SCoda.Model.Quantise  -- the model's `foldlM'` and `Err`, which `foldlM'_eq` and `foldlM'_collect` are about
import Batteries.Data.List.Basic
namespace SCoda

section equations
universe u v
variable {ε : Type u} {α β : Type v}

@[pysimp] theorem ok_bind (x : α) (f : α → Except ε β) : (Except.ok x >>= f) = f x := rfl
@[pysimp] theorem error_bind (e : ε) (f : α → Except ε β) : (Except.error e >>= f) = Except.error e := rfl
@[pysimp] theorem map_ok (f : α → β) (x : α) : f <$> (Except.ok x : Except ε α) = Except.ok (f x) := rfl
@[pysimp] theorem map_error (f : α → β) (e : ε) : f <$> (Except.error e : Except ε α) = Except.error e := rfl
@[pysimp] theorem pure_eq_ok (x : α) : (pure x : Except ε α) = Except.ok x := rfl
@[pysimp] theorem throw_eq_error (e : ε) : (throw e : Except ε α) = Except.error e := rfl

theorem bind_eq_ok {x : Except ε α} {f : α → Except ε β} {b : β} (h : x >>= f = .ok b) : ∃ a, x = .ok a ∧ f a = .ok b := by
  cases x with
  | error e => cases h
  | ok a => exact ⟨a, rfl, h⟩

end equations

/-- what lets `decide` close an equation between two results of a translated function -/
instance {ε α : Type} [DecidableEq ε] [DecidableEq α] : DecidableEq (Except ε α)
  | .ok a, .ok b => if h : a = b then isTrue (h ▸ rfl) else isFalse (fun h' => h (by cases h'; rfl))
  | .error a, .error b => if h : a = b then isTrue (h ▸ rfl) else isFalse (fun h' => h (by cases h'; rfl))
  | .ok _, .error _ => isFalse (by intro h; cases h)
  | .error _, .ok _ => isFalse (by intro h; cases h)

section loops
variable {α β γ δ ε : Type}

/-- The loop rule.  `I rest b` holds before each round (`rest` = the elements still to come); a round that continues
    re-establishes it, a round that stops (`break`, `return`, an exception) and the end of the list establish `Q`. -/
theorem forIn_inv (I : List α → β → Prop) (Q : Except ε β → Prop) (f : α → β → Except ε (ForInStep β))
    (hnil : ∀ b, I [] b → Q (.ok b))
    (hstep : ∀ a as b, I (a :: as) b →
      match f a b with
      | .ok (.yield b') => I as b'
      | .ok (.done b') => Q (.ok b')
      | .error e => Q (.error e)) :
    ∀ (l : List α) (b : β), I l b → Q (forIn l b f) := by
  intro l
  induction l with
  | nil => intro b h; exact hnil b h
  | cons a as ih =>
    intro b h
    have hs := hstep a as b h
    rw [List.forIn_cons]
    cases hf : f a b with
    | error e => rw [hf] at hs; exact hs
    | ok s =>
      rw [hf] at hs
      cases s with
      | done b' => exact hs
      | yield b' => exact ih b' hs

/-- closed form of what is read (`π`) from the final state: `spec [] b = pure (π b)`, and `spec (a :: as) b` is one round
    followed by `spec as` or by stopping; the body is found by unification.  `P` is a side condition on the elements. -/
theorem forIn_spec_proj (π : β → δ) (P : α → Prop) (f : α → β → Except ε (ForInStep β)) (spec : List α → β → Except ε δ)
    (hnil : ∀ b, spec [] b = pure (π b))
    (hstep : ∀ a as b, P a →
      (f a b >>= fun s => match s with | .yield b' => spec as b' | .done b' => pure (π b')) = spec (a :: as) b)
    (l : List α) (b : β) (hP : ∀ a ∈ l, P a) : (forIn l b f >>= fun r => pure (π r)) = spec l b := by
  induction l generalizing b with
  | nil => rw [hnil]; rfl
  | cons a as ih =>
    rw [List.forIn_cons, ← hstep a as b (hP a List.mem_cons_self), bind_assoc]
    congr 1; funext s
    cases s with
    | done b' => rfl
    | yield b' => exact ih b' fun x hx => hP x (List.mem_cons_of_mem _ hx)

theorem forIn_spec (P : α → Prop) (f : α → β → Except ε (ForInStep β)) (spec : List α → β → Except ε β)
    (hnil : ∀ b, spec [] b = pure b)
    (hstep : ∀ a as b, P a →
      (f a b >>= fun s => match s with | .yield b' => spec as b' | .done b' => pure b') = spec (a :: as) b)
    (l : List α) (b : β) (hP : ∀ a ∈ l, P a) : forIn l b f = spec l b :=
  (bind_pure _).symm.trans (forIn_spec_proj id P f spec hnil hstep l b hP)

theorem forIn_spec' (f : α → β → Except ε (ForInStep β)) (spec : List α → β → Except ε β)
    (hnil : ∀ b, spec [] b = pure b)
    (hstep : ∀ a as b,
      (f a b >>= fun s => match s with | .yield b' => spec as b' | .done b' => pure b') = spec (a :: as) b)
    (l : List α) (b : β) : forIn l b f = spec l b :=
  forIn_spec (fun _ => True) f spec hnil (fun a as b _ => hstep a as b) l b (fun _ _ => trivial)

/-- a body without `break`: the loop is a fold.  The generated state `β` (a tuple of the `let mut` variables) is read
    through `e` from a state `γ` of one's own choosing (a structure, say); `P` is an invariant of that state. -/
theorem forIn_fold_view (e : γ → β) (P : γ → Prop) (g : γ → α → γ) (f : α → β → Except ε (ForInStep β)) (l : List α)
    (hP : ∀ s a, a ∈ l → P s → P (g s a))
    (hf : ∀ a ∈ l, ∀ s, P s → f a (e s) = .ok (.yield (e (g s a)))) (s : γ) (hs : P s) (b : β) (hb : b = e s) :
    forIn l b f = .ok (e (l.foldl g s)) := by
  refine forIn_inv (fun as b => (∀ a ∈ as, a ∈ l) ∧ ∃ s', P s' ∧ b = e s' ∧ as.foldl g s' = l.foldl g s)
    (· = .ok (e (l.foldl g s))) f ?_ ?_ l b ⟨fun _ h => h, s, hs, hb, rfl⟩
  · rintro b ⟨_, s', _, rfl, h⟩; rw [← h]; rfl
  · rintro a as b ⟨hm, s', hs', rfl, h⟩
    have ha := hm a List.mem_cons_self
    rw [hf a ha s' hs']
    exact ⟨fun x hx => hm x (List.mem_cons_of_mem _ hx), g s' a, hP s' a ha hs', rfl, h⟩

theorem forIn_fold (P : β → Prop) (g : β → α → β) (f : α → β → Except ε (ForInStep β)) (l : List α)
    (hP : ∀ b a, a ∈ l → P b → P (g b a))
    (hf : ∀ a ∈ l, ∀ b, P b → f a b = .ok (.yield (g b a))) (b : β) (hb : P b) :
    forIn l b f = .ok (l.foldl g b) :=
  forIn_fold_view id P g f l hP hf b hb b rfl

theorem forIn_fold' (g : β → α → β) (f : α → β → Except ε (ForInStep β)) (hf : ∀ a b, f a b = .ok (.yield (g b a)))
    (l : List α) (b : β) : forIn l b f = .ok (l.foldl g b) :=
  forIn_fold (fun _ => True) g f l (fun _ _ _ _ => trivial) (fun a _ b _ => hf a b) b trivial

@[pysimp] theorem forIn_ok_yield (g : β → α → β) (l : List α) (b : β) :
    forIn l b (fun a s => (Except.ok (ForInStep.yield (g s a)) : Except ε (ForInStep β))) = .ok (l.foldl g b) :=
  forIn_fold' g _ (fun _ _ => rfl) l b

/-- the same before `pure` is rewritten to `.ok` -/
theorem forIn_pure_yield (g : β → α → β) (l : List α) (b : β) :
    forIn l b (fun a s => (pure (ForInStep.yield (g s a)) : Except ε (ForInStep β))) = pure (l.foldl g b) :=
  forIn_ok_yield g l b

theorem foldl_snoc_map (g : α → β) (l : List α) : ∀ acc : List β, l.foldl (fun acc a => acc ++ [g a]) acc = acc ++ l.map g := by
  induction l with
  | nil => simp
  | cons a as ih => intro acc; simp [ih]

/-- `out = []; for x in l: out.append(g(x))` -/
theorem forIn_collect (g : α → β) (f : α → List β → Except ε (ForInStep (List β))) (l : List α)
    (hf : ∀ a ∈ l, ∀ acc, f a acc = .ok (.yield (acc ++ [g a]))) (acc : List β) :
    forIn l acc f = .ok (acc ++ l.map g) := by
  rw [forIn_fold (fun _ => True) (fun acc a => acc ++ [g a]) f l (fun _ _ _ _ => trivial) (fun a ha acc _ => hf a ha acc) acc trivial,
    foldl_snoc_map]

/-- a body that only tests its element and returns `D` at the first failure (`for x in l: if not p(x): return …`) -/
theorem forIn_all (p : α → Bool) (N D : β) (f : α → β → Except ε (ForInStep β)) (l : List α)
    (hf : ∀ a ∈ l, f a N = .ok (if p a = true then .yield N else .done D)) :
    forIn l N f = .ok (if l.all p = true then N else D) := by
  refine forIn_inv (fun as b => (∀ a ∈ as, a ∈ l) ∧ b = N ∧ (l.all p = as.all p))
    (· = .ok (if l.all p = true then N else D)) f ?_ ?_ l N ⟨fun _ h => h, rfl, rfl⟩
  · rintro b ⟨_, rfl, h⟩; rw [h]; rfl
  · rintro a as b ⟨hm, rfl, h⟩
    rw [hf a (hm a List.mem_cons_self), h, List.all_cons]
    cases p a
    · rfl
    · exact ⟨fun x hx => hm x (List.mem_cons_of_mem _ hx), rfl, rfl⟩

/-- `n` rounds of a step that continues or stops: what a `while` loop translated with fuel `n` runs -/
def runN (step : β → ForInStep β) : Nat → β → β
  | 0, b => b
  | n + 1, b => match step b with | .done b' => b' | .yield b' => runN step n b'

/-- `while` with fuel, through a view `e` and under an invariant `P` of the state as in `forIn_fold_view` -/
theorem forIn_replicate (e : γ → β) (P : γ → Prop) (step : γ → ForInStep γ) (f : Unit → β → Except ε (ForInStep β))
    (hP : ∀ s s', P s → step s = .yield s' → P s')
    (hf : ∀ s, P s → f () (e s) = .ok (match step s with | .yield s' => .yield (e s') | .done s' => .done (e s')))
    (n : Nat) (s : γ) (hs : P s) (b : β) (hb : b = e s) : forIn (List.replicate n ()) b f = .ok (e (runN step n s)) := by
  subst hb
  induction n generalizing s with
  | zero => rfl
  | succ n ih =>
    rw [List.replicate_succ, List.forIn_cons, hf s hs, runN]
    cases h : step s with
    | done s' => rfl
    | yield s' => exact ih s' (hP s s' hs h)

/-- a model result seen from the generated side: the state through `G`, the error through `E` -/
def liftR {ε' : Type} (E : ε' → ε) (G : γ → β) : Except ε' γ → Except ε β
  | .ok c => .ok (G c)
  | .error x => .error (E x)

theorem liftR_id (G : γ → β) (x : Except ε γ) : liftR id G x = x.map G := by cases x <;> rfl

/-- a body without `break` that is one step of a model fold, seen through `G`: the step may fail (error translated by
    `E`), the model may visit other elements than the code (`Q`: a string and the token it is read as), `I` is an
    invariant of the model state -/
theorem forIn_foldlM₂ {ε' α' : Type} (E : ε' → ε) (G : γ → β) (Q : α → α' → Prop) (I : γ → Prop)
    (step : γ → α' → Except ε' γ) (f : α → β → Except ε (ForInStep β))
    (hf : ∀ a a' s, Q a a' → I s → f a (G s) = liftR E (fun s' => ForInStep.yield (G s')) (step s a'))
    (hI : ∀ a a' s s', Q a a' → I s → step s a' = .ok s' → I s') :
    ∀ {xs : List α} {ys : List α'}, List.Forall₂ Q xs ys → ∀ s, I s → forIn xs (G s) f = liftR E G (ys.foldlM step s) := by
  intro xs ys h
  induction h with
  | nil => intro s _; rfl
  | @cons a a' xs ys haa _ ih =>
    intro s hs
    rw [List.forIn_cons, hf a a' s haa hs, List.foldlM_cons]
    cases h1 : step s a' with
    | error e => rfl
    | ok s' => exact ih s' (hI a a' s s' haa hs h1)

theorem forIn_foldlM {ε' : Type} (E : ε' → ε) (G : γ → β) (I : γ → Prop) (step : γ → α → Except ε' γ)
    (f : α → β → Except ε (ForInStep β)) (l : List α)
    (hf : ∀ a ∈ l, ∀ s, I s → f a (G s) = liftR E (fun s' => ForInStep.yield (G s')) (step s a))
    (hI : ∀ a ∈ l, ∀ s s', I s → step s a = .ok s' → I s') (s : γ) (hs : I s) :
    forIn l (G s) f = liftR E G (l.foldlM step s) := by
  have h2 : ∀ l' : List α, (∀ a ∈ l', a ∈ l) → List.Forall₂ (fun a b => a = b ∧ a ∈ l) l' l' := by
    intro l'
    induction l' with
    | nil => intro _; exact .nil
    | cons x xs ih => intro h; exact .cons ⟨rfl, h x (by simp)⟩ (ih fun a ha => h a (by simp [ha]))
  exact forIn_foldlM₂ E G (fun a b => a = b ∧ a ∈ l) I step f (fun a a' s hq => by cases hq.1; exact hf a hq.2 s)
    (fun a a' s s' hq => by cases hq.1; exact hI a hq.2 s s') (h2 l fun _ h => h) s hs

/-- a loop that appends the result of a call that may fail is `mapM`; `emb` places the list in the loop state -/
theorem forIn_collectM {σ : Type} (emb : List γ → σ → β) (body : α → β → Except ε (ForInStep β)) (f : α → Except ε γ) (s : σ)
    (h : ∀ a acc, body a (emb acc s) = f a >>= fun x => pure (.yield (emb (acc ++ [x]) s))) (l : List α) (acc : List γ) :
    forIn l (emb acc s) body = l.mapM f >>= fun xs => pure (emb (acc ++ xs) s) := by
  induction l generalizing acc with
  | nil => simp
  | cons a as ih =>
    rw [List.forIn_cons, h, List.mapM_cons]
    simp only [bind_assoc, pure_bind]
    congr 1; funext x
    simp [ih]

/-- `for i in range(len(xs))` whose body reads slot `i`, runs `f` on it, writes slot `i` back and folds the second
    output into the rest of the state: one `mapM`.  `emb` places the list and the rest of the state in the loop state. -/
theorem forIn_range_slots {σ : Type} (emb : List α → σ → β) (body : Nat → β → Except ε (ForInStep β))
    (f : α → Except ε (α × γ)) (acc : σ → γ → σ)
    (h : ∀ (xs : List α) (s : σ) (i : Nat) (hi : i < xs.length),
      body i (emb xs s) = f xs[i] >>= fun o => pure (.yield (emb (xs.set i o.1) (acc s o.2)))) (xs : List α) (s : σ) :
    forIn (List.range xs.length) (emb xs s) body =
      xs.mapM f >>= fun os => pure (emb (os.map (·.1)) ((os.map (·.2)).foldl acc s)) := by
  have go : ∀ (xs pre : List α) (s : σ),
      forIn (List.range' pre.length xs.length) (emb (pre ++ xs) s) body =
        xs.mapM f >>= fun os => pure (emb (pre ++ os.map (·.1)) ((os.map (·.2)).foldl acc s)) := by
    intro xs
    induction xs with
    | nil => intro pre s; simp
    | cons x xs ih =>
      intro pre s
      rw [List.length_cons, List.range'_succ, List.forIn_cons, h _ _ _ (by simp), List.mapM_cons]
      simp only [List.getElem_append_right (Nat.le_refl _), Nat.sub_self, List.getElem_cons_zero, bind_assoc, pure_bind]
      congr 1; funext o
      have := ih (pre ++ [o.1]) (acc s o.2)
      simp only [List.length_append, List.length_singleton, List.append_assoc, List.singleton_append] at this
      simp [this]
  simpa [List.range_eq_range'] using go xs [] s

theorem mapM_eq_map (f : α → Except ε β) (g : α → β) (l : List α) (h : ∀ x ∈ l, f x = .ok (g x)) :
    l.mapM f = .ok (l.map g) := by
  induction l with
  | nil => rfl
  | cons x xs ih =>
    rw [List.mapM_cons, h x (by simp), ih (fun y hy => h y (by simp [hy]))]
    rfl

end loops

section sat
variable {α β ε : Type} {Q : α → Prop} {E : ε → Prop}

/-- `x` returns a value satisfying `Q`, or raises an error satisfying `E` -/
def Sat (x : Except ε α) (Q : α → Prop) (E : ε → Prop := fun _ => False) : Prop :=
  match x with
  | .ok a => Q a
  | .error e => E e

theorem Sat.bind {x : Except ε α} {f : α → Except ε β} {Q : β → Prop} (h : Sat x (fun a => Sat (f a) Q E) E) :
    Sat (x >>= f) Q E := by
  cases x <;> exact h

theorem Sat.imp {x : Except ε α} {Q' : α → Prop} {E' : ε → Prop} (h : Sat x Q E) (hq : ∀ a, Q a → Q' a)
    (he : ∀ e, E e → E' e) : Sat x Q' E' := by
  cases x
  · exact he _ h
  · exact hq _ h

theorem Sat.mono {x : Except ε α} {Q' : α → Prop} (h : Sat x Q E) (hq : ∀ a, Q a → Q' a) : Sat x Q' E :=
  h.imp hq fun _ => id

theorem Sat.run {x : Except ε α} (h : Sat x Q) : ∃ a, x = .ok a ∧ Q a := by
  cases x
  · exact h.elim
  · exact ⟨_, rfl, h⟩

theorem Sat.eq_ok {x : Except ε α} {t : α} (h : Sat x (· = t)) : x = .ok t := by
  obtain ⟨_, hx, rfl⟩ := h.run; exact hx

/-- `forIn_inv` with the invariant on the elements done so far; `D` is what holds of the state after `break` / `return` -/
theorem Sat.loop {σ : Type} (I : List α → σ → Prop) (D : σ → Prop) (f : α → σ → Except ε (ForInStep σ)) (l : List α) (b : σ)
    (h0 : I [] b)
    (hstep : ∀ pre a post b, l = pre ++ a :: post → I pre b →
      Sat (f a b) (fun r => match r with | .yield b' => I (pre ++ [a]) b' | .done b' => D b') E) :
    Sat (forIn l b f) (fun b' => I l b' ∨ D b') E := by
  refine forIn_inv (fun post b => ∃ pre, l = pre ++ post ∧ I pre b) (fun r => Sat r (fun b' => I l b' ∨ D b') E) f ?_ ?_ l b
    ⟨[], rfl, h0⟩
  · rintro b ⟨pre, hl, hI⟩
    rw [List.append_nil] at hl; subst hl
    exact Or.inl hI
  · rintro a post b ⟨pre, hl, hI⟩
    have hs := hstep pre a post b hl hI
    cases hf : f a b with
    | error e => rw [hf] at hs; exact hs
    | ok r =>
      rw [hf] at hs
      cases r with
      | done b' => exact Or.inr hs
      | yield b' => exact ⟨pre ++ [a], by rw [hl, List.append_assoc]; rfl, hs⟩

theorem Sat.loop' {σ : Type} (I : List α → σ → Prop) (f : α → σ → Except ε (ForInStep σ)) (l : List α) (b : σ) (h0 : I [] b)
    (hstep : ∀ pre a post b, l = pre ++ a :: post → I pre b →
      Sat (f a b) (fun r => match r with | .yield b' => I (pre ++ [a]) b' | .done _ => False) E) :
    Sat (forIn l b f) (I l) E :=
  (Sat.loop I (fun _ => False) f l b h0 hstep).mono fun _ h => h.elim id False.elim

/-- a `while` loop translated with fuel: the measure `n` decreases with every `yield`, at 0 the loop breaks with `D`; with more fuel
    than measure the end of the list is not reached (`Sat.loop` with "measure + rounds done < fuel") -/
theorem Sat.fuel {σ : Type} (f : Unit → σ → Except ε (ForInStep σ)) (J : σ → Nat → Prop) (D : σ → Prop)
    (hstep : ∀ b n, J b (n + 1) → ∃ b', f () b = .ok (.yield b') ∧ J b' n)
    (hzero : ∀ b, J b 0 → ∃ b', f () b = .ok (.done b') ∧ D b')
    (n fuel : Nat) (b : σ) (hn : n < fuel) (hJ : J b n) : Sat (forIn (List.replicate fuel ()) b f) D E := by
  refine (Sat.loop (fun pre b => ∃ m, J b m ∧ m + pre.length < fuel) D f _ b ⟨n, hJ, hn⟩ ?_).mono ?_
  · rintro pre ⟨⟩ post b _ ⟨m, hJ, hm⟩
    cases m with
    | zero => obtain ⟨b', hb, hD⟩ := hzero b hJ; rw [hb]; exact hD
    | succ m => obtain ⟨b', hb, hJ'⟩ := hstep b m hJ; rw [hb]; exact ⟨m, hJ', by rw [List.length_append, List.length_singleton]; omega⟩
  · rintro b' (⟨m, _, hm⟩ | hD)
    · rw [List.length_replicate] at hm; omega
    · exact hD

end sat

section agrees
variable {α β γ ε ε' : Type}

/-- the generated computation `x` does what the model computation `M` does: both succeed, with results related by `R`, or
    the model fails and `x` raises its error as `em` translates it.  The model's result decides the case, so a proof
    first computes the model's step. -/
def Agrees (em : ε' → ε) (R : β → γ → Prop) (M : Except ε' γ) (x : Except ε β) : Prop :=
  match M with
  | .ok c => ∃ b, x = .ok b ∧ R b c
  | .error e => x = .error (em e)

theorem Agrees.bind {β' γ' : Type} {em : ε' → ε} {R : β → γ → Prop} {R' : β' → γ' → Prop} {M : Except ε' γ}
    {x : Except ε β} {K : γ → Except ε' γ'} {k : β → Except ε β'} (h : Agrees em R M x)
    (hk : ∀ b c, M = .ok c → R b c → Agrees em R' (K c) (k b)) : Agrees em R' (M >>= K) (x >>= k) := by
  cases M with
  | ok c => obtain ⟨b, rfl, hr⟩ := h; exact hk b c rfl hr
  | error e => rw [show x = _ from h]; rfl

/-- `Agrees` for one round of a loop without `break` -/
def StepPost (em : ε' → ε) (M : Except ε' γ) (R : β → γ → Prop) (x : Except ε (ForInStep β)) : Prop :=
  Agrees em (fun r c' => ∃ b', r = .yield b' ∧ R b' c') M x

theorem StepPost.yield {em : ε' → ε} {R : β → γ → Prop} {b' : β} {c' : γ} (h : R b' c') :
    StepPost em (.ok c') R (.ok (.yield b')) :=
  ⟨_, rfl, _, rfl, h⟩

theorem StepPost.raise {em : ε' → ε} {R : β → γ → Prop} (e : ε') : StepPost em (.error e) R (.error (em e)) :=
  rfl

/-- a loop without `break` beside a model fold whose step may fail: `R` relates the loop state to the model state after
    the elements `pre` -/
theorem Agrees.loop (em : ε' → ε) (R : List α → β → γ → Prop) (g : γ → α → Except ε' γ)
    (f : α → β → Except ε (ForInStep β)) (l : List α) (b : β) (c0 : γ) (h0 : R [] b c0)
    (hstep : ∀ pre a post b c, l = pre ++ a :: post → R pre b c → StepPost em (g c a) (R (pre ++ [a])) (f a b)) :
    Agrees em (R l) (l.foldlM g c0) (forIn l b f) := by
  refine forIn_inv (fun post b => ∃ pre c, l = pre ++ post ∧ R pre b c ∧ post.foldlM g c = l.foldlM g c0)
    (Agrees em (R l) (l.foldlM g c0)) f ?_ ?_ l b ⟨[], c0, rfl, h0, rfl⟩
  · rintro b ⟨pre, c, hl, hR, h⟩
    rw [List.append_nil] at hl; subst hl
    rw [← h]; exact ⟨b, rfl, hR⟩
  · rintro a post b ⟨pre, c, hl, hR, h⟩
    have hs := hstep pre a post b c hl hR
    rw [List.foldlM_cons] at h
    cases hg : g c a with
    | error e => rw [hg] at hs h; rw [show f a b = _ from hs, ← h]; rfl
    | ok c' =>
      rw [hg] at hs h
      obtain ⟨_, hr, b', rfl, hR'⟩ := hs
      rw [hr]
      exact ⟨pre ++ [a], c', by rw [hl, List.append_assoc]; rfl, hR', h⟩

end agrees

section folds
universe u v w
variable {α : Type w} {γ : Type v} {ε : Type u}

/-- a model fold written as `List.foldl` over `Except` (`fun acc x => match acc with …`) is `List.foldlM`; the model's
    function comes in as the variable `g` -/
theorem foldl_bind (step : γ → α → Except ε γ) (g : Except ε γ → α → Except ε γ)
    (hg : ∀ acc x, g acc x = acc >>= (step · x)) : ∀ (xs : List α) (acc : Except ε γ),
    xs.foldl g acc = acc >>= fun l => xs.foldlM step l
  | [], acc => by cases acc <;> rfl
  | x :: xs, acc => by
    rw [List.foldl_cons, foldl_bind step g hg xs, hg]
    cases acc <;> rfl

theorem foldlM'_eq (f : γ → α → Except Err γ) : ∀ (l : List α) (b : γ), foldlM' f b l = l.foldlM f b
  | [], _ => rfl
  | x :: xs, b => by
    rw [foldlM', List.foldlM_cons]
    cases f b x with
    | error e => rfl
    | ok b' => exact foldlM'_eq f xs b'

theorem foldlM'_collect {α β : Type} (f : α → Except Err β) : ∀ (l : List α) (acc : List β),
    foldlM' (fun (a : List β) x => do let y ← f x; .ok (a ++ [y])) acc l = (l.mapM f).map (acc ++ ·) := by
  intro l
  induction l with
  | nil => intro acc; simp [foldlM', Except.map, pure_eq_ok]
  | cons x xs ih =>
    intro acc
    simp only [foldlM', List.mapM_cons]
    cases f x with
    | error er => rfl
    | ok y =>
      simp only [ok_bind, ih]
      cases xs.mapM f <;> simp [Except.map, map_ok, map_error]

theorem foldlM_inv (I : γ → Prop) (P : α → Prop) (step : γ → α → Except ε γ)
    (h : ∀ a l l', P a → I l → step l a = .ok l' → I l') :
    ∀ (xs : List α) (l l' : γ), (∀ a ∈ xs, P a) → I l → xs.foldlM step l = .ok l' → I l'
  | [], l, l', _, hl, e => by cases e; exact hl
  | x :: xs, l, l', hP, hl, e => by
    rw [List.foldlM_cons] at e
    cases h1 : step l x with
    | error er => rw [h1] at e; cases e
    | ok l1 =>
      rw [h1] at e
      exact foldlM_inv I P step h xs l1 l' (fun a ha => hP a (by simp [ha])) (h x l l1 (hP x (by simp)) hl h1) e

end folds
end SCoda
