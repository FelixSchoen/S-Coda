/-
  The simulation between the tokeniser (a derivation `Tokenise.Run`), the specification (`specLog`) and the
  detokeniser (`dfold` over the emitted tokens), stated for an *arbitrary related start state* so that it also covers
  tokenisation in chunks with a carried state dictionary (C03).  `Plays` says what it is for the detokeniser to replay a
  piece of the stream, and pieces compose (`Plays.append`).  `Sim c s new s' F` is the one relation: the tokens `new` take
  the tokeniser from `s` to `s'` as the move `F` takes the specification, and they play what `F` logs; it composes
  (`Sim.comp`), and every constructor of a derivation is a step: a rest is `upTo`, the tail of an event is `specTail`, the
  loop is the specification fold, filling up the last bar is `closeBar`.
-/
import SCoda.Lemmas.SpecClock
namespace SCoda.C01
open SCoda SCoda.Tokenise

/-- what the round trip needs of a configuration.  Values and bins are non-negative because the detokeniser's running
    value / velocity start at the impossible −1; the default signature is `n/n` because the tokeniser rescales a signature
    to the denominator `defDen`, the detokeniser reads the token against `defNum`, and the two bar lengths agree
    (`capacity_scaled`) only if these are equal -/
structure CfgOk (c : Cfg) : Prop where
  steps_pos : ∀ s ∈ c.steps, 0 < s
  values_nonneg : ∀ v ∈ c.values, 0 ≤ v
  bins_nonneg : ∀ b ∈ c.bins, 0 ≤ b
  def_eq : c.defNum = c.defDen
  def_pos : 0 < c.defDen
  ppqn_pos : 0 < c.ppqn

/-- tokeniser state and detokeniser state describe the same point of the same piece: equal clocks,
    equal bar size, and the detokeniser's running track / value / velocity equal the tokeniser's
    remembered ones unless the tokeniser's are still the impossible start value (< 0) -/
structure Rel (c : Cfg) (st : TokSt) (d : DetokSt) : Prop where
  cur : d.curTime = st.curTime
  bar : d.curTimeBar = st.curTimeBar
  rem : d.capRem = st.capRem
  tot : d.capTotal = c.capacity st.tsNum st.tsDen
  trk : st.prvTrack < 0 ∨ d.prvTrack = st.prvTrack
  val : st.prvValue < 0 ∨ d.prvValue = st.prvValue
  vel : st.prvVel < 0 ∨ d.prvVel = st.prvVel
  barNonneg : 0 ≤ st.curTimeBar
  remPos : 0 < st.capRem
  seqsLen : d.seqs.length = c.numTracks

/-- the events a call receives are what the merge glue produces.  `start` is the clock the call starts from and
    `shift` what is added to the onsets; wherever `EvsOk` is used the two are the same term, the start clock of the
    call (a call's onsets are relative to it; `0` for the first call) -/
structure EvsOk (c : Cfg) (start shift : Int) (evs : List (Int × Pairing)) : Prop where
  chans : ∀ ev ∈ evs, ∀ m ∈ ev.2.head?, 0 ≤ m.ch ∧ m.ch < (c.numTracks : Int)
  ordered : List.Pairwise (fun a b => ∀ x ∈ a.2.head?, ∀ y ∈ b.2.head?, x.time ≤ y.time) evs
  notBefore : ∀ ev ∈ evs, ∀ m ∈ ev.2.head?, start ≤ m.time + shift
  denPos : ∀ ev ∈ evs, ∀ m ∈ ev.2.head?, m.ty = .timeSignature → 0 < m.den ∧ 0 < m.num

/-- the part of `Rel` that mentions the detokeniser -/
structure RelD (c : Cfg) (st : TokSt) (d : DetokSt) : Prop where
  cur : d.curTime = st.curTime
  bar : d.curTimeBar = st.curTimeBar
  rem : d.capRem = st.capRem
  tot : d.capTotal = c.capacity st.tsNum st.tsDen
  trk : st.prvTrack < 0 ∨ d.prvTrack = st.prvTrack
  val : st.prvValue < 0 ∨ d.prvValue = st.prvValue
  vel : st.prvVel < 0 ∨ d.prvVel = st.prvVel
  seqsLen : d.seqs.length = c.numTracks

theorem Rel.toRelD {c : Cfg} {st : TokSt} {d : DetokSt} (h : Rel c st d) : RelD c st d :=
  ⟨h.cur, h.bar, h.rem, h.tot, h.trk, h.val, h.vel, h.seqsLen⟩

theorem relD_init (c : Cfg) : RelD c (TokSt.init c) (DetokSt.init c) :=
  ⟨rfl, rfl, rfl, rfl, Or.inl (by simp [TokSt.init]), Or.inl (by simp [TokSt.init]), Or.inl (by simp [TokSt.init]),
    by simp [DetokSt.init]⟩

theorem _root_.SCoda.Tokenise.Rests.advance {c : Cfg} (hs : ∀ s ∈ c.steps, 0 < s) {cap rest : Int} {s s' : Int × Int × Int} {new : List Tok}
    {ends : List Int} (h : Rests c cap rest s new ends s') :
    adv rest ⟨s.1, s.2.1, cap, s.2.2⟩ = (⟨s'.1, s'.2.1, cap, s'.2.2⟩, ends) := by
  induction h with
  | stop hb => exact adv_stay _ hb
  | @close buf cur bar rem v new ends s' hb hv hz hrec ih =>
    have hv0 := hs _ (chooseStep_spec c _ _ hv).1
    have hvle := (chooseStep_spec c _ _ hv).2
    rw [adv_split_close buf ⟨cur, bar, cap, rem⟩ v hv0 (by omega) (by simp only; omega) (fun h => hrec.rem_pos hs (by simp only at h; omega))]
    simp only at ih ⊢
    rw [ih]
  | @inside buf cur bar rem v new ends s' hb hv hz hrec ih =>
    have hv0 := hs _ (chooseStep_spec c _ _ hv).1
    have hvle := (chooseStep_spec c _ _ hv).2
    rw [adv_split_in buf ⟨cur, bar, cap, rem⟩ v hv0 (by omega) (by simp only; omega)
      (fun h => hrec.cap_pos hs (by simp only at h ⊢; omega) (by simp only; omega))]
    exact ih

theorem _root_.SCoda.Tokenise.Rests.dfold {c : Cfg} (hs : ∀ s ∈ c.steps, 0 < s) {cap rest : Int} {s s' : Int × Int × Int} {new : List Tok}
    {ends : List Int} (h : Rests c cap rest s new ends s') (d : DetokSt) (hd : (d.curTime, d.curTimeBar, d.capRem) = s)
    (hT : d.capTotal = cap) :
    ∃ d', C01.dfold c d new = .ok (d', ends.map Emit.barEnd) ∧ InBar.Mono c d new
      ∧ (d'.curTime, d'.curTimeBar, d'.capRem) = s' ∧ d'.capTotal = cap
      ∧ d'.prvTrack = d.prvTrack ∧ d'.prvValue = d.prvValue ∧ d'.prvVel = d.prvVel
      ∧ d'.tsNum = d.tsNum ∧ d'.tsDen = d.tsDen ∧ d'.seqs.length = d.seqs.length := by
  induction h generalizing d with
  | stop => exact ⟨d, rfl, trivial, hd, hT, rfl, rfl, rfl, rfl, rfl, rfl⟩
  | @close buf cur bar rem v new ends s' hb hv hz hrec ih =>
    cases hd
    have hv0 := hs _ (chooseStep_spec c _ _ hv).1
    obtain ⟨d', f1, fm, f2⟩ := ih
      { d with curTime := d.curTime + v + (d.capRem - v), curTimeBar := 0, capRem := d.capTotal,
               seqs := d.seqs.map (fun l => insort l (Msg.mkInternal 0 (d.curTime + v + (d.capRem - v)))) }
      (by simp only [hT, Prod.mk.injEq, and_true]; omega) hT
    refine ⟨d', ?_, ?_, by simpa using f2⟩
    · have hb' := dfold_cons_ok (dstepLog_bar c
        { d with curTime := d.curTime + v, curTimeBar := d.curTimeBar + v, capRem := d.capRem - v }) f1
      rw [dfold_cons_ok (dstepLog_rest c d v) hb']
      have : d.curTime + v + (d.capRem - v) = d.curTime + v := by omega
      simp [this]
    · intro d1 log1 h1
      rw [dstepLog_rest] at h1; cases h1
      refine ⟨by simp only; omega, fun d2 log2 h2 => ?_⟩
      rw [dstepLog_bar] at h2; cases h2
      exact ⟨by simp only; omega, fm⟩
  | @inside buf cur bar rem v new ends s' hb hv hz hrec ih =>
    cases hd
    have hv0 := hs _ (chooseStep_spec c _ _ hv).1
    obtain ⟨d', f1, fm, f2⟩ := ih
      { d with curTime := d.curTime + v, curTimeBar := d.curTimeBar + v, capRem := d.capRem - v } rfl hT
    refine ⟨d', ?_, ?_, by simpa using f2⟩
    · rw [dfold_cons_ok (dstepLog_rest c d v) f1]; simp
    · intro d1 log1 h1
      rw [dstepLog_rest] at h1; cases h1
      exact ⟨by simp only; omega, fm⟩

/-- the tokens `new` play from `st` to `st'` with log `E`: the detokeniser, started in any state related to `st`, runs over
    them into a state related to `st'`, emits `E` (time signatures aside), and never moves its clock back -/
def Plays (c : Cfg) (st : TokSt) (new : List Tok) (st' : TokSt) (E : List Emit) : Prop :=
  ∀ d, RelD c st d → ∃ d' log, dfold c d new = .ok (d', log) ∧ RelD c st' d' ∧ log.filter notTsig = E ∧ InBar.Mono c d new

theorem Plays.nil {c : Cfg} {st : TokSt} : Plays c st [] st [] := fun d hd => ⟨d, [], rfl, hd, rfl, trivial⟩

theorem Plays.append {c : Cfg} {st st1 st2 : TokSt} {a b : List Tok} {E1 E2 : List Emit} (h1 : Plays c st a st1 E1)
    (h2 : Plays c st1 b st2 E2) : Plays c st (a ++ b) st2 (E1 ++ E2) := by
  intro d hd
  obtain ⟨d1, log1, f1, f2, f3, f4⟩ := h1 d hd
  obtain ⟨d2, log2, g1, g2, g3, g4⟩ := h2 d1 f2
  refine ⟨d2, _, dfold_append f1 g1, g2, by rw [List.filter_append, f3, g3], InBar.Mono_append f4 ?_⟩
  intro d1' _ h'; rw [f1] at h'; cases h'; exact g4

theorem _root_.SCoda.Tokenise.Rests.plays {c : Cfg} (hs : ∀ s ∈ c.steps, 0 < s) {cap rest : Int} {st : TokSt} {k : Int × Int × Int}
    {new : List Tok} {ends : List Int} (h : Rests c cap rest st.clk new ends k) (hcap : cap = c.capacity st.tsNum st.tsDen) :
    Plays c st new (st.at k) (ends.map Emit.barEnd) := by
  intro d hd
  obtain ⟨d', f1, fm, f2, f3, f4, f5, f6, -, -, f9⟩ := h.dfold hs d (by simp only [TokSt.clk, hd.cur, hd.bar, hd.rem])
    (hd.tot.trans hcap.symm)
  subst f2
  exact ⟨d', _, f1, ⟨rfl, rfl, rfl, f3.trans hcap, by rw [f4]; exact hd.trk, by rw [f5]; exact hd.val, by rw [f6]; exact hd.vel,
    f9.trans hd.seqsLen⟩, filter_barEnd _, fm⟩

/-- what the simulation keeps of a tokeniser state with its bar size (the bar may be the empty bar of a signature of
    capacity 0 just read) -/
structure Weak (c : Cfg) (s : TokSt × Int) : Prop where
  cap : s.2 = c.capacity s.1.tsNum s.1.tsDen
  bar : 0 ≤ s.1.curTimeBar
  rem : 0 < s.1.capRem ∨ (s.1.curTimeBar = 0 ∧ s.1.capRem = s.2)

/-- **the simulation relation**: the tokens `new` take the tokeniser from `s` to `s'` as the move `F` takes the
    specification, and they play what `F` logs -/
def Sim (c : Cfg) (s : TokSt × Int) (new : List Tok) (s' : TokSt × Int) (F : Clock × List Emit → Clock × List Emit) : Prop :=
  Weak c s → Weak c s' ∧ ∃ E, (∀ L, F (clockOf s.1 s.2, L) = (clockOf s'.1 s'.2, L ++ E)) ∧ Plays c s.1 new s'.1 E

theorem Sim.nil {c : Cfg} {s : TokSt × Int} : Sim c s [] s id :=
  fun hw => ⟨hw, [], fun L => by rw [List.append_nil]; rfl, Plays.nil⟩

theorem Sim.comp {c : Cfg} {s s1 s2 : TokSt × Int} {a b : List Tok} {F G : Clock × List Emit → Clock × List Emit}
    (h1 : Sim c s a s1 F) (h2 : Sim c s1 b s2 G) : Sim c s (a ++ b) s2 (fun kl => G (F kl)) := by
  intro hw
  obtain ⟨w1, E1, e1, p1⟩ := h1 hw
  obtain ⟨w2, E2, e2, p2⟩ := h2 w1
  exact ⟨w2, E1 ++ E2, fun L => by show G (F _) = _; rw [e1, e2, List.append_assoc], p1.append p2⟩

theorem Sim.congr {c : Cfg} {s s' : TokSt × Int} {new : List Tok} {F G : Clock × List Emit → Clock × List Emit}
    (h : Sim c s new s' F) (hF : ∀ L, G (clockOf s.1 s.2, L) = F (clockOf s.1 s.2, L)) : Sim c s new s' G := by
  intro hw
  obtain ⟨w, E, e, p⟩ := h hw
  exact ⟨w, E, fun L => (hF L).trans (e L), p⟩

theorem _root_.SCoda.Tokenise.Rests.sim {c : Cfg} (hs : ∀ s ∈ c.steps, 0 < s) {cap r : Int} {st : TokSt} {k : Int × Int × Int}
    {new : List Tok} {ends : List Int} (h : Rests c cap r st.clk new ends k) :
    Sim c (st, cap) new (st.at k, cap) (upTo (st.curTime + r)) := by
  intro hw
  obtain ⟨b, w⟩ := h.inv hs hw.bar hw.rem
  refine ⟨⟨hw.cap, b, w⟩, ends.map Emit.barEnd, fun L => ?_, h.plays hs hw.cap⟩
  exact upTo_of_adv (k := clockOf st cap) (h.advance hs) L

theorem scaled_div (a num D den : Int) (hD : 0 < D) (hd : 0 < den) (hdiv : (num * D) % den = 0) :
    (a * ((num * D) / den)) / D = (a * num) / den := by
  have hs : (num * D) / den * den = num * D := Int.ediv_mul_cancel (Int.dvd_of_emod_eq_zero hdiv)
  rw [← Int.mul_ediv_mul_of_pos_left (a * (num * D / den)) D hd, Int.mul_assoc, hs, ← Int.mul_assoc,
    Int.mul_comm D den, Int.mul_ediv_mul_of_pos_left _ _ hD]

theorem CfgOk.defCap_pos {c : Cfg} (hc : CfgOk c) : 0 < c.capacity c.defNum c.defDen := by
  unfold Cfg.capacity
  rw [hc.def_eq, Int.mul_ediv_cancel _ (by have := hc.def_pos; omega)]
  have := hc.ppqn_pos; omega

/-- the signature token carries the signature rescaled to the default denominator; the bar size the detokeniser computes
    from it is the tokeniser's -/
theorem CfgOk.capacity_scaled {c : Cfg} (hc : CfgOk c) (num den : Int) (hd : 0 < den) (hdiv : (num * c.defDen) % den = 0) :
    c.capacity ((num * c.defDen) / den) c.defNum = c.capacity num den := by
  unfold Cfg.capacity
  rw [hc.def_eq]
  exact scaled_div (c.ppqn * 4) num c.defDen den hc.def_pos hd hdiv

theorem run_eq (fuse running : Bool) (x sx dx : Int) (hx : 0 ≤ x) (hrel : sx < 0 ∨ dx = sx) :
    (if fuse = true then some x else none).getD (if (!fuse && (x != sx || !running)) = true then x else dx) = x := by
  cases fuse <;> cases running <;> simp
  intro h; omega

/-- the tokens of a note-on, played from a related state: the tokens not fused into the note token set the running
    values (`run_eq`), then the note token plays -/
theorem dfold_noteToks (c : Cfg) (st : TokSt) (d : DetokSt) (ch pitch value vel : Int)
    (hch : 0 ≤ ch) (hlen : ch.toNat < d.seqs.length) (hval : 0 ≤ value) (hvel : 0 ≤ vel)
    (htrk : st.prvTrack < 0 ∨ d.prvTrack = st.prvTrack) (hv : st.prvValue < 0 ∨ d.prvValue = st.prvValue)
    (hw : st.prvVel < 0 ∨ d.prvVel = st.prvVel) :
    dfold c d (Tokenise.noteToks c st ch pitch value vel).reverse =
      .ok ({ d with prvTrack := ch, prvValue := value, prvVel := vel,
                    seqs := addAbs (addAbs d.seqs ch.toNat (Msg.mkOn 0 pitch vel d.curTime)) ch.toNat
                      (Msg.mkOff 0 pitch (d.curTime + value)) },
           [Emit.note ch pitch vel d.curTime (d.curTime + value)]) := by
  have hT := run_eq c.fuseTrk c.running ch st.prvTrack d.prvTrack hch htrk
  have hV := run_eq c.fuseVal c.running value st.prvValue d.prvValue hval hv
  have hW := run_eq c.fuseVel c.running vel st.prvVel d.prvVel hvel hw
  simp only [Tokenise.noteToks, List.reverse_cons, List.reverse_append, List.reverse_reverse, ← List.append_assoc]
  refine (dfold_append (dfold_pre c d _ _ _ ch value vel) (dfold_note c _ _ pitch _ _ ?_ ?_)).trans ?_
  · simp only; rw [hT]; exact hch
  · simp only; rw [hT]; exact hlen
  · simp only [hT, hV, hW, List.nil_append]

theorem noteToks_still (c : Cfg) (st : TokSt) (ch p v w : Int) : ∀ t ∈ (noteToks c st ch p v w).reverse, InBar.tokStill t :=
  fun t ht => noteToks_all (P := InBar.tokStill) (fun _ => trivial) (fun _ => trivial) (fun _ => trivial) trivial t
    (List.mem_reverse.1 ht)

theorem _root_.SCoda.Tokenise.Tail.sim {c : Cfg} (hc : CfgOk c) {m : Msg} {restP : List Msg} {s s' : TokSt × Int} {new : List Tok}
    (h : Tail c m restP s new s') (hm : 0 ≤ m.ch ∧ m.ch < (c.numTracks : Int)) (hden : m.ty = .timeSignature → 0 < m.den) :
    Sim c s new s' (fun kl => ((specTail c m restP kl.1).1, kl.2 ++ (specTail c m restP kl.1).2)) := by
  intro ⟨hcap, hb, hw⟩
  suffices H : ∃ E, Weak c s' ∧ specTail c m restP (clockOf s.1 s.2) = (clockOf s'.1 s'.2, E) ∧ Plays c s.1 new s'.1 E by
    obtain ⟨E, w, e, p⟩ := H
    exact ⟨w, E, fun L => by show ((specTail c m restP (clockOf s.1 s.2)).1, L ++ (specTail c m restP (clockOf s.1 s.2)).2) = _; rw [e], p⟩
  cases h with
  | @note st cap off r vel hty hr hvel hp hvalue =>
    subst hr
    have hvel0 : 0 ≤ vel := hc.bins_nonneg vel (List.mem_of_getElem? hvel)
    have hval0 : 0 ≤ off.time - m.time := hc.values_nonneg _ hvalue
    refine ⟨[Emit.note m.ch m.note vel st.curTime (st.curTime + (off.time - m.time))], ⟨hcap, hb, hw⟩, ?_, fun d hd => ?_⟩
    · refine Prod.ext (if_neg (fun h => by rw [hty] at h; exact absurd h.1 (by decide))) ?_
      rw [specTail_emits]
      simp only [if_pos hty, hvel]
      rfl
    · refine ⟨_, _, dfold_noteToks c st d m.ch m.note _ vel hm.1 (by rw [hd.seqsLen]; omega) hval0 hvel0 hd.trk hd.val
        hd.vel, ?_, ?_, InBar.Mono_still c _ d (noteToks_still c st _ _ _ _)⟩
      · exact ⟨hd.cur, hd.bar, hd.rem, hd.tot, Or.inr rfl, Or.inr rfl, Or.inr rfl,
          by simp only [Detok.length_addAbs]; exact hd.seqsLen⟩
      · have := hd.cur
        simp only at this
        simp [notTsig, this]
  | @sigInBar st cap hty hbp =>
    exact ⟨[], ⟨hcap, hb, hw⟩, Prod.ext (if_neg (fun h => h.2 hbp)) (specTail_silent (by rw [hty]; decide)), Plays.nil⟩
  | @sig st cap hty hbp hdiv hr =>
    simp only at hb
    have hb0 : st.curTimeBar = 0 := by omega
    refine ⟨[], ⟨rfl, hb, Or.inr ⟨hb0, rfl⟩⟩, ?_, fun d hd => ?_⟩
    · exact Prod.ext (if_pos ⟨hty, hbp⟩) (specTail_silent (by rw [hty]; decide))
    · obtain ⟨d', log, e1, e2, e3, e4, e5, e6, e7, e8, e9, e10⟩ :=
        dstepLog_tsig c d ((m.num * c.defDen) / m.den) c.defNum (by rw [hd.bar]; exact hbp)
          (by rw [hd.seqsLen]; omega)
      refine ⟨d', log ++ [], dfold_cons_ok e1 rfl, ?_, by simpa using e2, InBar.Mono_still c _ d (by simp [InBar.tokStill])⟩
      have hcs := hc.capacity_scaled m.num m.den (hden hty) hdiv
      exact ⟨e3.trans hd.cur, e4.trans hd.bar, e5.trans hcs, e6.trans hcs, by rw [e7]; exact hd.trk,
        by rw [e8]; exact hd.val, by rw [e9]; exact hd.vel, e10.trans hd.seqsLen⟩
  | @other st cap h1 h2 =>
    exact ⟨[], ⟨hcap, hb, hw⟩, Prod.ext (if_neg (fun h => h2 h.1)) (specTail_silent h1), Plays.nil⟩

theorem _root_.SCoda.Tokenise.Run.sim {c : Cfg} (hc : CfgOk c) {shift : Int} {s s' : TokSt × Int} {evs : List (Int × Pairing)} {new : List Tok}
    (h : Run c shift s evs new s') (hch : ∀ ev ∈ evs, ∀ m ∈ ev.2.head?, 0 ≤ m.ch ∧ m.ch < (c.numTracks : Int))
    (hden : ∀ ev ∈ evs, ∀ m ∈ ev.2.head?, m.ty = .timeSignature → 0 < m.den) :
    Sim c s new s' (fun kl => evs.foldl (specEvent c shift) kl) := by
  induction h with
  | nil => exact Sim.nil
  | @cons st cap e1 m restP n1 ends k n2 s1 evs n3 s2 r1 r2 _ ih =>
    refine (((r1.sim hc.steps_pos).comp (r2.sim hc (hch _ List.mem_cons_self m rfl) (hden _ List.mem_cons_self m rfl))).comp
      (ih (fun e he => hch e (List.mem_cons_of_mem _ he)) (fun e he => hden e (List.mem_cons_of_mem _ he)))).congr fun L => ?_
    rw [List.foldl_cons, specEvent_cons, show st.curTime + (m.time + shift - st.curTime) = m.time + shift by omega]

theorem _root_.SCoda.Tokenise.Finish.sim {c : Cfg} (hs : ∀ s ∈ c.steps, 0 < s) {s : TokSt × Int} {new : List Tok} {st' : TokSt}
    (h : Finish c s new st') : Sim c s new (st', s.2) closeBar := by
  cases h with
  | @close st cap new ends k hbar hrem r =>
    exact (r.sim hs).congr fun L => closeBar_fire (clockOf st cap, L) hbar hrem
  | @idle st cap hfin =>
    exact Sim.nil.congr fun L => closeBar_idle _ hfin

/-- **the simulation of a call**: the tokeniser's final clock is the specification's; the detokeniser, run over
    the emitted tokens from any related state, ends in a related state, emits (time signatures aside) the
    specification log, and never moves its clock back.  The invariant is weaker than `Rel`: the bar may be empty,
    namely when a signature of capacity 0 was just read; the tokeniser then rejects any further rest. -/
theorem core_sim_mono (c : Cfg) (hc : CfgOk c) (st st' : TokSt) (evs : List (Int × Pairing)) (toks : List Tok)
    (hb : 0 ≤ st.curTimeBar)
    (hw : 0 < st.capRem ∨ (st.curTimeBar = 0 ∧ st.capRem = c.capacity st.tsNum st.tsDen))
    (hev : EvsOk c st.curTime st.curTime evs) (hok : tokeniseCore c st evs = .ok (toks, st')) :
    ∃ E, specLog c st evs = (clockOf st' (c.capacity st'.tsNum st'.tsDen), E)
      ∧ 0 ≤ st'.curTimeBar
      ∧ (0 < st'.capRem ∨ (st'.curTimeBar = 0 ∧ st'.capRem = c.capacity st'.tsNum st'.tsDen))
      ∧ Plays c st toks st' E := by
  obtain ⟨s1, t1, t2, r1, r2, rfl⟩ := core_run hok
  obtain ⟨w, E, e, p⟩ := ((r1.sim hc hev.chans fun ev he m hm h => (hev.denPos ev he m hm h).1).comp (r2.sim hc.steps_pos))
    ⟨rfl, hb, hw⟩
  refine ⟨E, ?_, w.bar, by rw [← w.cap]; exact w.rem, p⟩
  rw [specLog_eq, ← w.cap]
  simpa using e []

theorem core_onsets_le {c : Cfg} {st st' : TokSt} {evs : List (Int × Pairing)} {toks : List Tok}
    (h : tokeniseCore c st evs = .ok (toks, st')) (hev : EvsOk c st.curTime st.curTime evs) :
    st.curTime ≤ st'.curTime ∧ ∀ ev ∈ evs, ∀ m ∈ ev.2.head?, m.time + st.curTime ≤ st'.curTime := by
  obtain ⟨s1, t1, t2, r1, r2, rfl⟩ := core_run h
  obtain ⟨a1, a2⟩ := r1.onsets_le hev.ordered hev.notBefore
  cases r2 with
  | close _ hrem r =>
    have hk := r.cur (by omega)
    simp only [TokSt.at, TokSt.clk] at hk a1 a2 ⊢
    exact ⟨by omega, fun ev he m hm => by have := a2 ev he m hm; omega⟩
  | idle => exact ⟨a1, a2⟩

/-- what `core_sim_mono` needs of the carried state, with a positive bar length: every accepted call whose signatures have
    positive bar lengths re-establishes it -/
structure Ready (c : Cfg) (st : TokSt) : Prop where
  bar : 0 ≤ st.curTimeBar
  rem : 0 < st.capRem ∨ (st.curTimeBar = 0 ∧ st.capRem = c.capacity st.tsNum st.tsDen)
  cap : 0 < c.capacity st.tsNum st.tsDen

theorem Ready.init (c : Cfg) (h : 0 < c.capacity c.defNum c.defDen) : Ready c (TokSt.init c) :=
  ⟨Int.le_refl 0, Or.inr ⟨rfl, rfl⟩, h⟩

theorem Ready.remPos {c : Cfg} {st : TokSt} (h : Ready c st) : 0 < st.capRem := by
  rcases h.rem with h2 | h2
  · exact h2
  · rw [h2.2]; exact h.cap

/-- **one call from a ready state**: `core_sim_mono` together with what `specLog_inv` says of the bar ends — they increase
    and lie after the start clock, up to the final clock -/
theorem core_sim_ready (c : Cfg) (hc : CfgOk c) (st st' : TokSt) (evs : List (Int × Pairing)) (toks : List Tok)
    (hr : Ready c st) (hev : EvsOk c st.curTime st.curTime evs)
    (hcap : ∀ ev ∈ evs, ∀ m ∈ ev.2.head?, m.ty = .timeSignature → 0 < c.capacity m.num m.den)
    (hok : tokeniseCore c st evs = .ok (toks, st')) :
    ∃ E, specLog c st evs = (clockOf st' (c.capacity st'.tsNum st'.tsDen), E) ∧ Plays c st toks st' E ∧ Ready c st'
      ∧ (InBar.bes E).Pairwise (· < ·) ∧ (∀ t ∈ InBar.bes E, st.curTime < t ∧ t ≤ st'.curTime)
      ∧ st.curTime ≤ st'.curTime := by
  obtain ⟨E, a1, a2, a3, a5⟩ := core_sim_mono c hc st st' evs toks hr.bar hr.rem hev hok
  have hF := (specLog_foldInv c st evs hr.remPos hr.bar hr.cap hcap).1
  rw [a1] at hF
  exact ⟨E, a1, a5, ⟨a2, a3, hF.sane.2.2⟩, hF.incr, fun t ht => hF.ends t ((InBar.mem_bes t E).1 ht),
    (core_onsets_le hok hev).1⟩

theorem evsOk_join {c : Cfg} {st st1 : TokSt} {evs1 evs2 : List (Int × Pairing)} {toks1 : List Tok}
    (h1 : tokeniseCore c st evs1 = .ok (toks1, st1))
    (hev1 : EvsOk c st.curTime st.curTime evs1) (hev2 : EvsOk c st1.curTime st1.curTime evs2) :
    EvsOk c st.curTime st.curTime (evs1 ++ shiftEvs (st1.curTime - st.curTime) evs2) := by
  obtain ⟨hle0, hle⟩ := core_onsets_le h1 hev1
  refine ⟨heads_append _ hev1.chans hev2.chans, ordered_append hev1.ordered hev2.ordered ?_,
    heads_append (fun m => st.curTime ≤ m.time + st.curTime) hev1.notBefore ?_, heads_append _ hev1.denPos hev2.denPos⟩
  · intro a ha mx hmx b hb my hmy
    have := hle a ha mx hmx; have := hev2.notBefore b hb my hmy; omega
  · intro e he m hm
    have := hev2.notBefore e he m hm; simp only; omega

end SCoda.C01
