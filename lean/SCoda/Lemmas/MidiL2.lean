/-
  The loader on top of its closed form (`Lemmas/Midi.lean`), for arbitrary track groupings (overlapping groups,
  repeated indices).  First the specification's vocabulary (`C13b.considered`, `fileSigs`, `FirstGroup`), then
  * rescaling is monotone (`stamp_sorted`), so with non-negative delta times a slot holds the messages of its track
    (`slotL_eq`);
  * where signatures are: not in a merged group (`gmergeL_relI`); on the meta target the default one or one of a
    considered track (`metaF_ok`, `metaF_prov`, `sig_core`);
  * `load_first`: routing of tracks to sequences by first group.
-/
import SCoda.Lemmas.MidiPipeline
import SCoda.Props.C13
namespace SCoda.C13b
open SCoda SCoda.MidiL

/-- a track is considered when it is listed in some group or as a meta track (midi_file.py:63) -/
def considered (groups : List (List Nat)) (metaIdx : List Nat) (i : Nat) : Bool :=
  groups.any (·.contains i) || metaIdx.contains i

/-- the signature events of the file the loader has to honour: considered tracks in file order, each
    track's events in track order.  `latest` takes the greatest tick and, on equal ticks, the later
    event of this list — the tick-ordered (stable) union of the tracks' signature events. -/
def fileSigs (ppqn filePpq : Int) (tracks : List (List MidiEv)) (groups : List (List Nat)) (metaIdx : List Nat) :
    List Msg :=
  (tracks.zipIdx.filter (fun p => considered groups metaIdx p.2)).flatMap (fun p => sigEvents ppqn filePpq 0 p.1)

theorem considered_eq (groups : List (List Nat)) (metaIdx : List Nat) (i : Nat) :
    considered groups metaIdx i = ((firstGroupOf groups i).isSome || metaIdx.contains i) := by
  unfold considered
  rw [firstGroupOf_isSome]
  congr 1
  rw [Bool.eq_iff_iff]
  simp [List.mem_flatten]

def FirstGroup (groups : List (List Nat)) (i gi : Nat) : Prop :=
  (∃ g, groups[gi]? = some g ∧ i ∈ g) ∧ ∀ j g', j < gi → groups[j]? = some g' → i ∉ g'

theorem firstGroup_iff (groups : List (List Nat)) (i gi : Nat) :
    (∃ pos, firstGroupOf groups i = some (gi, pos)) ↔ FirstGroup groups i gi := by
  constructor
  · rintro ⟨pos, h⟩
    obtain ⟨g, h1, h2, _, h4⟩ := (firstGroupOf_iff groups i gi pos).1 h
    exact ⟨⟨g, h1, h2⟩, h4⟩
  · rintro ⟨⟨g, h1, h2⟩, h4⟩
    exact ⟨g.idxOf i, (firstGroupOf_iff groups i gi _).2 ⟨g, h1, h2, rfl, h4⟩⟩

theorem firstGroup_mem {groups : List (List Nat)} {i gi : Nat} (h : FirstGroup groups i gi) : i ∈ groups.flatten := by
  obtain ⟨⟨g, hg, hig⟩, _⟩ := h
  exact List.mem_flatten.2 ⟨g, List.mem_of_getElem? hg, hig⟩

theorem firstGroup_nodup {groups : List (List Nat)} (hnd : groups.flatten.Nodup) {gi : Nat} {g : List Nat}
    (hg : groups[gi]? = some g) (i : Nat) : FirstGroup groups i gi ↔ i ∈ g := by
  constructor
  · rintro ⟨⟨g', hg', hig⟩, _⟩
    rw [hg] at hg'; cases hg'
    exact hig
  · intro hig
    refine ⟨⟨g, hg, hig⟩, ?_⟩
    intro j g' hj hg' hig'
    have := nodup_group groups hnd gi j g g' i hg hg' hig hig'
    omega

end SCoda.C13b

namespace SCoda.L2
open SCoda SCoda.MidiL SCoda.MergeL SCoda.C13 SCoda.C13b SCoda.EQ SCoda.E2E

/-- rounding moves a point by at most half a tick, so it cannot swap two distinct points -/
theorem round_mono {q q' : Rat} (h : q ≤ q') : roundHalfEven q ≤ roundHalfEven q' := by
  by_cases he : q = q'
  · rw [he]; exact Int.le_refl _
  · have h1 := (round_error q).2
    have h2 := (round_error q').1
    have h3 : ((roundHalfEven q : Int) : Rat) < ((roundHalfEven q' + 1 : Int) : Rat) := by
      rw [Rat.intCast_add]; grind
    have := Rat.intCast_lt_intCast.1 h3
    omega

theorem round_nonneg {q : Rat} (h : 0 ≤ q) : 0 ≤ roundHalfEven q := by
  have := round_mono h
  rw [show (0 : Rat) = ((0 : Int) : Rat) by rfl, round_int] at this
  exact this

theorem exactPos_mono (ppqn filePpq : Int) (hp : 0 < ppqn) (hf : 0 < filePpq) {t t' : Int} (h : t ≤ t') :
    exactPos ppqn filePpq t ≤ exactPos ppqn filePpq t' := by
  unfold exactPos
  have h1 : (0 : Rat) < (ppqn : Rat) := by exact_mod_cast hp
  have h2 : (0 : Rat) < (filePpq : Rat) := by exact_mod_cast hf
  have h3 : (t : Rat) ≤ (t' : Rat) := by exact_mod_cast h
  rw [Rat.div_def, Rat.div_def]
  apply Rat.mul_le_mul_of_nonneg_right
  · exact Rat.mul_le_mul_of_nonneg_right h3 (Rat.le_of_lt h1)
  · exact Rat.le_of_lt (Rat.inv_pos.2 h2)

theorem exactPos_nonneg (ppqn filePpq : Int) (hp : 0 < ppqn) (hf : 0 < filePpq) (t : Int) (ht : 0 ≤ t) :
    0 ≤ roundHalfEven (exactPos ppqn filePpq t) := by
  apply round_nonneg
  have := exactPos_mono ppqn filePpq hp hf ht
  simpa [exactPos, Rat.div_def] using this

theorem exactPos_same (pp : Int) (hp : 0 < pp) (t : Int) : roundHalfEven (exactPos pp pp t) = t := by
  unfold exactPos
  have : (pp : Rat) ≠ 0 := by
    intro h
    have := Rat.intCast_eq_zero_iff.1 h
    omega
  rw [Rat.mul_div_cancel this, round_int]

theorem stamp_src (ppqn filePpq : Int) (hp : 0 < ppqn) (hf : 0 < filePpq) (evs : List MidiEv) :
    ∀ ticks, 0 ≤ ticks → (∀ e ∈ evs, 0 ≤ e.time) → ∀ x ∈ MidiL.stamp ppqn filePpq ticks evs,
      0 ≤ x.time ∧ ∃ e ∈ evs, ∃ rt, x = { e with time := rt } := by
  induction evs with
  | nil => intro _ _ _ x hx; simp [MidiL.stamp] at hx
  | cons e es ih =>
    intro ticks ht hd x hx
    have he := hd e List.mem_cons_self
    rcases List.mem_cons.1 hx with rfl | hx
    · exact ⟨exactPos_nonneg ppqn filePpq hp hf _ (by omega), e, List.mem_cons_self, _, rfl⟩
    · obtain ⟨h1, e', he', h2⟩ := ih _ (by omega) (fun y hy => hd y (List.mem_cons_of_mem _ hy)) x hx
      exact ⟨h1, e', List.mem_cons_of_mem _ he', h2⟩

theorem cumulate_sorted (evs : List MidiEv) : ∀ ticks, (∀ e ∈ evs, 0 ≤ e.time) →
    Sorted (cumulate ticks evs) ∧ ∀ x ∈ cumulate ticks evs, ticks ≤ x.time := by
  induction evs with
  | nil => intro _ _; simp [cumulate, Sorted]
  | cons e es ih =>
    intro ticks hd
    have he := hd e List.mem_cons_self
    obtain ⟨i1, i2⟩ := ih (ticks + e.time) (fun x hx => hd x (List.mem_cons_of_mem _ hx))
    refine ⟨List.pairwise_cons.2 ⟨fun x hx => i2 x hx, i1⟩, ?_⟩
    intro x hx
    rcases List.mem_cons.1 hx with rfl | hx
    · simp only; omega
    · have := i2 x hx; omega

/-- rescaling is monotone, so the stamped events of a track with non-negative delta times are in time order -/
theorem stamp_sorted (ppqn filePpq : Int) (hp : 0 < ppqn) (hf : 0 < filePpq) (ticks : Int) (evs : List MidiEv)
    (hd : ∀ e ∈ evs, 0 ≤ e.time) : Sorted (MidiL.stamp ppqn filePpq ticks evs) := by
  rw [stamp_eq]
  exact List.Pairwise.map _ (fun _ _ h => round_mono (exactPos_mono ppqn filePpq hp hf h)) (cumulate_sorted evs ticks hd).1

theorem stamp_same (pp : Int) (hp : 0 < pp) (ticks : Int) (evs : List MidiEv) :
    MidiL.stamp pp pp ticks evs = cumulate ticks evs := by
  rw [stamp_eq]
  conv => rhs; rw [← List.map_id (cumulate ticks evs)]
  exact List.map_congr_left fun e _ => by simp [exactPos_same pp hp]

theorem foldl_insort_sorted (l : List Msg) : ∀ acc, Sorted (acc ++ l) → l.foldl insort acc = acc ++ l := by
  induction l with
  | nil => intro acc _; simp
  | cons m ms ih =>
    intro acc hs
    have h1 : insort acc m = acc ++ [m] :=
      insort_of_ge acc m (List.pairwise_append.1 hs).1 fun y hy => (List.pairwise_append.1 hs).2.2 y hy m List.mem_cons_self
    rw [List.foldl_cons, h1, ih _ (by simpa using hs)]
    simp

theorem trackMsgs_okAbs (ppqn filePpq : Int) (hp : 0 < ppqn) (hf : 0 < filePpq) (ticks : Int) (ht : 0 ≤ ticks)
    (evs : List MidiEv) (hd : ∀ e ∈ evs, 0 ≤ e.time) :
    OkAbs (trackMsgs ppqn filePpq ticks evs)
      ∧ (trackMsgs ppqn filePpq ticks evs).foldl insort [] = trackMsgs ppqn filePpq ticks evs := by
  rw [trackMsgs_eq]
  have hs : Sorted ((MidiL.stamp ppqn filePpq ticks evs).filterMap (MidiL.toSlot true)) :=
    List.Pairwise.filterMap _ (fun a a' h b hb b' hb' => by
      rw [(MidiL.toSlot_spec _ a b hb).1, (MidiL.toSlot_spec _ a' b' hb').1]; exact h)
      (stamp_sorted ppqn filePpq hp hf ticks evs hd)
  refine ⟨(okAbs_iff _).2 ⟨hs, fun m hm => ?_⟩, by simpa using foldl_insort_sorted _ [] (by simpa using hs)⟩
  obtain ⟨e, he, hem⟩ := List.mem_filterMap.1 hm
  obtain ⟨h1, h2⟩ := MidiL.toSlot_spec _ e m hem
  exact ⟨h1 ▸ (stamp_src ppqn filePpq hp hf evs ticks ht hd e he).1, by rcases h2 with h | h | h <;> simp [h]⟩

theorem trackMsgs_noInternal (ppqn filePpq : Int) (evs : List MidiEv) :
    eventsAbs (trackMsgs ppqn filePpq 0 evs) = trackMsgs ppqn filePpq 0 evs := by
  unfold eventsAbs
  rw [List.filter_eq_self]
  intro m hm
  rw [trackMsgs_eq] at hm
  obtain ⟨e, _, hem⟩ := List.mem_filterMap.1 hm
  rcases (toSlot_spec _ e m hem).2 with h | h | h <;> simp [h]

/-- the messages of track `i` at their rounded positions -/
def slotA (ppqn filePpq : Int) (tracks : List (List MidiEv)) (i : Nat) : List Msg :=
  trackMsgs ppqn filePpq 0 (tracks[i]?.getD [])

/-- with non-negative delta times `binary_insort` appends: a slot holds the messages of its track -/
theorem slotL_eq (ppqn filePpq : Int) (hp : 0 < ppqn) (hf : 0 < filePpq) (tracks : List (List MidiEv))
    (hd : ∀ evs ∈ tracks, ∀ e ∈ evs, 0 ≤ e.time) (i : Nat) :
    slotL ppqn filePpq tracks i = slotA ppqn filePpq tracks i := by
  unfold slotL slotA
  rw [← trackMsgs_eq]
  refine (trackMsgs_okAbs ppqn filePpq hp hf 0 (Int.le_refl _) _ ?_).2
  cases h : tracks[i]? with
  | none => simp
  | some evs => exact hd evs (List.mem_of_getElem? h)

/-- where a signature on the meta sequence comes from -/
def Prov (ppqn filePpq : Int) (tracks : List (List MidiEv)) (groups : List (List Nat)) (metaIdx : List Nat)
    (m : Msg) : Prop :=
  ∃ i evs, tracks[i]? = some evs ∧ (groups.flatten.contains i ∨ metaIdx.contains i)
    ∧ m ∈ metaMsgs ppqn filePpq (groups.flatten.contains i) 0 evs

/-- the slots hold note and program-change messages only, so no merged group carries a signature -/
theorem gmergeL_relI (ppqn filePpq : Int) (tracks : List (List MidiEv)) (groups : List (List Nat)) (gi : Nat)
    (r : List (List Msg)) (hr : (MidiL.rowsF ppqn filePpq tracks groups)[gi]? = some r) : RelI (MidiL.gmergeL r).rel := by
  have hrow : ∀ x ∈ r, AbsI x := by
    intro x hx
    rcases MidiL.mem_rowsF ppqn filePpq tracks groups gi r hr x hx with rfl | ⟨i, _, _, rfl⟩
    · simp [AbsI]
    · intro m hm
      have := ((foldl_insort_perm _ []).mem_iff).1 hm
      simp only [List.nil_append] at this
      obtain ⟨e, _, he⟩ := List.mem_filterMap.1 this
      rcases (MidiL.toSlot_spec true e m he).2 with h | h | h <;> simp [isSig, h]
  apply normalise_relI
  apply toRel_relI
  intro m hm
  rw [mem_sortAbs] at hm
  obtain ⟨y, hy, hmy⟩ := List.mem_flatten.1 hm
  obtain ⟨x, hx, rfl⟩ := List.mem_map.1 hy
  exact V_absI x (hrow x hx) m hmy

theorem metaOk_foldl (L : List Msg) : ∀ M, MetaOk M →
    (∀ m ∈ L, 0 ≤ m.time ∧ m.ty ≠ .wait ∧ m.ty ≠ .noteOn ∧ m.ty ≠ .noteOff) → MetaOk (L.foldl insort M) := by
  induction L with
  | nil => intro M h _; exact h
  | cons x xs ih =>
    intro M h hL
    obtain ⟨h0, hw, hn⟩ := hL x List.mem_cons_self
    exact ih _ (metaOk_insort M x h h0 hw hn) (fun y hy => hL y (List.mem_cons_of_mem _ hy))

theorem metaF_ok (ppqn filePpq : Int) (hp : 0 < ppqn) (hf : 0 < filePpq) (tracks : List (List MidiEv))
    (groups : List (List Nat)) (metaIdx : List Nat) (hd : ∀ evs ∈ tracks, ∀ e ∈ evs, 0 ≤ e.time) :
    MetaOk (metaF ppqn filePpq tracks groups metaIdx) := by
  apply metaOk_foldl _ _ metaOk_nil
  intro m hm
  obtain ⟨i, evs, hti, _, e, he, hem⟩ := mem_metaAll ppqn filePpq tracks groups metaIdx m hm
  obtain ⟨h1, h2⟩ := toMetaSeq_spec _ e m hem
  exact ⟨h1 ▸ (stamp_src ppqn filePpq hp hf evs 0 (Int.le_refl _) (hd evs (List.mem_of_getElem? hti)) e he).1, h2⟩

theorem metaF_prov (ppqn filePpq : Int) (tracks : List (List MidiEv)) (groups : List (List Nat)) (metaIdx : List Nat) :
    ∀ m ∈ metaF ppqn filePpq tracks groups metaIdx, isSig m → Prov ppqn filePpq tracks groups metaIdx m := by
  intro m hm hsig
  obtain ⟨i, evs, hti, hcons, e, he, hem⟩ := mem_metaAll ppqn filePpq tracks groups metaIdx m
    (by simpa using ((foldl_insort_perm _ []).mem_iff).1 hm)
  rw [firstGroupOf_isSome] at hem
  refine ⟨i, evs, hti, ?_, by rw [metaMsgs_eq]; exact List.mem_filterMap.2 ⟨e, he, toMetaSeq_sig _ e m hem hsig⟩⟩
  rw [← firstGroupOf_isSome]
  cases hfg : firstGroupOf groups i <;> simp [hfg] at hcons ⊢
  exact hcons

theorem target_view (ppqn filePpq : Int) (tracks : List (List MidiEv)) (groups : List (List Nat)) (metaIdx : List Nat)
    (target : Int) (out : List Seq) (h : convert ppqn filePpq tracks groups metaIdx target = .ok out)
    (s s' : Seq) (a : List Msg) (hs : out[target.toNat]? = some s) (ha : s.readAbs = .ok (s', a)) :
    ∃ R1 d, RelI R1 ∧ a = (finSeq d R1 (metaF ppqn filePpq tracks groups metaIdx)).abs := by
  obtain ⟨_, d, r, hr, ⟨hne, _⟩ | ⟨_, e⟩⟩ :=
    convert_read ppqn filePpq tracks groups metaIdx target out h target.toNat s s' a hs ha
  · exact absurd rfl hne
  · exact ⟨_, d, gmergeL_relI ppqn filePpq tracks groups _ r hr, e⟩

theorem sig_core (ppqn filePpq : Int) (hp : 0 < ppqn) (hf : 0 < filePpq)
    (tracks : List (List MidiEv)) (groups : List (List Nat)) (metaIdx : List Nat) (target : Int) (out : List Seq)
    (h : convert ppqn filePpq tracks groups metaIdx target = .ok out)
    (hd : ∀ evs ∈ tracks, ∀ e ∈ evs, 0 ≤ e.time)
    (s s' : Seq) (a : List Msg) (hs : out[target.toNat]? = some s) (ha : s.readAbs = .ok (s', a)) :
    ∀ m ∈ a, isSig m → (∃ c, m = Msg.mkTimeSig c 4 4 0) ∨ Prov ppqn filePpq tracks groups metaIdx m := by
  obtain ⟨R1, d, m3, hc⟩ := target_view ppqn filePpq tracks groups metaIdx target out h s s' a hs ha
  generalize hMdef : metaF ppqn filePpq tracks groups metaIdx = M at hc
  have hM : MetaOk M := hMdef ▸ metaF_ok ppqn filePpq hp hf tracks groups metaIdx hd
  have hprov : ∀ m ∈ M, isSig m → Prov ppqn filePpq tracks groups metaIdx m :=
    hMdef ▸ metaF_prov ppqn filePpq tracks groups metaIdx
  have hsub := C15.events_sublist [toAbs R1, M] (forall_mem_pair (C04.toAbs_ok _ m3.1) hM.1)
  have key : ∀ m ∈ toAbs (C15.mergeRel [toAbs R1, M]), isSig m → Prov ppqn filePpq tracks groups metaIdx m := by
    intro m hm hsig
    rcases mem_toAbs_cases hm with hty | he
    · rcases hsig with h | h <;> simp [hty] at h
    · have h2 := (mem_sortAbs _ _).1 (List.mem_filter.1 (hsub.subset he)).1
      simp only [List.flatten_cons, List.flatten_nil, List.append_nil, List.mem_append] at h2
      rcases h2 with h2 | h2
      · exact absurd hsig (toAbs_absI _ m3 m h2).1
      · exact hprov m h2 hsig
  intro m hma hsig
  rw [hc, finSeq_abs] at hma
  split at hma
  · exact Or.inr (key m hma hsig)
  · rcases List.mem_cons.1 ((insort_perm _ _).mem_iff.1 hma) with rfl | hma
    · exact Or.inl ⟨_, rfl⟩
    · exact Or.inr (key m hma hsig)

theorem gmergeL_rel (xs : List (List Msg)) : (gmergeL xs).rel = C15.mergeRel (xs.map V) := rfl

/-- **routing, arbitrary grouping**: the sounding set of loaded sequence `gi` is the union, over the tracks whose
    FIRST group is `gi`, of what the normalised track sounds — read as `Φ` of the track's messages -/
theorem load_first (ppqn filePpq : Int) (hp : 0 < ppqn) (hf : 0 < filePpq)
    (tracks : List (List MidiEv)) (groups : List (List Nat)) (metaIdx : List Nat) (target : Int) (out : List Seq)
    (h : convert ppqn filePpq tracks groups metaIdx target = .ok out)
    (hd : ∀ evs ∈ tracks, ∀ e ∈ evs, 0 ≤ e.time) (Φ : List Msg → Int × Int → Int → Prop)
    (hΦ : ∀ i ∈ groups.flatten, ∀ evs, tracks[i]? = some evs →
      GA (V (trackMsgs ppqn filePpq 0 evs))
      ∧ ∀ k t, CS k t (V (trackMsgs ppqn filePpq 0 evs)) ↔ Φ (trackMsgs ppqn filePpq 0 evs) k t)
    (gi : Nat) (s s' : Seq) (a : List Msg)
    (hs : out[gi]? = some s) (ha : s.readAbs = .ok (s', a)) (k : Int × Int) (t : Int) :
    SoundingAt (eventsAbs a) k t ↔
      ∃ i evs, tracks[i]? = some evs ∧ FirstGroup groups i gi ∧ Φ (trackMsgs ppqn filePpq 0 evs) k t := by
  obtain ⟨_, d, r, hr, hcase⟩ := convert_read ppqn filePpq tracks groups metaIdx target out h gi s s' a hs ha
  have hM := metaF_ok ppqn filePpq hp hf tracks groups metaIdx hd
  -- what a track of the grouping leaves in its slot, whether or not the file has it
  have htrack : ∀ i ∈ groups.flatten, GA (V (slotL ppqn filePpq tracks i)) ∧ ∀ k t,
      CS k t (V (slotL ppqn filePpq tracks i)) ↔ ∃ evs, tracks[i]? = some evs ∧ Φ (trackMsgs ppqn filePpq 0 evs) k t := by
    intro i hi
    rw [slotL_eq ppqn filePpq hp hf tracks hd]
    cases hti : tracks[i]? with
    | none =>
      rw [show slotA ppqn filePpq tracks i = [] by simp [slotA, hti, trackMsgs]]
      exact ⟨V_nil_silent.1, fun k t => ⟨fun hcs => absurd hcs (V_nil_silent.2 k t), fun ⟨_, h, _⟩ => nomatch h⟩⟩
    | some evs =>
      obtain ⟨h1, h2⟩ := hΦ i hi evs hti
      simp only [slotA, hti, Option.getD_some]
      exact ⟨h1, fun k t => by rw [h2]; simp⟩
  have hfirst : ∀ i pos, firstGroupOf groups i = some (gi, pos) → i ∈ groups.flatten := fun i pos hfg =>
    firstGroup_mem ((firstGroup_iff groups i gi).1 ⟨pos, hfg⟩)
  have hxs : ∀ x ∈ r, GA (V x) := by
    intro x hx
    rcases mem_rowsF ppqn filePpq tracks groups gi r hr x hx with rfl | ⟨i, pos, hfg, rfl⟩
    · exact V_nil_silent.1
    · exact (htrack i (hfirst i pos hfg)).1
  have hfin : (∃ x ∈ r, CS k t (V x)) ↔
      ∃ i evs, tracks[i]? = some evs ∧ FirstGroup groups i gi ∧ Φ (trackMsgs ppqn filePpq 0 evs) k t := by
    constructor
    · rintro ⟨x, hx, hcs⟩
      rcases mem_rowsF ppqn filePpq tracks groups gi r hr x hx with rfl | ⟨i, pos, hfg, rfl⟩
      · exact absurd hcs (V_nil_silent.2 k t)
      · obtain ⟨evs, hti, hφ⟩ := ((htrack i (hfirst i pos hfg)).2 k t).1 hcs
        exact ⟨i, evs, hti, (firstGroup_iff groups i gi).1 ⟨pos, hfg⟩, hφ⟩
    · rintro ⟨i, evs, hti, hfg, hφ⟩
      obtain ⟨pos, hfgo⟩ := (firstGroup_iff groups i gi).2 hfg
      obtain ⟨r', hr', hmem⟩ := slotL_mem_rowsF ppqn filePpq tracks groups i gi pos hfgo
      cases hr.symm.trans hr'
      exact ⟨_, hmem, ((htrack i (hfirst i pos hfgo)).2 k t).2 ⟨evs, hti, hφ⟩⟩
  rw [← hfin]
  rcases hcase with ⟨_, e⟩ | ⟨_, e⟩
  · rw [e, gmergeL_rel]
    exact out_sounding _ hxs k t
  · rw [e, gmergeL_rel]
    exact out_sounding_target _ hxs _ hM d k t

end SCoda.L2
