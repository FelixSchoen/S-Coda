/-
  The list functions in which `normalise` is specified: `fuseK`, what the depth counter of a key lets through, and the removal
  of repeated values, on values (`dedupD`) and on messages (`E2E.dedupBy`).
-/
import SCoda.Lemmas.Roll
namespace SCoda

/-- what the depth counter lets through: a note-on at depth 0, a note-off at depth 1 -/
def fuseK (k : Int × Int) : Nat → List Msg → List Msg
  | _, [] => []
  | d, m :: ms =>
    if m.nkey = k then
      if m.ty = .noteOn then (if d = 0 then m :: fuseK k 1 ms else fuseK k (d + 1) ms)
      else if m.ty = .noteOff then (if d = 1 then m :: fuseK k 0 ms else fuseK k (d - 1) ms)
      else fuseK k d ms
    else fuseK k d ms

section equations
variable {k : Int × Int} {m : Msg}

theorem fuseK_kon (h : m.nkey = k ∧ m.ty = .noteOn) (ms : List Msg) (d : Nat) :
    fuseK k d (m :: ms) = if d = 0 then m :: fuseK k 1 ms else fuseK k (d + 1) ms := by
  simp only [fuseK, h.1, h.2, if_true]

theorem fuseK_koff (h : m.nkey = k ∧ m.ty = .noteOff) (ms : List Msg) (d : Nat) :
    fuseK k d (m :: ms) = if d = 1 then m :: fuseK k 0 ms else fuseK k (d - 1) ms := by
  simp only [fuseK, h.1, h.2, if_true, reduceCtorEq, if_false]

theorem fuseK_kother (h : ¬ (m.nkey = k ∧ (m.ty = .noteOn ∨ m.ty = .noteOff))) (ms : List Msg) (d : Nat) :
    fuseK k d (m :: ms) = fuseK k d ms := by
  rw [fuseK]
  by_cases hk : m.nkey = k
  · rw [if_pos hk, if_neg fun e => h ⟨hk, Or.inl e⟩, if_neg fun e => h ⟨hk, Or.inr e⟩]
  · rw [if_neg hk]

end equations

theorem fuseK_append (k : Int × Int) (a b : List Msg) : ∀ d,
    fuseK k d (a ++ b) = fuseK k d a ++ fuseK k (depth k a d) b := by
  induction a with
  | nil => intro d; rfl
  | cons x xs ih =>
    intro d
    rw [List.cons_append]
    rcases kev_cases k x with h | h | h
    · rw [fuseK_kon h, fuseK_kon h, depth_cons_on h]
      split
      · rename_i hd; subst hd; rw [ih]; rfl
      · exact ih _
    · rw [fuseK_koff h, fuseK_koff h, depth_cons_off h]
      split
      · rename_i hd; subst hd; rw [ih]; rfl
      · exact ih _
    · rw [fuseK_kother h, fuseK_kother h, depth_cons_skip h, ih]

theorem fuseK_filter (k : Int × Int) (p : Msg → Bool) (hp : ∀ m, SplitL.Kev k m → p m = true) (l : List Msg) : ∀ d,
    fuseK k d (l.filter p) = fuseK k d l := by
  induction l with
  | nil => intro d; rfl
  | cons x xs ih =>
    intro d
    rcases kev_cases k x with h | h | h
    · simp only [List.filter_cons_of_pos (hp x ⟨h.1, Or.inl h.2⟩), fuseK_kon h, ih]
    · simp only [List.filter_cons_of_pos (hp x ⟨h.1, Or.inr h.2⟩), fuseK_koff h, ih]
    · rw [fuseK_kother h, ← ih, List.filter_cons]
      split
      · rw [fuseK_kother h]
      · rfl

theorem fuseK_sublist (k : Int × Int) (l : List Msg) : ∀ d, (fuseK k d l).Sublist l := by
  induction l with
  | nil => intro d; exact List.Sublist.slnil
  | cons x xs ih =>
    intro d
    rcases kev_cases k x with h | h | h
    · rw [fuseK_kon h]
      split
      · exact (ih _).cons_cons _
      · exact (ih _).cons _
    · rw [fuseK_koff h]
      split
      · exact (ih _).cons_cons _
      · exact (ih _).cons _
    · rw [fuseK_kother h]
      exact (ih _).cons _

theorem krun_fuseK (k : Int × Int) (l : List Msg) : ∀ d,
    krun k (decide (0 < d)) (fuseK k d l) = some (decide (0 < depth k l d)) := by
  induction l with
  | nil => intro d; rfl
  | cons x xs ih =>
    intro d
    rcases kev_cases k x with h | h | h
    · rw [fuseK_kon h, depth_cons_on h]
      split
      · rename_i hd
        subst hd
        exact (krun_cons_on k _ x _ h).trans (ih 1)
      · rename_i hd
        rw [← ih (d + 1), decide_eq_true (Nat.pos_of_ne_zero hd), decide_eq_true (Nat.succ_pos d)]
    · rw [fuseK_koff h, depth_cons_off h]
      split
      · rename_i hd
        subst hd
        exact (krun_cons_off k _ x _ h).trans (ih 0)
      · rename_i hd
        rw [← ih (d - 1)]
        congr 1
        rw [Bool.eq_iff_iff, decide_eq_true_eq, decide_eq_true_eq]
        omega
    · rw [fuseK_kother h, depth_cons_skip h]
      exact ih d

theorem fuseK_ons (k : Int × Int) (A : List Msg) (h : ∀ m ∈ A, m.nkey = k ∧ m.ty = .noteOn) : ∀ d,
    fuseK k d A = if d = 0 then A.take 1 else [] := by
  induction A with
  | nil => intro d; split <;> rfl
  | cons m A ih =>
    intro d
    have ih' := ih fun x hx => h x (List.mem_cons_of_mem _ hx)
    rw [fuseK_kon (h m List.mem_cons_self), ih' 1, if_neg Nat.one_ne_zero, ih' (d + 1), if_neg (Nat.succ_ne_zero d)]
    rfl

theorem fuseK_split_ons (k : Int × Int) (P A R : List Msg) (h : ∀ m ∈ A, m.nkey = k ∧ m.ty = .noteOn) (d : Nat) :
    fuseK k d (P ++ (A ++ R)) =
      fuseK k d P ++ ((if depth k P d = 0 then A.take 1 else []) ++ fuseK k (depth k A (depth k P d)) R) := by
  rw [fuseK_append, fuseK_append, fuseK_ons k A h]

def tsVals (l : List Msg) : List (Int × Int) :=
  (l.filter (·.ty == .timeSignature)).map (fun m => (m.num, m.den))
def ksVals (l : List Msg) : List Int := (l.filter (·.ty == .keySignature)).map (fun m => m.key)

/-- the value in force after `l` when `d` was in force before -/
def lastD {β} : β → List β → β
  | d, [] => d
  | _, x :: xs => lastD x xs

/-- drop every value that repeats the value in force (`p` at the start): the first of a run stays -/
def dedupD {β} [DecidableEq β] : β → List β → List β
  | _, [] => []
  | p, x :: xs => if p = x then dedupD p xs else x :: dedupD x xs

/-- no value of `p :: l` equals its successor -/
def ChainNe {β} : β → List β → Prop
  | _, [] => True
  | p, x :: xs => p ≠ x ∧ ChainNe x xs

theorem lastD_snoc {β} (l : List β) (x : β) : ∀ d, lastD d (l ++ [x]) = x := by
  induction l with
  | nil => intro d; rfl
  | cons y ys ih => intro d; exact ih y

theorem chainNe_dedupD {β} [DecidableEq β] (l : List β) : ∀ p, ChainNe p (dedupD p l) := by
  induction l with
  | nil => intro p; trivial
  | cons y ys ih =>
    intro p
    simp only [dedupD]
    split
    · exact ih p
    · exact ⟨by assumption, ih y⟩

theorem dedupD_of_chainNe {β} [DecidableEq β] (l : List β) : ∀ p, ChainNe p l → dedupD p l = l := by
  induction l with
  | nil => intro p _; rfl
  | cons y ys ih =>
    intro p h
    simp only [dedupD, h.1, if_false, ih y h.2]

theorem mem_dedupD {β} [DecidableEq β] (x : β) (l : List β) :
    ∀ p, x ∈ l → x ≠ p → x ∈ dedupD p l := by
  induction l with
  | nil => intro p h; cases h
  | cons y ys ih =>
    intro p hx hne
    simp only [dedupD]
    split
    · rename_i hpy
      subst hpy
      rcases List.mem_cons.1 hx with e | e
      · exact absurd e hne
      · exact ih p e hne
    · by_cases hxy : x = y
      · subst hxy; exact List.mem_cons_self
      · rcases List.mem_cons.1 hx with e | e
        · exact absurd e hxy
        · exact List.mem_cons_of_mem _ (ih y e hxy)

theorem dedupD_const {β} [DecidableEq β] (v : β) (l : List β) (h : ∀ x ∈ l, x = v) :
    ∀ p, dedupD p l = if p = v ∨ l = [] then [] else [v] := by
  induction l with
  | nil => intro p; simp [dedupD]
  | cons y ys ih =>
    intro p
    have hy : y = v := h y List.mem_cons_self
    subst hy
    have ih' := ih (fun x hx => h x (List.mem_cons_of_mem _ hx))
    simp only [dedupD, ih' y, true_or, if_true, reduceCtorEq, or_false]
    split
    · rename_i hp; rw [ih' p, if_pos (Or.inl hp)]
    · rfl

theorem tsVals_snoc (pre : List Msg) (m : Msg) :
    tsVals (pre ++ [m]) = tsVals pre ++ (if m.ty = .timeSignature then [(m.num, m.den)] else []) := by
  by_cases h : m.ty = .timeSignature <;> simp [tsVals, h]

theorem ksVals_snoc (pre : List Msg) (m : Msg) :
    ksVals (pre ++ [m]) = ksVals pre ++ (if m.ty = .keySignature then [m.key] else []) := by
  by_cases h : m.ty = .keySignature <;> simp [ksVals, h]

namespace E2E
/-- `dedupD` on events, by their value `v` -/
def dedupBy {β} [DecidableEq β] (v : Msg → β) : β → List Msg → List Msg
  | _, [] => []
  | p, x :: xs => if p = v x then dedupBy v p xs else x :: dedupBy v (v x) xs
end E2E

theorem dedupBy_map {β} [DecidableEq β] (v : Msg → β) (l : List Msg) : ∀ p,
    (E2E.dedupBy v p l).map v = dedupD p (l.map v) := by
  induction l with
  | nil => intro p; rfl
  | cons x xs ih =>
    intro p
    rw [E2E.dedupBy, List.map_cons, dedupD]
    split
    · exact ih p
    · rw [List.map_cons, ih]

theorem sounding_fuse (Ein Eout : List Msg) (k : Int × Int) (t : Int)
    (hs : Ein.Pairwise (fun a b => a.time ≤ b.time))
    (hf : Eout.filter (isKN k) = fuseK k 0 Ein) : SoundingAt Eout k t ↔ SoundingAt Ein k t := by
  obtain ⟨A1, A2, h1, h2, h3⟩ := split_sorted Ein t hs
  simp only [SoundingAt]
  have hin : Ein.filter (fun m => decide (m.time ≤ t)) = A1 := by
    rw [h1, List.filter_append, List.filter_eq_self.2 (by simpa using h2),
      List.filter_eq_nil_iff.2 (by intro a ha; have := h3 a ha; simp; omega), List.append_nil]
  have hout : (Eout.filter (fun m => decide (m.time ≤ t))).filter (isKN k) = fuseK k 0 A1 := by
    rw [List.filter_filter]
    have : (fun a => isKN k a && decide (a.time ≤ t)) = (fun a => decide (a.time ≤ t) && isKN k a) := by
      funext a; exact Bool.and_comm _ _
    rw [this, ← List.filter_filter, hf, h1, fuseK_append, List.filter_append]
    have s1 := fuseK_sublist k A1 0
    have s2 := fuseK_sublist k A2 (depth k A1 0)
    rw [List.filter_eq_self.2 (by intro a ha; simpa using h2 a (s1.subset ha)),
      List.filter_eq_nil_iff.2 (by intro a ha; have := h3 a (s2.subset ha); simp; omega), List.append_nil]
  rw [hin, ← depth_filter_kn, hout, show depth k (fuseK k 0 A1) 0 = (decide (0 < depth k A1 0)).toNat by
    simpa using depth_of_run (krun_fuseK k A1 0) 0]
  by_cases h : 0 < depth k A1 0 <;> simp [h]

theorem tsVals_cons (m : Msg) (l : List Msg) :
    tsVals (m :: l) = if m.ty = .timeSignature then (m.num, m.den) :: tsVals l else tsVals l := by
  by_cases h : m.ty = .timeSignature <;> simp [tsVals, h]

theorem ksVals_cons (m : Msg) (l : List Msg) :
    ksVals (m :: l) = if m.ty = .keySignature then m.key :: ksVals l else ksVals l := by
  by_cases h : m.ty = .keySignature <;> simp [ksVals, h]

theorem fuseK_of_alt (k : Int × Int) (l : List Msg) : ∀ b : Bool, altFrom k b l → fuseK k b.toNat l = l.filter (isKN k) := by
  induction l with
  | nil => intro _ _; rfl
  | cons x xs ih =>
    intro b h
    rcases kev_cases k x with hx | hx | hx
    · rw [altFrom_cons_on hx] at h
      rw [fuseK_kon hx, List.filter_cons_of_pos (isKN_true ⟨hx.1, Or.inl hx.2⟩), h.1, if_pos (show false.toNat = 0 from rfl),
        ← ih true h.2]
      rfl
    · rw [altFrom_cons_off hx] at h
      rw [fuseK_koff hx, List.filter_cons_of_pos (isKN_true ⟨hx.1, Or.inr hx.2⟩), h.1, if_pos (show true.toNat = 1 from rfl),
        ← ih false h.2]
      rfl
    · rw [altFrom_cons_skip hx] at h
      rw [fuseK_kother hx, List.filter_cons_of_neg (isKN_false hx), ih b h]

theorem chainNe_mid {β} (a : List β) (x : β) (b : List β) : ∀ d, ChainNe d (a ++ x :: b) → lastD d a ≠ x := by
  induction a with
  | nil => intro d h; exact h.1
  | cons y ys ih => intro d h; exact ih y h.2

end SCoda

namespace SCoda.C13b
/-- the value a key signature carries; the namespace is that of the property whose statements speak of it -/
def keyVal (m : Msg) : Int := m.key
end SCoda.C13b

namespace SCoda.E2E
open SCoda SCoda.C13b

theorem dedupBy_append {β} [DecidableEq β] (v : Msg → β) (l l' : List Msg) : ∀ p,
    dedupBy v p (l ++ l') = dedupBy v p l ++ dedupBy v (lastD p (l.map v)) l' := by
  induction l with
  | nil => intro p; rfl
  | cons y ys ih =>
    intro p
    simp only [List.cons_append, dedupBy, List.map_cons, lastD]
    split
    · rename_i h; rw [ih p, ← h]
    · rw [ih (v y)]; rfl

theorem dedupBy_sublist {β} [DecidableEq β] (v : Msg → β) (l : List Msg) : ∀ p, (dedupBy v p l).Sublist l := by
  induction l with
  | nil => intro p; exact List.Sublist.refl _
  | cons y ys ih =>
    intro p
    simp only [dedupBy]
    split
    · exact (ih p).cons _
    · exact (ih _).cons_cons _

theorem lastD_dedupBy {β} [DecidableEq β] (v : Msg → β) (l : List Msg) : ∀ p,
    lastD p ((dedupBy v p l).map v) = lastD p (l.map v) := by
  induction l with
  | nil => intro p; rfl
  | cons y ys ih =>
    intro p
    simp only [dedupBy, List.map_cons, lastD]
    split
    · rename_i h; rw [ih p, ← h]
    · simp only [List.map_cons, lastD]; exact ih _

/-- the tests and the value that `tsVals` / `ksVals` are made of, for the statements that go through `dedupBy` -/
def isTs (m : Msg) : Bool := m.ty == .timeSignature

def isKs (m : Msg) : Bool := m.ty == .keySignature

def tsv (m : Msg) : Int × Int := (m.num, m.den)

end SCoda.E2E

