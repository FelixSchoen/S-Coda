/-
  When two canonically sorted lists are equal: the same messages without ties in the sort key (`sortAbs_eq_of_perm`,
  `eq_of_strict_sorted`), or the same sub-list for every value of something that tying messages share (`eq_of_sorted_by`:
  the type, the sort key).  Hence sorting the parts first does not change the sorted whole (`sortAbs_flatten_map`).
-/
import SCoda.Lemmas.NoteSets
namespace SCoda.EQ
open SCoda

def key4 (m : Msg) : Int × Int × Nat × Int := (m.time, m.ch, m.ty.rank, m.note)

theorem eq_of_nodup_map {α β} (f : α → β) {l : List α} (h : (l.map f).Nodup) {x y : α}
    (hx : x ∈ l) (hy : y ∈ l) (hxy : f x = f y) : x = y := by
  rcases pairwise_mem (List.pairwise_map.1 (List.nodup_iff_pairwise_ne.1 h)) hx hy with e | e | e
  · exact e
  · exact absurd hxy e
  · exact absurd hxy.symm e

theorem sortAbs_eq_of_perm {a a' : List Msg} (hp : a.Perm a') (hk : (a.map key4).Nodup) :
    sortAbs a = sortAbs a' := by
  apply List.Perm.eq_of_pairwise (le := KLe) _ (sortAbs_sorted a) (sortAbs_sorted a')
  · exact (sortAbs_perm a).trans (hp.trans (sortAbs_perm a').symm)
  · intro x y hx hy h1 h2
    have hx' : x ∈ a := (mem_sortAbs _ _).1 hx
    have hy' : y ∈ a := hp.mem_iff.2 ((mem_sortAbs _ _).1 hy)
    have := keyLe_antisymm h1 h2
    exact eq_of_nodup_map key4 hk hx' hy' (by simp [key4, this])

theorem eq_of_sorted_by {γ} [DecidableEq γ] (κ : Msg → γ)
    (hκ : ∀ x y, KLe x y → KLe y x → κ x = κ y) : ∀ (l l' : List Msg), l.Pairwise KLe →
    l'.Pairwise KLe → (∀ v, l.filter (fun m => decide (κ m = v)) = l'.filter (fun m => decide (κ m = v))) →
    l = l' :=
  fun l l' hs hs' h => eq_of_sorted_of_classes (ι := γ) KLe (fun v m => decide (κ m = v)) (fun _ => True) l l' hs hs'
    (fun x _ => ⟨κ x, trivial, by simp⟩) (fun x y _ _ h1 h2 => ⟨κ x, trivial, by simp, by simp [hκ x y h1 h2]⟩) (fun v _ => h v)

theorem eq_of_sorted_types (l l' : List Msg) (hs : l.Pairwise KLe) (hs' : l'.Pairwise KLe)
    (h : ∀ τ : MType, l.filter (fun m => m.ty == τ) = l'.filter (fun m => m.ty == τ)) : l = l' :=
  eq_of_sorted_by (·.ty) (fun _ _ h1 h2 => MType.rank_injective (keyLe_antisymm h1 h2).2.2.1) l l' hs hs' h

theorem eq_of_strict_sorted (l l' : List Msg) (hs : l.Pairwise (fun x y => KLe x y ∧ ¬ KLe y x))
    (hs' : l'.Pairwise (fun x y => KLe x y ∧ ¬ KLe y x)) (hm : ∀ z, z ∈ l ↔ z ∈ l') : l = l' := by
  have refl : ∀ z : Msg, KLe z z := keyLe_refl
  have nd : ∀ {L : List Msg}, L.Pairwise (fun x y => KLe x y ∧ ¬ KLe y x) → L.Nodup := by
    intro L h
    rw [List.nodup_iff_pairwise_ne]
    refine h.imp ?_
    rintro a b ⟨_, h2⟩ e
    subst e
    exact h2 (refl a)
  apply List.Perm.eq_of_pairwise (le := KLe) _ (hs.imp (fun h => h.1)) (hs'.imp (fun h => h.1))
  · exact (List.perm_ext_iff_of_nodup (nd hs) (nd hs')).2 hm
  · intro a b ha hb h1 h2
    rcases pairwise_mem hs ha ((hm b).2 hb) with e | e | e
    · exact e
    · exact absurd h2 e.2
    · exact absurd h1 e.2

theorem eq_of_sorted_keys (l l' : List Msg) (hs : l.Pairwise KLe) (hs' : l'.Pairwise KLe)
    (h : ∀ v, l.filter (fun m => decide (key4 m = v)) = l'.filter (fun m => decide (key4 m = v))) :
    l = l' :=
  eq_of_sorted_by key4 (fun _ _ h1 h2 => by
    have := keyLe_antisymm h1 h2
    simp [key4, this.1, this.2.1, this.2.2.1, this.2.2.2]) l l' hs hs' h

theorem sortAbs_filter_key (l : List Msg) (v : Int × Int × Nat × Int) :
    (sortAbs l).filter (fun m => decide (key4 m = v)) = l.filter (fun m => decide (key4 m = v)) := by
  rw [filter_sortAbs]
  apply sortAbs_of_sorted
  rw [List.pairwise_iff_forall_sublist]
  intro a b hab
  have ha : a ∈ l.filter (fun m => decide (key4 m = v)) := hab.subset (by simp)
  have hb : b ∈ l.filter (fun m => decide (key4 m = v)) := hab.subset (by simp)
  have ea : key4 a = v := by simpa using (List.mem_filter.1 ha).2
  have eb : key4 b = v := by simpa using (List.mem_filter.1 hb).2
  have : key4 a = key4 b := ea.trans eb.symm
  simp only [key4, Prod.mk.injEq] at this
  rw [keyLe_iff]
  omega

theorem sortAbs_flatten_map (as : List (List Msg)) : sortAbs (as.map sortAbs).flatten = sortAbs as.flatten := by
  apply eq_of_sorted_keys _ _ (sortAbs_sorted _) (sortAbs_sorted _)
  intro v
  rw [sortAbs_filter_key, sortAbs_filter_key, List.filter_flatten, List.filter_flatten, List.map_map]
  congr 1
  apply List.map_congr_left
  intro a _
  exact sortAbs_filter_key a v

theorem isort_map {α : Type} (le : α → α → Bool) (g : α → α) (l : List α)
    (h : ∀ x ∈ l, ∀ y ∈ l, le (g x) (g y) = le x y) : isort le (l.map g) = (isort le l).map g := by
  rw [← map_isort, isort_congr _ le l h]

theorem keyLe_congr {a b a' b' : Msg} (ht : a'.time = a.time) (ht' : b'.time = b.time)
    (hc1 : a'.ch < b'.ch ↔ a.ch < b.ch) (hc2 : b'.ch < a'.ch ↔ b.ch < a.ch)
    (hy : a'.ty = a.ty) (hy' : b'.ty = b.ty) (hn : a'.note = a.note) (hn' : b'.note = b.note) :
    keyLe a' b' = keyLe a b := by
  unfold keyLe
  simp only [ht, ht', hc1, hc2, hy, hy', hn, hn']

end SCoda.EQ
