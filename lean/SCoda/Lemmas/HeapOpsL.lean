/-
  One region statement (`Lemmas/HeapL.lean`) per function of `Model/HeapOps.lean`, in the order of that file — views, `Sequence`,
  `Bar`, `Track` / `Composition`, `sequences_split_bars`, `scale` below 1 — each a composition of the statements of the functions it
  calls, by `Spec.trans`; then the same statement for one operation of `HOp` (`step_spec`) and for a history (`run_spec`), and the
  value facts behind `C16c.copy_equal*`.
-/
import SCoda.Lemmas.HeapL
namespace SCoda.HeapL
open SCoda SCoda.HeapOps

section views
variable {X : Region}

theorem newMsgs_spec {h : Heap} (hg : Good X h) (ms : List Msg) :
    Spec X h (newMsgs h ms).1 ∧ ∀ i ∈ (newMsgs h ms).2, In X (newMsgs h ms).1 (.msg, i) := by
  induction ms generalizing h with
  | nil => exact ⟨Spec.refl hg, by simp [newMsgs]⟩
  | cons m ms ih =>
    obtain ⟨s1, i1⟩ := newMsg_spec hg m
    obtain ⟨s2, i2⟩ := ih s1.good
    exact ⟨s1.trans s2, List.forall_mem_cons.2 ⟨i1.mono s2.pres, i2⟩⟩

/-- conversions and `AbstractSequence.copy`: no hypothesis on the source view -/
theorem convView_spec {h : Heap} (hg : Good X h) (f : List Msg → List Msg) (l : Nat) :
    Spec X h (convView f h l).1 ∧ In X (convView f h l).1 (.lst, (convView f h l).2) := by
  obtain ⟨s1, i1⟩ := newMsgs_spec hg (f (h.viewVals l))
  obtain ⟨s2, i2⟩ := newLst_spec s1.good _ i1
  exact ⟨s1.trans s2, i2⟩

theorem copyView_spec {h : Heap} (hg : Good X h) (l : Nat) :
    Spec X h (copyView h l).1 ∧ In X (copyView h l).1 (.lst, (copyView h l).2) := convView_spec hg id l

theorem msgCopy_spec {h : Heap} (hg : Good X h) (i : Nat) :
    Spec X h (msgCopy h i).1 ∧ In X (msgCopy h i).1 (.msg, (msgCopy h i).2) := newMsg_spec hg (h.msg i)

theorem writeMsgs_spec {h : Heap} (hg : Good X h) (ws : List (Nat × Msg)) (hx : ∀ w ∈ ws, X (.msg, w.1)) :
    Spec X h (writeMsgs h ws) := by
  induction ws generalizing h with
  | nil => exact Spec.refl hg
  | cons w ws ih =>
    obtain ⟨i, m⟩ := w
    have s1 := setMsg_spec hg i m (hx (i, m) (by simp))
    have s2 := ih s1.good (fun w hw => hx w (by simp [hw]))
    exact s1.trans s2

theorem editView_spec {h : Heap} (hg : Good X h) (g : List Msg → List Msg) {l : Nat} (hl : In X h (.lst, l)) :
    Spec X h (editView g h l) := by
  apply writeMsgs_spec hg
  intro w hw
  exact (lst_in hg hl w.1 (List.of_mem_zip hw).1).1

theorem buildIds_spec {h : Heap} (hg : Good X h) (src : List Nat) (hsrc : ∀ i ∈ src, In X h (.msg, i))
    (p : List Item) :
    Spec X h (buildIds h src p).1 ∧ ∀ i ∈ (buildIds h src p).2, In X (buildIds h src p).1 (.msg, i) := by
  induction p generalizing h with
  | nil => exact ⟨Spec.refl hg, by simp [buildIds]⟩
  | cons it p ih =>
    cases it with
    | keep k =>
      obtain ⟨s1, i1⟩ := ih hg hsrc
      refine ⟨s1, ?_⟩
      intro i hi
      simp only [buildIds] at hi
      cases hk : src[k]? with
      | none => rw [hk] at hi; exact i1 i hi
      | some j =>
        rw [hk] at hi
        simp only [List.mem_cons] at hi
        rcases hi with rfl | hi
        · exact (hsrc i (List.mem_of_getElem? hk)).mono s1.pres
        · exact i1 i hi
    | fresh m =>
      obtain ⟨s1, i1⟩ := newMsg_spec hg m
      obtain ⟨s2, i2⟩ := ih s1.good (fun i hi => (hsrc i hi).mono s1.pres)
      refine ⟨s1.trans s2, ?_⟩
      intro i hi
      simp only [buildIds, List.mem_cons] at hi
      rcases hi with rfl | hi
      · exact i1.mono s2.pres
      · exact i2 i hi

theorem rebuildView_spec {h : Heap} (hg : Good X h) (plan : List Msg → List Item) {l : Nat}
    (hl : In X h (.lst, l)) : Spec X h (rebuildView plan h l) := by
  obtain ⟨s1, i1⟩ := buildIds_spec hg (h.lst l) (lst_in hg hl) (plan (h.viewVals l))
  exact s1.trans (setLst_spec s1.good l _ hl.1 i1)

theorem forall_pick {P : Nat → Prop} {ids : List Nat} (h : ∀ i ∈ ids, P i) (ks : List Nat) :
    ∀ i ∈ ks.filterMap (fun k => ids[k]?), P i := fun i hi =>
  have ⟨_, _, hk⟩ := List.mem_filterMap.1 hi
  h i (List.mem_of_getElem? hk)

theorem permView_spec {h : Heap} (hg : Good X h) (p : List Msg → List Nat) {l : Nat}
    (hl : In X h (.lst, l)) : Spec X h (permView p h l) :=
  setLst_spec hg l _ hl.1 (forall_pick (lst_in hg hl) _)

theorem padView_spec {h : Heap} (hg : Good X h) (w : List Msg → Option Msg) {l : Nat}
    (hl : In X h (.lst, l)) : Spec X h (padView w h l) := by
  unfold padView
  split
  · exact Spec.refl hg
  · rename_i m _
    obtain ⟨s1, i1⟩ := newMsg_spec hg m
    exact s1.trans (setLst_spec s1.good l _ hl.1
      (List.forall_mem_append.2 ⟨lst_in s1.good (hl.mono s1.pres), List.forall_mem_singleton.2 i1⟩))

theorem mem_insertAt {α} {x y : α} {n : Nat} {l : List α} (h : y ∈ insertAt x n l) : y = x ∨ y ∈ l := by
  induction l generalizing n with
  | nil => cases n <;> simp_all [insertAt]
  | cons a l ih =>
    cases n with
    | zero => simpa [insertAt] using h
    | succ n =>
      simp only [insertAt, List.mem_cons] at h
      rcases h with rfl | h
      · right; simp
      · rcases ih h with rfl | h
        · left; rfl
        · right; simp [h]

theorem insertView_spec {h : Heap} (hg : Good X h) {l i : Nat} (idx : Option Nat)
    (hl : In X h (.lst, l)) (hi : In X h (.msg, i)) : Spec X h (insertView h l i idx) := by
  apply setLst_spec hg l _ hl.1
  cases idx with
  | none => exact List.forall_mem_append.2 ⟨lst_in hg hl, List.forall_mem_singleton.2 hi⟩
  | some k => exact fun j hj => (mem_insertAt hj).elim (· ▸ hi) (lst_in hg hl j)

theorem extendView_spec {h : Heap} (hg : Good X h) {l : Nat} (as : List Nat)
    (hl : In X h (.lst, l)) (has : ∀ a ∈ as, In X h (.lst, a)) : Spec X h (extendView h l as) := by
  induction as generalizing h with
  | nil => exact Spec.refl hg
  | cons a as ih =>
    have s1 : Spec X h (h.setLst l (h.lst l ++ h.lst a)) :=
      setLst_spec hg l _ hl.1 (List.forall_mem_append.2 ⟨lst_in hg hl, lst_in hg (has a (by simp))⟩)
    exact s1.trans (ih s1.good (hl.mono s1.pres) (fun b hb => (has b (by simp [hb])).mono s1.pres))

theorem splitPieces_spec {h : Heap} (hg : Good X h) (src : List Nat) (hsrc : ∀ i ∈ src, In X h (.msg, i))
    (ps : List (List Item)) :
    Spec X h (splitPieces h src ps).1 ∧ ∀ l ∈ (splitPieces h src ps).2, In X (splitPieces h src ps).1 (.lst, l) := by
  induction ps generalizing h with
  | nil => exact ⟨Spec.refl hg, by simp [splitPieces]⟩
  | cons p ps ih =>
    obtain ⟨s1, i1⟩ := buildIds_spec hg src hsrc p
    obtain ⟨s2, i2⟩ := newLst_spec s1.good _ i1
    have s12 := s1.trans s2
    obtain ⟨s3, i3⟩ := ih s2.good (fun i hi => (hsrc i hi).mono s12.pres)
    exact ⟨s12.trans s3, List.forall_mem_cons.2 ⟨i2.mono s3.pres, i3⟩⟩

theorem splitView_spec {h : Heap} (hg : Good X h) (plan : List Msg → List (List Item)) {l : Nat}
    (hl : In X h (.lst, l)) :
    Spec X h (splitView plan h l).1 ∧ ∀ p ∈ (splitView plan h l).2, In X (splitView plan h l).1 (.lst, p) :=
  splitPieces_spec hg (h.lst l) (lst_in hg hl) _

end views

section seqs
variable {X : Region} {o : Orc}

theorem seqInit_spec {h : Heap} (hg : Good X h) (a r : Option Nat)
    (ha : ∀ l, a = some l → In X h (.lst, l)) (hr : ∀ l, r = some l → In X h (.lst, l)) :
    Spec X h (seqInit h a r).1 ∧ In X (seqInit h a r).1 (.seq, (seqInit h a r).2) := by
  cases a with
  | none =>
    cases r with
    | none =>
      obtain ⟨s1, i1⟩ := newLst_spec hg [] (by simp)
      obtain ⟨s2, i2⟩ := newSeq_spec s1.good
        { abs := some (h.newLst []).2, rel := none, absStale := false, relStale := true }
        (of_some i1) nofun
      exact ⟨s1.trans s2, i2⟩
    | some r => exact newSeq_spec hg _ nofun (of_some (hr _ rfl))
  | some a =>
    cases r with
    | none => exact newSeq_spec hg _ (of_some (ha _ rfl)) nofun
    | some r => exact newSeq_spec hg _ (of_some (ha _ rfl)) (of_some (hr _ rfl))

theorem getAbs_spec {h : Heap} (hg : Good X h) {s : Nat} (hs : In X h (.seq, s)) :
    Spec X h (getAbs o h s).1 ∧ ∀ l, (getAbs o h s).2 = some l → In X (getAbs o h s).1 (.lst, l) := by
  unfold getAbs
  simp only
  split
  · split
    · exact ⟨Spec.refl hg, by simp⟩
    · split
      · exact ⟨Spec.refl hg, by simp⟩
      · rename_i r hr
        obtain ⟨s1, i1⟩ := convView_spec (X := X) hg o.toAbs r
        have s2 := setSeq_spec s1.good s { h.seq s with abs := some (convView o.toAbs h r).2, absStale := false }
          hs.1 (of_some i1)
          (fun _ hl => (seq_rel_in hg hs hl).mono s1.pres)
        exact ⟨s1.trans s2, of_some (i1.mono s2.pres)⟩
  · exact ⟨Spec.refl hg, fun l hl => seq_abs_in hg hs hl⟩

theorem getRel_spec {h : Heap} (hg : Good X h) {s : Nat} (hs : In X h (.seq, s)) :
    Spec X h (getRel o h s).1 ∧ ∀ l, (getRel o h s).2 = some l → In X (getRel o h s).1 (.lst, l) := by
  unfold getRel
  simp only
  split
  · split
    · exact ⟨Spec.refl hg, by simp⟩
    · split
      · exact ⟨Spec.refl hg, by simp⟩
      · rename_i r hr
        obtain ⟨s1, i1⟩ := convView_spec (X := X) hg o.toRel r
        have s2 := setSeq_spec s1.good s { h.seq s with rel := some (convView o.toRel h r).2, relStale := false }
          hs.1 (fun _ hl => (seq_abs_in hg hs hl).mono s1.pres) (of_some i1)
        exact ⟨s1.trans s2, of_some (i1.mono s2.pres)⟩
  · exact ⟨Spec.refl hg, fun l hl => seq_rel_in hg hs hl⟩

theorem invalidateAbs_spec {h : Heap} (hg : Good X h) {s : Nat} (hs : In X h (.seq, s)) :
    Spec X h (invalidateAbs h s) :=
  setSeq_spec hg s _ hs.1 (fun _ hl => seq_abs_in hg hs hl) (fun _ hl => seq_rel_in hg hs hl)

theorem invalidateRel_spec {h : Heap} (hg : Good X h) {s : Nat} (hs : In X h (.seq, s)) :
    Spec X h (invalidateRel h s) :=
  setSeq_spec hg s _ hs.1 (fun _ hl => seq_abs_in hg hs hl) (fun _ hl => seq_rel_in hg hs hl)

theorem readAbs_spec {h : Heap} (hg : Good X h) {s : Nat} (hs : In X h (.seq, s)) : Spec X h (readAbs o h s) :=
  (getAbs_spec hg hs).1
theorem readRel_spec {h : Heap} (hg : Good X h) {s : Nat} (hs : In X h (.seq, s)) : Spec X h (readRel o h s) :=
  (getRel_spec hg hs).1

theorem refresh_spec {h : Heap} (hg : Good X h) {s : Nat} (hs : In X h (.seq, s)) : Spec X h (refresh o h s) := by
  unfold refresh
  simp only
  split
  · exact Spec.refl hg
  · obtain ⟨s1, _⟩ := getAbs_spec (o := o) hg hs
    obtain ⟨s2, _⟩ := getRel_spec (o := o) s1.good (hs.mono s1.pres)
    exact s1.trans s2

theorem withRel_spec {h : Heap} (hg : Good X h) {s : Nat} (hs : In X h (.seq, s)) (f : Heap → Nat → Heap)
    (hf : ∀ h' l, Good X h' → Pres X h h' → In X h' (.lst, l) → Spec X h' (f h' l)) :
    Spec X h (withRel o h s f) := by
  obtain ⟨s1, i1⟩ := getRel_spec (o := o) hg hs
  unfold withRel
  simp only
  split
  · exact s1
  · rename_i l hl
    have s2 := hf _ l s1.good s1.pres (i1 l hl)
    have s12 := s1.trans s2
    exact s12.trans (invalidateAbs_spec s12.good (hs.mono s12.pres))

theorem iterRel_spec {h : Heap} (hg : Good X h) {s : Nat} (hs : In X h (.seq, s)) : Spec X h (iterRel o h s) :=
  withRel_spec hg hs _ (fun _ _ hg' _ _ => Spec.refl hg')

theorem withAbs_spec {h : Heap} (hg : Good X h) {s : Nat} (hs : In X h (.seq, s)) (f : Heap → Nat → Heap)
    (hf : ∀ h' l, Good X h' → Pres X h h' → In X h' (.lst, l) → Spec X h' (f h' l)) :
    Spec X h (withAbs o h s f) := by
  obtain ⟨s1, i1⟩ := getAbs_spec (o := o) hg hs
  unfold withAbs
  simp only
  split
  · exact s1
  · rename_i l hl
    have s2 := hf _ l s1.good s1.pres (i1 l hl)
    have s12 := s1.trans s2
    exact s12.trans (invalidateRel_spec s12.good (hs.mono s12.pres))

theorem copyOpt_spec {h : Heap} (hg : Good X h) (stale : Bool) (v : Option Nat) :
    Spec X h (copyOpt h stale v).1 ∧ ∀ l, (copyOpt h stale v).2 = some l → In X (copyOpt h stale v).1 (.lst, l) := by
  unfold copyOpt
  split
  · exact ⟨Spec.refl hg, by simp⟩
  · split
    · exact ⟨Spec.refl hg, by simp⟩
    · rename_i a
      obtain ⟨s1, i1⟩ := copyView_spec (X := X) hg a
      exact ⟨s1, of_some i1⟩

theorem seqCopy_spec {h : Heap} (hg : Good X h) (s : Nat) :
    Spec X h (seqCopy h s).1 ∧ In X (seqCopy h s).1 (.seq, (seqCopy h s).2) := by
  obtain ⟨sa, ia⟩ := copyOpt_spec (X := X) hg (h.seq s).absStale (h.seq s).abs
  obtain ⟨sr, ir⟩ := copyOpt_spec (X := X) sa.good (h.seq s).relStale (h.seq s).rel
  obtain ⟨s3, i3⟩ := seqInit_spec sr.good _ _ (fun l hl => (ia l hl).mono sr.pres) ir
  exact ⟨(sa.trans sr).trans s3, i3⟩

theorem pairings_spec {h : Heap} (hg : Good X h) (tag : Nat) {s : Nat} (hs : In X h (.seq, s)) :
    Spec X h (pairings o tag h s) := by
  obtain ⟨s1, i1⟩ := getAbs_spec (o := o) hg hs
  unfold pairings
  simp only
  split
  · exact s1
  · rename_i l hl
    exact s1.trans (permView_spec s1.good _ (i1 l hl))

theorem seqEquals_spec {h : Heap} (hg : Good X h) (tag : Nat) {s t : Nat} (hs : In X h (.seq, s))
    (ht : In X h (.seq, t)) : Spec X h (seqEquals o tag h s t) := by
  obtain ⟨s1, i1⟩ := getAbs_spec (o := o) hg hs
  unfold seqEquals
  simp only
  split
  · exact s1
  · rename_i l hl
    obtain ⟨s2, i2⟩ := getAbs_spec (o := o) s1.good (ht.mono s1.pres)
    split
    · exact s1.trans s2
    · rename_i l2 hl2
      have s3 := permView_spec s2.good (o.perm tag) ((i1 l hl).mono s2.pres)
      have s4 := permView_spec s3.good (o.perm (mix tag 1)) ((i2 l2 hl2).mono s3.pres)
      exact ((s1.trans s2).trans s3).trans s4

theorem setChannel_spec {h : Heap} (hg : Good X h) (ch : Int) {s : Nat} (hs : In X h (.seq, s)) :
    Spec X h (setChannel o h s ch) :=
  withRel_spec hg hs _ (fun _ _ hg' _ hl => editView_spec hg' _ hl)

theorem iterEditRel_spec {h : Heap} (hg : Good X h) (tag : Nat) {s : Nat} (hs : In X h (.seq, s)) :
    Spec X h (iterEditRel o tag h s) :=
  withRel_spec hg hs _ (fun _ _ hg' _ hl => editView_spec hg' _ hl)

theorem iterEditAbs_spec {h : Heap} (hg : Good X h) (tag : Nat) {s : Nat} (hs : In X h (.seq, s)) :
    Spec X h (iterEditAbs o tag h s) :=
  withAbs_spec hg hs _ (fun _ _ hg' _ hl => editView_spec hg' _ hl)

theorem absOpView_spec {h : Heap} (hg : Good X h) (tag : Nat) {l : Nat} (hl : In X h (.lst, l)) :
    Spec X h (absOpView o tag h l) := by
  have s1 := editView_spec hg (o.edit tag) hl
  exact s1.trans (rebuildView_spec s1.good _ (hl.mono s1.pres))

theorem quantise_spec {h : Heap} (hg : Good X h) (tag : Nat) {s : Nat} (hs : In X h (.seq, s)) :
    Spec X h (quantise o tag h s) :=
  withAbs_spec hg hs _ (fun _ _ hg' _ hl => absOpView_spec hg' tag hl)

theorem quantiseNoteLengths_spec {h : Heap} (hg : Good X h) (tag : Nat) {s : Nat} (hs : In X h (.seq, s)) :
    Spec X h (quantiseNoteLengths o tag h s) :=
  quantise_spec hg tag hs

theorem cutoff_spec {h : Heap} (hg : Good X h) (tag : Nat) {s : Nat} (hs : In X h (.seq, s)) :
    Spec X h (cutoff o tag h s) :=
  quantise_spec hg tag hs

theorem normalise_spec {h : Heap} (hg : Good X h) (tag : Nat) {s : Nat} (hs : In X h (.seq, s)) :
    Spec X h (normalise o tag h s) :=
  withRel_spec hg hs _ (fun _ _ hg' _ hl => rebuildView_spec hg' _ hl)

theorem pad_spec {h : Heap} (hg : Good X h) (tag : Nat) {s : Nat} (hs : In X h (.seq, s)) :
    Spec X h (pad o tag h s) :=
  withRel_spec hg hs _ (fun _ _ hg' _ hl => padView_spec hg' _ hl)

theorem addRel_spec {h : Heap} (hg : Good X h) (idx : Option Nat) {s i : Nat} (hs : In X h (.seq, s))
    (hi : In X h (.msg, i)) : Spec X h (addRel o h s i idx) :=
  withRel_spec hg hs _ (fun _ _ hg' hp hl => insertView_spec hg' idx hl (hi.mono hp))

theorem addAbs_spec {h : Heap} (hg : Good X h) (idx : Nat) {s i : Nat} (hs : In X h (.seq, s))
    (hi : In X h (.msg, i)) : Spec X h (addAbs o h s i idx) :=
  withAbs_spec hg hs _ (fun _ _ hg' hp hl => insertView_spec hg' (some idx) hl (hi.mono hp))

theorem quantiseAndNormalise_spec {h : Heap} (hg : Good X h) (tag : Nat) {s : Nat} (hs : In X h (.seq, s)) :
    Spec X h (quantiseAndNormalise o tag h s) := by
  have s1 := quantise_spec (o := o) hg tag hs
  have s2 := quantiseNoteLengths_spec (o := o) s1.good (mix tag 1) (hs.mono s1.pres)
  have s12 := s1.trans s2
  exact s12.trans (normalise_spec s12.good (mix tag 2) (hs.mono s12.pres))

theorem transpose_spec {h : Heap} (hg : Good X h) (tag : Nat) (sh : Bool) {s : Nat} (hs : In X h (.seq, s)) :
    Spec X h (transpose o tag sh h s) := by
  have s1 := iterEditRel_spec (o := o) hg tag hs
  unfold transpose
  simp only
  split
  · have s2 := normalise_spec (o := o) s1.good (mix tag 1) (hs.mono s1.pres)
    have s12 := s1.trans s2
    exact s12.trans (quantiseNoteLengths_spec s12.good (mix tag 2) (hs.mono s12.pres))
  · exact s1

theorem scaleUp_spec {h : Heap} (hg : Good X h) (tag : Nat) (qa : Bool) {s : Nat} (hs : In X h (.seq, s)) :
    Spec X h (scaleUp o tag qa h s) := by
  have s1 := iterEditRel_spec (o := o) hg tag hs
  unfold scaleUp
  simp only
  split
  · exact s1.trans (quantiseAndNormalise_spec s1.good (mix tag 1) (hs.mono s1.pres))
  · exact s1

theorem overwriteAbs_spec {h : Heap} (hg : Good X h) (tag : Nat) {s : Nat} (ids : List Nat)
    (hs : In X h (.seq, s)) (hi : ∀ i ∈ ids, In X h (.msg, i)) : Spec X h (overwriteAbs o tag h s ids) := by
  obtain ⟨s1, i1⟩ := newLst_spec hg _ (forall_pick hi (o.perm tag (h.vals ids)))
  exact s1.trans (setSeq_spec s1.good s _ hs.1 (of_some i1) fun _ => seq_rel_in s1.good (hs.mono s1.pres))

theorem overwriteRel_spec {h : Heap} (hg : Good X h) {s : Nat} (ids : List Nat)
    (hs : In X h (.seq, s)) (hi : ∀ i ∈ ids, In X h (.msg, i)) : Spec X h (overwriteRel h s ids) := by
  obtain ⟨s1, i1⟩ := newLst_spec hg ids hi
  exact s1.trans (setSeq_spec s1.good s _ hs.1 (fun _ => seq_abs_in s1.good (hs.mono s1.pres)) (of_some i1))

theorem getRels_spec {h : Heap} (hg : Good X h) (ss : List Nat) (hss : ∀ s ∈ ss, In X h (.seq, s)) :
    Spec X h (getRels o h ss).1 ∧ ∀ ls, (getRels o h ss).2 = some ls → ∀ l ∈ ls, In X (getRels o h ss).1 (.lst, l) := by
  induction ss generalizing h with
  | nil => exact ⟨Spec.refl hg, of_some (a := []) nofun⟩
  | cons s ss ih =>
    obtain ⟨s1, i1⟩ := getRel_spec (o := o) hg (hss s (by simp))
    simp only [getRels]
    split
    · exact ⟨s1, by simp⟩
    · rename_i l hl
      obtain ⟨s2, i2⟩ := ih s1.good (fun t ht => (hss t (by simp [ht])).mono s1.pres)
      refine ⟨s1.trans s2, fun ls hls => ?_⟩
      obtain ⟨ls', hls', rfl⟩ := Option.map_eq_some_iff.1 hls
      exact List.forall_mem_cons.2 ⟨(i1 _ hl).mono s2.pres, i2 ls' hls'⟩

theorem getAbss_spec {h : Heap} (hg : Good X h) (ss : List Nat) (hss : ∀ s ∈ ss, In X h (.seq, s)) :
    Spec X h (getAbss o h ss).1 ∧ ∀ ls, (getAbss o h ss).2 = some ls → ∀ l ∈ ls, In X (getAbss o h ss).1 (.lst, l) := by
  induction ss generalizing h with
  | nil => exact ⟨Spec.refl hg, of_some (a := []) nofun⟩
  | cons s ss ih =>
    obtain ⟨s1, i1⟩ := getAbs_spec (o := o) hg (hss s (by simp))
    simp only [getAbss]
    split
    · exact ⟨s1, by simp⟩
    · rename_i l hl
      obtain ⟨s2, i2⟩ := ih s1.good (fun t ht => (hss t (by simp [ht])).mono s1.pres)
      refine ⟨s1.trans s2, fun ls hls => ?_⟩
      obtain ⟨ls', hls', rfl⟩ := Option.map_eq_some_iff.1 hls
      exact List.forall_mem_cons.2 ⟨(i1 _ hl).mono s2.pres, i2 ls' hls'⟩

theorem concatenate_spec {h : Heap} (hg : Good X h) {s : Nat} (args : List Nat) (hs : In X h (.seq, s))
    (ha : ∀ a ∈ args, In X h (.seq, a)) : Spec X h (concatenate o h s args) := by
  obtain ⟨s1, i1⟩ := getRel_spec (o := o) hg hs
  unfold concatenate
  simp only
  split
  · exact s1
  · rename_i l hl
    obtain ⟨s2, i2⟩ := getRels_spec (o := o) s1.good args (fun a h' => (ha a h').mono s1.pres)
    have s12 := s1.trans s2
    split
    · exact s12
    · rename_i ls hls
      have s3 := extendView_spec s2.good ls ((i1 l hl).mono s2.pres) (i2 ls hls)
      have s123 := s12.trans s3
      exact s123.trans (invalidateAbs_spec s123.good (hs.mono s123.pres))

theorem merge_spec {h : Heap} (hg : Good X h) (tag : Nat) {s : Nat} (args : List Nat) (hs : In X h (.seq, s))
    (ha : ∀ a ∈ args, In X h (.seq, a)) : Spec X h (merge o tag h s args) := by
  obtain ⟨s1, i1⟩ := getAbs_spec (o := o) hg hs
  unfold merge
  simp only
  split
  · exact s1
  · rename_i l hl
    obtain ⟨s2, i2⟩ := getAbss_spec (o := o) s1.good args (fun a h' => (ha a h').mono s1.pres)
    have s12 := s1.trans s2
    split
    · exact s12
    · rename_i ls hls
      have s3 := extendView_spec s2.good ls ((i1 l hl).mono s2.pres) (i2 ls hls)
      have s4 := permView_spec s3.good (o.perm tag) (((i1 l hl).mono s2.pres).mono s3.pres)
      have s1234 := (s12.trans s3).trans s4
      have s5 := invalidateRel_spec s1234.good (hs.mono s1234.pres)
      have s15 := s1234.trans s5
      exact s15.trans (normalise_spec s15.good (mix tag 1) (hs.mono s15.pres))

theorem wrapCopies_spec {h : Heap} (hg : Good X h) (ps : List Nat) :
    Spec X h (wrapCopies h ps).1 ∧ ∀ s ∈ (wrapCopies h ps).2, In X (wrapCopies h ps).1 (.seq, s) := by
  induction ps generalizing h with
  | nil => exact ⟨Spec.refl hg, by simp [wrapCopies]⟩
  | cons p ps ih =>
    obtain ⟨s1, i1⟩ := copyView_spec (X := X) hg p
    obtain ⟨s2, i2⟩ := seqInit_spec s1.good none (some (copyView h p).2) (by simp)
      (of_some i1)
    obtain ⟨s3, i3⟩ := ih s2.good
    exact ⟨(s1.trans s2).trans s3, List.forall_mem_cons.2 ⟨i2.mono s3.pres, i3⟩⟩

theorem wrapShared_spec {h : Heap} (hg : Good X h) (ps : List Nat) (hps : ∀ p ∈ ps, In X h (.lst, p)) :
    Spec X h (wrapShared h ps).1 ∧ ∀ s ∈ (wrapShared h ps).2, In X (wrapShared h ps).1 (.seq, s) := by
  induction ps generalizing h with
  | nil => exact ⟨Spec.refl hg, by simp [wrapShared]⟩
  | cons p ps ih =>
    obtain ⟨s2, i2⟩ := seqInit_spec hg none (some p) (by simp)
      (of_some (hps _ (by simp)))
    obtain ⟨s3, i3⟩ := ih s2.good (fun q hq => (hps q (by simp [hq])).mono s2.pres)
    exact ⟨s2.trans s3, List.forall_mem_cons.2 ⟨i2.mono s3.pres, i3⟩⟩

theorem split_spec {h : Heap} (hg : Good X h) (tag : Nat) {s : Nat} (hs : In X h (.seq, s)) :
    Spec X h (split o tag h s).1 ∧ ∀ p ∈ (split o tag h s).2, In X (split o tag h s).1 (.seq, p) := by
  obtain ⟨s1, i1⟩ := getRel_spec (o := o) hg hs
  unfold split
  simp only
  split
  · exact ⟨s1, by simp⟩
  · rename_i l hl
    obtain ⟨s2, _⟩ := splitView_spec s1.good (o.splitPlan tag) (i1 l hl)
    obtain ⟨s3, i3⟩ := wrapCopies_spec (X := X) s2.good (splitView (o.splitPlan tag) (getRel o h s).1 l).2
    exact ⟨(s1.trans s2).trans s3, i3⟩

theorem splitUnrepaired_spec {h : Heap} (hg : Good X h) (tag : Nat) {s : Nat} (hs : In X h (.seq, s)) :
    Spec X h (splitUnrepaired o tag h s).1 ∧
      ∀ p ∈ (splitUnrepaired o tag h s).2, In X (splitUnrepaired o tag h s).1 (.seq, p) := by
  obtain ⟨s1, i1⟩ := getRel_spec (o := o) hg hs
  unfold splitUnrepaired
  simp only
  split
  · exact ⟨s1, by simp⟩
  · rename_i l hl
    obtain ⟨s2, i2⟩ := splitView_spec s1.good (o.splitPlan tag) (i1 l hl)
    obtain ⟨s3, i3⟩ := wrapShared_spec s2.good _ i2
    exact ⟨(s1.trans s2).trans s3, i3⟩

end seqs

section bars
variable {X : Region} {o : Orc}

theorem barFinish_spec {h : Heap} (hg : Good X h) (tag : Nat) {s l : Nat} (num den : Int)
    (hs : In X h (.seq, s)) (hl : In X h (.lst, l)) : Spec X h (barFinish o tag h s l num den) := by
  have s1 := invalidateAbs_spec hg hs
  have s2 := overwriteRel_spec s1.good ((o.perm tag (h.viewVals l)).filterMap (fun k => (h.lst l)[k]?))
    (hs.mono s1.pres) (forall_pick (fun i hi => (lst_in hg hl i hi).mono s1.pres) _)
  have s12 := s1.trans s2
  obtain ⟨s3, i3⟩ := newMsg_spec s2.good (o.tsMsg num den)
  have s13 := s12.trans s3
  have s4 := addRel_spec (o := o) s3.good (some 0) (hs.mono s13.pres) i3
  have s14 := s13.trans s4
  exact s14.trans (invalidateAbs_spec s14.good (hs.mono s14.pres))

theorem barBody_spec {h : Heap} (hg : Good X h) (tag : Nat) {s : Nat} (num den : Int)
    (hs1 : In X h (.seq, s)) : Spec X h (barBody o tag h s num den) := by
  have t2 := normalise_spec (o := o) hg tag hs1
  have t3 := iterRel_spec (o := o) t2.good (hs1.mono t2.pres)
  have t23 := t2.trans t3
  have t4 : Spec X _ (withRel o _ s (padView (o.barPadMsg (mix tag 1)))) :=
    withRel_spec (o := o) t23.good (hs1.mono t23.pres) _ (fun _ _ hg' _ hl => padView_spec hg' _ hl)
  have t24 := t23.trans t4
  have t5 := iterRel_spec (o := o) t24.good (hs1.mono t24.pres)
  have t25 := t24.trans t5
  obtain ⟨t6, i6⟩ := getRel_spec (o := o) t25.good (hs1.mono t25.pres)
  have t26 := t25.trans t6
  unfold barBody
  simp only
  split
  · exact t26
  · rename_i l hl
    have t7 := barFinish_spec (o := o) t26.good (mix tag 2) num den (hs1.mono t26.pres) (i6 l hl)
    exact t26.trans t7

theorem barInit_spec {h : Heap} (hg : Good X h) (tag : Nat) {s : Nat} (num den key : Int)
    (hs : In X h (.seq, s)) :
    Spec X h (barInit o tag h s num den key).1 ∧
      In X (barInit o tag h s num den key).1 (.bar, (barInit o tag h s num den key).2) := by
  obtain ⟨s1, ib⟩ := newBar_spec hg { seq := s, num := num, den := den, key := key } hs
  have t := barBody_spec (o := o) s1.good tag num den (hs.mono s1.pres)
  exact ⟨s1.trans t, ib.mono t.pres⟩

/-- the second half of `Bar.copy()` (bar.py:63-65: copy the sequence, construct a bar on the copy): no hypothesis on the
    source sequence -/
theorem barCopyFrom_spec {h : Heap} (hg : Good X h) (tag : Nat) (s : Nat) (num den key : Int) :
    Spec X h (barInit o tag (seqCopy h s).1 (seqCopy h s).2 num den key).1 ∧
      In X (barInit o tag (seqCopy h s).1 (seqCopy h s).2 num den key).1
        (.bar, (barInit o tag (seqCopy h s).1 (seqCopy h s).2 num den key).2) := by
  obtain ⟨s1, i1⟩ := seqCopy_spec (X := X) hg s
  obtain ⟨s2, i2⟩ := barInit_spec (o := o) s1.good tag num den key i1
  exact ⟨s1.trans s2, i2⟩

theorem barCopy_eq (tag : Nat) (h : Heap) (b : Nat) :
    barCopy o tag h b = barInit o tag (seqCopy (readRel o h (h.bar b).seq) (h.bar b).seq).1
      (seqCopy (readRel o h (h.bar b).seq) (h.bar b).seq).2 (h.bar b).num (h.bar b).den (h.bar b).key := rfl

/-- `Bar.copy()`: the source bar's sequence lies in the region (its wrapper may be written: `self.sequence.rel` regenerates a
    stale relative view, bar.py:59) -/
theorem barCopy_spec {h : Heap} (hg : Good X h) (tag : Nat) (b : Nat) (hs : In X h (.seq, (h.bar b).seq)) :
    Spec X h (barCopy o tag h b).1 ∧ In X (barCopy o tag h b).1 (.bar, (barCopy o tag h b).2) := by
  have s0 := readRel_spec (o := o) hg hs
  obtain ⟨s1, i1⟩ := barCopyFrom_spec (o := o) s0.good tag (h.bar b).seq (h.bar b).num (h.bar b).den (h.bar b).key
  exact ⟨s0.trans s1, i1⟩

theorem barTranspose_spec {h : Heap} (hg : Good X h) (tag : Nat) (sh : Bool) (k : Int) {b : Nat}
    (hb : In X h (.bar, b)) : Spec X h (barTranspose o tag sh k h b) := by
  have s1 := setBar_spec hg b { h.bar b with key := k } hb.1 (bar_seq_in hg hb)
  have hs : In X (h.setBar b { h.bar b with key := k }) (.seq, ((h.setBar b { h.bar b with key := k }).bar b).seq) :=
    bar_seq_in s1.good (hb.mono s1.pres)
  exact s1.trans (transpose_spec s1.good tag sh hs)

theorem barsToSequence_spec {h : Heap} (hg : Good X h) (bars : List Nat) (hb : ∀ b ∈ bars, In X h (.bar, b)) :
    Spec X h (barsToSequence o h bars).1 ∧ In X (barsToSequence o h bars).1 (.seq, (barsToSequence o h bars).2) := by
  obtain ⟨s1, i1⟩ := seqInit_spec hg none none (by simp) (by simp)
  have s2 := concatenate_spec (o := o) s1.good (bars.map (fun b => ((seqInit h none none).1.bar b).seq)) i1 (by
    intro a ha
    simp only [List.mem_map] at ha
    obtain ⟨b, hb', rfl⟩ := ha
    exact bar_seq_in s1.good ((hb b hb').mono s1.pres))
  exact ⟨s1.trans s2, i1.mono s2.pres⟩

theorem trkInit_spec {h : Heap} (hg : Good X h) (tag : Nat) (bars : List Nat) (name : Int)
    (hb : ∀ b ∈ bars, In X h (.bar, b)) :
    Spec X h (trkInit o tag h bars name).1 ∧ In X (trkInit o tag h bars name).1 (.trk, (trkInit o tag h bars name).2) := by
  obtain ⟨s1, it⟩ := newTrk_spec hg { bars := bars, name := name, program := pyNone } hb
  obtain ⟨t2, i2⟩ := barsToSequence_spec (o := o) s1.good bars (fun b hb' => (hb b hb').mono s1.pres)
  have t3 := iterRel_spec (o := o) t2.good i2
  have t23 := t2.trans t3
  have it3 := it.mono t23.pres
  have t4 : Spec X _ (trkInit o tag h bars name).1 := setTrk_spec t23.good _ _ it3.1 (trk_bars_in t23.good it3)
  exact ⟨s1.trans (t23.trans t4), it3.mono t4.pres⟩

theorem barCopies_spec {h : Heap} (hg : Good X h) (tag : Nat) (bs : List Nat) (hb : ∀ b ∈ bs, In X h (.bar, b)) :
    Spec X h (barCopies o tag h bs).1 ∧ ∀ b ∈ (barCopies o tag h bs).2, In X (barCopies o tag h bs).1 (.bar, b) := by
  induction bs generalizing h tag with
  | nil => exact ⟨Spec.refl hg, by simp [barCopies]⟩
  | cons b bs ih =>
    obtain ⟨s1, i1⟩ := barCopy_spec (o := o) (X := X) hg tag b (bar_seq_in hg (hb b (by simp)))
    obtain ⟨s2, i2⟩ := ih s1.good (mix tag 3) (fun b' hb' => (hb b' (by simp [hb'])).mono s1.pres)
    exact ⟨s1.trans s2, List.forall_mem_cons.2 ⟨i1.mono s2.pres, i2⟩⟩

/-- `Track.copy()`: the source track lies in the region (the wrappers of its bars' sequences may be written) -/
theorem trkCopy_spec {h : Heap} (hg : Good X h) (tag : Nat) (t : Nat) (ht : In X h (.trk, t)) :
    Spec X h (trkCopy o tag h t).1 ∧ In X (trkCopy o tag h t).1 (.trk, (trkCopy o tag h t).2) := by
  obtain ⟨s1, i1⟩ := barCopies_spec (o := o) (X := X) hg tag (h.trk t).bars (trk_bars_in hg ht)
  obtain ⟨s2, i2⟩ := trkInit_spec (o := o) s1.good (mix tag 4) _ (h.trk t).name i1
  exact ⟨s1.trans s2, i2⟩

theorem trkToSequence_spec {h : Heap} (hg : Good X h) {t : Nat} (ht : In X h (.trk, t)) :
    Spec X h (trkToSequence o h t).1 ∧ In X (trkToSequence o h t).1 (.seq, (trkToSequence o h t).2) :=
  barsToSequence_spec hg _ (trk_bars_in hg ht)

theorem trkCopies_spec {h : Heap} (hg : Good X h) (tag : Nat) (ts : List Nat) (ht : ∀ t ∈ ts, In X h (.trk, t)) :
    Spec X h (trkCopies o tag h ts).1 ∧ ∀ t ∈ (trkCopies o tag h ts).2, In X (trkCopies o tag h ts).1 (.trk, t) := by
  induction ts generalizing h tag with
  | nil => exact ⟨Spec.refl hg, by simp [trkCopies]⟩
  | cons t ts ih =>
    obtain ⟨s1, i1⟩ := trkCopy_spec (o := o) (X := X) hg tag t (ht t (by simp))
    obtain ⟨s2, i2⟩ := ih s1.good (mix tag 5) (fun t' ht' => (ht t' (by simp [ht'])).mono s1.pres)
    exact ⟨s1.trans s2, List.forall_mem_cons.2 ⟨i1.mono s2.pres, i2⟩⟩

theorem cmpCopy_spec {h : Heap} (hg : Good X h) (tag : Nat) (c : Nat) (hc : In X h (.cmp, c)) :
    Spec X h (cmpCopy o tag h c).1 ∧ In X (cmpCopy o tag h c).1 (.cmp, (cmpCopy o tag h c).2) := by
  obtain ⟨s1, i1⟩ := trkCopies_spec (o := o) (X := X) hg tag (h.cmp c) (cmp_trks_in hg hc)
  obtain ⟨s2, i2⟩ := newCmp_spec s1.good _ i1
  exact ⟨s1.trans s2, i2⟩

theorem seqCopies_spec {h : Heap} (hg : Good X h) (ss : List Nat) :
    Spec X h (seqCopies h ss).1 ∧ ∀ s ∈ (seqCopies h ss).2, In X (seqCopies h ss).1 (.seq, s) := by
  induction ss generalizing h with
  | nil => exact ⟨Spec.refl hg, by simp [seqCopies]⟩
  | cons s ss ih =>
    obtain ⟨s1, i1⟩ := seqCopy_spec (X := X) hg s
    obtain ⟨s2, i2⟩ := ih s1.good
    exact ⟨s1.trans s2, List.forall_mem_cons.2 ⟨i1.mono s2.pres, i2⟩⟩

theorem sbSplit_spec {h : Heap} (hg : Good X h) (tag : Nat) {cur : Nat} (hs : In X h (.seq, cur)) :
    Spec X h (sbSplit o tag h cur).1 ∧ ∀ p ∈ (sbSplit o tag h cur).2, In X (sbSplit o tag h cur).1 (.seq, p) :=
  splitUnrepaired_spec hg tag hs

theorem sbBar_spec {h : Heap} (hg : Good X h) (tag : Nat) (qnl : Bool) {s0 : Nat} (hs : In X h (.seq, s0)) :
    Spec X h (sbBar o tag qnl h s0).1 ∧ In X (sbBar o tag qnl h s0).1 (.bar, (sbBar o tag qnl h s0).2) := by
  have s1 : Spec X h (if qnl then quantiseNoteLengths o (mix tag 1) h s0 else h) := by
    split
    · exact quantiseNoteLengths_spec hg _ hs
    · exact Spec.refl hg
  obtain ⟨s2, i2⟩ := barInit_spec (o := o) s1.good (mix tag 2) (o.barSig tag (optVals h (h.seq s0).rel)).1
    (o.barSig tag (optVals h (h.seq s0).rel)).2.1 (o.barSig tag (optVals h (h.seq s0).rel)).2.2 (hs.mono s1.pres)
  exact ⟨s1.trans s2, i2⟩

theorem sbTrack_spec {h : Heap} (hg : Good X h) (tag : Nat) (qnl : Bool) {cur : Nat} (hs : In X h (.seq, cur)) :
    Spec X h (sbTrack o tag qnl h cur).1 ∧ In X (sbTrack o tag qnl h cur).1 (.seq, (sbTrack o tag qnl h cur).2.1)
      ∧ In X (sbTrack o tag qnl h cur).1 (.bar, (sbTrack o tag qnl h cur).2.2.1) := by
  obtain ⟨s1, i1⟩ := sbSplit_spec (o := o) hg tag hs
  unfold sbTrack
  simp only
  split
  · rename_i s0 s1' rest hw
    obtain ⟨s2, i2⟩ := sbBar_spec (o := o) s1.good tag qnl (i1 s0 (by simp [hw]))
    exact ⟨s1.trans s2, (i1 s1' (by simp [hw])).mono s2.pres, i2⟩
  · rename_i s0 hw
    obtain ⟨s2, i2⟩ := seqInit_spec s1.good none none (by simp) (by simp)
    obtain ⟨s3, i3⟩ := sbBar_spec (o := o) s2.good tag qnl ((i1 s0 (by simp [hw])).mono s2.pres)
    exact ⟨(s1.trans s2).trans s3, i2.mono s3.pres, i3⟩
  · rename_i hw
    obtain ⟨s2, i2⟩ := seqInit_spec s1.good none none (by simp) (by simp)
    obtain ⟨s2', i2'⟩ := seqInit_spec s2.good none none (by simp) (by simp)
    obtain ⟨s3, i3⟩ := sbBar_spec (o := o) s2'.good tag qnl (i2.mono s2'.pres)
    exact ⟨((s1.trans s2).trans s2').trans s3, i2'.mono s3.pres, i3⟩

/-- the invariant of the loop state: current sequences and collected bars lie in the region -/
def StIn (X : Region) (h : Heap) (st : List (Nat × List Nat)) : Prop :=
  ∀ t ∈ st, In X h (.seq, t.1) ∧ ∀ b ∈ t.2, In X h (.bar, b)

theorem StIn.mono {h h' : Heap} {st : List (Nat × List Nat)} (hst : StIn X h st) (hp : Pres X h h') : StIn X h' st :=
  fun t ht => ⟨(hst t ht).1.mono hp, fun b hb => ((hst t ht).2 b hb).mono hp⟩

theorem sbRound_spec {h : Heap} (hg : Good X h) (tag : Nat) (qnl : Bool) (st : List (Nat × List Nat))
    (hst : StIn X h st) :
    Spec X h (sbRound o tag qnl h st).1 ∧ StIn X (sbRound o tag qnl h st).1 (sbRound o tag qnl h st).2.1 := by
  induction st generalizing h tag with
  | nil => exact ⟨Spec.refl hg, by simp [sbRound, StIn]⟩
  | cons t st ih =>
    obtain ⟨cur, bars⟩ := t
    obtain ⟨s1, ic, ib⟩ := sbTrack_spec (o := o) hg tag qnl (hst (cur, bars) (by simp)).1
    have hst' : StIn X (sbTrack o tag qnl h cur).1 st :=
      StIn.mono (fun t ht => hst t (by simp [ht])) s1.pres
    obtain ⟨s2, i2⟩ := ih s1.good (mix tag 6) hst'
    refine ⟨s1.trans s2, ?_⟩
    intro u hu
    simp only [sbRound, List.mem_cons] at hu
    rcases hu with rfl | hu
    · exact ⟨ic.mono s2.pres, List.forall_mem_append.2
        ⟨fun b hb => ((hst (cur, bars) (by simp)).2 b hb).mono (s1.trans s2).pres, List.forall_mem_singleton.2 (ib.mono s2.pres)⟩⟩
    · exact i2 u hu

theorem sbLoop_spec {h : Heap} (hg : Good X h) (tag : Nat) (qnl : Bool) (n : Nat) (st : List (Nat × List Nat))
    (hst : StIn X h st) :
    Spec X h (sbLoop o tag qnl n h st).1 ∧ StIn X (sbLoop o tag qnl n h st).1 (sbLoop o tag qnl n h st).2 := by
  induction n generalizing h st with
  | zero => exact ⟨Spec.refl hg, hst⟩
  | succ n ih =>
    obtain ⟨s1, i1⟩ := sbRound_spec (o := o) hg (mix tag n) qnl st hst
    simp only [sbLoop]
    split
    · obtain ⟨s2, i2⟩ := ih s1.good _ i1
      exact ⟨s1.trans s2, i2⟩
    · exact ⟨s1, i1⟩

theorem splitBars_spec {h : Heap} (hg : Good X h) (tag : Nat) (qnl : Bool) (fuel : Nat) (inputs : List Nat) (mti : Nat) :
    Spec X h (splitBars o tag qnl fuel h inputs mti).1 ∧
      ∀ bs ∈ (splitBars o tag qnl fuel h inputs mti).2, ∀ b ∈ bs, In X (splitBars o tag qnl fuel h inputs mti).1 (.bar, b) := by
  obtain ⟨s1, i1⟩ := seqCopies_spec (X := X) hg inputs
  unfold splitBars
  simp only
  split
  · exact ⟨s1, by simp⟩
  · rename_i m hm
    have im := i1 m (List.mem_of_getElem? hm)
    have s2 := readAbs_spec (o := o) s1.good im
    have s3 := readAbs_spec (o := o) s2.good (im.mono s2.pres)
    have s13 := s1.trans (s2.trans s3)
    obtain ⟨s4, i4⟩ := sbLoop_spec (o := o) s3.good tag qnl fuel ((seqCopies h inputs).2.map (fun c => (c, []))) (by
      intro t ht
      simp only [List.mem_map] at ht
      obtain ⟨c, hc, rfl⟩ := ht
      exact ⟨(i1 c hc).mono (s2.trans s3).pres, by simp⟩)
    refine ⟨s13.trans s4, ?_⟩
    intro bs hbs b hb
    simp only [List.mem_map] at hbs
    obtain ⟨t, ht, rfl⟩ := hbs
    exact (i4 t ht).2 b hb

theorem trkInits_spec {h : Heap} (hg : Good X h) (tag : Nat) (bss : List (List Nat))
    (hb : ∀ bs ∈ bss, ∀ b ∈ bs, In X h (.bar, b)) :
    Spec X h (trkInits o tag h bss).1 ∧ ∀ t ∈ (trkInits o tag h bss).2, In X (trkInits o tag h bss).1 (.trk, t) := by
  induction bss generalizing h tag with
  | nil => exact ⟨Spec.refl hg, by simp [trkInits]⟩
  | cons bs bss ih =>
    obtain ⟨s1, i1⟩ := trkInit_spec (o := o) hg tag bs pyNone (hb bs (by simp))
    obtain ⟨s2, i2⟩ := ih s1.good (mix tag 7) (fun cs hcs b hb' => (hb cs (by simp [hcs]) b hb').mono s1.pres)
    exact ⟨s1.trans s2, List.forall_mem_cons.2 ⟨i1.mono s2.pres, i2⟩⟩

theorem cmpFromSequences_spec {h : Heap} (hg : Good X h) (tag fuel : Nat) (inputs : List Nat) (mti : Nat) :
    Spec X h (cmpFromSequences o tag fuel h inputs mti).1 ∧
      In X (cmpFromSequences o tag fuel h inputs mti).1 (.cmp, (cmpFromSequences o tag fuel h inputs mti).2) := by
  obtain ⟨s1, i1⟩ := splitBars_spec (o := o) (X := X) hg tag true fuel inputs mti
  obtain ⟨s2, i2⟩ := trkInits_spec (o := o) s1.good (mix tag 8) _ i1
  obtain ⟨s3, i3⟩ := newCmp_spec s2.good _ i2
  exact ⟨(s1.trans s2).trans s3, i3⟩

theorem gatherRel_spec {h : Heap} (hg : Good X h) (bs : List Nat) (hb : ∀ b ∈ bs, In X h (.bar, b)) :
    Spec X h (gatherRel o h bs).1 ∧ ∀ i ∈ (gatherRel o h bs).2, In X (gatherRel o h bs).1 (.msg, i) := by
  induction bs generalizing h with
  | nil => exact ⟨Spec.refl hg, by simp [gatherRel]⟩
  | cons b bs ih =>
    obtain ⟨s1, i1⟩ := getRel_spec (o := o) hg (bar_seq_in hg (hb b (by simp)))
    obtain ⟨s2, i2⟩ := ih s1.good (fun c hc => (hb c (by simp [hc])).mono s1.pres)
    refine ⟨s1.trans s2, ?_⟩
    intro i hi
    simp only [gatherRel, List.mem_append] at hi
    rcases hi with hi | hi
    · split at hi
      · rename_i l hl
        exact (lst_in s1.good (i1 l hl) i hi).mono s2.pres
      · simp at hi
    · exact i2 i hi

theorem forall_headD {α} {P : α → Prop} {l : List (List α)} (h : ∀ bs ∈ l, ∀ b ∈ bs, P b) : ∀ b ∈ l.headD [], P b := by
  cases l with
  | nil => exact nofun
  | cons bs _ => exact h bs (by simp)

/-- the optional `meta_sequence` is only copied (by `sequences_split_bars`): no hypothesis on it -/
theorem scaleDown_spec {h : Heap} (hg : Good X h) (tag : Nat) (qa : Bool) (fuel : Nat) {s : Nat} (mseq : Option Nat)
    (hs : In X h (.seq, s)) :
    Spec X h (scaleDown o tag qa fuel h s mseq) := by
  obtain ⟨s1, i1⟩ := getRel_spec (o := o) hg hs
  unfold scaleDown
  simp only
  split
  · exact s1
  · rename_i l hl
    have hl1 := i1 l hl
    obtain ⟨s2, i2⟩ := seqInit_spec s1.good none (some l) (by simp) (of_some hl1)
    have s12 := s1.trans s2
    obtain ⟨s3, i3⟩ := splitBars_spec (o := o) (X := X) s2.good (mix tag 1) false fuel
      [(seqInit (getRel o h s).1 none (some l)).2, mseq.getD (seqInit (getRel o h s).1 none (some l)).2] 1
    have s13 := s12.trans s3
    obtain ⟨s4, i4⟩ := gatherRel_spec (o := o) s3.good _ (forall_headD i3)
    have s14 := s13.trans s4
    generalize gatherRel o _ _ = G at s4 i4 s14 ⊢
    -- whatever values `ms` the edit writes into the gathered messages
    have tail (ms : List Msg) : Spec X h (invalidateAbs (rebuildView (o.plan (mix tag 3))
        ((writeMsgs G.1 (G.2.zip ms)).setLst l G.2) l) s) := by
      have s5 := writeMsgs_spec s4.good (List.zip _ ms) (fun w hw => (i4 w.1 (List.of_mem_zip hw).1).1)
      have hl5 := hl1.mono (s2.trans (s3.trans (s4.trans s5))).pres
      have s6 := setLst_spec s5.good l _ hl5.1 (fun i hi => (i4 i hi).mono s5.pres)
      have s7 := rebuildView_spec s6.good (o.plan (mix tag 3)) (hl5.mono s6.pres)
      have s17 := ((s14.trans s5).trans s6).trans s7
      exact s17.trans (invalidateAbs_spec s17.good (hs.mono s17.pres))
    split
    · exact (tail _).trans (quantiseAndNormalise_spec (tail _).good (mix tag 4) (hs.mono (tail _).pres))
    · exact tail _

end bars

section histories
variable {X : Region} {o : Orc}

/-- what `step_spec` says of the state `st` reached from `(h, env)` -/
def StepOk (X : Region) (h : Heap) (env : List Cell) (st : Heap × List Cell) : Prop :=
  Spec X h st.1 ∧ ∀ c ∈ st.2, c ∈ env ∨ In X st.1 c

theorem StepOk.same {h h' : Heap} {env : List Cell} (s : Spec X h h') : StepOk X h env (h', env) :=
  ⟨s, fun _ hc => Or.inl hc⟩

theorem StepOk.refl {h : Heap} {env : List Cell} (hg : Good X h) : StepOk X h env (h, env) := .same (.refl hg)

theorem StepOk.push {h h' : Heap} {env more : List Cell} (s : Spec X h h') (hm : ∀ c ∈ more, In X h' c) :
    StepOk X h env (h', env ++ more) :=
  ⟨s, fun c hc => (List.mem_append.1 hc).imp_right (hm c)⟩

theorem StepOk.push1 {h h' : Heap} {env : List Cell} {c : Cell} (r : Spec X h h' ∧ In X h' c) :
    StepOk X h env (h', env ++ [c]) :=
  .push r.1 (List.forall_mem_singleton.2 r.2)

theorem StepOk.pushAll {h h' : Heap} {env : List Cell} {k : Kind} {ids : List Nat}
    (r : Spec X h h' ∧ ∀ i ∈ ids, In X h' (k, i)) : StepOk X h env (h', env ++ cellsOf k ids) :=
  .push r.1 (List.forall_mem_map.2 r.2)

/-- an operation on the root at position `i`: an ill-typed position is a no-op -/
theorem StepOk.look {h : Heap} {env : List Cell} (hg : Good X h) {k : Kind} {i : Nat} {g : Nat → Heap × List Cell}
    (H : ∀ x, (k, x) ∈ pick env k [i] → StepOk X h env (g x)) :
    StepOk X h env (match look env k i with | some x => g x | none => (h, env)) := by
  split
  · rename_i x hx; exact H x (pick_one hx)
  · exact .refl hg

/-- every public operation respects every good region that contains the caller's roots -/
theorem step_spec {h : Heap} {env : List Cell} (hg : Good X h) (op : HOp)
    (hroots : ∀ c ∈ opRoots env op, In X h c) :
    Spec X h (step o op (h, env)).1 ∧
      ∀ c ∈ (step o op (h, env)).2, c ∈ env ∨ In X (step o op (h, env)).1 c := by
  show StepOk X h env (step o op (h, env))
  -- the receiver and the second argument of a two-argument operation, resolved
  have fst {k i x k' is} (hx : look env k i = some x) (hr : ∀ c ∈ pick env k [i] ++ pick env k' is, In X h c) :
      In X h (k, x) := hr _ (List.mem_append_left _ (pick_one hx))
  have snd {k is k' i x} (hx : look env k' i = some x) (hr : ∀ c ∈ pick env k is ++ pick env k' [i], In X h c) :
      In X h (k', x) := hr _ (List.mem_append_right _ (pick_one hx))
  have snds {k js k' is xs} (hx : looks env k' is = some xs) (hr : ∀ c ∈ pick env k js ++ pick env k' is, In X h c) :
      ∀ x ∈ xs, In X h (k', x) := fun x hm => hr _ (List.mem_append_right _ (pick_all hx x hm))
  cases op <;> dsimp only [step]
  case msgCopy i => exact .look hg fun x _ => .push1 (msgCopy_spec hg x)
  case seqCopy i => exact .look hg fun x _ => .push1 (seqCopy_spec hg x)
  case barCopy i tag => exact .look hg fun x hx => .push1 (barCopy_spec hg tag x (bar_seq_in hg (hroots _ hx)))
  case trkCopy i tag => exact .look hg fun x hx => .push1 (trkCopy_spec hg tag x (hroots _ hx))
  case cmpCopy i tag => exact .look hg fun x hx => .push1 (cmpCopy_spec hg tag x (hroots _ hx))
  case trkToSequence i => exact .look hg fun _ hx => .push1 (trkToSequence_spec hg (hroots _ hx))
  case mkBar i num den key tag => exact .look hg fun _ hx => .push1 (barInit_spec hg tag num den key (hroots _ hx))
  case split i tag => exact .look hg fun _ hx => .pushAll (split_spec hg tag (hroots _ hx))
  case splitBars is mti qnl tag fuel =>
    split
    · rename_i ss hss; exact .pushAll ((splitBars_spec hg tag qnl fuel ss mti).imp_right List.forall_mem_flatten.2)
    · exact .refl hg
  case cmpFromSequences is mti tag fuel =>
    split
    · rename_i ss hss; exact .push1 (cmpFromSequences_spec hg tag fuel ss mti)
    · exact .refl hg
  case barSeq i => exact .look hg fun _ hx => .push1 ⟨.refl hg, bar_seq_in hg (hroots _ hx)⟩
  case trkBars i => exact .look hg fun _ hx => .pushAll ⟨.refl hg, trk_bars_in hg (hroots _ hx)⟩
  case cmpTrks i => exact .look hg fun _ hx => .pushAll ⟨.refl hg, cmp_trks_in hg (hroots _ hx)⟩
  case absMsgs i =>
    refine .look hg fun x hx => ?_
    obtain ⟨s1, i1⟩ := getAbs_spec (o := o) hg (hroots _ hx)
    split
    · rename_i l hl
      have s2 := invalidateRel_spec s1.good ((hroots _ hx).mono s1.pres)
      exact .pushAll ⟨s1.trans s2, fun m hm => (lst_in s1.good (i1 l hl) m hm).mono s2.pres⟩
    · exact .same s1
  case relMsgs i =>
    refine .look hg fun x hx => ?_
    obtain ⟨s1, i1⟩ := getRel_spec (o := o) hg (hroots _ hx)
    split
    · rename_i l hl
      have s2 := invalidateAbs_spec s1.good ((hroots _ hx).mono s1.pres)
      exact .pushAll ⟨s1.trans s2, fun m hm => (lst_in s1.good (i1 l hl) m hm).mono s2.pres⟩
    · exact .same s1
  case newMsg m => exact .push1 (newMsg_spec hg m)
  case newSeq => exact .push1 (seqInit_spec hg none none nofun nofun)
  case mkTrk is name tag =>
    split
    · rename_i bs hbs; exact .push1 (trkInit_spec hg tag bs name fun b hb => hroots _ (pick_all hbs b hb))
    · exact .refl hg
  case mkCmp is =>
    split
    · rename_i ts hts; exact .push1 (newCmp_spec hg ts fun t ht => hroots _ (pick_all hts t ht))
    · exact .refl hg
  case barsToSequence js =>
    split
    · rename_i bs hbs; exact .push1 (barsToSequence_spec hg bs fun b hb => hroots _ (pick_all hbs b hb))
    · exact .refl hg
  case readAbs i => exact .look hg fun _ hx => .same (readAbs_spec hg (hroots _ hx))
  case readRel i => exact .look hg fun _ hx => .same (readRel_spec hg (hroots _ hx))
  case refresh i => exact .look hg fun _ hx => .same (refresh_spec hg (hroots _ hx))
  case pairings i tag => exact .look hg fun _ hx => .same (pairings_spec hg tag (hroots _ hx))
  case setChannel i ch => exact .look hg fun _ hx => .same (setChannel_spec hg ch (hroots _ hx))
  case transpose i tag sh => exact .look hg fun _ hx => .same (transpose_spec hg tag sh (hroots _ hx))
  case scaleUp i tag qa => exact .look hg fun _ hx => .same (scaleUp_spec hg tag qa (hroots _ hx))
  case scaleDown i mi tag fuel qa =>
    refine .look hg fun x hx => ?_
    split
    · exact .same (scaleDown_spec hg tag qa fuel none (hroots _ hx))
    · exact .look hg fun m _ => .same (scaleDown_spec hg tag qa fuel (some m) (hroots _ hx))
  case iterEditRel i tag => exact .look hg fun _ hx => .same (iterEditRel_spec hg tag (hroots _ hx))
  case iterEditAbs i tag => exact .look hg fun _ hx => .same (iterEditAbs_spec hg tag (hroots _ hx))
  case editMsg i m => exact .look hg fun x hx => .same (setMsg_spec hg x m (hroots _ hx).1)
  case quantise i tag => exact .look hg fun _ hx => .same (quantise_spec hg tag (hroots _ hx))
  case quantiseNoteLengths i tag => exact .look hg fun _ hx => .same (quantiseNoteLengths_spec hg tag (hroots _ hx))
  case cutoff i tag => exact .look hg fun _ hx => .same (cutoff_spec hg tag (hroots _ hx))
  case quantiseAndNormalise i tag => exact .look hg fun _ hx => .same (quantiseAndNormalise_spec hg tag (hroots _ hx))
  case barTranspose i tag sh k => exact .look hg fun _ hx => .same (barTranspose_spec hg tag sh k (hroots _ hx))
  case normalise i tag => exact .look hg fun _ hx => .same (normalise_spec hg tag (hroots _ hx))
  case pad i tag => exact .look hg fun _ hx => .same (pad_spec hg tag (hroots _ hx))
  case equals i j tag =>
    split
    · rename_i x y hx hy; exact .same (seqEquals_spec hg tag (fst hx hroots) (snd hy hroots))
    · exact .refl hg
  case addAbs i j idx =>
    split
    · rename_i x y hx hy; exact .same (addAbs_spec hg idx (fst hx hroots) (snd hy hroots))
    · exact .refl hg
  case addRel i j idx =>
    split
    · rename_i x y hx hy; exact .same (addRel_spec hg idx (fst hx hroots) (snd hy hroots))
    · exact .refl hg
  case overwriteAbs i js tag =>
    split
    · rename_i x ms hx hms; exact .same (overwriteAbs_spec hg tag ms (fst hx hroots) (snds hms hroots))
    · exact .refl hg
  case overwriteRel i js =>
    split
    · rename_i x ms hx hms; exact .same (overwriteRel_spec hg ms (fst hx hroots) (snds hms hroots))
    · exact .refl hg
  case concatenate i js =>
    split
    · rename_i x ss hx hss; exact .same (concatenate_spec hg ss (fst hx hroots) (snds hss hroots))
    · exact .refl hg
  case merge i js tag =>
    split
    · rename_i x ss hx hss; exact .same (merge_spec hg tag ss (fst hx hroots) (snds hss hroots))
    · exact .refl hg

theorem opRoots_sub (env : List Cell) (op : HOp) : ∀ c ∈ opRoots env op, c ∈ env := by
  intro c hc
  cases op
  case newMsg | newSeq => exact nomatch hc
  case equals | addAbs | addRel | overwriteAbs | overwriteRel | concatenate | merge =>
    exact (List.mem_append.1 hc).elim pick_sub pick_sub
  all_goals exact pick_sub hc

theorem step_spec_env {h : Heap} {env : List Cell} (hg : Good X h) (henv : EnvIn X h env) (op : HOp) :
    Spec X h (step o op (h, env)).1 ∧ EnvIn X (step o op (h, env)).1 (step o op (h, env)).2 := by
  obtain ⟨s1, e1⟩ := step_spec (o := o) (env := env) hg op (fun c hc => henv c (opRoots_sub env op c hc))
  refine ⟨s1, ?_⟩
  intro c hc
  exact (e1 c hc).elim (henv.mono s1.pres c) id

theorem run_spec {h : Heap} {env : List Cell} (hg : Good X h) (henv : EnvIn X h env) (ops : List HOp) :
    Spec X h (run o ops (h, env)).1 ∧ EnvIn X (run o ops (h, env)).1 (run o ops (h, env)).2 := by
  induction ops generalizing h env with
  | nil => exact ⟨Spec.refl hg, henv⟩
  | cons op ops ih =>
    obtain ⟨s1, e1⟩ := step_spec_env (o := o) hg henv op
    obtain ⟨s2, e2⟩ := ih s1.good e1
    exact ⟨s1.trans s2, e2⟩

end histories

section values

theorem Spec.same_alloc {h h' : Heap} (sp : Spec (Fresh h) h h') : ∀ c, h.alloc c → h'.get c = h.get c :=
  fun c hc => sp.pres.same c (fun hn => hn hc)

theorem newMsgs_vals (h : Heap) (ms : List Msg) : (newMsgs h ms).1.vals (newMsgs h ms).2 = ms := by
  induction ms generalizing h with
  | nil => rfl
  | cons m ms ih =>
    simp only [newMsgs, Heap.vals, List.map_cons]
    have h1 : (newMsgs (h.newMsg m).1 ms).1.msg (h.newMsg m).2 = (h.newMsg m).1.msg (h.newMsg m).2 :=
      Val.msg.inj ((newMsgs_spec (good_fresh (h.newMsg m).1) ms).1.same_alloc (.msg, _)
        (by simp [Heap.newMsg, Heap.alloc, Heap.next]))
    have h2 : (h.newMsg m).1.msg (h.newMsg m).2 = m := by simp [Heap.newMsg]
    rw [h1, h2]
    have := ih (h.newMsg m).1
    simp only [Heap.vals] at this
    rw [this]

theorem convView_vals (f : List Msg → List Msg) (h : Heap) (l : Nat) :
    (convView f h l).1.viewVals (convView f h l).2 = f (h.viewVals l) := by
  have := newMsgs_vals h (f (h.viewVals l))
  simp only [convView, Heap.viewVals, Heap.vals, Heap.newLst, if_true] at this ⊢
  exact this

theorem copyView_vals (h : Heap) (l : Nat) : (copyView h l).1.viewVals (copyView h l).2 = h.viewVals l :=
  convView_vals id h l

theorem optVals_same {h h' : Heap} (hp : ∀ c, h.alloc c → h'.get c = h.get c) (v : Option Nat)
    (hv : ∀ l, v = some l → h.alloc (.lst, l) ∧ ∀ i ∈ h.lst l, h.alloc (.msg, i)) : optVals h' v = optVals h v := by
  cases v with
  | none => rfl
  | some l => exact viewVals_congr (hp _ (hv l rfl).1) fun i hi => hp _ ((hv l rfl).2 i hi)

theorem copyOpt_vals (h : Heap) (stale : Bool) (v : Option Nat) (hok : stale = false → v.isSome = true) :
    optVals (copyOpt h stale v).1 (copyOpt h stale v).2 = (if stale then [] else optVals h v)
      ∧ (copyOpt h stale v).2.isSome = !stale := by
  cases stale with
  | true => simp [copyOpt, optVals]
  | false =>
    cases v with
    | none => simp at hok
    | some l => simp [copyOpt, optVals, copyView_vals]

theorem seqInit_snap (h : Heap) (a r : Option Nat) :
    snap (seqInit h a r).1 (seqInit h a r).2
      = { abs := optVals h a, rel := optVals h r, absStale := a.isNone && r.isSome, relStale := r.isNone } := by
  cases a <;> cases r <;>
    simp [seqInit, snap, optVals, Heap.newSeq, Heap.newLst, Heap.viewVals, Heap.vals]

variable {o : Orc}

theorem barCopies_length (tag : Nat) (h : Heap) (bs : List Nat) : (barCopies o tag h bs).2.length = bs.length := by
  induction bs generalizing h tag with
  | nil => rfl
  | cons b bs ih => simp [barCopies, ih]

theorem trkCopies_length (tag : Nat) (h : Heap) (ts : List Nat) : (trkCopies o tag h ts).2.length = ts.length := by
  induction ts generalizing h tag with
  | nil => rfl
  | cons t ts ih => simp [trkCopies, ih]

end values
end SCoda.HeapL
