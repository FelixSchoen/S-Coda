/-
  Forgetting the channel of a timed event list (`mono`; what a MIDI track written by `sequences_save` keeps), for
  sequences with any number of channels (audit round 2, item F5 / section D: the carve-out `Saved.oneCh` is wider
  than the recorded defect D21); a sequence on one channel is an instance.  Used by the C12 notes, velocity and
  sounding theorems (`Props/C12.lean`, `C12b`, `C13b`, `C12n`).

  * `closing`: a waiting note-on whose key is well-formed in the rest of the list becomes a note;
  * `stK`, `good_next`: along the scan of `notesGo` a key is good from the state the waiting note-ons give it — the
    one step lemma of both scans below, for the list and for the list without its channels;
  * `mono_good`: notes of equal pitch on different channels that neither overlap nor touch keep the event list
    well-formed (per pitch, with notes of positive length) once the channel is forgotten;
  * `compat_of_good`: in a list that is well-formed with and without its channels no note event meets a waiting
    note-on of its pitch on another channel (`Compat`), so `noteMsg` keeps the keys along the scan (`KeepsKeys`, the
    hypothesis of `NotesL.pairsGo_map` in `Lemmas/RollKey.lean`) and reading the notes commutes with forgetting the
    channel (`notesOf_noteOf`).
  Nothing here mentions `convert`; the loader's side is `Lemmas/MidiSave.lean`.
-/
import SCoda.Lemmas.MidiPipeline
import SCoda.Lemmas.NotesL

namespace SCoda.C12n

/-- no two notes of equal pitch on different channels overlap or touch (complement of the recorded D21 class) -/
def NoCrossChannelClash (S : List Note) : Prop :=
  ∀ n ∈ S, ∀ n' ∈ S, n.pitch = n'.pitch → n.ch ≠ n'.ch → n.off < n'.on ∨ n'.off < n.on

instance (S : List Note) : Decidable (NoCrossChannelClash S) := by
  unfold NoCrossChannelClash; infer_instance

end SCoda.C12n

namespace SCoda.C12NarrowL
open SCoda SCoda.MidiL SCoda.MergeL SCoda.E2E SCoda.EQ SCoda.C12n SCoda.NotesL SplitL

/-- what a relative-view event becomes after save and load at the same resolution -/
def noteOf (m : Msg) : Option Msg :=
  if m.ty = .noteOn then some (Msg.mkOn 0 m.note (if m.vel == pyNone then 127 else m.vel) m.time)
  else if m.ty = .noteOff then some (Msg.mkOff 0 m.note m.time) else none

theorem notesOf_perm_of_proj (A B : List Msg) (h : ∀ k, P k A = P k B) : (notesOf A).Perm (notesOf B) := by
  rw [List.perm_iff_count]
  intro n
  rw [NotesL.notesOf_filter_count A, NotesL.notesOf_filter_count B]
  have := h (n.ch, n.pitch)
  unfold P at this
  rw [this]

/-- an event with its channel forgotten (what a MIDI track written by `sequences_save` keeps of it) -/
def mono1 (m : Msg) : Msg := { m with ch := 0 }
def mono (E : List Msg) : List Msg := E.map mono1

theorem noClash_of_append {A B : List Note} (h : NoCrossChannelClash (A ++ B)) : NoCrossChannelClash B :=
  fun n hn n' hn' => h n (List.mem_append_right _ hn) n' (List.mem_append_right _ hn')

theorem good_some_head (k : Int × Int) (L : List Msg) (t0 : Int) (hg : goodFrom k (some t0) L) :
    ∃ e rest, L.filter (isKN k) = e :: rest ∧ e.nkey = k ∧ e.ty = .noteOff ∧ t0 < e.time := by
  -- only the events of the key matter, and the first of them decides
  rw [← goodFrom_filter_kn] at hg
  cases hL : L.filter (isKN k) with
  | nil => rw [hL] at hg; cases hg
  | cons e rest =>
    rw [hL] at hg
    obtain ⟨hk, hon | hoff⟩ := isKN_iff_kev.1 (List.mem_filter.1 (hL ▸ List.mem_cons_self (a := e) (l := rest))).2
    · exact nomatch ((goodFrom_cons_on ⟨hk, hon⟩ rest _).1 hg).1
    · obtain ⟨⟨t, ht, hlt⟩, -⟩ := (goodFrom_cons_off ⟨hk, hoff⟩ rest _).1 hg
      cases ht
      exact ⟨e, rest, rfl, hk, hoff, hlt⟩

/-- a waiting note-on `y` (the first of its key) whose key is well-formed in the rest of the list becomes a note
    that ends at an event of the list -/
theorem closing : ∀ (L opens : List Msg) (y : Msg),
    opens.find? (fun o => o.nkey == y.nkey) = some y → goodFrom y.nkey (some y.time) L →
    ∃ n ∈ notesGo L opens, n.ch = y.ch ∧ n.pitch = y.note ∧ n.on = y.time ∧ y.time < n.off ∧ ∃ e ∈ L, n.off = e.time := by
  intro L opens y hf hg
  -- among the events and the waiting note-ons of its key, `y` meets the first note-off
  obtain ⟨e, rest, hL, hek, hoff, hlt⟩ := good_some_head y.nkey L y.time hg
  have hproj := notesGo_proj y.nkey L opens
  have hfy : (opens.filter (fun o => o.nkey == y.nkey)).find? (fun o => o.nkey == e.nkey) = some y := by
    rw [hek, List.find?_filter]
    exact (find?_congr_mem (fun a _ => by rw [Bool.eq_iff_iff]; simp)).trans hf
  rw [hL, notesGo_cons_off_some (o := y) hoff rest _ hfy] at hproj
  have he : e ∈ L.filter (isKN y.nkey) := hL ▸ List.mem_cons_self
  exact ⟨_, (List.mem_filter.1 (hproj ▸ List.mem_cons_self)).1, rfl, rfl, rfl, hlt, e, (List.mem_filter.1 he).1, rfl⟩

theorem mono_cons (m : Msg) (ms : List Msg) : mono (m :: ms) = mono1 m :: mono ms := rfl

/-- a note event of pitch `p`, on whatever channel -/
def isPN (p : Int) (m : Msg) : Bool := decide (m.note = p ∧ (m.ty = .noteOn ∨ m.ty = .noteOff))

theorem mono_filter_pitch (p : Int) (L : List Msg) : (mono L).filter (isKN (0, p)) = mono (L.filter (isPN p)) :=
  filter_map_of_comp (isKN (0, p)) (isPN p) mono1 L fun m _ => by simp [isKN, isPN, mono1, Msg.nkey]

theorem filter_pitch_key (c p : Int) (L : List Msg) : (L.filter (isPN p)).filter (isKN (c, p)) = L.filter (isKN (c, p)) :=
  filter_filter_of_imp _ _ L fun _ _ h =>
    decide_eq_true ⟨congrArg Prod.snd (isKN_iff_kev.1 h).1, (isKN_iff_kev.1 h).2⟩

theorem mem_notes_pitch (p : Int) (L : List Msg) (n : Note) (hn : n ∈ notesOf (L.filter (isPN p))) : n ∈ notesOf L := by
  obtain ⟨o, ho, -, hop, -⟩ := notesGo_src _ [] n hn
  obtain rfl : n.pitch = p := by
    rcases ho with ho | ho
    · exact hop.trans (of_decide_eq_true (List.mem_filter.1 ho).2).1
    · cases ho
  -- both lists have the same note events of the key of `n`
  rw [← List.count_pos_iff, notesOf_filter_count] at hn ⊢
  rwa [filter_pitch_key] at hn

/-- the state of key `k` given the waiting note-ons: open since the tick of the waiting note-on of `k`, if any -/
def stK (k : Int × Int) (opens : List Msg) : Option Int := (opens.find? (fun o => o.nkey == k)).map (·.time)

theorem stK_next_skip {k : Int × Int} {m : Msg} (h : ¬ Kev k m) (opens : List Msg) :
    stK k (nextOpens m opens) = stK k opens := by
  unfold stK nextOpens
  split
  · rename_i hon
    have hk : m.nkey ≠ k := fun e => h ⟨e, Or.inl hon⟩
    rw [List.find?_cons_of_neg (by simpa using hk), find_filter_ne _ _ (Ne.symm hk)]
  · split
    · rename_i hoff
      split
      · rw [find_filter_ne _ _ (fun e => h ⟨e.symm, Or.inr hoff⟩)]
      · rfl
    · rfl

/-- one step of the scan: a key stays good from the state the waiting note-ons give it -/
theorem good_next (m : Msg) (ms opens : List Msg) (k : Int × Int) (hK : goodFrom k (stK k opens) (m :: ms)) :
    goodFrom k (stK k (nextOpens m opens)) ms := by
  rcases kev_cases k m with h | h | h
  · have e : stK k (nextOpens m opens) = some m.time := by simp [stK, nextOpens, h.1, h.2]
    rw [e]
    exact ((goodFrom_cons_on h ms _).1 hK).2
  · obtain ⟨⟨t0, e0, -⟩, g⟩ := (goodFrom_cons_off h ms _).1 hK
    have e : stK k (nextOpens m opens) = none := by
      cases hf : opens.find? (fun o => o.nkey == m.nkey) with
      | none => rw [stK, ← h.1, hf] at e0; cases e0
      | some x => simp only [stK, nextOpens, h.2, reduceCtorEq, if_false, if_true, hf, ← h.1, find_filter_self, Option.map_none]
    rw [e]
    exact g
  · rw [stK_next_skip h]
    exact (goodFrom_cons_other (not_kev_iff.1 h).1 (not_kev_iff.1 h).2 ms _).1 hK

/-- **the combinatorial core**: in a time-sorted list of note events of one pitch in which every channel is
    well-formed with notes of positive length, and notes on different channels neither overlap nor touch, the pitch
    stays well-formed with notes of positive length once the channel is forgotten.  At most one note-on `w` waits. -/
theorem mono_good_go (p : Int) : ∀ (L : List Msg) (w : Option Msg), (∀ m ∈ L, isPN p m = true) → Sorted L →
    NoCrossChannelClash (notesGo L w.toList) → (∀ x ∈ w, x.note = p ∧ ∀ e ∈ L, x.time ≤ e.time) →
    (∀ c, goodFrom (c, p) (stK (c, p) w.toList) L) → goodFrom (0, p) (stK (0, p) (mono w.toList)) (mono L) := by
  intro L
  induction L with
  | nil =>
    intro w _ _ _ hw hK
    cases w with
    | none => rfl
    | some x =>
      have := hK x.ch
      rw [show (x.ch, p) = x.nkey by simp [Msg.nkey, (hw x rfl).1]] at this
      simp [stK, goodFrom] at this
  | cons m ms ih =>
    intro w hL hs hsep hw hK
    have hs' := List.pairwise_cons.1 hs
    have hms : ∀ m' ∈ ms, isPN p m' = true := fun m' hm' => hL m' (List.mem_cons_of_mem _ hm')
    obtain ⟨hp, hty⟩ : m.note = p ∧ (m.ty = .noteOn ∨ m.ty = .noteOff) := by
      simpa [isPN] using hL m List.mem_cons_self
    have hmk : m.nkey = (m.ch, p) := by simp [Msg.nkey, hp]
    have hk0 : (mono1 m).nkey = (0, p) := by simp [mono1, Msg.nkey, hp]
    have hKt : ∀ c, goodFrom (c, p) (stK (c, p) (nextOpens m w.toList)) ms := fun c => good_next m ms _ _ (hK c)
    rw [mono_cons]
    rcases hty with hon | hoff
    · rw [notesGo_cons_on hon] at hsep
      cases w with
      | none =>
        simp only [Option.toList_none] at hsep hKt ⊢
        rw [goodFrom_cons_on (m := mono1 m) ⟨hk0, hon⟩]
        have hn : nextOpens m [] = [m] := by simp [nextOpens, hon]
        have := ih (some m) hms hs'.2 (by simpa using hsep) (by simpa using ⟨hp, hs'.1⟩) (by rw [hn] at hKt; exact hKt)
        exact ⟨rfl, by simpa [stK, mono, hk0] using this⟩
      | some x =>
        -- a second note-on while `x` waits
        exfalso
        simp only [Option.toList_some] at hsep hK hKt
        obtain ⟨hxp, hxt⟩ := hw x rfl
        have hxk : x.nkey = (x.ch, p) := by simp [Msg.nkey, hxp]
        by_cases hc : m.ch = x.ch
        · -- on the same channel the key would open twice
          have := ((goodFrom_cons_on (m := m) ⟨hmk, hon⟩ ms _).1 (hK m.ch)).1
          rw [show stK (m.ch, p) [x] = some x.time by simp [stK, hxk, hc]] at this
          cases this
        · -- on another channel the two notes clash
          have hkne : x.nkey ≠ m.nkey := by rw [hxk, hmk]; intro e; exact hc (Prod.mk.inj e).1.symm
          have hn : nextOpens m [x] = [m, x] := by simp [nextOpens, hon, hkne]
          rw [show m :: [x].filter (fun o => o.nkey != m.nkey) = [m, x] by simp [hkne]] at hsep
          -- both keys are open in the rest of the list, so both note-ons become notes
          have hgx : goodFrom x.nkey (some x.time) ms := by
            have := hKt x.ch
            rwa [hn, ← hxk, show stK x.nkey [m, x] = some x.time by simp [stK, Ne.symm hkne]] at this
          have hgm : goodFrom m.nkey (some m.time) ms := by
            have := hKt m.ch
            rwa [hn, ← hmk, show stK m.nkey [m, x] = some m.time by simp [stK]] at this
          obtain ⟨n1, hn1, a1, a2, a3, a4, e1, he1, a5⟩ := closing ms [m, x] x (by simp [Ne.symm hkne]) hgx
          obtain ⟨n2, hn2, b1, b2, b3, b4, e2, he2, b5⟩ := closing ms [m, x] m (by simp) hgm
          have := hsep n1 hn1 n2 hn2 (by rw [a2, b2, hxp, hp]) (by rw [a1, b1]; exact fun e => hc e.symm)
          have := hs'.1 e1 he1
          have := hxt m List.mem_cons_self
          omega
    · -- a note-off: its own key waits
      obtain ⟨⟨t0, e0, hlt⟩, -⟩ := (goodFrom_cons_off (m := m) ⟨hmk, hoff⟩ ms _).1 (hK m.ch)
      cases w with
      | none => cases e0
      | some x =>
        simp only [Option.toList_some] at hsep hKt e0 ⊢
        have hxk : x.nkey = m.nkey := by
          rw [hmk]
          exact Classical.byContradiction fun h => by simp [stK, h] at e0
        obtain rfl : x.time = t0 := by simpa [stK, hxk, hmk] using e0
        rw [goodFrom_cons_off (m := mono1 m) ⟨hk0, hoff⟩]
        have hn : nextOpens m [x] = [] := by simp [nextOpens, hoff, hxk]
        rw [notesGo_cons_off_some (o := x) hoff ms [x] (by simp [hxk]),
          show [x].filter (fun o => o.nkey != m.nkey) = [] by simp [hxk]] at hsep
        have := ih none hms hs'.2 (noClash_of_append (A := [_]) hsep) (by simp) (by rw [hn] at hKt; exact hKt)
        exact ⟨⟨x.time, by simp [stK, mono, mono1, Msg.nkey, (hw x rfl).1], hlt⟩, by simpa [stK, mono] using this⟩
theorem goodFrom_other_channel (c p : Int) (hc : c ≠ 0) (l : List Msg) (h : ∀ x ∈ l, x.ch = 0) :
    goodFrom (c, p) none l := by
  rw [← goodFrom_filter_kn, List.filter_eq_nil_iff.2 fun x hx hk =>
    hc ((congrArg Prod.fst (isKN_iff_kev.1 hk).1).symm.trans (h x hx))]
  rfl

theorem mono_good (E : List Msg) (hs : Sorted E) (hg : ∀ k, goodFrom k none E) (hsep : NoCrossChannelClash (notesOf E)) :
    ∀ k, goodFrom k none (mono E) := by
  rintro ⟨c, p⟩
  by_cases hc : c = 0
  · subst hc
    -- only the note events of pitch `p` matter, for `mono E` and for every channel of `E`
    rw [← goodFrom_filter_kn, mono_filter_pitch]
    exact mono_good_go p _ none (fun m hm => (List.mem_filter.1 hm).2) (hs.filter _)
      (fun n hn n' hn' => hsep n (mem_notes_pitch p E n hn) n' (mem_notes_pitch p E n' hn')) (by simp)
      (fun c => by rw [← goodFrom_filter_kn, filter_pitch_key, goodFrom_filter_kn]; exact hg (c, p))
  · apply goodFrom_other_channel c p hc
    intro x hx
    obtain ⟨m, _, rfl⟩ := List.mem_map.1 hx
    rfl

/-- `noteOf` as a total function: forget the channel and every field a MIDI note message does not carry -/
def noteMsg (m : Msg) : Msg :=
  if m.ty = .noteOn then Msg.mkOn 0 m.note (if m.vel == pyNone then 127 else m.vel) m.time
  else if m.ty = .noteOff then Msg.mkOff 0 m.note m.time else mono1 m

theorem noteMsg_ty (m : Msg) : (noteMsg m).ty = m.ty := by
  unfold noteMsg; split
  · rename_i h; rw [h]; rfl
  · split
    · rename_i h; rw [h]; rfl
    · rfl

theorem noteMsg_nkey (m : Msg) : (noteMsg m).nkey = (0, m.note) := by
  unfold noteMsg; split
  · rfl
  · split <;> rfl

theorem noteMsg_time (m : Msg) : (noteMsg m).time = m.time := by
  unfold noteMsg; split
  · rfl
  · split <;> rfl

theorem filterMap_noteOf (E : List Msg) :
    E.filterMap noteOf = (E.map noteMsg).filter (fun m => m.ty == .noteOn || m.ty == .noteOff) := by
  induction E with
  | nil => rfl
  | cons m ms ih =>
    rw [List.filterMap_cons, List.map_cons, List.filter_cons, noteMsg_ty, ih]
    by_cases hon : m.ty = .noteOn
    · simp [noteOf, noteMsg, hon]
    · by_cases hoff : m.ty = .noteOff
      · simp [noteOf, noteMsg, hoff]
      · simp [noteOf, hon, hoff]

theorem goodFrom_map_congr {k : Int × Int} (f g : Msg → Msg)
    (h : ∀ m, (f m).nkey = (g m).nkey ∧ (f m).ty = (g m).ty ∧ (f m).time = (g m).time) :
    ∀ (l : List Msg) (o : Option Int), goodFrom k o (l.map f) ↔ goodFrom k o (l.map g) := by
  intro l
  induction l with
  | nil => intro o; exact Iff.rfl
  | cons m ms ih =>
    intro o
    simp only [List.map_cons, goodFrom, (h m).1, (h m).2.1, (h m).2.2, ih]

theorem good_noteOf (k : Int × Int) (L : List Msg) (o : Option Int) :
    goodFrom k o (L.filterMap noteOf) ↔ goodFrom k o (mono L) := by
  rw [filterMap_noteOf, ← goodFrom_filter_kn, filter_filter_of_imp _ (isKN k) _ (fun m _ h => by
      rcases (isKN_iff_kev.1 h).2 with h' | h' <;> simp [h']),
    goodFrom_filter_kn]
  exact goodFrom_map_congr noteMsg mono1 (fun m => ⟨noteMsg_nkey m, noteMsg_ty m, noteMsg_time m⟩) L o

/-- no note event meets a waiting note-on of its pitch on another channel (the loader, which pairs by pitch
    alone, then pairs exactly as the saved sequence does) -/
def Compat : List Msg → List Msg → Prop
  | [], _ => True
  | m :: ms, opens => ((m.ty = .noteOn ∨ m.ty = .noteOff) → ∀ o ∈ opens, o.note = m.note → o.ch = m.ch)
      ∧ Compat ms (nextOpens m opens)

theorem keeps_of_compat (f : Msg → Msg) (hf : ∀ m, (f m).nkey = (0, m.note)) : ∀ (L opens : List Msg),
    Compat L opens → KeepsKeys f L opens := by
  intro L
  induction L with
  | nil => intro _ _; trivial
  | cons m ms ih =>
    intro opens ⟨hc, hnext⟩
    refine ⟨fun hn o ho => ?_, ih _ hnext⟩
    rw [hf, hf]
    simp only [Msg.nkey, Prod.mk.injEq, true_and]
    exact ⟨fun e => ⟨hc hn o ho e, e⟩, fun e => e.2⟩

def PitchDistinct (opens : List Msg) : Prop := opens.Pairwise (fun a b => a.note ≠ b.note)

theorem nextOpens_mono (m : Msg) (opens : List Msg)
    (hc : (m.ty = .noteOn ∨ m.ty = .noteOff) → ∀ o ∈ opens, o.note = m.note → o.ch = m.ch) :
    nextOpens (mono1 m) (mono opens) = mono (nextOpens m opens) := by
  have hkey : (m.ty = .noteOn ∨ m.ty = .noteOff) → ∀ o ∈ opens, ((mono1 o).nkey == (mono1 m).nkey) = (o.nkey == m.nkey) :=
    fun hn o ho => Bool.eq_iff_iff.2 (by
      simp only [beq_iff_eq, mono1, Msg.nkey, Prod.mk.injEq, true_and]
      exact ⟨fun e => ⟨hc hn o ho e, e⟩, fun e => e.2⟩)
  have hfil : (m.ty = .noteOn ∨ m.ty = .noteOff) → (mono opens).filter (fun o => o.nkey != (mono1 m).nkey)
      = mono (opens.filter (fun o => o.nkey != m.nkey)) :=
    fun hn => filter_map_of_comp _ _ mono1 opens fun o ho => by simp only [bne, hkey hn o ho]
  unfold nextOpens
  show (if m.ty = .noteOn then _ else if m.ty = .noteOff then _ else _) = _
  split
  · rename_i hon
    rw [hfil (Or.inl hon)]; rfl
  · split
    · rename_i hoff
      have : (mono opens).find? (fun o => o.nkey == (mono1 m).nkey) = (opens.find? (fun o => o.nkey == m.nkey)).map mono1 := by
        rw [mono, List.find?_map]
        exact congrArg _ (find?_congr_mem (hkey (Or.inr hoff)))
      rw [this]
      cases opens.find? (fun o => o.nkey == m.nkey) with
      | none => rfl
      | some x => exact hfil (Or.inr hoff)
    · rfl

theorem compat_of_good : ∀ (L opens : List Msg), PitchDistinct opens → (∀ k, goodFrom k (stK k opens) L) →
    (∀ k, goodFrom k (stK k (mono opens)) (mono L)) → Compat L opens := by
  intro L
  induction L with
  | nil => intro _ _ _ _; trivial
  | cons m ms ih =>
    intro opens hpd hK hM
    -- a note-on arrives only when its pitch is closed on every channel …
    have hnone : m.ty = .noteOn → ∀ o ∈ opens, o.note ≠ m.note := by
      intro hon o ho hop
      have h1 := ((goodFrom_cons_on (k := (0, m.note)) (m := mono1 m) ⟨rfl, hon⟩ _ _).1 (hM _)).1
      simp only [stK, Option.map_eq_none_iff, List.find?_eq_none] at h1
      exact h1 (mono1 o) (List.mem_map_of_mem ho) (by simp [mono1, Msg.nkey, hop])
    -- … and a note-off when its own key waits, the only waiting note-on of its pitch
    have hc : (m.ty = .noteOn ∨ m.ty = .noteOff) → ∀ o ∈ opens, o.note = m.note → o.ch = m.ch := by
      rintro (hon | hoff) o ho hop
      · exact absurd hop (hnone hon o ho)
      · obtain ⟨⟨t0, e0, -⟩, -⟩ := (goodFrom_cons_off ⟨rfl, hoff⟩ ms _).1 (hK m.nkey)
        cases hf : opens.find? (fun o => o.nkey == m.nkey) with
        | none => rw [stK, hf] at e0; cases e0
        | some x =>
          have hxk : x.nkey = m.nkey := by simpa using List.find?_some hf
          rcases pairwise_mem hpd ho (List.mem_of_find?_eq_some hf) with h | h | h
          · rw [h]; exact (Prod.mk.inj hxk).1
          · exact absurd (hop.trans (Prod.mk.inj hxk).2.symm) h
          · exact absurd ((Prod.mk.inj hxk).2.trans hop.symm) h
    have hpd' : PitchDistinct (nextOpens m opens) := by
      unfold nextOpens
      split
      · rename_i hon
        exact List.pairwise_cons.2 ⟨fun a ha => Ne.symm (hnone hon a (List.mem_filter.1 ha).1), hpd.filter _⟩
      · split
        · split
          · exact hpd.filter _
          · exact hpd
        · exact hpd
    refine ⟨hc, ih _ hpd' (fun k => good_next m ms opens k (hK k)) fun k => ?_⟩
    rw [← nextOpens_mono m opens hc]
    exact good_next (mono1 m) (mono ms) (mono opens) k (hM k)

/-- **notes through save and load**: when the list is well-formed with notes of positive length both with and
    without its channels, the notes of the loaded track are the notes of the list, relabelled to channel 0: the loader
    pairs by pitch alone exactly as the saved sequence pairs by key (`pairsGo_map` under `Compat`) -/
theorem notesOf_noteOf (E : List Msg) (hK : ∀ k, goodFrom k none E) (hM : ∀ k, goodFrom k none (mono E))
    (hvel : ∀ m ∈ E, m.ty = .noteOn → m.vel ≠ pyNone) :
    notesOf (E.filterMap noteOf) = (notesOf E).map (fun n => { n with ch := 0 }) := by
  have hc := compat_of_good E [] List.Pairwise.nil hK hM
  have hmap : pairsGo (E.map noteMsg) [] = _ :=
    pairsGo_map noteMsg noteMsg_ty E [] (keeps_of_compat noteMsg noteMsg_nkey E [] hc)
  rw [filterMap_noteOf, notesOf, notesGo_filter _ (by rintro m (h | h) <;> simp [h]), notesGo_eq, hmap,
    notesOf, notesGo_eq, List.map_map, List.map_map]
  apply List.map_congr_left
  intro p hp
  obtain ⟨h1, -, h3, -⟩ := pairsGo_src E [] p hp
  rcases h1 with ⟨h1, h1t⟩ | h1
  · simp [mkNote, noteMsg, h1t, h3, hvel p.1 h1 h1t, Msg.mkOn, Msg.mkOff]
  · cases h1

theorem wf_of_good (x : List Msg) (hg : ∀ k, goodFrom k none x) : WF x := fun k => MergeL.alt_of_good k x none (hg k)

theorem posDur_of_good (x : List Msg) (hg : ∀ k, goodFrom k none x) : ∀ n ∈ notesOf x, n.on < n.off := by
  intro n hn
  obtain ⟨P, h1, h2, h3⟩ := NotesBL.key_view x (wf_of_good x hg) (n.ch, n.pitch)
  obtain ⟨p, hp, rfl⟩ := List.mem_map.1 ((NotesBL.mem_key_notes h3).2 ⟨hn, rfl⟩)
  refine (MergeL.goodFrom_unpair _ P h2).1 ?_ p hp
  rw [← h1, MergeL.goodFrom_filter_kn]
  exact hg _

theorem sounding_proj (x y : List Msg) (k : Int × Int) (t : Int) (h : P k x = P k y) :
    SoundingAt x k t ↔ SoundingAt y k t := by
  rw [NotesBL.sounding_key x, NotesBL.sounding_key y]
  unfold P at h
  rw [h]

theorem sorted_noteOf (E : List Msg) (hs : Sorted E) : Sorted (E.filterMap noteOf) := by
  rw [filterMap_noteOf]
  exact (hs.map noteMsg fun a b h => by rwa [noteMsg_time, noteMsg_time]).filter _

theorem sounding_noteOf (E : List Msg) (hs : Sorted E)
    (hK : ∀ k, goodFrom k none E) (hM : ∀ k, goodFrom k none (mono E))
    (hvel : ∀ m ∈ E, m.ty = .noteOn → m.vel ≠ pyNone) (p t : Int) :
    SoundingAt (E.filterMap noteOf) (0, p) t ↔ ∃ c, SoundingAt E (c, p) t := by
  have hN : ∀ k, goodFrom k none (E.filterMap noteOf) := fun k => (good_noteOf k E none).2 (hM k)
  rw [NotesBL.notes_cover _ (wf_of_good _ hN) (sorted_noteOf E hs), notesOf_noteOf E hK hM hvel]
  constructor
  · rintro ⟨n, hn, hk, h1, h2⟩
    obtain ⟨n0, hn0, rfl⟩ := List.mem_map.1 hn
    refine ⟨n0.ch, (NotesBL.notes_cover E (wf_of_good E hK) hs _ t).2 ⟨n0, hn0, ?_, h1, h2⟩⟩
    simp only [NotesBL.nkeyN, Prod.mk.injEq] at hk ⊢
    simp [hk.2]
  · rintro ⟨c, hc⟩
    obtain ⟨n0, hn0, hk, h1, h2⟩ := (NotesBL.notes_cover E (wf_of_good E hK) hs _ t).1 hc
    refine ⟨{ n0 with ch := 0 }, List.mem_map.2 ⟨n0, hn0, rfl⟩, ?_, h1, h2⟩
    simp only [NotesBL.nkeyN, Prod.mk.injEq] at hk ⊢
    simp [hk.2]

theorem noClash_oneCh (E : List Msg) (c0 : Int) (h : ∀ m ∈ E, m.ty = .noteOn → m.ch = c0) :
    NoCrossChannelClash (notesOf E) := by
  have key : ∀ x ∈ notesOf E, x.ch = c0 := by
    intro x hx
    rw [notesOf, notesGo_eq] at hx
    obtain ⟨p, hp, rfl⟩ := List.mem_map.1 hx
    rcases (pairsGo_src E [] p hp).1 with ⟨h1, hon⟩ | h1
    · exact h p.1 h1 hon
    · cases h1
  intro n hn n' hn' _ hne
  exact absurd (by rw [key n hn, key n' hn']) hne

theorem noClash_rel_oneCh (r : List Msg) (c0 : Int)
    (h : ∀ m ∈ r, (m.ty = .noteOn ∨ m.ty = .noteOff) → m.ch = c0) : NoCrossChannelClash (notesOf (eventsRel r)) := by
  apply noClash_oneCh _ c0
  intro e he hty
  obtain ⟨m, hm, -, t0, rfl⟩ := eventsRelGo_src r 0 e he
  exact h m hm (Or.inl hty)

end SCoda.C12NarrowL
