/-
  For Props/SortTie.lean.  Generic (about Model/SortLib.lean): the insertion sort `isortBy` is a stable sort for a strict weak
  order, a stable sort is unique, the raising version `isortM` agrees with it where no comparison raises, and `isortBy` is the
  hand model's `isort` with the negated, flipped comparison.  Then the generated `MessageType.__lt__`, key function and key
  comparison (Gen/SortFns.lean) against `MType.rank` and `keyLe` (Model/Sort.lean).
-/
import SCoda.Lemmas.Sort
import SCoda.Model.SortLib
import SCoda.Gen.SortFns
namespace SCoda.SortTieL

open SCoda SCoda.SortLib

section generic
variable {α : Type}

theorem insBy_eq_ins (lt : α → α → Bool) (x : α) (l : List α) :
    insBy lt x l = ins (fun a b => !lt b a) x l := by
  induction l with
  | nil => rfl
  | cons y ys ih =>
    simp only [insBy, ins]
    by_cases h : lt y x = true <;> simp [h, ih]

theorem isortBy_eq_isort (lt : α → α → Bool) (l : List α) :
    isortBy lt l = isort (fun a b => !lt b a) l := by
  induction l with
  | nil => rfl
  | cons x xs ih => simp only [isortBy, isort, insBy_eq_ins, ih]

theorem insBy_perm (lt : α → α → Bool) (x : α) (l : List α) : (insBy lt x l).Perm (x :: l) :=
  insBy_eq_ins lt x l ▸ ins_perm _ x l

theorem isortBy_perm (lt : α → α → Bool) (l : List α) : (isortBy lt l).Perm l :=
  isortBy_eq_isort lt l ▸ isort_perm _ l

theorem mem_insBy (lt : α → α → Bool) (x : α) (l : List α) (z : α) : z ∈ insBy lt x l ↔ z = x ∨ z ∈ l := by
  rw [(insBy_perm lt x l).mem_iff]; simp

theorem mem_isortBy (lt : α → α → Bool) (l : List α) (z : α) : z ∈ isortBy lt l ↔ z ∈ l :=
  (isortBy_perm lt l).mem_iff

theorem swo_asymm {lt : α → α → Bool} {L : List α} (h : StrictWeakOrderOn lt L)
    {a b : α} (ha : a ∈ L) (hb : b ∈ L) (hab : lt a b = true) : lt b a = false := by
  cases hba : lt b a with
  | false => rfl
  | true => have := h.trans a ha b hb a ha hab hba; rw [h.irrefl a ha] at this; cases this

theorem swo_mono {lt : α → α → Bool} {L l : List α} (h : StrictWeakOrderOn lt L)
    (hs : ∀ x ∈ l, x ∈ L) : StrictWeakOrderOn lt l :=
  ⟨fun a ha => h.irrefl a (hs a ha),
   fun a ha b hb c hc => h.trans a (hs a ha) b (hs b hb) c (hs c hc),
   fun a ha b hb c hc => h.negTrans a (hs a ha) b (hs b hb) c (hs c hc)⟩

/-- the textbook definition (irreflexive, transitive, incomparability transitive) gives the one used here -/
theorem strictWeakOrderOn_of_incomp {lt : α → α → Bool} {L : List α}
    (irrefl : ∀ a ∈ L, lt a a = false)
    (trans : ∀ a ∈ L, ∀ b ∈ L, ∀ c ∈ L, lt a b = true → lt b c = true → lt a c = true)
    (incomp : ∀ a ∈ L, ∀ b ∈ L, ∀ c ∈ L, eqv lt a b = true → eqv lt b c = true → eqv lt a c = true) :
    StrictWeakOrderOn lt L := by
  refine ⟨irrefl, trans, ?_⟩
  intro a ha b hb c hc hab hbc
  cases hac : lt a c with
  | false => rfl
  | true =>
    cases hba : lt b a with
    | true => have := trans b hb a ha c hc hba hac; rw [hbc] at this; cases this
    | false =>
      cases hcb : lt c b with
      | true => have := trans a ha c hc b hb hac hcb; rw [hab] at this; cases this
      | false =>
        have h1 : eqv lt a b = true := by simp [eqv, hab, hba]
        have h2 : eqv lt b c = true := by simp [eqv, hbc, hcb]
        have h3 := incomp a ha b hb c hc h1 h2
        simp [eqv, hac] at h3

theorem sortedBy_isortBy {lt : α → α → Bool} {L : List α} (h : StrictWeakOrderOn lt L)
    (l : List α) (hl : ∀ y ∈ l, y ∈ L) : SortedBy lt (isortBy lt l) := by
  rw [isortBy_eq_isort]
  refine isort_pairwise_on _ (· ∈ L) _ (fun a b hab => by simpa using hab) (fun a b ha hb hab => ?_)
    (fun a b c ha hb hc hab hbc => h.negTrans c hc b hb a ha hbc hab) l hl
  exact swo_asymm h hb ha (by simpa using hab)

theorem filter_insBy {lt : α → α → Bool} {L : List α} (h : StrictWeakOrderOn lt L) (c : α) (hc : c ∈ L)
    (x : α) (hx : x ∈ L) (s : List α) (hs : ∀ y ∈ s, y ∈ L) :
    (insBy lt x s).filter (eqv lt c) = (x :: s).filter (eqv lt c) := by
  induction s with
  | nil => rfl
  | cons y ys ih =>
    have hy : y ∈ L := hs y (by simp)
    have hys : ∀ z ∈ ys, z ∈ L := fun z hz => hs z (by simp [hz])
    simp only [insBy]
    cases hyx : lt y x with
    | false => simp
    | true =>
      simp only [if_true, List.filter_cons, ih hys]
      cases hcx : eqv lt c x <;> cases hcy : eqv lt c y <;> simp
      -- both equivalent to `c`: then `y < x` is impossible
      simp only [eqv, Bool.and_eq_true, Bool.not_eq_true'] at hcx hcy
      have := h.negTrans y hy c hc x hx hcy.2 hcx.1
      rw [hyx] at this; cases this

theorem filter_isortBy {lt : α → α → Bool} {L : List α} (h : StrictWeakOrderOn lt L) (c : α) (hc : c ∈ L)
    (l : List α) (hl : ∀ y ∈ l, y ∈ L) :
    (isortBy lt l).filter (eqv lt c) = l.filter (eqv lt c) := by
  induction l with
  | nil => rfl
  | cons x xs ih =>
    have hxs : ∀ y ∈ xs, y ∈ L := fun y hy => hl y (by simp [hy])
    simp only [isortBy]
    rw [filter_insBy h c hc x (hl x (by simp)) _ (fun y hy => hxs y ((mem_isortBy lt xs y).1 hy))]
    simp only [List.filter_cons, ih hxs]

theorem isortBy_isStableSortOf {lt : α → α → Bool} {l : List α} (h : StrictWeakOrderOn lt l) :
    IsStableSortOf lt l (isortBy lt l) :=
  ⟨isortBy_perm lt l, sortedBy_isortBy h l (fun _ hy => hy), fun c hc => filter_isortBy h c hc l (fun _ hy => hy)⟩

theorem eq_of_sorted_of_filter {lt : α → α → Bool} :
    ∀ (o1 o2 : List α), (∀ a ∈ o1, lt a a = false) → SortedBy lt o1 → SortedBy lt o2 → o1.Perm o2 →
      (∀ c ∈ o1, o1.filter (eqv lt c) = o2.filter (eqv lt c)) → o1 = o2 := by
  intro o1 o2 hirr h1 h2 hp hf
  have mem : ∀ x, x ∈ o1 ∨ x ∈ o2 → x ∈ o1 := fun x hx => hx.elim id hp.mem_iff.2
  exact eq_of_sorted_of_classes (fun a b => lt b a = false) (eqv lt) (· ∈ o1) o1 o2 h1 h2
    (fun x hx => ⟨x, mem x hx, by simp [eqv, hirr x (mem x hx)]⟩)
    (fun x y hx _ hxy hyx => ⟨x, mem x hx, by simp [eqv, hirr x (mem x hx)], by simp [eqv, hxy, hyx]⟩) hf

theorem stable_sort_unique {lt : α → α → Bool} {l o1 o2 : List α} (hirr : ∀ a ∈ l, lt a a = false)
    (h1 : IsStableSortOf lt l o1) (h2 : IsStableSortOf lt l o2) : o1 = o2 := by
  apply eq_of_sorted_of_filter o1 o2 (fun a ha => hirr a (h1.perm.mem_iff.1 ha)) h1.sorted h2.sorted
    (h1.perm.trans h2.perm.symm)
  intro c hc
  have hcl : c ∈ l := h1.perm.mem_iff.1 hc
  rw [h1.stable c hcl, h2.stable c hcl]

theorem insM_ok {ε} (lt : α → α → Except ε Bool) (ltB : α → α → Bool) (x : α) (s : List α)
    (h : ∀ y ∈ s, lt y x = .ok (ltB y x)) : insM lt x s = .ok (insBy ltB x s) := by
  induction s with
  | nil => rfl
  | cons y ys ih =>
    have hy := h y (by simp)
    have ih' := ih (fun z hz => h z (by simp [hz]))
    simp only [insM, insBy, hy, ih']
    cases ltB y x <;> rfl

theorem isortM_ok {ε} (lt : α → α → Except ε Bool) (ltB : α → α → Bool) (l : List α)
    (h : ∀ a ∈ l, ∀ b ∈ l, lt a b = .ok (ltB a b)) : isortM lt l = .ok (isortBy ltB l) := by
  induction l with
  | nil => rfl
  | cons x xs ih =>
    have ih' := ih (fun a ha b hb => h a (by simp [ha]) b (by simp [hb]))
    simp only [isortM, isortBy, ih']
    exact insM_ok lt ltB x _ (fun y hy => h y (by simp [(mem_isortBy ltB xs y).1 hy]) x (by simp))

end generic

open SCoda.Gen.Sort

theorem pyIndex_members (t : MType) :
    pyIndex KVal.eq (messageTypeMembers.map KVal.mtype) (.mtype t) = .ok t.rank := by
  cases t <;> rfl

theorem messageTypeLt_mtype (a b : MType) :
    messageTypeLt a (.mtype b) = .ok (decide (a.rank < b.rank)) := by
  cases a <;> cases b <;> rfl

theorem ofField_inj (u v : Int) : KVal.ofField u = KVal.ofField v ↔ u = v := by
  unfold KVal.ofField
  by_cases hu : u = pyNone <;> by_cases hv : v = pyNone <;> simp [hu, hv] <;> omega

theorem chanKey_eq (c : Int) :
    (if KVal.isNone (KVal.ofField c) then KVal.int (-1) else KVal.ofField c) = KVal.int c := by
  unfold KVal.ofField
  by_cases hc : c = pyNone
  · simp [hc, KVal.isNone, pyNone]
  · simp [hc, KVal.isNone]

/-- no comparison of the two keys raises -/
def Comparable (a b : Msg) : Prop :=
  (a.time = pyNone ↔ b.time = pyNone) ∧
  (a.time = b.time → a.ch = b.ch → a.ty = b.ty → (a.note = pyNone ↔ b.note = pyNone))

instance (a b : Msg) : Decidable (Comparable a b) := by unfold Comparable; exact inferInstance

theorem ofField_lt_eq (m : MType → KVal → Except SortErr Bool) (u v : Int) (hne : u ≠ v) :
    KVal.lt m (KVal.ofField u) (KVal.ofField v) =
      if (u = pyNone ↔ v = pyNone) then .ok (decide (u < v)) else .error .typeError := by
  by_cases hu : u = pyNone <;> by_cases hv : v = pyNone
  · exact absurd (hu.trans hv.symm) hne
  all_goals simp [KVal.ofField, hu, hv, KVal.lt, pure, Except.pure, throw, throwThe, MonadExceptOf.throw]

theorem keyLt_sortKey_eq (a b : Msg) :
    keyLt (sortKey a) (sortKey b) = if Comparable a b then .ok (!keyLe b a) else .error .typeError := by
  have hk : ∀ (P : Prop) [Decidable P], (P ↔ ¬ keyLe b a = true) → (Except.ok (decide P) : Except SortErr Bool) = .ok (!keyLe b a) := by
    intro P _ hP
    congr 1
    rw [Bool.eq_iff_iff]; simp [hP]
  simp only [keyLt, sortKey, chanKey_eq, tupleLt, KVal.eq, ofField_inj, KVal.int.injEq, KVal.mtype.injEq]
  by_cases ht : a.time = b.time
  · by_cases hc : a.ch = b.ch
    · by_cases hty : a.ty = b.ty
      · by_cases hn : a.note = b.note
        · have hC : Comparable a b := ⟨by rw [ht], fun _ _ _ => by rw [hn]⟩
          rw [if_pos hC]
          simp only [ht, hc, hty, hn, decide_true, if_true, pure, Except.pure]
          apply hk False
          rw [keyLe_iff]; simp [ht, hc, hty, hn]
        · have hC : Comparable a b ↔ (a.note = pyNone ↔ b.note = pyNone) :=
            ⟨fun h => h.2 ht hc hty, fun h => ⟨by rw [ht], fun _ _ _ => h⟩⟩
          simp only [ht, hc, hty, hn, decide_true, decide_false, if_true, Bool.false_eq_true, if_false, ofField_lt_eq _ _ _ hn, hC]
          split
          · apply hk
            rw [keyLe_iff]; simp [ht, hc, hty]
          · rfl
      · have hr : a.ty.rank ≠ b.ty.rank := fun hr => hty (MType.rank_injective hr)
        have hC : Comparable a b := ⟨by rw [ht], fun _ _ h => absurd h hty⟩
        rw [if_pos hC]
        simp only [ht, hc, hty, decide_true, decide_false, if_true, Bool.false_eq_true, if_false, KVal.lt, messageTypeLt_mtype]
        apply hk
        rw [keyLe_iff]; simp [ht, hc]; omega
    · have hC : Comparable a b := ⟨by rw [ht], fun _ h => absurd h hc⟩
      rw [if_pos hC]
      simp only [ht, hc, decide_true, decide_false, if_true, Bool.false_eq_true, if_false, KVal.lt, pure, Except.pure]
      apply hk
      rw [keyLe_iff]; simp [ht]; omega
  · have hC : Comparable a b ↔ (a.time = pyNone ↔ b.time = pyNone) := ⟨fun h => h.1, fun h => ⟨h, fun e => absurd e ht⟩⟩
    simp only [ht, decide_false, Bool.false_eq_true, if_false, ofField_lt_eq _ _ _ ht, hC]
    split
    · apply hk
      rw [keyLe_iff]; omega
    · rfl

theorem keyLt_sortKey (a b : Msg) (h : Comparable a b) : keyLt (sortKey a) (sortKey b) = .ok (!keyLe b a) :=
  (keyLt_sortKey_eq a b).trans (if_pos h)

theorem keyLt_sortKey_error (a b : Msg) (h : ¬ Comparable a b) : keyLt (sortKey a) (sortKey b) = .error .typeError :=
  (keyLt_sortKey_eq a b).trans (if_neg h)

theorem comparable_symm {a b : Msg} (h : Comparable a b) : Comparable b a :=
  ⟨h.1.symm, fun ht hc hty => (h.2 ht.symm hc.symm hty.symm).symm⟩

theorem comparable_refl (a : Msg) : Comparable a a := ⟨Iff.rfl, fun _ _ _ => Iff.rfl⟩

theorem comparable_of_between {x y1 y : Msg} (h1 : Comparable y1 x) (h2 : Comparable y1 y)
    (hx : keyLe x y1 = true) (hy : keyLe y1 y = true) : Comparable y x := by
  rw [keyLe_iff] at hx hy
  refine ⟨h2.1.symm.trans h1.1, fun ht hc hty => ?_⟩
  have hr : y.ty.rank = x.ty.rank := by rw [hty]
  have e1 : y1.time = x.time := by omega
  have e2 : y1.ch = x.ch := by omega
  have e3 : y1.ty.rank = x.ty.rank := by omega
  have e3' : y1.ty = x.ty := MType.rank_injective e3
  exact (h2.2 (e1.trans ht.symm) (e2.trans hc.symm) (e3'.trans hty.symm)).symm.trans (h1.2 e1 e2 e3')

/-- the comparison the translated sort uses, through a projection `f` (`Gen.Sort.sortOf`) -/
abbrev ltM {α : Type} (f : α → Msg) (a b : α) : Except SortErr Bool := keyLt (sortKey (f a)) (sortKey (f b))

theorem notKeyLe_swo {α : Type} (f : α → Msg) (L : List α) : StrictWeakOrderOn (fun a b : α => !keyLe (f b) (f a)) L := by
  refine ⟨fun a _ => by simp [keyLe_refl], ?_, ?_⟩
  · intro a _ b _ c _ h1 h2
    simp only [Bool.not_eq_eq_eq_not, Bool.not_true] at *
    cases hca : keyLe (f c) (f a) with
    | false => rfl
    | true =>
      rcases keyLe_total (f a) (f b) with hab | hba
      · rw [keyLe_trans hca hab] at h2; cases h2
      · rw [hba] at h1; cases h1
  · intro a _ b _ c _ h1 h2
    simp only [Bool.not_eq_false'] at *
    exact keyLe_trans h2 h1

theorem swo_congr {α : Type} {lt lt' : α → α → Bool} {L : List α} (h : StrictWeakOrderOn lt L)
    (e : ∀ a ∈ L, ∀ b ∈ L, lt' a b = lt a b) : StrictWeakOrderOn lt' L :=
  ⟨fun a ha => by rw [e a ha a ha]; exact h.irrefl a ha,
   fun a ha b hb c hc => by rw [e a ha b hb, e b hb c hc, e a ha c hc]; exact h.trans a ha b hb c hc,
   fun a ha b hb c hc => by rw [e a ha b hb, e b hb c hc, e a ha c hc]; exact h.negTrans a ha b hb c hc⟩

theorem insM_error {α : Type} (f : α → Msg) (x : α) (s : List α)
    (hdom : ∀ a ∈ s, ∀ b ∈ s, Comparable (f a) (f b)) (hsorted : s.Pairwise (fun a b => keyLe (f a) (f b) = true))
    (hbad : ∃ y ∈ s, ¬ Comparable (f y) (f x)) : insM (ltM f) x s = .error .typeError := by
  induction s with
  | nil => obtain ⟨y, hy, _⟩ := hbad; cases hy
  | cons y1 ys ih =>
    simp only [insM, ltM]
    by_cases hc : Comparable (f y1) (f x)
    · rw [keyLt_sortKey (f y1) (f x) hc]
      obtain ⟨y, hy, hyx⟩ := hbad
      have hyys : y ∈ ys := by
        rcases List.mem_cons.1 hy with rfl | h
        · exact absurd hc hyx
        · exact h
      simp only [List.pairwise_cons] at hsorted
      cases hle : keyLe (f x) (f y1) with
      | true =>
        exact absurd (comparable_of_between hc (hdom y1 (by simp) y hy) hle (hsorted.1 y hyys)) hyx
      | false =>
        have := ih (fun a ha b hb => hdom a (by simp [ha]) b (by simp [hb])) hsorted.2 ⟨y, hyys, hyx⟩
        simp [this, bind, Except.bind]
    · rw [keyLt_sortKey_error (f y1) (f x) hc]; rfl

theorem isortM_error {α : Type} (f : α → Msg) (l : List α) (h : ¬ ∀ a ∈ l, ∀ b ∈ l, Comparable (f a) (f b)) :
    isortM (ltM f) l = .error .typeError := by
  induction l with
  | nil => exact absurd (by simp) h
  | cons x xs ih =>
    simp only [isortM]
    by_cases hxs : ∀ a ∈ xs, ∀ b ∈ xs, Comparable (f a) (f b)
    · have hok := isortM_ok (ltM f) (fun a b => !keyLe (f b) (f a)) xs (fun a ha b hb => keyLt_sortKey (f a) (f b) (hxs a ha b hb))
      rw [hok]
      have hbad : ∃ y ∈ xs, ¬ Comparable (f y) (f x) := by
        apply Classical.byContradiction
        intro hno
        simp only [not_exists, not_and, Classical.not_not] at hno
        apply h
        intro a ha b hb
        rcases List.mem_cons.1 ha with ea | ha'
        · rcases List.mem_cons.1 hb with eb | hb'
          · rw [ea, eb]; exact comparable_refl _
          · rw [ea]; exact comparable_symm (hno b hb')
        · rcases List.mem_cons.1 hb with eb | hb'
          · rw [eb]; exact hno a ha'
          · exact hxs a ha' b hb'
      have hsorted := sortedBy_isortBy (notKeyLe_swo f xs) xs (fun _ hy => hy)
      apply insM_error f x _ (fun a ha b hb => hxs a ((mem_isortBy _ xs a).1 ha) b ((mem_isortBy _ xs b).1 hb))
      · refine List.Pairwise.imp ?_ hsorted
        intro a b hab; simpa using hab
      · obtain ⟨y, hy, hyx⟩ := hbad
        exact ⟨y, (mem_isortBy _ xs y).2 hy, hyx⟩
    · rw [ih hxs]; rfl

theorem sortOf_perm {α : Type} (msgOf : α → Msg) (l r : List α) (h : sortOf msgOf l = .ok r) : r.Perm l := by
  simp only [sortOf, pyListSort, Bool.false_eq_true, if_false] at h
  by_cases hd : ∀ a ∈ l, ∀ b ∈ l, Comparable (msgOf a) (msgOf b)
  · rw [isortM_ok _ _ l fun a ha b hb => keyLt_sortKey _ _ (hd a ha b hb)] at h
    cases h; exact isortBy_perm _ l
  · rw [show isortM _ l = _ from isortM_error msgOf l hd] at h; cases h

end SCoda.SortTieL
