/-
  The notes and signatures of a merge.  Per key the note events of the merge are the canonically sorted union of the
  inputs, fused by the depth counter (`merge_key_events`); a note-on survives the fusion iff, counting everything before
  it, as many notes of its key have ended as have started (`fused_onset`, `merge_onset`), which for good inputs says that
  no input note has the tick strictly inside (`input_excess`, `family_excess`: the difference counts these notes).  The timed signature lists that `normalise`
  leaves are those of its input without the repeats (`normalise_tsT`, `normalise_ksT`).  Sorting the inputs first changes
  nothing (`mergeEv_sort`).
-/
import SCoda.Lemmas.Merge
import SCoda.Lemmas.SortUnique
namespace SCoda.NotesBL
open SCoda SCoda.NotesL SCoda.MergeL

theorem split_of_downclosed {α} (p : α → Bool) : ∀ l : List α, l.Pairwise (fun a b => p b = true → p a = true) →
    l = l.filter p ++ l.filter (fun a => !p a) := by
  intro l
  induction l with
  | nil => intro _; rfl
  | cons x xs ih =>
    intro h
    rw [List.pairwise_cons] at h
    by_cases hx : p x = true
    · simp only [List.filter_cons, hx, if_true, Bool.not_true, Bool.false_eq_true, if_false, List.cons_append]
      congr 1
      exact ih h.2
    · have hnone : xs.filter p = [] := by
        rw [List.filter_eq_nil_iff]
        intro b hb hpb
        exact hx (h.1 b hb hpb)
      have hall : xs.filter (fun a => !p a) = xs := by
        rw [List.filter_eq_self]
        intro b hb
        have : ¬ p b = true := fun hpb => hx (h.1 b hb hpb)
        simpa using this
      have hx' : p x = false := by simpa using hx
      simp [hx', hnone, hall]

open E2E in
theorem fused_onset (k : Int × Int) (s : Int) (Ek : List Msg) (hk : ∀ m ∈ Ek, isKN k m = true)
    (hs : Ek.Pairwise EQ.KLe) (hnu : ∀ q, q <+: Ek → offs k q ≤ 0 + ons k q) :
    (∃ m ∈ fuseK k 0 Ek, m.ty = .noteOn ∧ m.time = s) ↔
      ((∃ m ∈ Ek, m.ty = .noteOn ∧ m.time = s) ∧ ons k (before s Ek) = offs k (upTo s Ek)) := by
  obtain ⟨B, C, A, rfl, hB, hC, hA⟩ := split3 Ek s (sorted_of_kle hs)
  have hkC : ∀ m ∈ C, m.nkey = k ∧ (m.ty = .noteOn ∨ m.ty = .noteOff) :=
    fun m hm => isKN_iff_kev.1 (hk m (by simp [hm]))
  -- on one tick the note-offs of the key come before its note-ons
  have hC2 : C = C.filter (fun m => m.ty == .noteOff) ++ C.filter (fun m => !(m.ty == .noteOff)) := by
    apply split_of_downclosed
    refine (List.pairwise_append.1 (List.pairwise_append.1 hs).2.1).1.imp_of_mem ?_
    intro a b ha hb hab hpb
    rcases (hkC a ha).2 with ta | ta
    · exfalso
      have hkk : a.nkey = b.nkey := (hkC a ha).1.trans (hkC b hb).1.symm
      simp only [Msg.nkey, Prod.mk.injEq] at hkk
      have hle := (SCoda.keyLe_iff a b).1 hab
      rw [ta, show b.ty = .noteOff by simpa using hpb] at hle
      simp only [MType.rank] at hle
      have := hC a ha
      have := hC b hb
      omega
    · simpa using ta
  generalize hCf : C.filter (fun m => m.ty == .noteOff) = Cf at hC2
  generalize hCn : C.filter (fun m => !(m.ty == .noteOff)) = Cn at hC2
  have hCf' : ∀ m ∈ Cf, m.ty = .noteOff := fun m hm => by
    rw [← hCf] at hm; simpa using (List.mem_filter.1 hm).2
  have hCn' : ∀ m ∈ Cn, (m.nkey = k ∧ m.ty = .noteOn) ∧ m.time = s := fun m hm => by
    rw [← hCn] at hm
    obtain ⟨h1, h2⟩ := List.mem_filter.1 hm
    exact ⟨⟨(hkC m h1).1, (hkC m h1).2.resolve_right (by simpa using h2)⟩, hC m h1⟩
  obtain ⟨e3, e4⟩ := sliced s B C A hB hC hA
  have hons0 : ons k Cf = 0 := List.countP_eq_zero.2 fun m hm => by simp [isOnK, hCf' m hm]
  have hoffs0 : offs k Cn = 0 := List.countP_eq_zero.2 fun m hm => by simp [isOffK, (hCn' m hm).1.2]
  have hcount : ons k (before s (B ++ (C ++ A))) = offs k (upTo s (B ++ (C ++ A))) ↔ depth k (B ++ Cf) 0 = 0 := by
    have := depth_exact k (B ++ Cf) 0 (fun q hq => hnu q (hq.trans ⟨Cn ++ A, by rw [hC2]; simp⟩))
    rw [ons_append, offs_append, hons0] at this
    rw [e3, e4, hC2, offs_append, offs_append, hoffs0]
    omega
  have hfuse : fuseK k 0 (B ++ (C ++ A)) = fuseK k 0 (B ++ Cf) ++ ((if depth k (B ++ Cf) 0 = 0 then Cn.take 1 else [])
      ++ fuseK k (depth k Cn (depth k (B ++ Cf) 0)) A) := by
    rw [← fuseK_split_ons k (B ++ Cf) Cn A (fun m hm => (hCn' m hm).1) 0, hC2]
    simp only [List.append_assoc]
  rw [hcount]
  constructor
  · rintro ⟨m, hm, hty, htm⟩
    rw [hfuse] at hm
    rcases List.mem_append.1 hm with hm | hm
    · exfalso
      rcases List.mem_append.1 ((fuseK_sublist k (B ++ Cf) 0).subset hm) with h | h
      · have := hB m h; omega
      · rw [hCf' m h] at hty; cases hty
    · rcases List.mem_append.1 hm with hm | hm
      · by_cases hd0 : depth k (B ++ Cf) 0 = 0
        · rw [if_pos hd0] at hm
          refine ⟨⟨m, ?_, hty, htm⟩, hd0⟩
          rw [hC2]
          simp [List.mem_of_mem_take hm]
        · rw [if_neg hd0] at hm; cases hm
      · exfalso
        have := hA m ((fuseK_sublist k A _).subset hm)
        omega
  · rintro ⟨⟨m0, hm0, hty0, htm0⟩, hd0⟩
    have hm0n : m0 ∈ Cn := by
      rw [hC2] at hm0
      rcases List.mem_append.1 hm0 with h | h
      · have := hB m0 h; omega
      · rcases List.mem_append.1 h with h | h
        · rcases List.mem_append.1 h with h | h
          · rw [hCf' m0 h] at hty0; cases hty0
          · exact h
        · have := hA m0 h; omega
    cases hA1 : Cn with
    | nil => rw [hA1] at hm0n; cases hm0n
    | cons a Cn' =>
      have ha := hCn' a (by rw [hA1]; simp)
      refine ⟨a, ?_, ha.1.2, ha.2⟩
      rw [hfuse, if_pos hd0, hA1]
      simp

/-- the timed events of the merge of the absolute views `as` (receiver first) -/
def mergeEv (as : List (List Msg)) : List Msg := eventsRel (normalise (toRel (sortAbs as.flatten)))

/-- what C15 assumes of every input: a fresh absolute view, well-formed, no zero-length note -/
def GoodIn (a : List Msg) : Prop := OkAbs a ∧ WF a ∧ ∀ n ∈ notesOf a, n.on < n.off

theorem merge_wf (as : List (List Msg)) : WF (mergeEv as) :=
  fun k => (altFrom_events k _ false 0).2 (normalise_wf _ k)

theorem merge_key_events (as : List (List Msg)) (h : ∀ a ∈ as, GoodIn a) (k : Int × Int) :
    (mergeEv as).filter (isKN k) = fuseK k 0 ((sortAbs as.flatten).filter (isKN k)) := by
  have hok : ∀ a ∈ as, OkAbs a := fun a ha => (h a ha).1
  obtain ⟨hnn, hev⟩ := toRel_okAbs (okAbs_sortAbs_flatten as hok)
  have hd := fun k' => E2E.toRel_union_depth as k'
    (fun a ha => E2E.cg_of_good k' a (good_of_wf a (h a ha).2.1 (h a ha).2.2 k'))
  rw [mergeEv, normalise_fuse _ hnn hd k, hev, ← fuseK_filter k (isKN k) fun _ h => isKN_true h]
  congr 1
  simp only [eventsAbs, List.filter_filter]
  congr 1; funext m
  by_cases hi : m.ty = .internal
  · simp [isKN, hi]
  · simp [hi]

theorem merge_sorted (as : List (List Msg)) (h : ∀ a ∈ as, OkAbs a) : MergeL.Sorted (mergeEv as) := by
  have hnn := (toRel_okAbs (okAbs_sortAbs_flatten as h)).1
  exact (events_sorted _ 0 hnn).sublist (normalise_events_sublist _ hnn)

theorem merge_key_kle (as : List (List Msg)) (h : ∀ a ∈ as, GoodIn a) (k : Int × Int) :
    ((mergeEv as).filter (isKN k)).Pairwise EQ.KLe := by
  rw [merge_key_events as h k]
  exact ((sortAbs_sorted _).filter _).sublist (fuseK_sublist k _ 0)

theorem merge_posDur (as : List (List Msg)) (h : ∀ a ∈ as, GoodIn a) : ∀ n ∈ notesOf (mergeEv as), n.on < n.off :=
  posDur_of_kle _ (merge_wf as) (merge_key_kle as h)

theorem merge_sep (as : List (List Msg)) (h : ∀ a ∈ as, GoodIn a) : Sep (notesOf (mergeEv as)) :=
  notes_sep _ (merge_wf as) (merge_sorted as (fun a ha => (h a ha).1)) (merge_posDur as h)

theorem merge_onset (as : List (List Msg)) (h : ∀ a ∈ as, GoodIn a) (k : Int × Int) (s : Int) :
    (∃ m ∈ mergeEv as, m.ty = .noteOn ∧ m.nkey = k ∧ m.time = s) ↔
      ((∃ m ∈ as.flatten, m.ty = .noteOn ∧ m.nkey = k ∧ m.time = s)
        ∧ ons k (before s as.flatten) = offs k (upTo s as.flatten)) := by
  have hnu := E2E.no_underflow_cg k _ (sorted_of_kle ((sortAbs_sorted as.flatten).filter (isKN k)))
    ((E2E.cg_filter k (isKN k) (fun m hk ht => by simp [isKN, hk, ht]) _).2
      (E2E.cg_perm (sortAbs_perm _).symm (E2E.cg_flatten k as
        (fun a ha => E2E.cg_of_good k a (good_of_wf a (h a ha).2.1 (h a ha).2.2 k)))))
  have key := fused_onset k s _ (fun m hm => (List.mem_filter.1 hm).2) ((sortAbs_sorted as.flatten).filter _) hnu
  rw [← merge_key_events as h k] at key
  have e1 : ons k (before s ((sortAbs as.flatten).filter (isKN k))) = ons k (before s as.flatten) := by
    rw [before_filter, ons_filter_kn]
    exact ons_perm k ((sortAbs_perm _).filter _)
  have e2 : offs k (upTo s ((sortAbs as.flatten).filter (isKN k))) = offs k (upTo s as.flatten) := by
    rw [upTo_filter, offs_filter_kn]
    exact offs_perm k ((sortAbs_perm _).filter _)
  rw [e1, e2] at key
  constructor
  · rintro ⟨m, hm, hty, hk, htm⟩
    obtain ⟨⟨m0, hm0, g1, g2⟩, g3⟩ := key.1 ⟨m, List.mem_filter.2 ⟨hm, by simp [isKN, hk, hty]⟩, hty, htm⟩
    obtain ⟨h1, h2⟩ := List.mem_filter.1 hm0
    exact ⟨⟨m0, (mem_sortAbs _ _).1 h1, g1, (isKN_iff_kev.1 h2).1, g2⟩, g3⟩
  · rintro ⟨⟨m0, hm0, g1, g2, g3⟩, g4⟩
    obtain ⟨m, hm, hty, htm⟩ := key.2 ⟨⟨m0, List.mem_filter.2 ⟨(mem_sortAbs _ _).2 hm0, by simp [isKN, g1, g2]⟩, g1, g3⟩, g4⟩
    obtain ⟨h1, h2⟩ := List.mem_filter.1 hm
    exact ⟨m, h1, hty, (isKN_iff_kev.1 h2).1, htm⟩

/-- for one good input: of the notes of key `k` begun before `s`, those not ended by `s` have `s` strictly inside -/
theorem input_excess (a : List Msg) (h : GoodIn a) (k : Int × Int) (s : Int) :
    ons k (before s a)
      = offs k (upTo s a) + (notesOf a).countP (fun n => decide (nkeyN n = k ∧ n.on < s ∧ s < n.off)) := by
  obtain ⟨_, hwf, hpd⟩ := h
  obtain ⟨P, h1, h2, h3⟩ := key_view a hwf k
  rw [excess_view a k P h1 h2 (fun p hp => hpd _ ((mem_key_notes h3).1 (List.mem_map_of_mem hp)).1) s]
  have e : (notesOf a).countP (fun n => decide (nkeyN n = k ∧ n.on < s ∧ s < n.off))
      = ((notesOf a).filter (fun n => decide ((n.ch, n.pitch) = k))).countP (fun n => decide (n.on < s ∧ s < n.off)) := by
    rw [List.countP_filter]
    exact List.countP_congr fun n _ => by simp [nkeyN, and_comm]
  rw [e, h3, List.countP_map]
  rfl

def inNotes (as : List (List Msg)) : List Note := as.flatMap notesOf

/-- … and for the family: the note-ons of `k` before `s` exceed its note-offs up to `s` by the number of input notes of `k` that
    have `s` strictly inside -/
theorem family_excess (as : List (List Msg)) (h : ∀ a ∈ as, GoodIn a) (k : Int × Int) (s : Int) :
    ons k (before s as.flatten) = offs k (upTo s as.flatten)
      + (inNotes as).countP (fun n => decide (nkeyN n = k ∧ n.on < s ∧ s < n.off)) := by
  induction as with
  | nil => rfl
  | cons a as ih =>
    rw [List.flatten_cons, before_append, upTo_append, ons_append, offs_append, input_excess a (h a List.mem_cons_self) k s,
      ih fun b hb => h b (List.mem_cons_of_mem _ hb), show inNotes (a :: as) = notesOf a ++ inNotes as from List.flatMap_cons,
      List.countP_append]
    omega

/-- what holds of some input holds of the family: a statement about the notes of an input, read on all input notes -/
theorem inNotes_iff {as : List (List Msg)} {P : List Msg → Prop} {Q : Note → Prop}
    (h : ∀ a ∈ as, (P a ↔ ∃ n ∈ notesOf a, Q n)) : (∃ a ∈ as, P a) ↔ ∃ n ∈ inNotes as, Q n := by
  simp only [inNotes, List.mem_flatMap]
  exact ⟨fun ⟨a, ha, hp⟩ => let ⟨n, hn, hq⟩ := (h a ha).1 hp; ⟨n, ⟨a, ha, hn⟩, hq⟩,
    fun ⟨n, ⟨a, ha, hn⟩, hq⟩ => ⟨a, ha, (h a ha).2 ⟨n, hn, hq⟩⟩⟩

/-- an input note-on of `k` on tick `s` is the start of an input note -/
theorem family_onset (as : List (List Msg)) (h : ∀ a ∈ as, GoodIn a) (k : Int × Int) (s : Int) :
    (∃ m ∈ as.flatten, m.ty = .noteOn ∧ m.nkey = k ∧ m.time = s) ↔ ∃ n ∈ inNotes as, nkeyN n = k ∧ n.on = s := by
  rw [← inNotes_iff fun a ha => (notes_onset a (h a ha).2.1 k s).symm]
  simp only [List.mem_flatten]
  exact ⟨fun ⟨m, ⟨a, ha, hm⟩, g⟩ => ⟨a, ha, m, hm, g⟩, fun ⟨a, ha, m, hm, g⟩ => ⟨m, ⟨a, ha, hm⟩, g⟩⟩

/-- drop every entry whose value repeats the value in force (`p` to start with) -/
def dedupBy {α β} [DecidableEq β] (val : α → β) : β → List α → List α
  | _, [] => []
  | p, x :: xs => if p = val x then dedupBy val p xs else x :: dedupBy val (val x) xs

/-- the time signatures of a timed event list as (tick, numerator, denominator) -/
def tsT (E : List Msg) : List (Int × Int × Int) :=
  (E.filter (fun m => m.ty == .timeSignature)).map (fun m => (m.time, m.num, m.den))
/-- the key signatures of a timed event list as (tick, key) -/
def ksT (E : List Msg) : List (Int × Int) :=
  (E.filter (fun m => m.ty == .keySignature)).map (fun m => (m.time, m.key))

def tsV (x : Int × Int × Int) : Int × Int := (x.2.1, x.2.2)
def ksV (x : Int × Int) : Int := x.2

/-- the events of type `τ` of a timed event list as (tick, value read by `v`); `tsT` and `ksT` are it, by `rfl`, at the two kinds of signature -/
def sigT {β} (τ : MType) (v : Msg → β) (E : List Msg) : List (Int × β) :=
  (E.filter (fun m => m.ty == τ)).map (fun m => (m.time, v m))

theorem dedupBy_timed {β} [DecidableEq β] (v : Msg → β) (l : List Msg) : ∀ p,
    dedupBy Prod.snd p (l.map fun m => (m.time, v m)) = (E2E.dedupBy v p l).map fun m => (m.time, v m) := by
  induction l with
  | nil => intro p; rfl
  | cons x xs ih =>
    intro p
    simp only [List.map_cons, dedupBy, E2E.dedupBy]
    split
    · exact ih p
    · rw [List.map_cons, ih]

theorem normalise_tsT (r : List Msg) (hr : NonNegWaits r) :
    tsT (eventsRel (normalise r)) = dedupBy tsV (pyNone, pyNone) (tsT (eventsRel r)) :=
  (congrArg (List.map fun m : Msg => (m.time, E2E.tsv m)) (E2E.normalise_ts_events r hr)).trans
    (dedupBy_timed E2E.tsv _ _).symm

theorem normalise_ksT (r : List Msg) (hr : NonNegWaits r) :
    ksT (eventsRel (normalise r)) = dedupBy ksV pyNone (ksT (eventsRel r)) :=
  (congrArg (List.map fun m : Msg => (m.time, C13b.keyVal m)) (E2E.normalise_ks_events r hr)).trans
    (dedupBy_timed C13b.keyVal _ _).symm

theorem mergeEv_sort (as : List (List Msg)) : mergeEv (as.map sortAbs) = mergeEv as := by
  simp only [mergeEv, EQ.sortAbs_flatten_map]

theorem goodIn_sort (a : List Msg) (h : OkAbs a) (hwf : WF (sortAbs a)) : GoodIn (sortAbs a) :=
  ⟨okAbs_sortAbs h, hwf, posDur_of_sorted _ hwf (sortAbs_sorted a)⟩

end SCoda.NotesBL
