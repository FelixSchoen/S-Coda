/-
  A *run of bars* handed to `extract` (Props/C03e, C03f): per track a list of bar sequences, each headed by its signature
  and exactly one bar long, concatenated per track as `Bar.to_sequence` does.
  The concatenated tracks are good tracks whose signature events are the grid of the run's bar lines, so what `extract`
  makes of a run satisfies `GoodAt`; its notes are those of the first bars followed by those of the remaining bars one bar
  length later, so bar by bar the cut has the note events of the one-bar runs.  `run_full` says all of it in one statement.
-/
import SCoda.Lemmas.CutL
import SCoda.Lemmas.TrackPairsL
namespace SCoda.GlueL
open SCoda SCoda.C01 SCoda.ChunksL SCoda.ExtractL SCoda.E2E SCoda.MergeL SCoda.NotesL SCoda.GlueAux SCoda.EQ

/-- a bar sequence of track `i` for the signature `g`, as `mkBar` builds it from a piece without zero-length notes on one
    channel: headed by the signature message, no other signature, a good track on its own, and exactly one bar long -/
structure SegOk (c : Cfg) (i : Nat) (g : Int × Int) (s : List Msg) : Prop where
  head : ∃ tl, s = Msg.mkTimeSig 0 g.1 g.2 pyNone :: tl ∧ ∀ m ∈ tl, m.ty ≠ .timeSignature
  good : TrackGood i s
  dur : totalWait s = c.capacity g.1 g.2

/-- the bar sequences of one track along the signatures `sigs` -/
inductive Run (c : Cfg) (i : Nat) : List (Int × Int) → List (List Msg) → Prop
  | nil : Run c i [] []
  | cons {g : Int × Int} {s : List Msg} {sigs : List (Int × Int)} {t : List (List Msg)} :
      SegOk c i g s → Run c i sigs t → Run c i (g :: sigs) (s :: t)

/-- every track's bar sequences run along `sigs` (the field `segs` of `RunOk` below) -/
def RunAll (c : Cfg) (sigs : List (Int × Int)) (segs : List (List (List Msg))) : Prop :=
  ∀ i t, segs[i]? = some t → Run c i sigs t

/-- a run of bars: one list of bar sequences per configured track (at least one), along the signatures `sigs`
    (at least one bar), all of positive length -/
structure RunOk (c : Cfg) (sigs : List (Int × Int)) (segs : List (List (List Msg))) : Prop where
  ntr : segs.length = c.numTracks
  tr : 0 < segs.length
  bars : sigs ≠ []
  pos : ∀ g ∈ sigs, 0 < g.1 ∧ 0 < g.2 ∧ 0 < c.capacity g.1 g.2
  segs : ∀ i t, segs[i]? = some t → Run c i sigs t

theorem run_good (c : Cfg) (i : Nat) (sigs : List (Int × Int)) (t : List (List Msg))
    (h : Run c i sigs t) : TrackGood i t.flatten := by
  induction h with
  | nil => exact trackGood_nil i
  | cons h1 _ ih =>
    rw [List.flatten_cons]
    exact trackGood_append i _ _ h1.good ih

theorem run_dur (c : Cfg) (i : Nat) (sigs : List (Int × Int)) (t : List (List Msg))
    (h : Run c i sigs t) : totalWait t.flatten = total c sigs := by
  induction h with
  | nil => rfl
  | cons h1 _ ih =>
    rw [List.flatten_cons, totalWait_append, h1.dur, ih]
    rfl

theorem seg_ts_events (c : Cfg) (i : Nat) (g : Int × Int) (s : List Msg) (h : SegOk c i g s) (A : Int) :
    (eventsRelGo A s).filter isTs = [{ Msg.mkTimeSig 0 g.1 g.2 pyNone with time := A }] := by
  obtain ⟨tl, rfl, htl⟩ := h.head
  have : (eventsRelGo A tl).filter isTs = [] := by
    rw [List.filter_eq_nil_iff]
    intro e he
    obtain ⟨_, m, hm, hty⟩ := eventsRelGo_ty tl A e he
    simp only [isTs, beq_iff_eq]
    rw [hty]
    exact htl m hm
  simp only [eventsRelGo, Msg.mkTimeSig]
  simp [isTs, this]

theorem run_ts_eq (c : Cfg) (i : Nat) (sigs : List (Int × Int)) (t : List (List Msg)) (h : Run c i sigs t) :
    ∀ A, ((eventsRelGo A t.flatten).filter isTs).map (fun e => (e.time, e.num, e.den)) = grid c A sigs := by
  induction h with
  | nil => intro A; simp [eventsRelGo, grid]
  | cons h1 _ ih =>
    intro A
    rw [List.flatten_cons, eventsRelGo_append, List.filter_append, seg_ts_events c i _ _ h1 A, h1.dur,
      List.map_append, ih]
    rfl

theorem run_ts_events (c : Cfg) (i : Nat) (sigs : List (Int × Int)) (t : List (List Msg))
    (h : Run c i sigs t) (A : Int) : ∀ e ∈ (eventsRelGo A t.flatten).filter isTs, SigAt c A sigs e := by
  intro e he
  rw [sigAt_iff, ← run_ts_eq c i sigs t h A]
  exact List.mem_map_of_mem he

theorem run_grid_lines (c : Cfg) (i : Nat) (sigs : List (Int × Int)) (t : List (List Msg)) (h : Run c i sigs t) (A : Int) :
    ∀ x ∈ grid c A sigs, ∃ e ∈ (eventsRelGo A t.flatten).filter isTs, e.time = x.1 := by
  intro x hx
  rw [← run_ts_eq c i sigs t h A, List.mem_map] at hx
  obtain ⟨e, he, rfl⟩ := hx
  exact ⟨e, he, rfl⟩

theorem run_strict (c : Cfg) (i : Nat) (sigs : List (Int × Int)) (t : List (List Msg))
    (h : Run c i sigs t) (hp : ∀ s ∈ sigs, 0 < s.1 ∧ 0 < s.2 ∧ 0 < c.capacity s.1 s.2) (A : Int) :
    ((eventsRelGo A t.flatten).filter isTs).Pairwise (fun a b => a.time < b.time) := by
  have := (grid_lt c sigs A hp).2
  rwa [← run_ts_eq c i sigs t h A, List.pairwise_map] at this

theorem sigAt_fun (c : Cfg) (a b : Msg) (sigs : List (Int × Int)) (A : Int)
    (hp : ∀ s ∈ sigs, 0 < s.1 ∧ 0 < s.2 ∧ 0 < c.capacity s.1 s.2) (ha : SigAt c A sigs a) (hb : SigAt c A sigs b)
    (hab : a.time = b.time) : tsv a = tsv b :=
  congrArg Prod.snd
    (eq_of_pairwise_lt Prod.fst (grid_lt c sigs A hp).2 _ ((sigAt_iff c a sigs A).1 ha) _ ((sigAt_iff c b sigs A).1 hb) hab)

def early (B : Int) (m : Msg) : Bool := decide (m.time < B)

theorem early_cut (B : Int) (X : List Msg) (hs : Sorted X) :
    X.takeWhile (early B) = X.filter (early B) ∧ X.dropWhile (early B) = X.filter (fun m => !early B m) :=
  takeWhile_eq_filter (early B) X hs (fun a b _ hab ha => by simp only [early, decide_eq_false_iff_not] at ha ⊢; omega)

theorem dropWhile_early (B : Int) (X : List Msg) (hs : Sorted X) : ∀ x ∈ X.dropWhile (early B), B ≤ x.time := by
  intro x hx
  rw [(early_cut B X hs).2, List.mem_filter] at hx
  simpa [early] using hx.2

theorem mem_takeWhile_early (B : Int) (X : List Msg) (hs : Sorted X) (x : Msg) (hx : x ∈ X) (hlt : x.time < B) :
    x ∈ X.takeWhile (early B) := by
  rw [(early_cut B X hs).1, List.mem_filter]
  exact ⟨hx, by simp [early, hlt]⟩

theorem lastD_const {β} (s : β) : ∀ (l : List β) (p : β), l ≠ [] → (∀ v ∈ l, v = s) → lastD p l = s := by
  intro l
  induction l with
  | nil => intro p h; exact absurd rfl h
  | cons a l ih =>
    intro p _ h
    cases l with
    | nil => simp only [lastD]; exact h a List.mem_cons_self
    | cons b l => simp only [lastD]; exact ih a (by simp) (fun v hv => h v (List.mem_cons_of_mem _ hv))

/-- **where the bar length changes, the signature change survives the removal of repeats** (`p` in force before the first) -/
theorem dedup_announced (c : Cfg) : ∀ (sigs : List (Int × Int)) (A C : Int) (p : Int × Int) (X : List Msg), Sorted X →
    (∀ x ∈ X, SigAt c A sigs x) → (∀ g ∈ grid c A sigs, ∃ x ∈ X, x.time = g.1) →
    (∀ s ∈ sigs, 0 < s.1 ∧ 0 < s.2 ∧ 0 < c.capacity s.1 s.2) →
    (∀ s rest, sigs = s :: rest → p = s → c.capacity s.1 s.2 = C) →
    AnnP c (fun τ => ∃ y ∈ dedupBy tsv p X, y.time = τ) A C sigs := by
  -- Idea: cut `X` at the second bar line.  The part before it is non-empty, stands on line `A` and carries the value `s`
  -- throughout, so removing repeats from `X` is removing them from that part, then from the rest with `s` in force
  -- (`dedupBy_append`).  The first bar is announced unless `p = s` — then its length is the running one by `hp`, which
  -- only the recursive calls need (`p := s`, `C :=` the length of `s`); for the rest apply the induction to the rest of `X`.
  intro sigs
  induction sigs with
  | nil => intro _ _ _ _ _ _ _ _ _; trivial
  | cons s rest ih =>
    intro A C p X hs hsig hlines hpos hp
    have hc := (hpos s List.mem_cons_self).2.2
    have hpos' : ∀ x ∈ rest, 0 < x.1 ∧ 0 < x.2 ∧ 0 < c.capacity x.1 x.2 := fun x hx => hpos x (List.mem_cons_of_mem _ hx)
    have hX1 : ∀ x ∈ X.takeWhile (early (A + c.capacity s.1 s.2)), x.time = A ∧ tsv x = s := by
      intro x hx
      have hxX : x ∈ X := (List.takeWhile_sublist _).subset hx
      have hlt : x.time < A + c.capacity s.1 s.2 := by simpa [early] using List.all_eq_true.1 List.all_takeWhile _ hx
      rcases hsig x hxX with ⟨h1, h2, h3⟩ | h
      · exact ⟨h1, by simp only [tsv]; rw [h2, h3]⟩
      · have := sigAt_ge c rest _ x hpos' h; omega
    obtain ⟨x0, hx0, hx0t⟩ := hlines _ List.mem_cons_self
    have hx0' := mem_takeWhile_early (A + c.capacity s.1 s.2) X hs x0 hx0 (by omega)
    have hX2 : ∀ x ∈ X.dropWhile (early (A + c.capacity s.1 s.2)), x ∈ X ∧ A + c.capacity s.1 s.2 ≤ x.time :=
      fun x hx => ⟨(List.dropWhile_sublist _).subset hx, dropWhile_early _ X hs x hx⟩
    have hsplit := List.takeWhile_append_dropWhile (p := early (A + c.capacity s.1 s.2)) (l := X)
    have hlast : lastD p ((X.takeWhile (early (A + c.capacity s.1 s.2))).map tsv) = s := by
      apply lastD_const
      · intro h
        rw [List.map_eq_nil_iff] at h
        rw [h] at hx0'; simp at hx0'
      · intro v hv
        obtain ⟨x, hx, rfl⟩ := List.mem_map.1 hv
        exact (hX1 x hx).2
    have hded : dedupBy tsv p X = dedupBy tsv p (X.takeWhile (early (A + c.capacity s.1 s.2)))
        ++ dedupBy tsv s (X.dropWhile (early (A + c.capacity s.1 s.2))) := by
      conv => lhs; rw [← hsplit]
      rw [dedupBy_append, hlast]
    refine ⟨?_, ?_⟩
    · by_cases hps : p = s
      · exact Or.inl (hp s rest rfl hps)
      · right
        cases hT : X.takeWhile (early (A + c.capacity s.1 s.2)) with
        | nil => rw [hT] at hx0'; simp at hx0'
        | cons x1 X1' =>
          have h1 := hX1 x1 (by rw [hT]; exact List.mem_cons_self)
          refine ⟨x1, ?_, h1.1⟩
          rw [hded, hT]
          apply List.mem_append_left
          simp only [dedupBy]
          rw [if_neg (by rw [h1.2]; exact hps)]
          exact List.mem_cons_self
    · have hI := ih (A + c.capacity s.1 s.2) (c.capacity s.1 s.2) s (X.dropWhile (early (A + c.capacity s.1 s.2)))
        (hs.sublist (List.dropWhile_sublist _))
        (by
          intro x hx
          obtain ⟨hxX, hge⟩ := hX2 x hx
          rcases hsig x hxX with ⟨h1, _⟩ | h
          · omega
          · exact h)
        (by
          intro g hg
          obtain ⟨x, hx, hxt⟩ := hlines g (List.mem_cons_of_mem _ hg)
          refine ⟨x, ?_, hxt⟩
          rw [← hsplit] at hx
          rcases List.mem_append.1 hx with h | h
          · have := (hX1 x h).1
            have := (grid_lt c rest _ hpos').1 g hg
            omega
          · exact h)
        hpos'
        (by
          intro s' rest' _ hss
          rw [hss])
      refine annP_mono c _ _ rest _ _ hpos' ?_ hI
      rintro τ _ ⟨y, hy, rfl⟩
      exact ⟨y, by rw [hded]; exact List.mem_append_right _ hy, rfl⟩

def runTracks (segs : List (List (List Msg))) : List (List Msg) := segs.map List.flatten

section run
variable {c : Cfg} {sigs : List (Int × Int)} {segs : List (List (List Msg))}

theorem runTracks_get (h : RunAll c sigs segs) (i : Nat) (r : List Msg) (hr : (runTracks segs)[i]? = some r) :
    ∃ t, segs[i]? = some t ∧ r = t.flatten ∧ Run c i sigs t := by
  simp only [runTracks, List.getElem?_map, Option.map_eq_some_iff] at hr
  obtain ⟨t, ht, rfl⟩ := hr
  exact ⟨t, ht, rfl, h i t ht⟩

theorem runTracks_mem (h : RunAll c sigs segs) (r : List Msg) (hr : r ∈ runTracks segs) :
    ∃ i t, segs[i]? = some t ∧ r = t.flatten ∧ Run c i sigs t := by
  obtain ⟨i, hi⟩ := List.getElem?_of_mem hr
  obtain ⟨t, h1, h2, h3⟩ := runTracks_get h i r hi
  exact ⟨i, t, h1, h2, h3⟩

theorem run_trackGood (h : RunAll c sigs segs) : ∀ i r, (runTracks segs)[i]? = some r → TrackGood i r := by
  intro i r hr
  obtain ⟨t, _, rfl, hrun⟩ := runTracks_get h i r hr
  exact run_good c i sigs t hrun

theorem run_track_sig (h : RunOk c sigs segs) (i : Nat) (r : List Msg) (hr : (runTracks segs)[i]? = some r)
    (m : Msg) (hm : m ∈ trackEvents i r) (hty : m.ty = .timeSignature) : SigAt c 0 sigs m := by
  obtain ⟨t, _, rfl, hrun⟩ := runTracks_get h.segs i r hr
  simp only [trackEvents, List.mem_map] at hm
  obtain ⟨e, he, rfl⟩ := hm
  have hts : isTs e = true := by simpa [isTs] using hty
  have := run_ts_events c i sigs t hrun 0 e (List.mem_filter.2 ⟨he, hts⟩)
  exact (sigAt_iff c _ sigs 0).2 ((sigAt_iff c e sigs 0).1 this)

theorem run_pieceSigs (h : RunOk c sigs segs) : ∀ x ∈ pieceSigs (runTracks segs), SigAt c 0 sigs x := by
  intro x hx
  simp only [pieceSigs] at hx
  rw [mem_sortAbs, List.mem_flatMap] at hx
  obtain ⟨⟨r, i⟩, hri, hx⟩ := hx
  have hr := mem_zipIdx_get hri
  obtain ⟨hx1, hx2⟩ := List.mem_filter.1 hx
  exact run_track_sig h i r hr x hx1 (by simpa [isTs] using hx2)

theorem run_sigsStrict (h : RunOk c sigs segs) : SigsStrict (runTracks segs) := by
  intro r hr
  obtain ⟨i, t, _, rfl, hrun⟩ := runTracks_mem h.segs r hr
  exact run_strict c i sigs t hrun h.pos 0

theorem run_sigsAgree (h : RunOk c sigs segs) : SigsAgree (runTracks segs) := by
  apply List.pairwise_of_forall_mem_list
  intro a ha b hb hab
  exact sigAt_fun c a b sigs 0 h.pos (run_pieceSigs h a ha) (run_pieceSigs h b hb) hab

theorem run_pieceSigs_lines (h : RunOk c sigs segs) :
    ∀ g ∈ grid c 0 sigs, ∃ x ∈ pieceSigs (runTracks segs), x.time = g.1 := by
  intro g hg
  have h0 : 0 < segs.length := h.tr
  have ht0 : segs[0]? = some segs[0] := List.getElem?_eq_getElem h0
  obtain ⟨e, he, het⟩ := run_grid_lines c 0 sigs _ (h.segs 0 _ ht0) 0 g hg
  refine ⟨{ e with ch := ((0 : Nat) : Int) }, ?_, het⟩
  simp only [pieceSigs]
  rw [mem_sortAbs, List.mem_flatMap]
  refine ⟨((segs[0]).flatten, 0), List.mem_zipIdx_iff_getElem?.2 (by simp [runTracks, ht0]), ?_⟩
  rw [trackEvents_ts]
  exact List.mem_map.2 ⟨e, he, rfl⟩

theorem run_announced (h : RunOk c sigs segs) (C : Int) :
    Announced c (extract c.ppqn (runTracks segs)) 0 C sigs := by
  have hts := extract_ts c.ppqn (runTracks segs) (good_okRel (run_trackGood h.segs)) (run_sigsStrict h) (run_sigsAgree h)
  have hA := dedup_announced c sigs 0 C (pyNone, pyNone) (pieceSigs (runTracks segs)) (sortAbs_pairwise _)
    (run_pieceSigs h) (run_pieceSigs_lines h) h.pos
    (by
      intro s rest hs hp
      have := (h.pos s (by rw [hs]; exact List.mem_cons_self)).1
      rw [← hp] at this
      exact absurd this (by decide))
  refine annP_mono c _ _ sigs 0 C h.pos ?_ hA
  rintro τ _ ⟨y, hy, rfl⟩
  have hy' : y ∈ (extract c.ppqn (runTracks segs)).filterMap tsOf := by rw [hts]; exact hy
  obtain ⟨ev, hev, htso⟩ := List.mem_filterMap.1 hy'
  exact ⟨ev, hev, y, (tsOf_head htso).1, (tsOf_head htso).2, rfl⟩

theorem run_goodAt (h : RunOk c sigs segs) (C : Int) :
    GoodAt c 0 C sigs (extract c.ppqn (runTracks segs)) := by
  have hg := run_trackGood h.segs
  have htot := total_nonneg c sigs h.pos
  have hlen : (runTracks segs).length = c.numTracks := by simp [runTracks, h.ntr]
  have hdur : ∀ r ∈ runTracks segs, totalWait r = total c sigs := by
    intro r hr
    obtain ⟨i, t, _, rfl, hrun⟩ := runTracks_mem h.segs r hr
    exact run_dur c i sigs t hrun
  have htime : ∀ ev ∈ extract c.ppqn (runTracks segs), ∀ m ∈ ev.2.head?, m.time ≤ total c sigs := by
    intro ev hev m hm
    have hle := final_time_le _ (good_okRel hg) m (Glue.extract_head_mem c.ppqn _ ev hev m hm)
    rcases pieceEnd_mem (runTracks segs) with h0 | ⟨r, hr, he⟩
    · omega
    · rwa [he, durRel, hdur r hr] at hle
  refine ⟨h.pos, ExtractL.extract_nonempty c.ppqn _ (good_okRel hg), ?_, ?_, Glue.extract_ordered c.ppqn _, ?_, ?_,
    run_announced h C⟩
  · intro ev hev m hm
    have := Glue.extract_channels c.ppqn _ ev hev m hm
    rw [hlen] at this
    exact this
  · intro ev hev m hm
    have h1 := Glue.extract_nonneg c.ppqn _ ev hev m hm
    have h2 := htime ev hev m hm
    omega
  · intro ev hev m hm hty
    obtain ⟨i, r, hi, hme⟩ := extract_head_ts c.ppqn _ hg ev hev m hm hty
    exact run_track_sig h i r hi m hme hty
  · intro ev hev m hm hty
    -- a note event of `extract` is the event of a pair of the piece: its onset lies before the pair's end, inside its track
    obtain ⟨off, _, hpp⟩ := extract_head_on c.ppqn _ hg ev hev m hm hty
    obtain ⟨i, r, hr, hb⟩ := piecePairs_bounds _ hg (m, off) hpp
    rw [hdur r (List.mem_of_getElem? hr)] at hb
    simp only at hb
    omega

end run

theorem flatMap_zipIdx_map {α β γ} (f : α → β) (G : β × Nat → List γ) (l : List α) (n : Nat) :
    ((l.map f).zipIdx n).flatMap G = (l.zipIdx n).flatMap (fun x => G (f x.1, x.2)) := by
  rw [List.zipIdx_map, List.flatMap_map]
  rfl

theorem flatMap_perm_mem {α β} {l : List α} {f g : α → List β} (h : ∀ x ∈ l, (f x).Perm (g x)) :
    (l.flatMap f).Perm (l.flatMap g) := by
  induction l with
  | nil => exact .refl _
  | cons a l ih =>
    rw [List.flatMap_cons, List.flatMap_cons]
    exact (h a List.mem_cons_self).append (ih fun x hx => h x (List.mem_cons_of_mem _ hx))

theorem flatMap_append_perm {α β} (f g : α → List β) : ∀ (l : List α),
    (l.flatMap (fun x => f x ++ g x)).Perm (l.flatMap f ++ l.flatMap g) := by
  intro l
  induction l with
  | nil => exact List.Perm.refl _
  | cons a l ih =>
    simp only [List.flatMap_cons, List.append_assoc]
    refine List.Perm.append_left _ ?_
    refine (List.Perm.append_left _ ih).trans ?_
    rw [← List.append_assoc, ← List.append_assoc]
    exact List.Perm.append_right _ List.perm_append_comm

theorem runAll_tail {c : Cfg} {g : Int × Int} {rest : List (Int × Int)} {segs : List (List (List Msg))}
    (h : RunAll c (g :: rest) segs) : RunAll c rest (segs.map List.tail) := by
  intro i t ht
  simp only [List.getElem?_map, Option.map_eq_some_iff] at ht
  obtain ⟨t0, ht0, rfl⟩ := ht
  cases h i t0 ht0 with
  | cons _ h2 => exact h2

theorem runAll_head {c : Cfg} {g : Int × Int} {rest : List (Int × Int)} {segs : List (List (List Msg))}
    (h : RunAll c (g :: rest) segs) : ∀ i s, (segs.map (fun t => t.headD []))[i]? = some s → SegOk c i g s := by
  intro i s hs
  simp only [List.getElem?_map, Option.map_eq_some_iff] at hs
  obtain ⟨t0, ht0, rfl⟩ := hs
  cases h i t0 ht0 with
  | cons h1 _ => exact h1

/-- the notes of the run's tracks: those of the first bars, then those of the remaining bars one bar length later -/
theorem piecePairs_run (c : Cfg) (g : Int × Int) (rest : List (Int × Int)) (segs : List (List (List Msg)))
    (h : RunAll c (g :: rest) segs) :
    (piecePairs (runTracks segs)).Perm
      (piecePairs (segs.map (fun t => t.headD [])) ++ (piecePairs (runTracks (segs.map List.tail))).map (shP (c.capacity g.1 g.2))) := by
  have e1 : piecePairs (runTracks segs) = segs.zipIdx.flatMap (fun x => trackPairs x.2 x.1.flatten) := by
    simp only [piecePairs, runTracks]
    exact flatMap_zipIdx_map _ _ segs 0
  have e2 : piecePairs (segs.map (fun t => t.headD [])) = segs.zipIdx.flatMap (fun x => trackPairs x.2 (x.1.headD [])) := by
    simp only [piecePairs]
    exact flatMap_zipIdx_map _ _ segs 0
  have e3 : (piecePairs (runTracks (segs.map List.tail))).map (shP (c.capacity g.1 g.2))
      = segs.zipIdx.flatMap (fun x => (trackPairs x.2 x.1.tail.flatten).map (shP (c.capacity g.1 g.2))) := by
    simp only [piecePairs, runTracks, List.map_map]
    rw [flatMap_zipIdx_map (List.flatten ∘ List.tail) _ segs 0, List.map_flatMap]
    rfl
  rw [e1, e2, e3]
  refine (flatMap_perm_mem (fun x hx => ?_)).trans (flatMap_append_perm _ _ _)
  obtain ⟨t, i⟩ := x
  cases h i t (mem_zipIdx_get hx) with
  | @cons _ s _ t' h1 h2 =>
    simp only [List.flatten_cons, List.headD_cons, List.tail_cons]
    rw [← h1.dur]
    exact trackPairs_append i s t'.flatten h1.good.wf (run_good c i _ t' h2).wf

theorem piecePairs_nil (c : Cfg) (segs : List (List (List Msg))) (h : RunAll c [] segs) : piecePairs (runTracks segs) = [] := by
  simp only [piecePairs, runTracks]
  rw [flatMap_zipIdx_map, List.flatMap_eq_nil_iff]
  intro x hx
  obtain ⟨t, i⟩ := x
  have hr := h i t (mem_zipIdx_get hx)
  cases hr with
  | nil => rfl

theorem before_shift_evOf {A : Int} {Y : List (Msg × Msg)} {ev : Int × Pairing} (h : ev ∈ shiftEvs A (Y.map evOf)) (B : Int) :
    ∃ p ∈ Y, before B ev = decide (p.1.time + A < B) := by
  obtain ⟨_, hev0, rfl⟩ := mem_shiftEvs.1 h
  obtain ⟨p, hp, rfl⟩ := List.mem_map.1 hev0
  exact ⟨p, hp, rfl⟩

theorem head_before (c : Cfg) (A : Int) (g : Int × Int) (segs : List (List (List Msg)))
    (hh : ∀ i s, (segs.map (fun t => t.headD []))[i]? = some s → SegOk c i g s) :
    ∀ ev ∈ shiftEvs A ((piecePairs (segs.map (fun t => t.headD []))).map evOf), before (A + c.capacity g.1 g.2) ev = true := by
  intro ev hev
  obtain ⟨p, hp, e⟩ := before_shift_evOf hev (A + c.capacity g.1 g.2)
  obtain ⟨i, s, hs, hb⟩ := piecePairs_bounds _ (fun i s h => (hh i s h).good) p hp
  rw [(hh i s hs).dur] at hb
  rw [e, decide_eq_true_eq]
  omega

theorem tail_not_before (A : Int) (tracks : List (List Msg)) (hg : ∀ i r, tracks[i]? = some r → TrackGood i r) :
    ∀ ev ∈ shiftEvs A ((piecePairs tracks).map evOf), before A ev = false := by
  intro ev hev
  obtain ⟨p, hp, e⟩ := before_shift_evOf hev A
  obtain ⟨_, _, _, hb⟩ := piecePairs_bounds _ hg p hp
  rw [e, decide_eq_false_iff_not]
  omega

theorem shift_back {A : Int} {X Y : List (Int × Pairing)} (h : X.Perm (shiftEvs A Y)) : (shiftEvs (-A) X).Perm Y := by
  have := shiftEvs_perm (-A) h
  rwa [shiftEvs_shiftEvs, (by omega : A + -A = 0), shiftEvs_zero] at this

/-- the one-bar runs of a run: bar `j` with what `extract` makes of the `j`-th bar sequences alone -/
def onesOf (c : Cfg) : List (Int × Int) → List (List (List Msg)) → List BarEv
  | [], _ => []
  | g :: rest, segs =>
    { num := g.1, den := g.2, evs := extract c.ppqn (segs.map (fun t => t.headD [])) } :: onesOf c rest (segs.map List.tail)

theorem onesOf_length (c : Cfg) : ∀ (sigs : List (Int × Int)) (segs : List (List (List Msg))),
    (onesOf c sigs segs).length = sigs.length := by
  intro sigs
  induction sigs with
  | nil => intro _; rfl
  | cons g rest ih => intro segs; simp only [onesOf, List.length_cons, ih]

theorem onesOf_get (c : Cfg) : ∀ (sigs : List (Int × Int)) (segs : List (List (List Msg))) (i : Nat) (b : BarEv),
    (onesOf c sigs segs)[i]? = some b → b.evs = extract c.ppqn (segs.map (fun t => (t.drop i).headD [])) := by
  intro sigs
  induction sigs with
  | nil => intro segs i b h; simp [onesOf] at h
  | cons g rest ih =>
    intro segs i b h
    cases i with
    | zero =>
      simp only [onesOf, List.getElem?_cons_zero, Option.some.injEq] at h
      rw [← h]
      simp
    | succ i =>
      simp only [onesOf, List.getElem?_cons_succ] at h
      rw [ih _ i b h, List.map_map]
      congr 1
      apply List.map_congr_left
      intro t _
      cases t <;> simp

/-- **the cut of a run has, bar by bar, the same note events (up to order) as the one-bar runs** -/
theorem cut_sameNotes (c : Cfg) : ∀ (sigs : List (Int × Int)) (A : Int) (segs : List (List (List Msg))) (evs : List (Int × Pairing)),
    RunAll c sigs segs → evs.Pairwise HeadLe → (∀ ev ∈ evs, ev.2 ≠ []) →
    (evs.filter isNoteEv).Perm (shiftEvs A ((piecePairs (runTracks segs)).map evOf)) →
    SameNotes c (cutAt c A sigs evs) (onesOf c sigs segs) := by
  intro sigs
  induction sigs with
  | nil => intro _ _ _ _ _ _ _; trivial
  | cons g rest ih =>
    intro A segs evs hrun hord hne hperm
    have hh := runAll_head hrun
    have htl := runAll_tail hrun
    have hg : ∀ i r, (segs.map (fun t => t.headD []))[i]? = some r → TrackGood i r := fun i r h => (hh i r h).good
    have hx := extract_pairs_perm c.ppqn _ hg
    have hsplit : (evs.filter isNoteEv).Perm
        (shiftEvs A ((piecePairs (segs.map (fun t => t.headD []))).map evOf)
          ++ shiftEvs (A + c.capacity g.1 g.2) ((piecePairs (runTracks (segs.map List.tail))).map evOf)) := by
      refine hperm.trans ?_
      refine (shiftEvs_perm A ((piecePairs_run c g rest segs hrun).map evOf)).trans ?_
      rw [List.map_append, evOf_shP, shiftEvs_append, shiftEvs_shiftEvs, Int.add_comm (c.capacity g.1 g.2) A]
    rw [onesOf]
    -- with `extract …` left in place, unifying it with `BarEv.evs ⟨_, _, extract …⟩` unfolds `extract` first
    generalize extract c.ppqn _ = E at hx
    cases rest with
    | nil =>
      have h0 : piecePairs (runTracks (segs.map List.tail)) = [] := piecePairs_nil c _ htl
      rw [h0] at hsplit
      simp only [List.map_nil, shiftEvs_nil, List.append_nil] at hsplit
      refine ⟨rfl, ?_, trivial⟩
      show ((shiftEvs (-A) evs).filter isNoteEv).Perm _
      rw [noteEv_shift]
      exact (shift_back hsplit).trans hx.symm
    | cons g2 rest' =>
      obtain ⟨tw, dw⟩ := takeWhile_before_eq (A + c.capacity g.1 g.2) evs hord hne
      have hB1 := head_before c A g segs hh
      have hB2 := tail_not_before (A + c.capacity g.1 g.2) (runTracks (segs.map List.tail)) (run_trackGood htl)
      refine ⟨rfl, ?_, ?_⟩
      · show ((shiftEvs (-A) (evs.takeWhile (before (A + c.capacity g.1 g.2)))).filter isNoteEv).Perm _
        rw [noteEv_shift, tw, filter_comm']
        refine (shift_back ((hsplit.filter _).trans ?_)).trans hx.symm
        rw [List.filter_append, List.filter_eq_self.2 hB1, List.filter_eq_nil_iff.2 (fun x hx => by simp [hB2 x hx]),
          List.append_nil]
      · apply ih (A + c.capacity g.1 g.2) (segs.map List.tail) _ htl (hord.sublist (List.dropWhile_sublist _))
          (fun ev hev => hne ev ((List.dropWhile_sublist _).subset hev))
        rw [dw, filter_comm']
        refine (hsplit.filter _).trans ?_
        rw [List.filter_append, List.filter_eq_nil_iff.2 (fun x hx => by simp [hB1 x hx]),
          List.filter_eq_self.2 (fun x hx => by simp [hB2 x hx]), List.nil_append]

/-- **what the glue knows of a run of bars**, in one statement -/
theorem run_full {c : Cfg} {sigs : List (Int × Int)} {segs : List (List (List Msg))}
    (h : RunOk c sigs segs) (C : Int) :
    extract c.ppqn (runTracks segs) = layBars c (cutAt c 0 sigs (extract c.ppqn (runTracks segs)))
      ∧ BarsOk c C (cutAt c 0 sigs (extract c.ppqn (runTracks segs)))
      ∧ (cutAt c 0 sigs (extract c.ppqn (runTracks segs))).map (fun b => (b.num, b.den)) = sigs
      ∧ SameNotes c (cutAt c 0 sigs (extract c.ppqn (runTracks segs))) (onesOf c sigs segs) := by
  have hgA := run_goodAt h C
  refine ⟨?_, cutAt_barsOk c sigs 0 C _ hgA, cutAt_sigs c sigs 0 _,
    cut_sameNotes c sigs 0 segs _ h.segs hgA.ordered hgA.nonempty ?_⟩
  · rw [layBars_cutAt c sigs 0 _ h.bars]
    simp [shiftEvs_zero]
  · rw [shiftEvs_zero]
    exact extract_pairs_perm c.ppqn (runTracks segs) (run_trackGood h.segs)

end SCoda.GlueL
