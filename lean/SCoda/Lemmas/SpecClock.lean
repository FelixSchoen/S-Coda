/-
  The specification of a call, independent of tokens and step sizes: a clock that is advanced by a number of ticks
  and lists the bar ends it passes (`advance`), and the log of what a piece *is*: its notes (track, pitch, onset,
  end, binned velocity) in event order, interleaved with the bar ends (`specLog`).  The fuel of `advance` is dealt with
  once (`adv_split_close`, `adv_split_in`); after that a sane clock is reasoned about by `adv_ind`.  The specification has
  two moves: `upTo` (the clock goes to a tick, the bar ends passed are logged) and `specTail` (what the event does there);
  an event is the one after the other (`specEvent_cons`), closing the last bar is the first (`closeBar_fire`).
-/
import SCoda.Lemmas.InBar
import SCoda.Lemmas.Tokenise
namespace SCoda.C01
open SCoda SCoda.InBar

structure Clock where
  cur : Int
  bar : Int
  capTotal : Int
  capRem : Int
  deriving DecidableEq, Repr

/-- advance the clock by `rest` ticks; returns the new clock and the bar ends passed (a bar that is
    filled exactly is closed at once).  `fuel` bounds the number of bars. -/
def advance : Nat → Int → Clock → Clock × List Int
  | 0, _, k => (k, [])
  | fuel + 1, rest, k =>
    if rest ≤ 0 then (k, [])
    else if rest < k.capRem then ({ k with cur := k.cur + rest, bar := k.bar + rest, capRem := k.capRem - rest }, [])
    else
      let e := k.cur + k.capRem
      let r := advance fuel (rest - k.capRem) { k with cur := e, bar := 0, capRem := k.capTotal }
      (r.1, e :: r.2)

def clockOf (st : TokSt) (capTotal : Int) : Clock :=
  { cur := st.curTime, bar := st.curTimeBar, capTotal := capTotal, capRem := st.capRem }

/-- the piece as a log: for every event, the bar ends passed while reaching its onset, then (for a
    note) the note itself with its binned velocity; a time signature on a bar line re-sizes the bars.
    `shift` is the carried `cur_time` of a stateful call.
    It is written in one piece because the statements of the properties contain it; the proofs read it as two moves
    (`specEvent_cons`). -/
def specEvent (c : Cfg) (shift : Int) (kl : Clock × List Emit) (ev : Int × Pairing) : Clock × List Emit :=
  match ev.2 with
  | [] => kl
  | m :: restP =>
    let target := m.time + shift
    let (k, ends) := advance ((target - kl.1.cur).toNat + 1) (target - kl.1.cur) kl.1
    let log := kl.2 ++ ends.map Emit.barEnd
    match m.ty with
    | .noteOn =>
      match restP with
      | off :: _ =>
        (k, log ++ [Emit.note m.ch m.note ((c.bins[binIndex c.bins m.vel]?).getD 0) k.cur (k.cur + (off.time - m.time))])
      | [] => (k, log)
    | .timeSignature =>
      if k.bar > 0 then (k, log)
      else ({ k with capTotal := c.capacity m.num m.den, capRem := c.capacity m.num m.den }, log)
    | _ => (k, log)

/-- the whole call: all events, then the bar in progress (if any) is closed -/
def specLog (c : Cfg) (st : TokSt) (evs : List (Int × Pairing)) : Clock × List Emit :=
  let kl := evs.foldl (specEvent c st.curTime) (clockOf st (c.capacity st.tsNum st.tsDen), [])
  if kl.1.bar > 0 ∧ kl.1.capRem > 0 then
    let (k, ends) := advance (kl.1.capRem.toNat + 1) kl.1.capRem kl.1
    (k, kl.2 ++ ends.map Emit.barEnd)
  else kl

/-- `advance` with the fuel the specification gives it -/
def adv (r : Int) (k : Clock) : Clock × List Int := advance (r.toNat + 1) r k

theorem advance_nonpos (f : Nat) (rest : Int) (k : Clock) (h : rest ≤ 0) : advance f rest k = (k, []) := by
  cases f with
  | zero => rfl
  | succ f => simp only [advance]; rw [if_pos h]

theorem advance_keeps_sum (f : Nat) (rest : Int) (k : Clock) (hf : k.bar + k.capRem = k.capTotal) :
    (advance f rest k).1.bar + (advance f rest k).1.capRem = (advance f rest k).1.capTotal := by
  induction f generalizing rest k with
  | zero => exact hf
  | succ f ih =>
    simp only [advance]
    split
    · exact hf
    · split
      · simp only; omega
      · exact ih _ _ (by simp)

theorem advance_fuel (f1 f2 : Nat) (rest : Int) (k : Clock)
    (hp : 0 < rest → 0 < k.capRem ∧ 0 < k.capTotal) (h1 : rest.toNat ≤ f1) (h2 : rest.toNat ≤ f2) :
    advance f1 rest k = advance f2 rest k := by
  induction f1 generalizing f2 rest k with
  | zero => rw [advance_nonpos _ _ _ (by omega), advance_nonpos _ _ _ (by omega)]
  | succ f1 ih =>
    by_cases hr : rest ≤ 0
    · rw [advance_nonpos _ _ _ hr, advance_nonpos _ _ _ hr]
    · cases f2 with
      | zero => omega
      | succ f2 =>
        have hp' := hp (by omega)
        simp only [advance]
        rw [if_neg hr, if_neg hr]
        split
        · rfl
        · rw [ih f2 (rest - k.capRem) { k with cur := k.cur + k.capRem, bar := 0, capRem := k.capTotal }
            (fun _ => ⟨hp'.2, hp'.2⟩) (by omega) (by omega)]

theorem adv_split_close (rest : Int) (k : Clock) (v : Int) (hv : 0 < v) (hvr : v ≤ rest) (hvc : v = k.capRem)
    (hp : k.capRem < rest → 0 < k.capTotal) :
    adv rest k =
      ((adv (rest - v) { k with cur := k.cur + v, bar := 0, capRem := k.capTotal }).1,
       (k.cur + v) :: (adv (rest - v) { k with cur := k.cur + v, bar := 0, capRem := k.capTotal }).2) := by
  subst hvc
  unfold adv
  simp only [advance]
  rw [if_neg (by omega), if_neg (by omega)]
  rw [advance_fuel rest.toNat ((rest - k.capRem).toNat + 1) (rest - k.capRem)
    { k with cur := k.cur + k.capRem, bar := 0, capRem := k.capTotal } (fun h => ⟨hp (by omega), hp (by omega)⟩)
    (by omega) (by omega)]
  simp only [advance]

theorem adv_split_in (rest : Int) (k : Clock) (v : Int) (hv : 0 < v) (hvr : v ≤ rest) (hvc : v < k.capRem)
    (hp : k.capRem < rest → 0 < k.capTotal) :
    adv rest k = adv (rest - v) { k with cur := k.cur + v, bar := k.bar + v, capRem := k.capRem - v } := by
  unfold adv
  simp only [advance]
  rw [if_neg (by omega)]
  by_cases h1 : rest < k.capRem
  · rw [if_pos h1]
    by_cases h2 : rest - v ≤ 0
    · rw [if_pos h2]
      have : rest = v := by omega
      subst this; rfl
    · rw [if_neg h2, if_pos (by omega)]
      simp only [Prod.mk.injEq, Clock.mk.injEq, and_true]
      refine ⟨by omega, by omega, trivial, by omega⟩
  · have h2 : ¬ rest - v ≤ 0 := by omega
    have h3 : ¬ rest - v < k.capRem - v := by omega
    rw [if_neg h1, if_neg h2, if_neg h3]
    have e1 : k.cur + v + (k.capRem - v) = k.cur + k.capRem := by omega
    have e2 : rest - v - (k.capRem - v) = rest - k.capRem := by omega
    simp only [e1, e2]
    rw [advance_fuel rest.toNat (rest - v).toNat (rest - k.capRem)
      { k with cur := k.cur + k.capRem, bar := 0, capRem := k.capTotal } (fun h => ⟨hp (by omega), hp (by omega)⟩)
      (by omega) (by omega)]

theorem adv_stay {r : Int} (k : Clock) (h : r ≤ 0) : adv r k = (k, []) := advance_nonpos _ _ _ h

theorem adv_zero (k : Clock) : adv 0 k = (k, []) := adv_stay k (Int.le_refl 0)

theorem adv_in (r : Int) (k : Clock) (h0 : 0 < r) (h1 : r < k.capRem) :
    adv r k = ({ k with cur := k.cur + r, bar := k.bar + r, capRem := k.capRem - r }, []) := by
  unfold adv
  simp only [advance]
  rw [if_neg (by omega), if_pos h1]

theorem adv_full (k : Clock) (h : 0 < k.capRem) :
    adv k.capRem k = ({ k with cur := k.cur + k.capRem, bar := 0, capRem := k.capTotal }, [k.cur + k.capRem]) := by
  unfold adv
  simp only [advance]
  rw [if_neg (by omega), if_neg (by omega), advance_nonpos _ _ _ (by omega)]

/-- the part of `specEvent` after the clock has been advanced -/
def specTail (c : Cfg) (m : Msg) (restP : List Msg) (k : Clock) : Clock × List Emit :=
  (if m.ty = .timeSignature ∧ ¬ k.bar > 0 then { k with capTotal := c.capacity m.num m.den, capRem := c.capacity m.num m.den }
   else k,
   match restP with
   | off :: _ =>
     if m.ty = .noteOn then
       [Emit.note m.ch m.note ((c.bins[binIndex c.bins m.vel]?).getD 0) k.cur (k.cur + (off.time - m.time))]
     else []
   | [] => [])

/-- the first of the two moves of the specification: the clock is moved to the tick `T` and the bar ends it passes are
    logged (the second is `specTail`; `specEvent_cons`) -/
def upTo (T : Int) (kl : Clock × List Emit) : Clock × List Emit :=
  ((adv (T - kl.1.cur) kl.1).1, kl.2 ++ (adv (T - kl.1.cur) kl.1).2.map Emit.barEnd)

theorem upTo_eq_iff {T : Int} {k A : Clock} {L B : List Emit} :
    upTo T (k, L) = (A, B) ↔ (adv (T - k.cur) k).1 = A ∧ L ++ (adv (T - k.cur) k).2.map Emit.barEnd = B := by
  unfold upTo
  rw [Prod.mk.injEq]

theorem upTo_of_adv {r : Int} {k k' : Clock} {ends : List Int} (h : adv r k = (k', ends)) (L : List Emit) :
    upTo (k.cur + r) (k, L) = (k', L ++ ends.map Emit.barEnd) := by
  unfold upTo
  rw [show k.cur + r - (k, L).1.cur = r by show k.cur + r - k.cur = r; omega, h]

theorem upTo_congr_log {T : Int} {k A : Clock} {L L' B : List Emit} (h : upTo T (k, L) = (A, L ++ B)) :
    upTo T (k, L') = (A, L' ++ B) := by
  obtain ⟨h1, h2⟩ := upTo_eq_iff.1 h
  exact upTo_eq_iff.2 ⟨h1, by rw [List.append_cancel_left h2]⟩

theorem specEvent_cons (c : Cfg) (shift : Int) (kl : Clock × List Emit) (e1 : Int) (m : Msg) (restP : List Msg) :
    specEvent c shift kl (e1, m :: restP) =
      ((specTail c m restP (upTo (m.time + shift) kl).1).1,
        (upTo (m.time + shift) kl).2 ++ (specTail c m restP (upTo (m.time + shift) kl).1).2) := by
  unfold specEvent specTail upTo adv
  simp only
  generalize advance ((m.time + shift - kl.1.cur).toNat + 1) (m.time + shift - kl.1.cur) kl.1 = r
  generalize m.ty = ty
  cases ty <;> cases restP <;> simp
  all_goals (split <;> simp [*])
  all_goals (intro h; omega)

theorem specTail_clock (c : Cfg) (m : Msg) (restP : List Msg) (k : Clock) :
    (specTail c m restP k).1 =
      if m.ty = .timeSignature ∧ ¬ k.bar > 0 then { k with capTotal := c.capacity m.num m.den, capRem := c.capacity m.num m.den }
      else k := rfl

theorem specTail_emits (c : Cfg) (m : Msg) (restP : List Msg) (k : Clock) :
    (specTail c m restP k).2 = match restP with
      | off :: _ =>
        if m.ty = .noteOn then
          [Emit.note m.ch m.note ((c.bins[binIndex c.bins m.vel]?).getD 0) k.cur (k.cur + (off.time - m.time))]
        else []
      | [] => [] := rfl

theorem specTail_silent {c : Cfg} {m : Msg} {restP : List Msg} {k : Clock} (h : m.ty ≠ .noteOn) :
    (specTail c m restP k).2 = [] := by
  rw [specTail_emits]
  cases restP with
  | nil => rfl
  | cons off r => exact if_neg h

/-- the final step of `specLog`: close the bar in progress -/
def closeBar (kl : Clock × List Emit) : Clock × List Emit :=
  if kl.1.bar > 0 ∧ kl.1.capRem > 0 then
    ((advance (kl.1.capRem.toNat + 1) kl.1.capRem kl.1).1,
      kl.2 ++ (advance (kl.1.capRem.toNat + 1) kl.1.capRem kl.1).2.map Emit.barEnd)
  else kl

theorem specLog_eq (c : Cfg) (st : TokSt) (evs : List (Int × Pairing)) :
    specLog c st evs = closeBar (evs.foldl (specEvent c st.curTime) (clockOf st (c.capacity st.tsNum st.tsDen), [])) := by
  unfold specLog closeBar
  simp only

theorem upTo_full (kl : Clock × List Emit) (h : 0 < kl.1.capRem) :
    upTo (kl.1.cur + kl.1.capRem) kl = ({ kl.1 with cur := kl.1.cur + kl.1.capRem, bar := 0, capRem := kl.1.capTotal },
      kl.2 ++ [Emit.barEnd (kl.1.cur + kl.1.capRem)]) := by
  unfold upTo
  rw [show kl.1.cur + kl.1.capRem - kl.1.cur = kl.1.capRem by omega, adv_full kl.1 h]
  rfl

theorem closeBar_fire (kl : Clock × List Emit) (h1 : kl.1.bar > 0) (h2 : kl.1.capRem > 0) :
    closeBar kl = upTo (kl.1.cur + kl.1.capRem) kl := by
  unfold closeBar upTo
  rw [if_pos ⟨h1, h2⟩, show kl.1.cur + kl.1.capRem - kl.1.cur = kl.1.capRem by omega]
  rfl

theorem closeBar_idle (kl : Clock × List Emit) (h : ¬ (kl.1.bar > 0 ∧ kl.1.capRem > 0)) : closeBar kl = kl :=
  if_neg h

theorem closeBar_clock (kl : Clock × List Emit) (h : 0 < kl.1.capRem) :
    (closeBar kl).1.cur = if kl.1.bar > 0 then kl.1.cur + kl.1.capRem else kl.1.cur := by
  by_cases hf : kl.1.bar > 0
  · rw [closeBar_fire kl hf h, upTo_full kl h, if_pos hf]
  · rw [closeBar_idle kl (fun h => hf h.1), if_neg hf]

theorem specTail_shift (c : Cfg) (s : Int) (m : Msg) (restP : List Msg) (k : Clock) :
    specTail c { m with time := m.time + s } (restP.map (fun m => { m with time := m.time + s })) k
      = specTail c m restP k := by
  unfold specTail
  cases restP with
  | nil => rfl
  | cons off r =>
    have : off.time + s - (m.time + s) = off.time - m.time := by omega
    simp only [List.map_cons, this]

theorem specEvent_shift (c : Cfg) (sh s : Int) (kl : Clock × List Emit) (ev : Int × Pairing) :
    specEvent c sh kl (ev.1, ev.2.map (fun m => { m with time := m.time + s })) = specEvent c (sh + s) kl ev := by
  obtain ⟨e1, e2⟩ := ev
  cases e2 with
  | nil => simp [specEvent]
  | cons m restP =>
    simp only [List.map_cons]
    rw [specEvent_cons, specEvent_cons, specTail_shift]
    have : m.time + s + sh = m.time + (sh + s) := by omega
    simp only [this]

theorem fold_shift (c : Cfg) (sh s : Int) (evs : List (Int × Pairing)) (kl : Clock × List Emit) :
    (shiftEvs s evs).foldl (specEvent c sh) kl = evs.foldl (specEvent c (sh + s)) kl := by
  induction evs generalizing kl with
  | nil => rfl
  | cons ev evs ih =>
    simp only [shiftEvs, List.map_cons, List.foldl_cons] at ih ⊢
    rw [specEvent_shift, ih]

/-- what `advance` needs of a clock to pass bars as the tokeniser does.  It does not say that position and room add up to
    the bar length (a stateful call may start from any state); the clocks that do are `Good`. -/
def Sane (k : Clock) : Prop := 0 < k.capRem ∧ 0 ≤ k.bar ∧ 0 < k.capTotal

/-- induction on the bars a sane clock passes: it stays, it moves inside its bar, or it closes its bar and goes on from
    the next bar line -/
theorem adv_ind {P : Int → Clock → Clock × List Int → Prop}
    (stay : ∀ r k, Sane k → r ≤ 0 → P r k (k, []))
    (inside : ∀ r k, Sane k → 0 < r → r < k.capRem →
      P r k ({ k with cur := k.cur + r, bar := k.bar + r, capRem := k.capRem - r }, []))
    (close : ∀ r k (res : Clock × List Int), Sane k → k.capRem ≤ r →
      P (r - k.capRem) { k with cur := k.cur + k.capRem, bar := 0, capRem := k.capTotal } res →
      P r k (res.1, (k.cur + k.capRem) :: res.2))
    (r : Int) (k : Clock) (hs : Sane k) : P r k (adv r k) := by
  have go : ∀ (n : Nat) (r : Int) (k : Clock), r.toNat ≤ n → Sane k → P r k (adv r k) := by
    intro n
    induction n with
    | zero => intro r k hn hs; rw [adv_stay k (by omega)]; exact stay r k hs (by omega)
    | succ n ih =>
      intro r k hn hs
      by_cases h0 : r ≤ 0
      · rw [adv_stay k h0]; exact stay r k hs h0
      · by_cases hlt : r < k.capRem
        · rw [adv_in r k (by omega) hlt]; exact inside r k hs (by omega) hlt
        · rw [adv_split_close r k k.capRem hs.1 (by omega) rfl (fun _ => hs.2.2)]
          exact close r k _ hs (by omega) (ih _ _ (by have := hs.1; omega) ⟨hs.2.2, Int.le_refl 0, hs.2.2⟩)
  exact go _ r k (Nat.le_refl _) hs

/-- what advancing the sane clock `k` by `r` ticks gives -/
structure Advanced (r : Int) (k : Clock) (res : Clock × List Int) : Prop where
  sane : Sane res.1
  capTotal : res.1.capTotal = k.capTotal
  cur : res.1.cur = k.cur + max r 0
  ends : ∀ e ∈ res.2, k.cur < e ∧ e ≤ res.1.cur
  line : res.1.bar = 0 → (r ≤ 0 ∧ k.bar = 0) ∨ res.1.cur ∈ res.2
  incr : res.2.Pairwise (· < ·)

theorem adv_inv (r : Int) (k : Clock) (hs : Sane k) : Advanced r k (adv r k) := by
  refine adv_ind (P := Advanced) ?_ ?_ ?_ r k hs
  · intro r k hs hr
    exact ⟨hs, rfl, by simp only; omega, by simp, fun h => Or.inl ⟨hr, h⟩, List.Pairwise.nil⟩
  · intro r k hs h0 hlt
    refine ⟨⟨by simp only; omega, by have := hs.2.1; simp only; omega, hs.2.2⟩, rfl, by simp only; omega, by simp,
      fun h => ?_, List.Pairwise.nil⟩
    have := hs.2.1; simp only at h; omega
  · intro r k res hs hle a
    have h1 := hs.1
    have a3 := a.cur
    simp only at a3
    refine ⟨a.sane, a.capTotal, by simp only; omega, fun e he => ?_, fun h => Or.inr ?_,
      List.pairwise_cons.2 ⟨fun e he => (a.ends e he).1, a.incr⟩⟩
    · rcases List.mem_cons.1 he with rfl | he
      · simp only; omega
      · have := a.ends e he; simp only at this ⊢; omega
    · rcases a.line h with h' | h'
      · have : res.1.cur = k.cur + k.capRem := by omega
        simp only; rw [this]; exact List.mem_cons_self
      · exact List.mem_cons_of_mem _ h'

theorem adv_add (r1 r2 : Int) (k : Clock) (hs : Sane k) (h1 : 0 ≤ r1) (h2 : 0 ≤ r2) :
    adv (r1 + r2) k = ((adv r2 (adv r1 k).1).1, (adv r1 k).2 ++ (adv r2 (adv r1 k).1).2) := by
  refine adv_ind (P := fun r1 k res => 0 ≤ r1 → adv (r1 + r2) k = ((adv r2 res.1).1, res.2 ++ (adv r2 res.1).2))
    ?_ ?_ ?_ r1 k hs h1
  · intro r k _ hr h0
    have : r = 0 := by omega
    subst this
    rw [Int.zero_add]; rfl
  · intro r k hs h0 hlt _
    rw [adv_split_in (r + r2) k r h0 (by omega) hlt (fun _ => hs.2.2), show r + r2 - r = r2 by omega]
    rfl
  · intro r k res hs hle ih _
    have := hs.1
    rw [adv_split_close (r + r2) k k.capRem hs.1 (by omega) rfl (fun _ => hs.2.2),
      show r + r2 - k.capRem = (r - k.capRem) + r2 by omega, ih (by omega)]
    rfl

theorem upTo_stay {T : Int} (kl : Clock × List Emit) (h : T ≤ kl.1.cur) : upTo T kl = kl := by
  unfold upTo
  rw [adv_stay kl.1 (by omega), List.map_nil, List.append_nil]

theorem upTo_upTo {T1 T2 : Int} (kl : Clock × List Emit) (hs : Sane kl.1) (h1 : kl.1.cur ≤ T1) (h2 : T1 ≤ T2) :
    upTo T2 (upTo T1 kl) = upTo T2 kl := by
  have hc := (adv_inv (T1 - kl.1.cur) kl.1 hs).cur
  unfold upTo at hc ⊢
  simp only
  rw [show T2 - kl.1.cur = (T1 - kl.1.cur) + (T2 - (adv (T1 - kl.1.cur) kl.1).1.cur) by omega,
    adv_add _ _ kl.1 hs (by omega) (by omega), List.map_append, List.append_assoc]

theorem upTo_closeBar (kl : Clock × List Emit) (hs : Sane kl.1) (T : Int) (h : (closeBar kl).1.cur ≤ T) :
    upTo T (closeBar kl) = upTo T kl := by
  by_cases hf : kl.1.bar > 0
  · rw [closeBar_fire kl hf hs.1] at h ⊢
    rw [upTo_full kl hs.1] at h
    exact upTo_upTo kl hs (by have := hs.1; omega) h
  · rw [closeBar_idle kl (fun h => hf h.1)]

theorem specTail_props (c : Cfg) (m : Msg) (restP : List Msg) (k : Clock) :
    (specTail c m restP k).1.cur = k.cur ∧ (specTail c m restP k).1.bar = k.bar
      ∧ (Sane k → (m.ty = .timeSignature → 0 < c.capacity m.num m.den) → Sane (specTail c m restP k).1)
      ∧ ∀ t, Emit.barEnd t ∉ (specTail c m restP k).2 := by
  refine ⟨?_, ?_, fun h hc => ?_, fun t => ?_⟩
  · rw [specTail_clock]; split <;> rfl
  · rw [specTail_clock]; split <;> rfl
  · rw [specTail_clock]
    split
    · rename_i hty; exact ⟨hc hty.1, h.2.1, hc hty.1⟩
    · exact h
  · rw [specTail_emits]
    cases restP with
    | nil => simp
    | cons off r => simp only; split <;> simp

/-- the invariant of the specification fold, relative to the clock `start` the call started at -/
structure FoldInv (start : Int) (kl : Clock × List Emit) : Prop where
  sane : Sane kl.1
  mono : start ≤ kl.1.cur
  ends : ∀ t, Emit.barEnd t ∈ kl.2 → start < t ∧ t ≤ kl.1.cur
  line : kl.1.bar = 0 → kl.1.cur = start ∨ Emit.barEnd kl.1.cur ∈ kl.2
  incr : (bes kl.2).Pairwise (· < ·)

theorem FoldInv.init (st : TokSt) (cap : Int) (hrem : 0 < st.capRem) (hbar : 0 ≤ st.curTimeBar) (hcap : 0 < cap) :
    FoldInv st.curTime (clockOf st cap, ([] : List Emit)) :=
  ⟨⟨hrem, hbar, hcap⟩, Int.le_refl _, by simp, fun _ => Or.inl rfl, List.Pairwise.nil⟩

theorem upTo_inv (start T : Int) (kl : Clock × List Emit) (hI : FoldInv start kl) :
    FoldInv start (upTo T kl) ∧ (kl.1.cur ≤ T → (upTo T kl).1.cur = T) := by
  obtain ⟨a1, -, a3, a4, a5, a6⟩ := adv_inv (T - kl.1.cur) kl.1 hI.sane
  have hm := hI.mono
  unfold upTo
  generalize adv (T - kl.1.cur) kl.1 = r at *
  refine ⟨⟨a1, by simp only; omega, fun t ht => ?_, fun hb => ?_, ?_⟩, fun h => by simp only; omega⟩
  · simp only [List.mem_append, List.mem_map] at ht
    rcases ht with ht | ⟨e, he, hte⟩
    · have := hI.ends t ht; simp only; omega
    · cases hte
      have := a4 t he; simp only; omega
  · simp only at hb ⊢
    rcases a5 hb with ⟨h1, h2⟩ | h'
    · rw [show r.1.cur = kl.1.cur by omega]
      exact (hI.line h2).imp id (fun h3 => List.mem_append_left _ h3)
    · exact Or.inr (List.mem_append_right _ (List.mem_map.2 ⟨_, h', rfl⟩))
  · simp only [bes_append, bes_map_barEnd]
    rw [List.pairwise_append]
    refine ⟨hI.incr, a6, fun a ha b hb => ?_⟩
    have h1 := (hI.ends a ((mem_bes a _).1 ha)).2
    have h2 := (a4 b hb).1
    omega

theorem FoldInv.tail {start : Int} {kl : Clock × List Emit} (hI : FoldInv start kl) (c : Cfg) (m : Msg) (restP : List Msg)
    (hcap : m.ty = .timeSignature → 0 < c.capacity m.num m.den) :
    FoldInv start ((specTail c m restP kl.1).1, kl.2 ++ (specTail c m restP kl.1).2) := by
  obtain ⟨t1, t2, t3, t4⟩ := specTail_props c m restP kl.1
  refine ⟨t3 hI.sane hcap, by rw [t1]; exact hI.mono, fun t ht => ?_, fun hb => ?_, ?_⟩
  · rcases List.mem_append.1 ht with h | h
    · rw [t1]; exact hI.ends t h
    · exact absurd h (t4 t)
  · rw [t1]
    exact (hI.line (t2 ▸ hb)).imp id (fun h => List.mem_append_left _ h)
  · rw [bes_append, bes_nil_of_noBar _ t4, List.append_nil]; exact hI.incr

theorem specEvent_inv (c : Cfg) (start shift : Int) (kl : Clock × List Emit) (e1 : Int) (m : Msg) (restP : List Msg)
    (hI : FoldInv start kl) (hcapEv : m.ty = .timeSignature → 0 < c.capacity m.num m.den) :
    FoldInv start (specEvent c shift kl (e1, m :: restP))
      ∧ (kl.1.cur ≤ m.time + shift → (specEvent c shift kl (e1, m :: restP)).1.cur = m.time + shift) := by
  obtain ⟨hU, hcur⟩ := upTo_inv start (m.time + shift) kl hI
  rw [specEvent_cons]
  exact ⟨hU.tail c m restP hcapEv, fun h => (specTail_props c m restP _).1.trans (hcur h)⟩

theorem fold_inv (c : Cfg) (start shift : Int) (evs : List (Int × Pairing)) (kl : Clock × List Emit)
    (hI : FoldInv start kl)
    (hcapEv : ∀ ev ∈ evs, ∀ m ∈ ev.2.head?, m.ty = .timeSignature → 0 < c.capacity m.num m.den) :
    FoldInv start (evs.foldl (specEvent c shift) kl) := by
  induction evs generalizing kl with
  | nil => exact hI
  | cons ev evs ih =>
    rw [List.foldl_cons]
    refine ih _ ?_ (fun e he => hcapEv e (by simp [he]))
    obtain ⟨e1, e2⟩ := ev
    cases e2 with
    | nil => simpa [specEvent] using hI
    | cons m restP => exact (specEvent_inv c start shift kl e1 m restP hI (hcapEv (e1, m :: restP) (by simp) m rfl)).1

theorem closeBar_inv (start : Int) (kl : Clock × List Emit) (hI : FoldInv start kl) :
    FoldInv start (closeBar kl) ∧ (closeBar kl).1.bar = 0 := by
  by_cases hf : kl.1.bar > 0
  · rw [closeBar_fire kl hf hI.sane.1]
    exact ⟨(upTo_inv start _ kl hI).1, by rw [upTo_full kl hI.sane.1]⟩
  · rw [closeBar_idle kl (fun h => hf h.1)]
    exact ⟨hI, by have := hI.sane.2.1; omega⟩

theorem specLog_foldInv (c : Cfg) (st : TokSt) (evs : List (Int × Pairing))
    (hrem : 0 < st.capRem) (hbar : 0 ≤ st.curTimeBar) (hcap : 0 < c.capacity st.tsNum st.tsDen)
    (hcapEv : ∀ ev ∈ evs, ∀ m ∈ ev.2.head?, m.ty = .timeSignature → 0 < c.capacity m.num m.den) :
    FoldInv st.curTime (specLog c st evs) ∧ (specLog c st evs).1.bar = 0 := by
  rw [specLog_eq]
  exact closeBar_inv _ _ (fold_inv _ _ _ _ _ (FoldInv.init st _ hrem hbar hcap) hcapEv)

theorem specLog_inv (c : Cfg) (st : TokSt) (evs : List (Int × Pairing))
    (hrem : 0 < st.capRem) (hbar : 0 ≤ st.curTimeBar) (hcap : 0 < c.capacity st.tsNum st.tsDen)
    (hcapEv : ∀ ev ∈ evs, ∀ m ∈ ev.2.head?, m.ty = .timeSignature → 0 < c.capacity m.num m.den) :
    (specLog c st evs).1.bar = 0
      ∧ (∀ t, Emit.barEnd t ∈ (specLog c st evs).2 → st.curTime < t ∧ t ≤ (specLog c st evs).1.cur)
      ∧ (st.curTime < (specLog c st evs).1.cur → Emit.barEnd (specLog c st evs).1.cur ∈ (specLog c st evs).2)
      ∧ (bes (specLog c st evs).2).Pairwise (· < ·) := by
  obtain ⟨hF, hb⟩ := specLog_foldInv c st evs hrem hbar hcap hcapEv
  exact ⟨hb, hF.ends, fun hlt => (hF.line hb).resolve_left (by omega), hF.incr⟩

/-- induction along the specification fold over non-empty, onset-ordered events that are not before the clock.  At the
    head event `(e1, m :: restP)` the clock is moved to the onset (`r`), then `specTail` acts. -/
theorem fold_ind (c : Cfg) (start s : Int) {Q : List (Int × Pairing) → Clock × List Emit → Prop}
    (h0 : ∀ kl, FoldInv start kl → Q [] kl)
    (h1 : ∀ (e1 : Int) (m : Msg) (restP : List Msg) (evs : List (Int × Pairing)) (kl : Clock × List Emit)
        (r : Clock × List Emit), FoldInv start kl → kl.1.cur ≤ m.time + s → r = upTo (m.time + s) kl →
        r.1.cur = m.time + s →
        specEvent c s kl (e1, m :: restP) = ((specTail c m restP r.1).1, r.2 ++ (specTail c m restP r.1).2) →
        (∀ ev ∈ evs, ∀ m' ∈ ev.2.head?, m.time ≤ m'.time) →
        Q evs (specEvent c s kl (e1, m :: restP)) → Q ((e1, m :: restP) :: evs) kl) :
    ∀ (evs : List (Int × Pairing)) (kl : Clock × List Emit), FoldInv start kl →
      (∀ ev ∈ evs, ∀ m ∈ ev.2.head?, kl.1.cur ≤ m.time + s) →
      evs.Pairwise (fun a b => ∀ x ∈ a.2.head?, ∀ y ∈ b.2.head?, x.time ≤ y.time) →
      (∀ ev ∈ evs, ∀ m ∈ ev.2.head?, m.ty = .timeSignature → 0 < c.capacity m.num m.den) →
      (∀ ev ∈ evs, ev.2 ≠ []) → Q evs kl := by
  intro evs
  induction evs with
  | nil => intro kl hI _ _ _ _; exact h0 kl hI
  | cons ev evs ih =>
    intro kl hI hle hord hcap hne
    rw [List.pairwise_cons] at hord
    obtain ⟨e1, e2⟩ := ev
    cases e2 with
    | nil => exact absurd rfl (hne (e1, []) List.mem_cons_self)
    | cons m restP =>
      have hm : kl.1.cur ≤ m.time + s := hle _ List.mem_cons_self m rfl
      obtain ⟨hI', hcur⟩ := specEvent_inv c start s kl e1 m restP hI (hcap _ List.mem_cons_self m rfl)
      have hlater : ∀ ev ∈ evs, ∀ m' ∈ ev.2.head?, m.time ≤ m'.time := fun ev hev m' hm' => hord.1 ev hev m rfl m' hm'
      refine h1 e1 m restP evs kl _ hI hm rfl ((upTo_inv start _ kl hI).2 hm) (specEvent_cons c s kl e1 m restP) hlater ?_
      refine ih _ hI' (fun ev hev m' hm' => ?_) hord.2 (fun e he => hcap e (List.mem_cons_of_mem _ he))
        (fun e he => hne e (List.mem_cons_of_mem _ he))
      rw [hcur hm]
      have := hlater ev hev m' hm'
      omega

/-- onset of the last event (`d` if there is none) -/
def lastHead : List (Int × Pairing) → Int → Int
  | [], d => d
  | ev :: evs, d => lastHead evs ((ev.2.head?.map (·.time)).getD d)

theorem lastHead_getLast {evs : List (Int × Pairing)} {last : Int × Pairing} {m : Msg} (d : Int)
    (hl : evs.getLast? = some last) (hm : last.2.head? = some m) : lastHead evs d = m.time := by
  induction evs generalizing d with
  | nil => cases hl
  | cons ev evs ih =>
    cases evs with
    | nil =>
      rw [List.getLast?_singleton, Option.some.injEq] at hl
      subst hl
      simp [lastHead, hm]
    | cons ev2 evs2 => rw [List.getLast?_cons_cons] at hl; exact ih _ hl

theorem fold_last (c : Cfg) (start s : Int) (evs : List (Int × Pairing)) (kl : Clock × List Emit) (hI : FoldInv start kl)
    (htime : ∀ ev ∈ evs, ∀ m ∈ ev.2.head?, kl.1.cur ≤ m.time + s)
    (hord : List.Pairwise (fun a b => ∀ x ∈ a.2.head?, ∀ y ∈ b.2.head?, x.time ≤ y.time) evs)
    (hcapEv : ∀ ev ∈ evs, ∀ m ∈ ev.2.head?, m.ty = .timeSignature → 0 < c.capacity m.num m.den)
    (hne : ∀ ev ∈ evs, ev.2 ≠ []) :
    (evs.foldl (specEvent c s) kl).1.cur = lastHead evs (kl.1.cur - s) + s := by
  refine fold_ind c start s (Q := fun evs kl => (evs.foldl (specEvent c s) kl).1.cur = lastHead evs (kl.1.cur - s) + s)
    (fun kl _ => by simp only [List.foldl_nil, lastHead]; omega) ?_ evs kl hI htime hord hcapEv hne
  intro e1 m restP evs kl r _ _ _ hcur hE _ hQ
  rw [List.foldl_cons, hQ, hE]
  simp only [lastHead, List.head?_cons, Option.map_some, Option.getD_some]
  rw [(specTail_props c m restP r.1).1, hcur, show m.time + s - s = m.time by omega]

/-- the clock on the bar line `a` of a grid of bars of length `C` -/
def lineClock (a C : Int) : Clock := { cur := a, bar := 0, capTotal := C, capRem := C }

/-- a clock on a bar grid (every clock reached from a `lineClock`, `adv_good`) -/
def Good (k : Clock) : Prop := Sane k ∧ k.bar + k.capRem = k.capTotal

theorem adv_good (r : Int) (k : Clock) (hg : Good k) (hr : 0 ≤ r) :
    Good (adv r k).1 ∧ (adv r k).1.capTotal = k.capTotal ∧ (adv r k).1.cur = k.cur + r := by
  have a := adv_inv r k hg.1
  exact ⟨⟨a.sane, advance_keeps_sum _ _ _ hg.2⟩, a.capTotal, by have := a.cur; omega⟩

theorem lineClock_good (a C : Int) (hC : 0 < C) : Good (lineClock a C) :=
  ⟨⟨hC, Int.le_refl 0, hC⟩, by simp [lineClock]⟩

theorem upTo_good (T : Int) (kl : Clock × List Emit) (hg : Good kl.1) (h : kl.1.cur ≤ T) :
    Good (upTo T kl).1 ∧ (upTo T kl).1.capTotal = kl.1.capTotal ∧ (upTo T kl).1.cur = T := by
  obtain ⟨a1, a2, a3⟩ := adv_good (T - kl.1.cur) kl.1 hg (by omega)
  exact ⟨a1, a2, by show (adv (T - kl.1.cur) kl.1).1.cur = T; omega⟩

theorem upTo_line (a C : Int) (hC : 0 < C) (G : List Emit) :
    upTo (a + C) (lineClock a C, G) = (lineClock (a + C) C, G ++ [Emit.barEnd (a + C)]) :=
  upTo_full (lineClock a C, G) hC

/-- a clock that reaches a bar line after at most one bar length stood exactly that far from the line -/
theorem adv_line_inv (r : Int) (k : Clock) (hg : Good k) (h0 : 0 < r) (hr : r ≤ k.capTotal)
    (hb : (adv r k).1.bar = 0) : k.capRem = r := by
  obtain ⟨⟨s1, s2, s3⟩, hf⟩ := hg
  by_cases hlt : r < k.capRem
  · exfalso
    rw [adv_in r k h0 hlt] at hb
    simp only at hb
    omega
  · have e1 : adv r k = ((adv (r - k.capRem) _).1, _ :: (adv (r - k.capRem) _).2) :=
      adv_split_close r k k.capRem s1 (by omega) rfl (fun _ => s3)
    by_cases hz : r - k.capRem = 0
    · omega
    · exfalso
      rw [e1, adv_in _ _ (by omega) (by show r - k.capRem < k.capTotal; omega)] at hb
      simp only at hb
      omega

theorem adv_line_ends (r : Int) (k : Clock) (hg : Good k) (h0 : 0 < r) (hr : r ≤ k.capTotal)
    (hb : (adv r k).1.bar = 0) : (adv r k).2 = [k.cur + r] := by
  rw [← adv_line_inv r k hg h0 hr hb, adv_full k hg.1.1]

theorem upTo_line_inv (kl : Clock × List Emit) (hg : Good kl.1) (T : Int) (h0 : kl.1.cur < T)
    (hr : T - kl.1.cur ≤ kl.1.capTotal) (hb : (upTo T kl).1.bar = 0) : kl.1.capRem = T - kl.1.cur :=
  adv_line_inv (T - kl.1.cur) kl.1 hg (by omega) hr hb

theorem upTo_line_log (kl : Clock × List Emit) (hg : Good kl.1) (T : Int) (h0 : kl.1.cur < T)
    (hr : T - kl.1.cur ≤ kl.1.capTotal) (hb : (upTo T kl).1.bar = 0) : (upTo T kl).2 = kl.2 ++ [Emit.barEnd T] := by
  show kl.2 ++ (adv (T - kl.1.cur) kl.1).2.map Emit.barEnd = _
  rw [adv_line_ends (T - kl.1.cur) kl.1 hg (by omega) hr hb, show kl.1.cur + (T - kl.1.cur) = T by omega]
  rfl

end SCoda.C01
