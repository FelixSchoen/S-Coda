/-
  Behind C10 (`mkBar`, `mkBarCh`): the constructor flattened to an if-then-else over capacity and channel (`mkBarCap`) and in
  closed form (`mkBarCap_eq`), from which acceptance and rejection are read for every channel, channel 0 (`mkBar`) as an instance.
-/
import SCoda.Model.BarCh
import SCoda.Model.Roll
import SCoda.Props.C07
import SCoda.Props.C18
namespace SCoda.BarL
open SCoda

/-- the normalised and (if short) padded message list inside `mkBar` -/
def barBody (ppqn : Int) (rel : List Msg) (n d : Int) : List Msg :=
  if totalWait (normalise rel) < barCapacity ppqn n d then pad (barCapacity ppqn n d) (normalise rel)
  else normalise rel

/-- the sequence of an accepted bar -/
def barSeq (ppqn : Int) (rel : List Msg) (n d : Int) : List Msg :=
  Msg.mkTimeSig 0 n d pyNone :: (barBody ppqn rel n d).filter (·.ty != .timeSignature)

/-- `barBody` at any capacity -/
def bodyCap (cap : Int) (rel : List Msg) : List Msg :=
  if totalWait (normalise rel) < cap then pad cap (normalise rel) else normalise rel

theorem barBody_eq (ppqn : Int) (rel : List Msg) (n d : Int) : barBody ppqn rel n d = bodyCap (barCapacity ppqn n d) rel := rfl

/-- `Bar.__init__` flattened, over the capacity and the channel of the leading event: `mkBarCh` is the instance
    `cap = barCapacity ppqn n d` (`mkBarCh_eq`); the translated constructor computes it on the value of its float
    expression for the capacity, whatever that is (`ElemTie.barInit_cap`) -/
def mkBarCap (cap : Int) (rel : List Msg) (n d key ch : Int) : Except Err Bar :=
  let body := bodyCap cap rel
  if totalWait (normalise rel) > cap then .error .barError
  else if (body.filter (·.ty == .timeSignature)).length > 1 then .error .barError
  else if !((body.filter (·.ty == .timeSignature)).all (fun m => m.num == n && m.den == d)) then .error .barError
  else .ok { seq := Msg.mkTimeSig ch n d pyNone :: body.filter (·.ty != .timeSignature), num := n, den := d, key := key }

theorem mkBarCh_eq (ppqn : Int) (rel : List Msg) (n d key ch : Int) :
    mkBarCh ppqn rel n d key ch = mkBarCap (barCapacity ppqn n d) rel n d key ch := by
  unfold mkBarCh mkBarCap bodyCap
  simp only [bind, Except.bind, throw, throwThe, MonadExcept.throw]
  generalize (if totalWait (normalise rel) < barCapacity ppqn n d then
      pad (barCapacity ppqn n d) (normalise rel) else normalise rel) = B
  by_cases h1 : totalWait (normalise rel) > barCapacity ppqn n d
  · rw [if_pos h1, if_pos h1]; rfl
  · rw [if_neg h1, if_neg h1]
    by_cases h2 : (B.filter (·.ty == .timeSignature)).length > 1
    · rw [if_pos h2, if_pos h2]; rfl
    · rw [if_neg h2, if_neg h2]
      split
      · rfl
      · rfl

theorem bodyCap_cases (cap : Int) (rel : List Msg) :
    bodyCap cap rel = normalise rel ∨ ∃ w : Msg, w.ty = .wait ∧ 0 ≤ w.time ∧ bodyCap cap rel = normalise rel ++ [w] := by
  unfold bodyCap
  split
  · rw [C18.pad_eq]
    split
    · rename_i h
      exact Or.inr ⟨_, rfl, by simp only [Msg.mkWait]; omega, rfl⟩
    · exact Or.inl rfl
  · exact Or.inl rfl

theorem bodyCap_filter (cap : Int) (rel : List Msg) (p : Msg → Bool) (hp : ∀ m : Msg, m.ty = .wait → p m = false) :
    (bodyCap cap rel).filter p = (normalise rel).filter p := by
  rcases bodyCap_cases cap rel with h | ⟨w, hw, _, h⟩
  · rw [h]
  · rw [h, List.filter_append]
    simp [hp w hw]

/-- the constructor in closed form: one test, one result, one exception.  What it tests of the signatures are the values
    `tsVals (normalise rel)` (the padding adds a wait only): at most one, and that one the bar's. -/
theorem mkBarCap_eq (cap : Int) (rel : List Msg) (n d key ch : Int) :
    mkBarCap cap rel n d key ch =
      if totalWait (normalise rel) ≤ cap ∧ (tsVals (normalise rel)).length ≤ 1 ∧ ∀ x ∈ tsVals (normalise rel), x = (n, d)
      then .ok { seq := Msg.mkTimeSig ch n d pyNone :: (bodyCap cap rel).filter (·.ty != .timeSignature),
                 num := n, den := d, key := key }
      else .error .barError := by
  unfold mkBarCap tsVals
  dsimp only
  rw [bodyCap_filter cap rel (·.ty == .timeSignature) (fun m hm => by simp [hm]), List.length_map]
  generalize (normalise rel).filter (·.ty == .timeSignature) = S
  have hall : (!S.all (fun m => m.num == n && m.den == d)) = true ↔ ¬ ∀ x ∈ S.map (fun m => (m.num, m.den)), x = (n, d) := by
    simp
  split
  · rw [if_neg (fun h => by omega)]
  · split
    · rw [if_neg (fun h => by omega)]
    · split
      · rename_i h3
        rw [if_neg (fun h => hall.mp h3 h.2.2)]
      · rename_i h1 h2 h3
        rw [if_pos ⟨by omega, by omega, Classical.not_not.mp (fun h' => h3 (hall.mpr h'))⟩]

theorem barBody_cases (ppqn : Int) (rel : List Msg) (n d : Int) :
    barBody ppqn rel n d = normalise rel ∨
      ∃ w : Msg, w.ty = .wait ∧ 0 ≤ w.time ∧ barBody ppqn rel n d = normalise rel ++ [w] :=
  bodyCap_cases (barCapacity ppqn n d) rel

theorem bodyCap_nonneg (cap : Int) (rel : List Msg) : NonNegWaits (bodyCap cap rel) := by
  rcases bodyCap_cases cap rel with h | ⟨w, _, hw0, h⟩
  · rw [h]; exact normalise_nonNegWaits rel
  · rw [h, nonNegWaits_append]
    refine ⟨normalise_nonNegWaits rel, ?_⟩
    intro m hm _
    simp only [List.mem_singleton] at hm
    subst hm
    exact hw0

theorem bodyCap_dur (cap : Int) (rel : List Msg) (h : totalWait (normalise rel) ≤ cap) : totalWait (bodyCap cap rel) = cap := by
  unfold bodyCap
  split
  · have := C18.pad_duration cap (normalise rel) (normalise_nonNegWaits rel)
    unfold durRel at this
    omega
  · omega

theorem bodyCap_events (cap : Int) (rel : List Msg) : eventsRel (bodyCap cap rel) = eventsRel (normalise rel) := by
  unfold bodyCap
  split
  · exact C18.pad_events _ _
  · rfl

theorem bodyCap_wf (cap : Int) (rel : List Msg) : WF (bodyCap cap rel) := by
  intro k
  rcases bodyCap_cases cap rel with h | ⟨w, hw, _, h⟩
  · rw [h]; exact normalise_wf rel k
  · rw [h, altFrom_iff_word, kword_append, kword_skip (l := [w]) fun m hm => by
        rw [List.mem_singleton.1 hm]; exact not_kev_of_ty (by rw [hw]; simp) (by rw [hw]; simp),
      List.append_nil, ← altFrom_iff_word]
    exact normalise_wf rel k

theorem notTS_wait (m : Msg) (h : m.ty = .wait) : (m.ty != MType.timeSignature) = true := by
  simp [h]

theorem notTS_stampInv : StampInv (fun m : Msg => m.ty != MType.timeSignature) := fun _ _ => rfl

end SCoda.BarL

namespace SCoda.BarChL
open SCoda SCoda.BarL

theorem mkBarCh_zero (ppqn : Int) (rel : List Msg) (n d key : Int) : mkBarCh ppqn rel n d key 0 = mkBar ppqn rel n d key := rfl

/-- the sequence of an accepted bar whose leading event is on channel `ch` -/
def barSeqCh (ch ppqn : Int) (rel : List Msg) (n d : Int) : List Msg :=
  Msg.mkTimeSig ch n d pyNone :: (barBody ppqn rel n d).filter (·.ty != .timeSignature)

theorem mkBarCh_if (ppqn : Int) (rel : List Msg) (n d key ch : Int) :
    mkBarCh ppqn rel n d key ch =
      if totalWait (normalise rel) ≤ barCapacity ppqn n d ∧ (tsVals (normalise rel)).length ≤ 1
          ∧ ∀ x ∈ tsVals (normalise rel), x = (n, d)
      then .ok { seq := barSeqCh ch ppqn rel n d, num := n, den := d, key := key } else .error .barError :=
  (mkBarCh_eq ppqn rel n d key ch).trans (mkBarCap_eq _ rel n d key ch)

theorem mkBarCh_ok {ppqn : Int} {rel : List Msg} {n d key ch : Int} {b : Bar}
    (h : mkBarCh ppqn rel n d key ch = .ok b) :
    totalWait (normalise rel) ≤ barCapacity ppqn n d ∧ (tsVals (normalise rel)).length ≤ 1
      ∧ (∀ x ∈ tsVals (normalise rel), x = (n, d))
      ∧ b = { seq := barSeqCh ch ppqn rel n d, num := n, den := d, key := key } := by
  rw [mkBarCh_if] at h
  split at h
  · rename_i hc
    cases h
    exact ⟨hc.1, hc.2.1, hc.2.2, rfl⟩
  · cases h

theorem mkBarCh_ok_of {ppqn : Int} {rel : List Msg} {n d : Int} (key ch : Int)
    (h1 : totalWait (normalise rel) ≤ barCapacity ppqn n d) (h2 : (tsVals (normalise rel)).length ≤ 1)
    (h3 : ∀ x ∈ tsVals (normalise rel), x = (n, d)) :
    mkBarCh ppqn rel n d key ch = .ok { seq := barSeqCh ch ppqn rel n d, num := n, den := d, key := key } :=
  (mkBarCh_if ppqn rel n d key ch).trans (if_pos ⟨h1, h2, h3⟩)

theorem barSeqCh_nonneg (ch ppqn : Int) (rel : List Msg) (n d : Int) : NonNegWaits (barSeqCh ch ppqn rel n d) := by
  intro m hm hw
  unfold barSeqCh at hm
  rcases List.mem_cons.1 hm with e | e
  · subst e; cases hw
  · exact bodyCap_nonneg _ rel m (List.mem_filter.1 e).1 hw

theorem barSeqCh_dur (ch ppqn : Int) (rel : List Msg) (n d : Int)
    (h : totalWait (normalise rel) ≤ barCapacity ppqn n d) :
    totalWait (barSeqCh ch ppqn rel n d) = barCapacity ppqn n d := by
  unfold barSeqCh
  rw [totalWait, totalWait_filter _ notTS_wait, barBody_eq, bodyCap_dur _ rel h]
  simp [Msg.mkTimeSig]

theorem barSeqCh_events (ch ppqn : Int) (rel : List Msg) (n d : Int) :
    eventsRel (barSeqCh ch ppqn rel n d) =
      Msg.mkTimeSig ch n d 0 :: (eventsRel (normalise rel)).filter (·.ty != .timeSignature) := by
  unfold barSeqCh eventsRel
  have h0 : ∀ X : List Msg, eventsRelGo 0 (Msg.mkTimeSig ch n d pyNone :: X)
      = Msg.mkTimeSig ch n d 0 :: eventsRelGo 0 X := fun _ => rfl
  rw [h0, eventsRelGo_filter _ notTS_wait notTS_stampInv]
  exact congrArg (fun l => Msg.mkTimeSig ch n d 0 :: l.filter (·.ty != .timeSignature)) (bodyCap_events _ rel)

theorem barSeqCh_wf (ch ppqn : Int) (rel : List Msg) (n d : Int) : WF (barSeqCh ch ppqn rel n d) := by
  intro k
  unfold barSeqCh
  have h1 : ¬ ((Msg.mkTimeSig ch n d pyNone).nkey = k ∧ (Msg.mkTimeSig ch n d pyNone).ty = .noteOn) := by
    simp [Msg.mkTimeSig]
  have h2 : ¬ ((Msg.mkTimeSig ch n d pyNone).nkey = k ∧ (Msg.mkTimeSig ch n d pyNone).ty = .noteOff) := by
    simp [Msg.mkTimeSig]
  rw [altFrom, if_neg h1, if_neg h2, altFrom_filter k _ (by rintro m ⟨-, e | e⟩ <;> simp [e])]
  exact bodyCap_wf _ rel k

theorem barSeqCh_ksVals (ch ppqn : Int) (rel : List Msg) (n d : Int) :
    ksVals (barSeqCh ch ppqn rel n d) = ksVals (normalise rel) := by
  unfold barSeqCh
  rw [ksVals_cons, if_neg (by simp [Msg.mkTimeSig])]
  unfold ksVals
  rw [List.filter_filter]
  have e : (fun a : Msg => (a.ty == MType.keySignature && a.ty != MType.timeSignature))
      = (fun a : Msg => a.ty == MType.keySignature) := by
    funext a
    cases h : a.ty <;> simp
  rw [e, barBody_eq, bodyCap_filter _ rel _ (fun m hm => by simp [hm])]

end SCoda.BarChL

namespace SCoda.BarL
open SCoda.BarChL

theorem mkBar_ok {ppqn : Int} {rel : List Msg} {n d key : Int} {b : Bar}
    (h : mkBar ppqn rel n d key = .ok b) :
    totalWait (normalise rel) ≤ barCapacity ppqn n d ∧ (tsVals (normalise rel)).length ≤ 1
      ∧ (∀ x ∈ tsVals (normalise rel), x = (n, d))
      ∧ b = { seq := barSeq ppqn rel n d, num := n, den := d, key := key } :=
  mkBarCh_ok ((mkBarCh_zero ppqn rel n d key).trans h)

theorem mkBar_error {ppqn : Int} {rel : List Msg} {n d : Int} (key : Int)
    (h : ¬ (totalWait (normalise rel) ≤ barCapacity ppqn n d ∧ (tsVals (normalise rel)).length ≤ 1
      ∧ ∀ x ∈ tsVals (normalise rel), x = (n, d))) : mkBar ppqn rel n d key = .error .barError :=
  (mkBarCh_zero ppqn rel n d key).symm.trans ((mkBarCh_if ppqn rel n d key 0).trans (if_neg h))

theorem mkBar_cases (ppqn : Int) (rel : List Msg) (n d key : Int) :
    (∃ b, mkBar ppqn rel n d key = .ok b) ∨ mkBar ppqn rel n d key = .error .barError := by
  rw [← mkBarCh_zero, mkBarCh_if]
  split
  · exact Or.inl ⟨_, rfl⟩
  · exact Or.inr rfl

theorem mkBar_accepts (ppqn : Int) (rel : List Msg) (n d key : Int) (hw : NonNegWaits rel)
    (hfit : durRel rel ≤ barCapacity ppqn n d)
    (hsig : ∀ m ∈ rel, m.ty = .timeSignature → (m.num, m.den) = (n, d)) :
    ∃ b, mkBar ppqn rel n d key = .ok b := by
  have hall : ∀ x ∈ tsVals rel, x = (n, d) := by
    intro x hx
    simp only [tsVals, List.mem_map, List.mem_filter, beq_iff_eq] at hx
    obtain ⟨m, ⟨hm, hty⟩, rfl⟩ := hx
    exact hsig m hm hty
  have hv : tsVals (normalise rel) = [] ∨ tsVals (normalise rel) = [(n, d)] := by
    rw [normalise_tsVals, dedupD_const (n, d) _ hall]
    split
    · exact Or.inl rfl
    · exact Or.inr rfl
  refine ⟨_, (mkBarCh_zero ppqn rel n d key).symm.trans
    (mkBarCh_ok_of key 0 (by rw [normalise_totalWait rel hw]; exact hfit) ?_ ?_)⟩
  · rcases hv with e | e <;> rw [e] <;> simp
  · intro x hx
    rcases hv with e | e <;> rw [e] at hx
    · cases hx
    · exact List.mem_singleton.1 hx

theorem barSeq_nonneg (ppqn : Int) (rel : List Msg) (n d : Int) : NonNegWaits (barSeq ppqn rel n d) :=
  barSeqCh_nonneg 0 ppqn rel n d

theorem barSeq_dur (ppqn : Int) (rel : List Msg) (n d : Int)
    (h : totalWait (normalise rel) ≤ barCapacity ppqn n d) :
    totalWait (barSeq ppqn rel n d) = barCapacity ppqn n d :=
  barSeqCh_dur 0 ppqn rel n d h

theorem barSeq_events (ppqn : Int) (rel : List Msg) (n d : Int) :
    eventsRel (barSeq ppqn rel n d) =
      Msg.mkTimeSig 0 n d 0 :: (eventsRel (normalise rel)).filter (·.ty != .timeSignature) :=
  barSeqCh_events 0 ppqn rel n d

theorem barSeq_wf (ppqn : Int) (rel : List Msg) (n d : Int) : WF (barSeq ppqn rel n d) :=
  barSeqCh_wf 0 ppqn rel n d

end SCoda.BarL
