/-
  `quantise`: the generated `quantise` against the hand model of Model/Quantise.lean (`quantise_spec`).  It does not pair, so it
  rests on Lemmas/AbsTie2L.lean and on the model's own theory: the total step equations `Q.qStep_on/_off/_other` (Lemmas/Quantise)
  for the first loop, `Q.TInv` (Lemmas/Collapsed) for the indices the second loop collects; the third loop (`l.pop(k - shift)` over
  the sorted indices) is `pop_loop`.
-/
import SCoda.Lemmas.AbsTie2L
import SCoda.Model.QuantiseS
import SCoda.Lemmas.Quantise
namespace SCoda.AbsTie2L
open SCoda SCoda.Gen.Abs2 SCoda.AbsTie2

theorem fdiv_pos (a b : Int) (hb : 0 < b) : Int.fdiv a b = a / b := by
  rw [Int.fdiv_eq_ediv_of_nonneg _ (Int.le_of_lt hb)]

theorem pyFloorDiv_pos (a b : Int) (hb : 0 < b) : pyFloorDiv a b = .ok (a / b) := by
  unfold pyFloorDiv
  have : (b == 0) = false := by simp; omega
  simp only [this, Bool.false_eq_true, if_false, fdiv_pos a b hb]
  rfl

theorem positions_left (t : Int) (steps : List Int) (hpos : ∀ s ∈ steps, 0 < s) :
    steps.mapM (fun s => do let d ← pyFloorDiv t s; pure (d * s) : Int → Except PyErr Int) = .ok (steps.map (fun s => t / s * s)) := by
  apply mapM_eq_map
  intro s hs
  rw [pyFloorDiv_pos t s (hpos s hs)]
  rfl

theorem positions_right (t : Int) (steps : List Int) :
    (pyRange 0 (steps.length : Int)).mapM (fun i => do
        let a ← pyGet (steps.map (fun s => t / s * s)) i
        let st ← optGet (some steps)
        let b ← pyGet st i
        pure (a + b) : Int → Except PyErr Int) = .ok (steps.map (fun s => t / s * s + s)) := by
  rw [mapM_pyRange _ (fun i => (steps.map (fun s => t / s * s)).getD i 0 + steps.getD i 0) steps.length]
  · congr 1
    apply List.ext_getElem
    · simp
    · intro i h1 h2
      simp only [List.length_map, List.length_range] at h1
      simp [List.getD, List.getElem?_eq_getElem h1]
  · intro i hi
    rw [pyGet_getD _ i 0 (by simpa using hi)]
    simp only [ok_bind, optGet]
    show (do let b ← pyGet steps (i : Int); pure (_ + b) : Except PyErr Int) = _
    rw [pyGet_getD _ i 0 hi]
    simp only [ok_bind, pure_eq_ok]

abbrev QB := Heap × List Nat × Assoc (Int × Int) Int × Assoc (Int × Int) (List Int)

/-- the loop state of the first loop of `quantise` stands for the model state `s`; `pre` = references processed so far -/
structure QRel (h0 : Heap) (pre : List Nat) (b : QB) (s : QSt) : Prop where
  om : b.2.2.1 = s.opens
  tm : b.2.2.2 = s.timings
  out : b.2.1.map (hGet b.1) = s.out.reverse
  qr : ∀ r ∈ b.2.1, (r ∈ pre ∨ h0.length ≤ r) ∧ r < b.1.length
  un : ∀ r, r < h0.length → r ∉ pre → hGet b.1 r = hGet h0 r
  len : h0.length ≤ b.1.length
  sub : ∀ k, s.opens.contains k = true → s.timings.contains k = true

/-- `r.time = v` -/
def setTime (h : Heap) (r : Nat) (v : Int) : Heap := hUpd h r (fun o => { o with time := v })

theorem hGet_setTime_self (h : Heap) (r : Nat) (v : Int) (hr : r < h.length) : hGet (setTime h r v) r = { hGet h r with time := v } :=
  hGet_hUpd_same h r _ hr

theorem hGet_setTime_ne (h : Heap) (r x : Nat) (v : Int) (hx : x ≠ r) : hGet (setTime h r v) x = hGet h x :=
  hGet_hUpd_ne h r _ x hx

theorem length_setTime (h : Heap) (r : Nat) (v : Int) : (setTime h r v).length = h.length := length_hUpd _ _ _

section

variable {h0 : Heap} {pre : List Nat} {heap : Heap} {q : List Nat} {om : Assoc (Int × Int) Int} {tm : Assoc (Int × Int) (List Int)} {s : QSt}

theorem q_notin (hR : QRel h0 pre (heap, q, om, tm) s) (r : Nat) (hr : r ∉ pre) (hlt : r < h0.length) : r ∉ q := by
  intro hm
  rcases (hR.qr r hm).1 with h | h
  · exact hr h
  · omega

theorem map_setTime (hR : QRel h0 pre (heap, q, om, tm) s) (r : Nat) (hr : r ∉ pre) (hlt : r < h0.length) (v : Int) :
    q.map (hGet (setTime heap r v)) = q.map (hGet heap) := by
  apply List.map_congr_left
  intro x hx
  apply hGet_setTime_ne
  intro e; subst e; exact q_notin hR x hr hlt hx

theorem qrel_store (hR : QRel h0 pre (heap, q, om, tm) s) (r : Nat) (hr : r ∈ pre) (hnq : r ∉ q) (v : Int) :
    QRel h0 pre (setTime heap r v, q, om, tm) s := by
  refine ⟨hR.om, hR.tm, ?_, ?_, ?_, ?_, hR.sub⟩
  · simp only
    rw [← hR.out]
    apply List.map_congr_left
    intro x hx
    apply hGet_setTime_ne
    intro e; subst e; exact hnq hx
  · intro x hx; simp only [length_setTime]; exact hR.qr x hx
  · intro x hx hnp
    rw [hGet_setTime_ne _ _ _ _ (by intro e; subst e; exact hnp hr)]; exact hR.un x hx hnp
  · simp only [length_setTime]; exact hR.len

theorem qrel_fresh (hR : QRel h0 pre (heap, q, om, tm) s) (x : Msg) :
    QRel h0 pre (heap ++ [x], q ++ [heap.length], om, tm) { s with out := x :: s.out } := by
  refine ⟨hR.om, hR.tm, ?_, ?_, ?_, ?_, hR.sub⟩
  · simp only [List.map_append, List.map_cons, List.map_nil, List.reverse_cons, hGet_append_new]
    congr 1
    rw [← hR.out]
    apply List.map_congr_left
    intro y hy
    exact hGet_append_lt _ _ _ (hR.qr y hy).2
  · intro y hy
    simp only [List.length_append, List.length_cons, List.length_nil]
    rcases List.mem_append.1 hy with hy | hy
    · have := hR.qr y hy; simp only at this; exact ⟨this.1, by omega⟩
    · simp only [List.mem_singleton] at hy; subst hy
      exact ⟨Or.inr hR.len, by omega⟩
  · intro y hy hnp
    have := hR.len
    simp only at this
    rw [hGet_append_lt _ _ _ (by omega)]; exact hR.un y hy hnp
  · simp only [List.length_append]; have := hR.len; simp only at this; omega

theorem qrel_keep (hR : QRel h0 pre (heap, q, om, tm) s) (r : Nat) (hr : r ∈ pre) (hlt : r < heap.length) :
    QRel h0 pre (heap, q ++ [r], om, tm) { s with out := hGet heap r :: s.out } := by
  refine ⟨hR.om, hR.tm, ?_, ?_, hR.un, hR.len, hR.sub⟩
  · simp only [List.map_append, List.map_cons, List.map_nil, List.reverse_cons, hR.out]
  · intro y hy
    rcases List.mem_append.1 hy with hy | hy
    · exact hR.qr y hy
    · simp only [List.mem_singleton] at hy; subst hy; exact ⟨Or.inl hr, hlt⟩

theorem qrel_tables (hR : QRel h0 pre (heap, q, om, tm) s) (om' : Assoc (Int × Int) Int) (tm' : Assoc (Int × Int) (List Int))
    (hsub : ∀ k, om'.contains k = true → tm'.contains k = true) :
    QRel h0 pre (heap, q, om', tm') { s with opens := om', timings := tm' } :=
  ⟨rfl, rfl, hR.out, hR.qr, hR.un, hR.len, hsub⟩

theorem qrel_skip (hR : QRel h0 pre (heap, q, om, tm) s) (r : Nat) : QRel h0 (pre ++ [r]) (heap, q, om, tm) s := by
  refine ⟨hR.om, hR.tm, hR.out, ?_, ?_, hR.len, hR.sub⟩
  · intro x hx
    obtain ⟨h1, h2⟩ := hR.qr x hx
    exact ⟨by rcases h1 with h1 | h1 <;> simp [h1], h2⟩
  · intro x hx hnp
    simp only [List.mem_append, List.mem_singleton, not_or] at hnp
    exact hR.un x hx hnp.1

end

/-- NOTE_ON, the decision to open the note: the text the tail of the generated loop body reduces to (`quantise_spec` meets it by
    definitional unfolding), written out so that `onFinish_sim` can be stated about it -/
def onFinishR (k : Int × Int) (t : Int) (r : Nat) (b : QB) : Except PyErr (ForInStep QB) := do
  let c ← (if (!(b.2.2.2.contains k)) = true then pure true else do
      let x ← dictGet b.2.2.2 k
      let y ← pyGet x 1
      pure (!decide (t < y)) : Except PyErr Bool)
  if c = true then pure (ForInStep.yield (b.1, b.2.1 ++ [r], b.2.2.1.set k t, b.2.2.2.set k [t]))
  else pure (ForInStep.yield b)

/-- closing a note keeps "every open note has a list of timings" -/
theorem sub_erase_set {κ ν ν' : Type} [DecidableEq κ] {o : Assoc κ ν} {t : Assoc κ ν'} (h : ∀ k, o.contains k = true → t.contains k = true)
    (key : κ) (v : ν') : ∀ k, (o.erase key).contains k = true → (t.set key v).contains k = true :=
  fun k hk => isSome_set_of _ _ _ _ (h k (Q.contains_of_erase _ _ _ hk))

theorem onFinish_sim {h0 : Heap} {pre : List Nat} {H1 : Heap} {q1 : List Nat} {s1 : QSt}
    (hR : QRel h0 pre (H1, q1, s1.opens, s1.timings) s1) (r : Nat) (k : Int × Int) (t : Int) (m : Msg)
    (hr : r ∈ pre) (hlt : r < H1.length) (hm : hGet H1 r = { m with time := t }) :
    StepPost errMapL (Q.onFinish k t m s1) (QRel h0 pre) (onFinishR k t r (H1, q1, s1.opens, s1.timings)) := by
  have hopenrel : QRel h0 pre (H1, q1 ++ [r], s1.opens.set k t, s1.timings.set k [t])
      { s1 with out := { m with time := t } :: s1.out, opens := s1.opens.set k t, timings := s1.timings.set k [t] } := by
    have h2 := qrel_tables (qrel_keep hR r hr hlt) (s1.opens.set k t) (s1.timings.set k [t]) (by
      intro k' hk'
      by_cases hk : k = k'
      · subst hk; exact Q.isSome_set_self _ _ _
      · exact isSome_set_of _ _ _ _ (hR.sub k' (Q.contains_of_set_ne _ _ _ _ hk hk')))
    rw [hm] at h2
    exact h2
  unfold Q.onFinish onFinishR
  simp only [Q.contains_eq]
  rcases Option.eq_none_or_eq_some (s1.timings.get? k) with hg | ⟨tm, hg⟩
  · simp only [hg, Option.isSome_none, Bool.not_false, if_true, pure_bind]
    exact StepPost.yield hopenrel
  · simp only [hg, Option.isSome_some, Bool.not_true, Bool.false_eq_true, if_false, dictGet_some hg, ok_bind]
    cases h1 : tm[1]? with
    | none =>
      have : pyGet tm 1 = .error .indexError := by
        unfold pyGet
        simp only [show ¬ ((1 : Int) < 0) by omega, if_false, show (1 : Int).toNat = 1 from rfl, h1]
        rfl
      rw [this]
      exact StepPost.raise _
    | some lo =>
      have : pyGet tm 1 = .ok lo := by
        unfold pyGet
        simp only [show ¬ ((1 : Int) < 0) by omega, if_false, show (1 : Int).toNat = 1 from rfl, h1]
        rfl
      simp only [this, ok_bind, pure_bind]
      by_cases hlt' : t < lo
      · simp only [hlt', decide_true, Bool.not_true, Bool.false_eq_true, if_false]
        exact StepPost.yield hR
      · simp only [hlt', decide_false, Bool.not_false, if_true]
        exact StepPost.yield hopenrel

/-- `for shift, k in enumerate(ks): l.pop(k - shift)` -/
def popAll {α : Type} : List α → List Nat → Nat → List α
  | l, [], _ => l
  | l, k :: ks, sh => popAll (l.eraseIdx (k - sh)) ks (sh + 1)

/-- keep the elements whose index (counted from `sh`) is not listed -/
def keepNot {α : Type} (l : List α) (ks : List Nat) (sh : Nat) : List α :=
  ((l.zipIdx sh).filter (fun p => !ks.contains p.2)).map (·.1)

theorem popAll_append {α : Type} (A : List α) : ∀ (ks : List Nat) (B : List α) (sh : Nat), ks.Pairwise (· < ·) →
    (∀ k ∈ ks, sh + A.length ≤ k) → popAll (A ++ B) ks sh = A ++ popAll B ks (sh + A.length) := by
  intro ks
  induction ks with
  | nil => intro B sh _ _; rfl
  | cons k ks ih =>
    intro B sh hp h
    have hk := h k (by simp)
    have hp' := List.pairwise_cons.1 hp
    simp only [popAll]
    rw [List.eraseIdx_append_of_length_le (by omega)]
    have : k - sh - A.length = k - (sh + A.length) := by omega
    rw [this, ih _ (sh + 1) hp'.2 (fun k' hk' => by have := hp'.1 k' hk'; omega)]
    congr 2
    omega

theorem keepNot_append {α : Type} (A B : List α) (ks : List Nat) (sh : Nat) (h : ∀ k ∈ ks, sh + A.length ≤ k) :
    keepNot (A ++ B) ks sh = A ++ keepNot B ks (sh + A.length) := by
  unfold keepNot
  rw [List.zipIdx_append, List.filter_append, List.map_append]
  congr 1
  · have : (A.zipIdx sh).filter (fun p => !ks.contains p.2) = A.zipIdx sh := by
      apply List.filter_eq_self.2
      intro p hp
      have hlt : p.2 < sh + A.length := by
        have := List.mem_zipIdx hp
        omega
      simp only [Bool.not_eq_true', List.contains_eq_mem, decide_eq_false_iff_not]
      intro hm
      have := h p.2 hm
      omega
    rw [this]
    exact List.zipIdx_map_fst sh A

theorem popAll_eq_keepNot {α : Type} : ∀ (ks : List Nat) (l : List α) (sh : Nat), ks.Pairwise (· < ·) →
    (∀ k ∈ ks, sh ≤ k ∧ k < sh + l.length) → popAll l ks sh = keepNot l ks sh := by
  intro ks
  induction ks with
  | nil =>
    intro l sh _ _
    simp only [popAll, keepNot, List.contains_nil, Bool.not_false]
    rw [List.filter_eq_self.2 (by simp)]; exact (List.zipIdx_map_fst sh l).symm
  | cons k ks ih =>
    intro l sh hp hb
    have hk := hb k (by simp)
    have hp' := List.pairwise_cons.1 hp
    obtain ⟨p, hpk⟩ : ∃ p, k = sh + p := ⟨k - sh, by omega⟩
    subst hpk
    have hpl : p < l.length := by omega
    have hsplit : l = l.take p ++ l[p] :: l.drop (p + 1) := by
      rw [← List.drop_eq_getElem_cons hpl, List.take_append_drop]
    simp only [popAll, Nat.add_sub_cancel_left]
    have herase : l.eraseIdx p = l.take p ++ l.drop (p + 1) := by
      rw [List.eraseIdx_eq_take_drop_succ]
    rw [herase]
    have hlen : (l.take p).length = p := by simp; omega
    rw [popAll_append _ _ _ _ hp'.2 (by
      intro k' hk'
      have := hp'.1 k' hk'
      rw [hlen]; omega)]
    rw [hlen]
    rw [ih (l.drop (p + 1)) (sh + 1 + p) hp'.2 (by
      intro k' hk'
      have h1 := hp'.1 k' hk'
      have h2 := hb k' (by simp [hk'])
      simp only [List.length_drop]
      omega)]
    conv => rhs; rw [hsplit]
    rw [keepNot_append _ _ _ _ (by
      intro k' hk'
      rw [hlen]
      rcases List.mem_cons.1 hk' with rfl | hk'
      · omega
      · have := hp'.1 k' hk'; omega)]
    rw [hlen]
    congr 1
    unfold keepNot
    simp only [List.zipIdx_cons, List.filter_cons, List.contains_cons, beq_self_eq_true, Bool.true_or, Bool.not_true,
      Bool.false_eq_true, if_false]
    have : sh + p + 1 = sh + 1 + p := by omega
    rw [this]
    congr 1
    apply List.filter_congr
    intro q hq
    have hq2 : sh + 1 + p ≤ q.2 := (List.mem_zipIdx hq).1
    have : (q.2 == sh + p) = false := by simp; omega
    simp [this]

theorem keepNot_map {α β : Type} (f : α → β) (l : List α) (ks : List Nat) (sh : Nat) :
    keepNot (l.map f) ks sh = (keepNot l ks sh).map f := by
  induction l generalizing sh with
  | nil => rfl
  | cons x xs ih =>
    simp only [keepNot, List.map_cons, List.zipIdx_cons, List.filter_cons] at ih ⊢
    split
    · simp only [List.map_cons, List.cons.injEq, true_and]; exact ih (sh + 1)
    · exact ih (sh + 1)

theorem keepNot_congr {α : Type} (l : List α) (ks ks' : List Nat) (sh : Nat) (h : ∀ x, ks.contains x = ks'.contains x) :
    keepNot l ks sh = keepNot l ks' sh := by
  unfold keepNot
  congr 1
  apply List.filter_congr
  intro p _
  rw [h]

theorem removeIndices_eq (l : List Msg) (idx : List Nat) : removeIndices l idx = keepNot l idx 0 := rfl

def sortNat (l : List Nat) : List Nat := isort (fun a b => decide (a ≤ b)) l

theorem sortNat_strict (l : List Nat) (h : l.Nodup) : (sortNat l).Pairwise (· < ·) := by
  have hs := isort_sorted (fun a b : Nat => decide (a ≤ b)) (by intro a b c; simp; omega) (by intro a b; simp; omega) l
  have hn : (sortNat l).Nodup := ((isort_perm _ l).nodup_iff).2 h
  unfold sortNat at hn ⊢
  generalize isort (fun a b => decide (a ≤ b)) l = s at hs hn
  induction s with
  | nil => exact List.Pairwise.nil
  | cons x xs ih =>
    have hs' := List.pairwise_cons.1 hs
    have hn' := List.nodup_cons.1 hn
    refine List.pairwise_cons.2 ⟨?_, ih hs'.2 hn'.2⟩
    intro b hb
    have h1 := hs'.1 b hb
    simp only [decide_eq_true_eq] at h1
    have : x ≠ b := fun e => hn'.1 (e ▸ hb)
    omega

theorem pySortedInt_cast (l : List Nat) : pySortedInt (l.map (fun (x : Nat) => (x : Int))) = (sortNat l).map (fun (x : Nat) => (x : Int)) := by
  unfold pySortedInt sortNat
  rw [← map_isort (fun (x : Nat) => (x : Int)) (fun a b : Int => decide (a ≤ b)) l]
  congr 1
  apply isort_congr
  intro a _ b _
  simp

theorem pyPopAt_nat {α : Type} (l : List α) (n : Nat) (h : n < l.length) : pyPopAt l (n : Int) = .ok (l.eraseIdx n) := by
  unfold pyPopAt
  have h0 : ¬ ((n : Int) < 0) := by omega
  simp only [h0, if_false, Int.toNat_natCast, h, if_true]
  rfl

theorem pop_loop {α : Type} : ∀ (ks : List Nat) (l : List α) (sh : Nat), ks.Pairwise (· < ·) →
    (∀ k ∈ ks, sh ≤ k ∧ k < sh + l.length) →
    forIn (enumFrom (sh : Int) (ks.map (fun (x : Nat) => (x : Int)))) l
      (fun (x : Int × Int) (s : List α) => (do let r ← pyPopAt s (x.2 - x.1); pure (ForInStep.yield r) : Except PyErr (ForInStep (List α))))
      = .ok (popAll l ks sh) := by
  intro ks
  induction ks with
  | nil => intro l sh _ _; simp [enumFrom_nil, popAll]; rfl
  | cons k ks ih =>
    intro l sh hp hb
    have hk := hb k (by simp)
    have hp' := List.pairwise_cons.1 hp
    simp only [List.map_cons, enumFrom_cons, List.forIn_cons, popAll]
    have hsub : ((k : Int) - (sh : Int)) = ((k - sh : Nat) : Int) := by omega
    rw [hsub, pyPopAt_nat _ _ (by omega)]
    simp only [ok_bind]
    have hsh : ((sh : Int) + 1) = ((sh + 1 : Nat) : Int) := by omega
    rw [hsh]
    exact ih _ (sh + 1) hp'.2 (by
      intro k' hk'
      have h1 := hp'.1 k' hk'
      have h2 := hb k' (by simp [hk'])
      rw [List.length_eraseIdx]
      split <;> omega)

/-- the generated `quantise` does what the model does: the final `_messages`, read through the final heap, are the model's result, or both
    fail with the same error.  (D41: the source begins with `normalise_absolute()`; the model is `quantiseS` = the walk on the sorted
    list, and the loops run on the references `sortRefs h0 refs0`.) -/
theorem quantise_spec (h0 : Heap) (refs0 : List Nat) (steps : List Int) (hrefs0 : RefsOk h0 refs0)
    (hok : HeapChOk h0) (hnd0 : refs0.Nodup) (hpos : ∀ s ∈ steps, 0 < s) :
    Agrees errMapL (fun r m => deref r.1 r.2 = m) (SCoda.quantiseS steps (deref h0 refs0)) (Gen.Abs2.quantise h0 refs0 (some steps)) := by
  unfold Gen.Abs2.quantise
  simp only [Option.isNone_some, Bool.false_eq_true, if_false, normaliseAbsolute_eq, ok_bind]
  have hrefs := hrefs0.sortRefs h0
  have hnd : (sortRefs h0 refs0).Nodup := (isort_perm _ refs0).nodup_iff.2 hnd0
  rw [SCoda.quantiseS, SCoda.normaliseAbs, ← deref_sortRefs]
  generalize sortRefs h0 refs0 = refs at hrefs hnd ⊢
  unfold SCoda.quantise
  rw [foldlM'_eq, deref, List.foldlM_map]
  refine Agrees.bind (Agrees.loop errMapL (fun pre b s => QRel h0 pre b s) (fun s r => qStep steps s (hGet h0 r)) _ refs
    (h0, [], [], []) {} ?hinit ?hstep) ?hok
  case hinit =>
    exact ⟨rfl, rfl, rfl, by simp, fun _ _ _ => rfl, Nat.le_refl _, by intro k hk; simp [Assoc.contains, Assoc.get?] at hk⟩
  case hok =>
    rintro ⟨heap, q, om, tm⟩ s' _ hR
    have hq : q.map (hGet heap) = s'.out.reverse := hR.out
    simp only []
    rw [collapsedGo_fold, ← hq, bind_assoc, pyEnumerate_eq]
    have hfoldeq : (q.map (hGet heap)).foldlM cstep (0, [], [])
        = (enumFrom 0 q).foldlM (fun st (x : Int × Nat) => cstep st (hGet heap x.2)) (0, [], []) := by
      rw [← List.foldlM_map (f := fun x : Int × Nat => hGet heap x.2) (g := cstep)]
      congr 1
      have : (fun x : Int × Nat => hGet heap x.2) = hGet heap ∘ (·.2) := rfl
      rw [this, ← List.map_map, map_snd_enumFrom]
    rw [hfoldeq]
    refine Agrees.bind (Agrees.loop errMapL
      (fun (pre : List (Int × Nat)) (b : Assoc (Int × Int) (Int × Int) × List Int) (st : CSt) =>
        st.1 = pre.length ∧ b.1 = amapV (fun jt : Nat × Int => ((jt.1 : Int), jt.2)) st.2.1 ∧ b.2 = st.2.2.map (fun (x : Nat) => (x : Int)))
      (fun st x => cstep st (hGet heap x.2)) _ (enumFrom 0 q) ([], []) (0, [], []) ⟨rfl, rfl, rfl⟩ ?hstep2) ?hok2
    case hstep2 =>
      rintro pre ⟨iI, msg⟩ post ⟨tblG, idxG⟩ ⟨i, tbl, acc⟩ hl ⟨h1, h2, h3⟩
      simp only at h1 h2 h3
      subst h1 h2 h3
      have hiI : iI = (pre.length : Int) := (enumFrom_split q pre post (iI, msg) hl).1
      subst hiI
      simp only [cstep, Msg.nkey]
      by_cases hon : (hGet heap msg).ty = .noteOn
      · simp only [hon, beq_self_eq_true, if_true]
        refine StepPost.yield ⟨by simp, ?_, rfl⟩
        simp only
        rw [← set_amapV]
      · have hon' : ((hGet heap msg).ty == MType.noteOn) = false := by simpa using hon
        by_cases hoff : (hGet heap msg).ty = .noteOff
        · simp only [hoff, beq_self_eq_true, if_true, show (MType.noteOff == MType.noteOn) = false from rfl, Bool.false_eq_true, if_false]
          have hgg := get?_amapV (fun jt : Nat × Int => ((jt.1 : Int), jt.2)) tbl ((hGet heap msg).ch, (hGet heap msg).note)
          rcases Option.eq_none_or_eq_some (tbl.get? ((hGet heap msg).ch, (hGet heap msg).note)) with hg | ⟨jt, hg⟩
          · rw [hg] at hgg
            simp only [hg, dictGet_none hgg]
            exact StepPost.raise _
          · rw [hg] at hgg
            simp only [hg, dictGet_some hgg, ok_bind]
            by_cases hc : (hGet heap msg).time - jt.2 ≤ 0
            · simp only [hc, decide_true, if_true]
              refine StepPost.yield ⟨by simp, ?_, by simp⟩
              simp only
              rw [erase_amapV]
            · simp only [hc, decide_false, Bool.false_eq_true, if_false]
              refine StepPost.yield ⟨by simp, ?_, rfl⟩
              simp only
              rw [erase_amapV]
        · have hoff' : ((hGet heap msg).ty == MType.noteOff) = false := by simpa using hoff
          simp only [hon', hoff', Bool.false_eq_true, if_false]
          exact StepPost.yield ⟨by simp, rfl, rfl⟩
    case hok2 =>
      rintro ⟨tblG, idxG⟩ ⟨i, tbl, acc⟩ hf ⟨hlen, _, h3⟩
      simp only [length_enumFrom] at hlen h3
      subst h3
      have hinv := foldlM_inv (fun st : CSt => Q.TInv st.1 st.2.1 st.2.2 ∧ st.2.2.Nodup) (fun _ => True) _
        (fun _ st st' _ h hs => cstep_inv st _ h st' hs) _ _ _ (fun _ _ => trivial) ⟨Q.tInv_init, List.nodup_nil⟩ hf
      simp only [ok_bind]
      rw [pySortedInt_cast, pyEnumerate_eq]
      have hsorted := sortNat_strict acc hinv.2
      have hbound : ∀ k ∈ sortNat acc, 0 ≤ k ∧ k < 0 + q.length := by
        intro k hk
        have := hinv.1.accLt k ((mem_isort _ _ _).1 hk)
        simp only at this
        omega
      have hpop := pop_loop (sortNat acc) q 0 hsorted hbound
      simp only [Int.natCast_zero] at hpop
      rw [hpop]
      simp only [ok_bind]
      refine ⟨_, rfl, (?_ : deref _ _ = _)⟩
      rw [deref_sortRefs, popAll_eq_keepNot _ _ _ hsorted hbound, deref, ← keepNot_map, removeIndices_eq]
      congr 1
      apply keepNot_congr
      intro x
      simp only [List.contains_eq_mem, sortNat, mem_isort]
  case hstep =>
    intro pre r post b s hl hR
    obtain ⟨heap, q, om, tm⟩ := b
    have hrl : r < h0.length := hrefs r (by rw [hl]; simp)
    have hrp : r ∉ pre := not_mem_pre hnd hl
    have hnq : r ∉ q := q_notin hR r hrp hrl
    have hg : hGet heap r = hGet h0 r := hR.un r hrl hrp
    have hrh : r < heap.length := by have := hR.len; simp only at this; omega
    have hR1 := qrel_skip hR r
    obtain ⟨hom, htm⟩ : om = s.opens ∧ tm = s.timings := ⟨hR.om, hR.tm⟩
    subst hom htm
    have hget : s.opens.contains ((hGet h0 r).ch, (hGet h0 r).note) = true → dictGet s.timings ((hGet h0 r).ch, (hGet h0 r).note)
        = .ok ((s.timings.get? ((hGet h0 r).ch, (hGet h0 r).note)).getD []) := fun h => dictGet_getD _ _ [] (hR.sub _ h)
    have hright := positions_right (hGet h0 r).time steps
    simp only [optGet, pure_bind] at hright
    have hposs : steps.map (fun s => (hGet h0 r).time / s * s) ++ steps.map (fun s => (hGet h0 r).time / s * s + s)
        = possiblePositions steps (hGet h0 r).time := rfl
    simp only [optGet, optAttr, pure_bind, hg, positions_left _ steps hpos, ok_bind, hright, List.nil_append, hposs]
    generalize hpp : possiblePositions steps (hGet h0 r).time = pp
    by_cases hon : (hGet h0 r).ty = .noteOn
    · simp only [hon, beq_self_eq_true, if_true]
      rw [nearest_bind, nearestR_eq]
      cases hn : nearest (hGet h0 r).time pp with
      | error e =>
        have : qStep steps s (hGet h0 r) = .error e := by
          unfold qStep; simp only [hon, hpp, hn]; rfl
        rw [this]; rfl
      | ok t =>
        simp only [ok_bind]
        have hH : (hUpd heap r fun o_ => { ty := o_.ty, ch := o_.ch, time := t, note := o_.note, vel := o_.vel, ctl := o_.ctl, prog := o_.prog, num := o_.num, den := o_.den, key := o_.key }) = setTime heap r t := rfl
        have h1 : hGet (setTime heap r t) r = ({ (hGet h0 r) with time := t } : Msg) := by rw [hGet_setTime_self _ _ _ hrh, hg]
        have h2 : ∀ x, hGet (setTime heap r t ++ x) r = ({ (hGet h0 r) with time := t } : Msg) := by
          intro x; rw [hGet_append_lt _ _ _ (by rw [length_setTime]; exact hrh), h1]
        simp only [hH, h1, h2]
        rw [Q.qStep_on steps s _ hon, hpp, hn]
        simp only [Msg.nkey]
        have hR2 := qrel_store hR1 r (by simp) hnq t
        have hch : chanOfInt (hGet h0 r).ch = (hGet h0 r).ch := chanOfInt_ok (hok _ (hGet_mem h0 r hrl))
        by_cases hopen : s.opens.contains ((hGet h0 r).ch, (hGet h0 r).note) = true
        · -- the note is still open: it is closed at the new onset first
          simp only [hopen, if_true, hget hopen, ok_bind, Q.preOn, Msg.nkey, hch, length_setTime]
          have hR3 := qrel_tables (qrel_fresh hR2 (Msg.mkOff (hGet h0 r).ch (hGet h0 r).note t))
            (s.opens.erase ((hGet h0 r).ch, (hGet h0 r).note))
            (s.timings.set ((hGet h0 r).ch, (hGet h0 r).note) ((s.timings.get? ((hGet h0 r).ch, (hGet h0 r).note)).getD [] ++ [t]))
            (sub_erase_set hR.sub _ _)
          rw [length_setTime] at hR3
          exact onFinish_sim (s1 := QSt.mk (Msg.mkOff (hGet h0 r).ch (hGet h0 r).note t :: s.out)
              (s.opens.erase ((hGet h0 r).ch, (hGet h0 r).note))
              (s.timings.set ((hGet h0 r).ch, (hGet h0 r).note) ((s.timings.get? ((hGet h0 r).ch, (hGet h0 r).note)).getD [] ++ [t])))
            hR3 r ((hGet h0 r).ch, (hGet h0 r).note) t (hGet h0 r) (by simp)
            (by rw [List.length_append, length_setTime]; omega) (h2 _)
        · have hopen' : s.opens.contains ((hGet h0 r).ch, (hGet h0 r).note) = false := by simpa using hopen
          simp only [hopen', Bool.false_eq_true, if_false, Q.preOn, Msg.nkey]
          exact onFinish_sim hR2 r ((hGet h0 r).ch, (hGet h0 r).note) t (hGet h0 r) (by simp)
            (by rw [length_setTime]; exact hrh) h1
    · have hon' : ((hGet h0 r).ty == MType.noteOn) = false := by simpa using hon
      simp only [hon', Bool.false_eq_true, if_false]
      by_cases hoff : (hGet h0 r).ty = .noteOff
      · simp only [hoff, beq_self_eq_true, if_true]
        rw [Q.qStep_off steps s _ hoff, hpp]
        simp only [Msg.nkey, Q.contains_eq]
        rcases Option.eq_none_or_eq_some (s.opens.get? ((hGet h0 r).ch, (hGet h0 r).note)) with hopen | ⟨openT, hopen⟩
        · simp only [hopen, Option.isSome_none, Bool.false_eq_true, if_false]
          exact StepPost.yield hR1
        · simp only [hopen, Option.isSome_some, if_true, dictGet_some hopen, ok_bind]
          rw [forIn_spec' _ (fun l st => pure (st ++ l.filter (fun p => !(decide (p - openT ≤ 0)))))]
          rotate_left
          · intro b; simp
          · intro a as b
            by_cases hc : (!(decide (a - openT ≤ 0))) = true
            · simp [hc]
            · simp [hc]
          simp only [List.nil_append, pure_bind]
          have hget := hget (by rw [Q.contains_eq, hopen]; rfl)
          -- the rest is the same for both forms of `valid_positions`
          have hbody : ∀ V : List Int, (do
                let i ← Gen.Abs2.findMinimalDistance (hGet h0 r).time V
                let t ← pyGet V i
                let c8_ ← dictGet s.timings ((hGet h0 r).ch, (hGet h0 r).note)
                pure (ForInStep.yield (hUpd heap r (fun o_ => { o_ with time := t }), q ++ [r], s.opens.erase ((hGet h0 r).ch, (hGet h0 r).note),
                  s.timings.set ((hGet h0 r).ch, (hGet h0 r).note) (c8_ ++ [(hGet (hUpd heap r (fun o_ => { o_ with time := t })) r).time])) : ForInStep QB)
              : Except PyErr (ForInStep QB))
              = (match nearest (hGet h0 r).time V with
                 | .ok t => .ok (ForInStep.yield (setTime heap r t, q ++ [r], s.opens.erase ((hGet h0 r).ch, (hGet h0 r).note),
                      s.timings.set ((hGet h0 r).ch, (hGet h0 r).note) ((s.timings.get? ((hGet h0 r).ch, (hGet h0 r).note)).getD [] ++ [t])))
                 | .error e => .error (errMapL e)) := by
            intro V
            rw [nearest_bind, nearestR_eq]
            cases hn : nearest (hGet h0 r).time V with
            | error e => rfl
            | ok t =>
              simp only [ok_bind, hget]
              have hst : (hGet (hUpd heap r (fun o_ => { o_ with time := t })) r).time = t := by
                have := hGet_setTime_self heap r t hrh
                simp only [setTime] at this
                rw [this]
              rw [hst]
              rfl
          have hrel : ∀ t, QRel h0 (pre ++ [r]) (setTime heap r t, q ++ [r], s.opens.erase ((hGet h0 r).ch, (hGet h0 r).note),
                s.timings.set ((hGet h0 r).ch, (hGet h0 r).note) ((s.timings.get? ((hGet h0 r).ch, (hGet h0 r).note)).getD [] ++ [t]))
              (QSt.mk ({ (hGet h0 r) with time := t } :: s.out) (s.opens.erase ((hGet h0 r).ch, (hGet h0 r).note))
                (s.timings.set ((hGet h0 r).ch, (hGet h0 r).note) ((s.timings.get? ((hGet h0 r).ch, (hGet h0 r).note)).getD [] ++ [t]))) := by
            intro t
            have h2 := qrel_keep (qrel_store hR1 r (by simp) hnq t) r (by simp) (by rw [length_setTime]; exact hrh)
            rw [hGet_setTime_self _ _ _ hrh, hg] at h2
            exact qrel_tables h2 _ _ (sub_erase_set hR.sub _ _)
          generalize hf : pp.filter (fun p => !(decide (p - openT ≤ 0))) = filt
          cases filt with
          | nil =>
            simp only [List.length_nil, Int.natCast_zero, beq_self_eq_true, if_true, List.nil_append]
            have hb := hbody [openT]
            rw [hb]
            cases hn : nearest (hGet h0 r).time [openT] with
            | error e => exact StepPost.raise e
            | ok t => exact StepPost.yield (hrel t)
          | cons a as =>
            have h1 : ((((a :: as).length : Nat) : Int) == 0) = false := by simp; omega
            have h2 : ((a :: as).length == 0) = false := by simp
            simp only [h1, h2, Bool.false_eq_true, if_false]
            have hb := hbody (a :: as)
            rw [hb]
            cases hn : nearest (hGet h0 r).time (a :: as) with
            | error e => exact StepPost.raise e
            | ok t => exact StepPost.yield (hrel t)
      · have hoff' : ((hGet h0 r).ty == MType.noteOff) = false := by simpa using hoff
        simp only [hoff', Bool.false_eq_true, if_false]
        rw [Q.qStep_other steps s _ hon hoff, hpp, nearest_bind, nearestR_eq]
        cases hn : nearest (hGet h0 r).time pp with
        | error e => exact StepPost.raise e
        | ok t =>
          simp only [ok_bind]
          refine StepPost.yield ?_
          have h2 := qrel_keep (qrel_store hR1 r (by simp) hnq t) r (by simp) (by rw [length_setTime]; exact hrh)
          rw [hGet_setTime_self _ _ _ hrh, hg] at h2
          exact h2

/-- the default `step_sizes=None` is `get_default_step_sizes()` -/
theorem quantise_none (h0 : Heap) (refs : List Nat) :
    Gen.Abs2.quantise h0 refs none = Gen.Abs2.quantise h0 refs (some Gen.defaultStepSizes) := by
  unfold Gen.Abs2.quantise
  -- both sides are the head `if`; reduce each to the rest of the method run on the default (`rfl` would first compare the
  -- two `else` branches, the whole rest of the method on `none` against the rest on `some …`)
  exact (if_pos rfl).trans (ite_self _).symm

end SCoda.AbsTie2L
