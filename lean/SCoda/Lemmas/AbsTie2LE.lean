/-
  `equals`: the generated `equals` (two calls of `get_interleaved_message_pairings` on one heap, then the comparison loop with
  early returns) against `equalsAbs` / `pairEq`.
-/
import SCoda.Lemmas.AbsTie2LI
import SCoda.Lemmas.Equals
namespace SCoda.AbsTie2L
open SCoda SCoda.Gen.Abs2 SCoda.AbsTie2

theorem zipAll_map {α β : Type} (p : β → β → Bool) (g : α → β) : ∀ (xs ys : List α), xs.length = ys.length →
    zipAll p (xs.map g) (ys.map g) = (xs.zip ys).all (fun z => p (g z.1) (g z.2)) := by
  intro xs
  induction xs with
  | nil => intro ys h; cases ys with | nil => rfl | cons y ys => simp at h
  | cons x xs ih =>
    intro ys h
    cases ys with
    | nil => simp at h
    | cons y ys => simp only [List.map_cons, zipAll, List.zip_cons_cons, List.all_cons]; rw [ih ys (by simpa using h)]

section guard
variable {ε β : Type} {Y D : ForInStep β}

/-- a loop body that starts with `if c: return …`: if the rest continues exactly when `q`, the whole continues exactly when
    `if c then false else q` (the form in which the hand models write the same test) -/
theorem guard_ok {c q : Bool} {K : Except ε (ForInStep β)} (hK : c = false → K = .ok (if q = true then Y else D)) :
    (if c = true then pure D else K) = .ok (if (if c = true then false else q) = true then Y else D) := by
  cases c
  · exact hK rfl
  · rfl

theorem guard_last {c : Bool} : (if c = true then pure D else pure Y : Except ε (ForInStep β)) = .ok (if (!c) = true then Y else D) := by
  cases c <;> rfl
end guard

/-- shape of a completed pairing of references (impute_notes=True): non-empty, a note-on head is followed by its note-off -/
def GoodR (h : Heap) (p : List Nat) : Prop := ∃ r rest, p = r :: rest ∧ ((hGet h r).ty = .noteOn → rest ≠ [])

theorem goodR_of_model (h : Heap) (p : List Nat) (hg : EQ.Good (deref h p)) : GoodR h p := by
  obtain ⟨m, rest, he, hr⟩ := hg
  cases p with
  | nil => simp [deref] at he
  | cons r rs =>
    simp only [deref, List.map_cons, List.cons.injEq] at he
    refine ⟨r, rs, rfl, ?_⟩
    intro hty
    have := hr (by rw [← he.1]; exact hty)
    intro e; subst e; simp at he; exact this he.2

/-- the types `equals` pairs, from its two flags: `EQ.typesOf`, as the generated code builds the list from two Booleans -/
def eqTypes (its iks : Bool) : List MType := EQ.typesOf { ignoreTs := its, ignoreKs := iks }

theorem eq_types_k (its iks : Bool) (k : List MType → Except PyErr (Heap × List Nat × List Nat × Bool))
    (R : Except PyErr (Heap × List Nat × List Nat × Bool)) (hk : k (eqTypes its iks) = R) :
    (if its = true then (do let t ← pyRemove [MType.noteOn, MType.noteOff, MType.timeSignature, MType.keySignature] MType.timeSignature
                            (if iks = true then (do let t2 ← pyRemove t MType.keySignature; k t2) else k t))
     else (if iks = true then (do let t2 ← pyRemove [MType.noteOn, MType.noteOff, MType.timeSignature, MType.keySignature] MType.keySignature; k t2)
           else k [MType.noteOn, MType.noteOff, MType.timeSignature, MType.keySignature])) = R := by
  have hrem1 : pyRemove [MType.noteOn, MType.noteOff, MType.timeSignature, MType.keySignature] MType.timeSignature
      = .ok [MType.noteOn, MType.noteOff, MType.keySignature] := rfl
  have hrem2 : pyRemove [MType.noteOn, MType.noteOff, MType.keySignature] MType.keySignature = .ok [MType.noteOn, MType.noteOff] := rfl
  have hrem3 : pyRemove [MType.noteOn, MType.noteOff, MType.timeSignature, MType.keySignature] MType.keySignature
      = .ok [MType.noteOn, MType.noteOff, MType.timeSignature] := rfl
  cases its <;> cases iks <;> simp only [hrem1, hrem2, hrem3, ok_bind, if_true, Bool.false_eq_true, if_false] <;> exact hk

/-- the final heap is named: the initial heap with the objects the two calls create appended (audit round 4, item C6) -/
theorem equals_spec_grows (h0 : Heap) (self other : List Nat) (f : EqFlags)
    (hs : RefsOk h0 self) (ho : RefsOk h0 other) (hok : HeapChOk h0) :
    ∃ x, Gen.Abs2.equals h0 self other f.ignoreCh f.ignoreTs f.ignoreKs f.ignoreVel
      = .ok (h0 ++ x, sortRefs h0 self, sortRefs h0 other, equalsAbs Gen.ppqn f (deref h0 self) (deref h0 other)) := by
  obtain ⟨⟨h1, S1, sp⟩, hc1, hS1, hp1, hok1, hsp⟩ := (gip_sat h0 self (eqTypes f.ignoreTs f.ignoreKs) Gen.ppqn true hs hok).run
  obtain ⟨⟨h2, S2, op⟩, hc2, hS2, hp2, _, _, hop⟩ := (gip_sat h1 other (eqTypes f.ignoreTs f.ignoreKs) Gen.ppqn true (ho.mono hp1) hok1).run
  simp only at hS1 hp1 hsp hS2 hp2 hop
  subst hS1 hS2
  rw [deref_mono hp1 ho] at hop
  have hsp2 := (hsp.mono hp2).2
  have hso : sortRefs h1 other = sortRefs h0 other := sortRefs_mono hp1 ho
  obtain ⟨x, hx⟩ := hp1.trans hp2
  have hgood : ∀ (l : List (Int × List Nat)) (a : List Msg),
      l.map (fun x => (x.1, deref h2 x.2)) = interleaved (eqTypes f.ignoreTs f.ignoreKs) Gen.ppqn true a → ∀ x ∈ l, GoodR h2 x.2 := by
    intro l a hl x hx
    have hm : (x.1, deref h2 x.2) ∈ interleaved (eqTypes f.ignoreTs f.ignoreKs) Gen.ppqn true a := by
      rw [← hl]; exact List.mem_map.2 ⟨x, hx, rfl⟩
    exact goodR_of_model _ _ (EQ.inv_interleaved (fun _ => True) _ _ _ (fun _ _ => trivial) _ hm).2
  refine ⟨x, ?_⟩
  rw [hx]
  unfold Gen.Abs2.equals
  simp only [Bool.not_true, Bool.false_eq_true, if_false]
  apply eq_types_k
  simp only [hc1, ok_bind, hc2, hso]
  have hmodel : equalsAbs Gen.ppqn f (deref h0 self) (deref h0 other)
      = ((sp.length == op.length) && zipAll (pairEq f) (sp.map (fun x => (x.1, deref h2 x.2))) (op.map (fun x => (x.1, deref h2 x.2)))) := by
    simp only [equalsAbs]
    rw [show ([MType.noteOn, MType.noteOff] ++ (if f.ignoreTs = true then [] else [MType.timeSignature]) ++
        (if f.ignoreKs = true then [] else [MType.keySignature])) = eqTypes f.ignoreTs f.ignoreKs from rfl, ← hsp2, ← hop]
    simp
  rw [hmodel]
  by_cases hlen : sp.length = op.length
  · have hl1 : (!((sp.length : Int) == (op.length : Int))) = false := by simp [hlen]
    have hl2 : (sp.length == op.length) = true := by simp [hlen]
    simp only [hl1, Bool.false_eq_true, if_false, hl2, Bool.true_and]
    rw [zipAll_map _ _ _ _ hlen, forIn_all (fun z => pairEq f (z.1.1, deref h2 z.1.2) (z.2.1, deref h2 z.2.2)) (none, ())
      (some (h2, sortRefs h0 self, sortRefs h0 other, false), ())]
    · cases List.all (sp.zip op) (fun z => pairEq f (z.1.1, deref h2 z.1.2) (z.2.1, deref h2 z.2.2)) <;> rfl
    · rintro ⟨⟨cx, px⟩, ⟨cy, py⟩⟩ hz
      obtain ⟨rx, rxs, hpx, hgx⟩ := hgood sp _ hsp2 _ (List.of_mem_zip hz).1
      obtain ⟨ry, rys, hpy, hgy⟩ := hgood op _ hop _ (List.of_mem_zip hz).2
      simp only at hpx hpy hgx hgy
      subst hpx hpy
      have hg0x : pyGet (rx :: rxs) 0 = .ok rx := rfl
      have hg0y : pyGet (ry :: rys) 0 = .ok ry := rfl
      simp only [hg0x, hg0y, ok_bind, pairEq, deref, List.map_cons]
      refine guard_ok fun _ => guard_ok fun hty => guard_ok fun _ => ?_
      by_cases hon : (hGet h2 rx).ty = .noteOn
      · obtain ⟨sx, rxs', rfl⟩ := List.exists_cons_of_ne_nil (hgx hon)
        obtain ⟨sy, rys', rfl⟩ := List.exists_cons_of_ne_nil (hgy (bne_eq_false_iff_eq.1 hty ▸ hon))
        have hg1x : pyGet (rx :: sx :: rxs') 1 = .ok sx := rfl
        have hg1y : pyGet (ry :: sy :: rys') 1 = .ok sy := rfl
        simp only [hon, beq_self_eq_true, if_true, hg1x, hg1y, ok_bind, List.map_cons]
        exact guard_ok fun _ => guard_ok fun _ => rfl
      · have hon' : ((hGet h2 rx).ty == MType.noteOn) = false := by simpa using hon
        by_cases hts : (hGet h2 rx).ty = .timeSignature
        · simp only [hts, beq_self_eq_true, if_true]
          exact guard_last
        · have hts' : ((hGet h2 rx).ty == MType.timeSignature) = false := by simpa using hts
          by_cases hks : (hGet h2 rx).ty = .keySignature
          · simp only [hks, beq_self_eq_true, if_true]
            exact guard_last
          · have hks' : ((hGet h2 rx).ty == MType.keySignature) = false := by simpa using hks
            simp only [hon', hts', hks', Bool.false_eq_true, if_false]
            rfl
  · have hl1 : (!((sp.length : Int) == (op.length : Int))) = true := by simp; omega
    have hl2 : (sp.length == op.length) = false := by simp [hlen]
    simp only [hl1, if_true, hl2, Bool.false_and]
    rfl

end SCoda.AbsTie2L
