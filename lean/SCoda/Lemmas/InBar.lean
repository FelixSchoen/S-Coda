/-
  What holds of the log of a whole stream; `lbe`, the last bar end as a left fold, is the start of the bar in progress
  for C19b (the in-bar time is the time since the last bar end emitted).
-/
import SCoda.Lemmas.DetokLog
namespace SCoda.InBar
open SCoda SCoda.C01

/-- running the tokens one at a time from `d`, no token moves the clock backwards -/
def Mono (c : Cfg) : DetokSt → List Tok → Prop
  | _, [] => True
  | d, t :: ts => ∀ d1 log1, dfold.dstepLog c d t.parts = .ok (d1, log1) → d.curTime ≤ d1.curTime ∧ Mono c d1 ts

theorem Mono_append {c : Cfg} {a b : List Tok} {d : DetokSt} (ha : Mono c d a)
    (hb : ∀ d1 log, dfold c d a = .ok (d1, log) → Mono c d1 b) : Mono c d (a ++ b) := by
  induction a generalizing d with
  | nil => exact hb d [] rfl
  | cons t ts ih =>
    intro d1 log1 h1
    obtain ⟨hle, hm⟩ := ha d1 log1 h1
    exact ⟨hle, ih hm (fun d2 log2 h2 => hb d2 (log1 ++ log2) (dfold_cons_ok h1 h2))⟩

def partStill : Part → Prop
  | .bar => False
  | .rest _ => False
  | _ => True

def tokStill : Tok → Prop
  | .bar => False
  | .rest _ => False
  | _ => True

theorem dpart_still (c : Cfg) (d d1 : DetokSt) (p : Part) (hp : partStill p) (h : dpart c d p = .ok d1) :
    d1.curTime = d.curTime := by
  cases p with
  | bar => exact absurd hp id
  | rest v => exact absurd hp id
  | pad | sta | sto | trk _ | val _ | vel _ => simp only [dpart] at h; cases h; rfl
  | pit p =>
    simp only [dpart] at h
    split at h
    · cases h
    · cases h; rfl
  | tsig a b =>
    simp only [dpart] at h
    split at h
    · cases h; rfl
    · split at h
      · cases h
      · cases h; rfl

theorem dstepLog_still (c : Cfg) (ps : List Part) (d d1 : DetokSt) (log : List Emit)
    (hp : ∀ p ∈ ps, partStill p) (h : dfold.dstepLog c d ps = .ok (d1, log)) : d1.curTime = d.curTime := by
  induction ps generalizing d log with
  | nil => simp only [dfold.dstepLog] at h; cases h; rfl
  | cons p ps ih =>
    obtain ⟨d2, log3, h2, h3, rfl⟩ := dstepLog_cons_inv h
    rw [ih d2 log3 (fun q hq => hp q (by simp [hq])) h3, dpart_still c d d2 p (hp p (by simp)) h2]

theorem parts_still (t : Tok) (ht : tokStill t) : ∀ p ∈ t.parts, partStill p := by
  cases t with
  | bar => exact absurd ht id
  | rest v => exact absurd ht id
  | note tr p v w =>
    cases tr <;> cases v <;> cases w <;> simp [Tok.parts, partStill]
  | pad | sta | sto | trk _ | val _ | vel _ | tsig _ _ =>
    intro q hq
    simp [Tok.parts] at hq
    subst hq; trivial

theorem Mono_still (c : Cfg) (ts : List Tok) (d : DetokSt) (h : ∀ t ∈ ts, tokStill t) : Mono c d ts := by
  induction ts generalizing d with
  | nil => trivial
  | cons t ts ih =>
    intro d1 log1 h1
    have := dstepLog_still c t.parts d d1 log1 (parts_still t (h t (by simp))) h1
    exact ⟨by omega, ih d1 (fun t' ht' => h t' (by simp [ht']))⟩

theorem dstepLog_tsig_time (c : Cfg) (ps : List Part) : ∀ (d d1 : DetokSt) (log : List Emit),
    (∀ p ∈ ps, partStill p) → dfold.dstepLog c d ps = .ok (d1, log) →
    ∀ t n dd, Emit.tsig t n dd ∈ log → t = d.curTime := by
  induction ps with
  | nil => intro d d1 log _ h t n dd ht; simp only [dfold.dstepLog] at h; cases h; simp at ht
  | cons p ps ih =>
    intro d d1 log hst h t n dd ht
    obtain ⟨dm, log2, hdm, h2, rfl⟩ := dstepLog_cons_inv h
    rcases List.mem_append.1 ht with ht | ht
    · cases p with
      | tsig a b =>
        simp only [emitOfPart] at ht
        split at ht
        · simp at ht
        · split at ht
          · simp only [List.mem_cons, List.not_mem_nil, or_false, Emit.tsig.injEq] at ht
            exact ht.1
          · simp at ht
      | pad | sta | sto | bar | rest _ | trk _ | val _ | vel _ | pit _ => simp [emitOfPart] at ht
    · rw [ih dm d1 log2 (fun q hq => hst q (List.mem_cons_of_mem _ hq)) h2 t n dd ht]
      exact dpart_still c d dm p (hst p List.mem_cons_self) hdm

theorem mono_tsig (c : Cfg) : ∀ (toks : List Tok) (d d' : DetokSt) (log : List Emit),
    Mono c d toks → dfold c d toks = .ok (d', log) →
    d.curTime ≤ d'.curTime ∧ ∀ t n dd, Emit.tsig t n dd ∈ log → d.curTime ≤ t ∧ t ≤ d'.curTime := by
  intro toks
  induction toks with
  | nil => intro d d' log _ h; simp only [dfold] at h; cases h; exact ⟨Int.le_refl _, by simp⟩
  | cons tk ts ih =>
    intro d d' log hm h
    obtain ⟨d1, log1, log2, h1, h2, rfl⟩ := dfold_cons_inv h
    obtain ⟨hle, hm'⟩ := hm d1 log1 h1
    obtain ⟨i1, i2⟩ := ih d1 d' log2 hm' h2
    refine ⟨by omega, fun t n dd ht => ?_⟩
    rcases List.mem_append.1 ht with ht | ht
    · have : t = d.curTime := by
        cases tk with
        | bar => rw [dstepLog_bar] at h1; cases h1; simp at ht
        | rest v => rw [dstepLog_rest] at h1; cases h1; simp at ht
        | pad | sta | sto | trk _ | val _ | vel _ | note _ _ _ _ | tsig _ _ =>
          exact dstepLog_tsig_time c _ d d1 log1 (parts_still _ (by simp [tokStill])) h1 t n dd ht
      omega
    · have := i2 t n dd ht
      omega

/-- the bar ends of a log, in order -/
def bes (log : List Emit) : List Int :=
  log.filterMap (fun e => match e with | .barEnd t => some t | _ => Option.none)

theorem bes_append (a b : List Emit) : bes (a ++ b) = bes a ++ bes b := by
  simp [bes, List.filterMap_append]

theorem bes_map_barEnd (xs : List Int) : bes (xs.map Emit.barEnd) = xs := by
  simp [bes, List.filterMap_map, Function.comp_def]

theorem mem_bes (t : Int) (l : List Emit) : t ∈ bes l ↔ Emit.barEnd t ∈ l := by
  simp only [bes, List.mem_filterMap]
  constructor
  · rintro ⟨e, he, h⟩
    cases e <;> simp only [Option.some.injEq, reduceCtorEq] at h
    exact h ▸ he
  · exact fun h => ⟨_, h, rfl⟩

theorem bes_nil_of_noBar (l : List Emit) (h : ∀ t, Emit.barEnd t ∉ l) : bes l = [] := by
  rw [List.eq_nil_iff_forall_not_mem]
  intro t ht
  exact h t ((mem_bes t l).1 ht)

theorem bes_filter (l : List Emit) : bes (l.filter notTsig) = bes l := by
  induction l with
  | nil => rfl
  | cons e es ih =>
    cases e
    all_goals simp only [List.filter_cons, notTsig, bes, List.filterMap_cons, if_true, Bool.false_eq_true, if_false] at ih ⊢
    all_goals rw [ih]


/-- last bar end of `log`, or `L` if there is none -/
def lbe (L : Int) (log : List Emit) : Int :=
  log.foldl (fun acc e => match e with | .barEnd t => t | _ => acc) L

theorem lbe_nil (L : Int) : lbe L [] = L := rfl

theorem lbe_append (L : Int) (a b : List Emit) : lbe L (a ++ b) = lbe (lbe L a) b := by
  simp [lbe, List.foldl_append]

theorem lbe_cons_barEnd (L t : Int) (l : List Emit) : lbe L (Emit.barEnd t :: l) = lbe t l := rfl

theorem lbe_noBar (L : Int) (l : List Emit) (h : ∀ e ∈ l, ∀ u, e ≠ Emit.barEnd u) : lbe L l = L := by
  induction l with
  | nil => rfl
  | cons e es ih =>
    cases e with
    | barEnd t => exact absurd rfl (h _ (by simp) t)
    | _ => exact ih (fun e' he' => h e' (by simp [he']))

theorem dpart_inbar (c : Cfg) (d d1 : DetokSt) (p : Part) (L : Int) (h : dpart c d p = .ok d1)
    (hL : d.curTimeBar = d.curTime - L) :
    d1.curTimeBar = d1.curTime - lbe L (emitOfPart c d p) := by
  cases p with
  | pad | sta | sto | trk _ | val _ | vel _ =>
    simp only [dpart] at h; cases h; exact hL
  | bar =>
    simp only [dpart] at h; cases h
    simp only [emitOfPart, lbe, List.foldl]
    omega
  | rest v =>
    simp only [dpart] at h; cases h
    simp only [emitOfPart, lbe, List.foldl]
    omega
  | pit p =>
    simp only [dpart] at h
    split at h
    · cases h
    · cases h
      simp only [emitOfPart, lbe, List.foldl]
      exact hL
  | tsig a b =>
    have hl : lbe L (emitOfPart c d (.tsig a b)) = L := by
      apply lbe_noBar
      intro e he u
      simp only [emitOfPart] at he
      split at he
      · simp at he
      · split at he
        · simp only [List.mem_singleton] at he; subst he; simp
        · simp at he
    rw [hl]
    simp only [dpart] at h
    split at h
    · cases h; exact hL
    · split at h
      · cases h
      · cases h; exact hL

theorem dstepLog_inbar (c : Cfg) (ps : List Part) (d d1 : DetokSt) (log : List Emit) (L : Int)
    (h : dfold.dstepLog c d ps = .ok (d1, log)) (hL : d.curTimeBar = d.curTime - L) :
    d1.curTimeBar = d1.curTime - lbe L log := by
  induction ps generalizing d log L with
  | nil => simp only [dfold.dstepLog] at h; cases h; exact hL
  | cons p ps ih =>
    obtain ⟨d2, log3, h2, h3, rfl⟩ := dstepLog_cons_inv h
    rw [lbe_append]
    exact ih d2 log3 _ h3 (dpart_inbar c d d2 p L h2 hL)

theorem dfold_inbar (c : Cfg) (toks : List Tok) (d d1 : DetokSt) (log : List Emit) (L : Int)
    (h : dfold c d toks = .ok (d1, log)) (hL : d.curTimeBar = d.curTime - L) :
    d1.curTimeBar = d1.curTime - lbe L log := by
  induction toks generalizing d log L with
  | nil => simp only [dfold] at h; cases h; exact hL
  | cons t ts ih =>
    obtain ⟨d2, log2, log3, h2, h3, rfl⟩ := dfold_cons_inv h
    rw [lbe_append]
    exact ih d2 log3 _ h3 (dstepLog_inbar c t.parts d d2 log2 L h2 hL)

end SCoda.InBar
