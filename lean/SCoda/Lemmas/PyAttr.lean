import Lean.Meta.Tactic.Simp.RegisterCommand

/-- equations of `Except`, of the Python primitives and of `ForInStep` used to run a translated `do` block -/
register_simp_attr pysimp
