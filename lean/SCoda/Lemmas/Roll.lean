/-
  The key side of the `Roll` vocabulary (`Model/Roll.lean`).  Every definition there branches on whether a message is the
  note-on of a key, its note-off, or no note event of it (`SplitL.Kev`, `kev_cases`; `isKN` is the same as a filter).
  `depth`, `altFrom`, `WF` and `SoundingAt` read nothing of a list but the word of the key (`kword`; `depthW`, `krun` are the
  two readings), so that an operation keeps all four is one equation between words (`kword_filter`, `kword_map`,
  `kword_eventsRelGo`, `kword_toRelGo`).  For `notesGo` there are the equations of a `cons` of each kind and the filter lemma
  (`++` and `map` are stated for its refinements `pairsGo`, `nkNotes` in `Lemmas/RollKey`, `Lemmas/RollCover`).
  The clock side (`totalWait`, `eventsRelGo`, `toAbs`) is `Lemmas/Conv`.
-/
import SCoda.Lemmas.Conv
namespace SCoda

namespace SplitL
/-- `m` is a note event of key `k` -/
def Kev (k : Int × Int) (m : Msg) : Prop := m.nkey = k ∧ (m.ty = .noteOn ∨ m.ty = .noteOff)
end SplitL
open SplitL (Kev)

theorem not_kev_iff {k : Int × Int} {m : Msg} :
    ¬ Kev k m ↔ ¬ (m.nkey = k ∧ m.ty = .noteOn) ∧ ¬ (m.nkey = k ∧ m.ty = .noteOff) :=
  ⟨fun h => ⟨fun e => h ⟨e.1, Or.inl e.2⟩, fun e => h ⟨e.1, Or.inr e.2⟩⟩,
   fun h e => e.2.elim (fun c => h.1 ⟨e.1, c⟩) (fun c => h.2 ⟨e.1, c⟩)⟩

theorem not_kev_of {k : Int × Int} {m : Msg} (h1 : ¬ (m.nkey = k ∧ m.ty = .noteOn))
    (h2 : ¬ (m.nkey = k ∧ m.ty = .noteOff)) : ¬ Kev k m :=
  not_kev_iff.2 ⟨h1, h2⟩

theorem not_kev_of_ty {k : Int × Int} {m : Msg} (h1 : m.ty ≠ .noteOn) (h2 : m.ty ≠ .noteOff) : ¬ Kev k m :=
  fun e => e.2.elim h1 h2

/-- a message is the note-on of key `k`, its note-off, or no note event of `k`: `depth`, `altFrom` branch this way -/
theorem kev_cases (k : Int × Int) (m : Msg) :
    (m.nkey = k ∧ m.ty = .noteOn) ∨ (m.nkey = k ∧ m.ty = .noteOff) ∨ ¬ Kev k m := by
  by_cases h1 : m.nkey = k ∧ m.ty = .noteOn
  · exact Or.inl h1
  · by_cases h2 : m.nkey = k ∧ m.ty = .noteOff
    · exact Or.inr (Or.inl h2)
    · exact Or.inr (Or.inr (not_kev_of h1 h2))

/-- `Kev` as a filter -/
def isKN (k : Int × Int) (m : Msg) : Bool := decide (m.nkey = k ∧ (m.ty = .noteOn ∨ m.ty = .noteOff))

theorem isKN_iff_kev {k : Int × Int} {m : Msg} : isKN k m = true ↔ Kev k m := decide_eq_true_iff

theorem isKN_true {k : Int × Int} {m : Msg} (h : Kev k m) : isKN k m = true := isKN_iff_kev.2 h

theorem isKN_false {k : Int × Int} {m : Msg} (h : ¬ Kev k m) : ¬ isKN k m = true := fun e => h (isKN_iff_kev.1 e)

section
variable {k : Int × Int} {m : Msg}

theorem depth_cons_on (h : m.nkey = k ∧ m.ty = .noteOn) (l : List Msg) (d : Nat) :
    depth k (m :: l) d = depth k l (d + 1) := by
  simp only [depth, h.1, h.2, if_true, beq_self_eq_true]

theorem depth_cons_off (h : m.nkey = k ∧ m.ty = .noteOff) (l : List Msg) (d : Nat) :
    depth k (m :: l) d = depth k l (d - 1) := by
  simp only [depth, h.1, h.2, if_true, beq_self_eq_true, beq_iff_eq, reduceCtorEq, if_false]

theorem depth_cons_skip (h : ¬ Kev k m) (l : List Msg) (d : Nat) : depth k (m :: l) d = depth k l d := by
  simp only [depth, beq_iff_eq]
  split
  · rename_i hk
    rw [if_neg fun e => h ⟨hk, Or.inl e⟩, if_neg fun e => h ⟨hk, Or.inr e⟩]
  · rfl

theorem altFrom_cons_on (h : m.nkey = k ∧ m.ty = .noteOn) (l : List Msg) (b : Bool) :
    altFrom k b (m :: l) = (b = false ∧ altFrom k true l) := by
  rw [altFrom, if_pos h]

theorem altFrom_cons_off (h : m.nkey = k ∧ m.ty = .noteOff) (l : List Msg) (b : Bool) :
    altFrom k b (m :: l) = (b = true ∧ altFrom k false l) := by
  rw [altFrom, if_neg fun e => MType.noConfusion (h.2.symm.trans e.2), if_pos h]

theorem altFrom_cons_skip (h : ¬ Kev k m) (l : List Msg) (b : Bool) : altFrom k b (m :: l) = altFrom k b l := by
  rw [altFrom, if_neg (not_kev_iff.1 h).1, if_neg (not_kev_iff.1 h).2]

end

def kword (k : Int × Int) (l : List Msg) : List Bool := (l.filter (isKN k)).map (·.ty == .noteOn)

/-- `depth` on words -/
def depthW : List Bool → Nat → Nat
  | [], d => d
  | true :: w, d => depthW w (d + 1)
  | false :: w, d => depthW w (d - 1)

/-- the open/closed state after an alternating word, `none` once the alternation is broken -/
def runW : Bool → List Bool → Option Bool
  | b, [] => some b
  | b, x :: w => if b = !x then runW x w else none

/-- the state of key `k` after `l` from state `b`, `none` if its note-ons and note-offs do not alternate -/
def krun (k : Int × Int) (b : Bool) (l : List Msg) : Option Bool := runW b (kword k l)

@[simp] theorem krun_nil (k : Int × Int) (b : Bool) : krun k b [] = some b := rfl

section
variable {k : Int × Int} {m : Msg}

theorem kword_cons_on (h : m.nkey = k ∧ m.ty = .noteOn) (l : List Msg) : kword k (m :: l) = true :: kword k l := by
  rw [kword, List.filter_cons_of_pos (isKN_true ⟨h.1, Or.inl h.2⟩), List.map_cons, h.2]; rfl

theorem kword_cons_off (h : m.nkey = k ∧ m.ty = .noteOff) (l : List Msg) : kword k (m :: l) = false :: kword k l := by
  rw [kword, List.filter_cons_of_pos (isKN_true ⟨h.1, Or.inr h.2⟩), List.map_cons, h.2]; rfl

theorem kword_cons_skip (h : ¬ Kev k m) (l : List Msg) : kword k (m :: l) = kword k l := by
  rw [kword, List.filter_cons_of_neg (isKN_false h)]; rfl

end

theorem depth_eq_word (k : Int × Int) (l : List Msg) : ∀ d, depth k l d = depthW (kword k l) d := by
  induction l with
  | nil => intro d; rfl
  | cons x xs ih =>
    intro d
    rcases kev_cases k x with h | h | h
    · rw [kword_cons_on h, depth_cons_on h, ih]; rfl
    · rw [kword_cons_off h, depth_cons_off h, ih]; rfl
    · rw [kword_cons_skip h, depth_cons_skip h, ih]

theorem altFrom_iff_word (k : Int × Int) (l : List Msg) : ∀ b, altFrom k b l ↔ runW b (kword k l) = some false := by
  induction l with
  | nil => intro b; exact ⟨congrArg some, Option.some.inj⟩
  | cons x xs ih =>
    intro b
    rcases kev_cases k x with h | h | h
    · rw [kword_cons_on h, altFrom_cons_on h, ih, runW]; cases b <;> simp
    · rw [kword_cons_off h, altFrom_cons_off h, ih, runW]; cases b <;> simp
    · rw [kword_cons_skip h, altFrom_cons_skip h, ih]

theorem kword_append (k : Int × Int) (a b : List Msg) : kword k (a ++ b) = kword k a ++ kword k b := by
  simp only [kword, List.filter_append, List.map_append]

theorem kword_skip {k : Int × Int} {l : List Msg} (h : ∀ m ∈ l, ¬ Kev k m) : kword k l = [] := by
  rw [kword, List.filter_eq_nil_iff.2 fun m hm => isKN_false (h m hm)]; rfl

theorem kword_filter (k : Int × Int) (p : Msg → Bool) (l : List Msg) (h : ∀ m ∈ l, Kev k m → p m = true) :
    kword k (l.filter p) = kword k l := by
  rw [kword, List.filter_filter, kword]
  congr 1
  refine List.filter_congr fun m hm => ?_
  cases hk : isKN k m
  · rfl
  · rw [h m hm (isKN_iff_kev.1 hk)]; rfl

theorem kword_map (k : Int × Int) (f : Msg → Msg) (l : List Msg)
    (h : ∀ m ∈ l, (f m).nkey = m.nkey ∧ (f m).ty = m.ty) : kword k (l.map f) = kword k l := by
  induction l with
  | nil => rfl
  | cons x xs ih =>
    have ih' := ih fun m hm => h m (List.mem_cons_of_mem _ hm)
    obtain ⟨h1, h2⟩ := h x List.mem_cons_self
    rw [List.map_cons]
    rcases kev_cases k x with hx | hx | hx
    · rw [kword_cons_on hx, kword_cons_on (m := f x) ⟨h1 ▸ hx.1, h2 ▸ hx.2⟩, ih']
    · rw [kword_cons_off hx, kword_cons_off (m := f x) ⟨h1 ▸ hx.1, h2 ▸ hx.2⟩, ih']
    · rw [kword_cons_skip hx, kword_cons_skip (m := f x) (by rw [Kev, h1, h2]; exact hx), ih']

theorem kword_eventsRelGo (k : Int × Int) (l : List Msg) : ∀ c, kword k (eventsRelGo c l) = kword k l := by
  induction l with
  | nil => intro c; rfl
  | cons x xs ih =>
    intro c
    by_cases hw : x.ty = .wait
    · rw [eventsRelGo_cons_wait _ _ _ hw, ih, kword_cons_skip (not_kev_of_ty (by simp [hw]) (by simp [hw]))]
    · rw [eventsRelGo_cons_nowait _ _ _ hw]
      rcases kev_cases k x with h | h | h
      · rw [kword_cons_on (m := { x with time := c }) h, kword_cons_on h, ih]
      · rw [kword_cons_off (m := { x with time := c }) h, kword_cons_off h, ih]
      · rw [kword_cons_skip (m := { x with time := c }) h, kword_cons_skip h, ih]

/-- nor does `toRel` touch the word: it adds waits, drops `INTERNAL`s and removes ticks -/
theorem kword_toRelGo (k : Int × Int) (l : List Msg) : ∀ cur, kword k (toRelGo cur l) = kword k l := by
  induction l with
  | nil => intro _; rfl
  | cons m ms ih =>
    intro cur
    have hw : kword k (if m.time > cur then [Msg.mkWait m.ch (m.time - cur)] else []) = [] := by
      split
      · exact kword_skip fun x hx => by
          rw [List.mem_singleton.1 hx]; exact not_kev_of_ty (fun e => nomatch e) (fun e => nomatch e)
      · rfl
    rw [toRelGo, kword_append, kword_append, hw, ih, List.nil_append]
    by_cases hi : m.ty = .internal
    · rw [if_neg (by simp [hi]), kword_cons_skip (not_kev_of_ty (by simp [hi]) (by simp [hi]))]; rfl
    · rw [if_pos (by simpa using hi)]
      rcases kev_cases k m with h | h | h
      · rw [kword_cons_on (m := { m with time := pyNone }) h, kword_cons_on h]; rfl
      · rw [kword_cons_off (m := { m with time := pyNone }) h, kword_cons_off h]; rfl
      · rw [kword_cons_skip (m := { m with time := pyNone }) h, kword_cons_skip h]; rfl

theorem depthW_append (a b : List Bool) : ∀ d, depthW (a ++ b) d = depthW b (depthW a d) := by
  induction a with
  | nil => intro d; rfl
  | cons x xs ih => intro d; cases x <;> exact ih _

theorem runW_append (a c : List Bool) : ∀ b, runW b (a ++ c) = (runW b a).bind (runW · c) := by
  induction a with
  | nil => intro b; rfl
  | cons x xs ih =>
    intro b
    rw [List.cons_append, runW, runW]
    split
    · exact ih x
    · rfl

/-- a run moves the depth as it moves the open flag -/
theorem depthW_of_run (w : List Bool) : ∀ b b' d, runW b w = some b' → depthW w (d + b.toNat) = d + b'.toNat := by
  induction w with
  | nil => intro b b' d h; cases h; rfl
  | cons x xs ih =>
    intro b b' d h
    rw [runW] at h
    split at h
    · rename_i hb; subst hb
      cases x <;> exact ih _ _ d h
    · cases h

theorem krun_append (k : Int × Int) (b : Bool) (u y : List Msg) :
    krun k b (u ++ y) = (krun k b u).bind (fun b' => krun k b' y) := by
  rw [krun, kword_append, runW_append]; rfl

theorem krun_cons_skip (k : Int × Int) (b : Bool) (m : Msg) (l : List Msg) (h : ¬ Kev k m) :
    krun k b (m :: l) = krun k b l := by
  rw [krun, kword_cons_skip h]; rfl

theorem krun_skip (k : Int × Int) (b : Bool) (u : List Msg) (h : ∀ x ∈ u, ¬ Kev k x) :
    krun k b u = some b := by
  rw [krun, kword_skip h]; rfl

theorem krun_skip_append (k : Int × Int) (b : Bool) (u y : List Msg) (h : ∀ x ∈ u, ¬ Kev k x) :
    krun k b (u ++ y) = krun k b y := by
  rw [krun_append, krun_skip k b u h]; rfl

theorem krun_cons_on (k : Int × Int) (b : Bool) (m : Msg) (l : List Msg) (h : m.nkey = k ∧ m.ty = .noteOn) :
    krun k b (m :: l) = if b then none else krun k true l := by
  rw [krun, kword_cons_on h, runW]; cases b <;> rfl

theorem krun_cons_off (k : Int × Int) (b : Bool) (m : Msg) (l : List Msg) (h : m.nkey = k ∧ m.ty = .noteOff) :
    krun k b (m :: l) = if b then krun k false l else none := by
  rw [krun, kword_cons_off h, runW]; cases b <;> rfl

theorem krun_nooff_closed (k : Int × Int) (b : Bool) (u : List Msg) (hu : ∀ x ∈ u, x.ty ≠ .noteOff)
    (h : krun k b u = some false) : b = false ∧ ∀ x ∈ u, ¬ Kev k x := by
  induction u generalizing b with
  | nil => exact ⟨Option.some.inj h, fun _ hx => nomatch hx⟩
  | cons m ms ih =>
    have hu' : ∀ x ∈ ms, x.ty ≠ .noteOff := fun x hx => hu x (List.mem_cons_of_mem _ hx)
    by_cases hon : m.nkey = k ∧ m.ty = .noteOn
    · rw [krun_cons_on k b m ms hon] at h
      cases b with
      | true => simp at h
      | false =>
        have := (ih true hu' (by simpa using h)).1
        simp at this
    · have hk : ¬ Kev k m := not_kev_of hon (fun h => hu m List.mem_cons_self h.2)
      rw [krun_cons_skip k b m ms hk] at h
      obtain ⟨h1, h2⟩ := ih b hu' h
      refine ⟨h1, ?_⟩
      intro x hx
      rcases List.mem_cons.1 hx with rfl | hx
      · exact hk
      · exact h2 x hx

theorem krun_true_prefix (k : Int × Int) (u w : List Msg) (hu : ∀ x ∈ u, ¬ (x.nkey = k ∧ x.ty = .noteOff)) (b' : Bool)
    (h : krun k true (u ++ w) = some b') : ∀ x ∈ u, ¬ Kev k x := by
  induction u with
  | nil => simp
  | cons m ms ih =>
    have hu' : ∀ x ∈ ms, ¬ (x.nkey = k ∧ x.ty = .noteOff) := fun x hx => hu x (List.mem_cons_of_mem _ hx)
    by_cases hon : m.nkey = k ∧ m.ty = .noteOn
    · rw [List.cons_append, krun_cons_on k true m _ hon] at h
      simp at h
    · have hk : ¬ Kev k m := not_kev_of hon (hu m List.mem_cons_self)
      rw [List.cons_append, krun_cons_skip k true m _ hk] at h
      intro x hx
      rcases List.mem_cons.1 hx with rfl | hx
      · exact hk
      · exact ih hu' h x hx

theorem depth_append (k : Int × Int) (a b : List Msg) (d : Nat) : depth k (a ++ b) d = depth k b (depth k a d) := by
  simp only [depth_eq_word, kword_append, depthW_append]

theorem depth_skip (k : Int × Int) (u : List Msg) (d : Nat) (h : ∀ x ∈ u, ¬ Kev k x) : depth k u d = d := by
  rw [depth_eq_word, kword_skip h]; rfl

theorem depth_filter (k : Int × Int) (p : Msg → Bool) (hp : ∀ m, Kev k m → p m = true) (l : List Msg) :
    ∀ d, depth k (l.filter p) d = depth k l d := fun d => by
  rw [depth_eq_word, depth_eq_word, kword_filter k p l fun m _ => hp m]

theorem depth_filter_kn (k : Int × Int) (l : List Msg) : ∀ d, depth k (l.filter (isKN k)) d = depth k l d :=
  depth_filter k _ (fun _ h => isKN_true h) l

theorem depth_eventsAbs (k : Int × Int) (l : List Msg) (d : Nat) : depth k (eventsAbs l) d = depth k l d :=
  depth_filter k _ (by rintro m ⟨_, h | h⟩ <;> simp [h]) l d

theorem depth_map_time (k : Int × Int) (a : Int) (u : List Msg) (d : Nat) :
    depth k (u.map (fun m => { m with time := a })) d = depth k u d := by
  rw [depth_eq_word, depth_eq_word, kword_map k (fun m => { m with time := a }) u fun _ _ => ⟨rfl, rfl⟩]

theorem depth_events (k : Int × Int) (l : List Msg) (c : Int) (d : Nat) : depth k (eventsRelGo c l) d = depth k l d := by
  rw [depth_eq_word, depth_eq_word, kword_eventsRelGo]

theorem depth_toRel (k : Int × Int) (a : List Msg) (d : Nat) : depth k (toRel a) d = depth k a d := by
  rw [depth_eq_word, depth_eq_word, toRel, kword_toRelGo]

/-- in a run the depth moves with the open flag: from 0 it says whether a note of the key is open -/
theorem depth_of_run {k : Int × Int} {a : List Msg} {b b' : Bool} (h : krun k b a = some b') (d : Nat) :
    depth k a (d + b.toNat) = d + b'.toNat := by
  rw [depth_eq_word]; exact depthW_of_run _ _ _ d h

theorem altFrom_iff_run (k : Int × Int) (b : Bool) (l : List Msg) : altFrom k b l ↔ krun k b l = some false :=
  altFrom_iff_word k l b

theorem SplitL.wf_iff (l : List Msg) : WF l ↔ ∀ k, krun k false l = some false := by
  simp only [WF, altFrom_iff_run]

theorem altFrom_append_iff (k : Int × Int) (x y : List Msg) (b : Bool) :
    altFrom k b (x ++ y) ↔ ∃ b', krun k b x = some b' ∧ altFrom k b' y := by
  rw [altFrom_iff_run, krun, kword_append, runW_append]
  cases h : runW b (kword k x) <;> simp [krun, h, altFrom_iff_run]

theorem altFrom_append (k : Int × Int) (x y : List Msg) (hy : altFrom k false y) (b : Bool) (h : altFrom k b x) :
    altFrom k b (x ++ y) :=
  (altFrom_append_iff k x y b).2 ⟨false, (altFrom_iff_run k b x).1 h, hy⟩

theorem altFrom_filter (k : Int × Int) (p : Msg → Bool) (hp : ∀ m, Kev k m → p m = true) (l : List Msg) (b : Bool) :
    altFrom k b (l.filter p) ↔ altFrom k b l := by
  rw [altFrom_iff_word, altFrom_iff_word, kword_filter k p l fun m _ => hp m]

theorem altFrom_filter_kn (k : Int × Int) (l : List Msg) : ∀ b, altFrom k b (l.filter (isKN k)) ↔ altFrom k b l :=
  altFrom_filter k _ (fun _ h => isKN_true h) l

theorem altFrom_skip (k : Int × Int) (u : List Msg) (b : Bool) (h : ∀ x ∈ u, ¬ Kev k x) :
    altFrom k b u ↔ b = false := by
  rw [altFrom_iff_word, kword_skip h]; exact ⟨Option.some.inj, congrArg some⟩

/-- `WF` decided key by key, on the keys that occur in the list -/
def wfB (l : List Msg) : Bool := (l.map Msg.nkey).all (fun k => krun k false l == some false)

theorem wfB_iff (l : List Msg) : wfB l = true ↔ WF l := by
  simp only [wfB, List.all_eq_true, List.mem_map, forall_exists_index, and_imp, forall_apply_eq_imp_iff₂, beq_iff_eq,
    ← altFrom_iff_run]
  constructor
  · intro h k
    by_cases hk : ∃ m ∈ l, m.nkey = k
    · obtain ⟨m, hm, rfl⟩ := hk
      exact h m hm
    · exact (altFrom_skip k l false fun m hm e => hk ⟨m, hm, e.1⟩).2 rfl
  · intro h m _
    exact h m.nkey

instance (l : List Msg) : Decidable (WF l) := decidable_of_iff _ (wfB_iff l)

theorem altFrom_map (k : Int × Int) (f : Msg → Msg) (l : List Msg) (h : ∀ m ∈ l, (f m).nkey = m.nkey ∧ (f m).ty = m.ty)
    (b : Bool) : altFrom k b (l.map f) ↔ altFrom k b l := by
  rw [altFrom_iff_word, altFrom_iff_word, kword_map k f l h]

theorem altFrom_events (k : Int × Int) (r : List Msg) (b : Bool) (c : Int) :
    altFrom k b (eventsRelGo c r) ↔ altFrom k b r := by
  rw [altFrom_iff_word, altFrom_iff_word, kword_eventsRelGo]

theorem wf_nil : WF [] := fun _ => rfl

theorem wf_append {x y : List Msg} (hx : WF x) (hy : WF y) : WF (x ++ y) :=
  fun k => altFrom_append k x y (hy k) false (hx k)

theorem wf_flatten (ps : List (List Msg)) (h : ∀ p ∈ ps, WF p) : WF ps.flatten := by
  induction ps with
  | nil => exact wf_nil
  | cons p ps ih =>
    rw [List.flatten_cons]
    exact wf_append (h p List.mem_cons_self) (ih (fun q hq => h q (List.mem_cons_of_mem _ hq)))

theorem wf_of_no_notes (l : List Msg) (h : ∀ m ∈ l, m.ty ≠ .noteOn ∧ m.ty ≠ .noteOff) : WF l :=
  fun k => (altFrom_skip k l false fun m hm => not_kev_of_ty (h m hm).1 (h m hm).2).2 rfl

theorem wf_events (r : List Msg) (h : WF r) : WF (eventsRel r) :=
  fun k => (altFrom_events k r false 0).2 (h k)

theorem wf_of_events (r : List Msg) (h : WF (eventsRel r)) : WF r :=
  fun k => (altFrom_events k r false 0).1 (h k)

theorem filter_le_eq_self (l : List Msg) (t : Int) (h : ∀ m ∈ l, m.time ≤ t) :
    l.filter (fun m => decide (m.time ≤ t)) = l := by
  rw [List.filter_eq_self]
  intro m hm
  simpa using h m hm

theorem filter_le_eq_nil (l : List Msg) (t : Int) (h : ∀ m ∈ l, t < m.time) :
    l.filter (fun m => decide (m.time ≤ t)) = [] := by
  rw [List.filter_eq_nil_iff]
  intro m hm
  have := h m hm
  simp only [decide_eq_true_eq]
  omega

theorem soundingAt_filter (k : Int × Int) (p : Msg → Bool) (l : List Msg) (t : Int) (h : ∀ m ∈ l, Kev k m → p m = true) :
    SoundingAt (l.filter p) k t ↔ SoundingAt l k t := by
  rw [SoundingAt, SoundingAt, filter_comm', depth_eq_word, depth_eq_word, kword_filter k p _ fun m hm => h m (List.mem_filter.1 hm).1]

/-! ### `notesGo`; the `find?` / `filter` by key that it applies to the waiting note-ons -/

theorem find_filter_ne (k k' : Int × Int) (h : k ≠ k') (l : List Msg) :
    (l.filter (fun o => o.nkey != k')).find? (fun o => o.nkey == k) = l.find? (fun o => o.nkey == k) := by
  rw [List.find?_filter]
  congr 1
  funext o
  by_cases ho : o.nkey = k
  · have : ¬ k = k' := h
    simp [ho, this]
  · simp [ho]

theorem find_filter_self (k : Int × Int) (l : List Msg) :
    (l.filter (fun o => o.nkey != k)).find? (fun o => o.nkey == k) = none := by
  simp [List.find?_eq_none]

theorem find_filter_eq (k : Int × Int) (l : List Msg) :
    (l.filter (fun o => o.nkey == k)).find? (fun o => o.nkey == k) = l.find? (fun o => o.nkey == k) := by
  rw [List.find?_filter]
  congr 1; funext a
  by_cases h : a.nkey = k <;> simp [h]

theorem filter_eq_filter_ne_self (k : Int × Int) (l : List Msg) :
    (l.filter (fun o => o.nkey != k)).filter (fun o => o.nkey == k) = [] := by
  rw [List.filter_filter, List.filter_eq_nil_iff]
  intro a _; by_cases h : a.nkey = k <;> simp [h]

theorem filter_ne_filter_eq_self (k : Int × Int) (l : List Msg) :
    (l.filter (fun o => o.nkey == k)).filter (fun o => o.nkey != k) = [] := by
  rw [List.filter_filter, List.filter_eq_nil_iff]
  intro a _; by_cases h : a.nkey = k <;> simp [h]

theorem filter_eq_filter_ne (k k' : Int × Int) (h : k' ≠ k) (l : List Msg) :
    (l.filter (fun o => o.nkey != k')).filter (fun o => o.nkey == k) = l.filter (fun o => o.nkey == k) := by
  rw [List.filter_filter]
  congr 1; funext a
  by_cases h1 : a.nkey = k
  · have : ¬ k = k' := fun h2 => h h2.symm
    simp [h1, this]
  · simp [h1]

section
variable {m : Msg}

theorem notesGo_cons_on (h : m.ty = .noteOn) (ms opens : List Msg) :
    notesGo (m :: ms) opens = notesGo ms (m :: opens.filter (fun o => o.nkey != m.nkey)) := by
  simp [notesGo, h]

theorem notesGo_cons_off (h : m.ty = .noteOff) (ms opens : List Msg) :
    notesGo (m :: ms) opens =
      match opens.find? (fun o => o.nkey == m.nkey) with
      | some o => { ch := o.ch, pitch := o.note, on := o.time, off := m.time, vel := o.vel }
                    :: notesGo ms (opens.filter (fun x => x.nkey != m.nkey))
      | Option.none => notesGo ms opens := by
  rw [notesGo]
  have h1 : (m.ty == MType.noteOn) = false := by simp [h]
  have h2 : (m.ty == MType.noteOff) = true := by simp [h]
  simp only [h1, h2, Bool.false_eq_true, if_false, if_true]
  cases List.find? (fun o => o.nkey == m.nkey) opens <;> rfl

theorem notesGo_cons_off_some {o : Msg} (h : m.ty = .noteOff) (ms opens : List Msg)
    (hf : opens.find? (fun o => o.nkey == m.nkey) = some o) :
    notesGo (m :: ms) opens = { ch := o.ch, pitch := o.note, on := o.time, off := m.time, vel := o.vel }
      :: notesGo ms (opens.filter (fun x => x.nkey != m.nkey)) := by
  rw [notesGo_cons_off h, hf]

theorem notesGo_cons_off_none (h : m.ty = .noteOff) (ms opens : List Msg)
    (hf : opens.find? (fun o => o.nkey == m.nkey) = none) :
    notesGo (m :: ms) opens = notesGo ms opens := by
  rw [notesGo_cons_off h, hf]

theorem notesGo_cons_other (h1 : m.ty ≠ .noteOn) (h2 : m.ty ≠ .noteOff) (ms opens : List Msg) :
    notesGo (m :: ms) opens = notesGo ms opens := by
  simp [notesGo, h1, h2]

end

theorem notesGo_others : ∀ (l os : List Msg), (∀ m ∈ l, m.ty ≠ .noteOn ∧ m.ty ≠ .noteOff) → notesGo l os = [] := by
  intro l
  induction l with
  | nil => intro os _; rfl
  | cons x xs ih =>
    intro os h
    rw [notesGo_cons_other (h x List.mem_cons_self).1 (h x List.mem_cons_self).2]
    exact ih os (fun m hm => h m (List.mem_cons_of_mem _ hm))

theorem notesGo_filter (p : Msg → Bool) (hp : ∀ m : Msg, m.ty = .noteOn ∨ m.ty = .noteOff → p m = true)
    (l : List Msg) : ∀ opens, notesGo (l.filter p) opens = notesGo l opens := by
  induction l with
  | nil => intro _; rfl
  | cons m ms ih =>
    intro opens
    by_cases hon : m.ty = .noteOn
    · rw [List.filter_cons_of_pos (hp m (Or.inl hon)), notesGo_cons_on hon, notesGo_cons_on hon, ih]
    · by_cases hoff : m.ty = .noteOff
      · rw [List.filter_cons_of_pos (hp m (Or.inr hoff)), notesGo_cons_off hoff, notesGo_cons_off hoff, ih, ih]
      · rw [notesGo_cons_other hon hoff, ← ih, List.filter_cons]
        split
        · rw [notesGo_cons_other hon hoff]
        · rfl

theorem notesOf_eventsAbs (a : List Msg) : notesOf (eventsAbs a) = notesOf a :=
  notesGo_filter _ (by rintro m (h | h) <;> simp [h]) a []

theorem nonNotes_cons (m : Msg) (l : List Msg) :
    nonNotes (m :: l) = if m.ty = .noteOn ∨ m.ty = .noteOff then nonNotes l else m :: nonNotes l := by
  simp only [nonNotes, List.filter_cons]
  by_cases h1 : m.ty = .noteOn
  · simp [h1]
  · by_cases h2 : m.ty = .noteOff
    · simp [h2]
    · simp [h1, h2]

end SCoda

namespace SCoda.SplitL
open SCoda

/-- depth of key `k` at tick `t` after the relative list `l` started at clock `a` with depth `d`: `SoundingAt` along a
    relative list, for statements piece by piece (`Dp_covered` in `Lemmas/RollCover`, `Dp_append` … in `Lemmas/SplitNotes`) -/
def Dp (k : Int × Int) (t : Int) (a : Int) (l : List Msg) (d : Nat) : Nat :=
  depth k ((eventsRelGo a l).filter (fun m => decide (m.time ≤ t))) d

end SCoda.SplitL
