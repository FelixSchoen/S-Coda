/-
  Why the view-local functions of the public operations keep their view legal (`Props/C04b.lean` has one statement per function).
  A legal relative view is a condition on the single message (`okRel_iff`, `Good`): kept by `map` (`map_okR`) and by whatever
  builds its output from messages of its inputs and new legal ones.  A legal absolute view is time-sorted plus a
  condition on the single message (`okAbs_iff` of `Lemmas/Conv`): kept by a monotone `map` (`map_okA`), by `insort` (the bisection ends where
  the ticks switch from `≤ t` to `> t`: `insort_split`, `insort_pairwise` of `Lemmas/Sort`) and, followed by a sort, by the walk of
  `cutoff` (`cutoffGo_forall` of `Lemmas/Cutoff`).
-/
import SCoda.Lemmas.Roll
namespace SCoda.Ops
open SCoda

theorem map_okA (f : Msg → Msg) (h1 : ∀ m, m.ty ≠ .wait → (f m).ty ≠ .wait)
    (h2 : ∀ m, 0 ≤ m.time → 0 ≤ (f m).time)
    (h3 : ∀ m m', m.time ≤ m'.time → (f m).time ≤ (f m').time) (a : List Msg) (h : OkAbs a) :
    OkAbs (a.map f) := by
  rw [okAbs_iff] at h ⊢
  refine ⟨List.pairwise_map.2 (h.1.imp (h3 _ _)), fun x hx => ?_⟩
  obtain ⟨m, hm, rfl⟩ := List.mem_map.1 hx
  exact ⟨h2 m (h.2 m hm).1, h1 m (h.2 m hm).2⟩

/-- a message that may occur in a legal relative view -/
def Good (m : Msg) : Prop := m.ty ≠ .internal ∧ (m.ty = .wait → 0 ≤ m.time)

theorem okRel_iff (l : List Msg) : OkRel l ↔ ∀ m ∈ l, Good m := by
  unfold OkRel NonNegWaits Good
  exact ⟨fun h m hm => ⟨h.2 m hm, h.1 m hm⟩, fun h => ⟨fun m hm => (h m hm).2, fun m hm => (h m hm).1⟩⟩

theorem map_okR (f : Msg → Msg) (hf : ∀ m, Good m → Good (f m)) (r : List Msg)
    (h : OkRel r) : OkRel (r.map f) := by
  rw [okRel_iff] at h ⊢
  intro x hx
  obtain ⟨m, hm, rfl⟩ := List.mem_map.1 hx
  exact hf m (h m hm)

end SCoda.Ops
