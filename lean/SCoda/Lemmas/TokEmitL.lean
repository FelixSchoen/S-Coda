/-
  The generated `tokenise` (Gen/TokFns.lean) against the hand model `tokeniseCore` (Model/Token.lean), for BOTH values of the call
  flag `insert_bar_token` (audit round 4, item C6 first bullet).

  The hand model always emits the bar token.  The flag lives in the map from a model state to the loop variables: the tokens of the
  model state are passed through `keepBar ibt` (all of them for `true`, all but the bar tokens for `false`), so each statement says
  that the source returns the model's tokens, without the bar tokens if `ibt = false`: same clock, same exceptions.

  The closure `_apply_rest` is first put in flat form (`restStepB`), one iteration of which is, on the image `rstOf` of a model
  state, one step of `applyRest`; the loop follows by induction on the fuel (`tokeniseApplyRest_keep`).  The body of the event loop
  is `tokEvent` (`tokeniseLoop1_keep`), the linked glue is `extract`, and the whole of `tokenise` is `tokeniseCore` (`tokenise_keep`).
  At the end, apart from the tie: the hand model with the flag as a parameter (`applyRestB` … `tokeniseCoreB`; the bar token is
  emitted only if `ibt`, notelike_tokenisation.py:136-137); at `true` it is the hand model.
  Namespaces, not file names: `TokTieBarL` (`keepBar`, `_apply_rest`, the model with the flag), `TokTieL` (the rest, as in all files of the tokeniser tie).
-/
import SCoda.Lemmas.TokLibL
import SCoda.Lemmas.TokNumL
import SCoda.Lemmas.Tokenise
import SCoda.Lemmas.PyLoop
set_option linter.unusedSimpArgs false
set_option linter.unusedTactic false

namespace SCoda.TokTieBarL
open SCoda SCoda.TokLib SCoda.Gen.Tok SCoda.TokTieL SCoda.RenderL SCoda.Tokenise

def notBar (t : Tok) : Bool := t != Tok.bar

/-- the tokens a call with `insert_bar_token = ibt` returns, read off the tokens of the default call: all of them, resp. all
    but the bar tokens -/
def keepBar (ibt : Bool) (l : List Tok) : List Tok := if ibt then l else l.filter notBar

theorem keep_true (l : List Tok) : keepBar true l = l := rfl

theorem keep_false (l : List Tok) : keepBar false l = l.filter notBar := rfl

theorem keep_nil (ibt : Bool) : keepBar ibt [] = [] := by cases ibt <;> rfl

theorem keep_cons_of (ibt : Bool) (t : Tok) (acc : List Tok) (h : notBar t = true) : keepBar ibt (t :: acc) = t :: keepBar ibt acc := by
  cases ibt
  · simp [keepBar, h]
  · rfl

theorem keep_cons_rest (ibt : Bool) (v : Int) (acc : List Tok) : keepBar ibt (Tok.rest v :: acc) = Tok.rest v :: keepBar ibt acc :=
  keep_cons_of ibt _ acc rfl

theorem keep_cons_bar (ibt : Bool) (acc : List Tok) :
    keepBar ibt (Tok.bar :: acc) = if ibt then Tok.bar :: keepBar ibt acc else keepBar ibt acc := by
  cases ibt <;> simp [keepBar, notBar]

theorem keep_append (ibt : Bool) (a b : List Tok) : keepBar ibt (a ++ b) = keepBar ibt a ++ keepBar ibt b := by
  cases ibt <;> simp [keepBar]

theorem keep_reverse (ibt : Bool) (a : List Tok) : keepBar ibt a.reverse = (keepBar ibt a).reverse := by
  cases ibt <;> simp [keepBar, List.filter_reverse]

theorem keep_ite (ibt : Bool) (c : Prop) [Decidable c] (t : Tok) (h : notBar t = true) :
    keepBar ibt (if c then [t] else []) = if c then [t] else [] := by
  split
  · rw [keep_cons_of ibt t [] h, keep_nil]
  · exact keep_nil ibt

theorem find_isSome_of_any (l : List Int) (p : Int → Bool) (h : l.any p = true) : ∃ v, l.reverse.find? p = some v :=
  Option.isSome_iff_exists.1 (by simpa [List.any_eq_true] using h)

/-- the step size as the generated `_apply_rest` computes it -/
def genChoose (steps : List Int) (nxt : Int) : Except PyErr Int :=
  match pyItem steps (-1) with
  | .error e => .error e
  | .ok last =>
    if !(decide (nxt > last) || steps.any (fun s => decide (nxt ≥ s))) then .error .tokenisationException else
    if decide (nxt > last) then .ok last else pyNextM (fun s => pure (decide (nxt ≥ s))) steps.reverse

theorem genChoose_eq (c : Cfg) (n : Int) : genChoose c.steps n = liftE id (chooseStep c n) := by
  unfold genChoose chooseStep
  rw [pyItem_neg_one]
  cases hl : c.steps.getLast? with
  | none => rfl
  | some last =>
    simp only []
    by_cases hn : n > last
    · simp [hn, liftE]
    · simp only [hn, decide_false, Bool.false_or, Bool.false_eq_true, if_false, pyNextM_pure, Tokenise.largestLe_eq_find]
      by_cases hany : (c.steps.any fun s => decide (n ≥ s)) = true
      · obtain ⟨v, hv⟩ := find_isSome_of_any _ _ hany
        simp [hany, hv, liftE]
      · simp [hany, liftE, ofErr]

/-- the loop variables of `_apply_rest`: (tokens, cur_time, cur_time_bar, cur_bar_capacity_remaining, buf_rest, nxt_rest) -/
abbrev RSt := List String × Int × Int × Int × Int × Int

namespace RSt
abbrev toks (st : RSt) : List String := st.1
abbrev cur (st : RSt) : Int := st.2.1
abbrev bar (st : RSt) : Int := st.2.2.1
abbrev rem (st : RSt) : Int := st.2.2.2.1
abbrev buf (st : RSt) : Int := st.2.2.2.2.1
abbrev nxt (st : RSt) : Int := st.2.2.2.2.2
end RSt

def restPost (st : RSt) : Except PyErr (List String × Int × Int × Int) :=
  if decide (st.buf > 0) then .error .fuel else .ok (st.toks, st.cur, st.bar, st.rem)

/-- one iteration of the `while` loop of `_apply_rest` -/
def restStepB (ibt : Bool) (steps : List Int) (capTotal : Int) (st : RSt) : Except PyErr (ForInStep RSt) :=
  if !(decide (st.buf > 0)) then .ok (.done st) else
  match genChoose steps st.nxt with
  | .error e => .error e
  | .ok v =>
    if st.rem - v == 0 then
      .ok (.yield ((if ibt then st.toks ++ [prefixOf "REST" ++ "_" ++ zpad 2 v] ++ [prefixOf "BAR"]
          else st.toks ++ [prefixOf "REST" ++ "_" ++ zpad 2 v]), st.cur + v, 0, capTotal,
        st.buf - v, min (st.buf - v) capTotal))
    else
      .ok (.yield (st.toks ++ [prefixOf "REST" ++ "_" ++ zpad 2 v], st.cur + v, st.bar + v, st.rem - v,
        st.buf - v, min (st.buf - v) (st.rem - v)))

theorem tokeniseApplyRest_eqB (ibt : Bool) (o : TokObj) (capTotal : Int) (toks : List String) (cur bar rem rest : Int) :
    tokeniseApplyRest o ibt capTotal toks cur bar rem rest =
      (forIn (List.replicate ((rest - 0).toNat + 1) ()) ((toks, cur, bar, rem, rest, min rest rem) : RSt)
        (fun _ st => restStepB ibt o.stepSizes capTotal st)) >>= restPost := by
  unfold tokeniseApplyRest
  simp only []
  congr 1
  · congr 1
    funext x st
    unfold restStepB genChoose
    by_cases hb : st.2.2.2.2.1 > 0
    · simp only [hb, decide_true, Bool.not_true, Bool.false_eq_true, if_false]
      cases hl : pyItem o.stepSizes (-1) with
      | error e => rfl
      | ok last =>
        simp only [bind, Except.bind, raiseIf]
        rcases Bool.eq_false_or_eq_true (!(decide (st.2.2.2.2.2 > last) || o.stepSizes.any fun s => decide (st.2.2.2.2.2 ≥ s)))
          with hc | hc
        · simp only [hc, if_true]; rfl
        · simp only [hc, Bool.false_eq_true, if_false, pure, Except.pure, hl]
          by_cases hn : st.2.2.2.2.2 > last
          · simp only [hn, decide_true, if_true]
            by_cases hz : (st.2.2.2.1 - last == 0) = true <;> cases ibt <;> simp [hz]
          · simp only [hn, decide_false, Bool.false_eq_true, if_false]
            cases pyNextM (fun s => Except.ok (decide (st.2.2.2.2.2 ≥ s))) o.stepSizes.reverse with
            | error e => rfl
            | ok v =>
              simp only []
              by_cases hz : (st.2.2.2.1 - v == 0) = true <;> cases ibt <;> simp [hz]
    · simp only [hb, decide_false, Bool.not_false, if_true]
      rfl
  · funext st
    unfold restPost raiseIf
    split <;> rfl

/-- the loop variables of `_apply_rest` called with `insert_bar_token = ibt`, for a state of `applyRest` -/
def rstOf (ibt : Bool) (acc : List Tok) (cur bar rem buf : Int) : RSt :=
  ((keepBar ibt acc).reverse.map render, cur, bar, rem, buf, min buf rem)

def restOut (ibt : Bool) (r : (Int × Int × Int) × List Tok) : List String × Int × Int × Int :=
  ((keepBar ibt r.2).reverse.map render, r.1.1, r.1.2.1, r.1.2.2)

/-- one iteration on the image of a model state: the flag only decides whether the bar token is kept -/
theorem restStepB_model (ibt : Bool) (c : Cfg) (cap : Int) (acc : List Tok) (cur bar rem buf : Int) (hb : 0 < buf) :
    restStepB ibt c.steps cap (rstOf ibt acc cur bar rem buf) =
      match chooseStep c (min buf rem) with
      | .error e => .error (ofErr e)
      | .ok v => .ok (.yield (if rem - v == 0 then rstOf ibt (Tok.bar :: Tok.rest v :: acc) (cur + v) 0 cap (buf - v)
          else rstOf ibt (Tok.rest v :: acc) (cur + v) (bar + v) (rem - v) (buf - v))) := by
  unfold restStepB
  simp only [rstOf, hb, decide_true, Bool.not_true, Bool.false_eq_true, if_false, genChoose_eq]
  cases chooseStep c (min buf rem) with
  | error e => rfl
  | ok v =>
    simp only [liftE, id, keep_cons_bar, keep_cons_rest]
    rcases Bool.eq_false_or_eq_true (rem - v == 0) with hz | hz <;> cases ibt <;> simp [hz, render]

theorem restLoop_keep (ibt : Bool) (c : Cfg) (cap : Int) : ∀ (fuel : Nat) (acc : List Tok) (cur bar rem buf : Int),
    (forIn (List.replicate fuel ()) (rstOf ibt acc cur bar rem buf) (fun _ st => restStepB ibt c.steps cap st) >>= restPost)
      = liftE (restOut ibt) (applyRest c cap fuel buf (cur, bar, rem) acc) := by
  intro fuel
  induction fuel with
  | zero =>
    intro acc cur bar rem buf
    simp only [List.replicate_zero, List.forIn_nil, pure_bind, restPost, rstOf, applyRest]
    by_cases hb : buf > 0 <;> simp [hb, liftE, restOut, ofErr]
  | succ fuel ih =>
    intro acc cur bar rem buf
    rw [List.replicate_succ, List.forIn_cons]
    by_cases hb : 0 < buf
    · rw [restStepB_model ibt c cap acc cur bar rem buf hb, applyRest_pos _ _ _ _ _ _ _ _ hb]
      cases chooseStep c (min buf rem) with
      | error e => rfl
      | ok v =>
        simp only [SCoda.ok_bind]
        split
        · exact ih _ _ _ _ _
        · exact ih _ _ _ _ _
    · rw [applyRest_nonpos _ _ _ _ _ _ (by omega)]
      have hs : restStepB ibt c.steps cap (rstOf ibt acc cur bar rem buf) = .ok (.done (rstOf ibt acc cur bar rem buf)) := by
        unfold restStepB; simp [rstOf, hb]
      rw [hs]
      simp [rstOf, hb, restPost, liftE, restOut, bind, Except.bind, pure, Except.pure]

theorem tokeniseApplyRest_keep (ibt : Bool) (o : TokObj) (cap : Int) (acc : List Tok) (cur bar rem rest : Int) :
    tokeniseApplyRest o ibt cap ((keepBar ibt acc).reverse.map render) cur bar rem rest =
      liftE (restOut ibt) (applyRest (cfgOf o) cap (rest.toNat + 1) rest (cur, bar, rem) acc) := by
  rw [tokeniseApplyRest_eqB, Int.sub_zero]
  exact restLoop_keep ibt (cfgOf o) cap _ acc cur bar rem rest

end SCoda.TokTieBarL

namespace SCoda.TokTieL
open SCoda SCoda.TokLib SCoda.Gen.Tok SCoda.RenderL SCoda.TokTieBarL SCoda.Tokenise

abbrev TSt := List String × Int × Int × Int × Int × Int × Int × Int × Int × Int

/-- what the tie of the loop body needs of a pairing `(channel, messages)`: it is filed under the channel of its first message (the
    source's "Channel mismatch" check, notelike_tokenisation.py:158-161, then passes), and a time-signature message has a non-zero
    denominator and a non-negative bar length (where `int(ppqn * 4 * n / d)` is the model's `Cfg.capacity`) -/
def EvOk (ppqn : Int) (ev : Int × Pairing) : Prop :=
  ∀ m, ev.2.head? = some m → ev.1 = m.ch ∧ (m.ty = .timeSignature → m.den ≠ 0 ∧ 0 ≤ ppqn * 4 * m.num)

instance (ppqn : Int) (ev : Int × Pairing) : Decidable (EvOk ppqn ev) :=
  inferInstanceAs (Decidable (∀ m, m ∈ ev.2.head? → _))

theorem foldlM''_eq {α β} (f : β → α → Except Err β) : ∀ (xs : List α) (b : β), tokeniseCore.foldlM'' f b xs = xs.foldlM f b
  | [], b => rfl
  | x :: xs, b => by
    rw [tokeniseCore.foldlM'', List.foldlM_cons]
    cases f b x with
    | error e => rfl
    | ok b' => exact foldlM''_eq f xs b'

/-- reading the state dictionary (`state_dict.get(key, default)`) -/
def stOfDict (o : TokObj) (d : List (String × Int)) : TokSt :=
  let num := pyDictGetD d "cur_time_signature_numerator" Gen.defaultTimeSignatureNumerator
  let den := pyDictGetD d "cur_time_signature_denominator" Gen.defaultTimeSignatureDenominator
  { curTime := pyDictGetD d "cur_time" 0, curTimeBar := pyDictGetD d "cur_time_bar" 0, tsNum := num, tsDen := den,
    capRem := pyDictGetD d "cur_bar_capacity_remaining" ((cfgOf o).capacity num den),
    prvTrack := pyDictGetD d "prv_track" (-1), prvValue := pyDictGetD d "prv_value" (-1),
    prvVel := pyDictGetD d "prv_velocity" (-1) }

/-- the LINKED glue of `tokenise` (set_channel on every track, merge, interleaved pairings) is the hand model `extract` -/
theorem link_extract (rels : List (List Msg)) :
    (LSeq.new.merge ((pyEnumerate (rels.map LSeq.rel)).map (fun p => p.2.setChannel p.1))).interleaved
        [MType.noteOn, MType.noteOff, MType.timeSignature, MType.internal] = extract Gen.ppqn rels := by
  simp only [LSeq.interleaved, LSeq.merge, LSeq.absOf, LSeq.new, extract, extractTypes, pyEnumerate, pyEnumerateFrom_eq,
    List.zipIdx_map, List.map_map]
  congr 5

/-- writing the state dictionary back (`state_dict[key] = value`, eight stores) -/
def writeSt (d : List (String × Int)) (st : TokSt) : List (String × Int) :=
  pyDictSet (pyDictSet (pyDictSet (pyDictSet (pyDictSet (pyDictSet (pyDictSet (pyDictSet d "cur_time" st.curTime)
    "cur_time_bar" st.curTimeBar) "cur_time_signature_numerator" st.tsNum) "cur_time_signature_denominator" st.tsDen)
    "cur_bar_capacity_remaining" st.capRem) "prv_track" st.prvTrack) "prv_value" st.prvValue) "prv_velocity" st.prvVel

/-- the loop variables of the generated `tokenise` called with `insert_bar_token = ibt`, for a state of the hand model -/
def gOf (ibt : Bool) (l : TkLoop) : TSt :=
  ((keepBar ibt l.toks).reverse.map render, l.st.curTime, l.st.curTimeBar, l.st.tsNum, l.st.tsDen, l.capTotal, l.st.capRem,
    l.st.prvTrack, l.st.prvValue, l.st.prvVel)

/-- one `if not flag_fuse_x and (changed or not running): tokens.append(x) elif flag_fuse_x: token += x + "-"` of the source:
    an optional separate token and an optional part of the note string -/
theorem fuse_step {α : Type} (f b : Bool) (ts s : List α) (tk t : String) :
    (if (!f && b) = true then (ts ++ s, tk) else if f = true then (ts, tk ++ t) else (ts, tk)) =
      (ts ++ (if (!f && b) = true then s else []), tk ++ if f = true then t else "") := by
  cases f <;> cases b <;> simp

theorem opt_reverse {α} (c : Prop) [Decidable c] (a : α) : (if c then [a] else []).reverse = if c then [a] else [] := by
  split <;> rfl

theorem opt_map {α β} (f : α → β) (c : Prop) [Decidable c] (a : α) : (if c then [a] else []).map f = if c then [f a] else [] := by
  split <;> rfl

theorem tokeniseLoop1_keep (ibt : Bool) (o : TokObj) (shift : Int) (ev : Int × Pairing) (l : TkLoop) (hev : EvOk o.ppqn ev) :
    tokeniseLoop1 ibt o shift ev (gOf ibt l) =
      liftE (fun l' => ForInStep.yield (gOf ibt l')) (tokEvent (cfgOf o) shift l ev) := by
  obtain ⟨ch, p⟩ := ev
  cases p with
  | nil =>
    unfold tokeniseLoop1 tokEvent
    simp only [pyItem_nil, error_bind]
    rfl
  | cons m restP =>
    have hch : ch = m.ch := (hev m rfl).1
    have hc : (!(ch == m.ch)) = false := by simp [hch]
    rw [tokEvent_cons]
    unfold gOf tokeniseLoop1
    simp only [fuse_step, pyItem_cons_zero, ok_bind, hc, raiseIf_false]
    have hrest : (if (!(l.st.curTime == m.time + shift)) = true then do
            let r3_ ← tokeniseApplyRest o ibt l.capTotal ((keepBar ibt l.toks).reverse.map render) l.st.curTime l.st.curTimeBar l.st.capRem
              (m.time + shift - l.st.curTime)
            pure (r3_.1, r3_.2.1, r3_.2.2.1, r3_.2.2.2)
          else pure ((keepBar ibt l.toks).reverse.map render, l.st.curTime, l.st.curTimeBar, l.st.capRem)) =
        liftE (restOut ibt) (restH (cfgOf o) shift l m) := by
      unfold restH
      simp only [bne, tokeniseApplyRest_keep]
      rcases Bool.eq_false_or_eq_true (!(l.st.curTime == m.time + shift)) with h | h
      · simp only [h, if_true]
        generalize applyRest (cfgOf o) _ _ _ _ _ = x
        cases x <;> rfl
      · simp only [h, Bool.false_eq_true, if_false]
        rfl
    rw [hrest]
    generalize restH (cfgOf o) shift l m = R
    cases R with
    | error e => rfl
    | ok r =>
      obtain ⟨⟨cur', bar', rem'⟩, acc'⟩ := r
      simp only [liftE, restOut, restOut, ok_bind]
      unfold cfgOf
      unfold Tokenise.tail
      simp only []
      cases hty : m.ty
      case noteOn =>
        simp only [beq_self_eq_true, if_true]
        cases restP with
        | nil => simp only [pyItem_single_one, error_bind]; rfl
        | cons off rp =>
          simp only [pyItem_cons_one, ok_bind, pyItem_ofNat]
          cases hb : o.velocityBins[binIndex o.velocityBins m.vel]? with
          | none => rfl
          | some vel =>
            simp only [ok_bind]
            rcases Bool.eq_false_or_eq_true (decide (o.pitchRange.1 ≤ m.note) && decide (m.note ≤ o.pitchRange.2)) with hp1 | hp1
            · rcases Bool.eq_false_or_eq_true (o.noteValues.contains (off.time - m.time)) with hp2 | hp2
              · simp only [hp1, hp2, Bool.not_true, raiseIf_false, ok_bind, Bool.false_eq_true, if_false, render_note,
                  keep_cons_of ibt (Tok.note _ _ _ _) _ rfl, keep_append, keep_ite ibt _ (Tok.trk _) rfl, keep_ite ibt _ (Tok.val _) rfl,
                  keep_ite ibt _ (Tok.vel _) rfl,
                  List.reverse_cons, List.reverse_append, List.reverse_reverse, opt_reverse, List.map_append, opt_map,
                  List.map_cons, List.map_nil, List.append_assoc]
                rfl
              · simp only [hp1, hp2, Bool.not_true, Bool.not_false, raiseIf_false, raiseIf_true, ok_bind, error_bind, Bool.false_eq_true,
                  if_true, if_false]
                rfl
            · simp only [hp1, Bool.not_false, raiseIf_true, error_bind, if_true]
              rfl
      case timeSignature =>
        have hts := (hev m rfl).2 hty
        have e1 : (MType.timeSignature == MType.noteOn) = false := by decide +kernel
        simp only [e1, Bool.false_eq_true, if_false, beq_self_eq_true, if_true]
        by_cases hbar : bar' > 0
        · simp only [hbar, decide_true, if_true]; rfl
        · simp only [hbar, decide_false, Bool.false_eq_true, if_false, pyTrueDiv_ok _ _ hts.1, ok_bind,
            ratIsInteger_scaled _ _ _ hts.1]
          by_cases hdiv : (m.num * Gen.defaultTimeSignatureDenominator) % m.den = 0
          · simp only [hdiv, decide_true, Bool.not_true, raiseIf_false, ok_bind, bne_self_eq_false, Bool.false_eq_true, if_false,
              ratTrunc_scaled _ _ _ hts.1 hdiv, ratTrunc_capacity _ _ hts.1 hts.2]
            generalize m.num * Gen.defaultTimeSignatureDenominator / m.den = s
            rcases Bool.eq_false_or_eq_true (decide (o.timeSignatureRange.1 ≤ s) && decide (s ≤ o.timeSignatureRange.2)) with hr | hr
            · simp only [hr, Bool.not_true, raiseIf_false, ok_bind, Bool.false_eq_true, if_false, keep_cons_of ibt (Tok.tsig _ _) _ rfl, List.reverse_cons, List.map_append,
                List.map_cons, List.map_nil]
              rfl
            · simp only [hr, Bool.not_false, raiseIf_true, error_bind, if_true]
              rfl
          · have hne : (m.num * Gen.defaultTimeSignatureDenominator % m.den != 0) = true := by simp [hdiv]
            simp only [hdiv, decide_false, Bool.not_false, raiseIf_true, error_bind, hne, if_true]
            rfl
      all_goals
        simp only [reduceCtorEq, beq_iff_eq, if_false]
        rfl

/-- the generated `tokenise`, either flag, is the hand model with its tokens passed through `keepBar ibt`
    (`TokTie.tokenise_eq` is `ibt = true`, `TokTie3.tokenise_eq_flag` adds `extract_ch` and `tsEvOk_of_input`) -/
theorem tokenise_keep (ibt : Bool) (o : TokObj) (rels : List (List Msg)) (d : List (String × Int))
    (hlen : (rels.length : Int) = o.numTracks)
    (hd : (stOfDict o d).tsDen ≠ 0) (hn : 0 ≤ o.ppqn * 4 * (stOfDict o d).tsNum)
    (hev : ∀ ev ∈ extract Gen.ppqn rels, EvOk o.ppqn ev) :
    tokenise o (rels.map LSeq.rel) ibt true (some d) =
      liftE (fun r => (writeSt d r.2, (keepBar ibt r.1).map render)) (tokeniseCore (cfgOf o) (stOfDict o d) (extract Gen.ppqn rels)) := by
  unfold tokenise
  simp only []
  have hlen' : (!(((rels.map LSeq.rel).length : Int) == o.numTracks)) = false := by simp [hlen]
  have hd' : pyDictGetD d "cur_time_signature_denominator" Gen.defaultTimeSignatureDenominator ≠ 0 := hd
  have hn' : 0 ≤ o.ppqn * 4 * pyDictGetD d "cur_time_signature_numerator" Gen.defaultTimeSignatureNumerator := hn
  simp only [Bool.not_true, raiseIf_false, hlen', pure_bind, pyTrueDiv_ok _ _ hd', ok_bind]
  rw [forIn_collect (fun p : Int × LSeq => p.2.setChannel p.1) _ _ ?hc]
  case hc => intro x _ s; rfl
  simp only [ok_bind, List.nil_append, link_extract]
  have hloop : ∀ b, b = gOf ibt { st := stOfDict o d, capTotal := (cfgOf o).capacity (stOfDict o d).tsNum (stOfDict o d).tsDen } →
      forIn (extract Gen.ppqn rels) b (fun x_ s_ => tokeniseLoop1 ibt o (pyDictGetD d "cur_time" 0) x_ s_) =
        liftR ofErr (gOf ibt) ((extract Gen.ppqn rels).foldlM (tokEvent (cfgOf o) (pyDictGetD d "cur_time" 0))
          { st := stOfDict o d, capTotal := (cfgOf o).capacity (stOfDict o d).tsNum (stOfDict o d).tsDen }) := by
    rintro _ rfl
    exact forIn_foldlM ofErr (gOf ibt) (fun _ => True) _ _ _
      (fun ev h l _ => (tokeniseLoop1_keep ibt o _ ev l (hev ev h)).trans (liftE_eq _ _)) (fun _ _ _ _ _ _ => trivial) _ trivial
  rw [hloop _ ?hb]
  case hb =>
    simp only [gOf, keep_nil, stOfDict, List.reverse_nil, List.map_nil, Cfg.capacity, cfgOf]
    rw [ratTrunc_capacity _ _ hd' hn']
  unfold tokeniseCore
  simp only [foldlM''_eq]
  show _ = liftE _ (List.foldlM (tokEvent (cfgOf o) (pyDictGetD d "cur_time" 0)) _ _ >>= _)
  cases List.foldlM (tokEvent (cfgOf o) (pyDictGetD d "cur_time" 0))
      { st := stOfDict o d, capTotal := (cfgOf o).capacity (stOfDict o d).tsNum (stOfDict o d).tsDen }
      (extract Gen.ppqn rels) with
  | error e => rfl
  | ok l =>
    simp only [liftR, liftE, ok_bind, gOf]
    rcases Bool.eq_false_or_eq_true (decide (l.st.curTimeBar > 0) && decide (l.st.capRem > 0)) with hc | hc
    · simp only [hc, if_true, tokeniseApplyRest_keep]
      generalize applyRest (cfgOf o) _ _ _ _ _ = x
      cases x with
      | error e => rfl
      | ok r => simp [liftE, restOut, restOut, writeSt, keep_reverse, pure, Except.pure, bind, Except.bind]
    · simp [hc, writeSt, keep_reverse, pure, Except.pure, bind, Except.bind]

end SCoda.TokTieL

namespace SCoda.TokTieL
open SCoda

/-- `tokAfter` … `tokeniseCoreB`: the hand model of `tokenise` written out once more with `insert_bar_token` as a parameter.  Nothing
    uses them: the tie holds for both flags through `keepBar` (`tokenise_keep`), and only `ibt = true` is related to the hand model
    (`applyRestB_true`, `tokEventB_true`, `tokeniseCoreB_true`).

    what `tokEvent` does after the rest (copy of Model/Token.lean, `tokEvent`, from `let st := …` on; the same function as
    `Tokenise.tail` of Lemmas/Tokenise.lean) -/
def tokAfter (c : Cfg) (l0 : TkLoop) (m : Msg) (restP : List Msg) (r : (Int × Int × Int) × List Tok) : Except Err TkLoop :=
  let clk := r.1
  let toks := r.2
  let st := { l0.st with curTime := clk.1, curTimeBar := clk.2.1, capRem := clk.2.2 }
  let l := { l0 with st := st, toks := toks }
  match m.ty with
  | .noteOn =>
    match restP with
    | [] => .error .indexError
    | off :: _ =>
      let ch := m.ch
      let value := off.time - m.time
      match c.bins[binIndex c.bins m.vel]? with
      | Option.none => .error .indexError
      | some vel =>
        if !(c.pitchLo <= m.note && m.note <= c.pitchHi) then .error .tokenisationError else
        if !c.values.contains value then .error .tokenisationError else
        let pre1 := if !c.fuseTrk && (ch != st.prvTrack || !c.running) then [Tok.trk ch] else []
        let pre2 := if !c.fuseVal && (value != st.prvValue || !c.running) then [Tok.val value] else []
        let pre3 := if !c.fuseVel && (vel != st.prvVel || !c.running) then [Tok.vel vel] else []
        let tok := Tok.note (if c.fuseTrk then some ch else Option.none) m.note
                     (if c.fuseVal then some value else Option.none)
                     (if c.fuseVel then some vel else Option.none)
        .ok { l with toks := tok :: (pre3.reverse ++ pre2.reverse ++ pre1.reverse ++ l.toks),
                     st := { st with prvTrack := ch, prvValue := value, prvVel := vel } }
  | .timeSignature =>
    if st.curTimeBar > 0 then .ok l else
    if (m.num * c.defDen) % m.den != 0 then .error .tokenisationError else
    let scaled := (m.num * c.defDen) / m.den
    if !(c.tsLo <= scaled && scaled <= c.tsHi) then .error .tokenisationError else
    let capTotal := c.capacity m.num m.den
    .ok { l with capTotal := capTotal, toks := Tok.tsig scaled c.defNum :: l.toks,
                 st := { st with tsNum := m.num, tsDen := m.den, capRem := capTotal } }
  | _ => .ok l

end SCoda.TokTieL

namespace SCoda.TokTieBarL
open SCoda SCoda.TokTieL

/-- `_apply_rest(rest)` with `insert_bar_token = ibt` (copy of `applyRest`; the bar token is emitted only if `ibt`) -/
def applyRestB (ibt : Bool) (c : Cfg) (capTotal : Int) :
    Nat → Int → (Int × Int × Int) → List Tok → Except Err ((Int × Int × Int) × List Tok)
  | 0, buf, st, acc => if buf > 0 then .error .fuel else .ok (st, acc)
  | fuel + 1, buf, (cur, bar, rem), acc =>
    if buf > 0 then
      let nxt := min buf rem
      match c.steps.getLast? with
      | Option.none => .error .indexError
      | some last =>
        if !(nxt > last || c.steps.any (fun s => nxt >= s)) then .error .tokenisationError else
        let v := if nxt > last then some last else largestLe c.steps nxt
        match v with
        | Option.none => .error .tokenisationError
        | some v =>
          let cur := cur + v
          let bar := bar + v
          let rem := rem - v
          let acc := Tok.rest v :: acc
          if rem == 0 then applyRestB ibt c capTotal fuel (buf - v) (cur, 0, capTotal) (if ibt then Tok.bar :: acc else acc)
          else applyRestB ibt c capTotal fuel (buf - v) (cur, bar, rem) acc
    else .ok ((cur, bar, rem), acc)

theorem applyRestB_true (c : Cfg) (capTotal : Int) (fuel : Nat) (buf : Int) (clk : Int × Int × Int) (acc : List Tok) :
    applyRestB true c capTotal fuel buf clk acc = applyRest c capTotal fuel buf clk acc := by
  induction fuel generalizing buf clk acc with
  | zero => rfl
  | succ fuel ih =>
    obtain ⟨cur, bar, rem⟩ := clk
    unfold applyRestB applyRest
    simp only [ih, if_true]
    -- the two bodies differ only in the names of their `match` auxiliaries
    split
    · cases c.steps.getLast? with
      | none => rfl
      | some last =>
        simp only []
        split
        · rfl
        · cases (if min buf rem > last then some last else largestLe c.steps (min buf rem)) <;> rfl
    · rfl

def restHB (ibt : Bool) (c : Cfg) (shift : Int) (l : TkLoop) (m : Msg) : Except Err ((Int × Int × Int) × List Tok) :=
  if l.st.curTime != m.time + shift then
    applyRestB ibt c l.capTotal ((m.time + shift - l.st.curTime).toNat + 1) (m.time + shift - l.st.curTime)
      (l.st.curTime, l.st.curTimeBar, l.st.capRem) l.toks
  else .ok ((l.st.curTime, l.st.curTimeBar, l.st.capRem), l.toks)

def tokEventB (ibt : Bool) (c : Cfg) (shift : Int) (l : TkLoop) (ev : Int × Pairing) : Except Err TkLoop :=
  match ev.2 with
  | [] => .error .indexError
  | m :: restP => restHB ibt c shift l m >>= tokAfter c l m restP

def tokeniseCoreB (ibt : Bool) (c : Cfg) (st : TokSt) (evs : List (Int × Pairing)) : Except Err (List Tok × TokSt) := do
  let capTotal := c.capacity st.tsNum st.tsDen
  let l ← tokeniseCore.foldlM'' (tokEventB ibt c st.curTime) { st := st, capTotal := capTotal } evs
  let (clk, toks) ← if l.st.curTimeBar > 0 && l.st.capRem > 0 then
      applyRestB ibt c l.capTotal (l.st.capRem.toNat + 1) l.st.capRem (l.st.curTime, l.st.curTimeBar, l.st.capRem) l.toks
    else .ok ((l.st.curTime, l.st.curTimeBar, l.st.capRem), l.toks)
  .ok (toks.reverse, { l.st with curTime := clk.1, curTimeBar := clk.2.1, capRem := clk.2.2 })

theorem tokEventB_true : tokEventB true = tokEvent := by
  funext c shift l ev
  obtain ⟨ch, p⟩ := ev
  cases p with
  | nil => rfl
  | cons m restP =>
    unfold tokEventB restHB tokEvent
    simp only [applyRestB_true]
    split <;> rfl

theorem tokeniseCoreB_true (c : Cfg) (st : TokSt) (evs : List (Int × Pairing)) :
    tokeniseCoreB true c st evs = tokeniseCore c st evs := by
  unfold tokeniseCoreB tokeniseCore
  simp only [tokEventB_true, applyRestB_true]

end SCoda.TokTieBarL
