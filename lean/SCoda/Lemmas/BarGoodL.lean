/-
  For Props/C03f (audit A1 (ii)): the bar sequences `splitBars` builds from tracks that are well-formed, free of
  zero-length notes and on one channel are good tracks (`ExtractL.TrackGood`).  The bridge from `NoZeroNotes` (relative
  lists) to `n.on < n.off` (`notesOf`) is `SB.NicePairs` through `SB.nice_of_first` (`wf_pos_of_nice`); the bars of a run
  get it as an instance of `SB.trackRun_firsts`.
-/
import SCoda.Lemmas.ExtractL
import SCoda.Lemmas.SplitBarsQ
import SCoda.Props.C09
namespace SCoda.GlueL
open SCoda SCoda.ExtractL SCoda.SplitL SCoda.SB SCoda.BarL SCoda.Strong589L

def AllQ (ch : Int) (l : List Msg) : Prop := ∀ m ∈ l, m.ch = ch ∧ m.ty ≠ .internal

theorem allQ_nil (ch : Int) : AllQ ch [] := by intro m hm; simp at hm

/-- `AllQ` of every part of a state of `split` -/
structure SInv (ch : Int) (s : SplitSt) : Prop where
  wm : AllQ ch s.wm
  cur : AllQ ch s.cur
  queue : AllQ ch s.queue
  opens : ∀ kv ∈ s.opens, kv.2.ch = ch
  pieces : ∀ p ∈ s.pieces, AllQ ch p

theorem split_allQ (ch : Int) (r : List Msg) (caps : List Int) (pieces : List (List Msg)) (h : split r caps = .ok pieces)
    (hr : AllQ ch r) : ∀ p ∈ pieces, AllQ ch p :=
  split_forall ⟨fun _ h => ⟨h.1, by simp [offOf]⟩, fun _ h => ⟨h.1, by simp [onOf]⟩,
    fun _ _ h _ _ => ⟨h.1, by simp [Msg.mkWait]⟩⟩ r caps pieces h hr

theorem wf_pos_of_nice (E : List Msg) (h : ∀ k, ∃ ps lo, NicePairs k lo ps ∧ E.filter (isKN k) = flat ps) :
    WF E ∧ ∀ n ∈ notesOf E, n.on < n.off := by
  constructor
  · intro k
    obtain ⟨ps, lo, hn, he⟩ := h k
    rw [← altFrom_filter_kn, he]
    exact NotesBL.altFrom_unpair ps (nice_good k ps lo hn)
  · intro n hn
    obtain ⟨ps, lo, hnice, he⟩ := h (n.ch, n.pitch)
    have hmem : n ∈ (notesOf E).filter (fun x => decide ((x.ch, x.pitch) = (n.ch, n.pitch))) :=
      List.mem_filter.2 ⟨hn, by simp⟩
    rw [NotesBL.notes_of_form he (nice_good _ ps lo hnice), List.mem_map] at hmem
    obtain ⟨p, hpp, rfl⟩ := hmem
    exact ((nice_chain _ ps lo hnice).1 p hpp).2

theorem bar_trackGood (ppqn : Int) (first : List Msg) (n d key : Int) (b : Bar) (i : Nat) (ch : Int)
    (hmk : mkBar ppqn first n d key = .ok b) (hw : NonNegWaits first) (hwf : WF first) (hz : NoZeroNotes first)
    (hq : AllQ ch first) : TrackGood i b.seq := by
  have hkv := bar_kview ppqn first n d key b hmk hw hwf
  obtain ⟨_, _, _, hb⟩ := mkBar_ok hmk
  subst hb
  simp only at hkv ⊢
  have hnice : ∀ k, ∃ ps lo, NicePairs k lo ps ∧ (eventsRel (barSeq ppqn first n d)).filter (isKN k) = flat ps := by
    intro k
    obtain ⟨ps, h1, h2⟩ := nice_of_first k first hw hwf hz
    exact ⟨ps, 0, h1, by rw [hkv k, h2]⟩
  have hch : ∀ m ∈ eventsRel (barSeq ppqn first n d), (m.ty = .noteOn ∨ m.ty = .noteOff) → m.ch = ch := by
    intro m hm hty
    rw [barSeq_events] at hm
    rcases List.mem_cons.1 hm with rfl | hm
    · rcases hty with e | e <;> simp [Msg.mkTimeSig] at e
    · have h1 := (normalise_events_sublist first hw).subset (List.mem_filter.1 hm).1
      obtain ⟨m0, hm0, _, t, rfl⟩ := eventsRelGo_src first 0 m h1
      exact (hq m0 hm0).1
  have hE := wf_pos_of_nice _ hnice
  have hpos : ∀ x ∈ trackNotes i (barSeq ppqn first n d), x.on < x.off := by
    intro x hx
    have hx' : x ∈ (notesGo (eventsRel (barSeq ppqn first n d)) []).map (fun y => { y with ch := (i : Int) }) := by
      rw [← notesGo_reTag (i : Int) ch _ [] hch (fun _ h => nomatch h)]
      exact hx
    obtain ⟨x0, hx0, rfl⟩ := List.mem_map.1 hx'
    exact hE.2 x0 hx0
  refine ⟨⟨barSeq_nonneg ppqn first n d, ?_⟩, wf_reTag i ch _ hch hE.1, hpos⟩
  intro m hm
  unfold barSeq at hm
  rcases List.mem_cons.1 hm with rfl | hm
  · simp [Msg.mkTimeSig]
  · have hmb := (List.mem_filter.1 hm).1
    rcases barBody_cases ppqn first n d with e | ⟨w, hwt, _, e⟩
    · rw [e] at hmb
      rcases normalise_entries first m hmb with h1 | h1
      · rw [h1.1]; simp
      · exact (hq m h1.2).2
    · rw [e] at hmb
      rcases List.mem_append.1 hmb with hmb | hmb
      · rcases normalise_entries first m hmb with h1 | h1
        · rw [h1.1]; simp
        · exact (hq m h1.2).2
      · simp only [List.mem_singleton] at hmb
        rw [hmb, hwt]; simp

theorem trackRun_good (ppqn : Int) (values : List Int) (i : Nat) (ch : Int) (gs : List Sg) (t : List Msg) (tw : List Bool)
    (t' : List Msg) (nb : List Bar) (h : trackRun ppqn values false gs t = .ok (tw, t', nb)) (hpos : ∀ g ∈ gs, 0 < sgLen ppqn g)
    (hw : NonNegWaits t) (hwf : WF t) (hz : NoZeroNotes t) (hq : AllQ ch t) : ∀ b ∈ nb, TrackGood i b.seq := by
  obtain ⟨firsts, hB, hfs, _⟩ := trackRun_firsts (B := fun _ => True) ppqn values false (fun t => NoZeroNotes t ∧ AllQ ch t)
    ⟨noZero_nil, allQ_nil ch⟩
    (fun t c pieces hc hw hwf hti hs p hp =>
      ⟨(split_one_notes t c pieces hs hc hw hwf hti.1 p hp).2.2, split_allQ ch t _ pieces hs hti.2 p hp⟩)
    gs t tw t' nb 0 h hpos hw hwf ⟨hz, hq⟩ (fun _ _ => trivial) (fun k' => (zlB_true k' t 0 hw).2 (hz k'))
  intro b hb
  obtain ⟨g, f, hf, ⟨piece, hrq, hmk⟩, hfw, hfn⟩ := barsOf_mem ppqn values false gs firsts nb hB b hb
  rw [requantPiece_false values ppqn f piece hrq] at hmk
  exact bar_trackGood ppqn f _ _ _ _ i ch hmk hfn hfw (hfs f hf).1 (hfs f hf).2

theorem splitBars_trackGood (ppqn : Int) (values : List Int) (tracks : List (List Msg)) (tb : List (List Bar))
    (h : splitBars ppqn values tracks 0 false = .ok tb)
    (hpos : ∀ b ∈ tb.headD [], 0 < barCapacity ppqn b.num b.den)
    (htr : ∀ t ∈ tracks, OkRel t ∧ WF t ∧ NoZeroNotes t ∧ ∃ ch, ∀ m ∈ t, m.ch = ch) :
    ∀ i bs, tb[i]? = some bs → ∀ b ∈ bs, TrackGood i b.seq := by
  obtain ⟨metaTrack, r, hm, hl, hall⟩ := splitBars_track ppqn values tracks 0 false tb h
  have h0 : 0 < tb.length := by rw [hl]; exact lt_of_getElem?_some hm
  obtain ⟨_, _, _, _, hs⟩ := hall 0 _ (List.getElem?_eq_getElem h0)
  have hgpos : ∀ g ∈ sched ppqn metaTrack (r + 1), 0 < sgLen ppqn g := by
    intro g hg
    rw [← hs, List.mem_map] at hg
    obtain ⟨b, hb, rfl⟩ := hg
    exact hpos b (by rw [headD_eq_get h0]; exact hb)
  intro i bs hbs b hb
  obtain ⟨t, tw, ht, hrun, _⟩ := hall i bs hbs
  obtain ⟨hok, hwf, hz, ch, hch⟩ := htr t (List.mem_of_getElem? ht)
  exact trackRun_good ppqn values i ch _ _ _ _ _ hrun hgpos hok.1 hwf hz (fun m hm => ⟨hch m hm, hok.2 m hm⟩) b hb

end SCoda.GlueL
