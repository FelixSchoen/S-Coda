/-
  What the model parser `parseTok` (Model/Render.lean) accepts.  If
  `parseTok s = .ok t` then every numeric field of `s` is a non-empty string of ASCII digits (the pieces contain neither `-`
  nor `_`, and `String.toInt?` reads nothing else), Python's `int()` reads the same number, the numbers are natural numbers,
  and the generated `detokenise` reads `s` as `t` (`TokRep`, Lemmas/TokReadL.lean) — in whatever order the parts of a fused
  note token are written.
-/
import SCoda.Lemmas.TokReadL
set_option linter.unusedSimpArgs false
namespace SCoda.TokTieL
open SCoda SCoda.TokLib SCoda.Gen.Tok SCoda.RenderL SCoda.DefsL

/-- the sort key of a part: position of its prefix in `sort_order`, or -1 -/
def keyOf : Part → Int
  | .trk _ => 0 | .val _ => 1 | .vel _ => 2 | .pit _ => 3 | _ => -1

theorem sortKey_of_partStrs (p : Part) (s : List String) (h : PartStrs p s) : sortKeyFn s = .ok (keyOf p) := by
  obtain ⟨r, rfl⟩ := partStrs_cons p s h
  cases p <;> rfl

theorem pySortedBy_single (x : List String) (k : Int) (h : sortKeyFn x = .ok k) : pySortedBy [x] sortKeyFn = .ok [x] := by
  simp [pySortedBy, mapME, h, sortByKeys, insertByKey]

theorem tokRep_single (s : String) (t : Tok) (p : Part) (strs : List String)
    (hP : (s.splitOn "-").map (fun part => part.splitOn "_") = [strs]) (hparts : t.parts = [p]) (hs : PartStrs p strs) :
    TokRep s t :=
  ⟨[strs], by rw [hP]; exact pySortedBy_single _ _ (sortKey_of_partStrs p strs hs), by rw [hparts]; exact .cons hs .nil⟩

/-- the fields read so far: string and value of the track, value, velocity and pitch part -/
structure NSt where
  st : Option (String × Int)
  sv : Option (String × Int)
  sw : Option (String × Int)
  sp : Option (String × Int)

def NSt.tok (n : NSt) : Tok := .note (n.st.map (·.2)) ((n.sp.map (·.2)).getD (-1)) (n.sv.map (·.2)) (n.sw.map (·.2))

def ent (k : Int) (name : String) : Option (String × Int) → List (Int × List String)
  | some e => [(k, [prefixOf name, e.1])]
  | Option.none => []

/-- the parts read so far, in `sort_order` -/
def NSt.sorted (n : NSt) : List (Int × List String) :=
  ent 0 "TRACK" n.st ++ ent 1 "VALUE" n.sv ++ ent 2 "VELOCITY" n.sw ++ ent 3 "PITCH" n.sp

def EntOk : Option (String × Int) → Prop
  | some e => pyIntOfStr e.1 = .ok e.2 ∧ 0 ≤ e.2
  | Option.none => True

def NSt.Valid (n : NSt) : Prop := EntOk n.st ∧ EntOk n.sv ∧ EntOk n.sw ∧ EntOk n.sp

theorem noteStep_spec (n : NSt) (hv : n.Valid) (part : List String) (hclean : ∀ a ∈ part, '-' ∉ a.toList ∧ '_' ∉ a.toList)
    (t' : Tok) (h : noteStep (.ok n.tok) part = .ok t') :
    ∃ (k : Int) (n' : NSt), sortKeyFn part = .ok k ∧ insertByKey k part n.sorted = n'.sorted ∧ t' = n'.tok ∧ n'.Valid := by
  obtain ⟨st, sv, sw, sp⟩ := n
  obtain ⟨v1, v2, v3, v4⟩ := hv
  simp only at v1 v2 v3 v4
  rcases part with _ | ⟨p, _ | ⟨a, _ | ⟨b, r⟩⟩⟩
  · simp [noteStep, NSt.tok, bind, Except.bind] at h
  · simp [noteStep, NSt.tok, bind, Except.bind] at h
  · obtain ⟨hd, hu⟩ := hclean a (by simp)
    simp only [noteStep, NSt.tok, bind, Except.bind, num] at h
    cases hnum : pyInt? a with
    | none => rw [hnum] at h; cases h
    | some v =>
      rw [hnum] at h
      simp only at h
      have hint := pyIntOfStr_of_pyInt a v hd hu hnum
      have hnn := (pyInt_digits a v hd hu hnum).2.2
      have hpit : ((sp.map (·.2)).getD (-1) == -1) = sp.isNone := by
        cases sp with
        | none => rfl
        | some e =>
          have : 0 ≤ e.2 := v4.2
          simp; omega
      rw [hpit] at h
      by_cases c1 : (p == Nm.trk.pfx && (st.map (·.2)).isNone) = true
      · rw [if_pos c1] at h
        simp only [Bool.and_eq_true, beq_iff_eq, Option.isNone_iff_eq_none, Option.map_eq_none_iff] at c1
        obtain ⟨rfl, rfl⟩ := c1
        cases h
        refine ⟨0, ⟨some (a, v), sv, sw, sp⟩, sortKey_of_partStrs (.trk v) _ ⟨a, rfl, hint⟩, ?_, rfl, ⟨hint, hnn⟩, v2, v3, v4⟩
        cases sv <;> cases sw <;> cases sp <;> simp [NSt.sorted, ent, insertByKey, Nm.pfx, Nm.str]
      · rw [if_neg c1] at h
        by_cases c2 : (p == Nm.pit.pfx && sp.isNone) = true
        · rw [if_pos c2] at h
          simp only [Bool.and_eq_true, beq_iff_eq, Option.isNone_iff_eq_none] at c2
          obtain ⟨rfl, rfl⟩ := c2
          cases h
          refine ⟨3, ⟨st, sv, sw, some (a, v)⟩, sortKey_of_partStrs (.pit v) _ ⟨a, rfl, hint⟩, ?_, rfl, v1, v2, v3, ⟨hint, hnn⟩⟩
          cases st <;> cases sv <;> cases sw <;> simp [NSt.sorted, ent, insertByKey, Nm.pfx, Nm.str]
        · rw [if_neg c2] at h
          by_cases c3 : (p == Nm.val.pfx && (sv.map (·.2)).isNone) = true
          · rw [if_pos c3] at h
            simp only [Bool.and_eq_true, beq_iff_eq, Option.isNone_iff_eq_none, Option.map_eq_none_iff] at c3
            obtain ⟨rfl, rfl⟩ := c3
            cases h
            refine ⟨1, ⟨st, some (a, v), sw, sp⟩, sortKey_of_partStrs (.val v) _ ⟨a, rfl, hint⟩, ?_, rfl, v1, ⟨hint, hnn⟩, v3, v4⟩
            cases st <;> cases sw <;> cases sp <;> simp [NSt.sorted, ent, insertByKey, Nm.pfx, Nm.str]
          · rw [if_neg c3] at h
            by_cases c4 : (p == Nm.vel.pfx && (sw.map (·.2)).isNone) = true
            · rw [if_pos c4] at h
              simp only [Bool.and_eq_true, beq_iff_eq, Option.isNone_iff_eq_none, Option.map_eq_none_iff] at c4
              obtain ⟨rfl, rfl⟩ := c4
              cases h
              refine ⟨2, ⟨st, sv, some (a, v), sp⟩, sortKey_of_partStrs (.vel v) _ ⟨a, rfl, hint⟩, ?_, rfl, v1, v2, ⟨hint, hnn⟩, v4⟩
              cases st <;> cases sv <;> cases sp <;> simp [NSt.sorted, ent, insertByKey, Nm.pfx, Nm.str]
            · rw [if_neg c4] at h
              cases h
  · simp [noteStep, NSt.tok, bind, Except.bind] at h

/-- a part with its sort key, as `sorted(..., key=...)` computes it first -/
def keyed (x : List String) : Except PyErr (Int × List String) :=
  match sortKeyFn x with | .ok k => Except.ok (k, x) | .error e => .error e

theorem mapME_congr {α β ε} (f g : α → Except ε β) (h : ∀ x, f x = g x) : ∀ l : List α, mapME f l = mapME g l
  | [] => rfl
  | x :: xs => by simp only [mapME, h x, mapME_congr f g h xs]

theorem pySortedBy_eq (l : List (List String)) : pySortedBy l sortKeyFn =
    match mapME keyed l with | .ok kxs => .ok ((sortByKeys kxs).map (·.2)) | .error e => .error e := by
  unfold pySortedBy
  rw [mapME_congr _ keyed ?h l]
  case h => intro x; unfold keyed; cases sortKeyFn x <;> rfl
  cases mapME keyed l <;> rfl

theorem noteStep_error (e : ParseErr) (Q : List (List String)) : Q.foldl noteStep (.error e) = .error e := by
  induction Q with
  | nil => rfl
  | cons p Q ih => exact ih

theorem noteFold_spec : ∀ (Q : List (List String)) (n : NSt), n.Valid → (∀ part ∈ Q, ∀ a ∈ part, '-' ∉ a.toList ∧ '_' ∉ a.toList) →
    ∀ t, Q.foldl noteStep (.ok n.tok) = .ok t →
    ∃ (kxs : List (Int × List String)) (n' : NSt), mapME keyed Q = .ok kxs ∧
      kxs.foldl (fun acc kx => insertByKey kx.1 kx.2 acc) n.sorted = n'.sorted ∧ t = n'.tok ∧ n'.Valid := by
  intro Q
  induction Q with
  | nil => intro n hv _ t h; cases h; exact ⟨[], n, rfl, rfl, rfl, hv⟩
  | cons part Q ih =>
    intro n hv hclean t h
    simp only [List.foldl_cons] at h
    cases h1 : noteStep (.ok n.tok) part with
    | error e => rw [h1, noteStep_error] at h; cases h
    | ok t1 =>
      rw [h1] at h
      obtain ⟨k, n1, hk, hins, rfl, hv1⟩ := noteStep_spec n hv part (hclean part (by simp)) t1 h1
      obtain ⟨kxs, n', hm, hf, rfl, hv'⟩ := ih n1 hv1 (fun q hq => hclean q (by simp [hq])) t h
      refine ⟨(k, part) :: kxs, n', ?_, ?_, rfl, hv'⟩
      · simp [mapME, keyed, hk, hm]
      · simp only [List.foldl_cons, hins, hf]

theorem num_bind {β} (a : String) (g : Int → Except ParseErr β) (r : β) (hd : '-' ∉ a.toList) (hu : '_' ∉ a.toList)
    (h : (num a >>= g) = .ok r) : ∃ v, pyIntOfStr a = .ok v ∧ 0 ≤ v ∧ g v = .ok r := by
  unfold num at h
  cases hn : pyInt? a with
  | none => rw [hn] at h; cases h
  | some v =>
    rw [hn] at h
    exact ⟨v, pyIntOfStr_of_pyInt a v hd hu hn, (pyInt_digits a v hd hu hn).2.2, h⟩

theorem forall₂_append {α β} {R : α → β → Prop} : ∀ {a b c d}, List.Forall₂ R a b → List.Forall₂ R c d → List.Forall₂ R (a ++ c) (b ++ d)
  | _, _, _, _, .nil, h => h
  | _, _, _, _, .cons h1 h2, h => .cons h1 (forall₂_append h2 h)

theorem optNonneg_of_entOk : ∀ {o : Option (String × Int)}, EntOk o → OptNonneg (o.map (·.2))
  | none, _ => trivial
  | some _, h => h.2

/-- what the model parser accepts, the generated `detokenise` reads as the same token; the numbers are natural numbers -/
theorem parse_rep (s : String) (t : Tok) (h : parseTok s = .ok t) : TokRep s t ∧ TokOk t := by
  have hclean := field_clean s
  rw [parseTok_eq] at h
  unfold parseParts at h
  split at h
  · rename_i p hP
    repeat' split at h
    all_goals (try cases h)
    all_goals rename_i c
    all_goals (have := eq_of_beq c; subst this)
    · exact ⟨tokRep_single s _ .pad _ hP rfl rfl, trivial⟩
    · exact ⟨tokRep_single s _ .sta _ hP rfl rfl, trivial⟩
    · exact ⟨tokRep_single s _ .sto _ hP rfl rfl, trivial⟩
    · exact ⟨tokRep_single s _ .bar _ hP rfl rfl, trivial⟩
  · rename_i p a hP
    obtain ⟨hd, hu⟩ := hclean [p, a] (by rw [hP]; simp) a (by simp)
    repeat' split at h
    all_goals (try cases h)
    all_goals rename_i c
    all_goals (have := eq_of_beq c; subst this)
    all_goals (obtain ⟨v, hv, hnn, hg⟩ := num_bind a _ t hd hu h; cases hg)
    · exact ⟨tokRep_single s _ (.rest v) _ hP rfl ⟨a, rfl, hv⟩, hnn⟩
    · exact ⟨tokRep_single s _ (.trk v) _ hP rfl ⟨a, rfl, hv⟩, hnn⟩
    · exact ⟨tokRep_single s _ (.val v) _ hP rfl ⟨a, rfl, hv⟩, hnn⟩
    · exact ⟨tokRep_single s _ (.vel v) _ hP rfl ⟨a, rfl, hv⟩, hnn⟩
    · exact ⟨tokRep_single s _ (.pit v) _ hP rfl ⟨a, rfl, hv⟩, trivial, hnn, trivial, trivial⟩
  · rename_i p a b hP
    obtain ⟨hd, hu⟩ := hclean [p, a, b] (by rw [hP]; simp) a (by simp)
    obtain ⟨hd', hu'⟩ := hclean [p, a, b] (by rw [hP]; simp) b (by simp)
    split at h
    · rename_i c
      have := eq_of_beq c; subst this
      obtain ⟨x, hx, hxn, hg⟩ := num_bind a _ t hd hu h
      obtain ⟨y, hy, hyn, hg'⟩ := num_bind b _ t hd' hu' hg
      cases hg'
      exact ⟨tokRep_single s _ (.tsig x y) _ hP rfl ⟨a, b, rfl, hx, hy⟩, hxn, hyn⟩
    · cases h
  · rename_i multi _ _ _
    generalize hP : (s.splitOn "-").map (fun p => p.splitOn "_") = P at h hclean
    cases hf : P.foldl noteStep (.ok (.note Option.none (-1) Option.none Option.none)) with
    | error e => rw [hf] at h; cases h
    | ok t0 =>
      rw [hf] at h
      obtain ⟨kxs, n', hm, hs, rfl, hv⟩ := noteFold_spec P ⟨none, none, none, none⟩ ⟨trivial, trivial, trivial, trivial⟩ hclean t0 hf
      obtain ⟨st, sv, sw, sp⟩ := n'
      obtain ⟨v1, v2, v3, v4⟩ := hv
      simp only at v1 v2 v3 v4
      cases sp with
      | none => simp [NSt.tok, bind, Except.bind] at h
      | some e =>
        have hne : e.2 ≠ -1 := by have := v4.2; omega
        simp only [bind, Except.bind, NSt.tok, Option.map_some, Option.getD_some] at h
        split at h
        · rename_i heq; injection heq with _ h2; exact absurd h2 hne
        cases h
        refine ⟨⟨(NSt.sorted ⟨st, sv, sw, some e⟩).map (·.2), ?_, ?_⟩, ?_⟩
        · rw [hP]
          rw [pySortedBy_eq, hm]
          simp only [sortByKeys]
          rw [show NSt.sorted ⟨none, none, none, none⟩ = [] from rfl] at hs
          rw [hs]
        · -- field by field: a field that was read contributes its part and its entry, one that was not contributes nothing
          simp only [NSt.tok, Tok.parts, NSt.sorted, List.map_append]
          refine forall₂_append (forall₂_append (forall₂_append ?_ ?_) ?_) (.cons ⟨_, rfl, v4.1⟩ .nil)
          · cases st <;> [exact .nil; exact .cons ⟨_, rfl, v1.1⟩ .nil]
          · cases sv <;> [exact .nil; exact .cons ⟨_, rfl, v2.1⟩ .nil]
          · cases sw <;> [exact .nil; exact .cons ⟨_, rfl, v3.1⟩ .nil]
        · exact ⟨optNonneg_of_entOk v1, v4.2, optNonneg_of_entOk v2, optNonneg_of_entOk v3⟩

/-- a rendered token is read back as itself: `render` writes what the model parser accepts (`parse_render_ok`) -/
theorem tokRep_render (t : Tok) (h : TokOk t) : TokRep (render t) t := (parse_rep _ t (parse_render_ok t h)).1

theorem tokRep_map_render : ∀ ts : List Tok, (∀ t ∈ ts, TokOk t) → List.Forall₂ TokRep (ts.map render) ts
  | [], _ => .nil
  | t :: ts, h => .cons (tokRep_render t (h t (by simp))) (tokRep_map_render ts fun x hx => h x (by simp [hx]))

theorem mapM_parse_rep : ∀ (ss : List String) (ts : List Tok), ss.mapM parseTok = .ok ts →
    List.Forall₂ TokRep ss ts ∧ ∀ t ∈ ts, TokOk t
  | [], _, h => by cases h; exact ⟨.nil, fun _ h => nomatch h⟩
  | s :: ss, _, h => by
    rw [List.mapM_cons] at h
    obtain ⟨t, h1, h⟩ := bind_eq_ok h
    obtain ⟨r, h2, h⟩ := bind_eq_ok h
    cases h
    obtain ⟨ihr, ihk⟩ := mapM_parse_rep ss r h2
    exact ⟨.cons (parse_rep s t h1).1 ihr, List.forall_mem_cons.2 ⟨(parse_rep s t h1).2, ihk⟩⟩

theorem split_rst (x : String) (hd : '-' ∉ x.toList) (hu : '_' ∉ x.toList) :
    (("rst_" ++ x).splitOn "-").map (fun p => p.splitOn "_") = [["rst", x]] := by
  have := split_join [["rst", x]] (by simp) (by simp) fun part hp a ha => by
    rw [List.mem_singleton.1 hp] at ha
    simp only [List.mem_cons, List.not_mem_nil, or_false] at ha
    rcases ha with rfl | rfl
    · decide
    · exact ⟨hd, hu⟩
  rwa [List.map_singleton, String.intercalate_singleton, String.intercalate_cons_cons, String.intercalate_singleton] at this

theorem tokRep_rst (x : String) (v : Int) (hd : '-' ∉ x.toList) (hu : '_' ∉ x.toList) (hx : pyIntOfStr x = .ok v) :
    TokRep ("rst_" ++ x) (.rest v) :=
  tokRep_single _ _ (.rest v) _ (split_rst x hd hu) rfl
    ⟨x, by rw [show prefixOf "REST" = "rst" by decide], hx⟩

theorem parseTok_rst_error (x : String) (c : Char) (hd : '-' ∉ x.toList) (hu : '_' ∉ x.toList) (hc : c ∈ x.toList)
    (hn : c.isDigit = false) : parseTok ("rst_" ++ x) = .error .valueError := by
  rw [parseTok_eq, split_rst x hd hu, parseParts, if_pos (by decide), num, pyInt_none_of_nondigit x c hd hu hc hn]
  rfl

end SCoda.TokTieL
