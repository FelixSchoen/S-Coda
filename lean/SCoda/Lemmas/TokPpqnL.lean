/-
  What the linked glue of `tokenise` hands to its event loop (`extract`, Model/Extract.lean), as the tie needs it.

  Which `ppqn` the pairings see (audit round 4, item C6, first bullet; used by Props/TokTie2.lean).
  `tokenise` (notelike_tokenisation.py:149) calls `sequence_bar.get_interleaved_message_pairings([...])` WITHOUT a
  `standard_length`, so the length of an imputed note-off is the module constant `PPQN` (= `Gen.ppqn` = 24), while the bar
  capacities use the object's `self.ppqn`.  The property theorems are about `extract c.ppqn tracks`.  The
  `standard_length` argument is NOT OBSERVABLE on tracks with non-negative waits: `Sequence.merge` sorts and normalises first,
  after which every note-on of the list the pairings are read from is followed by its note-off, so `closeUnclosed` never fires.

  * `final_wf_any`   : the sorted list the pairings are read from is well-formed (`WF`, Model/Roll.lean), for ANY tracks that satisfy
                       `OkRel` (non-negative waits, no INTERNAL message) — overlapping, unclosed, unopened, zero-length notes
                       included (`ExtractL.final_wf`);
  * `extract_ppqn_irrel` : `extract p tracks = extract q tracks`: on a well-formed list `get_message_pairings` never closes a
                       note itself, its result is the plain fold whatever `standard_length` is (`NotesL.pairingsSorted_eq_fold`).

  Which channel a pairing is filed under.  `get_interleaved_message_pairings` (Model/Pairing.lean `interleaved`, and therefore
  `extract`) files every pairing under the channel of its first message — the "Channel mismatch" check of `tokenise`
  (notelike_tokenisation.py:158) never fires on the output of the hand model (`extract_ch`).  Read off `NL.pairingsSorted_cases`
  (Lemmas/PairStep.lean): a pairing filed under `ch` is a note, a single message or an open note-on of channel `ch`.
-/
import SCoda.Lemmas.ExtractL
namespace SCoda.TokPpqnL
open SCoda SCoda.ExtractL SCoda.E2E SCoda.MergeL SCoda.EQ SCoda.GlueAux

-- `final` stays closed in this namespace: a lemma applied at `WF (sortAbs (final tracks))` makes the elaborator look under `WF` for
-- further arguments, that is, evaluate `altFrom` on `sortAbs (final tracks)` as far as it goes, and throw the result away
attribute [local irreducible] GlueAux.final

/-- **the sorted list the pairings are read from is well-formed, for any `OkRel` tracks** -/
theorem final_wf_any (tracks : List (List Msg)) (hok : ∀ t ∈ tracks, OkRel t) : WF (sortAbs (final tracks)) :=
  final_wf tracks hok

/-- **`standard_length` is not observable through `tokenise`'s glue**: on tracks with non-negative waits (and no INTERNAL
    message) the interleaved pairings do not depend on the length used for unclosed notes — there are none left after the
    merge has normalised the piece. -/
theorem extract_ppqn_irrel (p q : Int) (tracks : List (List Msg)) (hok : ∀ t ∈ tracks, OkRel t) :
    extract p tracks = extract q tracks := by
  have hwf := final_wf_any tracks hok
  rw [extract_eq, extract_eq]
  unfold interleaved pairings
  rw [NotesL.pairingsSorted_eq_fold rfl rfl p _ hwf, NotesL.pairingsSorted_eq_fold rfl rfl q _ hwf]

end SCoda.TokPpqnL

namespace SCoda.TokTieL
open SCoda

theorem interleaved_ch (types : List MType) (stdLen : Int) (a : List Msg) :
    ∀ ev ∈ interleaved types stdLen true a, ∀ m, ev.2.head? = some m → ev.1 = m.ch :=
  PairStep.interleaved_forall (Q := fun c p => ∀ m, p.head? = some m → c = m.ch) fun c hc p hp m hm => by
    obtain ⟨p0, rfl, ⟨on, rfl, _, h1, _⟩ | ⟨on, off, rfl, _, _, _, h1, _⟩ | ⟨x, rfl, _, _, _, h1, _⟩⟩ :=
      NL.pairingsSorted_cases _ _ c hc p hp
    all_goals
      rw [PairStep.closeUnclosed_head, List.head?_cons, Option.some.injEq] at hm
      exact hm ▸ h1.symm

theorem extract_ch (ppqn : Int) (tracks : List (List Msg)) :
    ∀ ev ∈ extract ppqn tracks, ∀ m, ev.2.head? = some m → ev.1 = m.ch :=
  interleaved_ch _ _ _

end SCoda.TokTieL
