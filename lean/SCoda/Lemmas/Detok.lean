/-
  The detokeniser step by step; for C02, `detokenise` accepts every vocabulary token.

  One run, four writings: the model's `detokenise` (final sequences), `C19.detokFold` (final state, a `foldl` over
  `Except`), `C01.dfold` (final state and emission log) and `toks.foldlM (dstep c)`.  The last is the common form: each of
  the other three has one equation or implication to it (`detokenise_foldlM` here, `C19.detokFold_foldlM`,
  `C01.dfold_fold`), and `C19.detokenise_eq`, `C01.dfold_detokenise`, `C19.dfold_detokFold` are two of these composed.
-/
import SCoda.Lemmas.Vocab
import SCoda.Lemmas.ModifyAt
import SCoda.Lemmas.PyLoop
namespace SCoda.Detok
open SCoda

theorem dstep_eq (c : Cfg) (d : DetokSt) (t : Tok) : dstep c d t = t.parts.foldlM (dpart c) d :=
  foldl_bind (dpart c) _ (fun acc _ => by cases acc <;> rfl) t.parts (.ok d)

theorem detokenise_foldlM (c : Cfg) (toks : List Tok) :
    detokenise c toks = (toks.foldlM (dstep c) (DetokSt.init c)).map (·.seqs) := by
  unfold detokenise
  rw [foldl_bind (dstep c) _ (fun acc _ => by cases acc <;> rfl), ok_bind]
  cases toks.foldlM (dstep c) (DetokSt.init c) <;> rfl

def Inv (c : Cfg) (d : DetokSt) : Prop :=
  d.seqs.length = c.numTracks ∧ 0 ≤ d.prvTrack ∧ d.prvTrack < (c.numTracks : Int)

/-- a part that keeps the invariant: track parts name an existing track -/
def GoodPart (c : Cfg) : Part → Prop
  | .trk t => 0 ≤ t ∧ t < (c.numTracks : Int)
  | _ => True

theorem length_addAbs (seqs : List (List Msg)) (i : Nat) (m : Msg) : (addAbs seqs i m).length = seqs.length :=
  length_modifyAt _ _ _

theorem dpart_ok (c : Cfg) (d : DetokSt) (p : Part) (hn : 0 < c.numTracks) (hI : Inv c d)
    (hp : GoodPart c p) : ∃ d', dpart c d p = .ok d' ∧ Inv c d' := by
  obtain ⟨h1, h2, h3⟩ := hI
  cases p with
  | pad | sta | sto | rest _ | val _ | vel _ => exact ⟨_, rfl, h1, h2, h3⟩
  | bar => exact ⟨_, rfl, by simpa using h1, h2, h3⟩
  | trk t => exact ⟨_, rfl, h1, hp.1, hp.2⟩
  | pit p =>
    simp only [dpart]
    have : ¬ ((d.prvTrack < 0 || d.prvTrack.toNat >= d.seqs.length) = true) := by
      simp only [Bool.or_eq_true, decide_eq_true_eq, not_or]
      omega
    rw [if_neg this]
    exact ⟨_, rfl, by simp only [length_addAbs]; exact h1, h2, h3⟩
  | tsig a b =>
    simp only [dpart]
    split
    · exact ⟨d, rfl, h1, h2, h3⟩
    · have hlen : (d.seqs.length == 0) = false := by
        rw [beq_eq_false_iff_ne]; omega
      simp only [hlen, Bool.and_false, Bool.false_eq_true, if_false]
      refine ⟨_, rfl, ?_, h2, h3⟩
      simp only
      split
      · rw [length_addAbs]; exact h1
      · exact h1

theorem dstep_note_eq (c : Cfg) (d : DetokSt) (tr : Option Int) (p : Int) (v w : Option Int) :
    dstep c d (.note tr p v w) =
      dpart c { d with prvTrack := tr.getD d.prvTrack, prvValue := v.getD d.prvValue,
                       prvVel := w.getD d.prvVel } (.pit p) := by
  cases tr <;> cases v <;> cases w <;> rfl

theorem dstep_ok (c : Cfg) (t : Tok) (ht : t ∈ vocabSeq c) (d : DetokSt) (hn : 0 < c.numTracks)
    (hI : Inv c d) : ∃ d', dstep c d t = .ok d' ∧ Inv c d' := by
  cases t with
  | trk t => exact dpart_ok c d (.trk t) hn hI (Vocab.mem_tracks.1 (Vocab.trk_mem.1 ht).2)
  | note tr pch v w =>
    rw [dstep_note_eq]
    refine dpart_ok c _ (.pit pch) hn ⟨hI.1, ?_⟩ trivial
    cases tr with
    | none => exact hI.2
    | some t =>
      have htr := (Vocab.note_mem.1 ht).1
      unfold Vocab.trkOpts at htr
      split at htr
      · simp only [List.mem_map, Option.some.injEq, exists_eq_right] at htr
        exact Vocab.mem_tracks.1 htr
      · simp at htr
  | pad => exact dpart_ok c d .pad hn hI trivial
  | sta => exact dpart_ok c d .sta hn hI trivial
  | sto => exact dpart_ok c d .sto hn hI trivial
  | bar => exact dpart_ok c d .bar hn hI trivial
  | rest v => exact dpart_ok c d (.rest v) hn hI trivial
  | val v => exact dpart_ok c d (.val v) hn hI trivial
  | vel v => exact dpart_ok c d (.vel v) hn hI trivial
  | tsig a b => exact dpart_ok c d (.tsig a b) hn hI trivial

theorem dsteps_ok (c : Cfg) (toks : List Tok) (h : ∀ t ∈ toks, t ∈ vocabSeq c) (d : DetokSt)
    (hn : 0 < c.numTracks) (hI : Inv c d) : ∃ d', toks.foldlM (dstep c) d = .ok d' ∧ Inv c d' := by
  induction toks generalizing d with
  | nil => exact ⟨d, rfl, hI⟩
  | cons t ts ih =>
    obtain ⟨d1, e1, hI1⟩ := dstep_ok c t (h t (by simp)) d hn hI
    rw [List.foldlM_cons, e1]
    exact ih (fun q hq => h q (by simp [hq])) d1 hI1

theorem init_inv (c : Cfg) (hn : 0 < c.numTracks) : Inv c (DetokSt.init c) := by
  refine ⟨by simp [DetokSt.init], ?_, ?_⟩ <;> simp [DetokSt.init] <;> omega

end SCoda.Detok
