/-
  Helper lemmas for Props/C12c.lean (audit round 3, item M5): the parser inverts the encoding of the messages the
  translated `to_mido_track` emits; `convert` does not see the fields a mido message does not carry, nor a trailing
  `end_of_track`.
-/
import SCoda.Model.MidoCodec
import SCoda.Lemmas.MidiParseL
import SCoda.Props.ViewTie
import SCoda.Props.C13
namespace SCoda.MidoCodecL
open SCoda SCoda.ViewTieL SCoda.MidiParseL

/-- a literal that the parser reads back as itself -/
def Emittable (m : MidiEv) : Prop :=
  midoView m = m ∧
  (m.ty = .noteOn ∨ m.ty = .noteOff ∨ m.ty = .timeSignature ∨ m.ty = .keySignature ∨ m.ty = .controlChange) ∧
  (m.ty = .noteOn → 0 < m.vel) ∧ (m.ty = .keySignature → 0 ≤ m.key ∧ m.key < 15)

theorem chan_round (c : Int) :
    (match (if c = pyNone then (none : Option Int) else some c) with | some x => x | none => pyNone) = c := by
  by_cases h : c = pyNone <;> simp [h]

theorem parse_encode (m : MidiEv) (h : Emittable m) : ∃ mm, encodeMsg m = .ok mm ∧ parseMido mm = .ok m := by
  obtain ⟨hv, hty, hvel, hkey⟩ := h
  rw [← hv]
  obtain ⟨ty, ch, time, note, vel, ctl, prog, num, den, key⟩ := m
  simp only at hty hvel hkey
  rcases hty with rfl | rfl | rfl | rfl | rfl
  · exact ⟨_, rfl, by simp [parseMido, midoView, hvel rfl]; exact chan_round ch⟩
  · exact ⟨_, rfl, by simp [parseMido, midoView]; exact chan_round ch⟩
  · exact ⟨_, rfl, by simp [parseMido, midoView]; exact chan_round ch⟩
  · obtain ⟨nm, hn1, hn2⟩ := keyName_lookup key (hkey rfl).1 (hkey rfl).2
    exact ⟨{ type := .keySignature, time := time, channel := if ch = pyNone then none else some ch, key := nm },
      by simp [encodeMsg, midoView, hn1]; rfl, by simp [parseMido, midoView, hn2]; exact chan_round ch⟩
  · exact ⟨_, rfl, by simp [parseMido, midoView]; exact chan_round ch⟩
/-- the `MidiMessage` the parser makes of mido's `end_of_track` (no branch taken: `message_type = None`, no channel) -/
def eotEv (d : Int) : MidiEv := { ty := .sequenceControl, ch := pyNone, time := d }

theorem parse_endOfTrack (d : Int) : parseMido (MidoMsg.endOfTrack d) = .ok (eotEv d) := by
  simp [parseMido, MidoMsg.endOfTrack, eotEv]

theorem parseTrack_encodeTrack : ∀ (l : List MidiEv), (∀ m ∈ l, Emittable m) →
    ∃ mt, encodeTrack l = .ok mt ∧ parseTrack mt = .ok l ∧
      ∀ d, parseTrack (mt ++ [MidoMsg.endOfTrack d]) = .ok (l ++ [eotEv d]) := by
  intro l
  induction l with
  | nil => intro _; exact ⟨[], rfl, rfl, fun d => by simp [parseTrack, parse_endOfTrack]⟩
  | cons m ms ih =>
    intro h
    obtain ⟨mm, he, hp⟩ := parse_encode m (h m (by simp))
    obtain ⟨mt, h1, h3, h4⟩ := ih (fun x hx => h x (by simp [hx]))
    refine ⟨mm :: mt, by simp [encodeTrack, he, h1], by simp [parseTrack, hp, h3], fun d => ?_⟩
    simp [parseTrack, hp, h4 d]

/-- every key signature carries one of the fifteen keys (`Message.key` is a member of `Key`, not `None`) -/
def KeysOk (r : List Msg) : Prop := ∀ m ∈ r, m.ty = .keySignature → 0 ≤ m.key ∧ m.key < 15
/-- no note-on has velocity 0 (nor a negative one): `None` (written as 127) or positive -/
def VelOk (r : List Msg) : Prop := ∀ m ∈ r, m.ty = .noteOn → m.vel = pyNone ∨ 0 < m.vel

instance (r : List Msg) : Decidable (KeysOk r) := by unfold KeysOk; infer_instance
instance (r : List Msg) : Decidable (VelOk r) := by unfold VelOk; infer_instance

theorem midoView_idem (m : Msg) : midoView (midoView m) = midoView m := by
  obtain ⟨ty, ch, time, note, vel, ctl, prog, num, den, key⟩ := m
  cases ty <;> rfl

theorem midoView_ty (m : Msg) : (midoView m).ty = m.ty := by
  obtain ⟨ty, ch, time, note, vel, ctl, prog, num, den, key⟩ := m
  cases ty <;> rfl

theorem midoView_time (m : Msg) : (midoView m).time = m.time := by
  obtain ⟨ty, ch, time, note, vel, ctl, prog, num, den, key⟩ := m
  cases ty <;> rfl

theorem midoView_ch (m : Msg) : (midoView m).ch = m.ch := by
  obtain ⟨ty, ch, time, note, vel, ctl, prog, num, den, key⟩ := m
  cases ty <;> rfl

theorem toMidoGo_emittable (r : List Msg) (buf : Int) (hk : KeysOk r) (hv : VelOk r) :
    ∀ x ∈ (toMidoGo buf r).map midoView, Emittable x := by
  intro x hx
  obtain ⟨e, he, rfl⟩ := List.mem_map.1 hx
  obtain ⟨m, hm, hem, t, rfl⟩ := C13.mem_toMidoGo r buf e he
  have hkm := hk m hm
  have hvm := hv m hm
  obtain ⟨ty, ch, time, note, vel, ctl, prog, num, den, key⟩ := m
  simp only at hkm hvm
  refine ⟨midoView_idem _, ?_⟩
  cases ty <;> simp [C13.emitted] at hem <;> simp [C13.midiShape, midoView]
  case noteOn =>
    rcases hvm rfl with h | h
    · simp [h]
    · split <;> omega
  case keySignature => exact hkm rfl

theorem keysOk_hk (r : List Msg) (h : KeysOk r) : ∀ m ∈ r, m.ty = .keySignature → m.key ≠ pyNone := by
  intro m hm hty hn
  have := (h m hm hty).1
  rw [hn] at this
  exact absurd this (by decide)

theorem track_round_trip (r : List Msg) (hk : KeysOk r) (hv : VelOk r) :
    ∃ mt, toMidoObjects r = .ok mt ∧ parseTrack mt = .ok ((toMido r).map midoView) ∧
      ∀ d, parseTrack (mt ++ [MidoMsg.endOfTrack d]) = .ok ((toMido r).map midoView ++ [eotEv d]) := by
  obtain ⟨mt, h1, h3, h4⟩ := parseTrack_encodeTrack ((toMido r).map midoView) (toMidoGo_emittable r 0 hk hv)
  refine ⟨mt, ?_, h3, h4⟩
  unfold toMidoObjects
  rw [ViewTie.toMidoTrack_eq r (keysOk_hk r hk)]
  exact h1

theorem convEvent_midoView (b : Bool) (m : MidiEv) (rt : Int) : convEvent b (midoView m) rt = convEvent b m rt := by
  obtain ⟨ty, ch, time, note, vel, ctl, prog, num, den, key⟩ := m
  cases ty <;> rfl

theorem convMsg_midoView (p q : Int) (loc : Option (Nat × Nat)) (acc : ConvSt × Int) (m : MidiEv) :
    convMsg p q loc acc (midoView m) = convMsg p q loc acc m := by
  simp only [convMsg, midoView_ch, midoView_time, convEvent_midoView]

theorem convMsg_eot (p q : Int) (loc : Option (Nat × Nat)) (s : ConvSt) (t d : Int) :
    convMsg p q loc (s, t) (eotEv d) = .ok (s, t + d) := by
  obtain ⟨seqs, metaSeq, defCh⟩ := s
  cases defCh <;> rfl

theorem fold_convMsg_map (p q : Int) (loc : Option (Nat × Nat)) (tr : List MidiEv) (acc : ConvSt × Int) :
    foldlM' (convMsg p q loc) acc (tr.map midoView) = foldlM' (convMsg p q loc) acc tr := by
  simp only [foldlM'_eq, List.foldlM_map, convMsg_midoView]

/-- a parsed track as read back: the saved events up to `midoView`, then the `end_of_track` event -/
def Dressed (a b : List MidiEv) : Prop := ∃ d, a = b.map midoView ++ [eotEv d]

theorem convTrack_dressed (p q : Int) (groups : List (List Nat)) (metaIdx : List Nat) (s : ConvSt) (a b : List MidiEv) (i : Nat)
    (h : Dressed a b) : convTrack p q groups metaIdx s (a, i) = convTrack p q groups metaIdx s (b, i) := by
  obtain ⟨d, rfl⟩ := h
  unfold convTrack
  simp only []
  split
  · rfl
  · rw [foldlM'_eq, List.foldlM_append, ← foldlM'_eq, fold_convMsg_map]
    cases foldlM' (convMsg p q (firstGroupOf groups i)) (s, 0) b with
    | error e => rfl
    | ok r =>
      obtain ⟨s', t'⟩ := r
      simp only [ok_bind, List.foldlM_cons, List.foldlM_nil, convMsg_eot, bind_pure]

theorem fold_convTrack_dressed (p q : Int) (groups : List (List Nat)) (metaIdx : List Nat) :
    ∀ (evs tracks : List (List MidiEv)), All2 Dressed evs tracks → ∀ (k : Nat) (s : ConvSt),
      foldlM' (convTrack p q groups metaIdx) s (evs.zipIdx k) = foldlM' (convTrack p q groups metaIdx) s (tracks.zipIdx k)
  | [], [], _, _, _ => rfl
  | [], _ :: _, h, _, _ => h.elim
  | _ :: _, [], h, _, _ => h.elim
  | a :: as, b :: bs, ⟨h1, h2⟩, k, s => by
    simp only [List.zipIdx_cons, foldlM', convTrack_dressed p q groups metaIdx s a b k h1]
    cases convTrack p q groups metaIdx s (b, k) with
    | error e => rfl
    | ok s' => exact fold_convTrack_dressed p q groups metaIdx as bs h2 (k + 1) s'

theorem all2_length {α β : Type} (R : α → β → Prop) : ∀ (l : List α) (l' : List β), All2 R l l' → l.length = l'.length
  | [], [], _ => rfl
  | [], _ :: _, h => h.elim
  | _ :: _, [], h => h.elim
  | _ :: as, _ :: bs, h => congrArg (· + 1) (all2_length R as bs h.2)

theorem convert_dressed (p q : Int) (evs tracks : List (List MidiEv)) (groups : List (List Nat)) (metaIdx : List Nat) (target : Int)
    (h : All2 Dressed evs tracks) : convert p q evs groups metaIdx target = convert p q tracks groups metaIdx target := by
  unfold convert
  simp only [fold_convTrack_dressed p q groups metaIdx evs tracks h 0]

theorem tracks_round_trip : ∀ (rels : List (List Msg)), (∀ r ∈ rels, KeysOk r) → (∀ r ∈ rels, VelOk r) →
    ∃ ms, rels.mapM toMidoObjects = .ok ms ∧
      ∀ ts', All2 (fun t' t => ∃ d, t' = t ++ [MidoMsg.endOfTrack d]) ts' ms →
        ∃ evs, ts'.mapM parseTrack = .ok evs ∧ All2 Dressed evs (rels.map toMido)
  | [], _, _ => ⟨[], rfl, fun
      | [], _ => ⟨[], rfl, trivial⟩
      | _ :: _, h => h.elim⟩
  | r :: rs, hk, hv => by
    obtain ⟨ms, h1, h2⟩ := tracks_round_trip rs (fun x hx => hk x (by simp [hx])) (fun x hx => hv x (by simp [hx]))
    obtain ⟨mt, g1, _, g3⟩ := track_round_trip r (hk r (by simp)) (hv r (by simp))
    refine ⟨mt :: ms, by simp [List.mapM_cons, g1, h1, pysimp], fun
      | [], h => h.elim
      | _ :: ts'', ⟨⟨d, rfl⟩, hrest⟩ => ?_⟩
    obtain ⟨evs, e1, e2⟩ := h2 ts'' hrest
    exact ⟨((toMido r).map midoView ++ [eotEv d]) :: evs, by simp [List.mapM_cons, g3 d, e1, pysimp], ⟨d, rfl⟩, e2⟩

end SCoda.MidoCodecL
