/-
  The walk of `cutoff` (`cutoffGo`, Model/Pairing.lean) keeps every message where it is and only moves a note-off whose note-on,
  recorded in `opens`, lies more than the maximum before it: one step as one equation (`cutoffGo_cons`), the same read per branch
  of its body, and what therefore holds of every message of the output (`cutoffGo_forall`).
-/
import SCoda.Model.Pairing
import SCoda.Lemmas.AssocL
namespace SCoda

theorem cutoffGo_cons (m r : Int) (x : Msg) (xs : List Msg) (opens : Assoc (Int × Int) Int) :
    cutoffGo m r (x :: xs) opens =
      (match x.ty, opens.get? x.nkey with
       | .noteOff, some t => if x.time - t > m then { x with time := t + r } else x
       | _, _ => x)
      :: cutoffGo m r xs
          (match x.ty with
           | .noteOn => opens.set x.nkey x.time
           | .noteOff => (match opens.get? x.nkey with | some _ => opens.erase x.nkey | Option.none => opens)
           | _ => opens) := by
  rw [cutoffGo]
  cases hty : x.ty <;> simp only [] <;> cases hg : Assoc.get? opens x.nkey <;> rfl

theorem cutoffGo_on (m r : Int) (x : Msg) (xs : List Msg) (o : Assoc (Int × Int) Int) (h : x.ty = .noteOn) :
    cutoffGo m r (x :: xs) o = x :: cutoffGo m r xs (o.set x.nkey x.time) := by
  rw [cutoffGo]; simp only [h]

theorem cutoffGo_off_none (m r : Int) (x : Msg) (xs : List Msg) (o : Assoc (Int × Int) Int) (h : x.ty = .noteOff)
    (hg : o.get? x.nkey = none) : cutoffGo m r (x :: xs) o = x :: cutoffGo m r xs o := by
  rw [cutoffGo]; simp only [h, hg]

theorem cutoffGo_off_some (m r : Int) (x : Msg) (xs : List Msg) (o : Assoc (Int × Int) Int) (h : x.ty = .noteOff)
    (t : Int) (hg : o.get? x.nkey = some t) :
    cutoffGo m r (x :: xs) o =
      (if x.time - t > m then { x with time := t + r } else x) :: cutoffGo m r xs (o.erase x.nkey) := by
  rw [cutoffGo]; simp only [h, hg]

theorem cutoffGo_other (m r : Int) (x : Msg) (xs : List Msg) (o : Assoc (Int × Int) Int) (h1 : x.ty ≠ .noteOn)
    (h2 : x.ty ≠ .noteOff) : cutoffGo m r (x :: xs) o = x :: cutoffGo m r xs o := by
  rw [cutoffGo]
  cases hty : x.ty <;> simp_all

/-- the walk of `cutoff` keeps a message or moves it to `t + r` for the recorded tick `t` of an earlier note-on: what holds of
    every message of the input (`P`) and survives that move holds of every message of the output -/
theorem cutoffGo_forall {P : Msg → Prop} {T : Int → Prop} (mx r : Int) (hon : ∀ x, P x → T x.time)
    (hmove : ∀ x t, P x → T t → P { x with time := t + r }) (l : List Msg) (opens : Assoc (Int × Int) Int)
    (hl : ∀ x ∈ l, P x) (ho : ∀ kv ∈ opens, T kv.2) : ∀ x ∈ cutoffGo mx r l opens, P x := by
  induction l generalizing opens with
  | nil => simp [cutoffGo]
  | cons m ms ih =>
    have hm := hl m (by simp)
    have tail : ∀ o, (∀ kv ∈ o, T kv.2) → ∀ hd, P hd → ∀ x ∈ hd :: cutoffGo mx r ms o, P x :=
      fun o ho' hd hhd x hx =>
        (List.mem_cons.1 hx).elim (fun e => e ▸ hhd) (ih o (fun x hx => hl x (by simp [hx])) ho' x)
    by_cases hon' : m.ty = .noteOn
    · rw [cutoffGo_on mx r m ms opens hon']
      exact tail _ (fun kv hkv => (Q.mem_set hkv).elim (ho kv) fun h => h ▸ hon m hm) m hm
    · by_cases hoff : m.ty = .noteOff
      · cases hg : opens.get? m.nkey with
        | none => rw [cutoffGo_off_none mx r m ms opens hoff hg]; exact tail _ ho m hm
        | some t =>
          rw [cutoffGo_off_some mx r m ms opens hoff t hg]
          refine tail _ (fun kv hkv => ho kv (Q.mem_erase hkv)) _ ?_
          split
          · exact hmove m t hm (ho _ (Q.mem_of_get? hg))
          · exact hm
      · rw [cutoffGo_other mx r m ms opens hon' hoff]; exact tail _ ho m hm

end SCoda
