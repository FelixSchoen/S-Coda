/-
  What all ties of the tokeniser translation (Gen/TokFns.lean) share: the hand-model configuration `cfgOf o` of a tokeniser object,
  model errors as Python exceptions (`ofErr`, `liftE`), and the equations of the support library Model/TokLib.lean the generated
  bodies are unfolded with — `raiseIf` and `Except`, indexing (`pyItem`), `pop`, `next`, `range`, `enumerate`, `int(str)` on digit strings.
-/
import SCoda.Gen.TokFns
import SCoda.Lemmas.RenderL
import SCoda.Lemmas.PyLoop
set_option linter.unusedSimpArgs false
namespace SCoda.TokTieL
open SCoda SCoda.TokLib SCoda.Gen.Tok SCoda.RenderL

def cfgOf (o : TokObj) : Cfg :=
  { ppqn := o.ppqn, numTracks := o.numTracks.toNat, pitchLo := o.pitchRange.1, pitchHi := o.pitchRange.2,
    steps := o.stepSizes, values := o.noteValues, bins := o.velocityBins,
    tsLo := o.timeSignatureRange.1, tsHi := o.timeSignatureRange.2,
    running := o.flagRunningValues, fuseTrk := o.flagFuseTrack, fuseVal := o.flagFuseValue,
    fuseVel := o.flagFuseVelocity, simplifyTs := o.flagSimplifyTimeSignature,
    defNum := Gen.defaultTimeSignatureNumerator, defDen := Gen.defaultTimeSignatureDenominator }

def ofErr : Err → PyErr
  | .tokenisationError => .tokenisationException
  | .indexError => .indexError
  | .keyError => .keyError
  | .valueError => .valueError
  | .fuel => .fuel
  | _ => .outOfSubset

def liftE {α β} (f : α → β) : Except Err α → Except PyErr β
  | .ok a => .ok (f a)
  | .error e => .error (ofErr e)

theorem liftE_eq {α β} (f : α → β) (x : Except Err α) : liftE f x = liftR ofErr f x := by cases x <;> rfl

theorem raiseIf_false (e : PyErr) : raiseIf false e = .ok () := rfl

theorem raiseIf_true (e : PyErr) : raiseIf true e = .error e := rfl

theorem ok_bind {α β ε : Type} (x : α) (f : α → Except ε β) : (Except.ok x >>= f) = f x := rfl

theorem error_bind {α β ε : Type} (e : ε) (f : α → Except ε β) : (Except.error e >>= f) = Except.error e := rfl

theorem pure_eq_ok {α ε : Type} (x : α) : (pure x : Except ε α) = Except.ok x := rfl

theorem pyItem_cons_zero {α} (a : α) (l : List α) : pyItem (a :: l) 0 = .ok a := by
  simp [pyItem]; rfl

theorem pyItem_cons_one {α} (a b : α) (l : List α) : pyItem (a :: b :: l) 1 = .ok b := by
  simp [pyItem]; rfl

theorem pyItem_cons_two {α} (a b c : α) (l : List α) : pyItem (a :: b :: c :: l) 2 = .ok c := by
  simp [pyItem]; rfl

theorem pyItem_single_one {α} (a : α) : pyItem [a] 1 = .error .indexError := by
  simp [pyItem]; rfl

theorem pyItem_nil {α} (i : Int) : pyItem ([] : List α) i = .error .indexError := by
  unfold pyItem
  by_cases h : i < 0 <;> simp [h] <;> (try omega) <;> rfl

theorem pyItem_ofNat {α} (l : List α) (k : Nat) :
    pyItem l (Int.ofNat k) = match l[k]? with | some x => .ok x | none => .error .indexError := by
  unfold pyItem
  have h0 : ¬ (Int.ofNat k < 0) := by simp
  have h1 : (Int.ofNat k).toNat = k := by simp
  simp only [h0, if_false, h1]
  cases l[k]? <;> rfl

theorem pyItem_nat {α} (l : List α) (k : Nat) (x : α) (h : l[k]? = some x) : pyItem l (k : Int) = .ok x := by
  have := pyItem_ofNat l k
  rw [h] at this
  exact this

theorem pyItem_neg_one {α : Type} (l : List α) :
    pyItem l (-1) = match l.getLast? with | some x => .ok x | none => .error .indexError := by
  unfold pyItem
  cases h : l.getLast? with
  | none =>
    have : l = [] := by simpa using h
    subst this; simp; rfl
  | some x =>
    have hne : l ≠ [] := by intro h0; subst h0; simp at h
    have hlen : 0 < l.length := List.length_pos_iff.mpr hne
    have h1 : ((-1 : Int) + (l.length : Int)).toNat = l.length - 1 := by omega
    have h2 : ¬ ((-1 : Int) + (l.length : Int) < 0) := by omega
    simp only [show ((-1 : Int) < 0) from by decide, if_true, h2, if_false, h1]
    rw [List.getLast?_eq_getElem?] at h
    rw [h]; rfl

theorem pyNextM_pure {α} (p : α → Bool) (l : List α) :
    pyNextM (fun x => pure (p x)) l = match l.find? p with | some x => .ok x | none => .error .stopIteration := by
  induction l with
  | nil => rfl
  | cons a as ih =>
    simp only [pyNextM, pure, Except.pure, List.find?_cons]
    cases hp : p a
    · simp only [Bool.false_eq_true, if_false]; exact ih
    · simp

theorem pyPop_cons_zero {α} (a : α) (l : List α) : pyPop (a :: l) 0 = .ok (a, l) := by
  simp [pyPop]; rfl

theorem pyRange_zero (n : Int) : pyRange 0 n = (List.range n.toNat).map (fun (i : Nat) => (i : Int)) := by
  simp [pyRange]

theorem pyEnumerateFrom_eq {α} (l : List α) : ∀ n, pyEnumerateFrom n l = (l.zipIdx n).map (fun p => ((p.2 : Int), p.1)) := by
  induction l with
  | nil => intro n; rfl
  | cons a as ih => intro n; simp [pyEnumerateFrom, ih]

theorem strDropRight_append_dash (s : String) : strDropRight (s ++ "-") 1 = s := by
  apply String.toList_injective
  simp [strDropRight]

/-- the note string as the source assembles it (every fused part followed by "-", the last "-" dropped) is `render` of the note token -/
theorem render_note (fT fV fW : Bool) (t p v w : Int) :
    strDropRight ("" ++ (if fT = true then prefixOf "TRACK" ++ "_" ++ zpad 2 t ++ "-" else "") ++ (prefixOf "PITCH" ++ "_" ++ zpad 3 p ++ "-")
        ++ (if fV = true then prefixOf "VALUE" ++ "_" ++ zpad 2 v ++ "-" else "")
        ++ (if fW = true then prefixOf "VELOCITY" ++ "_" ++ zpad 3 w ++ "-" else "")) 1
      = render (Tok.note (if fT = true then some t else none) p (if fV = true then some v else none) (if fW = true then some w else none)) := by
  cases fT <;> cases fV <;> cases fW <;>
    simp only [render, if_true, if_false, Bool.false_eq_true, List.nil_append, List.append_nil,
      List.cons_append, String.intercalate_cons_cons, String.intercalate_singleton,
      String.empty_append, String.append_empty, ← String.append_assoc, strDropRight_append_dash]

theorem modifyNth_eq {α} (f : α → α) : ∀ (n : Nat) (l : List α), modifyNth f n l = modifyAt f n l
  | _, [] => by simp [modifyNth, modifyAt]
  | 0, x :: xs => rfl
  | n + 1, x :: xs => by simp [modifyNth, modifyAt, modifyNth_eq f n xs]

theorem dropWhile_ws_digits (cs : List Char) (h : ∀ c ∈ cs, c.isDigit = true) :
    cs.dropWhile Char.isWhitespace = cs := by
  cases cs with
  | nil => rfl
  | cons c r =>
    have hc : c.isDigit = true := h c (by simp)
    have : c.isWhitespace = false := by
      simp only [Char.isDigit, Bool.and_eq_true, decide_eq_true_eq] at hc
      simp only [Char.isWhitespace, Bool.or_eq_false_iff, beq_eq_false_iff_ne]
      refine ⟨⟨⟨?_, ?_⟩, ?_⟩, ?_⟩ <;> (simp only [decide_eq_false_iff_not]; intro h; subst h; revert hc; decide)
    simp [List.dropWhile, this]

theorem stripChars_digits (cs : List Char) (h : ∀ c ∈ cs, c.isDigit = true) : stripChars cs = cs := by
  unfold stripChars
  rw [dropWhile_ws_digits cs h, dropWhile_ws_digits cs.reverse (by simpa using h), List.reverse_reverse]

theorem dropPlus_digits (cs : List Char) (h : ∀ c ∈ cs, c.isDigit = true) : dropPlus cs = cs := by
  unfold dropPlus
  split
  · rename_i d r
    have := h '+' (by simp)
    simp at this
  · rfl

theorem pyIntOfStr_of_pyInt (a : String) (v : Int) (hd : '-' ∉ a.toList) (hu : '_' ∉ a.toList) (h : pyInt? a = some v) :
    pyIntOfStr a = .ok v := by
  obtain ⟨_, hdig, _⟩ := pyInt_digits a v hd hu h
  unfold pyIntOfStr
  rw [stripChars_digits _ hdig, dropPlus_digits _ hdig, String.ofList_toList, h]
  rfl

theorem pyIntOfStr_zpad (w n : Nat) : pyIntOfStr (zpad w (n : Int)) = .ok (n : Int) :=
  pyIntOfStr_of_pyInt _ _ (not_mem_zpad w n rfl) (not_mem_zpad w n rfl) (pyInt_zpad w n)

/-- `int()` strips blanks and a sign `+` before it reads the digits -/
theorem pyIntOfStr_stripped (s : String) (w n : Nat) (h : String.ofList (dropPlus (stripChars s.toList)) = zpad w (n : Int)) :
    pyIntOfStr s = .ok (n : Int) := by
  unfold pyIntOfStr
  rw [h, pyInt_zpad]
  rfl

end SCoda.TokTieL
