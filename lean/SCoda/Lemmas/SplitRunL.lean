/-
  A run `[lo, hi)` of the bars `splitBars` returns is a `RunOk` run, given that every bar sequence of the run is a good
  track on its own and the run's signatures are positive (`splitBars_runOk`); `splitBars_run` is `run_full` for it, in the
  terms of Props/C03c.
-/
import SCoda.Lemmas.RunL
import SCoda.Props.C09
namespace SCoda.GlueL
open SCoda SCoda.C01 SCoda.ChunksL SCoda.ExtractL SCoda.E2E SCoda.MergeL SCoda.NotesL SCoda.GlueAux SCoda.EQ

theorem capacity_eq_barCapacity (c : Cfg) (n d : Int) : c.capacity n d = barCapacity c.ppqn n d := by
  unfold Cfg.capacity barCapacity
  congr 1
  rw [Int.mul_comm (c.ppqn * 4) n, Int.mul_assoc]

theorem headD_mem {ppqn : Int} {values : List Int} {tracks : List (List Msg)} {tb : List (List Bar)}
    (h : splitBars ppqn values tracks 0 false = .ok tb) : tb.headD [] ∈ tb := by
  obtain ⟨_, _, hm, hl, _⟩ := SB.splitBars_bars ppqn values tracks 0 false tb h
  have h0 : 0 < tb.length := by rw [hl]; exact SB.lt_of_getElem?_some hm
  rw [headD_eq_get h0]
  exact List.getElem_mem h0

/-- bars `[lo, hi)` of one track (Props/C03e, C03f write it out as `(bs.drop lo).take (hi - lo)`, the same term) -/
def slice (lo hi : Nat) (bs : List Bar) : List Bar := (bs.drop lo).take (hi - lo)

theorem slice_get (lo hi : Nat) (bs : List Bar) (k : Nat) (b : Bar) (h : (slice lo hi bs)[k]? = some b) :
    k < hi - lo ∧ bs[lo + k]? = some b := by
  unfold slice at h
  rw [List.getElem?_take] at h
  split at h
  · rename_i hk
    rw [List.getElem?_drop] at h
    exact ⟨hk, h⟩
  · cases h

theorem slice_length (lo hi : Nat) (bs : List Bar) (h : hi ≤ bs.length) : (slice lo hi bs).length = hi - lo := by
  unfold slice
  rw [List.length_take, List.length_drop]
  omega

def sigsOf (tb : List (List Bar)) (lo hi : Nat) : List (Int × Int) := (slice lo hi (tb.headD [])).map (fun b => (b.num, b.den))

def segsOf (tb : List (List Bar)) (lo hi : Nat) : List (List (List Msg)) := tb.map (fun bs => (slice lo hi bs).map (·.seq))

theorem runTracks_segsOf (tb : List (List Bar)) (lo hi : Nat) :
    runTracks (segsOf tb lo hi) = tb.map (fun bs => barsToSeq ((bs.drop lo).take (hi - lo))) := by
  simp only [runTracks, segsOf, List.map_map]
  rfl

theorem run_of_pointwise (c : Cfg) (i : Nat) : ∀ (li l0 : List Bar), li.length = l0.length →
    (∀ (k : Nat) (b b0 : Bar), li[k]? = some b → l0[k]? = some b0 → (b.num, b.den) = (b0.num, b0.den) ∧ SegOk c i (b.num, b.den) b.seq) →
    Run c i (l0.map (fun b => (b.num, b.den))) (li.map (·.seq)) := by
  intro li
  induction li with
  | nil =>
    intro l0 hl _
    cases l0 with
    | nil => exact Run.nil
    | cons _ _ => simp at hl
  | cons b li ih =>
    intro l0 hl h
    cases l0 with
    | nil => simp at hl
    | cons b0 l0 =>
      obtain ⟨h1, h2⟩ := h 0 b b0 rfl rfl
      simp only [List.map_cons]
      rw [← h1]
      exact Run.cons h2 (ih l0 (by simpa using hl) (fun k x x0 hx hx0 => h (k + 1) x x0 (by simpa using hx) (by simpa using hx0)))

theorem splitBars_runOk (c : Cfg) (values : List Int) (tracks : List (List Msg)) (tb : List (List Bar))
    (h : splitBars c.ppqn values tracks 0 false = .ok tb) (hn : tb.length = c.numTracks)
    (lo hi : Nat) (hlo : lo < hi) (hhi : ∀ bs ∈ tb, hi ≤ bs.length)
    (hgood : ∀ i bs, tb[i]? = some bs → ∀ b ∈ slice lo hi bs, TrackGood i b.seq)
    (hpos : ∀ b ∈ slice lo hi (tb.headD []), 0 < b.num ∧ 0 < b.den ∧ 0 < c.capacity b.num b.den) :
    RunOk c (sigsOf tb lo hi) (segsOf tb lo hi) := by
  obtain ⟨metaTrack, r, hm, hl, _⟩ := SB.splitBars_bars c.ppqn values tracks 0 false tb h
  have h0 : 0 < tb.length := by
    rw [hl]
    exact SB.lt_of_getElem?_some hm
  have hhead := headD_eq_get h0
  have hex := C09.bars_exact c.ppqn values tracks 0 false tb h
  refine ⟨by simp [segsOf, hn], by simpa [segsOf] using h0, ?_, ?_, ?_⟩
  · intro he
    have := congrArg List.length he
    simp only [sigsOf, List.length_map, List.length_nil] at this
    rw [slice_length lo hi _ (hhi _ (headD_mem h))] at this
    omega
  · intro g hg
    simp only [sigsOf, List.mem_map] at hg
    obtain ⟨b, hb, rfl⟩ := hg
    exact hpos b hb
  · intro i t ht
    simp only [segsOf, List.getElem?_map, Option.map_eq_some_iff] at ht
    obtain ⟨bs, hbs, rfl⟩ := ht
    have hbsm : bs ∈ tb := List.mem_of_getElem? hbs
    unfold sigsOf
    apply run_of_pointwise
    · rw [slice_length lo hi _ (hhi _ hbsm), slice_length lo hi _ (hhi _ (headD_mem h))]
    · intro k b b0 hb hb0
      obtain ⟨_, hb'⟩ := slice_get lo hi bs k b hb
      obtain ⟨_, hb0'⟩ := slice_get lo hi _ k b0 hb0
      have hcol := C09.same_column c.ppqn values tracks 0 false tb h i 0 (lo + k) b b0
        (by simp [C09.barAt, hbs, hb'])
        (by
          rw [hhead] at hb0'
          simp [C09.barAt, List.getElem?_eq_getElem h0, hb0'])
      obtain ⟨e1, e2, e3⟩ := hex bs hbsm b (List.mem_of_getElem? hb')
      refine ⟨by rw [hcol.1, hcol.2.1], ?_, hgood i bs hbs b (List.mem_of_getElem? hb), ?_⟩
      · cases hs : b.seq with
        | nil => rw [hs] at e2; cases e2
        | cons x tl =>
          rw [hs] at e2 e3
          simp only [List.head?_cons, Option.some.injEq] at e2
          exact ⟨tl, by rw [e2], fun m hm => e3 m (by simpa using hm)⟩
      · rw [capacity_eq_barCapacity]
        exact e1

theorem splitBars_sig_src (ppqn : Int) (values : List Int) (tracks : List (List Msg)) (tb : List (List Bar))
    (h : splitBars ppqn values tracks 0 false = .ok tb) :
    ∀ b ∈ tb.headD [], (b.num, b.den) = (4, 4)
      ∨ ∃ m ∈ tracks.headD [], m.ty = .timeSignature ∧ (b.num, b.den) = (m.num, m.den) := by
  obtain ⟨metaTrack, r, hm, hl, hall⟩ := SB.splitBars_track ppqn values tracks 0 false tb h
  have h0 : 0 < tb.length := by rw [hl]; exact SB.lt_of_getElem?_some hm
  have hmeta : tracks.headD [] = metaTrack := by
    cases tracks with
    | nil => simp at hm
    | cons a _ => simp at hm; simp [hm]
  obtain ⟨_, _, _, _, hs⟩ := hall 0 _ (List.getElem?_eq_getElem h0)
  intro b hb
  rw [headD_eq_get h0] at hb
  rw [hmeta]
  exact SB.sched_sig_src ppqn metaTrack (r + 1) (b.num, b.den, b.key) (by rw [← hs]; exact List.mem_map.2 ⟨b, hb, rfl⟩)

theorem seg_at (lo hi i : Nat) (bs : List Bar) (hi' : i < hi - lo) (hlen : hi ≤ bs.length) :
    (((slice lo hi bs).map (·.seq)).drop i).headD [] = barsToSeq ((bs.drop (lo + i)).take 1) := by
  have hlt : lo + i < bs.length := by omega
  have hd : bs.drop (lo + i) = bs[lo + i] :: bs.drop (lo + i + 1) := List.drop_eq_getElem_cons hlt
  have e1 : ((slice lo hi bs).map (·.seq)).drop i = ((bs.drop (lo + i)).take (hi - lo - i)).map (·.seq) := by
    unfold slice
    rw [← List.map_drop, List.drop_take, List.drop_drop]
  have : hi - lo - i = (hi - lo - i - 1) + 1 := by omega
  rw [e1, hd, this, List.take_succ_cons, List.map_cons, List.headD_cons, List.take_succ_cons, List.take_zero]
  simp [barsToSeq]

/-- `run_full` for the run `[lo, hi)`, under hypotheses on the bars of the run only: the conclusion of
    `C03c.extract_wholebars_statement` -/
theorem splitBars_run (c : Cfg) (values : List Int) (tracks : List (List Msg)) (tb : List (List Bar))
    (h : splitBars c.ppqn values tracks 0 false = .ok tb) (hn : tb.length = c.numTracks)
    (lo hi : Nat) (C : Int) (hlo : lo < hi) (hhi : ∀ bs ∈ tb, hi ≤ bs.length)
    (hgood : ∀ i bs, tb[i]? = some bs → ∀ b ∈ (bs.drop lo).take (hi - lo), TrackGood i b.seq)
    (hpos : ∀ b ∈ ((tb.headD []).drop lo).take (hi - lo), 0 < b.num ∧ 0 < b.den ∧ 0 < c.capacity b.num b.den) :
    ∃ bars : List BarEv,
      extract c.ppqn (tb.map (fun bs => barsToSeq ((bs.drop lo).take (hi - lo)))) = layBars c bars
        ∧ BarsOk c C bars
        ∧ bars.map (fun b => (b.num, b.den)) = (((tb.headD []).drop lo).take (hi - lo)).map (fun b => (b.num, b.den))
        ∧ ∃ one : List BarEv,
            (∀ i, i < hi - lo → ∀ b ∈ one[i]?,
                extract c.ppqn (tb.map (fun bs => barsToSeq ((bs.drop (lo + i)).take 1))) = layBars c [b])
            ∧ one.length = hi - lo ∧ SameNotes c bars one := by
  obtain ⟨c1, c2, c3, c4⟩ := run_full (splitBars_runOk c values tracks tb h hn lo hi hlo hhi hgood hpos) C
  rw [← runTracks_segsOf tb lo hi]
  refine ⟨_, c1, c2, c3, onesOf c (sigsOf tb lo hi) (segsOf tb lo hi), ?_, ?_, c4⟩
  · intro i hi' b hb
    rw [show layBars c [b] = b.evs by simp [layBars, shiftEvs_nil], onesOf_get c _ _ i b hb]
    apply congrArg (extract c.ppqn)
    simp only [segsOf, List.map_map]
    exact List.map_congr_left (fun bs hbs => (seg_at lo hi i bs hi' (hhi bs hbs)).symm)
  · rw [onesOf_length]
    simp only [sigsOf, List.length_map]
    exact slice_length lo hi _ (hhi _ (headD_mem h))

end SCoda.GlueL
