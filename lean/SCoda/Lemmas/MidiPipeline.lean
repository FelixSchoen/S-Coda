/-
  The loader's pipeline — `toRel`, `normalise`, `toAbs`, `sortAbs ∘ flatten`, `binary_insort` — seen through what
  the properties observe; nothing here mentions `convert`.
  * `GA` / `CG` / `CS` (the counting reading of sounding, `Lemmas/Merge.lean`): closed under `V` and under the merge
    (`V_ga`, `merge_cs`), untouched by inserting a non-note (`ga_insort`); what a merged group and the meta target
    sound (`out_sounding`, `out_sounding_target`);
  * signatures pass no stage unless they were there (`AbsI` / `RelI`);
  * through a filter `q` (`filt_V`): every merge is a `V` (`V_merge`) and `normalise` acts on the selected events as a
    list function — `fuseK k 0` on the note events of key `k` (`P k`; the identity on the note events of a good
    track, `KeyOK`, `VQ`, `mergeQ`), `dedupBy` on one kind of signature (`normalise_ts_events` in
    `Lemmas/Normalise.lean`, `sig_pipeline`).
-/
import SCoda.Lemmas.Midi
import SCoda.Lemmas.Merge
import SCoda.Props.C15
import SCoda.Props.C07
import SCoda.Props.C04
import SCoda.Props.C04b
namespace SCoda.E2E
open SCoda SCoda.MidiL SCoda.MergeL SCoda.EQ

theorem forall_mem_pair {α} {p : α → Prop} {a b : α} (ha : p a) (hb : p b) : ∀ x ∈ [a, b], p x := by
  intro x hx
  simp only [List.mem_cons, List.not_mem_nil, or_false] at hx
  rcases hx with rfl | rfl <;> assumption

theorem cg_toAbs (r : List Msg) (hr : OkRel r) (k : Int × Int) : CG k (toAbs r) ↔ CG k (eventsRel r) := by
  rw [← cg_eventsAbs]
  exact ⟨cg_perm (C04.toAbs_events r hr), cg_perm (C04.toAbs_events r hr).symm⟩

theorem toAbs_ga (r : List Msg) (hr : OkRel r) (hcg : ∀ k, CG k (eventsRel r)) :
    GA (toAbs r) ∧ ∀ k t, CS k t (toAbs r) ↔ SoundingAt (eventsRel r) k t := by
  have hs : Sorted (eventsRel r) := events_sorted r 0 hr.1
  refine ⟨⟨C04.toAbs_ok r hr, fun k => (cg_toAbs r hr k).2 (hcg k)⟩, fun k t => ?_⟩
  rw [← cs_eventsAbs, cs_perm (C04.toAbs_events r hr), sounding_cs k t _ hs (hcg k)]

theorem V_ga (a : List Msg) (h : GA a) : GA (V a) ∧ ∀ k t, CS k t (V a) ↔ CS k t a := by
  have hok := C04.toRel_ok a h.1
  have hev : eventsRel (toRel a) = eventsAbs a := C04.toRel_events a h.1
  have hcgE : ∀ k, CG k (eventsRel (toRel a)) := by
    intro k; rw [hev, cg_eventsAbs]; exact h.2 k
  obtain ⟨n1, n2⟩ := norm_cg _ hok.1 hcgE
  obtain ⟨t1, t2⟩ := toAbs_ga _ (C07.ok_out _ hok).1 n1
  refine ⟨t1, fun k t => ?_⟩
  unfold V
  rw [t2, n2, hev, ga_sounding h]

theorem V_merge (as : List (List Msg)) : toAbs (C15.mergeRel as) = V (sortAbs as.flatten) := rfl

theorem merge_cs (as : List (List Msg)) (h : ∀ a ∈ as, GA a) :
    GA (toAbs (C15.mergeRel as)) ∧ ∀ k t, CS k t (toAbs (C15.mergeRel as)) ↔ ∃ a ∈ as, CS k t a := by
  obtain ⟨hok, hcg, hs⟩ := merge_ga as h
  obtain ⟨g, c⟩ := toAbs_ga _ hok hcg
  exact ⟨g, fun k t => (c k t).trans (hs k t)⟩

/-- the note events of key `k`, in list order -/
def P (k : Int × Int) (l : List Msg) : List Msg := l.filter (isKN k)

theorem P_nonote (k : Int × Int) (l : List Msg) (h : ∀ m ∈ l, m.ty ≠ .noteOn ∧ m.ty ≠ .noteOff) : P k l = [] := by
  rw [P, List.filter_eq_nil_iff]
  intro m hm
  simp [isKN, (h m hm).1, (h m hm).2]

theorem nonotes_cg (k : Int × Int) (l : List Msg) (h : ∀ m ∈ l, m.ty ≠ .noteOn ∧ m.ty ≠ .noteOff) :
    CG k l ∧ ∀ t, ¬ CS k t l := by
  have hq : ∀ m : Msg, m.nkey = k → m.ty = .noteOn ∨ m.ty = .noteOff → isKN k m = true :=
    fun m hk ht => isKN_true ⟨hk, ht⟩
  have e : l.filter (isKN k) = [] := P_nonote k l h
  refine ⟨(cg_filter k _ hq l).1 (e ▸ ⟨fun _ => Nat.le_refl _, rfl⟩), fun t hcs => ?_⟩
  have := (cs_filter k t _ hq l).2 hcs
  rw [e] at this
  exact absurd this (Nat.lt_irrefl _)

theorem ga_insort (a : List Msg) (m : Msg) (h : GA a) (hm : 0 ≤ m.time ∧ m.ty ≠ .wait)
    (hn : m.ty ≠ .noteOn ∧ m.ty ≠ .noteOff) :
    GA (insort a m) ∧ ∀ k t, CS k t (insort a m) ↔ CS k t a := by
  have hperm : (insort a m).Perm ([[m], a].flatten) := by simpa using insort_perm a m
  have h1 : ∀ k, ∀ b ∈ [[m], a], CG k b := fun k =>
    forall_mem_pair (nonotes_cg k [m] (by simpa using hn)).1 (h.2 k)
  refine ⟨⟨C04.insort_okA a m h.1 hm, fun k => cg_perm hperm.symm (cg_flatten k _ (h1 k))⟩, fun k t => ?_⟩
  rw [cs_perm hperm, cs_flatten k t _ (h1 k)]
  have := (nonotes_cg k [m] (by simpa using hn)).2 t
  simp [this]

/-- the meta sequence's list: legal and without notes -/
def MetaOk (M : List Msg) : Prop := OkAbs M ∧ ∀ m ∈ M, m.ty ≠ .noteOn ∧ m.ty ≠ .noteOff

theorem metaOk_insort (M : List Msg) (m : Msg) (h : MetaOk M) (h0 : 0 ≤ m.time) (hw : m.ty ≠ .wait)
    (hn : m.ty ≠ .noteOn ∧ m.ty ≠ .noteOff) : MetaOk (insort M m) := by
  refine ⟨C04.insort_okA M m h.1 ⟨h0, hw⟩, ?_⟩
  intro x hx
  rcases List.mem_cons.1 ((insort_perm M m).mem_iff.1 hx) with rfl | hx
  · exact hn
  · exact h.2 x hx

theorem MetaOk.nonneg {M : List Msg} (h : MetaOk M) : ∀ m ∈ M, 0 ≤ m.time := h.1.2.1

theorem metaOk_nil : MetaOk [] := ⟨okAbs_nil, by simp⟩

theorem finSeq_abs (d : Option Int) (R1 M : List Msg) :
    (finSeq d R1 M).abs =
      if (timesOfType .timeSignature (toAbs (C15.mergeRel [toAbs R1, M]))).any (fun m => m.time == 0)
      then toAbs (C15.mergeRel [toAbs R1, M])
      else insort (toAbs (C15.mergeRel [toAbs R1, M])) (Msg.mkTimeSig (d.getD 0) 4 4 0) := withSig0_abs _ _ _

theorem toAbs_sounding (R : List Msg) (hok : OkRel R) (hcg : ∀ k, CG k (eventsRel R)) :
    GA (toAbs R) ∧ ∀ k t, SoundingAt (eventsAbs (toAbs R)) k t ↔ SoundingAt (eventsRel R) k t := by
  obtain ⟨t1, t2⟩ := toAbs_ga R hok hcg
  exact ⟨t1, fun k t => by rw [ga_sounding t1, t2]⟩

theorem metaOk_ga (M : List Msg) (h : MetaOk M) : GA M ∧ ∀ k t, ¬ CS k t M :=
  ⟨⟨h.1, fun k => (nonotes_cg k M h.2).1⟩, fun k t => (nonotes_cg k M h.2).2 t⟩

theorem ga_track (x : List Msg) (hga : GA x) : GA (V x) ∧ ∀ k t, CS k t (V x) ↔ SoundingAt x k t :=
  ⟨(V_ga x hga).1, fun k t => by rw [(V_ga x hga).2 k t, sounding_cs k t _ (ga_sorted hga) (hga.2 k)]⟩

theorem mergeV_cs (xs : List (List Msg)) (h : ∀ x ∈ xs, GA (V x)) :
    GA (toAbs (C15.mergeRel (xs.map V)))
    ∧ ∀ k t, CS k t (toAbs (C15.mergeRel (xs.map V))) ↔ ∃ x ∈ xs, CS k t (V x) := by
  obtain ⟨g, c⟩ := merge_cs (xs.map V) (by simpa using h)
  refine ⟨g, fun k t => (c k t).trans ⟨?_, fun ⟨x, hx, hc⟩ => ⟨V x, List.mem_map.2 ⟨x, hx, rfl⟩, hc⟩⟩⟩
  rintro ⟨a, ha, hc⟩
  obtain ⟨x, hx, rfl⟩ := List.mem_map.1 ha
  exact ⟨x, hx, hc⟩

theorem out_sounding (xs : List (List Msg)) (h : ∀ x ∈ xs, GA (V x)) (k : Int × Int) (t : Int) :
    SoundingAt (eventsAbs (toAbs (C15.mergeRel (xs.map V)))) k t ↔ ∃ x ∈ xs, CS k t (V x) := by
  obtain ⟨g, c⟩ := mergeV_cs xs h
  rw [ga_sounding g, c]

theorem out_sounding_target (xs : List (List Msg)) (h : ∀ x ∈ xs, GA (V x)) (M : List Msg) (hM : MetaOk M)
    (d : Option Int) (k : Int × Int) (t : Int) :
    SoundingAt (eventsAbs (finSeq d (C15.mergeRel (xs.map V)) M).abs) k t ↔ ∃ x ∈ xs, CS k t (V x) := by
  obtain ⟨g1, c1⟩ := mergeV_cs xs h
  obtain ⟨gM, cM⟩ := metaOk_ga M hM
  obtain ⟨g2, c2⟩ := merge_cs [toAbs (C15.mergeRel (xs.map V)), M] (forall_mem_pair g1 gM)
  have key : CS k t (toAbs (C15.mergeRel [toAbs (C15.mergeRel (xs.map V)), M])) ↔ ∃ x ∈ xs, CS k t (V x) := by
    rw [c2]; simp [c1, cM k t]
  rw [finSeq_abs]
  split
  · rw [ga_sounding g2, key]
  · obtain ⟨i1, i2⟩ := ga_insort _ (Msg.mkTimeSig (d.getD 0) 4 4 0) g2 ⟨Int.le_refl _, by simp [Msg.mkTimeSig]⟩
      (by simp [Msg.mkTimeSig])
    rw [ga_sounding i1, i2, key]

theorem V_nil_silent : GA (V []) ∧ ∀ k t, ¬ CS k t (V []) := by
  obtain ⟨v1, v2⟩ := V_ga [] ⟨okAbs_nil, fun k => (nonotes_cg k [] (by simp)).1⟩
  exact ⟨v1, fun k t hcs => by simpa [CS, upTo, ons, offs] using (v2 k t).1 hcs⟩

/-- a time or key signature (`MidiL.isSigB` as a proposition) -/
def isSig (m : Msg) : Prop := m.ty = .timeSignature ∨ m.ty = .keySignature

def AbsI (a : List Msg) : Prop := ∀ m ∈ a, ¬ isSig m ∧ m.ty ≠ .wait

def RelI (r : List Msg) : Prop := OkRel r ∧ ∀ m ∈ r, ¬ isSig m

theorem toRel_relI (a : List Msg) (h : AbsI a) : RelI (toRel a) := by
  have hw : ∀ m ∈ a, m.ty ≠ .wait := fun m hm => (h m hm).2
  refine ⟨⟨fun m hm => (toRelGo_ok a 0 hw m hm).1, fun m hm => (toRelGo_ok a 0 hw m hm).2⟩, ?_⟩
  intro x hx
  rcases mem_toRelGo a 0 x hx with ⟨_, _, _, rfl⟩ | ⟨m, hm, rfl⟩
  · simp [isSig, Msg.mkWait]
  · exact (h m hm).1

theorem normalise_relI (r : List Msg) (h : RelI r) : RelI (normalise r) := by
  refine ⟨(C07.ok_out r h.1).1, ?_⟩
  intro m hm
  rcases normalise_entries r m hm with h1 | h1
  · simp [isSig, h1.1]
  · exact h.2 m h1.2

theorem toAbs_absI (r : List Msg) (h : RelI r) : AbsI (toAbs r) := by
  intro x hx
  refine ⟨?_, ((toAbs_struct r h.1).2.1 x hx).2.2⟩
  rcases mem_toAbs_cases hx with hty | he
  · simp [isSig, hty]
  · obtain ⟨_, m, hm, hty⟩ := eventsRelGo_ty r 0 x he
    have := h.2 m hm
    simpa [isSig, hty] using this

theorem V_absI (x : List Msg) (h : AbsI x) : AbsI (V x) := toAbs_absI _ (normalise_relI _ (toRel_relI _ h))

theorem filt_eventsAbs (q : Msg → Bool) (hq : ∀ m, q m = true → m.ty ≠ .internal) (l : List Msg) :
    (eventsAbs l).filter q = l.filter q :=
  filter_filter_of_imp _ q l fun m _ h => bne_iff_ne.2 (hq m h)

theorem filt_toAbs (q : Msg → Bool) (hq : ∀ m, q m = true → m.ty ≠ .internal) (r : List Msg) :
    (toAbs r).filter q = sortAbs ((eventsRel r).filter q) := by
  rw [toAbs_eq]
  split
  · exact filter_sortAbs q _
  · -- the closing INTERNAL message is not selected
    have hint : q (Msg.mkInternal ((r.foldl toAbsStep {}).defCh.getD 0) (totalWait r)) = false := by
      cases h : q (Msg.mkInternal ((r.foldl toAbsStep {}).defCh.getD 0) (totalWait r)) with
      | false => rfl
      | true => exact absurd rfl (hq _ h)
    rw [filter_insort q _ _ hint]
    exact filter_sortAbs q _

theorem P_append (k : Int × Int) (a b : List Msg) : P k (a ++ b) = P k a ++ P k b := by simp [P]

theorem isKN_notInternal (k : Int × Int) (m : Msg) (h : isKN k m = true) : m.ty ≠ .internal := by
  simp only [isKN, decide_eq_true_eq] at h
  rcases h.2 with h | h <;> simp [h]

theorem P_eventsAbs (k : Int × Int) (l : List Msg) : P k (eventsAbs l) = P k l :=
  filt_eventsAbs (isKN k) (isKN_notInternal k) l

theorem P_sortAbs (k : Int × Int) (l : List Msg) : P k (sortAbs l) = sortAbs (P k l) := filter_sortAbs _ l

theorem fuseK_P (k : Int × Int) (l : List Msg) (d : Nat) : fuseK k d (P k l) = fuseK k d l :=
  fuseK_filter k (isKN k) (fun _ h => isKN_true h) l d

theorem depth_P (k : Int × Int) (l : List Msg) (d : Nat) : depth k (P k l) d = depth k l d :=
  depth_filter_kn k l d

/-- what is needed of a good track `x`, key by key: its note events are fused already, closed, and in sort order -/
structure KeyOK (x : List Msg) : Prop where
  fuse : ∀ k, fuseK k 0 (P k x) = P k x
  dep : ∀ k, depth k (P k x) 0 = 0
  kle : ∀ k, (P k x).Pairwise KLe

/-- the loader's pipeline through a filter `q`: `normalise` is the only stage that is not a stable sort, and on the
    events `q` selects it acts as some list function `N` (`fuseK k 0` on the note events of key `k`, `dedupBy` on one
    kind of signature).  Every merge of the loader is a `V` (`V_merge`). -/
theorem filt_V (q : Msg → Bool) (hq : ∀ m, q m = true → m.ty ≠ .internal) (N : List Msg → List Msg) (u : List Msg)
    (hu : OkAbs u)
    (hn : (eventsRel (normalise (toRel u))).filter q = N ((eventsRel (toRel u)).filter q)) :
    (V u).filter q = sortAbs (N (u.filter q)) := by
  unfold V
  rw [filt_toAbs q hq, hn, C04.toRel_events u hu, filt_eventsAbs q hq]

theorem P_toAbs (k : Int × Int) (r : List Msg) : P k (toAbs r) = sortAbs (P k (eventsRel r)) :=
  filt_toAbs (isKN k) (isKN_notInternal k) r

theorem VQ (y : List Msg) (hY : KeyOK y) (x : List Msg) (hok : OkAbs x)
    (h : ∀ k, P k x = P k y) : ∀ k, P k (V x) = P k y := by
  have hd : ∀ k, depth k (toRel x) 0 = 0 := fun k => by
    rw [depth_toRel, ← depth_P, h k]; exact hY.dep k
  intro k
  show (V x).filter (isKN k) = P k y
  rw [filt_V (isKN k) (isKN_notInternal k) (fuseK k 0) x hok
    (by rw [normalise_fuse _ (C04.toRel_ok x hok).1 hd k]; exact (fuseK_P k _ 0).symm)]
  show sortAbs (fuseK k 0 (P k x)) = P k y
  rw [h k, hY.fuse k]
  exact sortAbs_of_sorted _ (hY.kle k)

theorem mergeQ (y : List Msg) (hY : KeyOK y) (as : List (List Msg)) (hok : ∀ a ∈ as, OkAbs a)
    (h : ∀ k, P k as.flatten = P k y) : ∀ k, P k (toAbs (C15.mergeRel as)) = P k y :=
  VQ y hY _ (okAbs_sortAbs_flatten as hok) (fun k => by rw [P_sortAbs, h k]; exact sortAbs_of_sorted _ (hY.kle k))

theorem fuse_good (k : Int × Int) (l : List Msg) (o : Option Int) (h : goodFrom k o l) :
    fuseK k (openN o) l = P k l ∧ depth k l (openN o) = 0 := by
  have halt := alt_of_good k l o h
  have ho : openN o = o.isSome.toNat := by cases o <;> rfl
  rw [ho]
  exact ⟨fuseK_of_alt k l _ halt, by simpa using depth_of_run ((altFrom_iff_run k _ l).1 halt) 0⟩

theorem good_kle (k : Int × Int) (l : List Msg) (hs : Sorted l) (hg : goodFrom k none l) : (P k l).Pairwise KLe := by
  obtain ⟨Q, hQ, hgood, hpos⟩ := good_normal_form k l hg
  rw [P, hQ]
  exact NotesBL.unpair_keyLe Q (fun q hq => ⟨hgood q hq, hpos q hq⟩) (NotesBL.chain_of_sorted Q (hQ ▸ hs.filter _))

theorem keyOK_of_good (x : List Msg) (hs : Sorted x) (hg : ∀ k, goodFrom k none x) :
    KeyOK x where
  fuse := fun k => by rw [fuseK_P]; exact (fuse_good k x none (hg k)).1
  dep := fun k => by rw [depth_P]; exact (fuse_good k x none (hg k)).2
  kle := fun k => good_kle k x hs (hg k)

theorem single_proj (x M : List Msg) (hga : GA x) (hY : KeyOK x) (hM : MetaOk M) (d : Option Int) :
    (∀ k, P k (toAbs (C15.mergeRel [V x])) = P k x)
    ∧ (∀ k, P k (finSeq d (C15.mergeRel [V x]) M).abs = P k x) := by
  have hV := VQ _ hY x hga.1 (fun k => rfl)
  have hVga := (V_ga x hga).1
  have h2 : ∀ k, P k (toAbs (C15.mergeRel [V x])) = P k x :=
    mergeQ _ hY [V x] (by simpa using hVga.1) (by intro k; simpa using hV k)
  refine ⟨h2, ?_⟩
  have hA1ok : OkAbs (toAbs (C15.mergeRel [V x])) := (merge_cs [V x] (by simpa using hVga)).1.1
  have h4 : ∀ k, P k (toAbs (C15.mergeRel [toAbs (C15.mergeRel [V x]), M])) = P k x :=
    mergeQ _ hY _ (forall_mem_pair hA1ok hM.1) (by
      intro k
      simp only [List.flatten_cons, List.flatten_nil, List.append_nil, P_append, h2 k, P_nonote k M hM.2])
  intro k
  rw [finSeq_abs]
  split
  · exact h4 k
  · exact (filter_insort (isKN k) _ _ (by simp [isKN, Msg.mkTimeSig])).trans (h4 k)

theorem sig_pipeline {β} [DecidableEq β] (q : Msg → Bool) (hq : ∀ m, q m = true → m.ty ≠ .internal)
    (v : Msg → β) (p0 : β)
    (hnorm : ∀ r, NonNegWaits r → (eventsRel (normalise r)).filter q = dedupBy v p0 ((eventsRel r).filter q))
    (A1 M : List Msg) (hA1 : OkAbs A1) (hM : OkAbs M) (hA1q : A1.filter q = [])
    (hT : (M.filter q).Pairwise KLe) :
    (toAbs (C15.mergeRel [A1, M])).filter q = dedupBy v p0 (M.filter q) := by
  have hoks : ∀ a ∈ [A1, M], OkAbs a := forall_mem_pair hA1 hM
  rw [V_merge, filt_V q hq (dedupBy v p0) _ (okAbs_sortAbs_flatten _ hoks) (hnorm _ (C15.nnR _ hoks)), filter_sortAbs]
  simp only [List.flatten_cons, List.flatten_nil, List.append_nil, List.filter_append, hA1q, List.nil_append]
  rw [sortAbs_of_sorted _ hT]
  exact sortAbs_of_sorted _ (List.Pairwise.sublist (dedupBy_sublist v _ p0) hT)

theorem insort_front (q : Msg → Bool) (A : List Msg) (m : Msg) (hA : OkAbs A) (hm : m.time = 0) (hqm : q m = true)
    (h0 : ∀ x ∈ A.filter q, x.time ≠ 0) : (insort A m).filter q = m :: A.filter q := by
  obtain ⟨p, e, h2, _⟩ := insort_split A m ((timeSorted_iff_pairwise A).1 hA.1)
  -- nothing selected stands before `m`: it would stand on tick 0
  have h1 : (A.take p).filter q = [] := by
    rw [List.filter_eq_nil_iff]
    intro x hx hqx
    have := h2 x hx
    have := hA.2.1 x (List.mem_of_mem_take hx)
    exact h0 x (List.mem_filter.2 ⟨List.mem_of_mem_take hx, hqx⟩) (by omega)
  rw [e, List.filter_append, List.filter_cons, if_pos hqm, h1, List.nil_append]
  conv => rhs; rw [← List.take_append_drop p A, List.filter_append, h1, List.nil_append]

/-- for a legal absolute view in which every key ends at depth 0 (orphan note-offs and overlapping notes
    allowed, unclosed notes not) whose normalisation has no zero-length note: `normalise` changes no sound -/
theorem V_sounding (x : List Msg) (hx : OkAbs x) (hclosed : ∀ k, depth k x 0 = 0) (hN : ∀ k, CG k (V x))
    (k : Int × Int) (t : Int) :
    SoundingAt (eventsAbs (V x)) k t ↔ SoundingAt (eventsAbs x) k t := by
  have hok := C04.toRel_ok x hx
  have hokN : OkRel (normalise (toRel x)) := (C07.ok_out _ hok).1
  have hs : Sorted (eventsRel (toRel x)) := events_sorted _ 0 hok.1
  unfold V
  rw [(toAbs_sounding _ hokN (fun k' => (cg_toAbs _ hokN k').1 (hN k'))).2,
    sounding_fuse _ _ k t hs (normalise_fuse _ hok.1 (fun k' => (depth_toRel k' x 0).trans (hclosed k')) k),
    C04.toRel_events x hx]

end SCoda.E2E
