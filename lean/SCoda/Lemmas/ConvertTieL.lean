/-
  The translated `MidiFile.convert` (Gen/StaticFns.lean) against the hand model `convert`, phase by phase as Lemmas/Midi.lean
  names them (`MidiL.convert_eq`); `Props/StaticTie.convert_eq` puts the phases together.
  The code holds `default_channel` as a nullable int, the model as an `Option` (`dcOf`); the two agree as long as the model's
  value is not `some None`, which every level keeps (`convMsg_dc`, `convTrack_dc`, `fold_convTrack_dc`).
-/
import SCoda.Lemmas.StaticTieL
import SCoda.Lemmas.Midi
namespace SCoda.StaticTieL
open SCoda SCoda.WrapTie

/-! `current_sequence` is a reference (`PRef`): site 1 = `sequences[·][·]`, site 2 = `meta_sequence`. -/

theorem rat_step (ticks t p q : Int) :
    (ticks : Rat) * (p : Rat) / (q : Rat) + (t : Rat) * ((p : Rat) / (q : Rat)) = ((ticks + t : Int) : Rat) * (p : Rat) / (q : Rat) := by
  push_cast; ring

/-- the in-place update of `sequences[gi][pos]` -/
theorem getset2 {β : Type} (seqs : List (List Seq)) (gi pos : Nat) (F : Seq → Except Err Seq)
    (K : List (List Seq) → Except Err β) :
    (do let x6 ← pyGetNat seqs gi
        let x7 ← pyGetNat x6 pos
        let r ← F x7
        let c ← pyGetNat seqs gi
        let u ← pySetNat c pos r
        let seqs' ← pySetNat seqs gi u
        K seqs') =
      match (seqs[gi]? >>= (·[pos]?)) with
      | some q => do let r ← F q; K (modifyAt (fun g => modifyAt (fun _ => r) pos g) gi seqs)
      | none => .error .indexError := by
  cases hg : seqs[gi]? with
  | none => simp [pyGetNat, hg]
  | some g =>
    cases hp : g[pos]? with
    | none => simp [pyGetNat, hg, hp]
    | some q =>
      have h1 : gi < seqs.length := (List.getElem?_eq_some_iff.mp hg).1
      have h2 : pos < g.length := (List.getElem?_eq_some_iff.mp hp).1
      simp only [pyGetNat, hg, hp, ok_bind, Option.bind_some, Option.bind_eq_bind]
      cases F q with
      | error er => rfl
      | ok r =>
        simp only [ok_bind, pySetNat, h1, h2, if_true]
        rw [modifyAt_get _ _ _ _ hg, ← set_eq_modifyAt]

/-- the reference local `current_sequence` for the hand model's location -/
def refOf (loc : Option (Nat × Nat)) : PRef :=
  match loc with
  | some (gi, pos) => { root := 1, path := [gi, pos] }
  | none => { root := 2, path := [] }

/-- `default_channel` as a nullable int -/
def dcOf (o : Option Int) : Int := o.getD pyNone

/-- the translated loop body against `convMsg`, for an arbitrary `default_channel` slot `dc` of the loop state: the slot is
    updated by the first statement alone, the sequences by the rest, and `convMsg`'s sequences do not depend on its `defCh`.
    The `current_sequence` dispatch (`refOf loc`) is resolved by the case of `loc`, the in-place update by `getset2`. -/
theorem loop2_core (e : Env) (q : Int) (groups : List (List Nat)) (metaIdx : List Nat) (i j : Nat) (loc : Option (Nat × Nat))
    (hin : ((groups.map (fun g => g.contains i)).any id) = loc.isSome)
    (seqs : List (List Seq)) (metaSeq : Seq) (dch : Option Int) (dc : Int) (ticks : Int) (m : MidiEv) :
    Gen.Static.convert_loop2 e groups metaIdx ((e.ppqn : Rat) / (q : Rat)) i (refOf loc) (m, j)
        (seqs, metaSeq, dc, (ticks : Rat) * (e.ppqn : Rat) / (q : Rat)) =
      (convMsg e.ppqn q loc (⟨seqs, metaSeq, dch⟩, ticks) m).map (fun r =>
        ForInStep.yield (r.1.seqs, r.1.metaSeq, (if (decide (dc = pyNone) && decide (m.ch ≠ pyNone)) = true then m.ch else dc),
          (r.2 : Rat) * (e.ppqn : Rat) / (q : Rat))) := by
  unfold convMsg
  by_cases hcnd : (decide (dc = pyNone) && decide (m.ch ≠ pyNone)) = true <;>
  (simp only [Gen.Static.convert_loop2, hcnd, hin, rat_step, pyRound, addAbs_eq, unit_bind, if_true, if_false, Bool.false_eq_true,
    getset2, throw_eq, error_bind]
   cases hty : m.ty with
   | noteOn | noteOff =>
     simp only [hty, convEvent, beq_iff_eq, Bool.and_eq_true, reduceCtorEq, false_and, true_and, ↓reduceIte]
     rcases loc with _ | ⟨gi, pos⟩
     · rfl
     · simp only [refOf, ConvSt.addCur, Option.isSome_some, if_true, List.getD_cons_zero, List.getD_cons_succ, Msg.mkOn, Msg.mkOff]
       cases (seqs[gi]? >>= (·[pos]?)) with
       | none => rfl
       | some q0 => dsimp only; cases q0.addAbsMsg _ <;> rfl
   | programChange =>
     simp only [hty, convEvent, beq_iff_eq, Bool.and_eq_true, reduceCtorEq, false_and, ↓reduceIte]
     rcases loc with _ | ⟨gi, pos⟩
     · simp only [refOf, ConvSt.addCur, ConvSt.addMeta]
       cases metaSeq.addAbsMsg _ <;> rfl
     · simp only [refOf, ConvSt.addCur, if_true, List.getD_cons_zero, List.getD_cons_succ]
       cases (seqs[gi]? >>= (·[pos]?)) with
       | none => rfl
       | some q0 => dsimp only; cases q0.addAbsMsg _ <;> rfl
   | keySignature | timeSignature | controlChange =>
     simp only [hty, convEvent, beq_iff_eq, Bool.and_eq_true, reduceCtorEq, false_and, ↓reduceIte, ite_self, ConvSt.addMeta,
       Msg.mkTimeSig]
     cases metaSeq.addAbsMsg _ <;> rfl
   | _ =>
     simp only [hty, convEvent, beq_iff_eq, Bool.and_eq_true, reduceCtorEq, false_and, ↓reduceIte]
     rfl)

theorem addMeta_dc (s s' : ConvSt) (m : Msg) (h : s.addMeta m = .ok s') : s'.defCh = s.defCh := by
  unfold ConvSt.addMeta at h
  obtain ⟨q, _, h⟩ := bind_eq_ok h
  cases h; rfl

theorem addCur_dc (s s' : ConvSt) (loc : Option (Nat × Nat)) (m : Msg) (h : s.addCur loc m = .ok s') : s'.defCh = s.defCh := by
  unfold ConvSt.addCur at h
  rcases loc with _ | ⟨gi, pos⟩
  · exact addMeta_dc s s' m h
  · simp only at h
    split at h
    · obtain ⟨q, _, h⟩ := bind_eq_ok h
      cases h; rfl
    · cases h

theorem convMsg_defCh (ppqn q : Int) (loc : Option (Nat × Nat)) (s s' : ConvSt) (t t' : Int) (m : MidiEv)
    (h : convMsg ppqn q loc (s, t) m = .ok (s', t')) : s'.defCh = (MidiL.withDefCh s m).defCh := by
  rw [MidiL.convMsg_eq] at h
  split at h
  · split at h
    · rename_i s1 hs1
      cases h
      exact addMeta_dc _ _ _ hs1
    · cases h
  · split at h
    · rename_i s1 hs1
      cases h
      exact addCur_dc _ _ _ _ hs1
    · cases h
  · cases h; rfl

theorem dcOf_step (s : ConvSt) (hdc : s.defCh ≠ some pyNone) (m : MidiEv) :
    (if (decide (dcOf s.defCh = pyNone) && decide (m.ch ≠ pyNone)) = true then m.ch else dcOf s.defCh) =
      dcOf (MidiL.withDefCh s m).defCh := by
  cases hs : s.defCh with
  | some c =>
    have : c ≠ pyNone := fun h => hdc (by rw [hs, h])
    simp [dcOf, MidiL.withDefCh, hs, this]
  | none => by_cases hc : m.ch = pyNone <;> simp [dcOf, MidiL.withDefCh, hs, hc]

theorem convMsg_dc (ppqn q : Int) (loc : Option (Nat × Nat)) (s s' : ConvSt) (t t' : Int) (m : MidiEv)
    (h : convMsg ppqn q loc (s, t) m = .ok (s', t')) (hdc : s.defCh ≠ some pyNone) : s'.defCh ≠ some pyNone := by
  rw [convMsg_defCh _ _ _ _ _ _ _ _ h]
  cases hs : s.defCh with
  | some c => rw [hs] at hdc; simpa [MidiL.withDefCh, hs] using hdc
  | none => by_cases hc : m.ch = pyNone <;> simp [MidiL.withDefCh, hs, hc]

theorem loop2_conv (e : Env) (q : Int) (groups : List (List Nat)) (metaIdx : List Nat) (i j : Nat) (loc : Option (Nat × Nat))
    (hin : ((groups.map (fun g => g.contains i)).any id) = loc.isSome)
    (s : ConvSt) (hdc : s.defCh ≠ some pyNone) (ticks : Int) (m : MidiEv) :
    Gen.Static.convert_loop2 e groups metaIdx ((e.ppqn : Rat) / (q : Rat)) i (refOf loc) (m, j)
        (s.seqs, s.metaSeq, dcOf s.defCh, (ticks : Rat) * (e.ppqn : Rat) / (q : Rat)) =
      (convMsg e.ppqn q loc (s, ticks) m).map (fun r =>
        ForInStep.yield (r.1.seqs, r.1.metaSeq, dcOf r.1.defCh, (r.2 : Rat) * (e.ppqn : Rat) / (q : Rat))) := by
  rw [loop2_core e q groups metaIdx i j loc hin s.seqs s.metaSeq s.defCh, dcOf_step s hdc]
  cases hc : convMsg e.ppqn q loc (s, ticks) m with
  | error x => rfl
  | ok r => simp only [Except.map, convMsg_defCh _ _ _ _ _ _ _ _ hc]

theorem msgs_loop (e : Env) (q : Int) (groups : List (List Nat)) (metaIdx : List Nat) (i : Nat) (loc : Option (Nat × Nat))
    (hin : ((groups.map (fun g => g.contains i)).any id) = loc.isSome)
    (track : List MidiEv) (k : Nat) (s : ConvSt) (ticks : Int) (hs : s.defCh ≠ some pyNone) :
    forIn (track.zipIdx k) (s.seqs, s.metaSeq, dcOf s.defCh, (ticks : Rat) * (e.ppqn : Rat) / (q : Rat))
        (Gen.Static.convert_loop2 e groups metaIdx ((e.ppqn : Rat) / (q : Rat)) i (refOf loc)) =
      (foldlM' (convMsg e.ppqn q loc) (s, ticks) track).map (fun r =>
        (r.1.seqs, r.1.metaSeq, dcOf r.1.defCh, (r.2 : Rat) * (e.ppqn : Rat) / (q : Rat))) := by
  have h := forIn_foldlM id (fun r : ConvSt × Int => (r.1.seqs, r.1.metaSeq, dcOf r.1.defCh, (r.2 : Rat) * (e.ppqn : Rat) / (q : Rat)))
    (fun r => r.1.defCh ≠ some pyNone) (fun r (p : MidiEv × Nat) => convMsg e.ppqn q loc r p.1)
    (Gen.Static.convert_loop2 e groups metaIdx ((e.ppqn : Rat) / (q : Rat)) i (refOf loc)) (track.zipIdx k)
    (fun p _ r hr => by rw [liftR_id, loop2_conv e q groups metaIdx i p.2 loc hin r.1 hr r.2 p.1])
    (fun p _ r r' hr hc => convMsg_dc _ _ _ _ _ _ _ _ hc hr) (s, ticks) hs
  rwa [← List.foldlM_map, List.zipIdx_map_fst, liftR_id, ← foldlM'_eq] at h

theorem any_contains (groups : List (List Nat)) (i : Nat) :
    ((groups.map (fun g => g.contains i)).any id) = (firstGroupOf groups i).isSome := by
  rw [MidiL.firstGroupOf_eq, Option.isSome_map, Bool.eq_iff_iff]
  simp [List.find?_isSome, List.any_map]

theorem loop1_conv (e : Env) (q : Int) (groups : List (List Nat)) (metaIdx : List Nat) (s : ConvSt) (hdc : s.defCh ≠ some pyNone)
    (track : List MidiEv) (i : Nat) :
    Gen.Static.convert_loop1 e groups metaIdx ((e.ppqn : Rat) / (q : Rat)) (track, i) (s.seqs, s.metaSeq, dcOf s.defCh) =
      (convTrack e.ppqn q groups metaIdx s (track, i)).map (fun s' => ForInStep.yield (s'.seqs, s'.metaSeq, dcOf s'.defCh)) := by
  unfold Gen.Static.convert_loop1 convTrack
  simp only [any_contains]
  have hz : ((0 : Rat)) = ((0 : Int) : Rat) * (e.ppqn : Rat) / (q : Rat) := by simp
  rw [MidiL.firstGroupOf_eq]
  cases hf : groups.find? (fun g => g.contains i) with
  | none =>
    simp only [Option.map_none, Option.isSome_none, Option.isNone_none, Bool.not_false, Bool.true_and, Bool.false_eq_true, if_false]
    by_cases hm : metaIdx.contains i = true
    · simp only [hm, Bool.not_true, Bool.false_eq_true, if_false, if_true]
      have := msgs_loop e q groups metaIdx i none (by rw [any_contains, MidiL.firstGroupOf_eq, hf]; rfl) track 0 s 0 hdc
      rw [hz]
      simp only [refOf] at this
      rw [this]
      cases foldlM' (convMsg e.ppqn q none) (s, 0) track <;> rfl
    · have hm' : ¬ i ∈ metaIdx := by simpa using hm
      simp [hm', Except.map]
  | some g =>
    have h1 : g.contains i = true := by simpa using List.find?_some hf
    have h2 : groups.contains g = true := by simpa using List.mem_of_find?_eq_some hf
    have h3 : pyNext groups (fun array_ => array_.contains i) = .ok g := by unfold pyNext; rw [hf]
    simp only [Option.map_some, Option.isSome_some, Option.isNone_some, Bool.not_true, Bool.false_and, Bool.false_eq_true, if_false,
      if_true, h3, ok_bind, pyIndexOf, h1, h2]
    have := msgs_loop e q groups metaIdx i (some (groups.idxOf g, g.idxOf i)) (by rw [any_contains, MidiL.firstGroupOf_eq, hf]; rfl) track 0 s 0 hdc
    rw [hz]
    simp only [refOf] at this
    rw [this]
    cases foldlM' (convMsg e.ppqn q (some (groups.idxOf g, g.idxOf i))) (s, 0) track <;> rfl

theorem convTrack_dc (ppqn q : Int) (groups : List (List Nat)) (metaIdx : List Nat) (s s' : ConvSt) (it : List MidiEv × Nat)
    (h : convTrack ppqn q groups metaIdx s it = .ok s') (hdc : s.defCh ≠ some pyNone) : s'.defCh ≠ some pyNone := by
  unfold convTrack at h
  simp only at h
  split at h
  · injection h with h; subst h; exact hdc
  · split at h
    · rename_i r hr
      injection h with h; subst h
      rw [foldlM'_eq] at hr
      exact foldlM_inv (fun r => r.1.defCh ≠ some pyNone) (fun _ => True) (convMsg ppqn q _)
        (fun m b b' _ hb hm => convMsg_dc _ _ _ _ _ _ _ _ hm hb) _ _ _ (fun _ _ => trivial) hdc hr
    · cases h

theorem tracks_loop (e : Env) (q : Int) (groups : List (List Nat)) (metaIdx : List Nat)
    (l : List (List MidiEv × Nat)) (s : ConvSt) (hs : s.defCh ≠ some pyNone) :
    forIn l (s.seqs, s.metaSeq, dcOf s.defCh) (Gen.Static.convert_loop1 e groups metaIdx ((e.ppqn : Rat) / (q : Rat))) =
      (foldlM' (convTrack e.ppqn q groups metaIdx) s l).map (fun s' => (s'.seqs, s'.metaSeq, dcOf s'.defCh)) := by
  rw [foldlM'_eq, ← liftR_id]
  exact forIn_foldlM id (fun s' : ConvSt => (s'.seqs, s'.metaSeq, dcOf s'.defCh)) (fun s => s.defCh ≠ some pyNone) _ _ l
    (fun it _ s hs => by rw [liftR_id, loop1_conv e q groups metaIdx s hs it.1 it.2])
    (fun it _ s s' hs hc => convTrack_dc _ _ _ _ _ _ _ hc hs) s hs

theorem fold_convTrack_dc (ppqn q : Int) (groups : List (List Nat)) (metaIdx : List Nat) (l : List (List MidiEv × Nat))
    (s s' : ConvSt) (h : foldlM' (convTrack ppqn q groups metaIdx) s l = .ok s') (hdc : s.defCh ≠ some pyNone) :
    s'.defCh ≠ some pyNone :=
  foldlM_inv (fun s => s.defCh ≠ some pyNone) (fun _ => True) _ (fun _ _ _ _ hb hc => convTrack_dc _ _ _ _ _ _ _ hc hb) l s s'
    (fun _ _ => trivial) hdc (foldlM'_eq _ l s ▸ h)

/-- `for seq in sequences_to_merge: seq.normalise()` on `sequences[i]`: the slots are those of the inner list -/
theorem loop4_eq (e : Env) (sequences : List (List Seq)) (i : Nat) (hi : i < sequences.length) :
    forIn (List.range sequences[i].length) sequences (Gen.Static.convert_loop4 e i) =
      sequences[i].mapM Seq.normaliseSeq >>= fun g' => pure (sequences.set i g') := by
  have h := forIn_range_slots (fun g (_ : Unit) => sequences.set i g) (Gen.Static.convert_loop4 e i)
    (fun q => (fun q' => (q', ())) <$> q.normaliseSeq) (fun u _ => u)
    (fun xs s j hj => by
      have hi' : i < (sequences.set i xs).length := by simpa using hi
      simp only [Gen.Static.convert_loop4, pyGetNat_lt _ _ hi', pySetNat_lt _ _ _ hi', List.getElem_set_self, ok_bind,
        pyGetNat_lt _ _ hj, pySetNat_lt _ _ _ hj, WrapTie.normalise_eq, unit_bind, List.set_set,
        bind_map_left]) sequences[i] ()
  rw [List.set_getElem_self, ← mapM_map] at h
  rw [h]
  cases sequences[i].mapM Seq.normaliseSeq <;> simp [List.map_map, Function.comp_def]

/-- `t.merge(others)` as the hand model of `convert` writes it: the arguments' absolute views first, then `mergeSeq` -/
theorem merge_model (e : Env) (t : Seq) (others : List Seq) :
    Gen.Wrap.merge e t others = unit (do let abss ← readAbss others; t.mergeSeq abss) := by
  rw [merge_eq]
  cases ho : readAbss others with
  | ok abss => exact merge_readAbs t abss
  | error y =>
    -- both reads can only fail with the same exception, so their order does not show
    cases ht : t.readAbs with
    | error x => rw [readAbs_err t x ht, readAbss_err _ _ ho]; rfl
    | ok p => rfl

/-- `for sequences_to_merge in sequences: …; merged_sequences.append(track)` -/
theorem loop3_eq (e : Env) (sequences : List (List Seq)) (merged : List Seq) :
    forIn (List.range sequences.length) (sequences, merged) (Gen.Static.convert_loop3 e) =
      sequences.mapM MidiL.groupSlot >>= fun os => pure (os.map (·.1), merged ++ os.map (·.2)) := by
  rw [forIn_range_slots Prod.mk (Gen.Static.convert_loop3 e) MidiL.groupSlot (fun m t => m ++ [t])
    (fun xs s i hi => by
      have hg' : ∀ g, (xs.set i g)[i]? = some g := fun g => by simp [hi]
      simp only [Gen.Static.convert_loop3, pyGetNat_lt _ _ hi, ok_bind, loop4_eq e xs i hi, bind_assoc, pure_bind, MidiL.groupSlot]
      cases xs[i].mapM Seq.normaliseSeq with
      | error x => rfl
      | ok g' =>
        simp only [ok_bind, pyGetInt_zero, pyGetNat, hg']
        cases g' with
        | nil => rfl
        | cons t rest =>
          simp only [List.getElem?_cons_zero, ok_bind, List.drop_succ_cons, List.drop_zero, merge_model, unit_bind, readAbss]
          cases rest.mapM (fun x : Seq => (·.2) <$> x.readAbs) with
          | error x => rfl
          | ok abss =>
            simp only [ok_bind]
            cases t.mergeSeq abss with
            | error x => rfl
            | ok t' => simp [pySetInt, pySetNat, hi])]
  simp only [foldl_snoc_map fun t => t, List.map_id']


end SCoda.StaticTieL
