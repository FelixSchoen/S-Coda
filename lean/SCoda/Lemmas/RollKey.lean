/-
  The notes of a timed event list, key by key.  `pairsGo` is `notesGo` with both messages of every note kept; it commutes
  with a map of the messages that keeps types and, along the scan, equality of keys (`pairsGo_map`), and its notes of
  one key only depend on the note events of that key (`pairsGo_proj`).  Where the note-ons and note-offs of a key
  alternate, its note events are `on₁, off₁, on₂, off₂, …` — the normal form `unpair P` of `key_form` — and every
  reader of the key is known on it: the pairs are `P` (`pairs_of_form`), the notes `P.map mkNote` (`notes_of_form`).
  Statements about all notes are read off statements key by key (`perm_of_filters`, `pairwise_of_filters`).
  Which normal-form statement to take: `key_struct` for a list of note events of one key, `key_form` for any list in which
  the key alternates (`altFrom`), `key_view` for a well-formed list, with its notes; `NotesBL.kview` (`Lemmas/RollNotes`)
  adds what time order gives.  Namespaces: `SCoda.NotesL` (pairsGo and the statements key by key), then `SCoda.NotesBL`
  (the normal form).
-/
import SCoda.Lemmas.Roll
namespace SCoda.NotesL
open SCoda SplitL

theorem perm_of_filters {β} [DecidableEq β] (key : β → Int × Int) (A B : List β)
    (h : ∀ k, A.filter (fun b => decide (key b = k)) = B.filter (fun b => decide (key b = k))) : A.Perm B := by
  rw [List.perm_iff_count]
  intro n
  have e : ∀ X : List β, X.count n = (X.filter (fun b => decide (key b = key n))).count n := by
    intro X
    rw [List.count_filter]
    simp
  rw [e A, e B, h]

def mkNote (p : Msg × Msg) : Note :=
  { ch := p.1.ch, pitch := p.1.note, on := p.1.time, off := p.2.time, vel := p.1.vel }

/-- `notesGo` with the two messages of every note kept -/
def pairsGo : List Msg → List Msg → List (Msg × Msg)
  | [], _ => []
  | m :: ms, opens =>
    if m.ty == .noteOn then pairsGo ms (m :: opens.filter (fun o => o.nkey != m.nkey))
    else if m.ty == .noteOff then
      match opens.find? (fun o => o.nkey == m.nkey) with
      | some o => (o, m) :: pairsGo ms (opens.filter (fun x => x.nkey != m.nkey))
      | Option.none => pairsGo ms opens
    else pairsGo ms opens

theorem notesGo_eq (l os : List Msg) : notesGo l os = (pairsGo l os).map mkNote := by
  induction l generalizing os with
  | nil => rfl
  | cons m ms ih =>
    simp only [notesGo, pairsGo]
    split
    · exact ih _
    · split
      · cases hf : List.find? (fun o => o.nkey == m.nkey) os with
        | none => exact ih _
        | some o => simp [ih, mkNote]
      · exact ih _

theorem find?_congr_mem {α} {p q : α → Bool} : ∀ {l : List α}, (∀ x ∈ l, p x = q x) → l.find? p = l.find? q
  | [], _ => rfl
  | a :: l, h => by
    rw [List.find?_cons, List.find?_cons, h a List.mem_cons_self,
      find?_congr_mem (fun x hx => h x (List.mem_cons_of_mem _ hx))]

/-- the waiting note-ons after event `m` (one step of `notesGo` / `pairsGo`) -/
def nextOpens (m : Msg) (opens : List Msg) : List Msg :=
  if m.ty = .noteOn then m :: opens.filter (fun o => o.nkey != m.nkey)
  else if m.ty = .noteOff then
    match opens.find? (fun o => o.nkey == m.nkey) with
    | some _ => opens.filter (fun x => x.nkey != m.nkey)
    | none => opens
  else opens

/-- along the scan of `notesGo`, `f` keeps equality of keys between every note event and the note-ons waiting when it
    arrives -/
def KeepsKeys (f : Msg → Msg) : List Msg → List Msg → Prop
  | [], _ => True
  | m :: ms, opens =>
    ((m.ty = .noteOn ∨ m.ty = .noteOff) → ∀ o ∈ opens, ((f o).nkey = (f m).nkey ↔ o.nkey = m.nkey))
    ∧ KeepsKeys f ms (nextOpens m opens)

theorem keepsKeys_of_all (f : Msg → Msg) : ∀ (l os : List Msg),
    (∀ m ∈ l, (m.ty = .noteOn ∨ m.ty = .noteOff) → ∀ o, ((o ∈ l ∧ o.ty = .noteOn) ∨ o ∈ os) →
      ((f o).nkey = (f m).nkey ↔ o.nkey = m.nkey)) → KeepsKeys f l os := by
  intro l
  induction l with
  | nil => intro _ _; trivial
  | cons m ms ih =>
    intro os hk
    refine ⟨fun hn o ho => hk m List.mem_cons_self hn o (Or.inr ho), ih _ fun m' hm' hn o ho => ?_⟩
    refine hk m' (List.mem_cons_of_mem _ hm') hn o ?_
    rcases ho with ⟨ho, hot⟩ | ho
    · exact Or.inl ⟨List.mem_cons_of_mem _ ho, hot⟩
    · -- a note-on waiting after `m` is `m` itself or was waiting before
      unfold nextOpens at ho
      split at ho
      · rename_i hon
        rcases List.mem_cons.1 ho with rfl | ho
        · exact Or.inl ⟨List.mem_cons_self, hon⟩
        · exact Or.inr (List.mem_filter.1 ho).1
      · split at ho
        · split at ho
          · exact Or.inr (List.mem_filter.1 ho).1
          · exact Or.inr ho
        · exact Or.inr ho

theorem pairsGo_map (f : Msg → Msg) (hty : ∀ m, (f m).ty = m.ty) : ∀ (l os : List Msg), KeepsKeys f l os →
    pairsGo (l.map f) (os.map f) = (pairsGo l os).map (fun p => (f p.1, f p.2)) := by
  intro l
  induction l with
  | nil => intro os _; rfl
  | cons m ms ih =>
    intro os ⟨hk, hnext⟩
    have hbeq : (m.ty = .noteOn ∨ m.ty = .noteOff) → ∀ o ∈ os, ((f o).nkey == (f m).nkey) = (o.nkey == m.nkey) :=
      fun hn o ho => Bool.eq_iff_iff.2 (by simpa using hk hn o ho)
    have hf : (m.ty = .noteOn ∨ m.ty = .noteOff) → (os.map f).filter (fun o => o.nkey != (f m).nkey)
        = (os.filter (fun o => o.nkey != m.nkey)).map f := by
      intro hn
      rw [List.filter_map]
      congr 1
      apply List.filter_congr
      intro o ho
      simp only [Function.comp, bne, hbeq hn o ho]
    simp only [List.map_cons, pairsGo, hty]
    split
    · rename_i hon
      have hon' : m.ty = .noteOn := by simpa using hon
      rw [hf (Or.inl hon'), ← List.map_cons]
      exact ih _ (by simpa [nextOpens, hon'] using hnext)
    · split
      · rename_i hoff
        have hoff' : m.ty = .noteOff := by simpa using hoff
        have hfind : (os.map f).find? (fun o => o.nkey == (f m).nkey)
            = (os.find? (fun o => o.nkey == m.nkey)).map f := by
          rw [List.find?_map]
          congr 1
          exact find?_congr_mem (fun o ho => by simp only [Function.comp, hbeq (Or.inr hoff') o ho])
        rw [hfind]
        cases hfd : os.find? (fun o => o.nkey == m.nkey) with
        | none =>
          simp only [Option.map_none]
          exact ih _ (by simpa [nextOpens, hoff', hfd] using hnext)
        | some o =>
          simp only [Option.map_some, List.map_cons]
          rw [hf (Or.inr hoff'), ih _ (by simpa [nextOpens, hoff', hfd] using hnext)]
      · rename_i hon hoff
        exact ih _ (by simpa [nextOpens, show m.ty ≠ .noteOn by simpa using hon, show m.ty ≠ .noteOff by simpa using hoff] using hnext)

theorem pairsGo_map_key (f : Msg → Msg) (hty : ∀ m, (f m).ty = m.ty) (hk : ∀ m, (f m).nkey = m.nkey) (l os : List Msg) :
    pairsGo (l.map f) (os.map f) = (pairsGo l os).map (fun p => (f p.1, f p.2)) :=
  pairsGo_map f hty l os (keepsKeys_of_all f l os fun _ _ _ _ _ => by rw [hk, hk])

theorem pairsGo_src : ∀ (l os : List Msg), ∀ p ∈ pairsGo l os,
    ((p.1 ∈ l ∧ p.1.ty = .noteOn) ∨ p.1 ∈ os) ∧ p.2 ∈ l ∧ p.2.ty = .noteOff ∧ p.1.nkey = p.2.nkey := by
  intro l
  induction l with
  | nil => intro os p hp; cases hp
  | cons x xs ih =>
    intro os p hp
    -- the waiting note-ons passed on are `x` (a note-on) or among `os`
    have lift : ∀ os', (∀ o ∈ os', (o = x ∧ x.ty = .noteOn) ∨ o ∈ os) → p ∈ pairsGo xs os' →
        ((p.1 ∈ x :: xs ∧ p.1.ty = .noteOn) ∨ p.1 ∈ os) ∧ p.2 ∈ x :: xs ∧ p.2.ty = .noteOff ∧ p.1.nkey = p.2.nkey := by
      intro os' hos hp
      obtain ⟨h1, h2, h3⟩ := ih os' p hp
      refine ⟨?_, List.mem_cons_of_mem _ h2, h3⟩
      rcases h1 with ⟨h1, h1t⟩ | h1
      · exact Or.inl ⟨List.mem_cons_of_mem _ h1, h1t⟩
      · rcases hos _ h1 with ⟨e, hx⟩ | h1
        · exact Or.inl ⟨e ▸ List.mem_cons_self, e ▸ hx⟩
        · exact Or.inr h1
    rw [pairsGo] at hp
    split at hp
    · rename_i hon
      exact lift _ (fun o ho => (List.mem_cons.1 ho).imp (fun e => ⟨e, by simpa using hon⟩) (fun ho => (List.mem_filter.1 ho).1)) hp
    · split at hp
      · rename_i hoff
        split at hp
        · rename_i o hf
          rcases List.mem_cons.1 hp with rfl | hp
          · exact ⟨Or.inr (List.mem_of_find?_eq_some hf), List.mem_cons_self, by simpa using hoff,
              by simpa using List.find?_some hf⟩
          · exact lift _ (fun o ho => Or.inr (List.mem_filter.1 ho).1) hp
        · exact lift _ (fun o ho => Or.inr ho) hp
      · exact lift _ (fun o ho => Or.inr ho) hp

def pkey (k : Int × Int) (p : Msg × Msg) : Bool := decide (p.1.nkey = k)

theorem pairsGo_proj (k : Int × Int) : ∀ (l os : List Msg),
    (pairsGo l os).filter (pkey k) = pairsGo (l.filter (isKN k)) (os.filter (fun o => o.nkey == k)) := by
  intro l
  induction l with
  | nil => intro os; rfl
  | cons x xs ih =>
    intro os
    by_cases hon : x.ty = .noteOn
    · by_cases hk : x.nkey = k
      · have hp : isKN k x = true := by simp [isKN, hk, hon]
        simp only [List.filter_cons, hp, if_true, pairsGo, hon, beq_self_eq_true]
        rw [ih, hk]
        simp only [List.filter_cons]
        have : (x.nkey == k) = true := by simpa using hk
        rw [this, if_pos rfl, filter_eq_filter_ne_self, filter_ne_filter_eq_self]
      · have hp : isKN k x = false := by simp [isKN, hk]
        simp only [List.filter_cons, hp, Bool.false_eq_true, if_false, pairsGo, hon, beq_self_eq_true, if_true]
        rw [ih]
        simp only [List.filter_cons]
        have : (x.nkey == k) = false := by simpa using hk
        rw [this, if_neg (by simp), filter_eq_filter_ne _ _ hk]
    · by_cases hoff : x.ty = .noteOff
      · have h1 : (x.ty == .noteOn) = false := by simpa using hon
        by_cases hk : x.nkey = k
        · have hp : isKN k x = true := by simp [isKN, hk, hoff]
          simp only [List.filter_cons, hp, if_true, pairsGo, hoff, beq_self_eq_true, Bool.false_eq_true, if_false,
            show (MType.noteOff == MType.noteOn) = false from rfl]
          rw [hk, find_filter_eq]
          cases hf : os.find? (fun o => o.nkey == k) with
          | none => simp only []; exact ih os
          | some o =>
            have hok : o.nkey = k := by simpa using List.find?_some hf
            have hok' : pkey k (o, x) = true := by simp [pkey, hok]
            simp only [List.filter_cons, hok', if_true]
            rw [ih, filter_eq_filter_ne_self, filter_ne_filter_eq_self]
        · have hp : isKN k x = false := by simp [isKN, hk]
          simp only [List.filter_cons, hp, pairsGo, hoff, beq_self_eq_true, Bool.false_eq_true, if_false, if_true,
            show (MType.noteOff == MType.noteOn) = false from rfl]
          cases hf : os.find? (fun o => o.nkey == x.nkey) with
          | none => simp only []; exact ih os
          | some o =>
            have hok : o.nkey = x.nkey := by simpa using List.find?_some hf
            have hok' : pkey k (o, x) = false := by
              have : ¬ o.nkey = k := fun h => hk (hok.symm.trans h)
              simp [pkey, this]
            simp only [List.filter_cons, hok', Bool.false_eq_true, if_false]
            rw [ih, filter_eq_filter_ne _ _ hk]
      · have h1 : (x.ty == .noteOn) = false := by simpa using hon
        have h2 : (x.ty == .noteOff) = false := by simpa using hoff
        have hp : isKN k x = false := by simp [isKN, hon, hoff]
        simp only [List.filter_cons, hp, pairsGo, h1, h2, Bool.false_eq_true, if_false]
        exact ih os

theorem notesGo_proj (k : Int × Int) (l os : List Msg) :
    (notesGo l os).filter (fun n => decide ((n.ch, n.pitch) = k))
      = notesGo (l.filter (isKN k)) (os.filter (fun o => o.nkey == k)) := by
  rw [notesGo_eq, notesGo_eq, ← pairsGo_proj, List.filter_map]
  rfl

theorem notesOf_filter_count (l : List Msg) (n : Note) :
    (notesOf l).count n = (notesOf (l.filter (isKN (n.ch, n.pitch)))).count n := by
  have := notesGo_proj (n.ch, n.pitch) l []
  simp only [List.filter_nil] at this
  rw [notesOf, notesOf, ← this, List.count_filter]
  simp

theorem pairwise_of_filters {β} (key : β → Int × Int) (R : β → β → Prop) (l : List β)
    (h : ∀ k, (l.filter (fun b => decide (key b = k))).Pairwise R) : l.Pairwise (fun x y => key x = key y → R x y) := by
  rw [List.pairwise_iff_forall_sublist]
  intro x y hxy hk
  have := hxy.filter (fun b => decide (key b = key x))
  rw [List.filter_cons_of_pos (by exact decide_eq_true rfl), List.filter_cons_of_pos (by exact decide_eq_true hk.symm)] at this
  exact List.pairwise_iff_forall_sublist.1 (h (key x)) this

end SCoda.NotesL

namespace SCoda

theorem notesGo_src (l os : List Msg) : ∀ n ∈ notesGo l os,
    ∃ o, (o ∈ l ∨ o ∈ os) ∧ n.ch = o.ch ∧ n.pitch = o.note ∧ n.on = o.time ∧ n.vel = o.vel := by
  intro n hn
  rw [NotesL.notesGo_eq] at hn
  obtain ⟨p, hp, rfl⟩ := List.mem_map.1 hn
  exact ⟨p.1, (NotesL.pairsGo_src l os p hp).1.imp And.left id, rfl, rfl, rfl, rfl⟩

theorem notesGo_off_src (l os : List Msg) : ∀ n ∈ notesGo l os, ∃ f ∈ l, n.off = f.time := by
  intro n hn
  rw [NotesL.notesGo_eq] at hn
  obtain ⟨p, hp, rfl⟩ := List.mem_map.1 hn
  exact ⟨p.2, (NotesL.pairsGo_src l os p hp).2.1, rfl⟩

end SCoda

namespace SCoda.NotesBL
open SCoda SplitL SCoda.NotesL

/-- the note events `on₁, off₁, on₂, off₂, …` of a list of (note-on, note-off) pairs -/
def unpair (P : List (Msg × Msg)) : List Msg := P.flatMap (fun p => [p.1, p.2])

theorem unpair_cons (p : Msg × Msg) (P : List (Msg × Msg)) : unpair (p :: P) = p.1 :: p.2 :: unpair P := by
  simp [unpair]

/-- a note-on and a note-off of key `k` -/
structure GoodPair (k : Int × Int) (p : Msg × Msg) : Prop where
  on : p.1.ty = .noteOn
  off : p.2.ty = .noteOff
  k1 : p.1.nkey = k
  k2 : p.2.nkey = k

/-- a list of note events of `k` that alternates behind a waiting note-on `o` continues the pairs: the waiting note-on
    and the list together are `on₁, off₁, on₂, off₂, …` -/
theorem key_struct_from (k : Int × Int) : ∀ (lk : List Msg) (o : Option Msg), (∀ x ∈ lk, isKN k x = true) →
    (∀ on, o = some on → on.nkey = k ∧ on.ty = .noteOn) → altFrom k o.isSome lk →
    ∃ P : List (Msg × Msg), o.toList ++ lk = unpair P ∧ ∀ p ∈ P, GoodPair k p := by
  intro lk
  induction lk with
  | nil =>
    intro o _ _ halt
    cases o with
    | none => exact ⟨[], rfl, fun _ hp => nomatch hp⟩
    | some on => cases halt
  | cons x xs ih =>
    intro o hk ho halt
    have hxs : ∀ z ∈ xs, isKN k z = true := fun z hz => hk z (List.mem_cons_of_mem _ hz)
    obtain ⟨hx, hty | hty⟩ := isKN_iff_kev.1 (hk x List.mem_cons_self)
    · rw [altFrom_cons_on ⟨hx, hty⟩] at halt
      cases o with
      | some on => cases halt.1
      | none => exact ih (some x) hxs (fun on e => Option.some.inj e ▸ ⟨hx, hty⟩) halt.2
    · rw [altFrom_cons_off ⟨hx, hty⟩] at halt
      obtain ⟨on, rfl⟩ := Option.isSome_iff_exists.1 halt.1
      obtain ⟨P, hP, hg⟩ := ih none hxs (fun _ e => nomatch e) halt.2
      refine ⟨(on, x) :: P, by rw [unpair_cons, ← hP]; rfl, fun p hp => ?_⟩
      rcases List.mem_cons.1 hp with rfl | hp
      · exact ⟨(ho on rfl).2, hty, (ho on rfl).1, hx⟩
      · exact hg p hp

theorem key_struct (k : Int × Int) (lk : List Msg) (hk : ∀ x ∈ lk, isKN k x = true) (halt : altFrom k false lk) :
    ∃ P : List (Msg × Msg), lk = unpair P ∧ ∀ p ∈ P, GoodPair k p :=
  key_struct_from k lk none hk (fun _ e => nomatch e) halt

/-- **normal form**: where the note-ons and note-offs of key `k` alternate, its note events are `on₁, off₁, on₂, off₂, …` -/
theorem key_form (k : Int × Int) (l : List Msg) (h : altFrom k false l) :
    ∃ P : List (Msg × Msg), l.filter (isKN k) = unpair P ∧ ∀ p ∈ P, GoodPair k p :=
  key_struct k _ (fun _ hm => (List.mem_filter.1 hm).2) ((altFrom_filter_kn k l false).2 h)

theorem pairsGo_unpair (k : Int × Int) : ∀ P : List (Msg × Msg), (∀ p ∈ P, GoodPair k p) →
    pairsGo (unpair P) [] = P := by
  intro P
  induction P with
  | nil => intro _; rfl
  | cons p P ih =>
    intro hg
    have g := hg p (by simp)
    rw [unpair_cons]
    simp [pairsGo, g.on, g.off, g.k1, g.k2, ih (fun q hq => hg q (List.mem_cons_of_mem _ hq))]

section form
variable {x : List Msg} {k : Int × Int} {P : List (Msg × Msg)} (hP : x.filter (isKN k) = unpair P)
  (hg : ∀ p ∈ P, GoodPair k p)
include hP hg

theorem pairs_of_form : (pairsGo x []).filter (pkey k) = P := by
  rw [NotesL.pairsGo_proj, List.filter_nil, hP, pairsGo_unpair k P hg]

theorem notes_of_form : (notesOf x).filter (fun n => decide ((n.ch, n.pitch) = k)) = P.map NotesL.mkNote := by
  rw [notesOf, NotesL.notesGo_eq, ← pairs_of_form hP hg, List.filter_map]; rfl

end form

/-- **per-key view**: in a well-formed list the note events of key `k` are `on₁, off₁, on₂, off₂, …`
    and the notes of key `k` are the pairs `(onᵢ, offᵢ)` -/
theorem key_view (x : List Msg) (hwf : WF x) (k : Int × Int) :
    ∃ P : List (Msg × Msg), x.filter (isKN k) = unpair P ∧ (∀ p ∈ P, GoodPair k p) ∧
      (notesOf x).filter (fun n => decide ((n.ch, n.pitch) = k)) = P.map NotesL.mkNote :=
  let ⟨P, hP, hg⟩ := key_form k x (hwf k); ⟨P, hP, hg, notes_of_form hP hg⟩

theorem mem_unpair {P : List (Msg × Msg)} {m : Msg} : m ∈ unpair P ↔ ∃ p ∈ P, m = p.1 ∨ m = p.2 := by
  simp only [unpair, List.mem_flatMap, List.mem_cons, List.not_mem_nil, or_false]

theorem unpair_sorted_cons {p : Msg × Msg} {P : List (Msg × Msg)} (hs : MergeL.Sorted (unpair (p :: P))) :
    p.1.time ≤ p.2.time ∧ (∀ e ∈ unpair P, p.2.time ≤ e.time) ∧ MergeL.Sorted (unpair P) := by
  rw [unpair_cons] at hs
  unfold MergeL.Sorted at hs ⊢
  rw [List.pairwise_cons, List.pairwise_cons] at hs
  exact ⟨hs.1 _ (by simp), hs.2.1, hs.2.2⟩

theorem unpair_append (A B : List (Msg × Msg)) : unpair (A ++ B) = unpair A ++ unpair B := List.flatMap_append

theorem mem_of_unpair {k : Int × Int} {a : List Msg} {P : List (Msg × Msg)} {p : Msg × Msg}
    (hP : a.filter (isKN k) = unpair P) (hp : p ∈ P) : p.1 ∈ a ∧ p.2 ∈ a :=
  ⟨(List.mem_filter.1 (hP ▸ mem_unpair.2 ⟨p, hp, Or.inl rfl⟩)).1, (List.mem_filter.1 (hP ▸ mem_unpair.2 ⟨p, hp, Or.inr rfl⟩)).1⟩

/-- the converse of `key_struct` -/
theorem altFrom_unpair {k : Int × Int} : ∀ Q : List (Msg × Msg), (∀ q ∈ Q, GoodPair k q) → altFrom k false (unpair Q) := by
  intro Q
  induction Q with
  | nil => intro _; rfl
  | cons q Q ih =>
    intro hg
    have g := hg q List.mem_cons_self
    rw [unpair_cons, altFrom_cons_on ⟨g.k1, g.on⟩, altFrom_cons_off ⟨g.k2, g.off⟩]
    exact ⟨rfl, rfl, ih fun r hr => hg r (List.mem_cons_of_mem _ hr)⟩

theorem sounding_key (x : List Msg) (k : Int × Int) (t : Int) :
    SoundingAt x k t ↔ SoundingAt (x.filter (isKN k)) k t :=
  (soundingAt_filter k (isKN k) x t fun _ _ h => isKN_true h).symm

end SCoda.NotesBL
