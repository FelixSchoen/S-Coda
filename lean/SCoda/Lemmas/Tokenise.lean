/-
  The tokeniser by itself.  A call is described as a relation without fuel, accumulator or `Except`: `Rests`
  (what `applyRest` does), `Tail` (what an event does once the clock stands at its onset), `Run` (the loop),
  `Finish` (filling up the last bar); `core_iff` says that `tokeniseCore` accepts exactly the derivations.
  Everything later about the emitted stream is an induction over a derivation.  In between: events shifted in time
  (`shiftEvs`: a later call's events in the joined piece), for `core_append` (two calls, one call, the same tokens).
  `shiftEvs` is in namespace `SCoda.C01`, the name under which the statements of the properties use it.
-/
import SCoda.Lemmas.Vocab
namespace SCoda.Tokenise
open SCoda

theorem largestLe_go (steps : List Int) (n : Int) (init : Option Int) :
    steps.foldl (fun best s => if n >= s then some s else best) init =
      (steps.reverse.find? (fun s => decide (n ≥ s))).or init := by
  induction steps generalizing init with
  | nil => simp
  | cons a l ih =>
    rw [List.foldl_cons, ih, List.reverse_cons, List.find?_append]
    cases l.reverse.find? (fun s => decide (n ≥ s)) with
    | some v => simp
    | none => by_cases h : n ≥ a <;> simp [h]

theorem largestLe_eq_find (steps : List Int) (n : Int) :
    largestLe steps n = steps.reverse.find? (fun s => decide (n ≥ s)) := by
  unfold largestLe
  rw [largestLe_go]; simp

theorem largestLe_le {steps : List Int} {n v : Int} (h : largestLe steps n = some v) :
    v ∈ steps ∧ v ≤ n := by
  rw [largestLe_eq_find] at h
  exact ⟨List.mem_reverse.1 (List.mem_of_find?_eq_some h), by simpa using List.find?_some h⟩

theorem largestLe_max (steps : List Int) (n : Int) (hsort : steps.Pairwise (· < ·)) (hex : ∃ s ∈ steps, s ≤ n) :
    ∃ v, largestLe steps n = some v ∧ v ∈ steps ∧ v ≤ n ∧ ∀ s ∈ steps, s ≤ n → s ≤ v := by
  obtain ⟨s0, hs0, hs0n⟩ := hex
  obtain ⟨v, hv⟩ : ∃ v, steps.reverse.find? (fun s => decide (n ≥ s)) = some v :=
    Option.isSome_iff_exists.1 (List.find?_isSome.2 ⟨s0, List.mem_reverse.2 hs0, by simpa using hs0n⟩)
  obtain ⟨_, as, bs, hsplit, has⟩ := List.find?_eq_some_iff_append.1 hv
  rw [← largestLe_eq_find] at hv
  refine ⟨v, hv, (largestLe_le hv).1, (largestLe_le hv).2, fun s hs hsn => ?_⟩
  have hrev : (as ++ v :: bs).Pairwise (· > ·) := hsplit ▸ List.pairwise_reverse.2 hsort
  rcases List.mem_append.1 (hsplit ▸ List.mem_reverse.2 hs : s ∈ as ++ v :: bs) with h | h
  · have := has s h
    simp only [Bool.not_eq_eq_eq_not, Bool.not_true, decide_eq_false_iff_not] at this
    omega
  · rcases List.mem_cons.1 h with rfl | h
    · exact Int.le_refl _
    · have := (List.pairwise_cons.1 (List.pairwise_append.1 hrev).2.1).1 s h
      omega

theorem applyRest_nonpos (c : Cfg) (cap : Int) (fuel : Nat) (buf : Int) (st : Int × Int × Int)
    (acc : List Tok) (h : buf ≤ 0) : applyRest c cap fuel buf st acc = .ok (st, acc) := by
  obtain ⟨cur, bar, rem⟩ := st
  cases fuel with
  | zero => simp only [applyRest]; rw [if_neg (by omega)]
  | succ f => simp only [applyRest]; rw [if_neg (by omega)]

/-- the step size `_apply_rest` takes when `nxt` ticks are next -/
def chooseStep (c : Cfg) (nxt : Int) : Except Err Int :=
  match c.steps.getLast? with
  | Option.none => .error .indexError
  | some last =>
    if !(nxt > last || c.steps.any (fun s => nxt >= s)) then .error .tokenisationError else
    match (if nxt > last then some last else largestLe c.steps nxt) with
    | Option.none => .error .tokenisationError
    | some v => .ok v

theorem applyRest_pos (c : Cfg) (cap : Int) (fuel : Nat) (buf cur bar rem : Int) (acc : List Tok) (hb : 0 < buf) :
    applyRest c cap (fuel + 1) buf (cur, bar, rem) acc =
      match chooseStep c (min buf rem) with
      | .error e => .error e
      | .ok v =>
        if rem - v == 0 then applyRest c cap fuel (buf - v) (cur + v, 0, cap) (Tok.bar :: Tok.rest v :: acc)
        else applyRest c cap fuel (buf - v) (cur + v, bar + v, rem - v) (Tok.rest v :: acc) := by
  simp only [applyRest, chooseStep]
  rw [if_pos hb]
  split
  · rename_i h; simp only [h]
  · rename_i last h
    simp only [h]
    split
    · rename_i h2; rfl
    · rename_i h2
      split
      · rename_i h3; simp only [h3]
      · rename_i h3; simp only [h3]

theorem chooseStep_spec (c : Cfg) (n v : Int) (h : chooseStep c n = .ok v) : v ∈ c.steps ∧ v ≤ n := by
  unfold chooseStep at h
  split at h
  · cases h
  · rename_i last hlast
    split at h
    · cases h
    · split at h
      · cases h
      · rename_i v' hv
        cases h
        split at hv
        · rename_i hgt
          cases hv
          exact ⟨List.mem_of_getLast? hlast, by omega⟩
        · exact largestLe_le hv

/-- what `_apply_rest(buf)` does from the clock `(cur, bar, rem)` with bars of size `cap`: the tokens in stream
    order, the bar ends passed, the final clock.  No fuel, no accumulator. -/
inductive Rests (c : Cfg) (cap : Int) : Int → Int × Int × Int → List Tok → List Int → Int × Int × Int → Prop
  | stop {buf s} : buf ≤ 0 → Rests c cap buf s [] [] s
  | close {buf cur bar rem v new ends s'} : 0 < buf → chooseStep c (min buf rem) = .ok v → rem - v = 0 →
      Rests c cap (buf - v) (cur + v, 0, cap) new ends s' →
      Rests c cap buf (cur, bar, rem) (.rest v :: .bar :: new) ((cur + v) :: ends) s'
  | inside {buf cur bar rem v new ends s'} : 0 < buf → chooseStep c (min buf rem) = .ok v → rem - v ≠ 0 →
      Rests c cap (buf - v) (cur + v, bar + v, rem - v) new ends s' →
      Rests c cap buf (cur, bar, rem) (.rest v :: new) ends s'

theorem applyRest_rests {c : Cfg} {cap : Int} {fuel : Nat} {buf : Int} {s : Int × Int × Int} {acc : List Tok}
    {r : (Int × Int × Int) × List Tok} (h : applyRest c cap fuel buf s acc = .ok r) :
    ∃ new ends, Rests c cap buf s new ends r.1 ∧ r.2 = new.reverse ++ acc := by
  induction fuel generalizing buf s acc with
  | zero =>
    by_cases hb : buf ≤ 0
    · rw [applyRest_nonpos _ _ _ _ _ _ hb] at h; cases h; exact ⟨[], [], .stop hb, rfl⟩
    · simp only [applyRest] at h
      rw [if_pos (by omega)] at h; cases h
  | succ fuel ih =>
    by_cases hb : buf ≤ 0
    · rw [applyRest_nonpos _ _ _ _ _ _ hb] at h; cases h; exact ⟨[], [], .stop hb, rfl⟩
    · obtain ⟨cur, bar, rem⟩ := s
      rw [applyRest_pos _ _ _ _ _ _ _ _ (by omega)] at h
      split at h
      · cases h
      · rename_i v hv
        by_cases hz : rem - v = 0
        · rw [if_pos (by simp [hz])] at h
          obtain ⟨new, ends, h1, h2⟩ := ih h
          exact ⟨_, _, .close (by omega) hv hz h1, by simp [h2]⟩
        · rw [if_neg (by simp [hz])] at h
          obtain ⟨new, ends, h1, h2⟩ := ih h
          exact ⟨_, _, .inside (by omega) hv hz h1, by simp [h2]⟩

theorem Rests.applyRest {c : Cfg} (hs : ∀ s ∈ c.steps, 0 < s) {cap buf : Int} {s s' : Int × Int × Int} {new : List Tok}
    {ends : List Int} (h : Rests c cap buf s new ends s') (fuel : Nat) (hf : buf.toNat < fuel) (acc : List Tok) :
    applyRest c cap fuel buf s acc = .ok (s', new.reverse ++ acc) := by
  induction h generalizing fuel acc with
  | stop hb => exact applyRest_nonpos _ _ _ _ _ _ hb
  | close hb hv hz _ ih =>
    obtain ⟨fuel, rfl⟩ : ∃ n, fuel = n + 1 := ⟨fuel - 1, by omega⟩
    have := hs _ (chooseStep_spec c _ _ hv).1
    rw [applyRest_pos _ _ _ _ _ _ _ _ hb, hv]
    simp only [beq_iff_eq, hz, ↓reduceIte]
    rw [ih fuel (by omega)]; simp
  | inside hb hv hz _ ih =>
    obtain ⟨fuel, rfl⟩ : ∃ n, fuel = n + 1 := ⟨fuel - 1, by omega⟩
    have := hs _ (chooseStep_spec c _ _ hv).1
    rw [applyRest_pos _ _ _ _ _ _ _ _ hb, hv]
    simp only [beq_iff_eq, hz, ↓reduceIte]
    rw [ih fuel (by omega)]; simp

theorem Rests.all {c : Cfg} {P : Tok → Prop} (hbar : P .bar) (hrest : ∀ v ∈ c.steps, P (.rest v)) {cap buf : Int}
    {s s' : Int × Int × Int} {new : List Tok} {ends : List Int} (h : Rests c cap buf s new ends s') : ∀ t ∈ new, P t := by
  induction h with
  | stop => simp
  | close _ hv _ _ ih =>
    intro t ht
    simp only [List.mem_cons] at ht
    rcases ht with rfl | rfl | ht
    · exact hrest _ (chooseStep_spec c _ _ hv).1
    · exact hbar
    · exact ih t ht
  | inside _ hv _ _ ih =>
    intro t ht
    rcases List.mem_cons.1 ht with rfl | ht
    · exact hrest _ (chooseStep_spec c _ _ hv).1
    · exact ih t ht

/-- the step taken only depends on `min buf rem` -/
theorem Rests.join {c : Cfg} (hs : ∀ s ∈ c.steps, 0 < s) {cap buf r2 : Int} {s s1 s2 : Int × Int × Int}
    {n1 n2 : List Tok} {e1 e2 : List Int} (h1 : Rests c cap buf s n1 e1 s1) (hb : buf = s.2.2) (hrem : 0 < buf) (hr2 : 0 ≤ r2)
    (h2 : Rests c cap r2 s1 n2 e2 s2) : Rests c cap (buf + r2) s (n1 ++ n2) (e1 ++ e2) s2 := by
  induction h1 generalizing r2 with
  | stop hle => omega
  | @close buf cur bar rem v new ends s' hpos hv hz hrec _ =>
    simp only at hb
    subst hb
    have e : buf + r2 - v = r2 := by omega
    have hnil : new = [] ∧ ends = [] ∧ s' = (cur + v, 0, cap) := by
      cases hrec with
      | stop _ => exact ⟨rfl, rfl, rfl⟩
      | close h _ _ _ => omega
      | inside h _ _ _ => omega
    obtain ⟨rfl, rfl, rfl⟩ := hnil
    refine .close (by omega) (by rwa [show min (buf + r2) buf = min buf buf by omega]) hz ?_
    rw [e]; exact h2
  | @inside buf cur bar rem v new ends s' hpos hv hz hrec ih =>
    simp only at hb
    subst hb
    have hv0 := hs _ (chooseStep_spec c _ _ hv).1
    have hvle := (chooseStep_spec c _ _ hv).2
    refine .inside (by omega) (by rwa [show min (buf + r2) buf = min buf buf by omega]) hz ?_
    have e : buf + r2 - v = (buf - v) + r2 := by omega
    rw [e]
    exact ih rfl (by omega) hr2 h2

theorem Rests.cur {c : Cfg} {cap buf : Int} {s s' : Int × Int × Int} {new : List Tok} {ends : List Int}
    (h : Rests c cap buf s new ends s') (hb : 0 ≤ buf) : s'.1 = s.1 + buf := by
  induction h with
  | stop h => omega
  | close _ hv _ _ ih => have := (chooseStep_spec c _ _ hv).2; have := ih (by omega); simp only at this ⊢; omega
  | inside _ hv _ _ ih => have := (chooseStep_spec c _ _ hv).2; have := ih (by omega); simp only at this ⊢; omega

theorem Rests.rem_pos {c : Cfg} (hs : ∀ s ∈ c.steps, 0 < s) {cap buf cur bar rem : Int} {s' : Int × Int × Int}
    {new : List Tok} {ends : List Int} (h : Rests c cap buf (cur, bar, rem) new ends s') (hb : 0 < buf) : 0 < rem := by
  cases h with
  | stop h => omega
  | close _ hv _ _ => have := hs _ (chooseStep_spec c _ _ hv).1; have := (chooseStep_spec c _ _ hv).2; omega
  | inside _ hv _ _ => have := hs _ (chooseStep_spec c _ _ hv).1; have := (chooseStep_spec c _ _ hv).2; omega

theorem Rests.cap_pos {c : Cfg} (hs : ∀ s ∈ c.steps, 0 < s) {cap buf : Int} {s s' : Int × Int × Int}
    {new : List Tok} {ends : List Int} (h : Rests c cap buf s new ends s') (hb : s.2.2 < buf) (hr : 0 < s.2.2) : 0 < cap := by
  induction h with
  | stop h => omega
  | close _ hv hz hrec _ =>
    have := (chooseStep_spec c _ _ hv).2
    exact hrec.rem_pos hs (by simp only at hb; omega)
  | inside _ hv hz _ ih =>
    have := hs _ (chooseStep_spec c _ _ hv).1; have := (chooseStep_spec c _ _ hv).2
    exact ih (by simp only at hb ⊢; omega) (by simp only at hr ⊢; omega)

/-- the bar has room unless it is the empty bar of a signature of capacity 0 -/
theorem Rests.inv {c : Cfg} (hs : ∀ s ∈ c.steps, 0 < s) {cap buf : Int} {s s' : Int × Int × Int} {new : List Tok}
    {ends : List Int} (h : Rests c cap buf s new ends s') (hb : 0 ≤ s.2.1) (hw : 0 < s.2.2 ∨ (s.2.1 = 0 ∧ s.2.2 = cap)) :
    0 ≤ s'.2.1 ∧ (0 < s'.2.2 ∨ (s'.2.1 = 0 ∧ s'.2.2 = cap)) := by
  induction h with
  | stop => exact ⟨hb, hw⟩
  | close _ _ _ _ ih => exact ih (Int.le_refl 0) (Or.inr ⟨rfl, rfl⟩)
  | inside _ hv hz _ ih =>
    have := hs _ (chooseStep_spec c _ _ hv).1; have := (chooseStep_spec c _ _ hv).2
    exact ih (by simp only at hb ⊢; omega) (Or.inl (by simp only; omega))

/-- the part of `tokEvent` after the clock has been advanced to `(a, b, d)` with tokens `toks0` -/
def tail (c : Cfg) (l : TkLoop) (m : Msg) (restP : List Msg) (a b d : Int) (toks0 : List Tok) :
    Except Err TkLoop :=
  let st := { l.st with curTime := a, curTimeBar := b, capRem := d }
  let l := { l with st := st, toks := toks0 }
  match m.ty with
  | .noteOn =>
    match restP with
    | [] => .error .indexError
    | off :: _ =>
      let ch := m.ch
      let value := off.time - m.time
      match c.bins[binIndex c.bins m.vel]? with
      | Option.none => .error .indexError
      | some vel =>
        if !(c.pitchLo <= m.note && m.note <= c.pitchHi) then .error .tokenisationError else
        if !c.values.contains value then .error .tokenisationError else
        let pre1 := if !c.fuseTrk && (ch != st.prvTrack || !c.running) then [Tok.trk ch] else []
        let pre2 := if !c.fuseVal && (value != st.prvValue || !c.running) then [Tok.val value] else []
        let pre3 := if !c.fuseVel && (vel != st.prvVel || !c.running) then [Tok.vel vel] else []
        let tok := Tok.note (if c.fuseTrk then some ch else Option.none) m.note
                     (if c.fuseVal then some value else Option.none)
                     (if c.fuseVel then some vel else Option.none)
        .ok { l with toks := tok :: (pre3.reverse ++ pre2.reverse ++ pre1.reverse ++ l.toks),
                     st := { st with prvTrack := ch, prvValue := value, prvVel := vel } }
  | .timeSignature =>
    if st.curTimeBar > 0 then .ok l else
    if (m.num * c.defDen) % m.den != 0 then .error .tokenisationError else
    let scaled := (m.num * c.defDen) / m.den
    if !(c.tsLo <= scaled && scaled <= c.tsHi) then .error .tokenisationError else
    let capTotal := c.capacity m.num m.den
    .ok { l with capTotal := capTotal, toks := Tok.tsig scaled c.defNum :: l.toks,
                 st := { st with tsNum := m.num, tsDen := m.den, capRem := capTotal } }
  | _ => .ok l

/-- the rest in front of an event -/
def restH (c : Cfg) (shift : Int) (l : TkLoop) (m : Msg) : Except Err ((Int × Int × Int) × List Tok) :=
  if l.st.curTime != m.time + shift then
    applyRest c l.capTotal ((m.time + shift - l.st.curTime).toNat + 1) (m.time + shift - l.st.curTime)
      (l.st.curTime, l.st.curTimeBar, l.st.capRem) l.toks
  else .ok ((l.st.curTime, l.st.curTimeBar, l.st.capRem), l.toks)

theorem tokEvent_cons (c : Cfg) (shift : Int) (l : TkLoop) (ch : Int) (m : Msg) (restP : List Msg) :
    tokEvent c shift l (ch, m :: restP) = (restH c shift l m >>= fun v => tail c l m restP v.1.1 v.1.2.1 v.1.2.2 v.2) := by
  unfold tokEvent restH
  by_cases h : (l.st.curTime != m.time + shift) = true
  · simp only [if_pos h]
    cases applyRest c l.capTotal ((m.time + shift - l.st.curTime).toNat + 1) (m.time + shift - l.st.curTime)
      (l.st.curTime, l.st.curTimeBar, l.st.capRem) l.toks <;> rfl
  · simp only [if_neg h]; rfl

/-- what a note-on emits, last token first: the note token, before it the velocity, value and track tokens
    that are neither fused nor (in running mode) unchanged -/
def noteToks (c : Cfg) (st : TokSt) (ch pitch value vel : Int) : List Tok :=
  Tok.note (if c.fuseTrk then some ch else Option.none) pitch (if c.fuseVal then some value else Option.none)
      (if c.fuseVel then some vel else Option.none)
    :: ((if !c.fuseVel && (vel != st.prvVel || !c.running) then [Tok.vel vel] else []).reverse
      ++ (if !c.fuseVal && (value != st.prvValue || !c.running) then [Tok.val value] else []).reverse
      ++ (if !c.fuseTrk && (ch != st.prvTrack || !c.running) then [Tok.trk ch] else []).reverse)

theorem mem_unfused {f r : Bool} {x t : Tok} (h : t ∈ (if !f && r then [x] else [])) : f = false ∧ t = x := by
  cases f
  · cases r
    · cases h
    · exact ⟨rfl, List.mem_singleton.1 h⟩
  · cases h

theorem noteToks_all {c : Cfg} {P : Tok → Prop} {st : TokSt} {ch p v w : Int} (hvel : c.fuseVel = false → P (.vel w))
    (hval : c.fuseVal = false → P (.val v)) (htrk : c.fuseTrk = false → P (.trk ch))
    (hnote : P (.note (if c.fuseTrk then some ch else Option.none) p (if c.fuseVal then some v else Option.none)
      (if c.fuseVel then some w else Option.none))) : ∀ t ∈ noteToks c st ch p v w, P t := by
  intro t h
  simp only [noteToks, List.mem_cons, List.mem_append, List.mem_reverse] at h
  rcases h with rfl | (h | h) | h
  · exact hnote
  · obtain ⟨hf, rfl⟩ := mem_unfused h; exact hvel hf
  · obtain ⟨hf, rfl⟩ := mem_unfused h; exact hval hf
  · obtain ⟨hf, rfl⟩ := mem_unfused h; exact htrk hf

/-- the carried state with the clock set -/
def _root_.SCoda.TokSt.at (st : TokSt) (k : Int × Int × Int) : TokSt := { st with curTime := k.1, curTimeBar := k.2.1, capRem := k.2.2 }

def _root_.SCoda.TokSt.clk (st : TokSt) : Int × Int × Int := (st.curTime, st.curTimeBar, st.capRem)

/-- what an accepted event does once the clock stands at its onset: tokens in stream order, the new carried state
    and bar size -/
inductive Tail (c : Cfg) (m : Msg) (restP : List Msg) : TokSt × Int → List Tok → TokSt × Int → Prop
  | note {st cap off r vel} : m.ty = .noteOn → restP = off :: r → c.bins[binIndex c.bins m.vel]? = some vel →
      (c.pitchLo ≤ m.note ∧ m.note ≤ c.pitchHi) → off.time - m.time ∈ c.values →
      Tail c m restP (st, cap) (noteToks c st m.ch m.note (off.time - m.time) vel).reverse
        ({ st with prvTrack := m.ch, prvValue := off.time - m.time, prvVel := vel }, cap)
  | sigInBar {st cap} : m.ty = .timeSignature → 0 < st.curTimeBar → Tail c m restP (st, cap) [] (st, cap)
  | sig {st cap} : m.ty = .timeSignature → ¬ 0 < st.curTimeBar → (m.num * c.defDen) % m.den = 0 →
      (c.tsLo ≤ (m.num * c.defDen) / m.den ∧ (m.num * c.defDen) / m.den ≤ c.tsHi) →
      Tail c m restP (st, cap) [Tok.tsig ((m.num * c.defDen) / m.den) c.defNum]
        ({ st with tsNum := m.num, tsDen := m.den, capRem := c.capacity m.num m.den }, c.capacity m.num m.den)
  | other {st cap} : m.ty ≠ .noteOn → m.ty ≠ .timeSignature → Tail c m restP (st, cap) [] (st, cap)

theorem tail_iff {c : Cfg} {l l' : TkLoop} {m : Msg} {restP : List Msg} {k : Int × Int × Int} {T : List Tok} :
    tail c l m restP k.1 k.2.1 k.2.2 T = .ok l' ↔
      ∃ new s', Tail c m restP (l.st.at k, l.capTotal) new s'
        ∧ l' = { st := s'.1, capTotal := s'.2, toks := new.reverse ++ T } := by
  constructor
  · intro h
    unfold tail at h
    dsimp only at h
    split at h
    · rename_i hty
      split at h
      · cases h
      · rename_i off r
        split at h
        · cases h
        · rename_i vel hvel
          split at h
          · cases h
          · rename_i hp
            split at h
            · cases h
            · rename_i hval
              cases h
              exact ⟨_, _, .note hty rfl hvel (by simpa using hp) (by simpa using hval),
                by rw [List.reverse_reverse]; rfl⟩
    · rename_i hty
      split at h
      · rename_i hb
        cases h
        exact ⟨_, _, .sigInBar hty hb, rfl⟩
      · rename_i hb
        split at h
        · cases h
        · rename_i hdiv
          split at h
          · cases h
          · rename_i hr
            cases h
            exact ⟨_, _, .sig hty hb (by simpa using hdiv) (by simpa using hr), rfl⟩
    · rename_i h1 h2
      cases h
      exact ⟨_, _, .other h1 h2, rfl⟩
  · rintro ⟨new, s', ht, rfl⟩
    generalize hs : (l.st.at k, l.capTotal) = s at ht
    cases ht with
    | note hty hr hvel hp hval =>
      cases hs; subst hr
      unfold tail
      simp only [hty, hvel, hp, hval, decide_true, Bool.and_self, Bool.not_true, Bool.false_eq_true, if_false,
        List.contains_eq_mem, decide_true]
      rw [List.reverse_reverse]
      rfl
    | sigInBar hty hb =>
      cases hs
      unfold tail
      simp only [hty]
      rw [if_pos (show k.2.1 > 0 from hb)]
      rfl
    | sig hty hb hdiv hr =>
      cases hs
      unfold tail
      simp only [hty]
      rw [if_neg (show ¬ k.2.1 > 0 from hb)]
      simp only [hdiv, bne_self_eq_false, Bool.false_eq_true, if_false, hr, decide_true, Bool.and_self, Bool.not_true]
      rfl
    | other h1 h2 =>
      cases hs
      unfold tail
      split
      · rename_i h; exact absurd h h1
      · rename_i h; exact absurd h h2
      · rfl

/-- the loop of a call: per event, rest to its onset, then its tail -/
inductive Run (c : Cfg) (shift : Int) : TokSt × Int → List (Int × Pairing) → List Tok → TokSt × Int → Prop
  | nil {s} : Run c shift s [] [] s
  | cons {st cap e1 m restP n1 ends k n2 s1 evs n3 s2} :
      Rests c cap (m.time + shift - st.curTime) st.clk n1 ends k → Tail c m restP (st.at k, cap) n2 s1 →
      Run c shift s1 evs n3 s2 → Run c shift (st, cap) ((e1, m :: restP) :: evs) (n1 ++ n2 ++ n3) s2

/-- the end of a call: the bar in progress is filled up -/
inductive Finish (c : Cfg) : TokSt × Int → List Tok → TokSt → Prop
  | close {st cap new ends k} : 0 < st.curTimeBar → 0 < st.capRem → Rests c cap st.capRem st.clk new ends k →
      Finish c (st, cap) new (st.at k)
  | idle {st cap} : ¬ (0 < st.curTimeBar ∧ 0 < st.capRem) → Finish c (st, cap) [] st

theorem restH_rests {c : Cfg} {shift : Int} {l : TkLoop} {m : Msg} {v : (Int × Int × Int) × List Tok}
    (h : restH c shift l m = .ok v) :
    ∃ new ends, Rests c l.capTotal (m.time + shift - l.st.curTime) (l.st.curTime, l.st.curTimeBar, l.st.capRem) new ends v.1
      ∧ v.2 = new.reverse ++ l.toks := by
  unfold restH at h
  split at h
  · exact applyRest_rests h
  · rename_i hne
    have : l.st.curTime = m.time + shift := by simpa using hne
    cases h
    exact ⟨[], [], .stop (by omega), rfl⟩

theorem Rests.restH {c : Cfg} (hs : ∀ s ∈ c.steps, 0 < s) {shift : Int} {l : TkLoop} {m : Msg} {new : List Tok}
    {ends : List Int} {k : Int × Int × Int}
    (h : Rests c l.capTotal (m.time + shift - l.st.curTime) (l.st.curTime, l.st.curTimeBar, l.st.capRem) new ends k) :
    Tokenise.restH c shift l m = .ok (k, new.reverse ++ l.toks) := by
  unfold Tokenise.restH
  split
  · exact h.applyRest hs _ (by omega) l.toks
  · rename_i hne
    have : l.st.curTime = m.time + shift := by simpa using hne
    cases h with
    | stop _ => rfl
    | close hb _ _ _ => omega
    | inside hb _ _ _ => omega

theorem fold_run {c : Cfg} {shift : Int} {evs : List (Int × Pairing)} {l l' : TkLoop}
    (h : tokeniseCore.foldlM'' (tokEvent c shift) l evs = .ok l') :
    ∃ new, Run c shift (l.st, l.capTotal) evs new (l'.st, l'.capTotal) ∧ l'.toks = new.reverse ++ l.toks := by
  induction evs generalizing l with
  | nil => simp only [tokeniseCore.foldlM''] at h; cases h; exact ⟨[], .nil, rfl⟩
  | cons ev evs ih =>
    simp only [tokeniseCore.foldlM''] at h
    split at h
    · rename_i l1 h1
      obtain ⟨new3, r3, e3⟩ := ih h
      obtain ⟨e1, e2⟩ := ev
      cases e2 with
      | nil => cases h1
      | cons m restP =>
        rw [tokEvent_cons] at h1
        cases hR : restH c shift l m with
        | error e => rw [hR] at h1; cases h1
        | ok v =>
          rw [hR] at h1
          obtain ⟨n1, ends, r1, a1⟩ := restH_rests hR
          obtain ⟨n2, s1, r2, rfl⟩ := (tail_iff (k := v.1)).1 h1
          exact ⟨n1 ++ n2 ++ new3, .cons r1 r2 r3, by rw [e3, a1]; simp⟩
    · cases h

theorem core_run {c : Cfg} {st st' : TokSt} {evs : List (Int × Pairing)} {toks : List Tok}
    (h : tokeniseCore c st evs = .ok (toks, st')) :
    ∃ s1 t1 t2, Run c st.curTime (st, c.capacity st.tsNum st.tsDen) evs t1 s1 ∧ Finish c s1 t2 st' ∧ toks = t1 ++ t2 := by
  unfold tokeniseCore at h
  simp only [bind, Except.bind] at h
  split at h
  · cases h
  · rename_i l hl
    obtain ⟨t1, r1, a1⟩ := fold_run hl
    simp only [List.append_nil] at a1
    split at h
    · rename_i hfin
      simp only [Bool.and_eq_true, decide_eq_true_eq] at hfin
      split at h
      · cases h
      · rename_i v hv
        cases h
        obtain ⟨t2, ends, r2, a2⟩ := applyRest_rests hv
        exact ⟨_, t1, t2, r1, .close hfin.1 hfin.2 r2, by rw [a2, a1]; simp⟩
    · rename_i hfin
      simp only [Bool.and_eq_true, decide_eq_true_eq] at hfin
      cases h
      exact ⟨_, t1, [], r1, .idle hfin, by rw [a1]; simp⟩

theorem Run.fold {c : Cfg} (hs : ∀ s ∈ c.steps, 0 < s) {shift : Int} {s s' : TokSt × Int} {evs : List (Int × Pairing)}
    {new : List Tok} (h : Run c shift s evs new s') (l : TkLoop) (hl : s = (l.st, l.capTotal)) :
    tokeniseCore.foldlM'' (tokEvent c shift) l evs = .ok { st := s'.1, capTotal := s'.2, toks := new.reverse ++ l.toks } := by
  induction h generalizing l with
  | nil => cases hl; rfl
  | @cons st cap e1 m restP n1 ends k n2 s1 evs n3 s2 r1 r2 _ ih =>
    cases hl
    have hev : tokEvent c shift l (e1, m :: restP)
        = .ok { st := s1.1, capTotal := s1.2, toks := n2.reverse ++ (n1.reverse ++ l.toks) } := by
      rw [tokEvent_cons, r1.restH hs]
      exact tail_iff.2 ⟨_, _, r2, rfl⟩
    simp only [tokeniseCore.foldlM'', hev]
    rw [ih _ rfl]
    simp

theorem core_iff {c : Cfg} (hs : ∀ s ∈ c.steps, 0 < s) {st st' : TokSt} {evs : List (Int × Pairing)} {toks : List Tok} :
    tokeniseCore c st evs = .ok (toks, st') ↔
      ∃ s1 t1 t2, Run c st.curTime (st, c.capacity st.tsNum st.tsDen) evs t1 s1 ∧ Finish c s1 t2 st' ∧ toks = t1 ++ t2 := by
  refine ⟨core_run, ?_⟩
  rintro ⟨s1, t1, t2, r1, r2, rfl⟩
  have hf := r1.fold hs { st := st, capTotal := c.capacity st.tsNum st.tsDen } rfl
  unfold tokeniseCore
  simp only [bind, Except.bind, hf, List.append_nil]
  cases r2 with
  | @close st1 cap new ends k hbar hrem r =>
    have := r.applyRest hs (st1.capRem.toNat + 1) (by omega) t1.reverse
    simp only [TokSt.clk] at this
    simp only [hbar, hrem, decide_true, Bool.and_self, if_true, this]
    simp [TokSt.at]
  | @idle st1 cap hfin =>
    rw [if_neg (by simpa using hfin)]
    simp

theorem tokeniseCore_nil {c : Cfg} (hs : ∀ s ∈ c.steps, 0 < s) (st : TokSt) (hbar : st.curTimeBar = 0) :
    tokeniseCore c st [] = .ok ([], st) :=
  (core_iff hs).2 ⟨_, [], [], .nil, .idle (by omega), rfl⟩

end SCoda.Tokenise
namespace SCoda.C01

/-- the events of a later call carry chunk-relative times; in the joined piece they are shifted by the
    clock the earlier call ended at -/
def shiftEvs (s : Int) (evs : List (Int × Pairing)) : List (Int × Pairing) :=
  evs.map (fun ev => (ev.1, ev.2.map (fun m => { m with time := m.time + s })))

theorem shiftEvs_zero (evs : List (Int × Pairing)) : shiftEvs 0 evs = evs := by
  unfold shiftEvs
  simp

theorem shiftEvs_shiftEvs (a b : Int) (evs : List (Int × Pairing)) :
    shiftEvs a (shiftEvs b evs) = shiftEvs (b + a) evs := by
  unfold shiftEvs
  simp [List.map_map, Function.comp_def, Int.add_assoc]

theorem mem_shiftEvs {s : Int} {evs : List (Int × Pairing)} {ev : Int × Pairing} :
    ev ∈ shiftEvs s evs ↔ ∃ ev0 ∈ evs, (ev0.1, ev0.2.map (fun m => { m with time := m.time + s })) = ev :=
  List.mem_map

theorem shiftEvs_perm (a : Int) {x y : List (Int × Pairing)} (h : x.Perm y) : (shiftEvs a x).Perm (shiftEvs a y) :=
  h.map _

theorem shiftEvs_append (a : Int) (x y : List (Int × Pairing)) :
    shiftEvs a (x ++ y) = shiftEvs a x ++ shiftEvs a y := by
  unfold shiftEvs
  simp

theorem shift_heads (s : Int) (evs : List (Int × Pairing)) (P : Msg → Prop)
    (h : ∀ ev ∈ evs, ∀ m ∈ ev.2.head?, P { m with time := m.time + s }) :
    ∀ ev ∈ shiftEvs s evs, ∀ m ∈ ev.2.head?, P m := by
  intro ev hev m hm
  obtain ⟨ev0, hev0, rfl⟩ := mem_shiftEvs.1 hev
  simp only [List.head?_map, Option.mem_def, Option.map_eq_some_iff] at hm
  obtain ⟨m0, hm0, rfl⟩ := hm
  exact h ev0 hev0 m0 hm0

theorem shift_nonempty (s : Int) (evs : List (Int × Pairing)) (h : ∀ ev ∈ evs, ev.2 ≠ []) :
    ∀ ev ∈ shiftEvs s evs, ev.2 ≠ [] := by
  intro ev hev
  obtain ⟨ev0, hev0, rfl⟩ := mem_shiftEvs.1 hev
  simpa using h ev0 hev0

theorem shift_pairwise (s : Int) (evs : List (Int × Pairing))
    (h : List.Pairwise (fun a b => ∀ x ∈ a.2.head?, ∀ y ∈ b.2.head?, x.time ≤ y.time) evs) :
    List.Pairwise (fun a b => ∀ x ∈ a.2.head?, ∀ y ∈ b.2.head?, x.time ≤ y.time) (shiftEvs s evs) := by
  unfold shiftEvs
  rw [List.pairwise_map]
  refine h.imp ?_
  intro a b hab x hx y hy
  simp only [List.head?_map, Option.mem_def, Option.map_eq_some_iff] at hx hy
  obtain ⟨x0, hx0, rfl⟩ := hx
  obtain ⟨y0, hy0, rfl⟩ := hy
  have := hab x0 hx0 y0 hy0
  simp only; omega

theorem heads_append (P : Msg → Prop) {x y : List (Int × Pairing)} {s : Int} (hx : ∀ ev ∈ x, ∀ m ∈ ev.2.head?, P m)
    (hy : ∀ ev ∈ y, ∀ m ∈ ev.2.head?, P { m with time := m.time + s }) : ∀ ev ∈ x ++ shiftEvs s y, ∀ m ∈ ev.2.head?, P m := by
  intro ev hev
  rcases List.mem_append.1 hev with h | h
  · exact hx ev h
  · exact shift_heads s y P hy ev h

theorem ordered_append {x y : List (Int × Pairing)} {s : Int}
    (hx : List.Pairwise (fun a b => ∀ x ∈ a.2.head?, ∀ y ∈ b.2.head?, x.time ≤ y.time) x)
    (hy : List.Pairwise (fun a b => ∀ x ∈ a.2.head?, ∀ y ∈ b.2.head?, x.time ≤ y.time) y)
    (hxy : ∀ a ∈ x, ∀ mx ∈ a.2.head?, ∀ b ∈ y, ∀ my ∈ b.2.head?, mx.time ≤ my.time + s) :
    List.Pairwise (fun a b => ∀ x ∈ a.2.head?, ∀ y ∈ b.2.head?, x.time ≤ y.time) (x ++ shiftEvs s y) := by
  rw [List.pairwise_append]
  refine ⟨hx, shift_pairwise s y hy, fun a ha b hb mx hmx => ?_⟩
  revert b
  exact shift_heads s y (fun m => mx.time ≤ m.time) (hxy a ha mx hmx)

end SCoda.C01
namespace SCoda.Tokenise
open SCoda.C01

theorem Run.append {c : Cfg} {sh : Int} {s s1 s2 : TokSt × Int} {x y : List (Int × Pairing)} {t1 t2 : List Tok}
    (h1 : Run c sh s x t1 s1) (h2 : Run c sh s1 y t2 s2) : Run c sh s (x ++ y) (t1 ++ t2) s2 := by
  induction h1 with
  | nil => exact h2
  | cons r1 r2 _ ih => simpa [List.append_assoc] using Run.cons r1 r2 (ih h2)

theorem Tail.shift {c : Cfg} {m : Msg} {restP : List Msg} {s s' : TokSt × Int} {new : List Tok} (d : Int)
    (h : Tail c m restP s new s') :
    Tail c { m with time := m.time + d } (restP.map (fun m => { m with time := m.time + d })) s new s' := by
  cases h with
  | @note st cap off r vel hty hr hvel hp hval =>
    subst hr
    have e : ({ off with time := off.time + d } : Msg).time - ({ m with time := m.time + d } : Msg).time = off.time - m.time := by
      simp only; omega
    have := Tail.note (c := c) (m := { m with time := m.time + d }) (st := st) (cap := cap)
      (off := { off with time := off.time + d }) (r := r.map (fun m => { m with time := m.time + d })) (vel := vel)
      hty rfl hvel hp (by rw [e]; exact hval)
    rw [e] at this
    exact this
  | sigInBar hty hb => exact .sigInBar hty hb
  | sig hty hb hdiv hr => exact .sig hty hb hdiv hr
  | other h1 h2 => exact .other h1 h2

theorem Run.shift {c : Cfg} {sh d : Int} {s s' : TokSt × Int} {evs : List (Int × Pairing)} {new : List Tok}
    (h : Run c (sh + d) s evs new s') : Run c sh s (shiftEvs d evs) new s' := by
  induction h with
  | nil => exact .nil
  | @cons st cap e1 m restP n1 ends k n2 s1 evs n3 s2 r1 r2 _ ih =>
    have e : m.time + (sh + d) - st.curTime = ({ m with time := m.time + d } : Msg).time + sh - st.curTime := by
      simp only; omega
    rw [e] at r1
    exact .cons r1 (r2.shift d) ih

theorem Tail.cap {c : Cfg} {m : Msg} {restP : List Msg} {s s' : TokSt × Int} {new : List Tok} (h : Tail c m restP s new s')
    (hc : s.2 = c.capacity s.1.tsNum s.1.tsDen) : s'.2 = c.capacity s'.1.tsNum s'.1.tsDen := by
  cases h <;> first | exact hc | rfl

theorem Run.cap {c : Cfg} {sh : Int} {s s' : TokSt × Int} {evs : List (Int × Pairing)} {new : List Tok}
    (h : Run c sh s evs new s') (hc : s.2 = c.capacity s.1.tsNum s.1.tsDen) : s'.2 = c.capacity s'.1.tsNum s'.1.tsDen := by
  induction h with
  | nil => exact hc
  | cons _ r2 _ ih => exact ih (r2.cap hc)

/-- **resuming**: going on with the loop from the state in which a call stopped (before it filled up its bar) gives
    what a second call from the returned state gives, with the first call's closing tokens in front -/
theorem Finish.resume {c : Cfg} (hs : ∀ s ∈ c.steps, 0 < s) {s1 : TokSt × Int} {t2 : List Tok} {st1 : TokSt}
    (f1 : Finish c s1 t2 st1) (hc : s1.2 = c.capacity s1.1.tsNum s1.1.tsDen)
    {ev : Int × Pairing} {evs2 : List (Int × Pairing)} (hnb : ∀ m ∈ ev.2.head?, 0 ≤ m.time) {t3 : List Tok} {s2 : TokSt × Int}
    (r2 : Run c st1.curTime (st1, c.capacity st1.tsNum st1.tsDen) (ev :: evs2) t3 s2) :
    Run c st1.curTime s1 (ev :: evs2) (t2 ++ t3) s2 := by
  cases f1 with
  | @idle st1 cap hfin => simp only at hc; subst hc; exact r2
  | @close stA cap new ends k hbar hrem r =>
    simp only at hc
    cases r2 with
    | @cons _ _ e1 m restP n1 ends' k' n2 sA _ n3 _ q1 q2 q3 =>
      have hm0 := hnb m rfl
      have hk : k.1 = stA.curTime + stA.capRem := r.cur (by omega)
      have e1' : m.time + (stA.at k).curTime - (stA.at k).curTime = m.time := by omega
      rw [e1'] at q1
      have hj := Rests.join hs r rfl hrem hm0 (by rw [hc]; exact q1)
      have e2 : stA.capRem + m.time = m.time + (stA.at k).curTime - stA.curTime := by simp only [TokSt.at]; omega
      rw [e2] at hj
      have := Run.cons (e1 := e1) hj (by rw [hc]; exact q2) q3
      simpa [List.append_assoc] using this


/-- **two calls, one call, the same tokens.**  If a call returns on a bar line and a second call from the returned
    state is accepted, then the single call on the first events followed by the second events — shifted by the
    time the first call advanced the clock — is accepted, returns the concatenation of the two token lists, and
    ends in the second call's state. -/
theorem core_append (c : Cfg) (hs : ∀ s ∈ c.steps, 0 < s) (st st1 st2 : TokSt) (evs1 evs2 : List (Int × Pairing))
    (toks1 toks2 : List Tok)
    (h1 : tokeniseCore c st evs1 = .ok (toks1, st1)) (hbar1 : st1.curTimeBar = 0)
    (hnb : ∀ ev ∈ evs2, ∀ m ∈ ev.2.head?, 0 ≤ m.time)
    (h2 : tokeniseCore c st1 evs2 = .ok (toks2, st2)) :
    tokeniseCore c st (evs1 ++ shiftEvs (st1.curTime - st.curTime) evs2) = .ok (toks1 ++ toks2, st2) := by
  obtain ⟨s1, a1, a2, r1, f1, rfl⟩ := core_run h1
  obtain ⟨s2, b1, b2, r2, f2, rfl⟩ := core_run h2
  refine (core_iff hs).2 ?_
  cases evs2 with
  | nil =>
    cases r2
    cases f2 with
    | close hb _ _ => omega
    | idle _ => exact ⟨s1, a1, a2, by simpa [shiftEvs] using r1, f1, by simp⟩
  | cons ev evs2 =>
    have hres := f1.resume hs (r1.cap rfl) (hnb ev (by simp)) r2
    have hsh : Run c st.curTime s1 (shiftEvs (st1.curTime - st.curTime) (ev :: evs2)) (a2 ++ b1) s2 :=
      Run.shift (by rwa [show st.curTime + (st1.curTime - st.curTime) = st1.curTime by omega])
    exact ⟨s2, a1 ++ (a2 ++ b1), b2, r1.append hsh, f2, by simp⟩

theorem Tail.curTime {c : Cfg} {m : Msg} {restP : List Msg} {s s' : TokSt × Int} {new : List Tok}
    (h : Tail c m restP s new s') : s'.1.curTime = s.1.curTime := by
  cases h <;> rfl

theorem Run.onsets_le {c : Cfg} {sh : Int} {s s' : TokSt × Int} {evs : List (Int × Pairing)} {new : List Tok}
    (h : Run c sh s evs new s')
    (hord : List.Pairwise (fun a b => ∀ x ∈ a.2.head?, ∀ y ∈ b.2.head?, x.time ≤ y.time) evs)
    (hnb : ∀ ev ∈ evs, ∀ m ∈ ev.2.head?, s.1.curTime ≤ m.time + sh) :
    s.1.curTime ≤ s'.1.curTime ∧ ∀ ev ∈ evs, ∀ m ∈ ev.2.head?, m.time + sh ≤ s'.1.curTime := by
  induction h with
  | nil => exact ⟨Int.le_refl _, by simp⟩
  | @cons st cap e1 m restP n1 ends k n2 s1 evs n3 s2 r1 r2 _ ih =>
    have h0 := hnb _ List.mem_cons_self m rfl
    have hk : k.1 = st.curTime + (m.time + sh - st.curTime) := r1.cur (by simp only at h0; omega)
    have h1 : s1.1.curTime = m.time + sh := by rw [r2.curTime]; simp only [TokSt.at, hk]; omega
    rw [List.pairwise_cons] at hord
    obtain ⟨i1, i2⟩ := ih hord.2 (fun e he m' hm' => by rw [h1]; have := hord.1 e he m rfl m' hm'; omega)
    refine ⟨by simp only at h0 ⊢; omega, fun ev hev m' hm' => ?_⟩
    rcases List.mem_cons.1 hev with rfl | hev
    · cases hm'; omega
    · exact i2 ev hev m' hm'

theorem Tail.all {c : Cfg} {P : Tok → Prop} {m : Msg} {restP : List Msg} {s s' : TokSt × Int} {new : List Tok}
    (h : Tail c m restP s new s') (hsig : ∀ n, c.tsLo ≤ n ∧ n ≤ c.tsHi → P (.tsig n c.defNum))
    (hnote : ∀ off r, restP = off :: r → m.ty = .noteOn → ∀ st, ∀ vel ∈ c.bins, c.pitchLo ≤ m.note ∧ m.note ≤ c.pitchHi →
      off.time - m.time ∈ c.values → ∀ t ∈ noteToks c st m.ch m.note (off.time - m.time) vel, P t) : ∀ t ∈ new, P t := by
  cases h with
  | note hty hr hvel hp hval =>
    exact fun t ht => hnote _ _ hr hty _ _ (List.mem_of_getElem? hvel) hp hval t (List.mem_reverse.1 ht)
  | sigInBar => simp
  | sig _ _ _ hr => intro t ht; cases List.mem_singleton.1 ht; exact hsig _ hr
  | other => simp

theorem Run.all {c : Cfg} {P : Tok → Prop} (hbar : P .bar) (hrest : ∀ v ∈ c.steps, P (.rest v))
    (hsig : ∀ n, c.tsLo ≤ n ∧ n ≤ c.tsHi → P (.tsig n c.defNum)) {shift : Int}
    {s s' : TokSt × Int} {evs : List (Int × Pairing)} {new : List Tok} (h : Run c shift s evs new s')
    (hnote : ∀ e1 m off r, (e1, m :: off :: r) ∈ evs → m.ty = .noteOn → ∀ st, ∀ vel ∈ c.bins,
      c.pitchLo ≤ m.note ∧ m.note ≤ c.pitchHi → off.time - m.time ∈ c.values →
      ∀ t ∈ noteToks c st m.ch m.note (off.time - m.time) vel, P t) : ∀ t ∈ new, P t := by
  induction h with
  | nil => simp
  | cons r1 r2 _ ih =>
    intro t ht
    rcases List.mem_append.1 ht with ht | ht
    · rcases List.mem_append.1 ht with ht | ht
      · exact r1.all hbar hrest t ht
      · exact r2.all hsig (fun off r hr => by subst hr; exact hnote _ _ off r List.mem_cons_self) t ht
    · exact ih (fun e1 m off r he => hnote e1 m off r (List.mem_cons_of_mem _ he)) t ht

/-- every emitted token satisfies `P`, if the tokens a call can emit do -/
theorem core_all {c : Cfg} {P : Tok → Prop} (hbar : P .bar) (hrest : ∀ v ∈ c.steps, P (.rest v))
    (hsig : ∀ n, c.tsLo ≤ n ∧ n ≤ c.tsHi → P (.tsig n c.defNum)) {st st' : TokSt}
    {evs : List (Int × Pairing)} {toks : List Tok} (hok : tokeniseCore c st evs = .ok (toks, st'))
    (hnote : ∀ e1 m off r, (e1, m :: off :: r) ∈ evs → m.ty = .noteOn → ∀ st, ∀ vel ∈ c.bins,
      c.pitchLo ≤ m.note ∧ m.note ≤ c.pitchHi → off.time - m.time ∈ c.values →
      ∀ t ∈ noteToks c st m.ch m.note (off.time - m.time) vel, P t) : ∀ t ∈ toks, P t := by
  obtain ⟨s1, t1, t2, r1, r2, rfl⟩ := core_run hok
  intro t ht
  rcases List.mem_append.1 ht with ht | ht
  · exact r1.all hbar hrest hsig hnote t ht
  · cases r2 with
    | close _ _ r =>
      exact r.all hbar hrest t ht
    | idle => cases ht

theorem tokeniseCore_closed (c : Cfg) (hdef : c.defNum = c.defDen) (st st' : TokSt)
    (evs : List (Int × Pairing)) (toks : List Tok)
    (hch : ∀ ev ∈ evs, ∀ m ∈ ev.2.head?, 0 ≤ m.ch ∧ m.ch < (c.numTracks : Int))
    (hok : tokeniseCore c st evs = .ok (toks, st')) : ∀ t ∈ toks, t ∈ vocabSeq c := by
  refine core_all (Vocab.bar_mem c) (fun _ hv => Vocab.rest_mem.2 hv) (fun n hr => Vocab.tsig_mem.2 ⟨hr, hdef⟩) hok ?_
  intro e1 m off r he _ st vel hvel hp hval
  have hm : m.ch ∈ Vocab.tracks c := Vocab.mem_tracks.2 (hch _ he m rfl)
  refine noteToks_all (fun hf => Vocab.vel_mem.2 ⟨hf, hvel⟩) (fun hf => Vocab.val_mem.2 ⟨hf, hval⟩)
    (fun hf => Vocab.trk_mem.2 ⟨hf, hm⟩) (Vocab.note_mem.2 ⟨?_, hp, ?_, ?_⟩)
  · unfold Vocab.trkOpts; split <;> simp [hm]
  · unfold Vocab.valOpts; split <;> simp [hval]
  · unfold Vocab.velOpts; split <;> simp [hvel]

end SCoda.Tokenise
