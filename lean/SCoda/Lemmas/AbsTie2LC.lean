/-
  Which references sit where in the table of `get_message_pairings()` on distinct references, and `cutoff`.
  An invariant (`CInv`) of the machine on references (`refStep`) ties the table to the sequential partners (`partnersGo`: the note-on a
  note-off closes).  That every pairing is a pair of cells needs no invariant: the table reads as the model's (`pairs_of_model`).
  `cutoff` stores through aliases, row-wise over the pairings (`storeP`); the model's `cutoffGo` is sequential (`cutoff_pure`).
-/
import SCoda.Lemmas.AbsTie2LP
import SCoda.Lemmas.PairStep
import SCoda.Lemmas.Cutoff
namespace SCoda.AbsTie2L
open SCoda SCoda.Gen.Abs2 SCoda.AbsTie2

/-- the note-on reference a note-off closes -/
def partnerOf (h : Heap) (o : Assoc (Int × Int) Nat) (r : Nat) : Option Nat :=
  if (hGet h r).ty = .noteOff then o.get? (hGet h r).nkey else none

/-- open note-on references after `r` -/
def openStep (h : Heap) (o : Assoc (Int × Int) Nat) (r : Nat) : Assoc (Int × Int) Nat :=
  if (hGet h r).ty = .noteOn then o.set (hGet h r).nkey r
  else if (hGet h r).ty = .noteOff then o.erase (hGet h r).nkey else o

def partnersGo (h : Heap) : List Nat → Assoc (Int × Int) Nat → List (Option Nat)
  | [], _ => []
  | r :: rs, o => partnerOf h o r :: partnersGo h rs (openStep h o r)

theorem partnersGo_length (h : Heap) : ∀ (l : List Nat) (o : Assoc (Int × Int) Nat), (partnersGo h l o).length = l.length := by
  intro l; induction l with
  | nil => intro o; rfl
  | cons r rs ih => intro o; simp [partnersGo, ih]

theorem partnersGo_snoc (h : Heap) : ∀ (l : List Nat) (o : Assoc (Int × Int) Nat) (r : Nat),
    partnersGo h (l ++ [r]) o = partnersGo h l o ++ [partnerOf h (l.foldl (openStep h) o) r] := by
  intro l; induction l with
  | nil => intro o r; rfl
  | cons x xs ih => intro o r; simp [partnersGo, ih]

theorem knO_step (h0 : Heap) (o : Assoc (Int × Int) Nat) (r : Nat) (h : Q.NodupKeys o) : Q.NodupKeys (openStep h0 o r) := by
  unfold openStep
  split
  · exact Q.nodupKeys_set h _ _
  · split
    · exact Q.nodupKeys_erase h _
    · exact h

theorem allRefs_setDefault (mp : MP) (ch : Int) : allRefs (dictSetDefault mp ch []) = allRefs mp := by
  unfold dictSetDefault
  split
  · rfl
  · rename_i hc
    have hg : mp.get? ch = none := by
      rw [Q.contains_eq] at hc; cases h : mp.get? ch <;> simp [h] at hc ⊢
    clear hc
    induction mp with
    | nil => simp [Assoc.set, allRefs]
    | cons a rest ih =>
      obtain ⟨k, v⟩ := a
      by_cases hk : k = ch
      · simp [Assoc.get?, hk] at hg
      · simp only [Assoc.get?, hk, if_false] at hg
        have := ih hg
        simp only [allRefs, Assoc.set, hk, if_false, List.flatMap_cons, List.flatten_append] at this ⊢
        rw [this]

section prims

variable (s : PSt Nat) (ch note : Int)

theorem rowOf_sd (ch' : Int) : rowOf (s.sd ch).pairs ch' = rowOf s.pairs ch' := PSt.row_sd s ch ch'

theorem allRefs_sd : allRefs (s.sd ch).pairs = allRefs s.pairs := by rw [PSt.sd_pairs, allRefs_setDefault]

theorem rowOf_closeKey (x i : Nat) (h : s.opens.get? (ch, note) = some i) (ch' : Int) :
    rowOf (s.closeKey (ch, note) ch x).pairs ch'
      = if ch = ch' then (rowOf s.pairs ch).set i ((rowOf s.pairs ch).getD i [] ++ [x]) else rowOf s.pairs ch' := by
  simp only [PSt.closeKey, h, PSt.appendAt, rowOf_set, modifyAt_eq_set_getD _ [] i]; rfl

theorem opens_closeKey (x : Nat) (hkn : Q.NodupKeys s.opens) (ch' note' : Int) :
    (s.closeKey (ch, note) ch x).opens.get? (ch', note') = if ch = ch' ∧ note = note' then none else s.opens.get? (ch', note') := by
  unfold PSt.closeKey
  by_cases hc : ch = ch' ∧ note = note'
  · obtain ⟨rfl, rfl⟩ := hc
    simp only [and_self, if_true]
    split
    · exact Q.get?_erase_self hkn _
    · rename_i hn; exact hn
  · have hne : (ch, note) ≠ (ch', note') := fun e => hc (by simpa using e)
    simp only [hc, if_false]
    split
    · exact Q.get?_erase_ne _ hne
    · rfl

theorem flatten_set_append {α : Type} (x : α) : ∀ (l : List (List α)) (i : Nat) (h : i < l.length),
    (l.set i (l.getD i [] ++ [x])).flatten.Perm (l.flatten ++ [x]) := by
  intro l
  induction l with
  | nil => intro i h; simp at h
  | cons y ys ih =>
    intro i h
    cases i with
    | zero =>
      simp only [List.set_cons_zero, List.getD_cons_zero, List.flatten_cons, List.append_assoc]
      exact List.Perm.append_left _ List.perm_append_comm
    | succ n =>
      simp only [List.set_cons_succ, List.getD_cons_succ, List.flatten_cons, List.append_assoc]
      exact List.Perm.append_left _ (ih n (by simpa using h))

theorem allRefs_closeKey (x i : Nat) (h : s.opens.get? (ch, note) = some i) (hi : i < (rowOf s.pairs ch).length) :
    (allRefs (s.closeKey (ch, note) ch x).pairs).Perm (allRefs s.pairs ++ [x]) := by
  simp only [PSt.closeKey, h, PSt.appendAt, modifyAt_eq_set_getD _ [] i]
  exact allRefs_set_perm s.pairs ch _ [x] (flatten_set_append x _ i hi)

theorem rowOf_push (r : Nat) (ch' : Int) :
    rowOf (s.append ch [r]).pairs ch' = if ch = ch' then rowOf s.pairs ch ++ [[r]] else rowOf s.pairs ch' := by
  simp only [PSt.append, rowOf_set]; rfl

theorem rowOf_openNew (r : Nat) (ch' : Int) :
    rowOf ((s.append ch [r]).openLast (ch, note) ch).pairs ch' = if ch = ch' then rowOf s.pairs ch ++ [[r]] else rowOf s.pairs ch' :=
  rowOf_push s ch r ch'

theorem opens_openLast (r : Nat) (ch' note' : Int) :
    ((s.append ch [r]).openLast (ch, note) ch).opens.get? (ch', note')
      = if ch = ch' ∧ note = note' then some (rowOf s.pairs ch).length else s.opens.get? (ch', note') := by
  simp only [PSt.openLast, PSt.append, Q.get?_set, Option.getD_some, List.length_append, List.length_cons, List.length_nil,
    Nat.add_sub_cancel, if_true]
  by_cases hc : ch = ch' ∧ note = note'
  · obtain ⟨rfl, rfl⟩ := hc; simp [rowOf]
  · have hne : ¬ (ch, note) = (ch', note') := fun e => hc (by simpa using e)
    simp only [hc, hne, if_false]

theorem allRefs_push (r : Nat) : (allRefs (s.append ch [r]).pairs).Perm (allRefs s.pairs ++ [r]) := by
  simp only [PSt.append]
  exact allRefs_set_perm s.pairs ch _ [r] (by simp [rowOf])

end prims

/-- index structure of the pairing state relative to the open note-on references `O` (key ↦ reference, as `openStep` keeps them) -/
structure IdxInv (h0 : Heap) (D : Nat → Prop) (O : Assoc (Int × Int) Nat) (s : PSt Nat) : Prop where
  shut : ∀ ch note, O.get? (ch, note) = none → s.opens.get? (ch, note) = none
  held : ∀ ch note a, O.get? (ch, note) = some a →
        (hGet h0 a).nkey = (ch, note) ∧ D a ∧
        ∃ i : Nat, s.opens.get? (ch, note) = some i ∧ (rowOf s.pairs ch)[i]? = some [a]

theorem idx_nil (h0 : Heap) (D : Nat → Prop) : IdxInv h0 D [] {} :=
  ⟨fun _ _ => by simp [Assoc.get?], fun _ _ _ h => by simp [Assoc.get?] at h⟩

theorem idx_sd {h0 D O} {s : PSt Nat} (hI : IdxInv h0 D O s) (ch : Int) : IdxInv h0 D O (s.sd ch) := by
  refine ⟨?_, ?_⟩
  · intro ch' note; rw [PSt.sd_opens]; exact hI.shut ch' note
  · intro ch' note a h; simp only [PSt.sd_opens, rowOf_sd]; exact hI.held ch' note a h

theorem idx_mono {h0 D D' O} {s : PSt Nat} (hI : IdxInv h0 D O s) (hD : ∀ a, D a → D' a) : IdxInv h0 D' O s :=
  ⟨hI.shut, fun ch note a h => by obtain ⟨h1, h3, h4⟩ := hI.held ch note a h; exact ⟨h1, hD a h3, h4⟩⟩

theorem idx_congr {h0 D O O'} {s : PSt Nat} (h : ∀ k, O.get? k = O'.get? k) (hI : IdxInv h0 D O s) : IdxInv h0 D O' s :=
  ⟨fun ch note => by rw [← h]; exact hI.shut ch note, fun ch note a ha => hI.held ch note a (by rw [h]; exact ha)⟩

theorem idx_close {h0 D O} {s : PSt Nat} (hI : IdxInv h0 D O s) (hkn : Q.NodupKeys s.opens) (hO : Q.NodupKeys O)
    (ch note : Int) (a : Nat) (ha : O.get? (ch, note) = some a) (x : Nat) :
    IdxInv h0 D (O.erase (ch, note)) (s.closeKey (ch, note) ch x) := by
  obtain ⟨hk, hD, i, hfl, hrow⟩ := hI.held ch note a ha
  have key : ∀ k, (O.erase (ch, note)).get? k = if k = (ch, note) then none else O.get? k := by
    intro k
    by_cases hk' : k = (ch, note)
    · subst hk'; simp only [if_true]; exact Q.get?_erase_self hO _
    · simp only [hk', if_false]; exact Q.get?_erase_ne _ (fun e => hk' e.symm)
  refine ⟨?_, ?_⟩ <;> simp only [key]
  · intro ch' note'
    rw [opens_closeKey _ _ _ _ hkn]
    by_cases hc : ch = ch' ∧ note = note'
    · obtain ⟨rfl, rfl⟩ := hc; simp
    · have : ¬ (ch', note') = (ch, note) := by
        intro e; obtain ⟨rfl, rfl⟩ := Prod.mk.inj e; exact hc ⟨rfl, rfl⟩
      simp only [hc, this, if_false]; exact hI.shut ch' note'
  · intro ch' note' a' h'
    by_cases hc : (ch', note') = (ch, note)
    · simp [hc] at h'
    · simp only [hc, if_false] at h'
      obtain ⟨h1, h3, i', h4, h5⟩ := hI.held ch' note' a' h'
      refine ⟨h1, h3, i', ?_, ?_⟩
      · rw [opens_closeKey _ _ _ _ hkn]
        have : ¬ (ch = ch' ∧ note = note') := by
          rintro ⟨rfl, rfl⟩; exact hc rfl
        simp only [this, if_false]; exact h4
      · rw [rowOf_closeKey _ _ _ _ i hfl]
        by_cases hcc : ch = ch'
        · subst hcc
          simp only [if_true]
          have hne : i ≠ i' := by
            intro e; subst e
            rw [hrow] at h5
            have : a = a' := by simpa using h5
            subst this
            apply hc
            rw [← h1, ← hk]
          rw [List.getElem?_set_ne hne]; exact h5
        · simp only [hcc, if_false]; exact h5

theorem idx_open {h0 D O} {s : PSt Nat} (hI : IdxInv h0 D O s) (ch note : Int) (r : Nat)
    (hk : (hGet h0 r).nkey = (ch, note)) (hD : D r) :
    IdxInv h0 D (O.set (ch, note) r) ((s.append ch [r]).openLast (ch, note) ch) := by
  have key : ∀ k, (O.set (ch, note) r).get? k = if k = (ch, note) then some r else O.get? k := by
    intro k
    rw [Q.get?_set]
    by_cases hk' : k = (ch, note)
    · subst hk'; simp
    · have : ¬ (ch, note) = k := fun e => hk' e.symm
      simp only [hk', this, if_false]
  refine ⟨?_, ?_⟩ <;> simp only [key]
  · intro ch' note'
    rw [opens_openLast]
    by_cases hc : ch = ch' ∧ note = note'
    · obtain ⟨rfl, rfl⟩ := hc; simp
    · have : ¬ (ch', note') = (ch, note) := by
        intro e; obtain ⟨rfl, rfl⟩ := Prod.mk.inj e; exact hc ⟨rfl, rfl⟩
      simp only [hc, this, if_false]; exact hI.shut ch' note'
  · intro ch' note' a' h'
    by_cases hc : (ch', note') = (ch, note)
    · obtain ⟨rfl, rfl⟩ := Prod.mk.inj hc
      simp only [if_true, Option.some.injEq] at h'
      subst h'
      refine ⟨hk, hD, (rowOf s.pairs ch').length, ?_, ?_⟩
      · rw [opens_openLast]; simp
      · rw [rowOf_openNew]; simp
    · simp only [hc, if_false] at h'
      obtain ⟨h1, h3, i', h4, h5⟩ := hI.held ch' note' a' h'
      refine ⟨h1, h3, i', ?_, ?_⟩
      · rw [opens_openLast]
        have : ¬ (ch = ch' ∧ note = note') := by
          rintro ⟨rfl, rfl⟩; exact hc rfl
        simp only [this, if_false]; exact h4
      · rw [rowOf_openNew]
        by_cases hcc : ch = ch'
        · subst hcc
          simp only [if_true]
          have hi' : i' < (rowOf s.pairs ch).length := by
            rcases List.getElem?_eq_some_iff.1 h5 with ⟨h, _⟩; exact h
          rw [List.getElem?_append_left hi']; exact h5
        · simp only [hcc, if_false]; exact h5

/-- which references occur in the pairings, and which processed references are paired with which note-on: `Z` lists the processed
    note-offs with their sequential partner (`none`: the second cell of no pairing) -/
structure RefInv (h0 : Heap) (done : List Nat) (Z : List (Nat × Option Nat)) (mp : MP) : Prop where
  nodup : (allRefs mp).Nodup
  src : ∀ x ∈ allRefs mp, x ∈ done ∨ h0.length ≤ x
  paired : ∀ s a, (s, some a) ∈ Z → a ∈ done ∧ ∃ ch, [a, s] ∈ rowOf mp ch
  unpaired : ∀ s, (s, none) ∈ Z → ∀ a ch, [a, s] ∉ rowOf mp ch
  seen : ∀ s o, (s, o) ∈ Z → s ∈ done

theorem ref_nil (h0 : Heap) : RefInv h0 [] [] [] :=
  ⟨by simp [allRefs], fun x hx => by simp [allRefs] at hx, fun _ _ h => by simp at h, fun _ h => by simp at h,
   fun _ _ h => by simp at h⟩

theorem ref_trans {h0 done Z mp} (hI : RefInv h0 done Z mp) (done' : List Nat) (ZE : List (Nat × Option Nat))
    (mp' : MP) (E : List Nat) (NP : List (Nat × Nat))
    (hperm : (allRefs mp').Perm (allRefs mp ++ E)) (hE : E.Nodup)
    (hEn : ∀ e ∈ E, e ∉ allRefs mp ∧ (e ∈ done' ∨ h0.length ≤ e))
    (hd : ∀ x ∈ done, x ∈ done') (hmono : ∀ ch a b, [a, b] ∈ rowOf mp ch → [a, b] ∈ rowOf mp' ch)
    (hnew : ∀ ch a b, [a, b] ∈ rowOf mp' ch → [a, b] ∈ rowOf mp ch ∨ (a, b) ∈ NP)
    (hZa : ∀ s a, (s, some a) ∈ ZE → a ∈ done' ∧ ∃ ch, [a, s] ∈ rowOf mp' ch)
    (hZb : ∀ s, (s, none) ∈ ZE → ∀ a ch, [a, s] ∉ rowOf mp' ch)
    (hZd : ∀ s o, (s, o) ∈ ZE → s ∈ done') (hNP : ∀ a b, (a, b) ∈ NP → b ∉ done) : RefInv h0 done' (Z ++ ZE) mp' := by
  refine ⟨?_, ?_, ?_, ?_, ?_⟩
  · rw [hperm.nodup_iff, List.nodup_append]
    refine ⟨hI.nodup, hE, ?_⟩
    intro a ha b hb e
    subst e
    exact (hEn a hb).1 ha
  · intro z hz
    rcases List.mem_append.1 (hperm.mem_iff.1 hz) with hz | hz
    · exact (hI.src z hz).imp (hd z) id
    · exact (hEn z hz).2
  · intro s a hs
    rcases List.mem_append.1 hs with hs | hs
    · obtain ⟨hda, ch, hc⟩ := hI.paired s a hs
      exact ⟨hd a hda, ch, hmono ch a s hc⟩
    · exact hZa s a hs
  · intro s hs a ch hc
    rcases List.mem_append.1 hs with hs | hs
    · rcases hnew ch a s hc with hc | hc
      · exact hI.unpaired s hs a ch hc
      · exact hNP a s hc (hI.seen s none hs)
    · exact hZb s hs a ch hc
  · intro s o hs
    rcases List.mem_append.1 hs with hs | hs
    · exact hd s (hI.seen s o hs)
    · exact hZd s o hs

theorem entry_of_row (mp : MP) (ch : Int) (p : List Nat) (hp : p ∈ rowOf mp ch) : p ∈ mp.flatMap (·.2) :=
  let ⟨v, hv, hpv⟩ := mem_row hp; List.mem_flatMap.2 ⟨(ch, v), hv, hpv⟩

theorem mem_allRefs_of_row (mp : MP) (ch : Int) (p : List Nat) (x : Nat) (hp : p ∈ rowOf mp ch) (hx : x ∈ p) : x ∈ allRefs mp :=
  List.mem_flatten.2 ⟨p, entry_of_row mp ch p hp, hx⟩

theorem mem_set_of_ne {α : Type} (l : List α) (i : Nat) (v y z : α) (hy : y ∈ l) (hz : l[i]? = some z) (hne : y ≠ z) :
    y ∈ l.set i v := by
  obtain ⟨j, hj⟩ := List.getElem?_of_mem hy
  have hji : i ≠ j := by
    intro e; subst e; rw [hz] at hj; exact hne (by simpa using hj.symm)
  have : (l.set i v)[j]? = some y := by rw [List.getElem?_set_ne hji]; exact hj
  exact List.mem_of_getElem? this

theorem ref_sd {h0 done Z} {s : PSt Nat} (hI : RefInv h0 done Z s.pairs) (ch : Int) : RefInv h0 done Z (s.sd ch).pairs :=
  ⟨by rw [allRefs_sd]; exact hI.nodup, by rw [allRefs_sd]; exact hI.src,
   fun t a hs => by simp only [rowOf_sd]; exact hI.paired t a hs,
   fun t hs a ch' => by rw [rowOf_sd]; exact hI.unpaired t hs a ch', hI.seen⟩

theorem ref_skip {h0 done Z mp} (hI : RefInv h0 done Z mp) (r : Nat) (hr : r ∉ allRefs mp) :
    RefInv h0 (done ++ [r]) (Z ++ [(r, none)]) mp := by
  refine ref_trans hI _ [(r, none)] mp [] [] (by simp) List.nodup_nil (by simp) (fun a ha => by simp [ha])
    (fun _ _ _ hh => hh) (fun _ _ _ hh => Or.inl hh) (by simp) ?_ (by simp) (by simp)
  intro s hs a ch hc'
  simp only [List.mem_singleton, Prod.mk.injEq, and_true] at hs
  subst hs
  exact hr (mem_allRefs_of_row mp ch _ s hc' (by simp))

theorem ref_open {h0 done Z} {s : PSt Nat} (hI : RefInv h0 done Z s.pairs) (ch : Int) (r : Nat) (hr : r ∉ allRefs s.pairs) :
    RefInv h0 (done ++ [r]) (Z ++ [(r, none)]) (s.append ch [r]).pairs := by
  have hrow : ∀ ch' a b, [a, b] ∈ rowOf (s.append ch [r]).pairs ch' ↔ [a, b] ∈ rowOf s.pairs ch' := by
    intro ch' a b
    rw [rowOf_push]
    split
    · rename_i hcc; subst hcc; simp
    · rfl
  refine ref_trans hI _ [(r, none)] _ [r] [] (allRefs_push _ _ r) (by simp) ?_ (fun a ha => by simp [ha])
    (fun ch' a b hh => (hrow ch' a b).2 hh) (fun ch' a b hh => Or.inl ((hrow ch' a b).1 hh)) (by simp) ?_ (by simp) (by simp)
  · intro e he
    simp only [List.mem_singleton] at he
    subst he
    exact ⟨hr, Or.inl (by simp)⟩
  · intro t hs a' ch' hc'
    simp only [List.mem_singleton, Prod.mk.injEq, and_true] at hs
    subst hs
    exact hr (mem_allRefs_of_row s.pairs ch' _ t ((hrow ch' a' t).1 hc') (by simp))

/-- `ZE` is what closing with `x` adds to the processed references (nothing if `x` is a new cell) -/
theorem ref_close {h0 done Z} {s : PSt Nat} (hI : RefInv h0 done Z s.pairs) (ch note : Int) (x i a : Nat)
    (hfl : s.opens.get? (ch, note) = some i) (hrow : (rowOf s.pairs ch)[i]? = some [a])
    (done' : List Nat) (ZE : List (Nat × Option Nat)) (hd : ∀ z ∈ done, z ∈ done')
    (hx : x ∉ allRefs s.pairs) (hx1 : x ∈ done' ∨ h0.length ≤ x) (hxd : x ∉ done)
    (hZa : ∀ t b, (t, some b) ∈ ZE → b ∈ done' ∧ ∃ ch', [b, t] ∈ rowOf (s.closeKey (ch, note) ch x).pairs ch')
    (hZb : ∀ t, (t, none) ∈ ZE → ∀ b ch', [b, t] ∉ rowOf (s.closeKey (ch, note) ch x).pairs ch')
    (hZd : ∀ t o, (t, o) ∈ ZE → t ∈ done') :
    RefInv h0 done' (Z ++ ZE) (s.closeKey (ch, note) ch x).pairs := by
  have hi : i < (rowOf s.pairs ch).length := (List.getElem?_eq_some_iff.1 hrow).1
  have hgetD : (rowOf s.pairs ch).getD i [] = [a] := by simp [List.getD, hrow]
  refine ref_trans hI _ ZE _ [x] [(a, x)] (allRefs_closeKey _ _ _ x i hfl hi) (by simp) ?_ hd ?_ ?_ hZa hZb hZd ?_
  · intro e he
    simp only [List.mem_singleton] at he
    subst he
    exact ⟨hx, hx1⟩
  · intro ch' a' b' hm
    rw [rowOf_closeKey _ _ _ _ i hfl]
    by_cases hcc : ch = ch'
    · subst hcc
      simp only [if_true]
      exact mem_set_of_ne _ _ _ _ _ hm hrow (by simp)
    · simp only [hcc, if_false]; exact hm
  · intro ch' a' b' hm
    rw [rowOf_closeKey _ _ _ _ i hfl] at hm
    by_cases hcc : ch = ch'
    · subst hcc
      simp only [if_true] at hm
      rcases List.mem_or_eq_of_mem_set hm with hm | hm
      · exact Or.inl hm
      · rw [hgetD] at hm
        right
        simp only [List.cons_append, List.nil_append, List.cons.injEq, and_true] at hm
        simp [hm.1, hm.2]
    · simp only [hcc, if_false] at hm; exact Or.inl hm
  · intro a' b' hab
    simp only [List.mem_singleton, Prod.mk.injEq] at hab
    rw [hab.2]; exact hxd

/-- everything `cutoff` needs to know about the state of the machine on references after the references `done` -/
structure CInv (h0 : Heap) (done : List Nat) (x : Heap × PSt Nat) : Prop where
  ok : RefOk h0 notePairTypes true done x
  idx : IdxInv h0 (· ∈ done) (done.foldl (openStep h0) []) x.2
  ref : RefInv h0 done (done.zip (partnersGo h0 done [])) x.2.pairs

theorem cinv_nil {h0 : Heap} (hok : HeapChOk h0) : CInv h0 [] (h0, {}) :=
  ⟨refOk_nil notePairTypes true hok, idx_nil h0 _, by simpa [partnersGo] using ref_nil h0⟩

theorem cinv_step (h0 : Heap) (done : List Nat) (x : Heap × PSt Nat) (r : Nat) (hI : CInv h0 done x)
    (hr : r < h0.length) (hnd : r ∉ done) (hdlt : RefsOk h0 done) :
    CInv h0 (done ++ [r]) (refStep notePairTypes true x r) := by
  obtain ⟨h, s⟩ := x
  obtain ⟨hok, hidx, href⟩ := hI
  simp only at hidx href
  suffices H : IdxInv h0 (· ∈ done ++ [r]) ((done ++ [r]).foldl (openStep h0) []) (refStep notePairTypes true (h, s) r).2 ∧
      RefInv h0 (done ++ [r]) ((done ++ [r]).zip (partnersGo h0 (done ++ [r]) [])) (refStep notePairTypes true (h, s) r).2.pairs from
    ⟨refOk_step hok hr, H.1, H.2⟩
  have hkn : Q.NodupKeys s.opens := hok.kn
  have hg : hGet h r = hGet h0 r := hGet_mono hok.grows hr
  have hn0 : h0.length ≤ h.length := hok.grows.length_le
  have hlnot : h.length ∉ allRefs s.pairs := fun hm => Nat.lt_irrefl _ (tableIn_allRefs hok.inh _ hm)
  have hknO := foldl_inv Q.NodupKeys (openStep h0) (knO_step h0) done [] List.Pairwise.nil
  have hrnot : r ∉ allRefs s.pairs := by
    intro hm
    rcases href.src r hm with h1 | h1
    · exact hnd h1
    · omega
  have hmonoD : ∀ a, a ∈ done → a ∈ done ++ [r] := fun a ha => by simp [ha]
  have hzip : (done ++ [r]).zip (partnersGo h0 (done ++ [r]) [])
      = done.zip (partnersGo h0 done []) ++ [(r, partnerOf h0 (done.foldl (openStep h0) []) r)] := by
    rw [partnersGo_snoc, List.zip_append (partnersGo_length h0 done []).symm]; rfl
  have hfold : (done ++ [r]).foldl (openStep h0) [] = openStep h0 (done.foldl (openStep h0) []) r := by
    rw [List.foldl_append]; rfl
  generalize hO : done.foldl (openStep h0) [] = O at hidx hknO hzip hfold
  have hsd := idx_sd hidx (hGet h0 r).ch
  have hkn1 : Q.NodupKeys (s.sd (hGet h0 r).ch).opens := by rw [PSt.sd_opens]; exact hkn
  have hnk : (hGet h0 r).nkey = ((hGet h0 r).ch, (hGet h0 r).note) := rfl
  by_cases hon : (hGet h0 r).ty = .noteOn
  · have hstep : openStep h0 O r = O.set (hGet h0 r).nkey r := by simp [openStep, hon]
    have hpart : partnerOf h0 O r = none := by simp [partnerOf, hon]
    rw [refStep_on _ _ _ _ _ (by rw [hg, hon]; rfl) (hg ▸ hon), hg, hnk]
    simp only [if_true]
    cases hq : O.get? (hGet h0 r).nkey with
    | none =>
      have hsn : (s.sd (hGet h0 r).ch).opens.get? ((hGet h0 r).ch, (hGet h0 r).note) = none := hsd.shut _ _ hq
      rw [PSt.closeKey_none _ _ _ hsn]
      refine ⟨?_, ?_⟩
      · rw [hfold, hstep]
        exact idx_open (idx_mono hsd hmonoD) _ _ r rfl (by simp)
      · simp only [hzip, hpart]
        exact ref_open (ref_sd href _) _ r (by rwa [allRefs_sd])
    | some a =>
      obtain ⟨hk, hD, i, hfl, hrow⟩ := hsd.held _ _ a hq
      have hi : i < (rowOf (s.sd (hGet h0 r).ch).pairs (hGet h0 r).ch).length := (List.getElem?_eq_some_iff.1 hrow).1
      have hR1 := ref_close (ref_sd href (hGet h0 r).ch) _ _ h.length i a hfl hrow done []
        (fun _ hh => hh) (by rwa [allRefs_sd]) (Or.inr hn0) (fun hm => by have := hdlt _ hm; omega)
        (by simp) (by simp) (by simp)
      rw [List.append_nil] at hR1
      have hrnot1 : r ∉ allRefs ((s.sd (hGet h0 r).ch).closeKey ((hGet h0 r).ch, (hGet h0 r).note) (hGet h0 r).ch h.length).pairs := by
        intro hm
        have := allRefs_closeKey _ (hGet h0 r).ch (hGet h0 r).note h.length i hfl hi
        rw [allRefs_sd] at this
        rcases List.mem_append.1 (this.mem_iff.1 hm) with hm | hm
        · exact hrnot hm
        · simp only [List.mem_singleton] at hm; omega
      refine ⟨?_, ?_⟩
      · rw [hfold, hstep]
        have h1 := idx_mono (idx_close hsd hkn1 hknO _ _ a hq h.length) hmonoD
        refine idx_congr (fun k => ?_) (idx_open h1 (hGet h0 r).ch (hGet h0 r).note r rfl (by simp))
        rw [Q.get?_set, Q.get?_set, Q.get?_erase hknO]
        split <;> simp_all
      · simp only [hzip, hpart]
        exact ref_open hR1 _ r hrnot1
  · by_cases hoff : (hGet h0 r).ty = .noteOff
    · have hstep : openStep h0 O r = O.erase (hGet h0 r).nkey := by simp [openStep, hoff]
      have hpart : partnerOf h0 O r = O.get? (hGet h0 r).nkey := by simp [partnerOf, hoff]
      rw [refStep_off _ _ _ _ _ (by rw [hg, hoff]; rfl) (hg ▸ hoff), hg, hnk]
      cases hq : O.get? (hGet h0 r).nkey with
      | none =>
        rw [PSt.closeKey_none _ _ _ (hsd.shut _ _ hq)]
        refine ⟨?_, ?_⟩
        · simp only [hfold, hstep, Q.erase_absent _ _ hq]
          exact idx_mono hsd hmonoD
        · simp only [hzip, hpart, hq]
          exact ref_skip (ref_sd href _) r (by rwa [allRefs_sd])
      | some a =>
        obtain ⟨hk, hD, i, hfl, hrow⟩ := hsd.held _ _ a hq
        have hi : i < (rowOf (s.sd (hGet h0 r).ch).pairs (hGet h0 r).ch).length := (List.getElem?_eq_some_iff.1 hrow).1
        have hgetD : (rowOf (s.sd (hGet h0 r).ch).pairs (hGet h0 r).ch).getD i [] = [a] := by simp [List.getD, hrow]
        refine ⟨?_, ?_⟩
        · rw [hfold, hstep]
          exact idx_mono (idx_close hsd hkn1 hknO _ _ a hq r) hmonoD
        · simp only [hzip, hpart, hq]
          refine ref_close (ref_sd href _) _ _ r i a hfl hrow (done ++ [r]) [(r, some a)] hmonoD
            (by rwa [allRefs_sd]) (Or.inl (by simp)) hnd ?_ (by simp) (by simp)
          intro t a' hs
          simp only [List.mem_singleton, Prod.mk.injEq, Option.some.injEq] at hs
          obtain ⟨rfl, rfl⟩ := hs
          refine ⟨hmonoD _ hD, (hGet h0 t).ch, ?_⟩
          rw [rowOf_closeKey _ _ _ _ i hfl]
          simp only [if_true, hgetD]
          exact List.mem_of_getElem? (List.getElem?_set_self hi)
    · have hc : notePairTypes.contains (hGet h0 r).ty = false := by
        generalize (hGet h0 r).ty = ty at hon hoff
        cases ty <;> first | rfl | exact absurd rfl hon | exact absurd rfl hoff
      have hstep : openStep h0 O r = O := by simp [openStep, hon, hoff]
      have hpart : partnerOf h0 O r = none := by simp [partnerOf, hoff]
      rw [refStep_skip _ _ _ _ _ (hg ▸ hc)]
      refine ⟨?_, ?_⟩
      · simp only [hfold, hstep]
        exact idx_mono hidx hmonoD
      · simp only [hzip, hpart]
        exact ref_skip href r hrnot

theorem cinv_foldl {h0 : Heap} (hok : HeapChOk h0) {S : List Nat} (hS : RefsOk h0 S) (hnd : S.Nodup) :
    CInv h0 S (S.foldl (refStep notePairTypes true) (h0, {})) :=
  foldl_pre (CInv h0) _ S (fun pre r _ x hl hI => cinv_step h0 pre x r hI (hS r (by rw [hl]; simp)) (not_mem_pre hnd hl)
    fun z hz => hS z (by rw [hl]; simp [hz])) _ (cinv_nil hok)

theorem mem_row_of_entry (mp : MP) (hkn : Q.NodupKeys mp) (c : Int × List (List Nat)) (hc : c ∈ mp) : rowOf mp c.1 = c.2 := by
  simp [rowOf, Q.get?_of_mem hkn (k := c.1) (v := c.2) hc]

theorem closed_facts {lo : Nat} {mp1 mp : MP} {hi : Nat} (hT : TableClosed lo mp1 (mp1.map (·.1)) hi mp)
    (hkn : Q.NodupKeys mp1) (hnd : (allRefs mp1).Nodup) (hlt : ∀ x ∈ allRefs mp1, x < lo) :
    (allRefs mp).Nodup ∧ ∀ a b, b < lo → ([a, b] ∈ mp.flatMap (·.2) ↔ ∃ ch, [a, b] ∈ rowOf mp1 ch) := by
  have hkn2 : Q.NodupKeys mp := by rw [Q.keysNodup_iff, hT.keys, ← Q.keysNodup_iff]; exact hkn
  refine ⟨?_, fun a b hb => ⟨fun hp => ?_, ?_⟩⟩
  · rw [hT.perm.nodup_iff, List.nodup_append]
    refine ⟨hnd, List.nodup_range', fun x hx y hy e => ?_⟩
    have := hlt x hx
    have := (List.mem_range'_1.1 hy).1
    omega
  · obtain ⟨c, hc, hpc⟩ := List.mem_flatMap.1 hp
    exact ⟨c.1, (hT.mem c.1 (by rw [← hT.keys]; exact List.mem_map.2 ⟨c, hc, rfl⟩) _
      (by rw [mem_row_of_entry mp hkn2 c hc]; exact hpc)).mem_of_last_lt (by simp) hb⟩
  · rintro ⟨ch, hch⟩
    exact entry_of_row mp ch _ (hT.keep ch _ hch (by simp))

/-- every pairing of a table that reads as the model's table of note pairings is a pair of cells, the second a note-off:
    `NL.pairings_good` read through the heap -/
theorem pairs_of_model {h : Heap} {mp : MP} {std : Int} {a : List Msg} (habs : absP h mp = pairings notePairTypes std true a) (ht : TableIn h mp) :
    ∀ p ∈ mp.flatMap (·.2), ∃ x y, p = [x, y] ∧ y < h.length ∧ (hGet h y).ty = .noteOff := by
  intro p hp
  obtain ⟨c, hc, hpc⟩ := List.mem_flatMap.1 hp
  have hcm : (c.1, c.2.map (deref h)) ∈ pairings notePairTypes std true a := by rw [← habs]; exact List.mem_map.2 ⟨c, hc, rfl⟩
  obtain ⟨on, off, he, _, hoff, _⟩ := NL.pairings_good std _ _ hcm (deref h p) (List.mem_map.2 ⟨p, hpc, rfl⟩)
  match p, hpc, he with
  | [x, y], hpc, he =>
    simp only [deref, List.map_cons, List.map_nil, List.cons.injEq, and_true] at he
    exact ⟨x, y, rfl, ht c hc _ hpc y (by simp), he.2 ▸ hoff⟩

/-- after the two loops of `get_message_pairings()` (defaults) on distinct references `S`: no reference occurs twice in the table, and a
    reference of the sequence is the second element of a pairing exactly together with its sequential partner -/
theorem gmp_facts {h0 : Heap} (hok : HeapChOk h0) {S : List Nat} (hS : RefsOk h0 S) (hnd : S.Nodup) {h' : Heap} {mp : MP}
    (hG : GmpRefs h0 S notePairTypes true h' mp) :
    (allRefs mp).Nodup ∧
    (∀ s a, (s, some a) ∈ S.zip (partnersGo h0 S []) → a ∈ S ∧ [a, s] ∈ mp.flatMap (·.2)) ∧
    ∀ s, (s, none) ∈ S.zip (partnersGo h0 S []) → ∀ a, [a, s] ∉ mp.flatMap (·.2) := by
  obtain ⟨h1, s1, hs1, hT⟩ := hG
  have hC := cinv_foldl hok hS hnd
  rw [hs1] at hC
  obtain ⟨hOk, _, href⟩ := hC
  simp only at href
  obtain ⟨hF3, hF4⟩ := closed_facts hT hOk.knp href.nodup (tableIn_allRefs hOk.inh)
  have hb : ∀ s o, (s, o) ∈ S.zip (partnersGo h0 S []) → s < h1.length := fun s o hz =>
    Nat.lt_of_lt_of_le (hS s (href.seen s o hz)) hOk.grows.length_le
  refine ⟨hF3, fun s a hz => ⟨(href.paired s a hz).1, (hF4 a s (hb s _ hz)).2 (href.paired s a hz).2⟩, fun s hz a hp => ?_⟩
  obtain ⟨ch, hch⟩ := (hF4 a s (hb s _ hz)).1 hp
  exact href.unpaired s hz a ch hch

/-- the new value of a note-off paired with a note-on at time `t` -/
def updT (mx rd : Int) (m : Msg) (t : Int) : Msg := if m.time - t > mx then { m with time := t + rd } else m

/-- the store of `cutoff` for one pairing -/
def storeP (mx rd : Int) (h : Heap) (p : List Nat) : Heap :=
  match p with
  | [a, b] => if (hGet h b).time - (hGet h a).time > mx then hUpd h b (fun o => { o with time := (hGet h a).time + rd }) else h
  | _ => h

theorem length_storeP (mx rd : Int) (h : Heap) (p : List Nat) : (storeP mx rd h p).length = h.length := by
  unfold storeP
  split
  · split
    · exact length_hUpd _ _ _
    · rfl
  · rfl

theorem hGet_storeP_pair (mx rd : Int) (h : Heap) (a b x : Nat) (hb : b < h.length) :
    hGet (storeP mx rd h [a, b]) x = if x = b then updT mx rd (hGet h b) (hGet h a).time else hGet h x := by
  simp only [storeP, updT]
  by_cases hc : (hGet h b).time - (hGet h a).time > mx
  · simp only [hc, if_true, hGet_hUpd, hb, and_true]
  · simp only [hc, if_false]
    by_cases hx : x = b
    · simp [hx]
    · simp [hx]

theorem length_storeAll (mx rd : Int) (PS : List (List Nat)) (h : Heap) : (PS.foldl (storeP mx rd) h).length = h.length := by
  induction PS generalizing h with
  | nil => rfl
  | cons p ps ih => simp only [List.foldl_cons, ih, length_storeP]

theorem hGet_storeAll_other (mx rd : Int) : ∀ (PS : List (List Nat)) (h : Heap) (x : Nat),
    (∀ p ∈ PS, ∃ a b, p = [a, b] ∧ b < h.length ∧ b ≠ x) → hGet (PS.foldl (storeP mx rd) h) x = hGet h x := by
  intro PS
  induction PS with
  | nil => intro h x _; rfl
  | cons p ps ih =>
    intro h x hp
    obtain ⟨a, b, rfl, hb, hne⟩ := hp p (by simp)
    simp only [List.foldl_cons]
    rw [ih _ x (by
      intro q hq
      obtain ⟨a', b', rfl, hb', hne'⟩ := hp q (by simp [hq])
      exact ⟨a', b', rfl, by rw [length_storeP]; exact hb', hne'⟩)]
    rw [hGet_storeP_pair _ _ _ _ _ _ hb]
    simp [Ne.symm hne]

/-- a cell that is the second element of the pairing `[a, x]` gets the new value computed from the ORIGINAL heap
    (all references in the pairings are distinct) -/
theorem hGet_storeAll_pair (mx rd : Int) : ∀ (PS : List (List Nat)) (h : Heap) (a x : Nat),
    (∀ p ∈ PS, ∃ a b, p = [a, b] ∧ b < h.length) → PS.flatten.Nodup → [a, x] ∈ PS →
    hGet (PS.foldl (storeP mx rd) h) x = updT mx rd (hGet h x) (hGet h a).time := by
  intro PS
  induction PS with
  | nil => intro h a x _ _ hm; simp at hm
  | cons p ps ih =>
    intro h a x hp hnd hm
    obtain ⟨a0, b0, rfl, hb0⟩ := hp p (by simp)
    simp only [List.flatten_cons, List.nodup_append] at hnd
    obtain ⟨hnd0, hndps, hdisj⟩ := hnd
    have hps : ∀ q ∈ ps, ∃ a b, q = [a, b] ∧ b < (storeP mx rd h [a0, b0]).length := by
      intro q hq
      obtain ⟨a', b', rfl, hb'⟩ := hp q (by simp [hq])
      exact ⟨a', b', rfl, by rw [length_storeP]; exact hb'⟩
    simp only [List.foldl_cons]
    rcases List.mem_cons.1 hm with hm | hm
    · -- this pairing: nothing later touches `x`
      obtain ⟨rfl, rfl⟩ : a = a0 ∧ x = b0 := by simpa using hm
      rw [hGet_storeAll_other _ _ _ _ x (by
        intro q hq
        obtain ⟨a', b', rfl, hb'⟩ := hps q hq
        refine ⟨a', b', rfl, hb', ?_⟩
        intro e
        exact hdisj x (by simp) x (List.mem_flatten.2 ⟨_, hq, by simp [e]⟩) rfl)]
      rw [hGet_storeP_pair _ _ _ _ _ _ hb0]
      simp
    · -- a later pairing: this store changes neither `x` nor `a`
      rw [ih _ a x hps hndps hm]
      have hxin : x ∈ ps.flatten := List.mem_flatten.2 ⟨_, hm, by simp⟩
      have hain : a ∈ ps.flatten := List.mem_flatten.2 ⟨_, hm, by simp⟩
      have hx : x ≠ b0 := fun e => hdisj b0 (by simp) x hxin e.symm
      have ha : a ≠ b0 := fun e => hdisj b0 (by simp) a hain e.symm
      rw [hGet_storeP_pair _ _ _ _ _ _ hb0, hGet_storeP_pair _ _ _ _ _ _ hb0]
      simp [hx, ha]

/-- what a reference of the sequence becomes under `cutoff` -/
def cutVal (mx rd : Int) (h : Heap) (sp : Nat × Option Nat) : Msg :=
  match sp.2 with
  | some a => updT mx rd (hGet h sp.1) (hGet h a).time
  | none => hGet h sp.1

/-- the model's `cutoffGo`, position by position, in terms of the sequential partners -/
theorem cutoffGo_partners (mx rd : Int) (h : Heap) : ∀ (l : List Nat) (oc : Assoc (Int × Int) Int) (oR : Assoc (Int × Int) Nat),
    Q.NodupKeys oc → Q.NodupKeys oR → (∀ k, oc.get? k = (oR.get? k).map (fun a => (hGet h a).time)) →
    cutoffGo mx rd (deref h l) oc = (l.zip (partnersGo h l oR)).map (cutVal mx rd h) := by
  intro l
  induction l with
  | nil => intro oc oR _ _ _; rfl
  | cons r rs ih =>
    intro oc oR hkc hkr hrel
    simp only [deref, List.map_cons, partnersGo, List.zip_cons_cons]
    rw [← deref]
    by_cases hon : (hGet h r).ty = .noteOn
    · rw [cutoffGo_on _ _ _ _ _ hon, ih _ (oR.set (hGet h r).nkey r) (Q.nodupKeys_set hkc _ _) (Q.nodupKeys_set hkr _ _) (by
        intro k
        rw [Q.get?_set, Q.get?_set]
        split
        · rfl
        · exact hrel k)]
      simp [cutVal, partnerOf, openStep, hon]
    · by_cases hoff : (hGet h r).ty = .noteOff
      · cases hg : oR.get? (hGet h r).nkey with
        | none =>
          rw [cutoffGo_off_none _ _ _ _ _ hoff (by rw [hrel, hg]; rfl), ih oc oR hkc hkr hrel]
          simp [cutVal, partnerOf, openStep, hoff, hg, Q.erase_absent _ _ hg]
        | some a =>
          rw [cutoffGo_off_some _ _ _ _ _ hoff (hGet h a).time (by rw [hrel, hg]; rfl),
            ih _ (oR.erase (hGet h r).nkey) (Q.nodupKeys_erase hkc _) (Q.nodupKeys_erase hkr _) (by
              intro k
              by_cases hk : (hGet h r).nkey = k
              · subst hk
                rw [Q.get?_erase_self hkc _, Q.get?_erase_self hkr _]; rfl
              · rw [Q.get?_erase_ne _ hk, Q.get?_erase_ne _ hk]; exact hrel k)]
          simp [cutVal, partnerOf, openStep, hoff, hg, updT]
      · rw [cutoffGo_other _ _ _ _ _ hon hoff, ih oc oR hkc hkr hrel]
        simp [cutVal, partnerOf, openStep, hon, hoff]

theorem map_eq_zip_map {α β γ : Type} (f : α → γ) (g : α × β → γ) (l : List α) (m : List β) (hlen : l.length = m.length)
    (h : ∀ p ∈ l.zip m, f p.1 = g p) : l.map f = (l.zip m).map g := by
  induction l generalizing m with
  | nil => simp
  | cons x xs ih =>
    cases m with
    | nil => simp at hlen
    | cons y ys =>
      simp only [List.zip_cons_cons, List.map_cons, List.cons.injEq]
      refine ⟨h (x, y) (by simp), ih ys (by simpa using hlen) (fun p hp => h p (by simp [hp]))⟩

/-- the pure content of `cutoff`: after the pairing and the row-wise stores through the pairings, the sequence reads as
    the model's sequential `cutoffGo` -/
theorem cutoff_pure {h0 : Heap} (hok : HeapChOk h0) {S : List Nat} (mx rd : Int) (hS : RefsOk h0 S) (hnd : S.Nodup) {h' : Heap} {mp : MP}
    (hp : h0 <+: h') (hG : GmpRefs h0 S notePairTypes true h' mp) (hF2 : ∀ p ∈ mp.flatMap (·.2), ∃ a b, p = [a, b] ∧ b < h'.length) :
    deref ((mp.flatMap (·.2)).foldl (storeP mx rd) h') S = cutoffGo mx rd (deref h0 S) [] := by
  obtain ⟨hF3, hZa, hZb⟩ := gmp_facts hok hS hnd hG
  rw [cutoffGo_partners mx rd h0 _ [] [] List.Pairwise.nil List.Pairwise.nil (fun _ => rfl)]
  unfold deref
  apply map_eq_zip_map _ _ _ _ (partnersGo_length h0 _ []).symm
  rintro ⟨s, o⟩ hz
  have hslt := hS s (List.of_mem_zip hz).1
  simp only [cutVal]
  cases o with
  | none =>
    simp only
    rw [hGet_storeAll_other mx rd _ _ s, hGet_mono hp hslt]
    intro p hp
    obtain ⟨a, b, rfl, hb⟩ := hF2 p hp
    exact ⟨a, b, rfl, hb, fun e => hZb s hz a (e ▸ hp)⟩
  | some a =>
    simp only
    obtain ⟨hda, hin⟩ := hZa s a hz
    rw [hGet_storeAll_pair mx rd _ _ a s hF2 hF3 hin, hGet_mono hp hslt, hGet_mono hp (hS a hda)]

/-- the generated `cutoff`: pairing, then the stores through the pairings (`storeP`), then the linked sort -/
theorem cutoff_spec (h0 : Heap) (refs : List Nat) (mx rd : Int) (hrefs : ∀ r ∈ refs, r < h0.length) (hok : ∀ m ∈ h0, m.ch ≠ pyNone)
    (hnd : refs.Nodup) :
    ∃ h', Gen.Abs2.cutoff h0 refs mx rd = .ok (h', sortRefs h' (sortRefs h0 refs)) ∧
      deref h' (sortRefs h0 refs) = cutoffGo mx rd (deref h0 (sortRefs h0 refs)) [] := by
  suffices H : Sat (Gen.Abs2.cutoff h0 refs mx rd) (fun r => r.2 = sortRefs r.1 (sortRefs h0 refs) ∧
      deref r.1 (sortRefs h0 refs) = cutoffGo mx rd (deref h0 (sortRefs h0 refs)) []) by
    obtain ⟨⟨h', r'⟩, he, hr, hd⟩ := H.run
    simp only at hr
    exact ⟨h', by rw [he, hr], hd⟩
  unfold Gen.Abs2.cutoff
  simp only []
  rw [gmp_none]
  refine Sat.bind ((gmp_sat h0 refs notePairTypes Gen.ppqn true hrefs hok).mono ?_)
  rintro ⟨hg, S', mp⟩ ⟨hS', hp, _, ht, habs, hG⟩
  simp only at hS' hp ht habs hG ⊢
  subst hS'
  have hshape : ∀ p ∈ mp.flatMap (·.2), ∃ a b, p = [a, b] ∧ b < hg.length := fun p hp =>
    let ⟨x, y, e, hy, _⟩ := pairs_of_model habs ht p hp; ⟨x, y, e, hy⟩
  have hpure := cutoff_pure hok mx rd (RefsOk.sortRefs h0 hrefs) ((isort_perm _ refs).nodup_iff.2 hnd) hp hG hshape
  refine Sat.bind ((Sat.loop' (fun pre (b : Heap × List Nat) => b = (pre.flatten.foldl (storeP mx rd) hg, sortRefs h0 refs)) _ _ _ rfl ?_).mono ?_)
  · rintro pre row post _ hl rfl
    have hrow : ∀ p ∈ row, ∃ a b, p = [a, b] := by
      intro p hp
      have hm : row ∈ mp.map (·.2) := by rw [hl]; simp
      obtain ⟨c, hc, rfl⟩ := List.mem_map.1 hm
      obtain ⟨a, b, e, _⟩ := hshape p (List.mem_flatMap.2 ⟨c, hc, hp⟩)
      exact ⟨a, b, e⟩
    refine Sat.bind ((Sat.loop' (fun pre' (b : Heap × List Nat) =>
      b = (pre'.foldl (storeP mx rd) (pre.flatten.foldl (storeP mx rd) hg), sortRefs h0 refs)) _ _ _ rfl ?_).mono ?_)
    · rintro pre' p post' _ hl' rfl
      obtain ⟨a, b, rfl⟩ := hrow p (by rw [hl']; simp)
      have hl : ((([a, b] : List Nat).length : Int) == 1) = false := rfl
      have hg1 : pyGet [a, b] 1 = .ok b := rfl
      have hg0 : pyGet [a, b] 0 = .ok a := rfl
      simp only [hl, Bool.false_eq_true, if_false, hg1, hg0, ok_bind, List.foldl_append, List.foldl_cons, List.foldl_nil, storeP]
      generalize List.foldl (storeP mx rd) (List.foldl (storeP mx rd) hg pre.flatten) pre' = c'
      by_cases hc : (hGet c' b).time - (hGet c' a).time > mx
      · simp only [hc, decide_true, if_true]; rfl
      · simp only [hc, decide_false, Bool.false_eq_true, if_false]; rfl
    · rintro _ rfl
      simp only [List.flatten_append, List.flatten_cons, List.flatten_nil, List.append_nil, List.foldl_append]
      rfl
  · rintro _ rfl
    simp only [normaliseAbsolute_eq, ok_bind]
    refine ⟨rfl, ?_⟩
    rw [← hpure]
    simp [List.flatMap]

end SCoda.AbsTie2L
