/-
  Separation over the concrete heap, for `Props/C16c.lean`.  `Sep h A B`: two callers hold objects without dangling identity that share
  no cell; a step that respects the region of one side keeps the separation and leaves every cell of the other side as it is (`sep_step`,
  `step_sep` for an operation of `HOp`).  `DSep h0 h E R`: a source side `E` and a result side `R` made of cells that did not exist in
  `h0`; it is kept by a step of the source side, by a step of the result side, and by a step that writes nothing that existed
  (`dsep_step_src`, `dsep_step_res`, `dsep_fresh`), hence by every derivation route (`*_dsep`, `step_dsep`), and `derive_of_dsep` /
  `copy_of_dsep` read the freshness statements off it.
-/
import SCoda.Lemmas.HeapOpsL
namespace SCoda.C16c
open SCoda SCoda.HeapOps SCoda.HeapL

/-- every cell reachable from the roots is allocated: no dangling identity (a decidable condition on
    the input heap; it holds of every heap the operations build, `run_allocAll`) -/
def AllocAll (h : Heap) (roots : List Cell) : Prop := ∀ c ∈ reachAll h roots, h.alloc c

instance (h : Heap) (roots : List Cell) : Decidable (AllocAll h roots) := by unfold AllocAll; infer_instance

def Disjoint (xs ys : List Cell) : Prop := ∀ c ∈ xs, c ∉ ys

instance (xs ys : List Cell) : Decidable (Disjoint xs ys) := by unfold Disjoint; infer_instance

def Unchanged (h h' : Heap) (cs : List Cell) : Prop := ∀ c ∈ cs, h'.get c = h.get c

def FreshCells (h h' : Heap) (cs : List Cell) : Prop := ∀ c ∈ cs, ¬ h.alloc c ∧ h'.alloc c

/-- an operation that respects every good region without any hypothesis on its arguments returns
    fresh cells only and writes no existing cell -/
theorem fresh_of_spec {h h' : Heap} {r : Cell}
    (hsp : Spec (Fresh h) h h' ∧ In (Fresh h) h' r) :
    FreshCells h h' (reach h' r) ∧ ∀ c, h.alloc c → h'.get c = h.get c :=
  ⟨reach_in hsp.1.good hsp.2, hsp.1.same_alloc⟩

/-- two callers whose objects share no cell and have no dangling identity -/
def Sep (h : Heap) (A B : List Cell) : Prop :=
  AllocAll h A ∧ AllocAll h B ∧ Disjoint (reachAll h A) (reachAll h B)

theorem Sep.allocA {h : Heap} {A B : List Cell} (hs : Sep h A B) : AllocAll h A := hs.1
theorem Sep.allocB {h : Heap} {A B : List Cell} (hs : Sep h A B) : AllocAll h B := hs.2.1
theorem Sep.disj {h : Heap} {A B : List Cell} (hs : Sep h A B) : Disjoint (reachAll h A) (reachAll h B) := hs.2.2

theorem Sep.symm {h : Heap} {A B : List Cell} (hs : Sep h A B) : Sep h B A :=
  ⟨hs.allocB, hs.allocA, fun c hc hca => hs.disj c hca hc⟩

theorem reachAll_sub {h : Heap} {A A' : List Cell} (hs : ∀ c ∈ A', c ∈ A) : ∀ c ∈ reachAll h A', c ∈ reachAll h A := by
  intro c hc
  obtain ⟨r, hr, hcr⟩ := mem_reachAll.1 hc
  exact mem_reachAll.2 ⟨r, hs r hr, hcr⟩

theorem Sep.mono {h : Heap} {A A' B B' : List Cell} (hA : ∀ c ∈ A', c ∈ A) (hB : ∀ c ∈ B', c ∈ B) (hs : Sep h A B) :
    Sep h A' B' :=
  ⟨fun c hc => hs.allocA c (reachAll_sub hA c hc), fun c hc => hs.allocB c (reachAll_sub hB c hc),
    fun c hc hcb => hs.disj c (reachAll_sub hA c hc) (reachAll_sub hB c hcb)⟩

theorem Sep.add_roots {h : Heap} {A B more : List Cell} (hs : Sep h A B) (hm : ∀ c ∈ more, c ∈ reachAll h A) :
    Sep h (A ++ more) B := by
  have hsub : ∀ c ∈ reachAll h (A ++ more), c ∈ reachAll h A := by
    intro c hc
    obtain ⟨r, hr, hcr⟩ := mem_reachAll.1 hc
    rcases List.mem_append.1 hr with hr | hr
    · exact mem_reachAll.2 ⟨r, hr, hcr⟩
    · obtain ⟨x, hx, hrx⟩ := mem_reachAll.1 (hm r hr)
      exact mem_reachAll.2 ⟨x, hx, reach_trans hrx c hcr⟩
  exact ⟨fun c hc => hs.allocA c (hsub c hc), hs.allocB, fun c hc hcb => hs.disj c (hsub c hc) hcb⟩

theorem reachAll_single (h : Heap) (c : Cell) : reachAll h [c] = reach h c := by simp [reachAll]

/-- a step that respects the region of side `A`, after which that side holds `A'`, keeps the separation and leaves every
    cell of `B` unchanged (for any heap transformer) -/
theorem sep_step {h h' : Heap} {A A' B : List Cell} (hsep : Sep h A B) (hsp : Spec (ReachR h A) h h')
    (hin : ∀ c ∈ A', In (ReachR h A) h' c) :
    Sep h' A' B ∧ Unchanged h h' (reachAll h B) ∧ reachAll h' B = reachAll h B
      ∧ ∀ c ∈ reachAll h' A', In (ReachR h A) h' c := by
  obtain ⟨_, hB, hdis⟩ := hsep
  have hout : ∀ c ∈ reachAll h B, ¬ ReachR h A c := by
    rintro c hc (hw | hn)
    · exact hdis c hw hc
    · exact hn (hB c hc)
  have hun : Unchanged h h' (reachAll h B) := fun c hc => hsp.pres.same c (hout c hc)
  have hsame := reachAll_congr (h' := h') B hun
  have hall := reachAll_in hsp.good hin
  refine ⟨⟨fun c hc => (hall c hc).2, ?_, ?_⟩, hun, hsame, hall⟩
  · intro c hc
    rw [hsame] at hc
    exact alloc_mono hsp.pres.le (hB c hc)
  · intro c hc hcb
    rw [hsame] at hcb
    exact hout c hcb (hall c hc).1

theorem step_sep (o : Orc) (op : HOp) (h : Heap) (A B : List Cell) (hsep : Sep h A B) :
    Sep (step o op (h, A)).1 (step o op (h, A)).2 B ∧ Unchanged h (step o op (h, A)).1 (reachAll h B) := by
  obtain ⟨s1, e1⟩ := step_spec_env (o := o) (good_reachR h A hsep.allocA) (fun c hc => in_reachR hsep.allocA hc) op
  obtain ⟨h1, h2, _⟩ := sep_step hsep s1 e1
  exact ⟨h1, h2⟩

/-- the separation of a source side `E` and a result side `R`, the result side made of cells that did not exist in `h0` -/
def DSep (h0 h : Heap) (E R : List Cell) : Prop :=
  Sep h E R ∧ (∀ k, h0.next k ≤ h.next k) ∧ ∀ c ∈ reachAll h R, ¬ h0.alloc c

theorem DSep.sep {h0 h : Heap} {E R : List Cell} (hd : DSep h0 h E R) : Sep h E R := hd.1
theorem DSep.srcAlloc {h0 h : Heap} {E R : List Cell} (hd : DSep h0 h E R) : AllocAll h E := hd.1.1
theorem DSep.resAlloc {h0 h : Heap} {E R : List Cell} (hd : DSep h0 h E R) : AllocAll h R := hd.1.2.1
theorem DSep.le {h0 h : Heap} {E R : List Cell} (hd : DSep h0 h E R) : ∀ k, h0.next k ≤ h.next k := hd.2.1
theorem DSep.fresh {h0 h : Heap} {E R : List Cell} (hd : DSep h0 h E R) : ∀ c ∈ reachAll h R, ¬ h0.alloc c := hd.2.2

/-- a step of the SOURCE side (no new roots): e.g. the read of a relative view -/
theorem dsep_step_src {h0 h h' : Heap} {E R : List Cell} (hd : DSep h0 h E R) (hsp : Spec (ReachR h E) h h') :
    DSep h0 h' E R := by
  obtain ⟨hsep, hle, hfr⟩ := hd
  obtain ⟨s1, _, hsame, _⟩ := sep_step hsep hsp (fun c hc => (in_reachR hsep.allocA hc).mono hsp.pres)
  exact ⟨s1, fun k => Nat.le_trans (hle k) (hsp.pres.le k), fun c hc => hfr c (hsame ▸ hc)⟩

/-- a step of the RESULT side that returns the new roots `more`: e.g. `Track(bars)` on copied bars -/
theorem dsep_step_res {h0 h h' : Heap} {E R more : List Cell} (hd : DSep h0 h E R) (hsp : Spec (ReachR h R) h h')
    (hin : ∀ c ∈ more, In (ReachR h R) h' c) : DSep h0 h' E (R ++ more) := by
  obtain ⟨hsep, hle, hfr⟩ := hd
  obtain ⟨s1, _, _, hall⟩ := sep_step hsep.symm hsp
    (List.forall_mem_append.2 ⟨fun c hc => (in_reachR hsep.allocB hc).mono hsp.pres, hin⟩)
  refine ⟨s1.symm, fun k => Nat.le_trans (hle k) (hsp.pres.le k), ?_⟩
  intro c hc
  rcases (hall c hc).1 with hw | hn
  · exact hfr c hw
  · exact fun ha => hn (alloc_mono hle ha)

theorem dsep_fresh {h0 h h' : Heap} {E R more : List Cell} (hd : DSep h0 h E R) (hsp : Spec (Fresh h) h h')
    (hr : ∀ r ∈ more, In (Fresh h) h' r) : DSep h0 h' E (R ++ more) :=
  dsep_step_res hd (hsp.mono (good_fresh h) (good_reachR h R hd.resAlloc) fun _ => Or.inr)
    fun c hc => ⟨Or.inr (hr c hc).1, (hr c hc).2⟩

theorem DSep.mono {h0 h : Heap} {E E' R R' : List Cell} (hE : ∀ c ∈ E', c ∈ E) (hR : ∀ c ∈ R', c ∈ R) (hd : DSep h0 h E R) :
    DSep h0 h E' R' :=
  ⟨hd.sep.mono hE hR, hd.le, fun c hc => hd.fresh c (reachAll_sub hR c hc)⟩

theorem DSep.add_roots {h0 h : Heap} {E R more : List Cell} (hd : DSep h0 h E R) (hm : ∀ c ∈ more, c ∈ reachAll h E) :
    DSep h0 h (E ++ more) R :=
  ⟨hd.sep.add_roots hm, hd.le, hd.fresh⟩

theorem mem_of_in {h : Heap} {A : List Cell} {c : Cell} (hi : In (ReachR h A) h c) : c ∈ reachAll h A :=
  hi.1.resolve_right (not_not_intro hi.2)

theorem dsep_start {h : Heap} {env : List Cell} (hall : AllocAll h env) : DSep h h env [] :=
  ⟨⟨hall, by simp [AllocAll, reachAll], by simp [Disjoint, reachAll]⟩, fun _ => Nat.le_refl _, by simp [reachAll]⟩

theorem derive_of_dsep {h h' : Heap} {env R : List Cell} (hd : DSep h h' env R) :
    AllocAll h' env ∧ AllocAll h' R ∧ Disjoint (reachAll h' R) (reachAll h' env) ∧ ∀ c ∈ reachAll h' R, ¬ h.alloc c :=
  ⟨hd.srcAlloc, hd.resAlloc, hd.sep.symm.disj, hd.fresh⟩

theorem frame_of_spec {h h' : Heap} {r : Cell} (s : Spec (ReachR h [r]) h h') :
    ∀ c, h.alloc c → c ∉ reach h r → h'.get c = h.get c :=
  fun c hc hn => s.pres.same c fun hx => hx.elim (fun hx => hn (reachAll_single h r ▸ hx)) (fun hx => hx hc)

theorem copy_of_dsep {h h' : Heap} {r r' : Cell} (hd : DSep h h' [r] [r']) (s : Spec (ReachR h [r]) h h') :
    FreshCells h h' (reach h' r') ∧ Disjoint (reach h' r') (reach h' r)
      ∧ ∀ c, h.alloc c → c ∉ reach h r → h'.get c = h.get c := by
  obtain ⟨_, h2, h3, h4⟩ := derive_of_dsep hd
  simp only [reachAll_single] at h3 h4
  exact ⟨fun c hc => ⟨h4 c hc, h2 c (reachAll_single h' r' ▸ hc)⟩, h3, frame_of_spec s⟩

/-- a constructor applied on the result side: the new object `r` takes the place of the `parts` it was built from -/
theorem dsep_build {h0 h h' : Heap} {E R parts : List Cell} {r : Cell} (hd : DSep h0 h E (R ++ parts))
    (r' : Spec (ReachR h (R ++ parts)) h h' ∧ In (ReachR h (R ++ parts)) h' r) : DSep h0 h' E (R ++ [r]) :=
  (dsep_step_res hd r'.1 (List.forall_mem_singleton.2 r'.2)).mono (fun _ hc => hc)
    fun _ hc => (List.mem_append.1 hc).elim (fun hc => List.mem_append_left _ (List.mem_append_left _ hc)) (List.mem_append_right _)

/-! ### the copies of bars, tracks and compositions: `Bar.copy()` first reads the relative view of the source bar's sequence
    (`self.sequence.rel`, bar.py:59 — a step of the SOURCE side: a stale view is regenerated), then copies the sequence and
    constructs the new bar (a step that writes nothing that existed) -/

theorem barCopy_dsep (o : Orc) (tag : Nat) {h0 h : Heap} {E R : List Cell} (b : Nat) (hd : DSep h0 h E R)
    (hb : (Kind.bar, b) ∈ E) :
    DSep h0 (barCopy o tag h b).1 E (R ++ [(.bar, (barCopy o tag h b).2)]) := by
  have hg := good_reachR h E hd.srcAlloc
  have hs := bar_seq_in hg (in_reachR hd.srcAlloc hb)
  have s0 := readRel_spec (o := o) hg hs
  have d0 := dsep_step_src hd s0
  obtain ⟨s1, i1⟩ := barCopyFrom_spec (o := o) (good_fresh (readRel o h (h.bar b).seq)) tag (h.bar b).seq
    (h.bar b).num (h.bar b).den (h.bar b).key
  exact dsep_fresh d0 s1 (List.forall_mem_singleton.2 i1)

theorem barCopies_dsep (o : Orc) : ∀ (bs : List Nat) (tag : Nat) {h0 h : Heap} {E R : List Cell}, DSep h0 h E R →
    (∀ b ∈ bs, (Kind.bar, b) ∈ E) →
    DSep h0 (barCopies o tag h bs).1 E (R ++ cellsOf .bar (barCopies o tag h bs).2) := by
  intro bs
  induction bs with
  | nil => intro tag h0 h E R hd _; simpa [barCopies, cellsOf] using hd
  | cons b bs ih =>
    intro tag h0 h E R hd hb
    have d1 := barCopy_dsep o tag b hd (hb b (by simp))
    have d2 := ih (mix tag 3) d1 (fun b' hb' => hb b' (by simp [hb']))
    simpa [barCopies, cellsOf, List.append_assoc] using d2

theorem trkCopy_dsep (o : Orc) (tag : Nat) {h0 h : Heap} {E R : List Cell} (t : Nat) (hd : DSep h0 h E R)
    (ht : (Kind.trk, t) ∈ E) :
    DSep h0 (trkCopy o tag h t).1 E (R ++ [(.trk, (trkCopy o tag h t).2)]) := by
  have hg := good_reachR h E hd.srcAlloc
  have hbars : ∀ c ∈ cellsOf .bar (h.trk t).bars, c ∈ reachAll h E :=
    List.forall_mem_map.2 fun b hb => mem_of_in (trk_bars_in hg (in_reachR hd.srcAlloc ht) b hb)
  have d1 := barCopies_dsep o (h.trk t).bars tag (hd.add_roots hbars)
    (fun b hb => List.mem_append_right _ (List.mem_map.2 ⟨b, hb, rfl⟩))
  have d2 : DSep h0 (barCopies o tag h (h.trk t).bars).1 E (R ++ cellsOf .bar (barCopies o tag h (h.trk t).bars).2) :=
    d1.mono (fun c hc => List.mem_append_left _ hc) (fun _ hc => hc)
  exact dsep_build d2 (trkInit_spec (o := o) (good_reachR _ _ d2.resAlloc) (mix tag 4) _ (h.trk t).name
    fun b hb => in_reachR d2.resAlloc (List.mem_append_right _ (List.mem_map.2 ⟨b, hb, rfl⟩)))

theorem trkCopies_dsep (o : Orc) : ∀ (ts : List Nat) (tag : Nat) {h0 h : Heap} {E R : List Cell}, DSep h0 h E R →
    (∀ t ∈ ts, (Kind.trk, t) ∈ E) →
    DSep h0 (trkCopies o tag h ts).1 E (R ++ cellsOf .trk (trkCopies o tag h ts).2) := by
  intro ts
  induction ts with
  | nil => intro tag h0 h E R hd _; simpa [trkCopies, cellsOf] using hd
  | cons t ts ih =>
    intro tag h0 h E R hd ht
    have d1 := trkCopy_dsep o tag t hd (ht t (by simp))
    have d2 := ih (mix tag 5) d1 (fun t' ht' => ht t' (by simp [ht']))
    simpa [trkCopies, cellsOf, List.append_assoc] using d2

theorem cmpCopy_dsep (o : Orc) (tag : Nat) {h0 h : Heap} {E R : List Cell} (c : Nat) (hd : DSep h0 h E R)
    (hc : (Kind.cmp, c) ∈ E) :
    DSep h0 (cmpCopy o tag h c).1 E (R ++ [(.cmp, (cmpCopy o tag h c).2)]) := by
  have hg := good_reachR h E hd.srcAlloc
  have htrks : ∀ x ∈ cellsOf .trk (h.cmp c), x ∈ reachAll h E :=
    List.forall_mem_map.2 fun t ht => mem_of_in (cmp_trks_in hg (in_reachR hd.srcAlloc hc) t ht)
  have d1 := trkCopies_dsep o (h.cmp c) tag (hd.add_roots htrks)
    (fun t ht => List.mem_append_right _ (List.mem_map.2 ⟨t, ht, rfl⟩))
  have d2 : DSep h0 (trkCopies o tag h (h.cmp c)).1 E (R ++ cellsOf .trk (trkCopies o tag h (h.cmp c)).2) :=
    d1.mono (fun c hc => List.mem_append_left _ hc) (fun _ hc => hc)
  exact dsep_build d2 (newCmp_spec (good_reachR _ _ d2.resAlloc) (trkCopies o tag h (h.cmp c)).2
    fun t ht => in_reachR d2.resAlloc (List.mem_append_right _ (List.mem_map.2 ⟨t, ht, rfl⟩)))

theorem wrapCopies_dsep {h0 h h2 : Heap} {E R : List Cell} (hd : DSep h0 h E R) (s12 : Spec (ReachR h E) h h2) (ps : List Nat) :
    DSep h0 (wrapCopies h2 ps).1 E (R ++ cellsOf .seq (wrapCopies h2 ps).2) :=
  dsep_fresh (dsep_step_src hd s12) (wrapCopies_spec (good_fresh h2) ps).1 (List.forall_mem_map.2 (wrapCopies_spec (good_fresh h2) ps).2)

theorem pieces_of_dsep {h h' : Heap} {r : Cell} {k : Kind} {ps : List Nat} (hd : DSep h h' [r] (cellsOf k ps)) :
    ∀ p ∈ ps, ∀ c ∈ reach h' (k, p), ¬ h.alloc c ∧ h'.alloc c ∧ c ∉ reach h' r := by
  obtain ⟨_, h2, h3, h4⟩ := derive_of_dsep hd
  rw [reachAll_single] at h3
  intro p hp c hc
  have hc' := mem_reachAll.2 ⟨(k, p), List.mem_map.2 ⟨p, hp, rfl⟩, hc⟩
  exact ⟨h4 c hc', h2 c hc', h3 c hc'⟩

/-- `Sequence.split`: the read of the relative view and the cut are steps of the source side (the pieces share message
    objects with the source); the wrappers returned hold copies of the pieces -/
theorem split_dsep (o : Orc) (tag : Nat) {h0 h : Heap} {E R : List Cell} (s : Nat) (hd : DSep h0 h E R)
    (hs : (Kind.seq, s) ∈ E) :
    DSep h0 (split o tag h s).1 E (R ++ cellsOf .seq (split o tag h s).2) := by
  obtain ⟨s1, i1⟩ := getRel_spec (o := o) (good_reachR h E hd.srcAlloc) (in_reachR hd.srcAlloc hs)
  unfold split
  simp only
  split
  · simpa [cellsOf] using dsep_step_src hd s1
  · rename_i l hl
    exact wrapCopies_dsep hd (s1.trans (splitView_spec s1.good (o.splitPlan tag) (i1 l hl)).1) _

/-- the derivation routes of the property: copy at every level, `split`, bar splitting with either
    re-quantisation setting (and `Composition.from_sequences`, which is bar splitting plus constructors) -/
def isDerive : HOp → Bool
  | .msgCopy _ | .seqCopy _ | .barCopy _ _ | .trkCopy _ _ | .cmpCopy _ _ | .split _ _
  | .splitBars _ _ _ _ _ | .cmpFromSequences _ _ _ _ => true
  | _ => false

/-- every derivation route keeps what the caller held separated from what it returns, and what it returns is made of cells
    that did not exist: the plain copies and bar splitting write nothing that existed, the container copies and `split`
    first take a step of the source side -/
theorem step_dsep (o : Orc) (op : HOp) (h : Heap) (env : List Cell) (hd : isDerive op = true) (hall : AllocAll h env) :
    ∃ more, (step o op (h, env)).2 = env ++ more ∧ DSep h (step o op (h, env)).1 env more := by
  have d0 := dsep_start hall
  have hnone : ∃ more, env = env ++ more ∧ DSep h h env more := ⟨[], by simp, d0⟩
  cases op <;> simp only [isDerive, Bool.false_eq_true] at hd <;> dsimp only [step]
  case msgCopy i =>
    split
    · rename_i x _
      obtain ⟨s1, i1⟩ := msgCopy_spec (good_fresh h) x
      exact ⟨_, rfl, dsep_fresh d0 s1 (List.forall_mem_singleton.2 i1)⟩
    · exact hnone
  case seqCopy i =>
    split
    · rename_i x _
      obtain ⟨s1, i1⟩ := seqCopy_spec (good_fresh h) x
      exact ⟨_, rfl, dsep_fresh d0 s1 (List.forall_mem_singleton.2 i1)⟩
    · exact hnone
  case barCopy i tag =>
    split
    · rename_i x hx; exact ⟨_, rfl, barCopy_dsep o tag x d0 (look_mem hx)⟩
    · exact hnone
  case trkCopy i tag =>
    split
    · rename_i x hx; exact ⟨_, rfl, trkCopy_dsep o tag x d0 (look_mem hx)⟩
    · exact hnone
  case cmpCopy i tag =>
    split
    · rename_i x hx; exact ⟨_, rfl, cmpCopy_dsep o tag x d0 (look_mem hx)⟩
    · exact hnone
  case split i tag =>
    split
    · rename_i x hx; exact ⟨_, rfl, split_dsep o tag x d0 (look_mem hx)⟩
    · exact hnone
  case splitBars is mti qnl tag fuel =>
    split
    · rename_i ss _
      obtain ⟨s1, i1⟩ := splitBars_spec (o := o) (good_fresh h) tag qnl fuel ss mti
      exact ⟨_, rfl, dsep_fresh d0 s1 (List.forall_mem_map.2 (List.forall_mem_flatten.2 i1))⟩
    · exact hnone
  case cmpFromSequences is mti tag fuel =>
    split
    · rename_i ss _
      obtain ⟨s1, i1⟩ := cmpFromSequences_spec (o := o) (good_fresh h) tag fuel ss mti
      exact ⟨_, rfl, dsep_fresh d0 s1 (List.forall_mem_singleton.2 i1)⟩
    · exact hnone

end SCoda.C16c
