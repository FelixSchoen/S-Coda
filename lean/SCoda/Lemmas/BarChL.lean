/-
  Helper lemmas for the channel-parametrised bar constructor `mkBarCh` (Model/BarCh.lean): the instance 0 is `mkBar`,
  every instance is `mkBar` with the leading event moved to the channel; a relative view "in bar shape" (`BarShape`) is
  what the constructor establishes, is accepted again with the same events (`rebuild`, `shape_rebuild`), and is kept by the
  in-place edits `set_channel` / `transpose`.  What an accepted bar is (`mkBarCh_ok`) and the facts about its sequence `barSeqCh` are in Lemmas/Bar.lean.
-/
import SCoda.Model.BarCh
import SCoda.Lemmas.Bar
import SCoda.Props.C14
namespace SCoda.BarChL
open SCoda SCoda.BarL

theorem copyCh_zero (ppqn : Int) (b : Bar) : b.copyCh ppqn 0 = b.copy ppqn := rfl

theorem chanOf_zero : chanOf 0 = 0 := by decide +kernel

theorem mkBarCh_eq_map (ppqn : Int) (rel : List Msg) (n d key ch : Int) :
    mkBarCh ppqn rel n d key ch = (fun b => b.withSigCh ch) <$> mkBar ppqn rel n d key := by
  rw [mkBarCh_eq, ← mkBarCh_zero, mkBarCh_eq, mkBarCap_eq, mkBarCap_eq]
  split <;> rfl

theorem barSeqCh_zero (ppqn : Int) (rel : List Msg) (n d : Int) : barSeqCh 0 ppqn rel n d = barSeq ppqn rel n d := rfl

theorem setHeadCh_barSeq (ch ppqn : Int) (rel : List Msg) (n d : Int) :
    setHeadCh ch (barSeq ppqn rel n d) = barSeqCh ch ppqn rel n d := rfl

theorem chanOf_of_ne {c : Int} (h : c ≠ pyNone) : chanOf c = c := by simp [chanOf, h]

/-- `Message.__init__` never leaves a `None` channel -/
theorem chanOf_ne_none (c : Int) : chanOf c ≠ pyNone := by
  unfold chanOf
  split
  · decide
  · assumption

theorem sigChan_of_head {r : List Msg} {c n d t : Int} (h : r.head? = some (Msg.mkTimeSig c n d t)) : sigChan r = c := by
  cases r with
  | nil => cases h
  | cons m ms =>
    injection h with h
    subst h
    simp [sigChan, Msg.mkTimeSig]

/-- **the relative view of a bar is in bar shape** for the signature `n/d` (at `ppqn`): what `Bar.__init__` leaves when the
    signature is not (None, None) and the channel not `None` (`mkBarCh_shape`, hypotheses `hn`, `hc`) — the fixed points of the
    constructor's `normalise` / `pad` / signature handling. -/
structure BarShape (ppqn : Int) (r : List Msg) (n d : Int) : Prop where
  sig : (n, d) ≠ (pyNone, pyNone)
  head : ∃ c body, c ≠ pyNone ∧ r = Msg.mkTimeSig c n d pyNone :: body ∧ ∀ m ∈ body, m.ty ≠ .timeSignature
  nonneg : NonNegWaits r
  wf : WF r
  keys : ChainNe pyNone (ksVals r)
  dur : totalWait r = barCapacity ppqn n d

theorem barSeqCh_shape (ch ppqn : Int) (rel : List Msg) (n d : Int) (hn : (n, d) ≠ (pyNone, pyNone)) (hc : ch ≠ pyNone)
    (h : totalWait (normalise rel) ≤ barCapacity ppqn n d) : BarShape ppqn (barSeqCh ch ppqn rel n d) n d where
  sig := hn
  head := ⟨ch, _, hc, rfl, fun m hm => by simpa using (List.mem_filter.1 hm).2⟩
  nonneg := barSeqCh_nonneg ch ppqn rel n d
  wf := barSeqCh_wf ch ppqn rel n d
  keys := by
    rw [barSeqCh_ksVals, normalise_ksVals]
    exact chainNe_dedupD _ _
  dur := barSeqCh_dur ch ppqn rel n d h

theorem mkBarCh_shape {ppqn : Int} {rel : List Msg} {n d key ch : Int} {b : Bar} (hn : (n, d) ≠ (pyNone, pyNone))
    (hc : ch ≠ pyNone) (h : mkBarCh ppqn rel n d key ch = .ok b) : BarShape ppqn b.seq n d := by
  obtain ⟨h1, _, _, hb⟩ := mkBarCh_ok h
  subst hb
  exact barSeqCh_shape ch ppqn rel n d hn hc h1

/-- `normalise` leaves the events alone, nothing is padded, one signature is found.  (Stated on the fields of `BarShape` one by
    one: `BarShape.head` also asks `c ≠ None`, which is not needed here and which `C10Ch.bar_copy_ch` does not have.) -/
theorem rebuild {ppqn : Int} {r : List Msg} {n d : Int} (key c : Int) (body : List Msg)
    (hr : r = Msg.mkTimeSig c n d pyNone :: body) (hbody : ∀ m ∈ body, m.ty ≠ .timeSignature)
    (hsig : (n, d) ≠ (pyNone, pyNone)) (hnn : NonNegWaits r) (hwf : WF r) (hks : ChainNe pyNone (ksVals r))
    (hd : totalWait r = barCapacity ppqn n d) :
    mkBarCh ppqn r n d key c = .ok { seq := barSeqCh c ppqn r n d, num := n, den := d, key := key } ∧
      eventsRel (barSeqCh c ppqn r n d) = eventsRel r ∧ totalWait (barSeqCh c ppqn r n d) = totalWait r := by
  have htsb : tsVals body = [] := by
    unfold tsVals
    rw [List.filter_eq_nil_iff.2 (fun m hm => by simpa using hbody m hm)]
    rfl
  have hts : tsVals r = [(n, d)] := by
    rw [hr, tsVals_cons, htsb]
    simp [Msg.mkTimeSig]
  have hchain : ChainNe (pyNone, pyNone) [(n, d)] := ⟨fun e => hsig e.symm, trivial⟩
  have hdur : totalWait (normalise r) ≤ barCapacity ppqn n d := by
    rw [normalise_totalWait _ hnn, hd]; exact Int.le_refl _
  have hvals : tsVals (normalise r) = [(n, d)] := by rw [normalise_tsVals, hts, dedupD_of_chainNe _ _ hchain]
  have hev : eventsRel (normalise r) = eventsRel r := normalise_events_id r hnn hwf (hts ▸ hchain) hks
  refine ⟨mkBarCh_ok_of key c hdur (by rw [hvals]; simp) (by rw [hvals]; simp), ?_, ?_⟩
  · rw [barSeqCh_events, hev, hr]
    have h0 : eventsRel (Msg.mkTimeSig c n d pyNone :: body) = Msg.mkTimeSig c n d 0 :: eventsRelGo 0 body := rfl
    rw [h0, List.filter_cons, if_neg (by simp [Msg.mkTimeSig]),
      ← eventsRelGo_filter _ notTS_wait notTS_stampInv, List.filter_eq_self.2 (fun m hm => by simpa using hbody m hm)]
  · rw [barSeqCh_dur c ppqn r n d hdur, hd]

theorem shape_rebuild {ppqn : Int} {r : List Msg} {n d : Int} (key : Int) (hs : BarShape ppqn r n d) :
    ∃ c, c ≠ pyNone ∧ sigChan r = c ∧ r.head? = some (Msg.mkTimeSig c n d pyNone) ∧
      mkBarCh ppqn r n d key (chanOf (sigChan r)) = .ok { seq := barSeqCh c ppqn r n d, num := n, den := d, key := key } ∧
      eventsRel (barSeqCh c ppqn r n d) = eventsRel r ∧ totalWait (barSeqCh c ppqn r n d) = totalWait r ∧
      BarShape ppqn (barSeqCh c ppqn r n d) n d := by
  obtain ⟨c, body, hc, hr, hbody⟩ := hs.head
  have hh : r.head? = some (Msg.mkTimeSig c n d pyNone) := by rw [hr]; rfl
  obtain ⟨hmk, hev, hdur⟩ := rebuild key c body hr hbody hs.sig hs.nonneg hs.wf hs.keys hs.dur
  refine ⟨c, hc, sigChan_of_head hh, hh, by rw [sigChan_of_head hh, chanOf_of_ne hc]; exact hmk, hev, hdur, ?_⟩
  exact barSeqCh_shape c ppqn r n d hs.sig hc (by rw [normalise_totalWait _ hs.nonneg, hs.dur]; exact Int.le_refl _)

/-- the hypotheses on the edited view (`WF`, `ChainNe`) are the two things such an edit can break, by mapping two notes to one
    (channel, pitch) or two keys to one -/
theorem shape_map {ppqn : Int} {r : List Msg} {n d : Int} (f : Msg → Msg)
    (hty : ∀ m, (f m).ty = m.ty) (htm : ∀ m, (f m).time = m.time)
    (hsig : ∀ c, c ≠ pyNone → ∃ c', c' ≠ pyNone ∧ f (Msg.mkTimeSig c n d pyNone) = Msg.mkTimeSig c' n d pyNone)
    (hs : BarShape ppqn r n d) (hwf : WF (r.map f)) (hks : ChainNe pyNone (ksVals (r.map f))) :
    BarShape ppqn (r.map f) n d where
  sig := hs.sig
  head := by
    obtain ⟨c, body, hc, hr, hbody⟩ := hs.head
    obtain ⟨c', hc', hf⟩ := hsig c hc
    refine ⟨c', body.map f, hc', by rw [hr, List.map_cons, hf], ?_⟩
    intro m hm
    obtain ⟨m0, hm0, rfl⟩ := List.mem_map.1 hm
    rw [hty]; exact hbody m0 hm0
  nonneg := nonNegWaits_map f hty htm hs.nonneg
  wf := hwf
  keys := hks
  dur := by rw [totalWait_map f hty htm, hs.dur]

theorem ksVals_setChannel (c : Int) (l : List Msg) : ksVals (setChannel c l) = ksVals l := by
  induction l with
  | nil => rfl
  | cons m ms ih =>
    have : setChannel c (m :: ms) = { m with ch := c } :: setChannel c ms := rfl
    rw [this, ksVals_cons, ksVals_cons, ih]

/-- **`set_channel(c)` keeps a bar in bar shape** (and moves the signature event to channel `c`) as long as the notes of the
    bar still pair up per (channel, pitch) afterwards — it fails to when two channels hold overlapping notes of one pitch,
    which `set_channel` merges (`C10Ch.merged_channels_copy_differs`). -/
theorem shape_setChannel {ppqn : Int} {r : List Msg} {n d : Int} (c : Int) (hc : c ≠ pyNone) (hs : BarShape ppqn r n d)
    (hwf : WF (setChannel c r)) : BarShape ppqn (setChannel c r) n d :=
  shape_map (fun m => { m with ch := c }) (fun _ => rfl) (fun _ => rfl) (fun _ _ => ⟨c, hc, rfl⟩) hs hwf
    (by have := ksVals_setChannel c r; unfold setChannel at this; rw [this]; exact hs.keys)

/-- **`transpose(by)` without an octave wrap keeps a bar in bar shape** as long as the transposed notes still pair up and the
    transposed key signatures do not repeat (always so for the real `Key.transpose_key`, a bijection on keys; `tk` is a
    parameter here).  With an octave wrap `Sequence.transpose` normalises and re-quantises the sequence (sequence.py:281-283). -/
theorem shape_transposeRel {ppqn : Int} {r : List Msg} {n d : Int} (lo hi : Int) (tk : Int → Int) (by_ : Int)
    (hs : BarShape ppqn r n d) (hwf : WF (transposeRel lo hi tk by_ r).1)
    (hks : ChainNe pyNone (ksVals (transposeRel lo hi tk by_ r).1)) : BarShape ppqn (transposeRel lo hi tk by_ r).1 n d :=
  shape_map (fun m => (transposeMsg lo hi tk by_ m).1) (C14.transposeMsg_ty lo hi tk by_) (C14.transposeMsg_time lo hi tk by_)
    (fun c hc => ⟨c, hc, rfl⟩) hs hwf hks

end SCoda.BarChL
