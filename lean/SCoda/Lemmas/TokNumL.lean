/-
  Python's `int(a / b)` and `(a / b).is_integer()` on exact rationals (`pyTrueDiv`, `ratTrunc`, `ratIsInteger` of Model/TokLib.lean):
  truncated division, and division rounding down where the dividend is non-negative (the bar length at the default signature is such
  a dividend, `defaultBar_nonneg`).  The facts about `Rat` come from Lemmas/C11LNum.lean, which imports single modules of Mathlib:
  this is the one file through which the tokeniser tie depends on Mathlib.
-/
import SCoda.Model.TokLib
import SCoda.Lemmas.C11LNum
namespace SCoda.TokTieL
open SCoda SCoda.TokLib

theorem ratTrunc_div (a d : Int) (hd : d ≠ 0) : ratTrunc ((a : Rat) / (d : Rat)) = a.tdiv d := by
  have := C11L.pyint_trunc a d hd _ rfl
  simpa [PyNum.pyint, ratTrunc] using this

theorem pyTrueDiv_ok (a d : Int) (hd : d ≠ 0) : pyTrueDiv a d = .ok ((a : Rat) / (d : Rat)) := by
  simp [pyTrueDiv, hd]; rfl

theorem ratTrunc_capacity (a d : Int) (hd : d ≠ 0) (ha : 0 ≤ a) : ratTrunc ((a : Rat) / (d : Rat)) = a / d := by
  rw [ratTrunc_div a d hd, Int.tdiv_eq_ediv_of_nonneg ha]

theorem defaultBar_nonneg {p : Int} (hp : 0 ≤ p) : 0 ≤ p * 4 * Gen.defaultTimeSignatureNumerator :=
  Int.mul_nonneg (by omega) (by decide)

theorem scaled_eq (n D d : Int) : ((n : Int) : Rat) * ((D : Rat) / (d : Rat)) = ((n * D : Int) : Rat) / (d : Rat) := by
  push_cast; rw [mul_div_assoc]

theorem ratIsInteger_scaled (n D d : Int) (hd : d ≠ 0) :
    ratIsInteger (((n : Int) : Rat) * ((D : Rat) / (d : Rat))) = decide ((n * D) % d = 0) :=
  (congrArg ratIsInteger (scaled_eq n D d)).trans (C11L.isInteger_div (n * D) d hd)

theorem ratTrunc_scaled (n D d : Int) (hd : d ≠ 0) (hdv : (n * D) % d = 0) :
    ratTrunc (((n : Int) : Rat) * ((D : Rat) / (d : Rat))) = (n * D) / d := by
  rw [scaled_eq n D d, ratTrunc_div _ _ hd, Int.tdiv_eq_ediv_of_dvd (Int.dvd_of_emod_eq_zero hdv)]

end SCoda.TokTieL
