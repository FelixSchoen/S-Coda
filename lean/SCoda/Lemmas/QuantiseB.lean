/-
  Lemmas for `Props/C05b` (survival / removal of an isolated note under `quantise`).

  The note events of the key of the note are `A ++ (on, off) :: B`; the closed form `qKey` of the result for that key
  (`Lemmas/QuantiseK`) is followed through the three parts with time bounds.
-/
import SCoda.Props.C05
import SCoda.Lemmas.QuantiseK
namespace SCoda.QB
open SCoda SCoda.Q SCoda.C05

theorem foldlM'_cons_ok {α β} {f : β → α → Except Err β} {b b1 : β} {x : α} (xs : List α)
    (h : f b x = .ok b1) : foldlM' f b (x :: xs) = foldlM' f b1 xs := by
  simp only [foldlM', h]

theorem maxStep_pos {steps : List Int} (hs : StepsOk steps) : 0 < maxStep steps := by
  obtain ⟨hne, hpos⟩ := hs
  cases steps with
  | nil => exact absurd rfl hne
  | cons s ss =>
    have h1 := hpos s (by simp)
    have h2 := le_maxStep (steps := s :: ss) (s := s) (by simp)
    omega

theorem cand_bd {steps : List Int} (hs : StepsOk steps) {t p : Int} (hp : p ∈ possiblePositions steps t) :
    p ≤ t + maxStep steps ∧ t ≤ p + maxStep steps := by
  have h1 := (candidates_spec steps hs t p hp).2
  have h2 := maxStep_pos hs
  omega

section key
open NotesBL
variable {steps : List Int}

/-- the end of the last note that `qKey` has put out after the notes `A` -/
def qEnd (steps : List Int) : Option Int → List (Msg × Msg) → Option Int
  | b, [] => b
  | b, p :: ps => if bleB b (qOnT steps p) = true then qEnd steps (some (qOffT steps p)) ps else qEnd steps b ps

theorem qKey_append (A B : List (Msg × Msg)) : ∀ b,
    qKey steps b (A ++ B) = qKey steps b A ++ qKey steps (qEnd steps b A) B := by
  induction A with
  | nil => intro b; rfl
  | cons p A ih =>
    intro b
    rw [List.cons_append, qKey, qKey, qEnd]
    split
    · rw [ih, List.append_assoc]
    · exact ih b

theorem qT_spec (hne : steps ≠ []) (p : Msg × Msg) :
    qOnT steps p ∈ possiblePositions steps p.1.time ∧
    ((qOffT steps p = qOnT steps p ∧ ¬ ∃ c ∈ possiblePositions steps p.2.time, qOnT steps p < c) ∨
     (qOffT steps p ∈ possiblePositions steps p.2.time ∧ qOnT steps p < qOffT steps p)) := by
  obtain ⟨t, ht, htm, _⟩ := nearest_ok p.1.time _ (possiblePositions_ne_nil hne p.1.time)
  obtain ⟨u, hu, hum, _⟩ := nearest_ok p.2.time _ (validOf_ne_nil steps p.2 t)
  rw [show qOffT steps p = u by rw [qOffT, qOnT, nearD_of_ok ht, nearD_of_ok hu], show qOnT steps p = t from nearD_of_ok ht]
  exact ⟨htm, mem_validOf hum⟩

theorem qKey_near (hs : StepsOk steps) {k : Int × Int} (A : List (Msg × Msg)) (hg : ∀ p ∈ A, GoodPair k p) (b : Option Int) :
    ∀ y ∈ unpair (qKey steps b A), ∃ m ∈ unpair A, y.time ≤ m.time + maxStep steps ∧ m.time ≤ y.time + maxStep steps := by
  intro y hy
  obtain ⟨hq, _⟩ := qKey_spec hs.1 (a := unpair A) A
    (fun p hp => ⟨hg p hp, mem_unpair.2 ⟨p, hp, Or.inl rfl⟩, mem_unpair.2 ⟨p, hp, Or.inr rfl⟩⟩) b
  obtain ⟨q, hq0, e | e⟩ := mem_unpair.1 hy
  · obtain ⟨m, hm, _, hp⟩ := (hq q hq0).1.on
    exact ⟨m, hm, e ▸ cand_bd hs hp⟩
  · obtain ⟨m, hm, _, hp⟩ := (hq q hq0).1.off
    exact ⟨m, hm, e ▸ cand_bd hs hp⟩

theorem qEnd_cases (A : List (Msg × Msg)) : ∀ b, ∀ x ∈ qEnd steps b A, x ∈ b ∨ ∃ p ∈ A, x = qOffT steps p := by
  induction A with
  | nil => intro b x hx; exact Or.inl hx
  | cons p A ih =>
    intro b x hx
    have lift : (∃ q ∈ A, x = qOffT steps q) → ∃ q ∈ p :: A, x = qOffT steps q := fun ⟨q, hq, h⟩ => ⟨q, List.mem_cons_of_mem _ hq, h⟩
    rw [qEnd] at hx
    split at hx
    · exact Or.inr ((ih _ x hx).elim (fun h => ⟨p, List.mem_cons_self, (Option.mem_some_iff.1 h).symm⟩) lift)
    · exact (ih b x hx).imp id lift

/-- a list cut at the two events `on`, `off` of a note: before it the note events of its key are two largest steps away, between
    the two there is none -/
structure Around (steps : List Int) (pre mid post : List Msg) (on off : Msg) : Prop where
  wf : WF (pre ++ on :: (mid ++ off :: post))
  onTy : on.ty = .noteOn
  offTy : off.ty = .noteOff
  key : off.nkey = on.nkey
  before : ∀ m ∈ pre, m.nkey = on.nkey → IsNoteTy m → m.time + 2 * maxStep steps ≤ on.time
  between : ∀ m ∈ mid, ¬ (m.nkey = on.nkey ∧ IsNoteTy m)

theorem key_cut (hs : StepsOk steps) {pre mid post out : List Msg} {on off : Msg} (c : Around steps pre mid post on off)
    (h : quantise steps (pre ++ on :: (mid ++ off :: post)) = .ok out) :
    ∃ A B b, (∀ p ∈ B, GoodPair on.nkey p ∧ p.1 ∈ post ∧ p.2 ∈ post) ∧
      (∀ y ∈ unpair (qKey steps Option.none A), y.time + maxStep steps ≤ on.time) ∧ (∀ x ∈ b, x + maxStep steps ≤ on.time) ∧
      out.filter (isKN on.nkey) = unpair (qKey steps Option.none A) ++ unpair (qKey steps b ((on, off) :: B)) := by
  obtain ⟨hwf, hon, hoff, hkey, hpre, hmid⟩ := c
  have hm : mid.filter (isKN on.nkey) = [] := List.filter_eq_nil_iff.2 fun m hm e => hmid m hm (isKN_iff_kev.1 e)
  have hf : (pre ++ on :: (mid ++ off :: post)).filter (isKN on.nkey) =
      pre.filter (isKN on.nkey) ++ on :: off :: post.filter (isKN on.nkey) := by
    rw [List.filter_append, List.filter_cons_of_pos (isKN_true ⟨rfl, Or.inl hon⟩), List.filter_append, hm,
      List.filter_cons_of_pos (isKN_true ⟨hkey, Or.inr hoff⟩)]
    rfl
  have halt := (altFrom_filter_kn on.nkey _ false).2 (hwf on.nkey)
  rw [hf, altFrom_append_iff] at halt
  obtain ⟨b', hrun, halt⟩ := halt
  rw [altFrom_cons_on ⟨rfl, hon⟩, altFrom_cons_off ⟨hkey, hoff⟩] at halt
  obtain ⟨rfl, _, hpost⟩ := halt
  obtain ⟨A, hA, gA⟩ := key_struct on.nkey _ (fun x hx => (List.mem_filter.1 hx).2) ((altFrom_iff_run _ _ _).2 hrun)
  obtain ⟨B, hB, gB⟩ := key_struct on.nkey _ (fun x hx => (List.mem_filter.1 hx).2) hpost
  have hP : (pre ++ on :: (mid ++ off :: post)).filter (isKN on.nkey) = unpair (A ++ (on, off) :: B) := by
    rw [hf, unpair_append, unpair_cons, ← hA, ← hB]
  have hg : ∀ p ∈ A ++ (on, off) :: B, GoodPair on.nkey p := fun p hp => by
    rcases List.mem_append.1 hp with hp | hp
    · exact gA p hp
    · rcases List.mem_cons.1 hp with rfl | hp
      · exact ⟨hon, hoff, rfl, hkey⟩
      · exact gB p hp
  have hfar : ∀ m ∈ unpair A, m.time + 2 * maxStep steps ≤ on.time := fun m hm =>
    let h := List.mem_filter.1 (hA ▸ hm); hpre m h.1 (isKN_iff_kev.1 h.2).1 (isKN_iff_kev.1 h.2).2
  refine ⟨A, B, qEnd steps Option.none A, fun p hp => ⟨gB p hp, mem_of_unpair hB hp⟩, fun y hy => ?_, fun x hx => ?_,
    by rw [quantise_key hs.1 hwf h hP hg, qKey_append, unpair_append]⟩
  · obtain ⟨m, hm, h1, _⟩ := qKey_near hs A gA _ y hy
    have := hfar m hm
    omega
  · rcases qEnd_cases A _ x hx with h0 | ⟨p, hp, rfl⟩
    · cases h0
    · have h1 := hfar p.1 (mem_unpair.2 ⟨p, hp, Or.inl rfl⟩)
      have h2 := hfar p.2 (mem_unpair.2 ⟨p, hp, Or.inr rfl⟩)
      obtain ⟨ht, hu⟩ := qT_spec hs.1 p
      have := cand_bd hs ht
      rcases hu with ⟨e, _⟩ | ⟨hp', _⟩
      · omega
      · have := cand_bd hs hp'
        omega

theorem qKey_note (hs : StepsOk steps) {on off : Msg} {q : Int} {b : Option Int} (B : List (Msg × Msg))
    (hq : nearest on.time (possiblePositions steps on.time) = .ok q) (hb : ∀ x ∈ b, x + maxStep steps ≤ on.time) :
    qOnT steps (on, off) = q ∧ qKey steps b ((on, off) :: B) =
      (if qOffT steps (on, off) - q ≤ 0 then [] else [({ on with time := q }, { off with time := qOffT steps (on, off) })]) ++
        qKey steps (some (qOffT steps (on, off))) B := by
  have e : qOnT steps (on, off) = q := nearD_of_ok hq
  have hcb := cand_bd hs (nearest_mem hq)
  refine ⟨e, ?_⟩
  rw [qKey, e, if_pos]
  cases b with
  | none => rfl
  | some x => have := hb x rfl; exact decide_eq_true (by omega)

theorem core_survives (hs : StepsOk steps) {pre mid post out : List Msg} {on off : Msg}
    {q : Int} (c : Around steps pre mid post on off)
    (hq : nearest on.time (possiblePositions steps on.time) = .ok q)
    (hroom : ∃ p ∈ possiblePositions steps off.time, q < p)
    (h : quantise steps (pre ++ on :: (mid ++ off :: post)) = .ok out) :
    { on with time := q } ∈ out ∧ ∃ t, q < t ∧ { off with time := t } ∈ out := by
  obtain ⟨A, B, b, _, _, hb, hout⟩ := key_cut hs c h
  obtain ⟨e, hnote⟩ := qKey_note hs B hq hb
  have hlt : q < qOffT steps (on, off) := by
    rcases (qT_spec hs.1 (on, off)).2 with ⟨_, hno⟩ | ⟨_, hlt⟩
    · exact absurd (e ▸ hroom) hno
    · exact e ▸ hlt
  rw [hnote, if_neg (by omega), List.singleton_append, unpair_cons] at hout
  have hmem : ∀ x ∈ [{ on with time := q }, { off with time := qOffT steps (on, off) }], x ∈ out := fun x hx =>
    (List.mem_filter.1 (hout ▸ List.mem_append_right _ (List.mem_append_left _ hx))).1
  exact ⟨hmem _ (by simp), _, hlt, hmem _ (by simp)⟩

theorem core_dropped (hs : StepsOk steps) {pre mid post out : List Msg} {on off : Msg}
    {q : Int} (c : Around steps pre mid post on off)
    (hpost : ∀ m ∈ post, m.nkey = on.nkey → IsNoteTy m → off.time + 2 * maxStep steps ≤ m.time)
    (hq : nearest on.time (possiblePositions steps on.time) = .ok q)
    (hnoroom : ∀ p ∈ possiblePositions steps off.time, p ≤ q)
    (h : quantise steps (pre ++ on :: (mid ++ off :: post)) = .ok out) :
    ∀ m ∈ out, m.nkey = on.nkey → IsNoteTy m →
      m.time + maxStep steps ≤ on.time ∨ off.time + maxStep steps ≤ m.time := by
  obtain ⟨A, B, b, hB, hA, hb, hout⟩ := key_cut hs c h
  obtain ⟨e, hnote⟩ := qKey_note hs B hq hb
  have hz : qOffT steps (on, off) - q ≤ 0 := by
    rcases (qT_spec hs.1 (on, off)).2 with ⟨h1, _⟩ | ⟨hp, hlt⟩
    · rw [h1, e]; omega
    · have := hnoroom _ hp; rw [e] at hlt; omega
  rw [hnote, if_pos hz, List.nil_append] at hout
  intro m hm hmk hmn
  have : m ∈ out.filter (isKN on.nkey) := List.mem_filter.2 ⟨hm, isKN_true ⟨hmk, hmn⟩⟩
  rw [hout] at this
  rcases List.mem_append.1 this with hm | hm
  · exact Or.inl (hA m hm)
  · obtain ⟨m0, hm0, _, h2⟩ := qKey_near hs B (fun p hp => (hB p hp).1) _ m hm
    obtain ⟨p, hp, e | e⟩ := mem_unpair.1 hm0
    · have := hpost _ (hB p hp).2.1 (hB p hp).1.k1 (Or.inl (hB p hp).1.on)
      exact Or.inr (by rw [e] at h2; omega)
    · have := hpost _ (hB p hp).2.2 (hB p hp).1.k2 (Or.inr (hB p hp).1.off)
      exact Or.inr (by rw [e] at h2; omega)

end key

theorem altFrom_drop (k : Int × Int) (l1 l2 : List Msg) (b : Bool) (h : altFrom k b (l1 ++ l2)) : ∃ b', altFrom k b' l2 :=
  let ⟨b', _, h'⟩ := (altFrom_append_iff k l1 l2 b).1 h; ⟨b', h'⟩

theorem alt_no_on (k : Int × Int) (l1 l2 : List Msg) : altFrom k true (l1 ++ l2) →
    (∀ m ∈ l1, m.nkey = k → IsNoteTy m → m.ty = .noteOn) → ∀ m ∈ l1, ¬ (m.nkey = k ∧ IsNoteTy m) := by
  induction l1 with
  | nil => intro _ _ m hm; cases hm
  | cons x xs ih =>
    intro h hall m hm
    rw [List.cons_append] at h
    by_cases hon : x.nkey = k ∧ x.ty = .noteOn
    · rw [altFrom, if_pos hon] at h; cases h.1
    · by_cases hoff : x.nkey = k ∧ x.ty = .noteOff
      · have := hall x List.mem_cons_self hoff.1 (Or.inr hoff.2)
        rw [hoff.2] at this; cases this
      · rw [altFrom_cons_skip (not_kev_of hon hoff)] at h
        rcases List.mem_cons.1 hm with rfl | hm
        · rintro ⟨h1, h2 | h2⟩
          · exact hon ⟨h1, h2⟩
          · exact hoff ⟨h1, h2⟩
        · exact ih h (fun y hy => hall y (List.mem_cons_of_mem _ hy)) m hm

theorem split_note {S : Int} (hS : 0 < S) {pre post' : List Msg} {on off : Msg}
    (hsorted : TimeSorted (pre ++ on :: post')) (hwf : WF (pre ++ on :: post'))
    (hon : on.ty = .noteOn) (horder : on.time ≤ off.time)
    (far : ∀ m ∈ pre ++ on :: post', m ≠ on → m ≠ off → m.nkey = on.nkey →
      (m.ty = .noteOn ∨ m.ty = .noteOff) → m.time + 2 * S ≤ on.time ∨ off.time + 2 * S ≤ m.time)
    (h1 : on ∉ pre) (h2 : off ∉ pre) (h3 : off ∈ post') :
    ∃ mid post, post' = mid ++ off :: post ∧ off ∉ mid ∧
      (∀ m ∈ pre, m.nkey = on.nkey → IsNoteTy m → m.time + 2 * S ≤ on.time) ∧
      (∀ m ∈ mid, ¬ (m.nkey = on.nkey ∧ IsNoteTy m)) ∧
      (∀ m ∈ post, m ≠ on → m ≠ off → m.nkey = on.nkey → IsNoteTy m → off.time + 2 * S ≤ m.time) := by
  obtain ⟨mid, post, rfl, hmid⟩ := List.eq_append_cons_of_mem h3
  have hs1 := timeSorted_mid hsorted
  have hs2' := timeSorted_mid (l1 := pre ++ on :: mid) (l2 := post) (x := off) (by
    rw [List.append_assoc, List.cons_append]; exact hsorted)
  refine ⟨mid, post, rfl, hmid, ?_, ?_, ?_⟩
  · intro m hm hk hn
    have hne1 : m ≠ on := fun e => h1 (e ▸ hm)
    have hne2 : m ≠ off := fun e => h2 (e ▸ hm)
    rcases far m (List.mem_append_left _ hm) hne1 hne2 hk hn with h | h
    · exact h
    · have := hs1.1 m hm; omega
  · obtain ⟨b, hb⟩ := altFrom_drop on.nkey pre _ false (hwf on.nkey)
    rw [altFrom, if_pos ⟨rfl, hon⟩] at hb
    apply alt_no_on on.nkey mid (off :: post) hb.2
    intro m hm hk hn
    by_cases e : m = on
    · subst e; exact hon
    · have hne2 : m ≠ off := fun e => hmid (e ▸ hm)
      rcases far m (by simp [hm]) e hne2 hk hn with h | h
      · have := hs1.2 m (by simp [hm]); omega
      · have := hs2'.1 m (by simp [hm]); omega
  · intro m hm e1 e2 hk hn
    rcases far m (by simp [hm]) e1 e2 hk hn with h | h
    · have := hs2'.2 m hm; omega
    · exact h

end SCoda.QB
