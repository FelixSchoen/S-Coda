/-
  The bar lines of a result of `splitBars` (for `Props/Strong589`: audit item A6 / C09): the cumulative bar lengths are
  the bar starts, and these lie on the input-level grid.  `bars_lift`, `bars_lift_rev` lift a bar-by-bar fact about notes to
  the bars laid end to end; the statements of `Props/Strong589` go through the relation form `SB.trackRun_rel` instead.
-/
import SCoda.Lemmas.SplitBarsQ
import SCoda.Props.C09
import SCoda.Lemmas.BarGrid
namespace SCoda.Strong589LT
open SCoda SCoda.SplitL SCoda.SB SCoda.BarL SCoda.Strong589L SCoda.Strong589LB

theorem nkNotes_length_clock (k : Int × Int) (l : List Msg) : ∀ (c c' : Int) (o o' : Option Msg), o.isSome = o'.isSome →
    (nkNotes k (eventsRelGo c l) o).length = (nkNotes k (eventsRelGo c' l) o').length := by
  induction l with
  | nil => intro c c' o o' _; rfl
  | cons m ms ih =>
    intro c c' o o' ho
    by_cases hw : m.ty = .wait
    · rw [eventsRelGo_cons_wait c m ms hw, eventsRelGo_cons_wait c' m ms hw]; exact ih _ _ _ _ ho
    · rw [eventsRelGo_cons_nowait c m ms hw, eventsRelGo_cons_nowait c' m ms hw]
      change (nkNotes k (Strong589L.stamp c m :: _) o).length = (nkNotes k (Strong589L.stamp c' m :: _) o').length
      rcases kev_cases k m with h | h | h
      · rw [nkNotes_cons_on k (Strong589L.stamp c m) _ _ h, nkNotes_cons_on k (Strong589L.stamp c' m) _ _ h]; exact ih _ _ _ _ rfl
      · rw [nkNotes_cons_off k (Strong589L.stamp c m) _ _ h, nkNotes_cons_off k (Strong589L.stamp c' m) _ _ h]
        simp only [List.length_append]
        rw [ih c c' none none rfl]
        cases o <;> cases o' <;> simp at ho ⊢
      · rw [nkNotes_cons_skip k (Strong589L.stamp c m) _ _ h, nkNotes_cons_skip k (Strong589L.stamp c' m) _ _ h]; exact ih _ _ _ _ ho

theorem bars_lift (ppqn : Int) (values : List Int) (requant : Bool) (k : Int × Int) (Q : Note → Note → Prop)
    (H : ∀ (g : Sg) (f : List Msg) (b : Bar) (c : Int), BarStep ppqn values requant g f b → WF f → NonNegWaits f →
      ∀ n' ∈ nkNotes k (eventsRelGo c b.seq) none, ∃ n ∈ nkNotes k (eventsRelGo c f) none, Q n n') :
    ∀ (gs : List Sg) (firsts : List (List Msg)) (nb : List Bar) (a : Int), BarsOf ppqn values requant gs firsts nb →
      ∀ n' ∈ nkNotes k (eventsRelGo a (barsToSeq nb)) none,
        ∃ n ∈ nkNotes k (eventsRelGo a firsts.flatten) none, Q n n' :=
  fun gs firsts nb a hB =>
    bars_rel ppqn values requant k (fun X Y => ∀ n' ∈ X, ∃ n ∈ Y, Q n n') (fun _ => True) (by simp)
      (fun h1 h2 n' hn' => by
        rcases List.mem_append.1 hn' with hn' | hn'
        · exact (h1 n' hn').imp fun n h => ⟨List.mem_append_left _ h.1, h.2⟩
        · exact (h2 n' hn').imp fun n h => ⟨List.mem_append_right _ h.1, h.2⟩)
      (fun g f b c hs hfw hfn _ => H g f b c hs hfw hfn) gs firsts nb a hB (fun _ _ => trivial)

theorem bars_lift_rev (ppqn : Int) (values : List Int) (requant : Bool) (k : Int × Int) (P : Note → Prop)
    (H : ∀ (g : Sg) (f : List Msg) (b : Bar) (c : Int), BarStep ppqn values requant g f b → WF f → NonNegWaits f →
      ∀ n ∈ nkNotes k (eventsRelGo c f) none, P n → n ∈ nkNotes k (eventsRelGo c b.seq) none) :
    ∀ (gs : List Sg) (firsts : List (List Msg)) (nb : List Bar) (a : Int), BarsOf ppqn values requant gs firsts nb →
      ∀ n ∈ nkNotes k (eventsRelGo a firsts.flatten) none, P n →
        n ∈ nkNotes k (eventsRelGo a (barsToSeq nb)) none :=
  fun gs firsts nb a hB =>
    bars_rel ppqn values requant k (fun X Y => ∀ n ∈ Y, P n → n ∈ X) (fun _ => True) (by simp)
      (fun h1 h2 n hn hP => by
        rcases List.mem_append.1 hn with hn | hn
        · exact List.mem_append_left _ (h1 n hn hP)
        · exact List.mem_append_right _ (h2 n hn hP))
      (fun g f b c hs hfw hfn _ => H g f b c hs hfw hfn) gs firsts nb a hB (fun _ _ => trivial)

theorem mem_cumSums (ppqn : Int) (gs : List Sg) : ∀ (a x : Int),
    x ∈ C08.cumSums a (gs.map (sgLen ppqn)) ↔ ∃ k, k < gs.length ∧ x = a + psum ppqn gs (k + 1) := by
  induction gs with
  | nil => intro a x; simp [C08.cumSums]
  | cons g gs ih =>
    intro a x
    simp only [List.map_cons, C08.cumSums, List.mem_cons, ih]
    constructor
    · rintro (rfl | ⟨k, hk, rfl⟩)
      · exact ⟨0, by simp, by rw [psum_cons_succ, psum_zero]; omega⟩
      · exact ⟨k + 1, by simp; omega, by rw [psum_cons_succ]; omega⟩
    · rintro ⟨k, hk, rfl⟩
      cases k with
      | zero => left; rw [psum_cons_succ, psum_zero]; omega
      | succ k => right; exact ⟨k, by simpa using hk, by rw [psum_cons_succ]; omega⟩

theorem mem_cumSums_barStart (ppqn : Int) (bars : List Bar) (x : Int) :
    x ∈ C08.cumSums 0 (bars.map (fun b => barCapacity ppqn b.num b.den))
      ↔ ∃ k, k < bars.length ∧ x = C09.barStart ppqn bars (k + 1) := by
  have := mem_cumSums ppqn (bars.map (fun b => ((b.num, b.den, b.key) : Sg))) 0 x
  rw [List.map_map] at this
  simp only [List.length_map, Int.zero_add, ← C09.barStart_eq ppqn bars _ rfl] at this
  exact this

theorem barLines_onGrid (ppqn : Int) (values : List Int) (tracks : List (List Msg)) (metaIdx : Nat) (requant : Bool)
    (tb : List (List Bar)) (h : splitBars ppqn values tracks metaIdx requant = .ok tb)
    (metaTrack : List Msg) (hm : tracks[metaIdx]? = some metaTrack)
    (hnn : NonNegBars ppqn (sigsOf metaTrack)) (hd : DistinctTicks (sigsOf metaTrack))
    (hal : ∀ m ∈ sigsOf metaTrack, OnGrid ppqn (sigsOf metaTrack) m.time)
    (i : Nat) (bars : List Bar) (hb : tb[i]? = some bars) :
    ∀ x ∈ C08.cumSums 0 (bars.map (fun b => barCapacity ppqn b.num b.den)), OnGrid ppqn (sigsOf metaTrack) x := by
  obtain ⟨mT, r, hm', _, hall⟩ := splitBars_track ppqn values tracks metaIdx requant tb h
  rw [hm] at hm'
  cases hm'
  obtain ⟨_, _, _, _, hs⟩ := hall i bars hb
  have hlens : bars.map (fun b => barCapacity ppqn b.num b.den) = (sched ppqn metaTrack (r + 1)).map (sgLen ppqn) := by
    rw [← hs, List.map_map]; rfl
  intro x hx
  rw [hlens, mem_cumSums] at hx
  obtain ⟨k, hk, rfl⟩ := hx
  rw [sched_length] at hk
  refine ⟨k + 1, ?_⟩
  rw [← psum_grid ppqn metaTrack hnn hd hal (r + 1) (k + 1) (by omega), Int.zero_add]

end SCoda.Strong589LT
