/-
  `get_interleaved_message_pairings`: the index-array loop of the generated method against the model's `interleaveGo` (`gip_sat`),
  and the inputs on which the table has channels but no pairing (`OnlyOrphanOffs`, repair 1462441).
-/
import SCoda.Lemmas.AbsTie2LP
import SCoda.Lemmas.GluePair
namespace SCoda.AbsTie2L
open SCoda SCoda.Gen.Abs2 SCoda.AbsTie2


def HeadCh (d : Assoc Int (List Pairing)) : Prop := ∀ c ∈ d, ∀ p ∈ c.2, ∃ m, p.head? = some m ∧ m.ch = c.1

theorem headCh_set {d : Assoc Int (List Pairing)} (h : HeadCh d) (ch : Int) (v : List Pairing)
    (hv : ∀ p ∈ v, ∃ m, p.head? = some m ∧ m.ch = ch) : HeadCh (d.set ch v) := by
  intro c hc p hp
  rcases Q.mem_set hc with hc | rfl
  · exact h c hc p hp
  · exact hv p hp

theorem headCh_getD {d : Assoc Int (List Pairing)} (h : HeadCh d) (ch : Int) :
    ∀ p ∈ (d.get? ch).getD [], ∃ m, p.head? = some m ∧ m.ch = ch :=
  fun p hp => let ⟨v, hv, hpv⟩ := mem_row hp; h (ch, v) hv p hpv

theorem headCh_push {d : Assoc Int (List Pairing)} (h : HeadCh d) (m : Msg) :
    HeadCh (d.set m.ch ((d.get? m.ch).getD [] ++ [[m]])) := by
  apply headCh_set h
  intro p hp
  rcases List.mem_append.1 hp with hp | hp
  · exact headCh_getD h m.ch p hp
  · simp only [List.mem_singleton] at hp; subst hp; exact ⟨m, rfl, rfl⟩

theorem headCh_ext {d : Assoc Int (List Pairing)} (h : HeadCh d) (ch : Int) (i : Nat) (x : Msg) :
    HeadCh (d.set ch (modifyAt (· ++ [x]) i ((d.get? ch).getD []))) := by
  apply headCh_set h
  intro p hp
  rcases mem_modifyAt_get hp with hp | ⟨y, hy, rfl⟩
  · exact headCh_getD h ch p hp
  · obtain ⟨m, hm, hc⟩ := headCh_getD h ch y (List.mem_of_getElem? hy)
    refine ⟨m, ?_, hc⟩
    cases y with
    | nil => simp at hm
    | cons y0 ys => simpa using hm

theorem headCh_pairStep (types : List MType) (imp : Bool) {s : PairSt} (h : HeadCh s.pairs) (m : Msg) :
    HeadCh (pairStep types imp s m).pairs := by
  rw [PSt.pairStep_eq]
  exact PSt.step_pairs_ind HeadCh types imp m _ (PSt.ofModel s) m (fun P hP => headCh_set hP _ _ (by simp))
    (fun P hP => headCh_push hP m) (fun P i y _ hP => headCh_ext hP m.ch i y) h

theorem headCh_pairings (types : List MType) (std : Int) (imp : Bool) (a : List Msg) : HeadCh (pairings types std imp a) := by
  have h0 : HeadCh ((sortAbs a).foldl (pairStep types imp) {}).pairs :=
    foldl_inv (fun s : PairSt => HeadCh s.pairs) _ (fun _ m h => headCh_pairStep types imp h m) _ _ (by intro c hc; cases hc)
  intro c hc p hp
  simp only [pairings, pairingsSorted, List.mem_map] at hc
  obtain ⟨kv, hkv, rfl⟩ := hc
  simp only [List.mem_map] at hp
  obtain ⟨q, hq, rfl⟩ := hp
  rw [PairStep.closeUnclosed_head]
  exact h0 kv hkv q hq

theorem headCh_refs (h : Heap) (mp : MP) (types : List MType) (std : Int) (imp : Bool) (a : List Msg)
    (he : absP h mp = pairings types std imp a) :
    ∀ c ∈ mp, ∀ p ∈ c.2, ∃ r, p.head? = some r ∧ (hGet h r).ch = c.1 := by
  intro c hc p hp
  have hc' : (c.1, c.2.map (deref h)) ∈ pairings types std imp a := by
    rw [← he]; exact List.mem_map.2 ⟨c, hc, rfl⟩
  obtain ⟨m, hm, hch⟩ := headCh_pairings types std imp a _ hc' (deref h p) (List.mem_map.2 ⟨p, hp, rfl⟩)
  cases p with
  | nil => simp [deref] at hm
  | cons r rs =>
    simp only [deref, List.map_cons, List.head?_cons, Option.some.injEq] at hm
    exact ⟨r, rfl, by rw [hm]; exact hch⟩

def toInf : Option Int → IntInf
  | none => .inf
  | some v => .fin v

/-- (index, value) of the first minimal element; (0, inf) for the empty list -/
def firstMin : List IntInf → Nat × IntInf
  | [] => (0, .inf)
  | x :: xs => if IntInf.lt (firstMin xs).2 x then ((firstMin xs).1 + 1, (firstMin xs).2) else (0, x)

theorem foldl_min (l : List IntInf) : ∀ m, l.foldl (fun m y => if IntInf.lt y m then y else m) m
    = if IntInf.lt (firstMin l).2 m then (firstMin l).2 else m := by
  induction l with
  | nil => intro m; cases m <;> simp [firstMin, IntInf.lt]
  | cons y ys ih =>
    intro m
    simp only [List.foldl_cons, ih, firstMin]
    obtain ⟨k, r, hfm⟩ : ∃ k r, firstMin ys = (k, r) := ⟨_, _, rfl⟩
    simp only [hfm]
    cases m with
    | inf =>
      cases y with
      | inf => cases r <;> simp [IntInf.lt]
      | fin yv =>
        cases r with
        | inf => simp [IntInf.lt]
        | fin rv => by_cases h : rv < yv <;> simp [IntInf.lt, h]
    | fin mv =>
      cases y with
      | inf => cases r <;> simp [IntInf.lt]
      | fin yv =>
        cases r with
        | inf => by_cases h : yv < mv <;> simp [IntInf.lt, h]
        | fin rv =>
          by_cases h : yv < mv <;> by_cases h2 : rv < yv <;> by_cases h3 : rv < mv <;> simp [IntInf.lt, h, h2, h3] <;> omega

theorem pyMinInf_eq (l : List IntInf) (h : l ≠ []) : pyMinInf l = .ok (firstMin l).2 := by
  cases l with
  | nil => exact absurd rfl h
  | cons x xs =>
    simp only [pyMinInf, foldl_min, firstMin]
    split <;> rfl

theorem lt_irrefl_inf (a : IntInf) : IntInf.lt a a = false := by cases a <;> simp [IntInf.lt]

theorem pyIndexGo_firstMin : ∀ (l : List IntInf) (i : Int), l ≠ [] →
    pyIndexGo l (firstMin l).2 i = .ok (i + ((firstMin l).1 : Nat)) := by
  intro l
  induction l with
  | nil => intro i h; exact absurd rfl h
  | cons x xs ih =>
    intro i _
    simp only [firstMin]
    by_cases hlt : IntInf.lt (firstMin xs).2 x = true
    · simp only [hlt, if_true, pyIndexGo]
      have hne : ¬ x = (firstMin xs).2 := by
        intro e; rw [e, lt_irrefl_inf] at hlt; cases hlt
      have hxs : xs ≠ [] := by
        intro e; subst e; simp [firstMin, IntInf.lt] at hlt
      simp only [hne, if_false, ih (i + 1) hxs]
      congr 1
      omega
    · simp only [hlt, Bool.false_eq_true, if_false, pyIndexGo, if_true]
      simp
      rfl

theorem pyIndex_firstMin (l : List IntInf) (h : l ≠ []) : pyIndex l (firstMin l).2 = .ok (((firstMin l).1 : Nat) : Int) := by
  rw [pyIndex, pyIndexGo_firstMin l 0 h]; simp

theorem firstMin_get : ∀ (l : List IntInf), l ≠ [] → l[(firstMin l).1]? = some (firstMin l).2 := by
  intro l
  induction l with
  | nil => intro h; exact absurd rfl h
  | cons x xs ih =>
    intro _
    simp only [firstMin]
    by_cases hlt : IntInf.lt (firstMin xs).2 x = true
    · have hxs : xs ≠ [] := by
        intro e; subst e; simp [firstMin, IntInf.lt] at hlt
      simp only [hlt, if_true, List.getElem?_cons_succ]
      exact ih hxs
    · simp [hlt]

theorem firstMin_inf (l : List IntInf) (h : (firstMin l).2 = .inf) : ∀ x ∈ l, x = .inf := by
  induction l with
  | nil => intro x hx; simp at hx
  | cons y ys ih =>
    simp only [firstMin] at h
    by_cases hlt : IntInf.lt (firstMin ys).2 y = true
    · simp only [hlt, if_true] at h
      rw [h] at hlt
      cases y <;> simp [IntInf.lt] at hlt
    · simp only [hlt, Bool.false_eq_true, if_false] at h
      subst h
      have hr : (firstMin ys).2 = .inf := by
        cases hfm : (firstMin ys).2 with
        | inf => rfl
        | fin v => rw [hfm] at hlt; simp [IntInf.lt] at hlt
      intro x hx
      rcases List.mem_cons.1 hx with rfl | hx
      · rfl
      · exact ih hr x hx

theorem firstMin_all_inf (l : List IntInf) (h : ∀ x ∈ l, x = IntInf.inf) : firstMin l = (0, IntInf.inf) := by
  induction l with
  | nil => rfl
  | cons y ys ih =>
    have hy : y = IntInf.inf := h y (by simp)
    subst hy
    simp [firstMin, ih (fun x hx => h x (by simp [hx])), IntInf.lt]

def combineBest (best : Option (Nat × Int)) (i : Nat) (fm : Nat × IntInf) : Option (Nat × Int) :=
  match best, fm.2 with
  | none, .inf => none
  | none, .fin v => some (i + fm.1, v)
  | some b, .inf => some b
  | some b, .fin v => if v < b.2 then some (i + fm.1, v) else some b

theorem argMinFirst_eq : ∀ (ts : List (Option Int)) (i : Nat) (best : Option (Nat × Int)),
    argMinFirst ts i best = combineBest best i (firstMin (ts.map toInf)) := by
  intro ts
  induction ts with
  | nil => intro i best; cases best <;> simp [argMinFirst, combineBest, firstMin]
  | cons t ts ih =>
    intro i best
    simp only [argMinFirst, ih, List.map_cons, firstMin]
    obtain ⟨k, r, hfm⟩ : ∃ k r, firstMin (ts.map toInf) = (k, r) := ⟨_, _, rfl⟩
    simp only [hfm]
    cases t with
    | none =>
      cases best with
      | none => cases r <;> simp [combineBest, toInf, IntInf.lt] <;> omega
      | some b =>
        cases r with
        | inf => simp [combineBest, toInf, IntInf.lt]
        | fin v => by_cases h : v < b.2 <;> simp [combineBest, toInf, IntInf.lt, h] <;> omega
    | some u =>
      cases best with
      | none =>
        cases r with
        | inf => simp [combineBest, toInf, IntInf.lt]
        | fin v =>
          simp only [combineBest, toInf, IntInf.lt]
          by_cases h : v < u <;> simp [h] <;> omega
      | some b =>
        obtain ⟨bi, bv⟩ := b
        cases r with
        | inf =>
          simp only [combineBest, toInf, IntInf.lt]
          by_cases h : u < bv <;> simp [h]
        | fin v =>
          simp only [combineBest, toInf, IntInf.lt]
          by_cases h : u < bv <;> by_cases h2 : v < u <;> by_cases h3 : v < bv <;> simp [h, h2, h3] <;> omega

theorem pyGet_cons_zero {α : Type} (x : α) (xs : List α) : pyGet (x :: xs) 0 = .ok x := rfl


def rowAt (cp : List (Int × List (List Nat))) (i : Nat) : List (List Nat) := (cp.getD i (0, [])).2

def idAt (cp : List (Int × List (List Nat))) (i : Nat) : Int := (cp.getD i (0, [])).1

theorem rowAt_mem (cp : List (Int × List (List Nat))) (i : Nat) (p : List Nat) (hp : p ∈ rowAt cp i) :
    (idAt cp i, rowAt cp i) ∈ cp := by
  unfold rowAt at hp
  by_cases hi : i < cp.length
  · simp only [rowAt, idAt, List.getD, List.getElem?_eq_getElem hi, Option.getD_some]
    exact List.getElem_mem hi
  · simp [List.getD, List.getElem?_eq_none (by omega : cp.length ≤ i)] at hp

/-- time of the head message of the `k`-th pairing of a row (`inf` past the end) -/
def headT (h : Heap) (row : List (List Nat)) (k : Nat) : IntInf :=
  if k < row.length then .fin (hGet h ((row.getD k []).headD 0)).time else .inf

/-- the model's remaining channels at cursor `c` -/
def chansOf (h : Heap) (cp : List (Int × List (List Nat))) (c : Nat → Nat) : List (Int × List Pairing) :=
  (List.range cp.length).map (fun i => (idAt cp i, ((rowAt cp i).drop (c i)).map (deref h)))

theorem headTime_drop (h : Heap) (row : List (List Nat)) (k : Nat) (hne : ∀ p ∈ row, p ≠ []) :
    toInf (headTime ((row.drop k).map (deref h))) = headT h row k := by
  unfold headT
  by_cases hk : k < row.length
  · simp only [hk, if_true]
    have hd : row.drop k = row[k] :: row.drop (k + 1) := by
      rw [List.drop_eq_getElem_cons hk]
    have hne' := hne row[k] (List.getElem_mem hk)
    rw [hd]
    cases hp : row[k] with
    | nil => exact absurd hp hne'
    | cons r rs =>
      simp [headTime, deref, toInf, List.getD, List.getElem?_eq_getElem hk, hp]
  · simp only [hk, if_false]
    rw [List.drop_of_length_le (by omega)]
    rfl

/-- the `next times` array at cursor `c` -/
def nxtOf (h : Heap) (cp : List (Int × List (List Nat))) (c : Nat → Nat) : List IntInf :=
  (List.range cp.length).map (fun i => headT h (rowAt cp i) (c i))

theorem chans_times (h : Heap) (cp : List (Int × List (List Nat))) (c : Nat → Nat)
    (hne : ∀ i, ∀ p ∈ rowAt cp i, p ≠ []) :
    ((chansOf h cp c).map (fun x => headTime x.2)).map toInf = nxtOf h cp c := by
  simp only [chansOf, nxtOf, List.map_map]
  apply List.map_congr_left
  intro i _
  simp only [Function.comp]
  exact headTime_drop h (rowAt cp i) (c i) (hne i)

theorem interleaveGo_step (h : Heap) (cp : List (Int × List (List Nat))) (c : Nat → Nat)
    (hne : ∀ i, ∀ p ∈ rowAt cp i, p ≠ []) (m : Nat) (acc : List (Int × Pairing)) (idx : Nat) (v : Int)
    (hfm : firstMin (nxtOf h cp c) = (idx, .fin v)) :
    idx < cp.length ∧ c idx < (rowAt cp idx).length ∧
    interleaveGo (m + 1) (chansOf h cp c) acc
      = interleaveGo m (chansOf h cp (fun i => if i = idx then c idx + 1 else c i))
          ((idAt cp idx, deref h ((rowAt cp idx).getD (c idx) [])) :: acc) := by
  have hnil : nxtOf h cp c ≠ [] := by
    intro e; rw [e] at hfm; simp [firstMin] at hfm
  have hget := firstMin_get _ hnil
  rw [hfm] at hget
  simp only at hget
  have hidx : idx < cp.length := by
    rcases List.getElem?_eq_some_iff.1 hget with ⟨hh, _⟩
    simpa [nxtOf] using hh
  have hval : headT h (rowAt cp idx) (c idx) = .fin v := by
    simp only [nxtOf, List.getElem?_map, List.getElem?_range hidx, Option.map_some, Option.some.injEq] at hget
    exact hget
  have hc : c idx < (rowAt cp idx).length := by
    unfold headT at hval
    by_cases hk : c idx < (rowAt cp idx).length
    · exact hk
    · simp [hk] at hval
  refine ⟨hidx, hc, ?_⟩
  have harg : argMinFirst ((chansOf h cp c).map (fun x => headTime x.2)) 0 none = some (idx, v) := by
    rw [argMinFirst_eq, chans_times h cp c hne, hfm]
    simp [combineBest]
  have hch : (chansOf h cp c)[idx]? = some (idAt cp idx,
      deref h ((rowAt cp idx).getD (c idx) []) :: ((rowAt cp idx).drop (c idx + 1)).map (deref h)) := by
    simp only [chansOf, List.getElem?_map, List.getElem?_range hidx, Option.map_some, Option.some.injEq, Prod.mk.injEq, true_and]
    rw [List.drop_eq_getElem_cons hc]
    simp only [List.map_cons, List.getD, List.getElem?_eq_getElem hc, Option.getD_some]
  rw [interleaveGo, harg]
  simp only [hch]
  congr 1
  apply List.ext_getElem?
  intro j
  rw [GluePair.getElem?_modifyAt]
  simp only [chansOf, List.getElem?_map]
  by_cases hj : j < cp.length
  · simp only [List.getElem?_range hj, Option.map_some]
    by_cases hij : idx = j
    · subst hij; simp
    · have : ¬ j = idx := fun e => hij e.symm
      simp [hij, this]
  · have : (List.range cp.length)[j]? = none := by simp; omega
    simp [this]

theorem sum_sub_update (l c : Nat → Nat) (idx : Nat) (hc : c idx < l idx) : ∀ n, idx < n →
    ((List.range n).map (fun i => l i - (if i = idx then c idx + 1 else c i))).sum + 1 = ((List.range n).map (fun i => l i - c i)).sum := by
  intro n
  induction n with
  | zero => intro h; omega
  | succ n ih =>
    intro h
    simp only [List.range_succ, List.map_append, List.map_cons, List.map_nil, List.sum_append, List.sum_cons, List.sum_nil]
    by_cases hn : idx = n
    · subst hn
      have : ((List.range idx).map (fun i => l i - (if i = idx then c idx + 1 else c i))) = (List.range idx).map (fun i => l i - c i) := by
        apply List.map_congr_left
        intro i hi
        have : i ≠ idx := by simp at hi; omega
        simp [this]
      rw [this]
      simp only [if_true]
      omega
    · have := ih (by omega)
      have hne : ¬ n = idx := fun e => hn e.symm
      simp only [hne, if_false]
      omega

theorem sum_sub_zero (l c : Nat → Nat) : ∀ n, ((List.range n).map (fun i => l i - c i)).sum = 0 → ∀ i, i < n → l i - c i = 0 := by
  intro n
  induction n with
  | zero => intro _ i hi; omega
  | succ n ih =>
    intro hs i hi
    simp only [List.range_succ, List.map_append, List.map_cons, List.map_nil, List.sum_append, List.sum_cons, List.sum_nil] at hs
    by_cases hn : i = n
    · subst hn; omega
    · exact ih (by omega) i (by omega)

theorem sum_sub_pos (l c : Nat → Nat) : ∀ n, 0 < ((List.range n).map (fun i => l i - c i)).sum → ∃ i, i < n ∧ c i < l i := by
  intro n
  induction n with
  | zero => intro h; simp at h
  | succ n ih =>
    intro hs
    simp only [List.range_succ, List.map_append, List.map_cons, List.map_nil, List.sum_append, List.sum_cons, List.sum_nil] at hs
    by_cases hn : 0 < l n - c n
    · exact ⟨n, by omega, by omega⟩
    · obtain ⟨i, hi, hc⟩ := ih (by omega)
      exact ⟨i, by omega, hc⟩

theorem set_range_map {β : Type} (g : Nat → β) (n idx : Nat) (v : β) :
    ((List.range n).map g).set idx v = (List.range n).map (fun i => if i = idx then v else g i) := by
  apply List.ext_getElem?
  intro j
  rw [List.getElem?_set]
  by_cases hj : j < n
  · simp only [List.getElem?_map, List.getElem?_range hj, Option.map_some, List.length_map, List.length_range]
    by_cases hij : idx = j
    · subst hij; simp [hj]
    · have : ¬ j = idx := fun e => hij e.symm
      simp [hij, this]
  · have hnone : (List.range n)[j]? = none := by simp; omega
    simp only [List.getElem?_map, hnone, Option.map_none, List.length_map, List.length_range]
    split
    · split
      · omega
      · rfl
    · rfl

theorem pySum_cast (g : Nat → Nat) (n : Nat) : pySum ((List.range n).map (fun i => ((g i : Nat) : Int))) = (((List.range n).map g).sum : Nat) := by
  unfold pySum
  have : ∀ (l : List Nat) (a : Int), (l.map (fun i => ((g i : Nat) : Int))).foldl (· + ·) a = a + ((l.map g).sum : Nat) := by
    intro l
    induction l with
    | nil => intro a; simp
    | cons x xs ih => intro a; simp only [List.map_cons, List.foldl_cons, ih, List.sum_cons]; push_cast; omega
  rw [this]; simp

/-- `has_next` starts as `any(cur[i] < max[i] …)` (repair 1462441; with `len(channel_pairings_list) > 0` the code raised IndexError when
    there were channels but no pairing), so the equality below holds for all inputs. -/
theorem gip_sat (h0 : Heap) (refs : List Nat) (types : List MType) (std : Int) (impute : Bool) (hrefs : RefsOk h0 refs) (hok : HeapChOk h0) :
    Sat (getInterleavedMessagePairings h0 refs (some types) std impute) (fun r =>
      r.2.1 = sortRefs h0 refs ∧ h0 <+: r.1 ∧ HeapChOk r.1 ∧ ReadsI r.1 r.2.2 (interleaved types std impute (deref h0 refs))) := by
  unfold getInterleavedMessagePairings
  refine Sat.bind ((gmp_sat h0 refs types std impute hrefs hok).mono ?_)
  rintro ⟨h, S', cp⟩ ⟨hS', hext, hhok, hhrefs, habs, _⟩
  simp only at hS' hext hhok hhrefs habs ⊢
  subst hS'
  have hhead := headCh_refs h cp types std impute _ habs
  have hrowrefs : ∀ i, ∀ p ∈ rowAt cp i, ∀ r ∈ p, r < h.length :=
    fun i p hp r hr => hhrefs _ (rowAt_mem cp i p hp) p hp r hr
  have hne : ∀ i, ∀ p ∈ rowAt cp i, p ≠ [] := by
    intro i p hp e
    obtain ⟨r, hr, _⟩ := hhead _ (rowAt_mem cp i p hp) p hp
    subst e; simp at hr
  have hmax : ∀ i, i < cp.length → (do let c ← pyGet cp (i : Int); pure ((c.2.length : Nat) : Int) : Except PyErr Int)
      = .ok (((rowAt cp i).length : Nat) : Int) := by
    intro i hi; rw [pyGet_getD cp i (0, []) hi]; rfl
  have hids : ∀ i, i < cp.length → (do let c ← pyGet cp (i : Int); pure c.1 : Except PyErr Int) = .ok (idAt cp i) := by
    intro i hi; rw [pyGet_getD cp i (0, []) hi]; rfl
  rw [mapM_pyRange _ _ cp.length hmax]
  try simp only [ok_bind]
  have hcur0 : List.map (fun _ => (0 : Int)) (pyRange 0 (cp.length : Int)) = (List.range cp.length).map (fun i => (((fun _ => 0) i : Nat) : Int)) := by
    simp [pyRange_zero]
  rw [hcur0]
  have hnxt : ∀ (c : Nat → Nat) i, i < cp.length →
      (do let a ← pyGet ((List.range cp.length).map (fun i => ((c i : Nat) : Int))) (i : Int)
          let b ← pyGet ((List.range cp.length).map (fun i => (((rowAt cp i).length : Nat) : Int))) (i : Int)
          if decide (a < b) = true then do
              let x ← pyGet cp (i : Int)
              let y ← pyGet ((List.range cp.length).map (fun i => ((c i : Nat) : Int))) (i : Int)
              let p ← pyGet x.2 y
              let r ← pyGet p 0
              pure (IntInf.fin (hGet h r).time)
            else pure IntInf.inf : Except PyErr IntInf) = .ok (headT h (rowAt cp i) (c i)) := by
    intro c i hi
    rw [pyGet_range_map _ _ _ hi, pyGet_range_map _ _ _ hi]
    simp only [ok_bind, headT]
    by_cases hc : c i < (rowAt cp i).length
    · have hd : decide (((c i : Nat) : Int) < (((rowAt cp i).length : Nat) : Int)) = true := by simpa using hc
      simp only [hd, if_true, hc, pyGet_getD cp i (0, []) hi, ok_bind]
      have : (cp.getD i (0, [])).2 = rowAt cp i := rfl
      rw [this, pyGet_getD _ _ [] hc]
      try simp only [ok_bind]
      have hgd : (rowAt cp i).getD (c i) [] = (rowAt cp i)[c i] := by simp [List.getD, hc]
      have hp := hne i ((rowAt cp i).getD (c i) []) (by rw [hgd]; exact List.getElem_mem hc)
      cases hq : (rowAt cp i).getD (c i) [] with
      | nil => exact absurd hq hp
      | cons r rs => rfl
    · have hd : decide (((c i : Nat) : Int) < (((rowAt cp i).length : Nat) : Int)) = false := by simpa using hc
      simp only [hd, Bool.false_eq_true, if_false, hc]
      rfl
  rw [mapM_pyRange _ _ cp.length (hnxt (fun _ => 0))]
  rw [mapM_pyRange _ _ cp.length hids]
  try simp only [ok_bind]
  -- has_next = any(channel_cur_index[i] < channel_max_index[i] for i in range(len(channel_pairings_list)))
  have hany0 : ∀ i, i < cp.length →
      (do let a ← pyGet ((List.range cp.length).map (fun i => (((fun _ => 0) i : Nat) : Int))) (i : Int)
          let b ← pyGet ((List.range cp.length).map (fun i => (((rowAt cp i).length : Nat) : Int))) (i : Int)
          pure (decide (a < b)) : Except PyErr Bool) = .ok (decide ((fun _ => 0) i < (rowAt cp i).length)) := by
    intro i hi
    rw [pyGet_range_map _ _ _ hi, pyGet_range_map _ _ _ hi]
    simp only [ok_bind]
    congr 1
    simp
  rw [anyM_pyRange _ _ cp.length hany0]
  try simp only [ok_bind]
  have hfuel : (pySum ((List.range cp.length).map (fun i => (((rowAt cp i).length : Nat) : Int))) + 1).toNat
      = ((List.range cp.length).map (fun i => (rowAt cp i).length)).sum + 1 := by
    rw [pySum_cast]; omega
  rw [hfuel]
  have htot : ((List.range cp.length).map (fun i => (rowAt cp i).length)).sum = (cp.map (fun c => c.2.length)).sum := by
    congr 1
    apply List.ext_getElem
    · simp
    · intro i h1 h2
      simp only [List.getElem_map, List.getElem_range, rowAt, List.getD]
      simp only [List.length_map, List.length_range] at h1
      simp [List.getElem?_eq_getElem h1]
  have hcp0 : chansOf h cp (fun _ => 0) = absP h cp := by
    apply List.ext_getElem
    · simp [chansOf, absP]
    · intro i h1 h2
      simp only [chansOf, List.length_map, List.length_range] at h1
      simp [chansOf, absP, idAt, rowAt, List.getD, List.getElem?_eq_getElem h1]
  -- The `while` loop: its three index arrays are all read off ONE cursor function `c` (channel `i` has handed out its first `c i`
  -- pairings): the indices are `range.map c`, the next times `nxtOf h cp c`, `has_next` says some cursor is short of its row.  The measure is
  -- what is left, `Σ (len i − c i)`; one round advances the cursor of the first channel with the least next time: `interleaveGo_step`.
  refine Sat.bind ((Sat.fuel _
    (fun (b : List (Int × List Nat) × List Int × List IntInf × Bool) (m : Nat) => ∃ c : Nat → Nat,
      b.2.1 = (List.range cp.length).map (fun i => ((c i : Nat) : Int)) ∧ b.2.2.1 = nxtOf h cp c ∧
      b.2.2.2 = (List.range cp.length).any (fun i => decide (c i < (rowAt cp i).length)) ∧
      m = ((List.range cp.length).map (fun i => (rowAt cp i).length - c i)).sum ∧
      interleaveGo m (chansOf h cp c) ((b.1.map (fun x => (x.1, deref h x.2))).reverse)
        = interleaved types std impute (deref h0 refs) ∧ (∀ x ∈ b.1, ∀ r ∈ x.2, r < h.length))
    (fun b => b.2.2.2 = false ∧ ReadsI h b.1 (interleaved types std impute (deref h0 refs)))
    ?hstep ?hzero (((List.range cp.length).map (fun i => (rowAt cp i).length)).sum) _ _ (Nat.lt_succ_self _) ?hinit).mono ?hpost)
  case hpost =>
    rintro ⟨out, cur, nxt, hasNext⟩ ⟨hf, hr⟩
    simp only at hf hr
    subst hf
    exact ⟨rfl, hext, hhok, hr⟩
  case hinit =>
    refine ⟨fun _ => 0, rfl, rfl, ?_, by simp, ?_, by simp⟩
    ·
      simp
    · simp only [List.map_nil, List.reverse_nil, interleaved, pairings] at *
      rw [hcp0, habs]
      congr 1
      rw [htot, ← habs]
      simp only [absP, List.map_map]
      congr 1
      apply List.map_congr_left
      intro c _
      simp
  case hzero =>
    rintro ⟨out, cur, nxt, hasNext⟩ ⟨c, hcur, hnx, hhas, hm, hmodel, houtrefs⟩
    simp only at hcur hnx hhas hmodel houtrefs
    have hall : ∀ i, i < cp.length → ¬ c i < (rowAt cp i).length := by
      intro i hi
      have := sum_sub_zero _ _ _ hm.symm i hi
      omega
    have hfalse : hasNext = false := by
      rw [hhas, List.any_eq_false]
      intro i hi
      simpa using hall i (by simpa using hi)
    subst hfalse
    refine ⟨_, rfl, rfl, houtrefs, ?_⟩
    rw [← hmodel]
    simp [interleaveGo]
  case hstep =>
    rintro ⟨out, cur, nxt, hasNext⟩ m ⟨c, hcur, hnx, hhas, hm, hmodel, houtrefs⟩
    simp only at hcur hnx hhas hmodel houtrefs
    subst hcur hnx
    obtain ⟨i0, hi0, hc0⟩ := sum_sub_pos _ _ _ (by rw [← hm]; omega)
    have htrue : hasNext = true := by
      rw [hhas, List.any_eq_true]; exact ⟨i0, by simpa using hi0, by simpa using hc0⟩
    subst htrue
    have hn0 : cp.length ≠ 0 := by omega
    have htvt : ∀ i, i < cp.length →
        (do let a ← pyGet ((List.range cp.length).map (fun i => ((c i : Nat) : Int))) (i : Int)
            let b ← pyGet ((List.range cp.length).map (fun i => (((rowAt cp i).length : Nat) : Int))) (i : Int)
            if decide (a < b) = true then pyGet (nxtOf h cp c) (i : Int) else pure IntInf.inf : Except PyErr IntInf)
          = .ok (headT h (rowAt cp i) (c i)) := by
      intro i hi
      rw [pyGet_range_map _ _ _ hi, pyGet_range_map _ _ _ hi]
      simp only [ok_bind]
      by_cases hc : c i < (rowAt cp i).length
      · have hd : decide (((c i : Nat) : Int) < (((rowAt cp i).length : Nat) : Int)) = true := by simpa using hc
        simp only [hd, if_true, nxtOf, pyGet_range_map _ _ _ hi]
      · have hd : decide (((c i : Nat) : Int) < (((rowAt cp i).length : Nat) : Int)) = false := by simpa using hc
        simp only [hd, Bool.false_eq_true, if_false, headT, hc]
        rfl
    have hnz : nxtOf h cp c ≠ [] := by
      intro e; have := congrArg List.length e; simp only [nxtOf, List.length_map, List.length_range, List.length_nil] at this; exact hn0 this
    obtain ⟨idx, v, hfm⟩ : ∃ idx v, firstMin (nxtOf h cp c) = (idx, IntInf.fin v) := by
      cases hv : (firstMin (nxtOf h cp c)).2 with
      | fin v => exact ⟨(firstMin (nxtOf h cp c)).1, v, by rw [← hv]⟩
      | inf =>
        exfalso
        have := firstMin_inf _ hv (headT h (rowAt cp i0) (c i0)) (by
          simp only [nxtOf, List.mem_map, List.mem_range]; exact ⟨i0, hi0, rfl⟩)
        simp [headT, hc0] at this
    obtain ⟨hidx, hcidx, hgo⟩ := interleaveGo_step h cp c hne m ((out.map (fun x => (x.1, deref h x.2))).reverse) idx v hfm
    have hmin := pyMinInf_eq _ hnz
    have hind := pyIndex_firstMin _ hnz
    rw [hfm] at hmin hind
    simp only at hmin hind
    simp only [Bool.not_true, Bool.false_eq_true, if_false, List.length_map, List.length_range]
    rw [mapM_pyRange _ _ cp.length htvt]
    simp only [ok_bind]
    rw [show (List.range cp.length).map (fun i => headT h (rowAt cp i) (c i)) = nxtOf h cp c from rfl, hmin]
    simp only [ok_bind]
    rw [hind]
    simp only [ok_bind]
    have hrow : (cp.getD idx (0, [])).2 = rowAt cp idx := rfl
    have hgd : (rowAt cp idx).getD (c idx) [] = (rowAt cp idx)[c idx] := by simp [List.getD, hcidx]
    have hpm : (rowAt cp idx)[c idx] ∈ rowAt cp idx := List.getElem_mem hcidx
    obtain ⟨r0, hr0, hch0⟩ : ∃ r, ((rowAt cp idx).getD (c idx) []).head? = some r ∧ (hGet h r).ch = idAt cp idx := by
      rw [hgd]
      exact hhead _ (rowAt_mem cp idx _ hpm) _ hpm
    have hp0 : pyGet ((rowAt cp idx).getD (c idx) []) 0 = .ok r0 := by
      cases hq : (rowAt cp idx).getD (c idx) [] with
      | nil => rw [hq] at hr0; simp at hr0
      | cons r rs => rw [hq] at hr0; simp at hr0; subst hr0; rfl
    have hcur' : ((List.range cp.length).map (fun i => ((c i : Nat) : Int))).set idx (((c idx : Nat) : Int) + 1)
        = (List.range cp.length).map (fun i => (((if i = idx then c idx + 1 else c i) : Nat) : Int)) := by
      rw [set_range_map]
      apply List.map_congr_left
      intro i _
      split <;> simp
    rw [pyGet_range_map _ _ _ hidx, pyGet_getD cp idx (0, []) hidx, pyGet_range_map _ _ _ hidx]
    simp only [ok_bind, hrow]
    rw [pyGet_getD _ _ [] hcidx, pySet_nat _ _ _ (by simpa using hidx), hcur']
    simp only [ok_bind]
    rw [mapM_pyRange _ _ cp.length (hnxt (fun i => if i = idx then c idx + 1 else c i))]
    have hany : ∀ i, i < cp.length →
        (do let a ← pyGet ((List.range cp.length).map (fun i => (((if i = idx then c idx + 1 else c i) : Nat) : Int))) (i : Int)
            let x ← pyGet cp (i : Int)
            pure (decide (a < ((x.2.length : Nat) : Int))) : Except PyErr Bool)
          = .ok (decide ((if i = idx then c idx + 1 else c i) < (rowAt cp i).length)) := by
      intro i hi
      rw [pyGet_range_map _ _ _ hi, pyGet_getD cp i (0, []) hi]
      simp only [ok_bind]
      have : (cp.getD i (0, [])).2 = rowAt cp i := rfl
      rw [this]
      congr 1
      simp
    rw [anyM_pyRange _ _ cp.length hany]
    simp only [ok_bind, hp0, hch0, beq_self_eq_true, Bool.not_true, Bool.false_eq_true, if_false]
    refine ⟨_, rfl, fun i => if i = idx then c idx + 1 else c i, rfl, rfl, rfl, ?_, ?_, ?_⟩
    · have := sum_sub_update (fun i => (rowAt cp i).length) c idx hcidx cp.length hidx
      simp only at this ⊢
      omega
    · simp only [List.map_append, List.map_cons, List.map_nil, List.reverse_append, List.reverse_cons, List.reverse_nil,
        List.nil_append, List.cons_append]
      rw [← hmodel, hgo]
    · intro x hx r hr
      simp only at hx
      rcases List.mem_append.1 hx with hx | hx
      · exact houtrefs x hx r hr
      · simp only [List.mem_singleton] at hx
        subst hx
        simp only at hr
        exact hrowrefs idx _ (by rw [hgd]; exact hpm) r hr

/-- `message_types=None` is passed on to `get_message_pairings` -/
theorem gip_getD (h0 : Heap) (refs : List Nat) (types : Option (List MType)) (std : Int) (impute : Bool) :
    getInterleavedMessagePairings h0 refs types std impute
      = getInterleavedMessagePairings h0 refs (some (types.getD notePairTypes)) std impute := by
  unfold getInterleavedMessagePairings
  exact congrArg (· >>= _) (gmp_getD h0 refs types std impute)

def sumLen (d : Assoc Int (List Pairing)) : Nat := (d.map (fun c => c.2.length)).sum

theorem sumLen_set (d : Assoc Int (List Pairing)) (k : Int) (v : List Pairing) :
    sumLen (d.set k v) + ((d.get? k).getD []).length = sumLen d + v.length := by
  induction d with
  | nil => simp [sumLen, Assoc.set, Assoc.get?]
  | cons a rest ih =>
    obtain ⟨k0, w⟩ := a
    by_cases h : k0 = k
    · simp [sumLen, Assoc.set, Assoc.get?, h]; omega
    · simp only [sumLen, Assoc.set, Assoc.get?, h, if_false, List.map_cons, List.sum_cons] at ih ⊢
      omega

theorem sd_facts (s : PairSt) (ch : Int) :
    (PairStep.setDefault s ch).pairs ≠ [] ∧ sumLen (PairStep.setDefault s ch).pairs = sumLen s.pairs := by
  unfold PairStep.setDefault
  by_cases hP : s.pairs.contains ch = true
  · simp only [hP, if_true, and_true]
    intro e; rw [e] at hP; simp [Assoc.contains, Assoc.get?] at hP
  · have hg : s.pairs.get? ch = none := by
      rw [Q.contains_eq] at hP; cases h : s.pairs.get? ch <;> simp [h] at hP ⊢
    simp only [hP, Bool.false_eq_true, if_false]
    refine ⟨?_, ?_⟩
    · cases s.pairs with
      | nil => simp [Assoc.set]
      | cons a rest => obtain ⟨k, v⟩ := a; simp only [Assoc.set]; split <;> simp
    · have := sumLen_set s.pairs ch []
      simp only [hg, Option.getD_none, List.length_nil, Nat.add_zero] at this
      exact this

theorem set_ne_nil (d : Assoc Int (List Pairing)) (k : Int) (v : List Pairing) : d.set k v ≠ [] := by
  cases d with
  | nil => simp [Assoc.set]
  | cons a rest => obtain ⟨k0, w⟩ := a; simp only [Assoc.set]; split <;> simp

theorem sumLen_push (d : Assoc Int (List Pairing)) (k : Int) (p : Pairing) :
    sumLen (d.set k ((d.get? k).getD [] ++ [p])) = sumLen d + 1 := by
  have := sumLen_set d k ((d.get? k).getD [] ++ [p])
  simp only [List.length_append, List.length_cons, List.length_nil] at this
  omega

theorem sumLen_modify (d : Assoc Int (List Pairing)) (k : Int) (i : Nat) (f : Pairing → Pairing) :
    sumLen (d.set k (modifyAt f i ((d.get? k).getD []))) = sumLen d := by
  have := sumLen_set d k (modifyAt f i ((d.get? k).getD []))
  rw [length_modifyAt] at this
  omega

theorem pairStep_counts (types : List MType) (imp : Bool) (s : PairSt) (m : Msg) :
    (types.contains m.ty = false → pairStep types imp s m = s) ∧
    (types.contains m.ty = true → (pairStep types imp s m).pairs ≠ [] ∧
      (m.ty = .noteOff → sumLen (pairStep types imp s m).pairs = sumLen s.pairs) ∧
      (m.ty ≠ .noteOff → sumLen (pairStep types imp s m).pairs = sumLen s.pairs + 1)) := by
  refine ⟨fun hc => PairStep.pairStep_skip imp s (by rw [hc]; simp), fun hc => ?_⟩
  obtain ⟨hsd1, hsd2⟩ := sd_facts s m.ch
  by_cases hon : m.ty = .noteOn
  · rw [PairStep.pairStep_on imp s hc hon]
    have hno : m.ty ≠ .noteOff := by rw [hon]; decide
    generalize PairStep.setDefault s m.ch = s1 at hsd1 hsd2 ⊢
    simp only [PairStep.stepOn, PairStep.openNew, PairStep.closeOpen, PairSt.append, PairSt.appendAt]
    cases s1.opens.get? m.nkey with
    | none =>
      simp only
      exact ⟨set_ne_nil _ _ _, fun h => absurd h hno, fun _ => by rw [sumLen_push, hsd2]⟩
    | some i =>
      cases imp with
      | false =>
        simp only [Bool.false_eq_true, if_false]
        exact ⟨set_ne_nil _ _ _, fun h => absurd h hno, fun _ => by rw [sumLen_push, hsd2]⟩
      | true =>
        simp only [if_true]
        exact ⟨set_ne_nil _ _ _, fun h => absurd h hno, fun _ => by rw [sumLen_push, sumLen_modify, hsd2]⟩
  · by_cases hoff : m.ty = .noteOff
    · rw [PairStep.pairStep_off imp s hc hoff]
      generalize PairStep.setDefault s m.ch = s1 at hsd1 hsd2 ⊢
      simp only [PairStep.stepOff, PairSt.appendAt]
      cases s1.opens.get? m.nkey with
      | none => simp only; exact ⟨hsd1, fun _ => hsd2, fun h => absurd hoff h⟩
      | some i => simp only; exact ⟨set_ne_nil _ _ _, fun _ => by rw [sumLen_modify, hsd2], fun h => absurd hoff h⟩
    · rw [PairStep.pairStep_other imp s hc hon hoff]
      exact ⟨set_ne_nil _ _ _, fun h => absurd h hoff, fun _ => by rw [PairSt.append, sumLen_push, hsd2]⟩

theorem fold_counts (types : List MType) (imp : Bool) : ∀ (l : List Msg) (s : PairSt),
    ((l.foldl (pairStep types imp) s).pairs = [] ↔ s.pairs = [] ∧ ∀ m ∈ l, types.contains m.ty = false) ∧
    (sumLen (l.foldl (pairStep types imp) s).pairs = 0 ↔ sumLen s.pairs = 0 ∧ ∀ m ∈ l, types.contains m.ty = true → m.ty = .noteOff) := by
  intro l
  induction l with
  | nil => intro s; simp
  | cons m ms ih =>
    intro s
    obtain ⟨h1, h2⟩ := pairStep_counts types imp s m
    obtain ⟨i1, i2⟩ := ih (pairStep types imp s m)
    simp only [List.foldl_cons]
    by_cases hc : types.contains m.ty = true
    · obtain ⟨g1, g2, g3⟩ := h2 hc
      constructor
      · rw [i1]
        constructor
        · rintro ⟨h, _⟩; exact absurd h g1
        · rintro ⟨_, h⟩; have := h m (by simp); rw [hc] at this; cases this
      · rw [i2]
        by_cases hoff : m.ty = .noteOff
        · rw [g2 hoff]
          constructor
          · rintro ⟨h, h'⟩; exact ⟨h, fun x hx => by rcases List.mem_cons.1 hx with rfl | hx; exact fun _ => hoff; exact h' x hx⟩
          · rintro ⟨h, h'⟩; exact ⟨h, fun x hx => h' x (by simp [hx])⟩
        · rw [g3 hoff]
          constructor
          · rintro ⟨h, _⟩; omega
          · rintro ⟨_, h'⟩; exact absurd (h' m (by simp) hc) hoff
    · have hc' : types.contains m.ty = false := by simpa using hc
      rw [h1 hc']
      constructor
      · rw [(ih s).1]
        constructor
        · rintro ⟨h, h'⟩; exact ⟨h, fun x hx => by rcases List.mem_cons.1 hx with rfl | hx; exact hc'; exact h' x hx⟩
        · rintro ⟨h, h'⟩; exact ⟨h, fun x hx => h' x (by simp [hx])⟩
      · rw [(ih s).2]
        constructor
        · rintro ⟨h, h'⟩
          refine ⟨h, fun x hx => ?_⟩
          rcases List.mem_cons.1 hx with rfl | hx
          · intro hh; rw [hc'] at hh; cases hh
          · exact h' x hx
        · rintro ⟨h, h'⟩; exact ⟨h, fun x hx => h' x (by simp [hx])⟩

/-- the inputs on which `get_interleaved_message_pairings` / `equals` has channels but no pairing (IndexError without the repair
    1462441): some message has a listed type, and every message of a listed type is a note-off (which then closes nothing) -/
def OnlyOrphanOffs (types : List MType) (a : List Msg) : Prop :=
  (∃ m ∈ a, types.contains m.ty = true) ∧ ∀ m ∈ a, types.contains m.ty = true → m.ty = .noteOff

instance (types : List MType) (a : List Msg) : Decidable (OnlyOrphanOffs types a) := by unfold OnlyOrphanOffs; infer_instance

end SCoda.AbsTie2L
