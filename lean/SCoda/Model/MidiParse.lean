/-
  Model of `MidiMessage.parse_mido_message` (scoda/midi/midi_message.py:25-56), of
  `MidiTrack.parse_mido_track` (midi_track.py:16-23) and of the key field the saver writes
  (`key=msg.key.value`, midi_track.py:52), over the generated tables `Gen.keyKeyMapping` /
  `Gen.keyValues` (music_theory.py:85-93, enumerations/key.py).

  Tied to the code by translation (`StaticTie.parseMidoMessage_eq`, `StaticTie.parseMidoTrack_eq`, Props/StaticTie.lean) and
  sampled by the correspondence check (driver op `parseMido`).
  `Model/Midi.lean` (`MidiEv`, `convEvent`, `convert`) starts from the *output* of this function.
-/
import SCoda.Model.Midi
import SCoda.Gen.Tables
namespace SCoda

/-- `mido_message.type`, as far as `parse_mido_message` distinguishes it; `other` stands for every
    other mido message (`set_tempo`, `end_of_track`, `track_name`, `pitchwheel`, …) -/
inductive MidoType
  | noteOn | noteOff | timeSignature | keySignature | controlChange | programChange | other
  deriving DecidableEq, Repr, Inhabited

/-- the attributes of a mido message the parser reads.  `channel = none` models
    `not hasattr(mido_message, "channel")` (every `MetaMessage`). -/
structure MidoMsg where
  type : MidoType
  time : Int := 0
  channel : Option Int := none
  note : Int := 0
  velocity : Int := 0
  numerator : Int := 4
  denominator : Int := 4
  key : String := "C"
  control : Int := 0
  value : Int := 0
  program : Int := 0
  deriving DecidableEq, Repr, Inhabited

/-- `MidiMessage.parse_mido_message(mido_message)`.  The result is a `MidiEv` (`Model/Midi.lean`):
    `ty = .sequenceControl` stands for `message_type = None`, `ch = pyNone` for `channel = None`. -/
def parseMido (m : MidoMsg) : Except Err MidiEv :=
  -- midi_message.py:28  msg.time = mido_message.time
  -- midi_message.py:30-31  if hasattr(mido_message, "channel"): msg.channel = mido_message.channel
  let ch : Int := match m.channel with | some c => c | none => pyNone
  -- :33  note_on with velocity > 0
  if m.type = .noteOn ∧ m.velocity > 0 then
    .ok { ty := .noteOn, ch := ch, time := m.time, note := m.note, vel := m.velocity }
  -- :37  (note_on with velocity == 0) or note_off
  else if (m.type = .noteOn ∧ m.velocity = 0) ∨ m.type = .noteOff then
    .ok { ty := .noteOff, ch := ch, time := m.time, note := m.note, vel := m.velocity }
  -- :41  time_signature
  else if m.type = .timeSignature then
    .ok { ty := .timeSignature, ch := ch, time := m.time, num := m.numerator, den := m.denominator }
  -- :45  key_signature: MusicMapping.KeyKeyMapping[mido_message.key]  (KeyError when absent)
  else if m.type = .keySignature then
    match Gen.keyKeyMapping.lookup m.key with
    | some k => .ok { ty := .keySignature, ch := ch, time := m.time, key := k }
    | none => .error .keyError
  -- :48  control_change: velocity = mido_message.value
  else if m.type = .controlChange then
    .ok { ty := .controlChange, ch := ch, time := m.time, ctl := m.control, vel := m.value }
  -- :52  program_change
  else if m.type = .programChange then
    .ok { ty := .programChange, ch := ch, time := m.time, prog := m.program }
  -- no branch taken: message_type stays None
  else .ok { ty := .sequenceControl, ch := ch, time := m.time }

/-- `MidiTrack.parse_mido_track`: every message of the track, in order -/
def parseTrack : List MidoMsg → Except Err (List MidiEv)
  | [] => .ok []
  | m :: ms =>
    match parseMido m with
    | .error e => .error e
    | .ok e =>
      match parseTrack ms with
      | .error e' => .error e'
      | .ok es => .ok (e :: es)

/-- `msg.key.value` for the key with index `k` (midi_track.py:52): the name the saver writes -/
def keyName (k : Int) : Option String := if 0 ≤ k then Gen.keyValues[k.toNat]? else none

/-- the mido message `to_mido_track` writes for a key signature with key index `k` at delta `t` -/
def savedKeyMsg (k t : Int) : Option MidoMsg :=
  (keyName k).map (fun nm => { type := .keySignature, time := t, key := nm })

end SCoda
