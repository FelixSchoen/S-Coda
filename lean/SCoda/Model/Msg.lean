/-
  Model of `scoda.elements.message.Message` and `scoda.enumerations.message_type.MessageType`.

  Conventions (DESIGN §2.2):
  * every field is an `Int`; Python `None` is the out-of-band value `-1` (`pyNone`), printed `N`
    on the line protocol.  No modelled operation does arithmetic on a field that can be `None`
    (a relative non-wait message has `time = None`; `note`/`vel`/… are payload).
  * `ch` is never `None`: `Message.__init__` replaces a `None` channel by `0`.
-/
namespace SCoda

/-- `MessageType`, constructors in the source order of the Python enum (the code sorts by
    that order through `MessageType.__lt__`).  `Gen.messageTypeOrder` is compared with
    `MType.names` by `WrapTie.message_type_order` (Props/WrapTie.lean) and `SortTie.memberNames_eq`. -/
inductive MType
  | internal | sequenceControl | keySignature | timeSignature | controlChange
  | programChange | noteOff | noteOn | wait
  deriving DecidableEq, Repr, Inhabited

namespace MType

def all : List MType :=
  [internal, sequenceControl, keySignature, timeSignature, controlChange,
   programChange, noteOff, noteOn, wait]

/-- position in the enum; `MessageType.__lt__` compares these -/
def rank : MType → Nat
  | internal => 0 | sequenceControl => 1 | keySignature => 2 | timeSignature => 3
  | controlChange => 4 | programChange => 5 | noteOff => 6 | noteOn => 7 | wait => 8

def name : MType → String
  | internal => "INTERNAL" | sequenceControl => "SEQUENCE_CONTROL"
  | keySignature => "KEY_SIGNATURE" | timeSignature => "TIME_SIGNATURE"
  | controlChange => "CONTROL_CHANGE" | programChange => "PROGRAM_CHANGE"
  | noteOff => "NOTE_OFF" | noteOn => "NOTE_ON" | wait => "WAIT"

def names : List String := all.map name

def ofNat? : Nat → Option MType
  | 0 => some internal | 1 => some sequenceControl | 2 => some keySignature
  | 3 => some timeSignature | 4 => some controlChange | 5 => some programChange
  | 6 => some noteOff | 7 => some noteOn | 8 => some wait | _ => none

theorem ofNat?_rank (t : MType) : ofNat? t.rank = some t := by cases t <;> rfl

theorem rank_injective {a b : MType} (h : a.rank = b.rank) : a = b := by
  cases a <;> cases b <;> first | rfl | (simp [rank] at h)

end MType

/-- the out-of-band value standing for Python `None` -/
def pyNone : Int := -1

structure Msg where
  ty   : MType
  ch   : Int := 0
  time : Int := pyNone
  note : Int := pyNone
  vel  : Int := pyNone
  ctl  : Int := pyNone
  prog : Int := pyNone
  num  : Int := pyNone
  den  : Int := pyNone
  key  : Int := pyNone
  deriving DecidableEq, Repr, Inhabited

namespace Msg

def isWait (m : Msg) : Bool := m.ty == .wait
def isOn (m : Msg) : Bool := m.ty == .noteOn
def isOff (m : Msg) : Bool := m.ty == .noteOff
def isNote (m : Msg) : Bool := m.isOn || m.isOff
def isInternal (m : Msg) : Bool := m.ty == .internal

/-- `Message(message_type=WAIT, channel=c, time=t)` -/
def mkWait (c t : Int) : Msg := { ty := .wait, ch := c, time := t }
/-- `Message(message_type=NOTE_OFF, channel=c, note=n, time=t)` -/
def mkOff (c n t : Int) : Msg := { ty := .noteOff, ch := c, note := n, time := t }
/-- `Message(message_type=NOTE_ON, channel=c, note=n, velocity=v, time=t)` -/
def mkOn (c n v t : Int) : Msg := { ty := .noteOn, ch := c, note := n, vel := v, time := t }
/-- `Message(message_type=INTERNAL, channel=c, time=t)` -/
def mkInternal (c t : Int) : Msg := { ty := .internal, ch := c, time := t }
/-- `Message(message_type=TIME_SIGNATURE, channel=c, numerator=n, denominator=d, time=t)` -/
def mkTimeSig (c n d t : Int) : Msg := { ty := .timeSignature, ch := c, num := n, den := d, time := t }

/-- the `(channel, pitch)` key used for note bookkeeping -/
def nkey (m : Msg) : Int × Int := (m.ch, m.note)

end Msg

/-- Error enum onto which the harness maps Python exception types. -/
inductive Err
  | barError | tokenisationError | keyError | valueError | indexError | sequenceStale
  | sequenceError | fuel
  deriving DecidableEq, Repr, Inhabited

def Err.name : Err → String
  | .barError => "BarException" | .tokenisationError => "TokenisationException"
  | .keyError => "KeyError" | .valueError => "ValueError" | .indexError => "IndexError"
  | .sequenceStale => "SequenceStale" | .sequenceError => "SequenceException" | .fuel => "FUEL"

end SCoda
