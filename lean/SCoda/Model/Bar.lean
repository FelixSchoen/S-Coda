/-
  Model of `Bar.__init__` (bar.py:14-55, after the repair of D9), `Bar.copy` as it was before the repair of D37,
  `Bar.to_sequence`, and `Sequence.sequences_split_bars` (sequence.py:450-540, after D13).  (`Bar.transpose`: Model/BarOps.lean.)
  A `Sequence` argument is represented by its relative message list (the constructor reads
  `sequence.rel` through `normalise()` first).
-/
import SCoda.Model.Split
import SCoda.Model.Quantise
namespace SCoda

structure Bar where
  seq : List Msg       -- relative view of `bar.sequence`
  num : Int
  den : Int
  key : Int            -- key index, `pyNone` for None
  deriving DecidableEq, Repr

/-- `int(numerator * PPQN / (denominator / 4))` for positive arguments; see `barCapacityPy` (Model/PyNum.lean)
    for the int/float-typed version of the same expression. -/
def barCapacity (ppqn n d : Int) : Int := (n * ppqn * 4) / d

/-- `Bar(sequence, numerator, denominator, key)` -/
def mkBar (ppqn : Int) (rel : List Msg) (n d key : Int) : Except Err Bar := do
  let r := normalise rel
  let cap := barCapacity ppqn n d
  let dur := totalWait r
  if dur > cap then throw .barError
  let r := if dur < cap then pad cap r else r
  let tss := r.filter (·.ty == .timeSignature)
  if tss.length > 1 then throw .barError
  if !(tss.all (fun m => m.num == n && m.den == d)) then throw .barError
  let r := r.filter (·.ty != .timeSignature)
  .ok { seq := Msg.mkTimeSig 0 n d pyNone :: r, num := n, den := d, key := key }

/-- `Bar.copy()` before the repair of D37: the copy's leading event on channel 0 (since the repair: `Bar.copyOwn`, Model/BarCh.lean) -/
def Bar.copy (ppqn : Int) (b : Bar) : Except Err Bar := mkBar ppqn b.seq b.num b.den b.key

/-- `Bar.to_sequence(bars)` (relative view of the result) -/
def barsToSeq (bars : List Bar) : List Msg := (bars.map (·.seq)).flatten

/-- `get_message_times_of_type([ty])` -/
def timesOfType (ty : MType) (a : List Msg) : List Msg := a.filter (·.ty == ty)

structure SBSt where
  now    : Int := 0
  num    : Int := 4
  den    : Int := 4
  key    : Int := pyNone
  tsQ    : List Msg
  ksQ    : List Msg
  tracks : List (List Msg)
  bars   : List (List Bar)     -- per track, reversed

/-- the piece that becomes the bar: optional shorten-only note-length quantisation through
    the absolute view -/
def requantPiece (values : List Int) (ppqn : Int) (requant : Bool) (piece : List Msg) :
    Except Err (List Msg) :=
  if requant then do
    let a ← quantiseNoteLengths values ppqn true (toAbs piece)
    .ok (toRel a)
  else .ok piece

def splitBarsGo (ppqn : Int) (values : List Int) (requant : Bool) :
    Nat → SBSt → Except Err (List (List Bar))
  | 0, _ => .error .fuel
  | fuel + 1, s => do
    -- obtain new time / key signature (at most one of each per bar)
    let (num, den, tsQ) := match s.tsQ with
      | m :: rest => if m.time <= s.now then (m.num, m.den, rest) else (s.num, s.den, s.tsQ)
      | [] => (s.num, s.den, s.tsQ)
    let (key, ksQ) := match s.ksQ with
      | m :: rest => if m.time <= s.now then (m.key, rest) else (s.key, s.ksQ)
      | [] => (s.key, s.ksQ)
    let len := barCapacity ppqn num den
    let now := s.now + len
    let step ← foldlM' (fun (acc : Bool × List (List Msg) × List (List Bar)) (tb : List Msg × List Bar) => do
        let pieces ← split tb.1 [len]
        let (sync, rest, first) := match pieces with
          | p :: q :: _ => (false, q, p)
          | [p] => (acc.1, [], p)
          | [] => (acc.1, [], [])
        let piece ← requantPiece values ppqn requant first
        let bar ← mkBar ppqn piece num den key
        .ok (sync, acc.2.1 ++ [rest], acc.2.2 ++ [bar :: tb.2]))
      (true, [], []) (s.tracks.zip s.bars)
    let s' : SBSt := { now := now, num := num, den := den, key := key, tsQ := tsQ, ksQ := ksQ,
                       tracks := step.2.1, bars := step.2.2 }
    if step.1 then .ok (s'.bars.map List.reverse) else splitBarsGo ppqn values requant fuel s'

/-- `Sequence.sequences_split_bars(sequences, meta_track_index, quantise_note_lengths)`;
    every input sequence is given by its relative view. -/
def splitBars (ppqn : Int) (values : List Int) (tracks : List (List Msg)) (metaIdx : Nat)
    (requant : Bool) : Except Err (List (List Bar)) :=
  match tracks[metaIdx]? with
  | Option.none => .error .indexError
  | some metaTrack =>
    let a := toAbs metaTrack
    let tsQ := timesOfType .timeSignature a
    let tsQ := if tsQ.length == 0 then [Msg.mkTimeSig 0 4 4 0] else tsQ
    let fuel := ((tracks.map (fun t => (totalWait t).toNat)).foldl max 0) + tracks.length + 2
    splitBarsGo ppqn values requant fuel
      { tsQ := tsQ, ksQ := timesOfType .keySignature a, tracks := tracks, bars := tracks.map (fun _ => []) }

end SCoda
