import SCoda.Model.Msg
import SCoda.Model.Sort
import SCoda.Model.Conv
import SCoda.Model.Assoc
import SCoda.Model.Normalise
import SCoda.Model.Split
import SCoda.Model.Pairing
import SCoda.Model.Quantise
import SCoda.Model.Bar
import SCoda.Model.Token
import SCoda.Model.Wrapper
import SCoda.Model.Midi
import SCoda.Gen.Tables
import SCoda.Gen.Settings
import SCoda.Gen.TheoryFns
import SCoda.Gen.FloatSites
import SCoda.Gen.SeqOps
import SCoda.Model.Render
import SCoda.Props.C20
import SCoda.Model.Roll
import SCoda.Lemmas.PyAttr
import SCoda.Lemmas.PyLoop
import SCoda.Lemmas.ModifyAt
import SCoda.Lemmas.Sort
import SCoda.Lemmas.AssocL
import SCoda.Lemmas.Conv
import SCoda.Lemmas.Roll
import SCoda.Props.C04
import SCoda.Props.C19
import SCoda.Props.C02
import SCoda.Props.C14
import SCoda.Props.C18
import SCoda.Model.Extract
import SCoda.Model.PyNum
import SCoda.Props.C11
import SCoda.Lemmas.Normalise
import SCoda.Props.C07
import SCoda.Model.Heap
import SCoda.Props.C16
import SCoda.Props.C16b
import SCoda.Props.Purity
import SCoda.Props.C11b
import SCoda.Props.C11c
import SCoda.Props.Glue
import SCoda.Lemmas.NoteLengths
import SCoda.Props.C06
import SCoda.Lemmas.Bar
import SCoda.Props.C10
import SCoda.Props.C01
import SCoda.Props.C01Glue
import SCoda.Lemmas.Equals
import SCoda.Props.C17
import SCoda.Lemmas.Merge
import SCoda.Props.C15
import SCoda.Lemmas.Quantise
import SCoda.Props.C05
import SCoda.Lemmas.Split
import SCoda.Lemmas.SplitNotes
import SCoda.Props.C08
import SCoda.Lemmas.OpsTable
import SCoda.Props.C04b
import SCoda.Lemmas.SimB
import SCoda.Props.C01b
import SCoda.Lemmas.Midi
import SCoda.Props.C13
import SCoda.Props.C12
import SCoda.Props.C12b
import SCoda.Lemmas.InBar
import SCoda.Props.C19b
import SCoda.Lemmas.NotesL
import SCoda.Props.Notes
import SCoda.Lemmas.QuantiseB
import SCoda.Lemmas.QuantiseK
import SCoda.Props.C05b
import SCoda.Props.C05s
import SCoda.Props.C03b
import SCoda.Lemmas.SplitBars
import SCoda.Lemmas.SplitBarsQ
import SCoda.Props.C09
import SCoda.Lemmas.NoteLengthsB
import SCoda.Props.C06b
import SCoda.Model.ViewLib
import SCoda.Gen.WrapFns
import SCoda.Props.WrapTie
import SCoda.Lemmas.WrapperL
import SCoda.Props.C04c
import SCoda.Lemmas.RenderL
import SCoda.Props.C02b
import SCoda.Props.C04d
import SCoda.Model.ElemLib
import SCoda.Gen.ElemFns
import SCoda.Props.ElemTie
import SCoda.Model.BarCh
import SCoda.Lemmas.BarChL
import SCoda.Props.C10Ch
import SCoda.Props.ElemTieCh
import SCoda.Model.BarOps
import SCoda.Lemmas.GapsL
import SCoda.Props.Gaps
import SCoda.Gen.SettingsTyped
import SCoda.Model.PyNumSites
import SCoda.Lemmas.C11L
import SCoda.Lemmas.C11LNum
import SCoda.Props.C11d
import SCoda.Lemmas.ChunksL
import SCoda.Props.C03c
import SCoda.Model.MidiParse
import SCoda.Lemmas.MidiL2
import SCoda.Lemmas.MidiSigs
import SCoda.Props.C13b
import SCoda.Lemmas.NoteSets
import SCoda.Lemmas.EqualsContent
import SCoda.Lemmas.MergeNotes
import SCoda.Props.NotesB
import SCoda.Gen.ViewFns
import SCoda.Lemmas.ViewTieL
import SCoda.Props.ViewTie
import SCoda.Props.Strong589
import SCoda.Model.HeapOps
import SCoda.Lemmas.HeapL
import SCoda.Lemmas.HeapOpsL
import SCoda.Lemmas.HeapSepL
import SCoda.Lemmas.HeapFrameL
import SCoda.Props.C16c
import SCoda.Props.C16cW
import SCoda.Lemmas.ExtractL
import SCoda.Lemmas.SpecLogL
import SCoda.Lemmas.DetokSeqL
import SCoda.Lemmas.CallSeqsL
import SCoda.Props.C01c
import SCoda.Gen.RelFns2
import SCoda.Lemmas.RelTie2L
import SCoda.Props.RelTie2
import SCoda.Model.StaticLib
import SCoda.Gen.StaticFns
import SCoda.Lemmas.StaticTieL
import SCoda.Lemmas.ConvertTieL
import SCoda.Props.StaticTie
import SCoda.Model.TokLib
import SCoda.Gen.TokFns
import SCoda.Lemmas.TokLibL
import SCoda.Lemmas.TokNumL
import SCoda.Lemmas.TokEmitL
import SCoda.Lemmas.RenderInjL
import SCoda.Lemmas.TokDictL
import SCoda.Lemmas.TokReadL
import SCoda.Lemmas.TokAcceptL
import SCoda.Props.TokTie
import SCoda.Gen.AbsFns2
import SCoda.Lemmas.CutL
import SCoda.Lemmas.TrackPairsL
import SCoda.Lemmas.RunL
import SCoda.Lemmas.SplitRunL
import SCoda.Props.C03e
import SCoda.Lemmas.C12NarrowL
import SCoda.Props.C12n
import SCoda.Props.C09n
import SCoda.Props.C01n
import SCoda.Lemmas.AbsTie2L
import SCoda.Lemmas.AbsTie2LP
import SCoda.Lemmas.AbsTie2LC
import SCoda.Lemmas.AbsTie2LI
import SCoda.Lemmas.AbsTie2LE
import SCoda.Lemmas.AbsTie2LQ
import SCoda.Lemmas.AbsTie2LN
import SCoda.Props.AbsTie2
import SCoda.Lemmas.BarGoodL
import SCoda.Props.C03f
import SCoda.Model.UtilLib
import SCoda.Gen.UtilFns
import SCoda.Lemmas.UtilTieL
import SCoda.Props.UtilTie
import SCoda.Props.StaticLink
import SCoda.Props.StaticTie2
import SCoda.Model.MidoCodec
import SCoda.Lemmas.MidoCodecL
import SCoda.Props.C12c
import SCoda.Props.C04e
import SCoda.Props.Defs
import SCoda.Model.TokLib2
import SCoda.Lemmas.TokLib2L
import SCoda.Model.HeapLib
import SCoda.Gen.HeapFns
import SCoda.Lemmas.HeapStateL
import SCoda.Lemmas.HeapTieL
import SCoda.Lemmas.HeapTieL2
import SCoda.Props.HeapTie
import SCoda.Model.SortLib
import SCoda.Gen.SortFns
import SCoda.Lemmas.SortTieL
import SCoda.Props.SortTie
import SCoda.Model.HeapLib2
import SCoda.Gen.HeapFns2
import SCoda.Lemmas.HeapTie2L
import SCoda.Props.HeapTie2
import SCoda.Props.HeapTieB
import SCoda.Props.Examples4
import SCoda.Props.Examples4b
import SCoda.Props.Examples4c
import SCoda.Props.Examples4d
import SCoda.Props.Examples4e
import SCoda.Props.AbsTie2G
import SCoda.Model.TokLib3
import SCoda.Lemmas.TokLib3L
import SCoda.Lemmas.TokPpqnL
import SCoda.Props.TokTie2
import SCoda.Props.TokTie3
import SCoda.Model.HeapLib3
import SCoda.Gen.HeapFns3
import SCoda.Lemmas.HeapTie3L
import SCoda.Props.HeapTie3
